/-
C20 — zippychord leaves exactly the expansion on screen.
Property theorems only; helper lemmas are in KVerif/Lemmas/Zippy*.lean.

Vocabulary (all defined in Model/ or Lemmas/):
* `zRun cfg s h`           the zippychord state machine run over a history `h` of presses, releases and
                           ticks from state `s`: final state and the OS key events it wrote.
* `Buf`, `Buf.run`         the receiving application's text buffer (Model/TextBuf.lean); `rtext` is the
                           text most-recent-character-first, `shown` in reading order.
* `typeOuts rt sh out`     the text after the keystrokes of expansion `out` on top of `rt`, the first one
                           under the user's shift `sh`; `withSmartSpace` adds the smart space.
* `BasicEntry d K out`     `K ↦ out` is a top-level chord of dictionary `d`, stored once, and no other
                           top-level chord has all its keys inside `K`.
* `Fresh s`                zippychord enabled, no key held, nothing remembered from earlier activations.
* `ModsAgree s b`          the buffer's shift/AltGr state is the one zippychord believes the user holds.
* `bufAfterPunct`          the buffer after the documented smart-space erasure, if the first key of a chord
                           is a smart-space punctuation key pressed right after a smart space was sent.
* `zRunPinned`             the same run over the model of the code BEFORE the `fix:` commits for defect
                           classes 1, 4, 5, 6, 7-8 (used by the counterexample theorems only).
-/
import KVerif.Lemmas.ZippyFollow
import KVerif.Lemmas.ZippyMods
import KVerif.Lemmas.ZippyPass
import KVerif.Lemmas.ZippySim
import KVerif.Gen.Zippy
namespace KVerif.Zippy
open KVerif.TextBuf

/-- **subset_lookup_spec** (full).  For every sequence of `ssm_insert_ksorted` calls starting from an
empty map and every lookup key, `ssm_get_or_is_subset_ksorted` on the per-item map of sorted vectors
returns: the value of the last insertion under exactly that key; otherwise `IsSubset` iff the key's
items all occur in some inserted (non-empty) key; otherwise `Neither`.  (An empty lookup key is a
subset of anything stored; inserting an empty key stores nothing.)  No sortedness assumption is
needed beyond what the model of `binary_search_by` already builds in. -/
theorem subset_lookup_spec {V : Type} (ins : List (Key × V)) (k : Key) :
    ssmGet (ssmOf ins) k = lookupSpec ins k := by
  rw [(rep_of ins).get k, absGet_absOf]

example : ssmGet (ssmOf [([1, 2], 7), ([1, 2, 3], 9), ([1, 2], 8)]) [1, 2] = Lookup.hasValue 8 ∧
    ssmGet (ssmOf [([1, 2], 7), ([1, 2, 3], 9)]) [2, 3] = (Lookup.isSubset : Lookup Nat) ∧
    ssmGet (ssmOf [([1, 2], 7), ([1, 2, 3], 9)]) [2, 5] = (Lookup.neither : Lookup Nat) := by decide +kernel

/-- Every lookup the zippychord model performs is such a lookup on the entries of one level of the
chord tree. -/
theorem lookup_level_spec (d : Dict) (p : Path) (k : Key) :
    lookupLevel d p k = lookupSpec (level d p) k := lookupLevel_eq d p k

/-- **zippy_net_text_basic** (full, for chords without a shorter overlapping chord).
Let `K ↦ out` be a top-level chord with a non-empty expansion such that no other top-level chord lies
inside `K` (longer chords and follow-ups may exist).  From a fresh state, press the keys of `K` in
ANY order (`front` = all but the last key, each with the number of ticks that pass before the next
press; `last` = the completing key; together a permutation of `K`), the last press coming less
than `on-first-press-chord-deadline` ticks after the first (no limit if the deadline is 0) and no
single gap above the forced-reset time.  Then, whatever the text before, whichever of shift and
AltGr the user holds and whatever the smart-space state:

* the text afterwards is the text before — minus the smart space of an earlier activation if the
  first key pressed is a smart-space punctuation key (`bufAfterPunct`, the documented erasure) —
  with exactly the expansion typed on top of it (first keystroke under the user's shift) and the
  smart space when configured: every character typed while forming the chord has been erased,
  nothing else has (since `<fix-class-6>` also when that first key is a punctuation key);
* shift and AltGr at the OS are as the user holds them;
* zippychord regards the press as a chord (`lastPress = isChord`) with exactly `K` held.

No bound on the size of the dictionary, of `K`, of the expansion or of the text. -/
theorem zippy_net_text_basic (cfg : Cfg) (K : Key) (out : List ZchOut) (s : Zchd) (b : Buf)
    (front : List (Nat × Nat)) (last : Nat)
    (hent : BasicEntry cfg.dict K out)
    (hkeys : ∀ x ∈ K, isZippyIgnored x = false)
    (hout : out.isEmpty = false) (hko : ∀ o ∈ out, CharKey o.osc)
    (hperm : (front.map (·.1) ++ [last]).Perm K)
    (hgap : ∀ kg ∈ front, kg.2 ≤ TICKS_UNTIL_FORCE_STATE_RESET)
    (hdl : cfg.ticksChordDeadline = 0 ∨ (front.map (·.2)).sum < cfg.ticksChordDeadline)
    (hfresh : Fresh s) (hmods : ModsAgree s b) :
    let first := (front.map (·.1) ++ [last]).headD 0
    let r := zRun cfg s (chordHist front ++ [.press last])
    (b.run r.2).rtext =
      withSmartSpace cfg out (typeOuts (bufAfterPunct cfg s first b).rtext (s.lsft || s.rsft) out) ∧
    ModsAgree s (b.run r.2) ∧ r.1.lastPress = .isChord ∧ r.1.inputKeys = K := by
  intro first r
  have h := basic_run cfg K out s b front last hent hkeys hout hko hperm hgap hdl hfresh hmods
  exact ⟨h.1, h.2.1, h.2.2.1, h.2.2.2.1⟩

/-- The state `Kanata::new_from_str` leaves zippychord in is fresh. -/
example : Fresh (zchConfigure Zchd.default) := ⟨rfl, rfl, rfl, rfl, rfl, rfl, rfl⟩

/-- dictionary `acb ↦ xY`, `dy ↦ day`, `dy 1 ↦ M` (as the parser builds it), smart space on, `a` a
punctuation key -/
def exCfg : Cfg :=
  ⟨[⟨[], [30, 46, 48], [⟨.lower, false, 45⟩, ⟨.upper, false, 21⟩]⟩,
    ⟨[], [21, 32], [⟨.lower, false, 32⟩, ⟨.lower, false, 30⟩, ⟨.lower, false, 21⟩]⟩,
    ⟨[[21, 32]], [2], [⟨.upper, false, 50⟩]⟩], 500, 50, .full,
   [⟨.lower, false, 52⟩, ⟨.lower, false, 30⟩]⟩

theorem exCfg_built : buildDict
    [⟨[[48, 30, 46]], [⟨.lower, false, 45⟩, ⟨.upper, false, 21⟩]⟩,
     ⟨[[32, 21]], [⟨.lower, false, 32⟩, ⟨.lower, false, 30⟩, ⟨.lower, false, 21⟩]⟩,
     ⟨[[32, 21], [2]], [⟨.upper, false, 50⟩]⟩] = .ok exCfg.dict := by rfl

/-- The hypotheses of `zippy_net_text_basic` are met by a concrete non-trivial instance: the three-key
chord `a c b` pressed in the order a, b, c with gaps 3 and 0, after a previous activation left the
smart-space state `sent` and its space on screen; `a` is a punctuation key, so that space goes. -/
example :
    let s : Zchd := { zchConfigure Zchd.default with smartSpaceState := .sent }
    let b : Buf := ⟨[⟨57, false, false⟩, ⟨30, false, false⟩], false, false, false⟩
    BasicEntry exCfg.dict [30, 46, 48] [⟨.lower, false, 45⟩, ⟨.upper, false, 21⟩] ∧
    (∀ x ∈ [30, 46, 48], isZippyIgnored x = false) ∧
    (∀ o ∈ [(⟨.lower, false, 45⟩ : ZchOut), ⟨.upper, false, 21⟩], CharKey o.osc) ∧
    (List.map Prod.fst ([(30, 3), (48, 0)] : List (Nat × Nat)) ++ [46]).Perm [30, 46, 48] ∧
    (exCfg.ticksChordDeadline = 0 ∨ (List.map Prod.snd ([(30, 3), (48, 0)] : List (Nat × Nat))).sum < exCfg.ticksChordDeadline) ∧
    Fresh s ∧ ModsAgree s b ∧ punctFires exCfg s 30 = true ∧
    (b.run (zRun exCfg s (chordHist [(30, 3), (48, 0)] ++ [.press 46])).2).shown =
      [⟨30, false, false⟩, ⟨45, false, false⟩, ⟨21, true, false⟩, ⟨57, false, false⟩] := by
  exact ⟨.of_level (by decide), by decide, by unfold CharKey; decide, by decide, by decide,
    ⟨rfl, rfl, rfl, rfl, rfl, rfl, rfl⟩, ⟨rfl, rfl, rfl⟩, by decide, by decide +kernel⟩

/-- **zippy_net_text_basic_shown**: the same in reading order, for expansions without a Backspace and
a first key that is no smart-space punctuation key: `textAfter = textBefore ++ expansion (++ " ")`. -/
theorem zippy_net_text_basic_shown (cfg : Cfg) (K : Key) (out : List ZchOut) (s : Zchd) (b : Buf)
    (front : List (Nat × Nat)) (last : Nat)
    (hent : BasicEntry cfg.dict K out)
    (hkeys : ∀ x ∈ K, isZippyIgnored x = false)
    (hout : out.isEmpty = false) (hko : ∀ o ∈ out, CharKey o.osc)
    (hnb : ∀ o ∈ out, o.osc ≠ KEY_BACKSPACE)
    (hperm : (front.map (·.1) ++ [last]).Perm K)
    (hgap : ∀ kg ∈ front, kg.2 ≤ TICKS_UNTIL_FORCE_STATE_RESET)
    (hdl : cfg.ticksChordDeadline = 0 ∨ (front.map (·.2)).sum < cfg.ticksChordDeadline)
    (hfresh : Fresh s) (hmods : ModsAgree s b)
    (hss : punctFires cfg s ((front.map (·.1) ++ [last]).headD 0) = false) :
    (b.run (zRun cfg s (chordHist front ++ [.press last])).2).shown =
      b.shown ++ expansionChars (s.lsft || s.rsft) out ++
        (if wantsSmartSpace cfg out then [mkCh KEY_SPACE false false] else []) := by
  have h := (zippy_net_text_basic cfg K out s b front last hent hkeys hout hko hperm hgap hdl hfresh
    hmods).1
  simp only [Buf.shown, h, withSmartSpace, typeOuts_noBackspace _ _ _ hnb, bufAfterPunct, hss]
  split <;> simp [stroke, KEY_SPACE, KEY_BACKSPACE]

/- The property at full strength also covers chords that extend other chords ("any shorter expansion
it supersedes is erased"), follow-up chords, and all of this with shift held:

    for every dictionary, every line `c1 … cm ↦ out` of it and every way of pressing the chords
    (each in any order, within the deadline), textAfter = textBefore ++ out (++ smart space).

On the pinned code that statement was false in many ways (the `_counterexample` theorems below, about
the pinned definitions).  With `<fix-class-1>`, `<fix-class-4>`, `<fix-class-5>`, `<fix-class-6>` and
`<fix-class-7-8>` the parts below are proved; what is still missing — and still false of the code, see
KNOWN_FINDINGS.jsonl — is named at each theorem. -/

/-- **zippy_net_text_tower_partial**.  Chords that extend eagerly activated chords, to ANY depth
(kanata's "ab ↦ Abba, abc ↦ Alphabet", and on to "abcd ↦ …"): `K1 ↦ out1` is a basic chord without
follow-ups, and `steps` is a list of levels, each a chord `K ↦ out` that contains the previous one
with no other top-level chord in between (`ExtEntry`), no follow-ups, its new keys pressed in ANY order
after `g` ticks, each level inside the deadline (which restarts at every activation).  From a fresh
state, whatever shift / AltGr the user holds: after the keys of `K1` (any order) and of all levels,
the text is the text before plus exactly the expansion of the LAST level (first keystroke under the
user's shift) and its smart space — every earlier expansion, its smart space and every key typed on
the way have been erased, whatever prefixes consecutive expansions share (the common-prefix shortcut
keeps its count since `<fix-class-4>`, and types no shifted character in the middle since
`<fix-class-5>`) — and the modifiers are as the user holds them.
Missing for the full statement: expansions containing Backspace or no-erase outputs (a recorded
finding for Backspace), chords of the tower that have follow-ups, keys that are smart-space
punctuation keys (for the levels above the first). -/
theorem zippy_net_text_tower_partial (cfg : Cfg) (K1 : Key) (out1 : List ZchOut) (s : Zchd) (b : Buf)
    (front1 : List (Nat × Nat)) (last1 : Nat) (steps : List Step)
    (hent1 : BasicEntry cfg.dict K1 out1) (hnf1 : hasFollowups cfg.dict [K1] = false)
    (hkeys1 : ∀ x ∈ K1, isZippyIgnored x = false)
    (hout1 : out1.isEmpty = false) (hko1 : ∀ o ∈ out1, CharKey o.osc) (hp1 : PlainOuts out1)
    (hperm1 : (front1.map (·.1) ++ [last1]).Perm K1)
    (hgap1 : ∀ kg ∈ front1, kg.2 ≤ TICKS_UNTIL_FORCE_STATE_RESET)
    (hdl1 : cfg.ticksChordDeadline = 0 ∨ (front1.map (·.2)).sum < cfg.ticksChordDeadline)
    (hsteps : TowerOK cfg s K1 steps)
    (hfresh : Fresh s) (hmods : ModsAgree s b) :
    let base := bufAfterPunct cfg s ((front1.map (·.1) ++ [last1]).headD 0) b
    let top := towerTop K1 out1 steps
    let r := zRun cfg s ((chordHist front1 ++ [.press last1]) ++ towerHist steps)
    (b.run r.2).rtext = withSmartSpace cfg top.2 (typeOuts base.rtext (s.lsft || s.rsft) top.2) ∧
    ModsAgree s (b.run r.2) := by
  intro base top r
  simp only [r]
  rw [run_zRun_append]
  exact (tower_run cfg s base steps K1 out1 _ _ hent1.root_nonempty (basic_eager cfg K1 out1 s b front1 last1 hent1
    hnf1 hkeys1 hout1 hko1 hp1 hperm1 hgap1 hdl1 hfresh hmods) hsteps).text

/-- dictionary `a ↦ x`, `ab ↦ xy`, `abc ↦ xyz` with smart space -/
def exCfg2 : Cfg :=
  ⟨[⟨[], [30], [⟨.lower, false, 45⟩]⟩,
    ⟨[], [30, 48], [⟨.lower, false, 45⟩, ⟨.lower, false, 21⟩]⟩,
    ⟨[], [30, 46, 48], [⟨.lower, false, 45⟩, ⟨.lower, false, 21⟩, ⟨.lower, false, 44⟩]⟩], 500, 50, .full, []⟩

def exSteps2 : List Step :=
  [⟨[30, 48], [⟨.lower, false, 45⟩, ⟨.lower, false, 21⟩], 2, [], 48⟩,
   ⟨[30, 46, 48], [⟨.lower, false, 45⟩, ⟨.lower, false, 21⟩, ⟨.lower, false, 44⟩], 7, [], 46⟩]

/-- The hypotheses of `zippy_net_text_tower_partial` are met by a concrete three-level instance
(a; 2 ticks, b; 7 ticks, c — with left shift held), and the text is `Xyz␣` as the theorem says. -/
example :
    let s : Zchd := { zchConfigure Zchd.default with lsft := true }
    let b : Buf := ⟨[], true, false, false⟩
    BasicEntry exCfg2.dict [30] [⟨.lower, false, 45⟩] ∧ hasFollowups exCfg2.dict [[30]] = false ∧
    TowerOK exCfg2 s [30] exSteps2 ∧ Fresh s ∧ ModsAgree s b ∧
    (b.run (zRun exCfg2 s ((chordHist [] ++ [.press 30]) ++ towerHist exSteps2)).2).shown =
      [⟨45, true, false⟩, ⟨21, false, false⟩, ⟨44, false, false⟩, ⟨57, false, false⟩] := by
  exact ⟨.of_level (by decide), by decide,
    ⟨⟨.of_level (by decide), by decide, by decide, by decide, by decide, by unfold CharKey; decide,
        by unfold PlainOuts; decide, by decide, by decide, by decide, by decide, by decide⟩,
     ⟨.of_level (by decide), by decide, by decide, by decide, by decide, by unfold CharKey; decide,
        by unfold PlainOuts; decide, by decide, by decide, by decide, by decide, by decide⟩, trivial⟩,
    ⟨rfl, rfl, rfl, rfl, rfl, rfl, rfl⟩, ⟨rfl, rfl, rfl⟩, by decide +kernel⟩

/-- **zippy_net_text_followup_raw_partial** (what `<fix-class-1>` and `<fix-class-7-8>` make true).
A line `c1 c2 ↦ out2` whose first chord `K1` has no expansion of its own (kanata's "r df ↦ recipient"):
`K1` is a top-level chord with empty output and nothing inside it, `K2 ↦ out2` its follow-up with no
other follow-up inside `K2` and no top-level chord properly inside `K2` — but the keys of `K2` need
NOT occur in any top-level chord.  From a fresh state: the keys of `K1` in ANY order (they are typed),
all released in ANY order (first release inside the restarted deadline), `g` ticks, the keys of `K2`
in ANY order inside the deadline.  Then the text is the text before plus exactly `out2` (and its smart
space): the keys typed for `K1` and for `K2` have all been erased, no more and no fewer, and the
modifiers are as the user holds them.
Missing for the full statement: follow-up chords that contain a top-level chord or another follow-up
(recorded findings), chains of three and more chords. -/
theorem zippy_net_text_followup_raw_partial (cfg : Cfg) (K1 K2 : Key) (out2 : List ZchOut) (s : Zchd) (b : Buf)
    (front1 : List (Nat × Nat)) (last1 : Nat) (rels : List (Nat × Nat)) (g : Nat)
    (front2 : List (Nat × Nat)) (last2 : Nat)
    (hlead : LeadEntry cfg.dict K1) (hent : FollowEntry cfg.dict [K1] K2 out2)
    (hkeys1 : ∀ x ∈ K1, isZippyIgnored x = false) (hkeys2 : ∀ x ∈ K2, isZippyIgnored x = false)
    (hout : out2.isEmpty = false) (hko : ∀ o ∈ out2, CharKey o.osc)
    (hperm1 : (front1.map (·.1) ++ [last1]).Perm K1)
    (hrel : (rels.map (·.2)).Perm K1)
    (hperm2 : (front2.map (·.1) ++ [last2]).Perm K2)
    (hgap1 : ∀ kg ∈ front1, kg.2 ≤ TICKS_UNTIL_FORCE_STATE_RESET)
    (hgapr : ∀ gk ∈ rels, gk.1 ≤ TICKS_UNTIL_FORCE_STATE_RESET)
    (hg : g ≤ TICKS_UNTIL_FORCE_STATE_RESET)
    (hgap2 : ∀ kg ∈ front2, kg.2 ≤ TICKS_UNTIL_FORCE_STATE_RESET)
    (hdl1 : cfg.ticksChordDeadline = 0 ∨ (front1.map (·.2)).sum < cfg.ticksChordDeadline)
    (hdlr : cfg.ticksChordDeadline = 0 ∨ (rels.headD (0, 0)).1 < cfg.ticksChordDeadline)
    (hdl2 : cfg.ticksChordDeadline = 0 ∨ (front2.map (·.2)).sum < cfg.ticksChordDeadline)
    (hfresh : Fresh s) (hss : s.smartSpaceState = .inactive) (hmods : ModsAgree s b) :
    let r := zRun cfg s ((chordHist front1 ++ [.press last1]) ++ (relHist rels ++
      (List.replicate g .tick ++ (chordHist front2 ++ [.press last2]))))
    (b.run r.2).rtext = withSmartSpace cfg out2 (typeOuts b.rtext (s.lsft || s.rsft) out2) ∧
    ModsAgree s (b.run r.2) := by
  intro r
  have hne := hlead.root_nonempty
  have hall1 := (perm_presses hlead.sorted hperm1).1
  have hlk1 : Lookups cfg s.prioritized [] (front1.map (·.1)) last1 [] [] false :=
    hfresh.prio ▸ hlead.lookups hperm1
  obtain ⟨hr1, hb1, hss1⟩ := idle_front cfg s b front1 last1 hfresh.idle hne
    (fun k hk => hkeys1 k ((hall1 k).mp (List.mem_append_left _ hk))) (Or.inl hss) hlk1.part hgap1 hdl1
  obtain ⟨hb2, hheld, hss2⟩ := final_press_empty (cfg := cfg) hr1 hb1 hmods hne last1
    (hkeys1 last1 ((hall1 last1).mp List.mem_concat_self)) [] false hlk1.full hss1
  have hfull1 : chordKey ((idlePhase s).pre ++ (front1.map (·.1) ++ [last1])) = K1 :=
    chordKey_of_mem hlead.sorted hall1
  rw [hfull1] at hheld
  have hnf : ∀ k, punctFires cfg (zchPressKey cfg (zRun cfg s (chordHist front1)).1 last1).1 k = false :=
    fun k => by simp [punctFires, hss2]
  obtain ⟨⟨L2, hL2, ht2⟩, hmr, _⟩ := release_followup_run cfg _ s _ _ [K1] K1 K2 out2 rels g front2 last2 hheld
    (by simp [emptyPhase, hfull1, hent.hasFollowups])
    ⟨hb2.lsft.trans hmods.1, hb2.rsft.trans hmods.2.1, hb2.ralt.trans hmods.2.2⟩ hne hent hlead.ne
    (hlead.sorted.imp (fun h => Nat.ne_of_lt h)) hkeys1 hkeys2 hout hko hrel hperm2 hgapr hg hgap2 hdlr hdl2
  obtain ⟨L1, hL1, hrt1⟩ := hb2.text
  simp only [hnf, bufAfterPunct, Bool.false_eq_true, if_false, hrt1] at ht2
  simp only [r]
  rw [run_zRun_append, zRun_then_press, run_append]
  refine ⟨?_, hmr⟩
  -- nothing of chord 1 is re-used; what the two chords typed is erased
  have hcpl : phaseCpl (followPhase (emptyPhase (idlePhase s) cfg (front1.map (·.1)).length
      ((idlePhase s).pre ++ (front1.map (·.1) ++ [last1])) [] false) [K1] false) out2 true = 0 := by
    rw [phaseCpl_prior (p := []) rfl (Or.inl rfl)]; cases out2 <;> rfl
  have hbs := phaseBs_of_count (n := front2.length) (n1 := L1.length) (k := 0)
    (by simp [followPhase, emptyPhase, idlePhase, hL1]) hcpl (Nat.zero_le _)
  rw [ht2, hcpl, hbs, ← hL2, ← List.append_assoc]
  simp

/-- dictionary `r df ↦ re` alone, as the parser builds it -/
def exCfg3 : Cfg :=
  ⟨[⟨[], [19], []⟩, ⟨[[19]], [32, 33], [⟨.lower, false, 19⟩, ⟨.lower, false, 18⟩]⟩], 500, 500, .disabled, []⟩

/-- The hypotheses of `zippy_net_text_followup_raw_partial` are met by kanata's own example line
"r df ↦ re(cipient)" as the only line of the dictionary (r; release; f, d), and the text is `re`. -/
example :
    let s : Zchd := zchConfigure Zchd.default
    buildDict [⟨[[19], [32, 33]], [⟨.lower, false, 19⟩, ⟨.lower, false, 18⟩]⟩] = .ok exCfg3.dict ∧
    LeadEntry exCfg3.dict [19] ∧
    FollowEntry exCfg3.dict [[19]] [32, 33] [⟨.lower, false, 19⟩, ⟨.lower, false, 18⟩] ∧
    Fresh s ∧
    (Buf.empty.run (zRun exCfg3 s ((chordHist [] ++ [.press 19]) ++ (relHist [(3, 19)] ++
      (List.replicate 5 .tick ++ (chordHist [(33, 1)] ++ [.press 32]))))).2).shown =
      [⟨19, false, false⟩, ⟨18, false, false⟩] := by
  exact ⟨by rfl, .of_level (by decide), .of_level (by decide), ⟨rfl, rfl, rfl, rfl, rfl, rfl, rfl⟩,
    by decide +kernel⟩

/-- **zippy_net_text_followup_partial**.  A line `c1 ↦ outA` and its follow-up `c1 c2 ↦ out2` (kanata's
"dy ↦ day, dy 1 ↦ Monday"), `outA` without Backspace / no-erase outputs: from a fresh state the keys of
`K1` in ANY order, all released in any order, `g` ticks, the keys of `K2` in ANY order.  Then the text
is the text before plus exactly `out2` (and its smart space): `outA`, its smart space and every key
typed on the way have been erased — through the common-prefix shortcut, and also when the first key
of `K2` is a smart-space punctuation key that removes the smart space first (`<fix-class-6>`), and
whether or not the keys of `K2` occur in a top-level chord (`<fix-class-1>`).
Missing for the full statement: as for `zippy_net_text_followup_raw_partial`, and `outA` with
Backspace (a recorded finding) or no-erase outputs. -/
theorem zippy_net_text_followup_partial (cfg : Cfg) (K1 K2 : Key) (outA out2 : List ZchOut) (s : Zchd) (b : Buf)
    (front1 : List (Nat × Nat)) (last1 : Nat) (rels : List (Nat × Nat)) (g : Nat)
    (front2 : List (Nat × Nat)) (last2 : Nat)
    (hent1 : BasicEntry cfg.dict K1 outA) (hent : FollowEntry cfg.dict [K1] K2 out2)
    (hkeys1 : ∀ x ∈ K1, isZippyIgnored x = false) (hkeys2 : ∀ x ∈ K2, isZippyIgnored x = false)
    (houtA : outA.isEmpty = false) (hkoA : ∀ o ∈ outA, CharKey o.osc) (hpA : PlainOuts outA)
    (hout : out2.isEmpty = false) (hko : ∀ o ∈ out2, CharKey o.osc)
    (hperm1 : (front1.map (·.1) ++ [last1]).Perm K1)
    (hrel : (rels.map (·.2)).Perm K1)
    (hperm2 : (front2.map (·.1) ++ [last2]).Perm K2)
    (hgap1 : ∀ kg ∈ front1, kg.2 ≤ TICKS_UNTIL_FORCE_STATE_RESET)
    (hgapr : ∀ gk ∈ rels, gk.1 ≤ TICKS_UNTIL_FORCE_STATE_RESET)
    (hg : g ≤ TICKS_UNTIL_FORCE_STATE_RESET)
    (hgap2 : ∀ kg ∈ front2, kg.2 ≤ TICKS_UNTIL_FORCE_STATE_RESET)
    (hdl1 : cfg.ticksChordDeadline = 0 ∨ (front1.map (·.2)).sum < cfg.ticksChordDeadline)
    (hdlr : cfg.ticksChordDeadline = 0 ∨ (rels.headD (0, 0)).1 < cfg.ticksChordDeadline)
    (hdl2 : cfg.ticksChordDeadline = 0 ∨ (front2.map (·.2)).sum < cfg.ticksChordDeadline)
    (hfresh : Fresh s) (hmods : ModsAgree s b) :
    let base := bufAfterPunct cfg s ((front1.map (·.1) ++ [last1]).headD 0) b
    let r := zRun cfg s ((chordHist front1 ++ [.press last1]) ++ (relHist rels ++
      (List.replicate g .tick ++ (chordHist front2 ++ [.press last2]))))
    (b.run r.2).rtext = withSmartSpace cfg out2 (typeOuts base.rtext (s.lsft || s.rsft) out2) ∧
    ModsAgree s (b.run r.2) := by
  intro base r
  have hne := hent1.root_nonempty
  have hall1 := (perm_presses hent1.sorted hperm1).1
  have hfull1 : chordKey (front1.map (·.1) ++ [last1]) = K1 := chordKey_of_mem hent1.sorted hall1
  obtain ⟨ht1, hm1, hc1, _, hpost1, hss1⟩ := basic_run cfg K1 outA s b front1 last1 hent1 hkeys1 houtA hkoA
    hperm1 hgap1 hdl1 hfresh hmods
  have hheld := hpost1.held hc1
  generalize hph : postPhase _ cfg (front1.map (·.1) ++ [last1]) outA [] = ph at hheld
  rw [show chordKey ph.pre = K1 by rw [← hph]; exact hfull1] at hheld
  simp only [r]
  rw [run_zRun_append]
  generalize zRun cfg s (chordHist front1 ++ [.press last1]) = r1 at ht1 hm1 hss1 hheld
  -- release, pause, chord 2 (its first key may be a punctuation key removing the smart space)
  obtain ⟨⟨L2, hL2, ht2⟩, hmr, _⟩ := release_followup_run cfg ph s r1.1 (b.run r1.2) [K1] K1 K2 out2 rels g front2
    last2 hheld (by simp [← hph, postPhase, hfull1, hent.hasFollowups]) hm1 hne hent hent1.ne
    (hent1.sorted.imp (fun h => Nat.ne_of_lt h)) hkeys1 hkeys2 hout hko hrel hperm2 hgapr hg hgap2 hdlr hdl2
  refine ⟨?_, hmr⟩
  generalize hfire : punctFires cfg r1.1 ((front2.map (·.1) ++ [last2]).headD 0) = fire at ht2
  -- only a smart space that was sent can be erased
  have hw : fire = true → wantsSmartSpace cfg outA = true := by
    intro hf
    simp only [hf, punctFires, Bool.and_eq_true, decide_eq_true_eq, hss1] at hfire
    by_cases hw : wantsSmartSpace cfg outA = true ∧ cfg.smartSpace = .full
    · exact hw.1
    · rw [if_neg hw] at hfire; cases hfire.1
  have hcpl : phaseCpl (followPhase ph [K1] fire) out2 true = commonPrefixLen outA out2 :=
    phaseCpl_prior (by rw [← hph]; rfl) (Or.inl rfl) out2
  have hn := commonPrefixLen_le outA out2
  have hbs := phaseBs_of_count (ph := followPhase ph [K1] fire) (isPrio := true) (n := front2.length)
    (n1 := outA.length) (k := if (wantsSmartSpace cfg outA && !fire) = true then 1 else 0)
    (by cases fire <;> cases hwa : wantsSmartSpace cfg outA <;>
          simp [followPhase, ← hph, postPhase, displayLen_plain outA hpA, hwa] at hw ⊢)
    hcpl hn.1
  have hbuf : (bufAfterPunct cfg r1.1 ((front2.map (·.1) ++ [last2]).headD 0) (b.run r1.2)).rtext =
      (if (wantsSmartSpace cfg outA && !fire) = true then
        stroke (typeOuts base.rtext (s.lsft || s.rsft) outA) KEY_SPACE false false
       else typeOuts base.rtext (s.lsft || s.rsft) outA) := by
    unfold bufAfterPunct
    rw [hfire]
    cases fire
    · simp only [Bool.false_eq_true, if_false, Bool.not_false, Bool.and_true]
      exact ht1
    · simp only [if_true, ht1, withSmartSpace, hw rfl, Bool.not_true, Bool.and_false, Bool.false_eq_true, if_false]
      unfold stroke
      rw [if_neg (by decide)]
      rfl
  rw [ht2, hcpl, hbs, ← hL2, hbuf]
  exact congrArg _ (reuse_prefix_text base.rtext _ outA out2 hpA _ L2)

/-- dictionary `dy ↦ day`, `dy .g ↦ dig`, smart-space full with `.` a punctuation key -/
def exCfg4 : Cfg :=
  ⟨[⟨[], [21, 32], [⟨.lower, false, 32⟩, ⟨.lower, false, 30⟩, ⟨.lower, false, 21⟩]⟩,
    ⟨[[21, 32]], [34, 52], [⟨.lower, false, 32⟩, ⟨.lower, false, 23⟩, ⟨.lower, false, 34⟩]⟩],
   500, 500, .full, [⟨.lower, false, 52⟩]⟩

/-- The hypotheses of `zippy_net_text_followup_partial` are met by a concrete instance in which the
follow-up chord `. g` starts with the punctuation key (d y; release; `.` g): `day␣` becomes `dig␣`. -/
example :
    let s : Zchd := zchConfigure Zchd.default
    BasicEntry exCfg4.dict [21, 32] [⟨.lower, false, 32⟩, ⟨.lower, false, 30⟩, ⟨.lower, false, 21⟩] ∧
    FollowEntry exCfg4.dict [[21, 32]] [34, 52] [⟨.lower, false, 32⟩, ⟨.lower, false, 23⟩, ⟨.lower, false, 34⟩] ∧
    PlainOuts [⟨.lower, false, 32⟩, ⟨.lower, false, 30⟩, ⟨.lower, false, 21⟩] ∧ Fresh s ∧
    (Buf.empty.run (zRun exCfg4 s ((chordHist [(32, 1)] ++ [.press 21]) ++ (relHist [(3, 21), (1, 32)] ++
      (List.replicate 5 .tick ++ (chordHist [(52, 1)] ++ [.press 34]))))).2).shown =
      [⟨32, false, false⟩, ⟨23, false, false⟩, ⟨34, false, false⟩, ⟨57, false, false⟩] := by
  exact ⟨.of_level (by decide), .of_level (by decide), by unfold PlainOuts; decide,
    ⟨rfl, rfl, rfl, rfl, rfl, rfl, rfl⟩, by decide +kernel⟩

/-! ### Witnesses of the defects the pinned code had
(about `zRunPinned`, the model of the code before the `fix:` commits; each witness also runs on the real
code from corpus/C20.txt, where it now passes; next to each, the same input on the fixed model) -/

/-- **zippy_followup_multikey_counterexample** (pinned code; repaired by `<fix-class-1>`).  Dictionary
`r df ↦ re` alone (kanata's own example line "r df ↦ recipient", shortened): press r, release r, press d,
press f.  Required: `re`.  The pinned code left `rdf`: `d` is a subset of the follow-up chord `df` but of
no top-level chord, so the top-level lookup answered Neither and zippychord reset. -/
theorem zippy_followup_multikey_counterexample :
    (Buf.empty.run (zRunPinned exCfg3 (zchConfigure Zchd.default) [.press 19, .release 19, .press 32, .press 33]).2).shown =
      [⟨19, false, false⟩, ⟨32, false, false⟩, ⟨33, false, false⟩] := by
  decide +kernel

example : (Buf.empty.run (zRun exCfg3 (zchConfigure Zchd.default) [.press 19, .release 19, .press 32, .press 33]).2).shown =
    [⟨19, false, false⟩, ⟨18, false, false⟩] := by decide +kernel

/-- dictionary `by ↦ h’elo`, `bye ↦ h’ola` with `’ (no-erase `)` (a dead key) -/
def cexNoEraseCfg : Cfg := ⟨[⟨[], [21, 48], [⟨.lower, false, 35⟩, ⟨.lower, true, 41⟩, ⟨.lower, false, 18⟩, ⟨.lower, false, 38⟩, ⟨.lower, false, 24⟩]⟩,
  ⟨[], [18, 21, 48], [⟨.lower, false, 35⟩, ⟨.lower, true, 41⟩, ⟨.lower, false, 24⟩, ⟨.lower, false, 38⟩, ⟨.lower, false, 30⟩]⟩],
  500, 500, .disabled, []⟩

/-- **zippy_noerase_prefix_counterexample** (the code as it is; KNOWN_FINDINGS `reused-prefix-contains-no-erase-output`).
Press b y e in one hold.  `by` has typed h, the dead key, e, l, o (four characters to delete: the dead
key is not counted).  The superseding activation re-uses the common prefix `h’` — TWO outputs but ONE
display character — and subtracts the number of outputs: two Backspaces instead of three (the run has
three in all: one erased the typed `b`), then `o l a` without the dead key.  Read literally (every key-down a character) the buffer holds `h ’ e o l a`; with
the dead key joined to the letter after it the screen shows `h è o l a`; required `h ò l a`. -/
theorem zippy_noerase_prefix_counterexample :
    (zRun cexNoEraseCfg (zchConfigure Zchd.default) [.press 48, .press 21, .press 18]).2.filter
        (fun e => e = .down KEY_BACKSPACE) = [.down KEY_BACKSPACE, .down KEY_BACKSPACE, .down KEY_BACKSPACE] ∧
    (Buf.empty.run (zRun cexNoEraseCfg (zchConfigure Zchd.default) [.press 48, .press 21, .press 18]).2).shown =
      [⟨35, false, false⟩, ⟨41, false, false⟩, ⟨18, false, false⟩, ⟨24, false, false⟩, ⟨38, false, false⟩,
       ⟨30, false, false⟩] := by
  decide +kernel

/-- dictionary `dy ↦ day`, `dy 1 ↦ Mo` (kanata's sample lines, the second shortened) -/
def cexCapsCfg : Cfg := ⟨[⟨[], [21, 32], [⟨.lower, false, 32⟩, ⟨.lower, false, 30⟩, ⟨.lower, false, 21⟩]⟩,
  ⟨[[21, 32]], [2], [⟨.upper, false, 50⟩, ⟨.lower, false, 24⟩]⟩], 500, 500, .disabled, []⟩

/-- **zippy_caps_word_capital_kept** (repaired code, PENDING-2; KNOWN_FINDINGS `fixed`).  Caps-word is on
but holds no shift (the follow-up key `1` is not a letter, so caps-word adds no LShift): the follow-up
`dy 1 ↦ Mo` is typed after three Backspaces with its capital under a shift of its own, and that shift
is released again.  Before the repair `maybe_press_sft_during_activation` did nothing whenever caps-word
was active and the text came out as `mo` (witness on the real code: corpus/C20.txt, family `zcw`). -/
theorem zippy_caps_word_capital_kept :
    let s1 := (zRun cexCapsCfg (zchConfigure Zchd.default) [.press 32, .press 21, .release 32, .release 21]).1
    let r := zRun cexCapsCfg { s1 with capsWord := true } [.press 2]
    r.2 = bspcs 3 ++ [.down KEY_LEFTSHIFT, .down 50, .up 50, .up KEY_LEFTSHIFT, .down 24, .up 24] := by
  decide +kernel

/-- dictionary `e ↦ a`, `e, ↦ a.`, `e,.b ↦ ␣btY` -/
def cexPrefixCfg : Cfg := ⟨[⟨[], [18], [⟨.lower, false, 30⟩]⟩,
  ⟨[], [18, 51], [⟨.lower, false, 30⟩, ⟨.lower, false, 52⟩]⟩,
  ⟨[], [18, 48, 51, 52], [⟨.lower, false, 57⟩, ⟨.lower, false, 48⟩, ⟨.lower, false, 20⟩, ⟨.upper, false, 21⟩]⟩],
  500, 500, .disabled, []⟩

/-- **zippy_prefix_reuse_counterexample** (pinned code; repaired by `<fix-class-4>`).  Press e , b . in one
hold.  Required: ` btY`.  The pinned code left `a btY`: after re-using the common prefix `a` of the first
two expansions the erase counter restarted from the newly typed characters only. -/
theorem zippy_prefix_reuse_counterexample :
    (Buf.empty.run (zRunPinned cexPrefixCfg (zchConfigure Zchd.default) [.press 18, .press 51, .press 48, .press 52]).2).shown =
      [⟨30, false, false⟩, ⟨57, false, false⟩, ⟨48, false, false⟩, ⟨20, false, false⟩, ⟨21, true, false⟩] := by
  decide +kernel

example : (Buf.empty.run (zRun cexPrefixCfg (zchConfigure Zchd.default) [.press 18, .press 51, .press 48, .press 52]).2).shown =
    [⟨57, false, false⟩, ⟨48, false, false⟩, ⟨20, false, false⟩, ⟨21, true, false⟩] := by decide +kernel

/-- **zippy_shift_prefix_counterexample** (pinned code; repaired by `<fix-class-5>`).  Dictionary `a ↦ x`,
`ab ↦ xy`, `abc ↦ xyz`; hold left shift, press a b c.  Required (first keystroke of the expansion under the
user's shift): `Xyz`.  The pinned code left `XYZ`: every re-use of the prefix typed its first new character
shifted. -/
theorem zippy_shift_prefix_counterexample :
    (Buf.empty.run (zRunPinned { exCfg2 with smartSpace := .disabled } (zchConfigure Zchd.default)
      [.press KEY_LEFTSHIFT, .press 30, .press 48, .press 46]).2).shown =
      [⟨45, true, false⟩, ⟨21, true, false⟩, ⟨44, true, false⟩] := by
  decide +kernel

example : (Buf.empty.run (zRun { exCfg2 with smartSpace := .disabled } (zchConfigure Zchd.default)
    [.press KEY_LEFTSHIFT, .press 30, .press 48, .press 46]).2).shown =
    [⟨45, true, false⟩, ⟨21, false, false⟩, ⟨44, false, false⟩] := by decide +kernel

/-- dictionary `dy ↦ day`, `.g ↦ git`, smart-space full with the default punctuation `. , ;` -/
def cexPunctCfg : Cfg := ⟨[⟨[], [21, 32], [⟨.lower, false, 32⟩, ⟨.lower, false, 30⟩, ⟨.lower, false, 21⟩]⟩,
  ⟨[], [34, 52], [⟨.lower, false, 34⟩, ⟨.lower, false, 23⟩, ⟨.lower, false, 20⟩]⟩],
  500, 500, .full, [⟨.lower, false, 52⟩, ⟨.lower, false, 51⟩, ⟨.lower, false, 39⟩]⟩

/-- **zippy_smartspace_punctuation_counterexample** (pinned code; repaired by `<fix-class-6>`).  Chord d y,
release, then chord . g.  Required: `day` then `git ` with the typed `.` erased.  The pinned code left
`day.git `: the erase counter was decremented for the smart space although after the full release it no
longer counted it. -/
theorem zippy_smartspace_punctuation_counterexample :
    (Buf.empty.run (zRunPinned cexPunctCfg (zchConfigure Zchd.default)
      [.press 32, .press 21, .release 32, .release 21, .press 52, .press 34]).2).shown =
      [⟨32, false, false⟩, ⟨30, false, false⟩, ⟨21, false, false⟩, ⟨52, false, false⟩,
       ⟨34, false, false⟩, ⟨23, false, false⟩, ⟨20, false, false⟩, ⟨57, false, false⟩] := by
  decide +kernel

example : (Buf.empty.run (zRun cexPunctCfg (zchConfigure Zchd.default)
    [.press 32, .press 21, .release 32, .release 21, .press 52, .press 34]).2).shown =
    [⟨32, false, false⟩, ⟨30, false, false⟩, ⟨21, false, false⟩,
     ⟨34, false, false⟩, ⟨23, false, false⟩, ⟨20, false, false⟩, ⟨57, false, false⟩] := by decide +kernel

/-- dictionary `1 . ↦ Tya`, `1 . .1 ↦ 1>␣` (the first chord `1` has no output) -/
def cexPriorCfg : Cfg := ⟨[⟨[], [2], []⟩, ⟨[[2]], [52], [⟨.upper, false, 20⟩, ⟨.lower, false, 21⟩, ⟨.lower, false, 30⟩]⟩,
  ⟨[[2], [52]], [2, 52], [⟨.lower, false, 2⟩, ⟨.upper, false, 52⟩, ⟨.lower, false, 57⟩]⟩], 1, 50, .disabled, []⟩

/-- **zippy_prior_count_counterexample** (pinned code; repaired by `<fix-class-7-8>`).  The chain `1`, `.`
(↦ `Tya`) performed twice.  Required: `TyaTya`.  The pinned code left `Tya`: the second `1` added to the
prior output count left over from the first chain instead of restarting it, so the second `.` erased the
first `Tya` as well. -/
theorem zippy_prior_count_counterexample :
    (Buf.empty.run (zRunPinned cexPriorCfg (zchConfigure Zchd.default)
      [.press 2, .release 2, .press 52, .release 52, .press 2, .release 2, .press 52, .release 52]).2).shown =
      [⟨20, true, false⟩, ⟨21, false, false⟩, ⟨30, false, false⟩] := by
  decide +kernel

example : (Buf.empty.run (zRun cexPriorCfg (zchConfigure Zchd.default)
    [.press 2, .release 2, .press 52, .release 52, .press 2, .release 2, .press 52, .release 52]).2).shown =
    [⟨20, true, false⟩, ⟨21, false, false⟩, ⟨30, false, false⟩,
     ⟨20, true, false⟩, ⟨21, false, false⟩, ⟨30, false, false⟩] := by decide +kernel

/-- **zippy_shift_restored** (full, per event).  With a dictionary configured whose expansions consist
of character keys, for EVERY state of zippychord, every buffer whose shift / AltGr state is what
zippychord believes the user holds, and every event — any press (modifier, ignored key, chord key,
completing key of any chord: overlapping, follow-up, empty output, …), any release, and any tick that
is not the forced reset — afterwards (i) the OS-level shift / AltGr state is again what zippychord
believes the user holds and (ii) it is exactly what the user's own event does to it: whatever an
activation presses and releases in between is undone. -/
theorem zippy_shift_restored (cfg : Cfg) (s : Zchd) (b : Buf) (e : ZEv)
    (hne : ssmIsEmpty (levelSsm cfg.dict []) = false) (hok : OutsOK cfg.dict) (hm : ModsAgree s b)
    (hnr : s.ticksSinceStateChange < TICKS_UNTIL_FORCE_STATE_RESET) :
    ModsAgree (zStep cfg s e).1 (b.run (zStep cfg s e).2) ∧
    modsOf (b.run (zStep cfg s e).2) = modsOf (userStep b e) := by
  cases e with
  | press k => exact press_mods cfg s k b hne hok hm
  | release k => exact release_mods cfg s k b hne hm
  | tick =>
    simp only [zStep, zchTick, run_nil, userStep]
    refine ⟨?_, trivial⟩
    rw [modsAgree_iff] at hm ⊢
    rw [tick_flags s false hnr]; exact hm

/-- the dictionary `ab ↦ X` -/
def cexResetCfg : Cfg := ⟨[⟨[], [30, 48], [⟨.upper, false, 45⟩]⟩], 500, 0, .disabled, []⟩
/-- left shift pressed from the initial state -/
def cexResetS0 : Zchd := (zchPressKey cexResetCfg (zchConfigure Zchd.default) KEY_LEFTSHIFT).1
/-- ... and held for 10000 ticks -/
def cexResetS1 : Zchd := { cexResetS0 with ticksSinceStateChange := 10000 }

/-- **zippy_shift_lost_after_forced_reset_counterexample**.  The hypothesis on the forced reset cannot be
dropped: `zchd_tick` forgets the user's modifiers after more than 10000 ticks without a zippychord
state change ("potentially causing inaccuracies with regards to what the user is currently still
pressing"), and an activation with an upper-case output then releases the shift the user is still
holding.  Witness: dictionary `ab ↦ X`; press left shift and hold it for 10000 ticks (this is state
`cexResetS1`, first conjunct); one more tick, press a, press b: left shift is up at the OS although
zippychord was told nothing about a release and the user still holds it. -/
theorem zippy_shift_lost_after_forced_reset_counterexample :
    ticksN cexResetS0 10000 = cexResetS1 ∧ cexResetS1.lsft = true ∧
    (Buf.run ⟨[], true, false, false⟩ (zRun cexResetCfg cexResetS1 [.tick, .press 30, .press 48]).2).lsft = false := by
  refine ⟨?_, by decide, by decide⟩
  have h0 : cexResetS0.ticksSinceStateChange = 0 := by decide
  have := idle_ticks cexResetS0 10000 (by decide) (by decide) (by decide) (by rw [h0]; decide)
  rw [this, h0]
  rfl

/-- **zippy_passthrough** (full).  For every dictionary and every history of presses, releases and ticks
(any length, physically consistent or not) during which the keys the user holds never include all
keys of a top-level chord, zippychord writes exactly the user's own key events, in order: typing that
does not form a chord passes through unchanged (and so do the text and the modifiers it produces). -/
theorem zippy_passthrough (cfg : Cfg) (h : List ZEv) (hnc : NoChordPossible cfg.dict [] h) :
    (zRun cfg (zchConfigure Zchd.default) h).2 = asOs h := by
  by_cases he : ssmIsEmpty (levelSsm cfg.dict []) = true
  · exact zRun_empty_dict cfg he _ h
  · exact zRun_quiet cfg (by simpa using he) h _ [] Quiet.reset hnc

example : NoChordPossible [⟨[], [30, 48], [⟨.lower, false, 45⟩]⟩] []
    [.press 30, .tick, .release 30, .press 48, .press 46, .release 48, .press 30] := by
  simp only [NoChordPossible, and_true]
  decide

/-- **sim_feeds_zrun** (full).  The theorems above speak about zippychord-level histories (`zRun`); the
model that is compared trace-for-trace with the real `Kanata` is the machine `Sim` (event queue of the
layout, one event per tick, `prev_keys`/`cur_keys` difference, output log).  For every dictionary and
every physically consistent user history (a key is pressed only when up and released only when down;
no key of the ignored macro-key range), that machine hands zippychord exactly the history `zOfHist`
("the queued event, if any, then a tick" per millisecond) and logs exactly the events `zRun` returns. -/
theorem sim_feeds_zrun (cfg : Cfg) (h : List HEv) (hok : HistOK [] [] h) :
    (Sim.init.hist cfg h).zch = (zRun cfg (zchConfigure Zchd.default) (zOfHist [] h)).1 ∧
    traceEvents (Sim.init.hist cfg h).trace = (zRun cfg (zchConfigure Zchd.default) (zOfHist [] h)).2 := by
  have := sim_hist cfg h Sim.init rfl List.nodup_nil hok
  simpa [Sim.init, traceEvents] using this

example : HistOK [] [] [.press 30, .press 48, .ticks 5, .release 30, .ticks 1, .press 30, .release 48, .ticks 9] := by
  simp [HistOK, HistOK.activeAfter, QueueOK, inIgnoreRange, KEY_IGNORE_MIN, KEY_IGNORE_MAX]

/-- The constants and key lists of the model are the ones in the source
(`KVerif.Gen.Zippy` is regenerated from /repo on every run). -/
theorem zippy_consts_from_source :
    zippyIgnored = Gen.Zippy.zippyIgnored ∧
    TICKS_UNTIL_FORCE_STATE_RESET = Gen.Zippy.TICKS_UNTIL_FORCE_STATE_RESET ∧
    KEY_IGNORE_MIN = Gen.Zippy.KEY_IGNORE_MIN ∧ KEY_IGNORE_MAX = Gen.Zippy.KEY_IGNORE_MAX ∧
    Gen.Zippy.oscUsed = [("KEY_BACKSPACE", KEY_BACKSPACE), ("KEY_LEFTSHIFT", KEY_LEFTSHIFT),
      ("KEY_RIGHTALT", KEY_RIGHTALT), ("KEY_RIGHTSHIFT", KEY_RIGHTSHIFT), ("KEY_SPACE", KEY_SPACE)] ∧
    Gen.Zippy.defaultPunctuation = [(0, 52), (0, 51), (0, 39)] ∧
    Gen.Zippy.defaultWaitEnable = 500 ∧ Gen.Zippy.defaultChordDeadline = 500 ∧
    Gen.Zippy.defaultSmartSpace = 0 := by
  decide +kernel

end KVerif.Zippy
