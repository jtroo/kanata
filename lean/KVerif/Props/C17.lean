/-
C17 — tap-dance performs exactly the action for the number of taps.
Property theorems only; helper lemmas are in Lemmas/TapDance.lean (queue functions, one tick),
Lemmas/TapDanceRun.lean (abstract count machine, refinement, closed forms) and
Lemmas/TapDanceLayout.lean (inside `tick` / `dequeue` / `do_action`; eager form).

All statements are about the model functions of Model/Layout.lean (`evictSameCoord`, `countTaps`,
`handleTapDance`, `tickWtTd`, `tickWt`, `tickMain`, `dequeue`, `dispatch`, `tickPre`), for all list
lengths, timeouts, queue contents and numbers of ticks.

The model follows the code after the two `fix:` commits of this check: `evict_same_coord_events`
evicts only the presses that were counted as taps (`no_press_is_lost`, `late_tap_starts_a_new_dance`,
`press_behind_interrupt_is_kept`), and `parse_tap_dance` rejects an empty list, so the index panics
are unreachable from an accepted configuration (`accepted_tap_dance_never_panics`).  What was false
of the pinned commit is kept as counterexample theorems about the separately named pinned eviction
`evictSameCoordPinned` (`late_tap_is_dropped`, `press_behind_interrupt_is_dropped`,
`tapdance_press_lost_counterexample`).
-/
import KVerif.Lemmas.TapDanceLayout
namespace KVerif.C17
open KVerif.L

/-! ## 1. The eviction lemma -/

/-- **eviction** (full, any queue, any counters).  The `retain` of `evict_same_coord_events` with `r`
releases and `p` presses of the key to remove keeps every event of other coordinates, in order;
drops the first `p` presses of the key and keeps every later one, in order; drops the first `r`
releases of the key and keeps the later ones, in order; and neither reorders nor invents anything. -/
theorem eviction (w : Waiting) (r p : Nat) (q : List Queued) :
    (evictSameCoord w r p q).filter (otherCoord w) = q.filter (otherCoord w) ∧
    (evictSameCoord w r p q).filter (isPr w) = (q.filter (isPr w)).drop p ∧
    (evictSameCoord w r p q).filter (isRel w) = (q.filter (isRel w)).drop r ∧
    (evictSameCoord w r p q).Sublist q :=
  ⟨evict_others_kept w r p q, evict_presses w r p q, evict_releases w r p q, evict_sublist w r p q⟩

/-- **no press is lost** (full).  Ending a dance on `n` taps removes exactly `n − 1` presses of the
key from the queue (fewer only if fewer are queued): every uncounted press of the key stays queued,
in order — it will open a new dance. -/
theorem no_press_is_lost (w : Waiting) (n : Nat) (q : List Queued) :
    (evictTaps w n q).filter (isPr w) = (q.filter (isPr w)).drop (n - 1) ∧
    nPr w (evictTaps w n q) = nPr w q - (n - 1) ∧
    (n - 1 < nPr w q → ∃ s ∈ evictTaps w n q, isPr w s = true) :=
  ⟨evictTaps_presses w n q, evictTaps_nPr w n q, evict_keeps_uncounted_presses w _ _ q⟩

/-- **the dance is processed as one press and one release** (full).  On a physically possible
history the key's queued events alternate release, press, release, … (its opening press has been
taken out).  Ending the dance on `n` taps (`n − 1` of the queued presses counted) removes exactly
the first `n − 1` release/press pairs of the key: what is left of the key's events starts with the
release of the LAST counted tap (if the key has been let go) — so the chosen action is pressed once,
by the decision, and released once, by that release — followed, untouched and still alternating, by
whatever the key did afterwards. -/
theorem one_press_one_release (w : Waiting) (q : List Queued) (halt : Alt false (keyEvs w q))
    (n : Nat) (hn : n - 1 ≤ nPr w q) :
    keyEvs w (evictTaps w n q) = (keyEvs w q).drop (2 * (n - 1)) ∧
    Alt false (keyEvs w (evictTaps w n q)) := by
  have h : keyEvs w (evictTaps w n q) = (keyEvs w q).drop (2 * (n - 1)) := evict_keyEvs w q (n - 1) false halt hn
  exact ⟨h, h ▸ alt_drop_two _ halt⟩

/-! ## 2. Counting taps -/

/-- **tap counting** (full, any queue).  The fold answers `.error` exactly when another key's press
is queued; the count is the start value plus the presses of the key queued before that press (all of
them when there is none); releases — of any key — neither end nor change the count. -/
theorem tap_count (w : Waiting) (n : Nat) (q : List Queued) :
    (countTaps w n q =
      if q.any (otherPress w) then .error (n + nPr w (q.takeWhile (fun s => !otherPress w s)))
      else .ok (n + nPr w q)) ∧
    ((∃ m, countTaps w n q = .error m) ↔ ∃ s ∈ q, otherPress w s = true) ∧
    countTaps w n (q.filter (·.ev.isPress)) = countTaps w n q :=
  ⟨countTaps_eq w n q, countTaps_error_iff w n q, countTaps_ignores_releases w n q⟩

/-! ## 3. One tick of the waiting state -/

/-- the listed action for a count: the `n`-th for `1 ≤ n ≤ len`, the last one from `len` on -/
theorem chosen_action (acts : List Action) (n : Nat) :
    (n ≤ acts.length → tdPick acts n = acts[n - 1]?) ∧ (acts.length ≤ n → tdPick acts n = acts.getLast?) :=
  ⟨tdPick_nth acts n, tdPick_last acts n⟩

/-- **tapdance_decides** (full).  One `tick_wt` of a lazy tap-dance waiting state, complete case
analysis.  With `w₁` the state after the countdown step: it decides exactly when `decidesOn` gives a
count `n` — the countdown reached 0 (then `n` is the count recorded on an EARLIER tick: the queue is
not read again), or the queue length changed and it shows another key's press or a count ≥ the list
length (then `n = 1 +` the key's presses before that press) — and then: the decision is `Tap`, the
action stored for it is the one listed for `n`, the queue is the eviction with `n − 1`, the action
queue is untouched.  Otherwise nothing is decided and the queue is untouched.  It panics exactly
when it decides and the list is empty. -/
theorem tapdance_decides (w : Waiting) (acts : List Action) (T k : Nat) (hc : w.config = .tapDance acts T k)
    (q : List Queued) (aq : ActionQueue) :
    (∀ n, decidesOn (cd w) acts.length k q = some n →
      (∃ a, tdPick acts n = some a ∧ ∃ w', tickWt w q aq =
          .ok (w', evictTaps w n q, aq, some (.tap, none)) ∧ w'.tap = a ∧ w'.coord = w.coord ∧
          w'.layerStack = w.layerStack) ∨
      (acts = [] ∧ tickWt w q aq = .error (.indexOOB "tap-dance actions"))) ∧
    (decidesOn (cd w) acts.length k q = none →
      ∃ w', tickWt w q aq = .ok (w', q, aq, none) ∧ w'.tap = w.tap ∧ w'.coord = w.coord ∧
        w'.layerStack = w.layerStack ∧ ∃ n, w'.config = .tapDance acts T n) := by
  rw [tickWt_td w acts T k hc]
  constructor
  · intro n hn
    rw [tickWtTd_of_some hn]
    by_cases he : acts = []
    · subst he
      exact .inr ⟨rfl, rfl⟩
    · obtain ⟨a, ha, w', h1, h2, h3, h4⟩ := tdDecide_ok he (cd w) T n k q
      rw [h1, evictTaps_coord_congr (show (cd w).coord = w.coord from rfl)]
      exact .inl ⟨a, ha, w', rfl, h2, h3, h4⟩
  · intro hn
    rw [tickWtTd_of_none hn]
    exact ⟨_, rfl, rfl, rfl, rfl, _, rfl⟩

/-- **the index panic of the lazy form** (full): `tds.actions[idx]` is out of bounds exactly for the
empty list, on the tick the dance is decided — never otherwise.  `parse_tap_dance` rejects the empty
list since the `fix:` commit, so this is unreachable from an accepted configuration
(`accepted_tap_dance_never_panics`). -/
theorem lazy_crash_iff_empty_list (w : Waiting) (acts : List Action) (T k : Nat) (q : List Queued) :
    (∃ c, tickWtTd w acts T k q = .error c) ↔ (acts = [] ∧ decidesOn w acts.length k q ≠ none) := by
  rw [tickWtTd_eq]
  cases decidesOn w acts.length k q with
  | none => exact ⟨nofun, fun h => absurd rfl h.2⟩
  | some n => exact (tdDecide_error_iff w acts T n k q).trans ⟨fun h => ⟨h, nofun⟩, fun h => h.1⟩

/-- **restart and countdown** (full): one tick of the waiting state is one step of the abstract
count machine `specStep` — in particular, while undecided, the deadline moves to `T` ticks from now
exactly when the count grew, and otherwise comes one tick closer. -/
theorem tick_refines_abstract_step {w : Waiting} {acts : List Action} {T k : Nat} {q : List Queued}
    (hI : Inv w acts T k q) (hne : acts ≠ []) (b : List Queued) (hlen : (q ++ b).length < 255) :
    match specStep T acts.length k w.timeout (arrivalOf w (w.prevQueueLen == 255) b) with
    | .decided n =>
      ∃ a, tdPick acts n = some a ∧ ∃ w', tickWtTd (cd w) acts T k (q ++ b) =
        .ok (w', evictTaps w n (q ++ b), some .tap) ∧ w'.tap = a ∧ w'.coord = w.coord
    | .pending k' rem' =>
      ∃ w', tickWtTd (cd w) acts T k (q ++ b) = .ok (w', q ++ b, none) ∧ w'.timeout = rem' ∧
        Inv w' acts T k' (q ++ b) ∧ w'.prevQueueLen ≠ 255 ∧ w'.coord = w.coord ∧ w'.tap = w.tap ∧
        w'.layerStack = w.layerStack :=
  tickWtTd_refines hI hne b hlen

/-- **where a dance starts** (full): the waiting state `do_action` creates for a lazy tap-dance key
(the `TapDance` arm: `armWait … (.tapDance acts T 1)`) has one tap counted, the deadline `T` ticks
away and nothing read yet — the invariant the many-tick theorems below start from, with the queue
content of that moment arriving as the first batch. -/
theorem fresh_dance_invariant (s : Layout) (c : Coord) (d T : Nat) (acts : List Action) (ls : List Nat) :
    ∃ w, (armWait s c d T (.tapDance acts T 1) ls).waiting = some w ∧ Inv w acts T 1 [] ∧
      w.timeout = T ∧ w.coord = c ∧ w.layerStack = ls :=
  ⟨_, rfl, ⟨rfl, rfl, rfl, Or.inr rfl⟩, rfl, rfl, rfl⟩

/-! ## 4. Many ticks: the N-th action, on time -/

/-- **the waiting state refines the abstract count machine over any number of ticks** (full) -/
theorem run_refines_abstract_machine {acts : List Action} {T : Nat} (hne : acts ≠ [])
    (bs : List (List Queued)) (w : Waiting) (q : List Queued) (k : Nat) (hI : Inv w acts T k q)
    (hlen : (q ++ bs.flatten).length < 255) :
    match specRun T acts.length k w.timeout (arrivals w (w.prevQueueLen == 255) bs) with
    | (t, .decided n) =>
      ∃ a, tdPick acts n = some a ∧ ∃ w', tdDrive w q bs =
        .ok (t, w', evictTaps w n (q ++ (bs.take t).flatten), some .tap) ∧ w'.tap = a ∧
        w'.coord = w.coord
    | (t, .pending k' rem') =>
      ∃ w', tdDrive w q bs = .ok (t, w', q ++ bs.flatten, none) ∧ w'.timeout = rem' ∧
        Inv w' acts T k' (q ++ bs.flatten) ∧ t = bs.length ∧ w'.coord = w.coord := by
  have h := tdDrive_refines hne bs w q k hI hlen _ _ rfl
  generalize specRun T acts.length k w.timeout (arrivals w (w.prevQueueLen == 255) bs) = r at h ⊢
  obtain ⟨t, v⟩ := r
  cases v <;> exact h

/-- **tapdance_nth** (full, lists of any length, any `T ≥ 1`, any number of taps, any gaps).
The key has been tapped `k` times so far and the deadline is `T` ticks away.  `m` further taps
follow, each first seen fewer than `T` ticks after the previous one was seen (only releases arrive in
between), with `k + m` below the list length; then only releases for at least `T` ticks.  Then the
dance stays undecided until exactly `T` ticks after the last tap was seen — tick `g + T` — and on
that tick it is decided, once, on the `(k + m)`-th listed action; the queue left behind is the
eviction, with `k + m − 1`, of what had arrived. -/
theorem tapdance_nth {acts : List Action} {T : Nat} (hne : acts ≠ []) (hT : 1 ≤ T)
    {w : Waiting} {q : List Queued} {k : Nat} (hI : Inv w acts T k q) (hto : w.timeout = T)
    {m g : Nat} {bs : List (List Queued)} (hb : TapBatches w T m g bs) (hk : k + m < acts.length)
    (tail : List (List Queued)) (hq : ∀ b ∈ tail, QuietBatch b) (hl : T ≤ tail.length)
    (hlen : (q ++ (bs ++ tail).flatten).length < 255) :
    ∃ a, acts[k + m - 1]? = some a ∧ ∃ w', tdDrive w q (bs ++ tail) =
      .ok (g + T, w', evictTaps w (k + m) (q ++ ((bs ++ tail).take (g + T)).flatten), some .tap) ∧
      w'.tap = a := by
  have hspec : specRun T acts.length k w.timeout (arrivals w (w.prevQueueLen == 255) (bs ++ tail)) =
      (g + T, .decided (k + m)) := by
    rw [hto, arrivals_append]
    exact spec_nth (tapBatches_arrivals hb _) k hk hT _ (arrivals_quiet hq w _) (by rw [arrivals_length]; exact hl)
  obtain ⟨a, ha, w', hw', hta, _⟩ := tdDrive_refines hne _ w q k hI hlen _ _ hspec
  rw [tdPick_nth acts (k + m) (Nat.le_of_lt hk)] at ha
  exact ⟨a, ha, w', hw', hta⟩

/-- **list exhausted** (full): the tap that brings the count to the list length ends the dance on
the very tick it is seen, on the last listed action — no waiting for the timeout. -/
theorem tapdance_exhausted {acts : List Action} {T : Nat} (hne : acts ≠ [])
    {w : Waiting} {q : List Queued} {k : Nat} (hI : Inv w acts T k q) (hto : w.timeout = T)
    {m g : Nat} {bs : List (List Queued)} (hb : TapBatches w T m g bs) (hk : k + m + 1 = acts.length)
    (quiets : List (List Queued)) (hq : ∀ b ∈ quiets, QuietBatch b) (hl : quiets.length + 1 < T)
    (b : List Queued) (htap : TapBatch w b) (rest : List (List Queued))
    (hlen : (q ++ (bs ++ (quiets ++ b :: rest)).flatten).length < 255) :
    ∃ a, acts.getLast? = some a ∧ ∃ w', tdDrive w q (bs ++ (quiets ++ b :: rest)) =
      .ok (g + quiets.length + 1, w',
        evictTaps w acts.length (q ++ ((bs ++ (quiets ++ b :: rest)).take (g + quiets.length + 1)).flatten),
        some .tap) ∧ w'.tap = a := by
  have hspec : specRun T acts.length k w.timeout
      (arrivals w (w.prevQueueLen == 255) (bs ++ (quiets ++ b :: rest))) =
      (g + quiets.length + 1, .decided acts.length) := by
    rw [hto, arrivals_append, arrivals_append_cons,
      spec_exhausted (tapBatches_arrivals hb _) k hk _ (arrivals_quiet hq w _) (by rw [arrivals_length]; exact hl) _
        (tapBatch_arrival htap _), arrivals_length]
  obtain ⟨a, ha, w', hw', hta, _⟩ := tdDrive_refines hne _ w q k hI hlen _ _ hspec
  rw [tdPick_last acts acts.length (Nat.le_refl _)] at ha
  exact ⟨a, ha, w', hw', hta⟩

/-- **timeout_exactly_at_T for tap-dance** (full, every `T`, every count below the list length).
With only releases arriving, the dance stays undecided, with `T − n` ticks to go, after `n < T`
ticks, and is decided on exactly the `T`-th tick, on the count so far. -/
theorem tapdance_deadline_exact {acts : List Action} {T : Nat} (hne : acts ≠ []) (hT : 1 ≤ T)
    {w : Waiting} {q : List Queued} {k : Nat} (hI : Inv w acts T k q) (hto : w.timeout = T)
    (hk : k < acts.length) (bs : List (List Queued)) (hq : ∀ b ∈ bs, QuietBatch b)
    (hlen : (q ++ bs.flatten).length < 255) :
    (bs.length < T → ∃ w', tdDrive w q bs = .ok (bs.length, w', q ++ bs.flatten, none) ∧
      w'.timeout = T - bs.length) ∧
    (T ≤ bs.length → ∃ a, acts[k - 1]? = some a ∧ ∃ w', tdDrive w q bs =
      .ok (T, w', evictTaps w k (q ++ (bs.take T).flatten), some .tap) ∧ w'.tap = a) := by
  subst hto
  have hs := spec_timeout_exact (T := w.timeout) hk _ (arrivals_quiet hq w (w.prevQueueLen == 255)) w.timeout hT
  rw [arrivals_length] at hs
  constructor
  · intro h
    obtain ⟨w', hw', hto', _⟩ := tdDrive_refines hne _ w q k hI hlen _ _ (hs.1 h)
    exact ⟨w', hw', hto'⟩
  · intro h
    obtain ⟨a, ha, w', hw', hta, _⟩ := tdDrive_refines hne _ w q k hI hlen _ _ (hs.2 h)
    rw [tdPick_nth acts k (Nat.le_of_lt hk)] at ha
    exact ⟨a, ha, w', hw', hta⟩

/-- **another key ends the count** (full): a press of another key first seen before the deadline
ends the dance on that tick, on the count including the taps queued before it (capped at the list
length: taps queued beyond it are not part of this dance, fix PENDING-1); every event of other
coordinates — the interrupting press among them — is still in the queue afterwards, in order. -/
theorem tapdance_interrupted {acts : List Action} {T : Nat} (hne : acts ≠ [])
    {w : Waiting} {q : List Queued} {k : Nat} (hI : Inv w acts T k q) (hk : k < acts.length)
    (quiets : List (List Queued)) (hq : ∀ b ∈ quiets, QuietBatch b) (hl : quiets.length + 1 < w.timeout)
    (b : List Queued) (hb : interrupted w b = true) (rest : List (List Queued))
    (hlen : (q ++ (quiets ++ b :: rest).flatten).length < 255) :
    let n := inThisDance (k + nPr w (b.takeWhile (fun s => !otherPress w s))) acts.length
    ∃ a, tdPick acts n = some a ∧ ∃ w' q', tdDrive w q (quiets ++ b :: rest) =
      .ok (quiets.length + 1, w', q', some .tap) ∧ w'.tap = a ∧
      q' = evictTaps w n (q ++ (quiets ++ [b]).flatten) ∧
      q'.filter (otherCoord w) = (q ++ (quiets ++ [b]).flatten).filter (otherCoord w) ∧
      ∃ x ∈ q', otherPress w x = true := by
  intro n
  obtain ⟨x, hx, hxo⟩ : ∃ x ∈ b, otherPress w x = true := List.any_eq_true.mp hb
  have hspec : specRun T acts.length k w.timeout (arrivals w (w.prevQueueLen == 255) (quiets ++ b :: rest)) =
      (quiets.length + 1, .decided n) := by
    rw [arrivals_append_cons, spec_interrupt hk _ (arrivals_quiet hq w _) w.timeout (by rw [arrivals_length]; exact hl) _
      (arrivalOf_grew (List.ne_nil_of_mem hx) w _) hb, arrivals_length]
    rfl
  obtain ⟨a, ha, w', hw', hta, _⟩ := tdDrive_refines hne _ w q k hI hlen _ _ hspec
  rw [List.take_length_add_append 1, List.take_succ_cons, List.take_zero] at hw'
  refine ⟨a, ha, w', _, hw', hta, rfl, evictTaps_others_kept w _ _, x, ?_, hxo⟩
  -- the interrupting press is an event of another coordinate, hence kept
  have hoc : otherCoord w x = true :=
    (otherCoord_iff w x).mpr ⟨otherPress_not_isPr hxo, Bool.eq_false_iff.mpr fun h =>
      Bool.false_ne_true ((isRel_not_isPress h).symm.trans (otherPress_isPress hxo))⟩
  have hmem : x ∈ (q ++ (quiets ++ [b]).flatten).filter (otherCoord w) :=
    List.mem_filter.mpr ⟨by simp [hx], hoc⟩
  rw [← evictTaps_others_kept w n] at hmem
  exact (List.mem_filter.mp hmem).1

/-! ## 5. Uncounted presses stay queued (and what the pinned commit did instead) -/

/-- **late_tap_starts_a_new_dance** (full, every `T`, count and queue).  When the deadline tick
comes (`T − 1` ticks with only releases, then the `T`-th), whatever arrives with that tick is not
counted — the dance is decided on the OLD count `k` — and every press of the key that arrived with
it is still in the queue afterwards: the late tap opens a new dance. -/
theorem late_tap_starts_a_new_dance {acts : List Action} {T : Nat} (hne : acts ≠ [])
    {w : Waiting} {q : List Queued} {k : Nat} (hI : Inv w acts T k q) (hk : k < acts.length)
    (quiets : List (List Queued)) (hq : ∀ b ∈ quiets, QuietBatch b) (hl : quiets.length + 1 = w.timeout)
    (b : List Queued) (rest : List (List Queued))
    (hlen : (q ++ (quiets ++ b :: rest).flatten).length < 255) :
    ∃ a, acts[k - 1]? = some a ∧ ∃ w' q', tdDrive w q (quiets ++ b :: rest) =
      .ok (w.timeout, w', q', some .tap) ∧ w'.tap = a ∧
      q' = evictTaps w k (q ++ (quiets ++ [b]).flatten) ∧
      q'.filter (isPr w) = b.filter (isPr w) := by
  have hspec : specRun T acts.length k w.timeout (arrivals w (w.prevQueueLen == 255) (quiets ++ b :: rest)) =
      (w.timeout, .decided k) := by
    rw [arrivals_append_cons]
    exact spec_deadline_wins hk _ (arrivals_quiet hq w _) w.timeout (by rw [arrivals_length]; exact hl) _ _
  obtain ⟨a, ha, w', hw', hta, _⟩ := tdDrive_refines hne _ w q k hI hlen _ _ hspec
  rw [tdPick_nth acts k (Nat.le_of_lt hk)] at ha
  rw [← hl, List.take_length_add_append 1, hl, List.take_succ_cons, List.take_zero] at hw'
  refine ⟨a, ha, w', _, hw', hta, rfl, ?_⟩
  -- the `k − 1` counted presses are those of `q`; quiet batches hold none
  have hq1 : (q.filter (isPr w)).length = k - 1 := by rw [hI.count]; exact (Nat.add_sub_cancel_left ..).symm
  rw [evictTaps_presses, List.filter_append, List.drop_left' hq1, List.flatten_append, List.filter_append,
    quiets_no_press hq w, List.nil_append, List.flatten_cons, List.flatten_nil, List.append_nil]

/-- **press_behind_interrupt_is_kept** (full).  When another key's press ends the dance, the count
stops at that press (and at the list length), and every press of the dance key queued BEHIND it
stays queued, in order - as do the presses before it that exceed the list length. -/
theorem press_behind_interrupt_is_kept (w : Waiting) (k len : Nat) (pre post : List Queued) (x : Queued)
    (hpre : interrupted w pre = false) (hx : otherPress w x = true)
    (hfast : ¬ ((pre ++ x :: post).length % 256 == w.prevQueueLen && w.timeout > 0) = true)
    (hto : w.timeout ≠ 0) :
    let n := inThisDance (1 + nPr w pre) len
    handleTapDance w k len (pre ++ x :: post) = (evictTaps w n (pre ++ x :: post), some .tap, n) ∧
    (evictTaps w n (pre ++ x :: post)).filter (isPr w) =
      (pre.filter (isPr w)).drop (n - 1) ++ post.filter (isPr w) := by
  intro n
  constructor
  · obtain ⟨hs, hi⟩ := seen_append hpre false (x :: post)
    have hi : interrupted w (pre ++ x :: post) = true := hi.trans (by simp [arrivalOf, interrupted, hx])
    have hs : seenTaps w (pre ++ x :: post) = 1 + nPr w pre :=
      hs.trans (by rw [seenTaps_not_interrupted hpre, arrivalOf, List.takeWhile_cons, hx]; rfl)
    rw [handleTapDance_spec, if_neg hfast, if_neg (by simpa using hto), hi, hs]
    rfl
  · rw [evictTaps_presses, List.filter_append, List.filter_cons, otherPress_not_isPr hx]
    exact List.drop_append_of_le_length
      (Nat.sub_le_of_le_add (Nat.le_trans (Nat.min_le_left _ _) (Nat.le_of_eq (Nat.add_comm 1 _))))

/-- **late_tap_is_dropped** (counterexample material: the eviction of the PINNED commit).  It removed
every queued press of the key, so whenever a press was queued that had not been counted
(`k − 1 < nPr w q`), that tap was lost — while the eviction of the current code keeps it. -/
theorem late_tap_is_dropped (w : Waiting) (k : Nat) (q : List Queued) (h : k - 1 < nPr w q) :
    (∀ s ∈ evictSameCoordPinned w (k - 1) q, isPr w s = false) ∧
    ∃ s ∈ evictTaps w k q, isPr w s = true :=
  ⟨pinned_no_press w _ q, evict_keeps_uncounted_presses w _ _ q h⟩

/-- **press_behind_interrupt_is_dropped** (counterexample material, PINNED commit): with the count
stopped at another key's press, the pinned eviction also dropped every press of the dance key queued
behind it. -/
theorem press_behind_interrupt_is_dropped (w : Waiting) (pre post : List Queued) (x : Queued) :
    ∀ s ∈ evictSameCoordPinned w (nPr w pre) (pre ++ x :: post), isPr w s = false :=
  pinned_no_press w _ _

/-- a concrete waiting state: dance key `a` = (0,30), list `(q w)`, `T = 3`, one tap counted, the
deadline one tick away, the queue (length 1: the key's release) read on the previous tick -/
def lateW : Waiting :=
  { coord := (0, 30), timeout := 1, delay := 0, ticks := 2, hold := .noOp, tap := .noOp, timeoutAction := .noOp,
    config := .tapDance [.keyCode 16, .keyCode 17] 3 1, layerStack := [0], prevQueueLen := 1 }

/-- **tapdance_press_lost_counterexample** (concrete witness against the PINNED commit; input in
corpus/C17.txt, fixed finding in KNOWN_FINDINGS.jsonl).  `(tap-dance 3 (q w))`: the key was tapped
once, its second press arrives with the deadline tick.  The pinned eviction left two releases of the
key and no press — the second tap was lost.  The current code decides on ONE tap (`q`) as before and
leaves the second press queued. -/
theorem tapdance_press_lost_counterexample :
    evictSameCoordPinned lateW 0 [⟨.release (0, 30), 2⟩, ⟨.press (0, 30), 1⟩, ⟨.release (0, 30), 1⟩] =
      [⟨.release (0, 30), 2⟩, ⟨.release (0, 30), 1⟩] ∧
    ∃ w', tickWt lateW [⟨.release (0, 30), 2⟩, ⟨.press (0, 30), 1⟩, ⟨.release (0, 30), 1⟩] [] =
      .ok (w', [⟨.release (0, 30), 2⟩, ⟨.press (0, 30), 1⟩, ⟨.release (0, 30), 1⟩], [], some (.tap, none)) ∧
      w'.tap = .keyCode 16 := by
  refine ⟨rfl, { lateW with timeout := 0, ticks := 3, tap := .keyCode 16, prevQueueLen := 3 }, ?_, rfl⟩
  rw [tickWt_td lateW _ 3 1 rfl]
  rfl

/-! ## 5b. Taps beyond the list length are not part of the dance (fix PENDING-1) -/

/-- **taps_beyond_list_stay_queued** (full, any queue - also several taps arriving between two
ticks).  Whenever the queue is read and the dance is decided (another key's press, or the count has
reached the list length), it is decided on at most `len` taps, so at most `len − 1` presses of the key
leave the queue: every press beyond the list length stays queued and opens the next dance. -/
theorem taps_beyond_list_stay_queued (w : Waiting) (k len : Nat) (q : List Queued)
    (hfast : ¬ (q.length % 256 == w.prevQueueLen && w.timeout > 0) = true) (hto : w.timeout ≠ 0)
    (hex : interrupted w q = true ∨ len ≤ seenTaps w q) :
    ∃ n, n ≤ len ∧ handleTapDance w k len q = (evictTaps w n q, some .tap, n) ∧
      nPr w (evictTaps w n q) = nPr w q - (n - 1) ∧ nPr w q - (len - 1) ≤ nPr w (evictTaps w n q) := by
  refine ⟨inThisDance (seenTaps w q) len, Nat.min_le_right _ _, ?_, evictTaps_nPr w _ q, ?_⟩
  · have h3 : (interrupted w q || decide (seenTaps w q ≥ len)) = true := by
      rcases hex with h | h <;> simp [h]
    rw [handleTapDance_spec, if_neg hfast, if_neg (by simpa using hto), if_pos h3]
  · rw [evictTaps_nPr]
    exact Nat.sub_le_sub_left (Nat.sub_le_sub_right (Nat.min_le_right _ _) 1) _

/-- a concrete waiting state: dance key `a` = (0,30), list `(x y)`, `T = 200`, just created (nothing
read yet) -/
def burstW : Waiting :=
  { coord := (0, 30), timeout := 199, delay := 0, ticks := 1, hold := .noOp, tap := .noOp, timeoutAction := .noOp,
    config := .tapDance [.keyCode 45, .keyCode 21] 200 1, layerStack := [0], prevQueueLen := 255 }

/-- **tapdance_tap_beyond_list_lost_counterexample** (concrete witness against the code BEFORE fix
PENDING-1; input in corpus/C17.txt, `fixed` record in KNOWN_FINDINGS.jsonl).  `(tap-dance 200 (x y))`,
three taps of the key arrive between two ticks.  The earlier code counted three taps and evicted two
presses: only one release was left - `y` was tapped and the third tap was swallowed.  The current code
decides on TWO taps (`y`) and leaves the third tap's press and release queued (it then opens a new
dance, as it does when it arrives a tick later). -/
theorem tapdance_tap_beyond_list_lost_counterexample :
    handleTapDanceUncapped burstW 1 2
        [⟨.release (0, 30), 0⟩, ⟨.press (0, 30), 0⟩, ⟨.release (0, 30), 0⟩, ⟨.press (0, 30), 0⟩, ⟨.release (0, 30), 0⟩] =
      ([⟨.release (0, 30), 0⟩], some .tap, 3) ∧
    handleTapDance burstW 1 2
        [⟨.release (0, 30), 0⟩, ⟨.press (0, 30), 0⟩, ⟨.release (0, 30), 0⟩, ⟨.press (0, 30), 0⟩, ⟨.release (0, 30), 0⟩] =
      ([⟨.release (0, 30), 0⟩, ⟨.press (0, 30), 0⟩, ⟨.release (0, 30), 0⟩], some .tap, 2) := by
  constructor <;> decide

/-! ## 6. Inside `tick`: exactly one action, and the interrupting key after it -/

/-- **exactly_one_tap_dance_action** (full).  One tick of the layout with a lazy tap-dance pending
either changes nothing but the waiting state's countdown / count / memo (nothing is output, the
queue is untouched), or consumes the waiting state, evicts the key's counted events, and performs
EXACTLY ONE `do_action`: on the action listed for the decided count, at the key's coordinate, with
the layers active when it was pressed, on a state that otherwise equals the previous one.  Since the
waiting state is gone afterwards, no dance resolves twice. -/
theorem exactly_one_tap_dance_action (s : Layout) (w : Waiting) (acts : List Action) (T k : Nat)
    (hw : s.waiting = some w) (hc : w.config = .tapDance acts T k) :
    (decidesOn (cd w) acts.length k s.queue = none ∧
      ∃ w', tickMain s = .ok ({ s with waiting := some w' }, .noEvent) ∧ w'.coord = w.coord ∧
        w'.tap = w.tap ∧ w'.layerStack = w.layerStack ∧ ∃ n, w'.config = .tapDance acts T n) ∨
    (∃ n, decidesOn (cd w) acts.length k s.queue = some n ∧
      ((∃ a, tdPick acts n = some a ∧
          tickMain s =
            match doAction FUEL { s with waiting := none, queue := evictTaps w n s.queue }
                a w.coord 0 false w.layerStack with
            | .error e => .error e
            | .ok (s1, cu) => .ok (tapPost s1, cu)) ∨
       (acts = [] ∧ tickMain s = .error (.indexOOB "tap-dance actions")))) :=
  lazy_tick_cases s w acts T k hw hc

/-- **interrupt_after_action** (full for a listed plain key or layer-while-held; `_partial` below
for other listed actions).  On the tick the dance is decided on a plain key: that key is pressed at
the dance key's coordinate, the waiting state is gone, and EVERY event of other coordinates that was
queued — an interrupting key's press among them — is still queued, in order, untouched; together
with `buffered_events_replayed_in_order` (C05) it is therefore taken from the queue on a LATER tick,
after the chosen action. -/
theorem interrupt_after_action (s : Layout) (w : Waiting) (acts : List Action) (T k n : Nat)
    (hw : s.waiting = some w) (hc : w.config = .tapDance acts T k)
    (hd : decidesOn (cd w) acts.length k s.queue = some n) :
    (∀ kc, tdPick acts n = some (.keyCode kc) →
      ∃ s', tickMain s = .ok (s', .noEvent) ∧ s'.waiting = none ∧
        s'.queue = evictTaps w n s.queue ∧
        s'.queue.filter (otherCoord w) = s.queue.filter (otherCoord w) ∧
        s'.states = pushCap STATES_CAP (s.states.filter (fun st => !st.clearOnNextAction)) (.normalKey kc w.coord 0)) ∧
    (∀ l, tdPick acts n = some (.layer l) →
      ∃ s', tickMain s = .ok (s', .noEvent) ∧ s'.waiting = none ∧
        s'.queue = evictTaps w n s.queue ∧
        s'.queue.filter (otherCoord w) = s.queue.filter (otherCoord w) ∧
        s'.states = pushCap STATES_CAP (s.states.filter (fun st => !st.clearOnNextAction)) (.layerModifier l w.coord)) := by
  constructor
  · intro kc hp
    exact lazy_tick_plain hw hc hd hp (arm := fun s0 => armKeyCode s0 (.keyCode kc) kc w.coord false)
      (fun s0 => by rw [FUEL_two, doAction_keyCode])
      (fun s0 => let ⟨a1, a2, _, _, a5⟩ := armKeyCode_fields s0 (.keyCode kc) kc w.coord false; ⟨a1, a2, a5⟩)
  · intro l hp
    exact lazy_tick_plain hw hc hd hp (arm := fun s0 => armLayer s0 l w.coord false)
      (fun s0 => by rw [FUEL_two, doAction_layer])
      (fun s0 => let ⟨a1, a2, _, _, a5⟩ := armLayer_fields s0 l w.coord false; ⟨a1, a2, a5⟩)

/-- **interrupt_after_action_partial**: for ANY listed action (a tap-hold, a nested list, …) the state
the single `do_action` starts from already has the interrupting key's events queued, in order, and
no waiting state; what that action itself then does to the queue (a one-shot overflow re-enters
`event`) is not characterised here — covered by the correspondence and the trace oracle. -/
theorem interrupt_after_action_partial (s : Layout) (w : Waiting) (n : Nat) :
    ({ s with waiting := none, queue := evictTaps w n s.queue } : Layout).queue.filter (otherCoord w) =
      s.queue.filter (otherCoord w) :=
  evictTaps_others_kept w _ _

/-! ## 7. The eager form -/

/-- **tapdance_eager_each** (full).  While an eager state is live (countdown not over, list not
exhausted), a press of the dance key performs `actions[num_taps]` — its own action, at once, one
`do_action` — and then the count goes up by one and the countdown restarts at the configured
timeout.  The index cannot go out of bounds. -/
theorem tapdance_eager_each (f : Nat) (s : Layout) (t : TDE) (c : Coord) (since : Nat) (order : List Nat)
    (ht : s.tapDanceEager = some t) (hc : c = s.lptCoord) (hlive : t.isExpired = false)
    (ho : s.transOrder = .ok order) :
    ∃ a, t.actions[t.numTaps]? = some a ∧
      dequeue (f + 1) s ⟨.press c, since⟩ =
        (match doAction f s a c since false (order.drop 1) with
        | .error e => .error e
        | .ok (s1, cu) => .ok ({ s1 with tapDanceEager := s1.tapDanceEager.map TDE.incrTaps }, cu)) ∧
      t.incrTaps.numTaps = t.numTaps + 1 ∧ t.incrTaps.timeout = t.origTimeout :=
  let ⟨a, h1, h2⟩ := eager_tap f s t c since order ht hc hlive ho
  ⟨a, h1, h2, rfl, rfl⟩

/-- for a listed plain key the whole effect of an eager tap: the key is pressed, the eager state
counts one more tap with a fresh countdown, nothing else moves -/
theorem tapdance_eager_each_key (f : Nat) (s : Layout) (t : TDE) (c : Coord) (since : Nat) (order : List Nat)
    (ht : s.tapDanceEager = some t) (hc : c = s.lptCoord) (hlive : t.isExpired = false)
    (ho : s.transOrder = .ok order) (kc : KeyCode) (hk : t.actions[t.numTaps]? = some (.keyCode kc)) :
    ∃ s', dequeue (f + 3) s ⟨.press c, since⟩ = .ok (s', .noEvent) ∧
      s'.tapDanceEager = some t.incrTaps ∧ s'.queue = s.queue ∧ s'.waiting = s.waiting ∧
      s'.states = pushCap STATES_CAP (s.states.filter (fun st => !st.clearOnNextAction)) (.normalKey kc c 0) := by
  obtain ⟨a, ha, hd⟩ := eager_tap (f + 2) s t c since order ht hc hlive ho
  rw [hk] at ha
  injection ha with ha
  subst ha
  rw [doAction_keyCode] at hd
  obtain ⟨p1, p2, _, p4, p5, _⟩ := prelude_fields s c
  obtain ⟨a1, a2, _, a4, a5⟩ := armKeyCode_fields (prelude s c) (.keyCode kc) kc c false
  refine ⟨_, hd, ?_, a1.trans p1, a2.trans p2, a5.trans (by rw [p5])⟩
  show Option.map TDE.incrTaps (armKeyCode (prelude s c) (.keyCode kc) kc c false).tapDanceEager = _
  rw [a4, p4, ht]
  rfl

/-- **the eager dance ends** (full): by another real key's press (the state is marked expired before
that key's own action runs, and forgotten on the next tick), by the timeout — exactly `T` ticks after
the last tap, not before —, or by exhaustion of the list (forgotten on the next tick).  In `tick` the
countdown advances exactly once per tick, before anything is dequeued. -/
theorem tapdance_eager_ends :
    (∀ (f : Nat) (s : Layout) (t : TDE) (c : Coord) (since : Nat) (order : List Nat),
      s.tapDanceEager = some t → (c ≠ s.lptCoord ∨ t.isExpired = true) → c.1 = 0 → s.transOrder = .ok order →
      dequeue (f + 1) s ⟨.press c, since⟩ =
        doAction f { s with tapDanceEager := some t.setExpired } .trans c since false order ∧
      t.setExpired.isExpired = true ∧ tdeTick t.setExpired = none) ∧
    (∀ (T : Nat) (t : TDE), t.timeout = T → 1 ≤ T → t.numTaps < t.actions.length →
      (∀ n, n < T → tdeTicks n (some t) = some { t with timeout := T - n }) ∧
      (∀ n, T ≤ n → tdeTicks n (some t) = none)) ∧
    (∀ t : TDE, t.actions.length ≤ t.numTaps → tdeTick t = none) ∧
    (∀ s : Layout, (tickPre s).tapDanceEager = s.tapDanceEager.bind tdeTick) :=
  ⟨eager_other_key, eager_expiry_exact, eager_exhausted, tickPre_tde⟩

/-- **the first press of an eager dance** (full): a fresh state (one tap counted, countdown `T`)
unless one for the same coordinate is still there, and the first listed action is performed at once. -/
theorem tapdance_eager_first (f : Nat) (s : Layout) (acts : List Action) (T : Nat) (c : Coord) (d : Nat)
    (os : Bool) (ls : List Nat) :
    dispatch (f + 1) s (.tapDance acts T true) c d os ls =
      (match acts[0]? with
      | none => .error (.indexOOB "td.actions[0]")
      | some a0 =>
        match doAction f (armEager s c acts T) a0 c d false ls with
        | .error e => .error e
        | .ok r => .ok (r.1, .noEvent)) ∧
    (s.tapDanceEager = none → (armEager s c acts T).tapDanceEager =
      some { coord := c, actions := acts, timeout := T, origTimeout := T, numTaps := 1 }) :=
  ⟨eager_first_press f s acts T c d os ls, fun h => armEager_fresh s c acts T (Or.inl h)⟩

/-- **the index panic of the eager form** (full): `td.actions[0]` is out of bounds exactly for the
empty list (rejected by `parse_tap_dance` since the `fix:` commit: unreachable from an accepted
configuration, `accepted_tap_dance_never_panics`); the other index, `tde.actions[num_taps]`, never is
(`tapdance_eager_each`). -/
theorem eager_crash_iff_empty_list (f : Nat) (s : Layout) (acts : List Action) (T : Nat) (c : Coord) (d : Nat)
    (os : Bool) (ls : List Nat) :
    dispatch (f + 1) s (.tapDance acts T true) c d os ls = .error (.indexOOB "td.actions[0]") ↔
      (acts = [] ∨ ∃ a0, acts[0]? = some a0 ∧
        doAction f (armEager s c acts T) a0 c d false ls = .error (.indexOOB "td.actions[0]")) := by
  rw [eager_first_press]
  cases acts with
  | nil => simp
  | cons a0 rest =>
    simp only [List.getElem?_cons_zero, reduceCtorEq, false_or, Option.some.injEq, exists_eq_left']
    cases h : doAction f (armEager s c (a0 :: rest) T) a0 c d false ls with
    | error e => simp
    | ok r => simp

/-- **accepted_tap_dance_never_panics** (full).  `parse_tap_dance` accepts a tap-dance only with a
non-zero timeout and — since the `fix:` commit — a non-empty list (`Accepted`; checked by the drivers
on every configuration the real parser produced).  For such a tap-dance neither index can go out of
bounds: the lazy arm of `tick_wt` always returns, and the eager arm's `td.actions[0]` exists (the
other eager index is guarded by the expiry test: `tapdance_eager_each`). -/
theorem accepted_tap_dance_never_panics {acts : List Action} {T : Nat} (h : Accepted acts T) :
    (∀ (w : Waiting) (k : Nat) (q : List Queued), ∃ r, tickWtTd w acts T k q = .ok r) ∧
    (∀ (f : Nat) (s : Layout) (c : Coord) (d : Nat) (os : Bool) (ls : List Nat),
      ∃ a0, acts[0]? = some a0 ∧
        dispatch (f + 1) s (.tapDance acts T true) c d os ls =
          match doAction f (armEager s c acts T) a0 c d false ls with
          | .error e => .error e
          | .ok r => .ok (r.1, .noEvent)) := by
  refine ⟨tickWtTd_total h, fun f s c d os ls => ?_⟩
  cases hacts : acts with
  | nil => exact absurd hacts h.nonempty
  | cons a0 rest => exact ⟨a0, rfl, by rw [eager_first_press]; rfl⟩

/-! ## Non-vacuity -/


/-- the waiting state `do_action` creates for `(tap-dance 3 (q w x))` on key `a` -/
def freshW : Waiting :=
  { coord := (0, 30), timeout := 3, delay := 0, ticks := 0, hold := .noOp, tap := .noOp, timeoutAction := .noOp,
    config := .tapDance [.keyCode 16, .keyCode 17, .keyCode 45] 3 1, layerStack := [0], prevQueueLen := 255 }

def relA : Queued := ⟨.release (0, 30), 0⟩
def prA : Queued := ⟨.press (0, 30), 0⟩
def prB : Queued := ⟨.press (0, 48), 0⟩

/-- the fresh state satisfies the invariant with nothing read yet -/
example : Inv freshW [.keyCode 16, .keyCode 17, .keyCode 45] 3 1 [] :=
  ⟨rfl, rfl, rfl, Or.inr rfl⟩

/-- one more tap, seen on the second tick (release first, then the press) -/
example : TapBatches freshW 3 1 2 [[relA], [prA]] :=
  TapBatches.cons (quiets := [[relA]]) (b := [prA]) (rest := []) (m := 0) (g := 0)
    (by intro x hx; simp at hx; subst hx; intro s hs; simp at hs; subst hs; rfl)
    ⟨by decide, by decide⟩ (by decide) TapBatches.nil

/-- … and `tapdance_nth` then says: decided on tick 2 + 3 on the second action, `w` (17) -/
example : ∃ w', tdDrive freshW [] ([[relA], [prA]] ++ [[relA], [], []]) =
    .ok (5, w', [relA], some .tap) ∧ w'.tap = .keyCode 17 := ⟨_, rfl, rfl⟩

/-- the hypotheses of `taps_beyond_list_stay_queued` on the burst witness: three taps queued, list of 2 -/
example : ¬ (([relA, prA, relA, prA, relA] : List Queued).length % 256 == burstW.prevQueueLen && burstW.timeout > 0) = true ∧
    burstW.timeout ≠ 0 ∧ 2 ≤ seenTaps burstW [relA, prA, relA, prA, relA] := by decide
example : Alt false (keyEvs freshW [relA, prA, relA]) := ⟨rfl, rfl, rfl, trivial⟩
example : interrupted freshW [relA, prB] = true := by decide
example : decidesOn (cd lateW) 2 1 [relA, prA, relA] = some 1 := by decide
example : Accepted [.keyCode 16, .keyCode 17] 3 := ⟨by simp, by decide⟩
/-- an uncounted press is queued: the hypothesis of `late_tap_is_dropped` / `no_press_is_lost` -/
example : 1 - 1 < nPr lateW [relA, prA, relA] := by decide
/-- three taps queued behind the opening press, two of them counted: the key's events left are those
after the first two release/press pairs -/
example : keyEvs freshW (evictTaps freshW 3 [relA, prA, relA, prA, relA, prA]) = [false, true] := by decide

end KVerif.C17
