/-
C10 — switch and fork conditions evaluate exactly as written in the configuration.
Property theorems only; helper lemmas are in KVerif/Lemmas/Switch*.lean.
-/
import KVerif.Lemmas.SwitchChk
import KVerif.Gen.Consts
import KVerif.Model.Layout
namespace KVerif.Switch

/-- **eval_compile** (full).  For every key-match list `es` in which every operator has at least one
operand, whose leaves are in the ranges the opcode constructors assert, nested no deeper than the
evaluator's 8-slot stack allows and with end indices that fit the 12-bit field, and for every state
`env` of the layout, the evaluator run on the compiled opcodes returns — without a crash — exactly
the truth value the configuration text denotes. -/
theorem eval_compile (es : List BExpr) (env : Env)
    (hne : BExpr.NEList es) (hr : BExpr.InRangeList es)
    (hd : BExpr.depthList es ≤ MAX_BOOL_EXPR_DEPTH) (he : BExpr.EndsOKList 0 es) :
    evalOps (compileListAt 0 es) env = .ok (denTop env es) := by
  cases es with
  | nil => rfl
  | cons e r =>
    have hlay := layL_compile env (e :: r) [] [] hr he
    rw [List.nil_append, List.append_nil] at hlay
    -- the initial state is that of the group `(or e r…)` at index 0 with no group around it
    exact run_cfg _ env _ _ 0 (.or, e :: r, _) [] true
      ⟨by rw [compileListAt_length, Nat.zero_add], hlay, hne, by rwa [List.length_nil, Nat.zero_add], rfl⟩
      (by simp only [fuelFor, List.length_nil]; omega)

/-- **eval_parsed** (full).  Whatever opcode array the parser's compiler accepts for a key-match list
(its own length and depth checks are the only ones relied on), evaluating it gives the denotation. -/
theorem eval_parsed (es : List BExpr) (ops : List Nat) (env : Env)
    (hc : compileTop es = .ok ops) (hne : BExpr.NEList es) (hr : BExpr.InRangeList es) :
    evalOps ops env = .ok (denTop env es) := by
  obtain ⟨h1, h2, h3⟩ := compileTop_ok es ops hc
  subst h1
  exact eval_compile es env hne hr h2 h3

/-- **eval_no_crash**: in particular the depth `assert!`, the `expect` on two-word opcodes and the
`unreachable!` arms are never reached on parser output. -/
theorem eval_no_crash (es : List BExpr) (ops : List Nat) (env : Env)
    (hc : compileTop es = .ok ops) (hne : BExpr.NEList es) (hr : BExpr.InRangeList es) :
    ∃ b, evalOps ops env = .ok b := ⟨_, eval_parsed es ops env hc hne hr⟩

/-- Specification of case iteration: indices of the cases that fire, top to bottom; `break` stops,
`fallthrough` continues. -/
def specFiring (env : Env) : Nat → List (List BExpr × BrkFt) → List Nat
  | _, [] => []
  | i, (es, bf) :: rest =>
    if denTop env es then
      match bf with
      | .brk => [i]
      | .ft => i :: specFiring env (i + 1) rest
    else specFiring env (i + 1) rest

/-- **cases_spec** (full): `SwitchActions::next` run over parser-compiled cases yields exactly the
cases whose written condition is true, in order, stopping after the first firing `break`. -/
theorem cases_spec (env : Env) (cases : List (List BExpr × BrkFt)) (i : Nat)
    (h : ∀ c ∈ cases, BExpr.NEList c.1 ∧ BExpr.InRangeList c.1 ∧
      BExpr.depthList c.1 ≤ MAX_BOOL_EXPR_DEPTH ∧ BExpr.EndsOKList 0 c.1) :
    firing (fun ops => evalOps ops env) i (cases.map fun c => (compileListAt 0 c.1, c.2)) =
      .ok (specFiring env i cases) := by
  induction cases generalizing i with
  | nil => rfl
  | cons c rest ih =>
    obtain ⟨es, bf⟩ := c
    obtain ⟨⟨h1, h2, h3, h4⟩, hr⟩ := List.forall_mem_cons.mp h
    simp only [List.map_cons, firing, specFiring, eval_compile es env h1 h2 h3 h4, ih _ hr]
    cases denTop env es <;> cases bf <;> rfl

/-- **fires_iff** (full): case `k` fires iff its condition is true and no earlier case with a true
condition is a `break`. -/
theorem fires_iff (env : Env) (cases : List (List BExpr × BrkFt)) (i k : Nat) :
    k ∈ specFiring env i cases ↔
      ∃ j, k = i + j ∧ ∃ c, cases[j]? = some c ∧ denTop env c.1 = true ∧
        ∀ j' < j, ∀ c', cases[j']? = some c' → denTop env c'.1 = true → c'.2 = .ft := by
  induction cases generalizing i with
  | nil => simp [specFiring]
  | cons c rest ih =>
    obtain ⟨es, bf⟩ := c
    refine Iff.trans ?_ (exists_index_cons (fun c => denTop env c.1 = true)
      (fun c => denTop env c.1 = true → c.2 = .ft) (es, bf) rest i k).symm
    rw [← ih (i + 1)]
    simp only [specFiring]
    cases denTop env es <;> cases bf <;> simp

/-- The thresholds a `key-timing` test really compares with (lossy compression), for all 65 536
values, by arithmetic. -/
theorem eff_threshold_bounds (t : Nat) (ht : t < 65536) :
    effTicks t ≤ t ∧ (t ≤ 255 → effTicks t = t) ∧ (t ≤ 2303 → t ≤ effTicks t + 7) ∧
      t ≤ effTicks t + 127 := by
  by_cases h1 : t ≤ 255
  · rw [effTicks_low h1]; omega
  by_cases h2 : t ≤ 2303
  · rw [effTicks_mid (by omega) h2]; omega
  rw [effTicks_high (by omega)]; omega

/-- the test of the `Fork` arm on a list of key codes -/
def forkRight (active : List Nat) (triggers : List Nat) : Bool := active.any (triggers.contains ·)

/-- **fork_spec** (full): fork takes its right branch iff one of its trigger keys is among the
active key codes (`fork` is modelled in `Model.Layout`; this is the decision it takes). -/
theorem fork_spec (active triggers : List Nat) :
    forkRight active triggers = true ↔ ∃ k, k ∈ active ∧ k ∈ triggers := by
  simp [forkRight, List.any_eq_true]

/-- **consts_from_source**: the constants the model uses are the ones in the source tree now
(`KVerif.Gen.Consts` is regenerated from /repo on every run). -/
theorem consts_from_source :
    KEY_MAX = Gen.KEY_MAX ∧ MAX_OPCODE_LEN = Gen.SW_MAX_OPCODE_LEN ∧
    MAX_BOOL_EXPR_DEPTH = Gen.SW_MAX_BOOL_EXPR_DEPTH ∧ OR_VAL = Gen.SW_OR_VAL ∧
    AND_VAL = Gen.SW_AND_VAL ∧ NOT_VAL = Gen.SW_NOT_VAL ∧ INPUT_VAL = Gen.SW_INPUT_VAL ∧
    HISTORICAL_INPUT_VAL = Gen.SW_HISTORICAL_INPUT_VAL ∧ LAYER_VAL = Gen.SW_LAYER_VAL ∧
    BASE_LAYER_VAL = Gen.SW_BASE_LAYER_VAL ∧ TICKS_SINCE_VAL_GT = Gen.SW_TICKS_SINCE_VAL_GT ∧
    TICKS_SINCE_VAL_LT = Gen.SW_TICKS_SINCE_VAL_LT ∧
    HISTORICAL_KEYCODE_VAL = Gen.SW_HISTORICAL_KEYCODE_VAL ∧ Gen.SW_OP_MASK = 0xF000 ∧
    Gen.SW_MAX_KEY_RECENCY = 7 ∧ Gen.ACTION_QUEUE_LEN = 8 ∧ Gen.MAX_LAYERS = 60000 ∧
    Gen.lossyArmsAsModelled = true := by decide

/-! ### The pinned code was wrong (kept as documentation of the repaired defect) -/

/-- `((not (or a)) b)` with nothing active: the pinned evaluator says `false`, the text says `true`. -/
def witnessExpr : List BExpr :=
  [.node .not [.node .or [.leaf (.key 4)]], .leaf (.key 5)]
def witnessEnv : Env :=
  { activeKeys := [], activeCoords := [], histKeys := [], histCoords := [], layers := [], defaultLayer := 0 }

theorem pinned_counterexample :
    evalOpsPinned (compileListAt 0 witnessExpr) witnessEnv = .ok false ∧
      denTop witnessEnv witnessExpr = true ∧
      evalOps (compileListAt 0 witnessExpr) witnessEnv = .ok true := ⟨rfl, rfl, rfl⟩

/-! ### Non-vacuity: a deep, non-trivial expression meets every hypothesis -/

def sampleExpr : List BExpr :=
  [.node .and [.leaf (.key 30), .node .not [.node .or [.leaf (.ticksLt 0 300), .leaf (.input 1 7)]],
     .node .or [.node .and [.node .not [.node .or [.node .and [.node .not [.leaf (.layer 2)]]]]]]],
   .leaf (.baseLayer 1)]

example : BExpr.NEList sampleExpr := by
  simp [sampleExpr, BExpr.NEList, BExpr.NE]
example : BExpr.InRangeList sampleExpr := by
  simp [sampleExpr, BExpr.InRangeList, BExpr.InRange, Leaf.InRange, KEY_MAX]
example : BExpr.depthList sampleExpr = 8 := rfl
example : BExpr.EndsOKList 0 sampleExpr := by
  simp [sampleExpr, BExpr.EndsOKList, BExpr.EndsOK, BExpr.sizeList, BExpr.size, Leaf.width,
    MAX_OPCODE_LEN]
example : ∃ ops, compileTop sampleExpr = .ok ops := by
  cases h : compileTop sampleExpr with
  | ok ops => exact ⟨ops, rfl⟩
  | error d =>
    have : (compileTop sampleExpr).toBool = true := by decide +kernel
    rw [h] at this
    cases this

end KVerif.Switch


/-! ## Layout level: where `fork` and `switch` get their operands, and what is done with the result

`Model/Layout.lean` transcribes `Layout::do_action`; the theorems below are about that transcription
(tied to the code by the layout-level correspondence cases of this check and of C01/C04/LALL). -/
namespace KVerif.L
open KVerif.Switch (BExpr BrkFt denTop compileListAt evalOps MAX_BOOL_EXPR_DEPTH)

/-- **fork_reads_active_keys** (full): the test the `Fork` arm makes is "some trigger key is among
the key codes the layout currently reports" — `Layout::keycodes`, i.e. every key state, whether a
physical key, a one-shot, a virtual key or a running macro put it there. -/
theorem fork_reads_active_keys (s : Layout) (triggers : List KeyCode) :
    forkHit s triggers = true ↔ ∃ kc, kc ∈ s.keycodes ∧ kc ∈ triggers := by
  have : forkHit s triggers = Switch.forkRight s.keycodes triggers := by
    unfold forkHit Layout.keycodes Switch.forkRight
    rw [List.any_filterMap]
    congr; funext st; cases st <;> rfl
  rw [this]
  exact Switch.fork_spec _ _

/-- **fork_takes_right_iff** (full): `fork` performs its right action iff a trigger key is active,
its left action otherwise — and nothing else (the only other effect is that the fork becomes the
action `rpt` repeats). -/
theorem fork_takes_right_iff (fuel : Nat) (s : Layout) (l r : Action) (triggers : List KeyCode)
    (coord : Coord) (delay : Nat) (os : Bool) (ls : List Nat) :
    dispatch (fuel + 1) s (.fork l r triggers) coord delay os ls =
      (match doAction fuel s (if (∃ kc, kc ∈ s.keycodes ∧ kc ∈ triggers) then r else l) coord delay false ls with
       | .error c => .error c
       | .ok (s', cu) => .ok ({ s' with rptAction := some (.fork l r triggers) }, cu)) := by
  simp only [dispatch, fork_reads_active_keys]
  rfl

/-- **switch_reads_state** (full): the operands `switch` evaluates its conditions on are the
layout's own state at that moment: active keys = `Layout::keycodes`, active inputs = the coordinates
of the states, the two 8-deep histories, the active layers in lookup order and the base layer. -/
theorem switch_reads_state (s : Layout) (order : List Nat) :
    (switchEnv s order).activeKeys = s.keycodes ∧
    (switchEnv s order).activeCoords = s.states.filterMap St.coord ∧
    (switchEnv s order).histKeys = s.histKeys ∧ (switchEnv s order).histCoords = s.histInputs ∧
    (switchEnv s order).layers = order ∧ (switchEnv s order).defaultLayer = s.defaultLayer % 65536 :=
  ⟨rfl, rfl, rfl, rfl, rfl, rfl⟩

/-- the actions of the cases that fire, top to bottom; `break` stops -/
def specActions (env : Switch.Env) : List (List BExpr × Action × Bool) → List Action
  | [] => []
  | (es, a, brk) :: rest =>
    if denTop env es then (if brk then [a] else a :: specActions env rest) else specActions env rest

/-- **switch_actions_spec** (full): run over parser-compiled cases, the case iterator the `Switch`
arm drains yields exactly the actions of the cases whose written condition is true of the state, in
order, up to and including the first firing `break`. -/
theorem switch_actions_spec (env : Switch.Env) (cases : List (List BExpr × Action × Bool))
    (h : ∀ c ∈ cases, BExpr.NEList c.1 ∧ BExpr.InRangeList c.1 ∧
      BExpr.depthList c.1 ≤ MAX_BOOL_EXPR_DEPTH ∧ BExpr.EndsOKList 0 c.1) :
    switchActions (fun ops => evalOps ops env) (cases.map fun c => (compileListAt 0 c.1, c.2)) =
      .ok (specActions env cases) := by
  induction cases with
  | nil => rfl
  | cons c rest ih =>
    obtain ⟨es, a, brk⟩ := c
    obtain ⟨⟨h1, h2, h3, h4⟩, hr⟩ := List.forall_mem_cons.mp h
    simp only [List.map_cons, switchActions, specActions, Switch.eval_compile es env h1 h2 h3 h4,
      ih hr]
    cases denTop env es <;> cases brk <;> rfl

/-- pushing actions onto the 8-slot action queue, in order (the oldest entry is dropped when full) -/
def queueAll (coord : Coord) (aq : List (Coord × Nat × Action)) (acs : List Action) : List (Coord × Nat × Action) :=
  acs.foldl (fun aq a => (pushBackWrap ACTION_QUEUE_LEN aq (coord, 0, a)).1) aq

/-- **switch_queues_firing_actions** (full): the `Switch` arm hands every firing case's action, in
order, to the action queue (8 slots, the oldest is dropped when more are pushed), evaluated on the
state at that moment; it changes nothing else. -/
theorem switch_queues_firing_actions (fuel : Nat) (s : Layout) (order : List Nat)
    (cases : List (List BExpr × Action × Bool)) (coord : Coord) (delay : Nat) (os : Bool) (ls : List Nat)
    (ho : s.transOrder = .ok order)
    (h : ∀ c ∈ cases, BExpr.NEList c.1 ∧ BExpr.InRangeList c.1 ∧
      BExpr.depthList c.1 ≤ MAX_BOOL_EXPR_DEPTH ∧ BExpr.EndsOKList 0 c.1) :
    dispatch (fuel + 1) s (.switch (cases.map fun c => (compileListAt 0 c.1, c.2))) coord delay os ls =
      .ok ({ s with actionQueue := queueAll coord s.actionQueue (specActions (switchEnv s order) cases) }, .noEvent) := by
  simp only [dispatch, ho, switch_actions_spec (switchEnv s order) cases h, queueAll]

example (s : Layout) : forkHit { s with states := [.fakeKey 42] } [42, 54] = true := rfl
example (s : Layout) : forkHit { s with states := [.layerModifier 1 (0, 3)] } [42, 54] = false := rfl

end KVerif.L
