/-
C09 — input chords fire for exactly the pressed key set, in any press order (chords v1: `defchords`;
chords v2 is in Props/C09V2.lean).
Property theorems only; helper lemmas are in Lemmas/Chord.lean, ChordDecomp.lean, ChordTick.lean,
ChordLayout.lean. Everything is about the model functions of Model/Layout.lean (`handleChord`,
`chordFold`, `chordRetain`, `decomposeChord`, `tickWt`, `tickMain`, `waitingIntoTap`, `dequeue`),
for ALL waiting states, tables, queues and action queues — no bound on sizes, timeouts or masks.

Vocabulary (Lemmas/Chord.lean), relative to a pending chord `w` of group `g`:
  `skipped w s`     the event arrived more than the timeout after the first key (`delay − since > timeout`)
  `chordPress w g s` a press of a key of the group inside the window   — a *participant*
  `stops w g s`     the release of a key of the group, or the press of any other key, inside the window
  `scanPre / scanRest`  the queue before / from the first stop event
  `participants`    the participating presses before the first stop event
  `chordActive`     OR of the first key's mask and the participants' masks
-/
import KVerif.Lemmas.ChordLayout
namespace KVerif.C09
open KVerif.L

/-! ### Sample objects for the non-vacuity examples: keys a b c d (masks 1 2 4 8), chords (a) (a b) (a b c) -/
def sampleG : ChordsGroup :=
  { coords := [((0, 30), 1), ((0, 48), 2), ((0, 46), 4), ((0, 32), 8)],
    chords := [(1, .keyCode 2), (3, .keyCode 3), (7, .keyCode 4)], timeout := 50 }
def sampleW : Waiting :=
  { coord := (0, 30), timeout := 49, delay := 1, ticks := 1, hold := .noOp, tap := .noOp, timeoutAction := .noOp,
    config := .chord sampleG, layerStack := [0], prevQueueLen := 255 }
def sampleW2 : Waiting := { sampleW with timeout := 50, ticks := 0 }
def sampleQ : List Queued := [⟨.press (0, 48), 1⟩, ⟨.press (0, 46), 1⟩]
def sampleQ1 : List Queued := [⟨.press (0, 48), 1⟩]
def sampleQstop : List Queued := [⟨.press (0, 48), 1⟩, ⟨.press (0, 33), 1⟩, ⟨.press (0, 32), 1⟩]

/-! ## 1. What `handle_chord` computes, for every queue -/

/-- **handle_chord_characterisation** (full).  The queue scan (`try_fold`) and the final `retain` of
`handle_chord` collapse to: split the queue at the first stop event; the active mask is the OR of the
first key and the participating presses before it; if nothing stopped the scan and time is left the
chord fires only if it is unambiguous, else the decision waits; otherwise (stop event or timeout)
the chord defined for exactly the active set fires, or the set is decomposed.  Whenever a decision
is taken, exactly the participating presses leave the queue (reported, in queue order, after the
first key, as the pressed queue) and everything else stays in its original order. -/
theorem handle_chord_characterisation (w : Waiting) (g : ChordsGroup) (q : List Queued) (aq : ActionQueue) :
    handleChord w g q aq =
      if fastPath w q then (w, q, aq, none) else
      if (scanRest w g q).isEmpty && !(w.timeout - w.delay == 0) then
        match g.getChordIfUnambiguous (chordActive w g q) with
        | some a => ({ w with prevQueueLen := q.length % 256 }, keptQueue w g q, aq, some (.tap, a, pressedQueue w g q))
        | none => ({ w with prevQueueLen := q.length % 256 }, q, aq, none)
      else
        match g.getChord (chordActive w g q) with
        | some a => (moveTo { w with prevQueueLen := q.length % 256 } (releasedBy g (scanRest w g q)), keptQueue w g q, aq,
                     some (.tap, a, pressedQueue w g q))
        | none => ({ w with prevQueueLen := q.length % 256 }, keptQueue w g q,
                   decomposeChord { w with prevQueueLen := q.length % 256 } g q aq,
                   some (.noOp, .noOp, pressedQueue w g q)) :=
  handleChord_closed w g q aq

example : (scanRest sampleW sampleG sampleQ).isEmpty = true ∧ fastPath sampleW sampleQ = false := by
  decide

/-- **kept_queue_order** (full).  What stays in the queue is a subsequence of the queue (original
order), and it contains every event that is not a participating press — in particular every press or
release of a key outside the group, and every event from the first stop event on. -/
theorem kept_queue_order (w : Waiting) (g : ChordsGroup) (q : List Queued) :
    (keptQueue w g q).Sublist q ∧ (q.filter (fun s => !chordPress w g s)).Sublist (keptQueue w g q) ∧
    ∃ pre, keptQueue w g q = pre ++ scanRest w g q := by
  refine ⟨?_, ?_, ⟨_, rfl⟩⟩
  · conv => rhs; rw [← scan_append w g q]
    exact List.Sublist.append List.filter_sublist (List.Sublist.refl _)
  · conv => lhs; rw [← scan_append w g q]
    rw [List.filter_append]
    exact List.Sublist.append (List.Sublist.refl _) List.filter_sublist

/-! ## 2. Order independence -/

/-- **chord_v1_order_independent** (full).  Take any queue without a stop event (the other keys of
the chord, pressed within the window; events outside the window and releases of foreign keys may be
mixed in) and ANY permutation of it.  Both orders have the same participants up to order and the same
active mask — the OR of the first key's mask and the participants' masks — and `handle_chord` takes
the same decision (nothing yet / tap with the same action / decomposition) on both. -/
theorem chord_v1_order_independent (w : Waiting) (g : ChordsGroup) (q1 q2 : List Queued) (aq : ActionQueue)
    (hp : q1.Perm q2) (hb : Benign w g q1) :
    Benign w g q2 ∧
    (participants w g q1).Perm (participants w g q2) ∧
    chordActive w g q1 = (g.getKeys w.coord).getD 0 ||| orMasks ((q1.filter (chordPress w g)).map (maskOf g)) ∧
    chordActive w g q2 = chordActive w g q1 ∧
    (handleChord w g q2 aq).2.2.2.map (fun r => (r.1, r.2.1)) = (handleChord w g q1 aq).2.2.2.map (fun r => (r.1, r.2.1)) := by
  have hb2 : Benign w g q2 := fun s hs => hb s (hp.mem_iff.mpr hs)
  have hpp : (participants w g q1).Perm (participants w g q2) := by
    rw [(benign_participants hb).1, (benign_participants hb2).1]
    exact hp.filter _
  have ha : chordActive w g q2 = chordActive w g q1 := (accMask_perm g hpp _).symm
  refine ⟨hb2, hpp, ?_, ha, ?_⟩
  · rw [chordActive, accMask_eq, (benign_participants hb).1]
  · rw [handleChord_decision, handleChord_decision, fastPath, fastPath, hp.length_eq, (benign_scan hb).2,
      (benign_scan hb2).2, ha]

example : sampleQ.Perm sampleQ.reverse ∧ Benign sampleW sampleG sampleQ :=
  ⟨(List.reverse_perm _).symm, by unfold Benign; decide⟩

/-- **chord_v1_fires_exact_set** (full).  If the pressed set (first key plus participants, in
whatever order they were queued) is exactly the key set `C` of a defined chord with action `a`, and
no defined chord is a strict superset of `C` (or the timeout has expired), `handle_chord` answers
Tap with that chord's action on the first scan; exactly the participating presses are removed from
the queue and returned, in queue order, behind the first key; all other events stay, in order. -/
theorem chord_v1_fires_exact_set (w : Waiting) (g : ChordsGroup) (q : List Queued) (aq : ActionQueue)
    (hb : Benign w g q) (C : Nat) (a : Action) (hC : chordActive w g q = C) (hdef : g.getChord C = some a)
    (hnd : (g.chords.map (·.1)).Nodup) (hns : ¬ hasSuperset g.chords C ∨ w.timeout - w.delay = 0)
    (hnf : fastPath w q = false) :
    handleChord w g q aq =
      ({ w with prevQueueLen := q.length % 256 }, q.filter (fun s => !chordPress w g s), aq,
       some (.tap, a, (w.coord :: (q.filter (chordPress w g)).map (·.ev.coord)).take QUEUE_SIZE)) := by
  rw [handleChord_closed, hnf, if_neg Bool.false_ne_true, (benign_scan hb).2, hC, pressedQueue,
    (benign_participants hb).1, (benign_participants hb).2]
  cases ht : w.timeout - w.delay == 0
  · -- time is left: the early decision is taken because nothing larger is defined
    have hns' : ¬ hasSuperset g.chords C := hns.resolve_right (ne_of_beq_false ht)
    rw [unambiguous_eq_getChord g C hns' hnd, hdef]
    rfl
  · rw [hdef]
    rfl

example : sampleG.getChord (chordActive sampleW sampleG sampleQ) = some (.keyCode 4) ∧
    ¬ hasSuperset sampleG.chords 7 := by
  refine ⟨rfl, ?_⟩
  unfold hasSuperset
  decide

/-! ## 3. Ambiguity and the timeout -/

def ageN : Nat → List Queued → List Queued
  | 0, q => q
  | n + 1, q => ageN n (ageQ q)

/-- `n` ticks of a pending chord whose queue only ages; stops at the first tick with a decision.
Returns the number of ticks consumed. -/
def chordTicks (aq : ActionQueue) : Nat → Waiting → List Queued →
    Except Crash (Nat × Waiting × List Queued × ActionQueue × Option (WAct × Option (List Coord)))
  | 0, w, q => .ok (0, w, q, aq, none)
  | n + 1, w, q =>
    match tickWt w (ageQ q) aq with
    | .error c => .error c
    | .ok (w', q', aq', some r) => .ok (1, w', q', aq', some r)
    | .ok (w', q', _, none) =>
      match chordTicks aq n w' q' with
      | .error c => .error c
      | .ok (k, r) => .ok (k + 1, r)

theorem chordTicks_decided {aq aq' : ActionQueue} {w w' : Waiting} {q q' : List Queued} {r : WAct × Option (List Coord)}
    (h : tickWt w (ageQ q) aq = .ok (w', q', aq', some r)) (n : Nat) :
    chordTicks aq (n + 1) w q = .ok (1, w', q', aq', some r) := by
  rw [chordTicks, h]

theorem chordTicks_waiting {aq aq' : ActionQueue} {w w' : Waiting} {q q' : List Queued}
    (h : tickWt w (ageQ q) aq = .ok (w', q', aq', none)) (n : Nat) :
    chordTicks aq (n + 1) w q =
      match chordTicks aq n w' q' with
      | .error c => .error c
      | .ok (k, r) => .ok (k + 1, r) := by
  rw [chordTicks, h]

/-- **chord_timeout_exact** (full).  All other keys of a chord are queued (any order), the pressed
set `A` has a defined strict superset, and nothing else happens.  Then for every timeout the
decision is taken on exactly the tick on which the countdown reaches the first key's queueing delay
— tick `T − d` after the waiting state was created, i.e. `T` ticks after the first key was pressed —
and on no earlier tick: the chord defined for exactly `A` fires (Tap, with the pressed queue = first
key, then the others in queue order), or, if `A` is not a defined chord, it is decomposed. -/
theorem chord_timeout_exact (g : ChordsGroup) (aq : ActionQueue) : ∀ (k : Nat) (w : Waiting) (q : List Queued),
    w.config = .chord g → w.delay ≤ U16_MAX → w.timeout = w.delay + k + 1 → AllPress w g q →
    hasSuperset g.chords (chordActive w g q) →
    (∀ n, n ≤ k → ∃ w', chordTicks aq n w q = .ok (n, w', ageN n q, aq, none) ∧ w'.timeout = w.timeout - n) ∧
    (∀ n, k < n → ∃ w' aq', chordTicks aq n w q =
        .ok (k + 1, w', [], aq', some (if (g.getChord (chordActive w g q)).isSome then .tap else .noOp,
                                        some ((w.coord :: q.map (·.ev.coord)).take QUEUE_SIZE))) ∧
      w'.tap = (g.getChord (chordActive w g q)).getD .noOp ∧ w'.coord = w.coord ∧
      ((g.getChord (chordActive w g q)).isSome → aq' = aq)) := by
  intro k
  induction k with
  | zero =>
    intro w q hc hd ht hb hs
    refine ⟨fun n hn => ?_, fun n hn => ?_⟩
    · obtain rfl : n = 0 := Nat.le_zero.mp hn
      exact ⟨w, rfl, rfl⟩
    · obtain ⟨m, rfl⟩ := Nat.exists_eq_succ_of_ne_zero (Nat.ne_of_gt hn)
      have hstep := chord_decide_step w g hc q aq hb hd (ht ▸ Nat.succ_pos _)
        (by rw [ht, Nat.add_sub_cancel, Nat.add_zero, Nat.sub_self])
      cases hg : g.getChord (chordActive w g q) with
      | some a =>
        rw [hg] at hstep
        exact ⟨_, aq, chordTicks_decided hstep m, rfl, rfl, fun _ => rfl⟩
      | none =>
        rw [hg] at hstep
        exact ⟨_, _, chordTicks_decided hstep m, rfl, rfl, fun h => Bool.noConfusion h⟩
  | succ k ih =>
    intro w q hc hd ht hb hs
    obtain ⟨w1, hstep, hc1, hd1, hco1, ht1, hb1, ha1⟩ := chord_wait_step w g hc q aq hb hd
      (by rw [ht, Nat.add_sub_cancel, Nat.add_sub_cancel_left]; exact Nat.succ_pos k) hs
    obtain ⟨i1, i2⟩ := ih w1 (ageQ q) (hc1.trans hc) (hd1 ▸ hd) (by rw [ht1, hd1, ht, Nat.add_sub_cancel]; rfl) hb1 (ha1 ▸ hs)
    rw [ha1, hco1, ageQ_coords] at i2
    refine ⟨fun n hn => ?_, fun n hn => ?_⟩
    · cases n with
      | zero => exact ⟨w, rfl, rfl⟩
      | succ m =>
        obtain ⟨w2, g1, g2⟩ := i1 m (Nat.le_of_succ_le_succ hn)
        exact ⟨w2, by rw [chordTicks_waiting hstep, g1]; rfl, by rw [g2, ht1, Nat.sub_sub, Nat.add_comm]⟩
    · obtain ⟨m, rfl⟩ := Nat.exists_eq_succ_of_ne_zero (Nat.ne_of_gt (Nat.zero_lt_of_lt hn))
      obtain ⟨w2, aq2, g1, g2, g3, g4⟩ := i2 m (Nat.lt_of_succ_lt_succ hn)
      exact ⟨w2, aq2, by rw [chordTicks_waiting hstep, g1], g2, g3, g4⟩

example : AllPress sampleW2 sampleG sampleQ1 ∧ hasSuperset sampleG.chords (chordActive sampleW2 sampleG sampleQ1) ∧
    sampleW2.timeout = sampleW2.delay + 48 + 1 :=
  ⟨by unfold AllPress; decide,
   ⟨(7, .keyCode 4), List.mem_cons_of_mem _ (List.mem_cons_of_mem _ List.mem_cons_self), by decide, by decide⟩, rfl⟩

/-- **chord_stop_event_decides** (full).  As soon as a scan sees a stop event inside the window — a
key of the group is released, or ANY other key is pressed — the decision is taken on that scan
(never "wait"); the stop event itself and everything behind it remain in the queue, in order, to be
processed by the following ticks (`C05.buffered_events_replayed_in_order`). -/
theorem chord_stop_event_decides (w : Waiting) (g : ChordsGroup) (q : List Queued) (aq : ActionQueue)
    (hnf : fastPath w q = false) (s : Queued) (post : List Queued) (hr : scanRest w g q = s :: post) :
    ∃ w' aq' r a, handleChord w g q aq =
        (w', (scanPre w g q).filter (fun x => !chordPress w g x) ++ s :: post, aq', some (r, a, pressedQueue w g q)) ∧
      (r = .tap ∧ g.getChord (chordActive w g q) = some a ∧ aq' = aq ∨
       r = .noOp ∧ g.getChord (chordActive w g q) = none) := by
  rw [handleChord_closed, hnf, if_neg Bool.false_ne_true, keptQueue, hr, List.isEmpty_cons, Bool.false_and,
    if_neg Bool.false_ne_true]
  cases hg : g.getChord (chordActive w g q) with
  | some a => exact ⟨_, _, _, _, rfl, Or.inl ⟨rfl, rfl, rfl⟩⟩
  | none => exact ⟨_, _, _, _, rfl, Or.inr ⟨rfl, rfl⟩⟩

example : scanRest sampleW sampleG sampleQstop = [⟨.press (0, 33), 1⟩, ⟨.press (0, 32), 1⟩] := by decide

/-! ## 4. Decomposition -/

/-- **decompose_covers** (full).  When the pressed set is not a defined chord, the action queue
receives, in order, the entries of THE greedy decomposition of the press order:
* `keys` — the first key's mask, then the masks of the participating presses that add a new key, in
  queue (= press) order (a subsequence of the participants' masks);
* the pushed entries are disjoint runs of consecutive pressed keys in increasing order (`Covers`):
  each run is a defined chord with its table action (nothing is invented) and is the LONGEST defined
  run starting at its first key; a key outside every run starts no defined run at all — in
  particular it has no defined singleton: such keys, and only such keys, are dropped by the code;
* `Covers` has exactly one solution, so this is a specification, not a restatement of the loop;
* the loop's fuel (`keys.length`) is enough (`segs_fuel_enough`);
* capacity: one entry per run, at most `keys.length`; as long as the action queue has room for them
  (8 slots) nothing is lost and the entries are appended in order. -/
theorem decompose_covers (w : Waiting) (g : ChordsGroup) (q : List Queued) (aq : ActionQueue) :
    let start := (g.getKeys w.coord).getD 0
    let keys := start :: newMasks g start (participants w g q)
    let dflt := (releasedBy g (scanRest w g q)).getD w.coord
    let L := segs g keys keys.length 0
    let entries := L.map (entryOf w g dflt q keys (min (w.delay + w.ticks) U16_MAX))
    (newMasks g start (participants w g q)).Sublist ((participants w g q).map (maskOf g)) ∧
    decomposeChord w g q aq = pushAll aq entries ∧
    Covers g keys 0 L ∧ (∀ L', Covers g keys 0 L' → L' = L) ∧
    L.length ≤ keys.length ∧
    (aq.length + L.length ≤ ACTION_QUEUE_LEN → decomposeChord w g q aq = aq ++ entries) := by
  intro start keys dflt L entries
  have hd : decomposeChord w g q aq = pushAll aq entries := by
    unfold decomposeChord
    simp only [decomposeFold_closed]
    rw [decomposeLoop_eq]
    rfl
  have hc : Covers g keys 0 L := segs_covers g keys keys.length 0 (Nat.le_refl _)
  refine ⟨newMasks_sublist g _ _, hd, hc, fun L' h => Covers_unique g keys L' L 0 h hc, Covers_length g keys L 0 hc, ?_⟩
  · intro h
    rw [hd, pushAll_fits aq entries (by simp only [entries, List.length_map]; exact h)]

/-- **decompose_keeps_defined_singletons** (full).  No pressed key that has a defined singleton (or
starts any defined run) is swallowed: it lies inside one of the queued runs. -/
theorem decompose_keeps_defined_singletons (g : ChordsGroup) (keys : List Nat) (j : Nat) (hj : j < keys.length)
    (a : Action) (hs : g.getChord keys[j] = some a) :
    ∃ seg ∈ segs g keys keys.length 0, seg.1 ≤ j ∧ j < seg.2.1 := by
  rcases Covers_total g keys _ 0 (segs_covers g keys keys.length 0 (Nat.le_refl _)) j (Nat.zero_le _) hj with h | h
  · exact h
  · have := h (j + 1) (Nat.lt_succ_self j) hj
    rw [orSeg_single keys j hj, hs] at this
    cases this

example : segs sampleG [1, 2, 4, 8] 4 0 = [(0, 3, .keyCode 4)] ∧ Undef sampleG [1, 2, 4, 8] 3 := by
  refine ⟨rfl, fun e h1 h2 => ?_⟩
  obtain rfl : e = 4 := Nat.le_antisymm h2 h1
  rfl

/-! ## 5. Layout level: the chord fires once; held while any participant is held; released with them -/

/-- **chord_fires_once** (full).  One tick of the layout with a chord pending does exactly one of:
(a) nothing but the countdown (state otherwise untouched, nothing output, nothing dequeued);
(b) the waiting state is consumed and ONE table action `a`, defined for exactly the active key set,
    is performed: once at the chord's coordinate (the first key's, or the released key's) and then
    repeated by `chordRepeat` on the pressed queue (first key + participants) — for the simple kinds
    (key, key list, one-shot, layer) so that it stays active while any participant is held; the
    participating presses are removed from the queue WITHOUT being dequeued, so no participant's
    own action is performed;
(c) no chord is defined for the active set: the waiting state is dropped, the participating presses
    leave the queue and the decomposition (`decompose_covers`) is appended to the action queue.
Since the waiting state is gone after (b)/(c), a chord cannot fire twice. -/
theorem chord_fires_once (s : Layout) (w : Waiting) (g : ChordsGroup) (hw : s.waiting = some w)
    (hc : w.config = .chord g) (s' : Layout) (cu : CustomEv) (h : tickMain s = .ok (s', cu)) :
    (∃ p, s' = { s with waiting := some { ticked w with prevQueueLen := p } } ∧ cu = .noEvent) ∨
    (∃ a c s1 s2, (chordActive (ticked w) g s.queue, a) ∈ g.chords ∧
      (c = w.coord ∨ releasedBy g (scanRest (ticked w) g s.queue) = some c) ∧
      doAction FUEL { s with waiting := none, queue := keptQueue (ticked w) g s.queue } a c
        (min (w.delay + min (w.ticks + 1) U16_MAX) U16_MAX) false w.layerStack = .ok (s1, cu) ∧
      chordRepeat a (pressedQueue (ticked w) g s.queue) (min (w.delay + min (w.ticks + 1) U16_MAX) U16_MAX) w.layerStack s1 = .ok s2 ∧
      s' = tapPost s2) ∨
    (g.getChord (chordActive (ticked w) g s.queue) = none ∧ cu = .noEvent ∧
      s' = { s with waiting := none, queue := keptQueue (ticked w) g s.queue,
                    actionQueue := decomposeChord { ticked w with prevQueueLen := s.queue.length % 256 } g s.queue s.actionQueue }) := by
  unfold tickMain at h
  simp only [hw] at h
  rcases tickWt_chord_cases w g hc s.queue s.actionQueue with ⟨p, e⟩ | ⟨a, hg, e⟩ | ⟨a, hg, hr, e⟩ | ⟨a, c, hg, hr, e⟩ | ⟨hg, e⟩
  · simp only [e, applyWaitingAction] at h
    injection h with h; injection h with h1 h2
    exact Or.inl ⟨p, h1.symm, h2.symm⟩
  -- the three ways to a tap: early decision, final decision, final decision moved to a released key
  · simp only [e, applyWaitingAction] at h
    obtain ⟨s1, s2, h1, h2, h3⟩ := waitingIntoTap_chord h rfl hc
    exact Or.inr (Or.inl ⟨a, w.coord, s1, s2, unambiguous_mem g _ a hg, Or.inl rfl, h1, h2, h3⟩)
  · simp only [e, applyWaitingAction] at h
    obtain ⟨s1, s2, h1, h2, h3⟩ := waitingIntoTap_chord h rfl hc
    exact Or.inr (Or.inl ⟨a, w.coord, s1, s2, getChord_mem g _ a hg, Or.inl rfl, h1, h2, h3⟩)
  · simp only [e, applyWaitingAction] at h
    obtain ⟨s1, s2, h1, h2, h3⟩ := waitingIntoTap_chord h rfl hc
    exact Or.inr (Or.inl ⟨a, c, s1, s2, getChord_mem g _ a hg, Or.inr hr, h1, h2, h3⟩)
  · simp only [e, applyWaitingAction] at h
    injection h with h; injection h with h1 h2
    exact Or.inr (Or.inr ⟨hg, h2.symm, h1.symm⟩)

/-- **chord_key_held_at_every_participant** (full, plain-key chord actions).  When the chord's action
is a key, `waiting_into_tap` presses that key once per participating coordinate and changes
`states` in no other way: every state afterwards is an old one or the chord's key at a
participant's coordinate; with room in `states` (64) the key is present at EVERY participant's
coordinate. -/
theorem chord_key_held_at_every_participant (s : Layout) (w : Waiting) (kc : KeyCode) (pq : List Coord)
    (hw : s.waiting = some w) (ht : w.tap = .keyCode kc) :
    ∃ s', waitingIntoTap s (some pq) none = .ok (s', .noEvent) ∧
      (∀ st ∈ s'.states, st ∈ s.states ∨ ∃ c ∈ w.coord :: pq, st = .normalKey kc c 0) ∧
      (s.states.length + (w.coord :: pq).length ≤ STATES_CAP → ∀ c ∈ w.coord :: pq, St.normalKey kc c 0 ∈ s'.states) := by
  obtain ⟨s', e, hs⟩ := keyCode_chord_tap s w kc pq hw ht
  refine ⟨s', e, ?_, ?_⟩
  · intro st h; rw [hs] at h; exact pushAllKeys_new kc _ _ st h
  · intro hl c hc; rw [hs]; exact pushAllKeys_all kc _ _ hl c hc

/-- releasing the coordinates `cs` one after the other (as `dequeue` does for each release event
while no one-shot key is active) -/
def releaseAll (cs : List Coord) (sts : List St) : List St :=
  cs.foldl (fun sts c => (releaseStates true c sts .noEvent).1) sts

/-- **chord_v1_release_bound** (full).  (1) Processing the release of coordinate `c` (no one-shot key
active) removes every state at `c` and adds nothing.  (2) So after the releases of any list of
coordinates — in any order — no state at any of them is left: a chord's output, which sits only at
participants' coordinates (`chord_key_held_at_every_participant`), is gone no later than the release
of the last participant.  (3) Conversely the chord's key at a participant that is still held
survives the releases of the others: the chord stays active while any participant is held. -/
theorem chord_v1_release_bound :
    (∀ (f : Nat) (s : Layout) (c : Coord) (since : Nat), s.oneshot.keys = [] →
      ∃ s' cu, dequeue (f + 1) s ⟨.release c, since⟩ = .ok (s', cu) ∧
        s'.states = (releaseStates true c s.states .noEvent).1 ∧
        ∀ st ∈ s'.states, st ∈ s.states ∧ st.coord ≠ some c) ∧
    (∀ (cs : List Coord) (sts : List St), ∀ st ∈ releaseAll cs sts, st ∈ sts ∧ ∀ c ∈ cs, st.coord ≠ some c) ∧
    (∀ (cs : List Coord) (sts : List St) (kc : KeyCode) (c : Coord), c ∉ cs → St.normalKey kc c 0 ∈ sts →
      St.normalKey kc c 0 ∈ releaseAll cs sts) := by
  refine ⟨?_, ?_, ?_⟩
  · intro f s c since ho
    obtain ⟨cu, e⟩ := dequeue_release f s c since ho
    exact ⟨_, cu, e, rfl, fun st h => ⟨(mem_releaseStates.mp h).1, (mem_releaseStates.mp h).2.2⟩⟩
  · intro cs
    induction cs with
    | nil => exact fun sts st h => ⟨h, fun c hc => nomatch hc⟩
    | cons c0 cs ih =>
      intro sts st h
      obtain ⟨h1, h2⟩ := ih _ st h
      obtain ⟨h3, _, h4⟩ := mem_releaseStates.mp h1
      exact ⟨h3, List.forall_mem_cons.mpr ⟨h4, h2⟩⟩
  · intro cs
    induction cs with
    | nil => exact fun sts kc c _ h => h
    | cons c0 cs ih =>
      intro sts kc c hc h
      exact ih _ kc c (fun hm => hc (List.mem_cons_of_mem _ hm))
        (mem_releaseStates.mpr ⟨h, rfl, fun e => hc (Option.some.inj e ▸ List.mem_cons_self)⟩)

end KVerif.C09
