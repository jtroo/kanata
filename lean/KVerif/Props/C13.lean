/-
C13 — global overrides substitute exactly the configured combination, then let go.
Property theorems only; helper lemmas are in KVerif/Lemmas/Override*.lean.

Model: KVerif/Model/Override.lean (key_override.rs; the override/emission slice of
src/kanata/mod.rs; the plain-key slice of keyberon's Layout).  `tbl` is the list of overrides in
the order the configuration lists them, `Overrides.new tbl` the grouped table the code works on.
-/
import KVerif.Lemmas.OverrideSpec
import KVerif.Gen.OverrideTables
namespace KVerif.Override

/-- well-formedness of a written-out table is checked by evaluation -/
local instance : DecidablePred Override.WF := fun _ => inferInstanceAs (Decidable (_ ∧ _))

/-! ## Construction: `Override::try_new`, `Overrides::new` -/

/-- **try_new_spec** (full).  `Override::try_new` accepts exactly the pairs of lists with one
non-modifier key each, and splits them into that key and the modifiers (order and repetitions of
the modifiers kept as written). -/
theorem try_new_spec (ins outs : List Nat) (o : Override) :
    Override.tryNew ins outs = .ok o ↔
      ins.filter (fun k => !isMod k) = [o.inKey] ∧ outs.filter (fun k => !isMod k) = [o.outKey] ∧
      o.inMods = ins.filter isMod ∧ o.outMods = outs.filter isMod := by
  unfold Override.tryNew
  constructor
  · intro h
    split at h <;> try cases h
    split at h <;> cases h
    exact ⟨‹_›, ‹_›, rfl, rfl⟩
  · rintro ⟨h1, h2, h3, h4⟩
    rw [h1, h2, ← h3, ← h4]

/-- **try_new_wf** (full).  What the rest of the code relies on: `in_mod_oscs` holds modifiers only
(so `get_mod_mask`'s `expect("mod only")` cannot fire) and the trigger key is not a modifier. -/
theorem try_new_wf (ins outs : List Nat) (o : Override) (h : Override.tryNew ins outs = .ok o) :
    o.WF := by
  obtain ⟨h1, _, h3, _⟩ := (try_new_spec ins outs o).mp h
  refine ⟨fun m hm => (List.mem_filter.mp (h3 ▸ hm)).2, ?_⟩
  have : o.inKey ∈ ins.filter (fun k => !isMod k) := h1 ▸ List.mem_singleton.mpr rfl
  simpa using (List.mem_filter.mp this).2

/-- **table_grouping** (full).  `Overrides::new` files every override under its trigger key and
keeps the configuration's order within a key; a key without overrides has no entry. -/
theorem table_grouping (tbl : List Override) (k : Nat) :
    ((Overrides.new tbl).get k).getD [] = tbl.filter (fun o => o.inKey == k) ∧
      ((Overrides.new tbl).isEmpty = true ↔ tbl = []) :=
  ⟨get_new tbl k, by rw [isEmpty_new, List.isEmpty_iff]⟩

/-- **override_no_crash** (full).  For a table made of `try_new` results, neither `override_keys`
on any key list and any scratch state, nor any history through the pipeline, reaches the `expect`
in `get_mod_mask`. -/
theorem override_no_crash (tbl : List Override) (hwf : ∀ o ∈ tbl, o.WF) :
    (∀ ks st, ∃ r, (Overrides.new tbl).overrideKeys ks st = .ok r) ∧
      (∀ roa steps, ∃ r, Pipe.run (Overrides.new tbl) roa steps Pipe.init 0 = .ok r) :=
  ⟨overrideKeys_ok tbl hwf, fun roa steps => run_ok tbl hwf roa steps Pipe.init 0⟩

/-! ## The key-list transformation -/

/- `Fires tbl ks o`: Lemmas/OverridePass.lean. -/

/-- **ovr_characterisation** (full).  For every table of `try_new` results, every key list (any
length, repetitions allowed) and every incoming scratch state: `override_keys` returns the keys
that belong to no firing override's combination, in their original order, followed by the output
keys of the firing overrides without repetition; the scratch state holds exactly those two sets.
Which overrides fire is `Fires`: most modifiers wins, ties go to the earlier table entry, and a
modifier counts only if it precedes the key in the list. -/
theorem ovr_characterisation (tbl : List Override) (hwf : ∀ o ∈ tbl, o.WF) (hne : tbl ≠ [])
    (ks : List Nat) (st : OverrideStates) :
    ∃ R A, (Overrides.new tbl).overrideKeys ks st =
        .ok (ks.filter (fun k => !R.contains k) ++ A, ⟨modsOf ks 0, R, A⟩) ∧
      R.Nodup ∧ A.Nodup ∧
      (∀ x, x ∈ R ↔ ∃ o, Fires tbl ks o ∧ x ∈ o.combo) ∧
      (∀ x, x ∈ A ↔ ∃ o, Fires tbl ks o ∧ x ∈ o.outs) :=
  ⟨remOf (applied tbl [] ks) [], addOf (applied tbl [] ks) [],
    by rw [overrideKeys_eq tbl hwf ks st, if_neg hne], nodup_foldl_pushUnique List.nodup_nil,
    nodup_foldl_pushUnique List.nodup_nil,
    fun _ => mem_remOf_applied, fun _ => mem_addOf_applied⟩

/-- **ovr_longest_wins** (full).  `update_keys` for key `k`, called with the `mods_pressed` mask
accumulated over the keys `l1` visited before (`modsOf l1 0`), adds the keys of the selected
override `sel` (or nothing), where `sel = some w` iff `w` is an override of `k` whose modifiers
are all in `l1`, no matching override of `k` has more modifiers (`in_mod_oscs.len()`), and every
matching override of `k` listed before `w` has strictly fewer — and `sel = none` iff none matches. -/
theorem ovr_longest_wins (tbl : List Override) (hwf : ∀ o ∈ tbl, o.WF) (l1 : List Nat) (k : Nat)
    (add rem : List Nat) :
    ∃ sel, (Overrides.new tbl).updateKeys k (modsOf l1 0) add rem =
        .ok (match sel with
             | some w => (w.addOverrideKeys add, w.addRemovedKeys rem)
             | none => (add, rem)) ∧
    (∀ w, sel = some w ↔
      ∃ g1 g2, tbl.filter (fun o => o.inKey == k) = g1 ++ w :: g2 ∧ w.modsIn l1 = true ∧
        (∀ o ∈ g1, o.modsIn l1 = true → o.inMods.length < w.inMods.length) ∧
        (∀ o ∈ g2, o.modsIn l1 = true → o.inMods.length ≤ w.inMods.length)) ∧
    (sel = none ↔ ∀ o ∈ tbl, o.inKey = k → o.modsIn l1 = false) := by
  refine ⟨winnerAt tbl l1 k, updateKeys_eq tbl hwf k l1 add rem, ?_, ?_⟩
  · intro w; exact selectPure_some_iff l1 _ w
  · rw [winnerAt, selectPure_none_iff]
    simp only [List.mem_filter, beq_iff_eq, and_imp]

/-- **ovr_identity_when_no_match** (full).  If no override has its key in the list with all its
modifiers before it — in particular if no override's combination is among the keys at all — the
key list comes back unchanged and nothing is marked for removal or addition. -/
theorem ovr_identity_when_no_match (tbl : List Override) (hwf : ∀ o ∈ tbl, o.WF) (ks : List Nat)
    (st : OverrideStates)
    (hno : ∀ o ∈ tbl, ∀ l1 l2, ks = l1 ++ o.inKey :: l2 → o.modsIn l1 = false) :
    ∃ st', (Overrides.new tbl).overrideKeys ks st = .ok (ks, st') ∧
      (tbl ≠ [] → st'.toRemove = [] ∧ st'.toAdd = []) := by
  have hap : applied tbl [] ks = [] :=
    List.eq_nil_iff_forall_not_mem.mpr fun o ho => by
      obtain ⟨hmem, l1, l2, hks, hm⟩ := (fires_iff_applied.mpr ho).modsBefore
      exact Bool.false_ne_true ((hno o hmem l1 l2 hks).symm.trans hm)
  have h := overrideKeys_eq tbl hwf ks st
  rw [hap] at h
  refine ⟨_, h.trans (congrArg (fun l => Except.ok (l, _))
    ((List.append_nil _).trans (List.filter_eq_self.mpr fun _ _ => rfl))), fun hne => ?_⟩
  rw [if_neg hne]
  exact ⟨rfl, rfl⟩

theorem ovr_identity_when_not_contained (tbl : List Override) (hwf : ∀ o ∈ tbl, o.WF)
    (ks : List Nat) (st : OverrideStates) (hno : ∀ o ∈ tbl, o.containedIn ks = false) :
    ∃ st', (Overrides.new tbl).overrideKeys ks st = .ok (ks, st') := by
  obtain ⟨st', h, _⟩ := ovr_identity_when_no_match tbl hwf ks st fun o ho l1 l2 hks => by
    rw [← Bool.not_eq_true]
    exact fun hm => Bool.false_ne_true ((hno o ho).symm.trans (containedIn_of_modsIn hks hm))
  exact ⟨st', h⟩

/-- **ovr_substitutes_when_mods_precede** (full, for the code's notion of "contains").  Let `o`
be an override of the table, let its key occur in the key list with all of `o`'s modifiers
somewhere before that occurrence, and let no other override concern a key of the list.  Then the
OS-bound list is the key list minus `o`'s key and `o`'s modifiers (everything else in its
original order), followed by `o`'s output keys without repetition — exactly as written when the
output list is written without repetition. -/
theorem ovr_substitutes_when_mods_precede (tbl : List Override) (hwf : ∀ o ∈ tbl, o.WF)
    (o : Override) (ho : o ∈ tbl) (pre post : List Nat) (st : OverrideStates)
    (hpre : ∀ m ∈ o.inMods, m ∈ pre)
    (hother : ∀ o' ∈ tbl, o'.inKey ∈ pre ++ o.inKey :: post → o' = o) :
    ∃ st', (Overrides.new tbl).overrideKeys (pre ++ o.inKey :: post) st =
        .ok ((pre ++ o.inKey :: post).filter (fun x => !o.combo.contains x) ++
              o.addOverrideKeys [], st') ∧
      (o.addOverrideKeys []).Nodup ∧ (∀ x, x ∈ o.addOverrideKeys [] ↔ x ∈ o.outs) ∧
      (o.outs.Nodup → o.addOverrideKeys [] = o.outs) := by
  have hne : tbl ≠ [] := List.ne_nil_of_mem ho
  have hgrp : ∀ o' ∈ tbl.filter (fun o' => o'.inKey == o.inKey), o' = o := fun o' ho' =>
    have ⟨h1, h2⟩ := List.mem_filter.mp ho'
    hother o' h1 (by simp [beq_iff_eq.mp h2])
  -- `o` fires at the given occurrence: the overrides of its key are copies of `o`
  have hfire : Fires tbl (pre ++ o.inKey :: post) o := by
    refine ⟨pre, post, rfl, (hwf o ho).2, ?_⟩
    have hmem : o ∈ tbl.filter (fun o' => o'.inKey == o.inKey) :=
      List.mem_filter.mpr ⟨ho, beq_self_eq_true _⟩
    obtain ⟨h, t, hg⟩ := List.exists_cons_of_ne_nil (List.ne_nil_of_mem hmem)
    obtain rfl := hgrp h (hg ▸ List.mem_cons_self)
    exact hg ▸ .head ((h.modsIn_iff pre).mpr hpre)
      fun o' ho' _ => hgrp o' (hg ▸ List.mem_cons_of_mem _ ho') ▸ Nat.le_refl _
  -- and nothing else does
  have hall : ∀ o', Fires tbl (pre ++ o.inKey :: post) o' → o' = o := fun o' hf =>
    hother o' hf.contained.1 ((containedIn_iff o' _).mp hf.contained.2).1
  have hfil : (pre ++ o.inKey :: post).filter
        (fun k => !(remOf (applied tbl [] (pre ++ o.inKey :: post)) []).contains k) =
      (pre ++ o.inKey :: post).filter (fun x => !o.combo.contains x) := by
    apply List.filter_congr
    intro x _
    have : x ∈ remOf (applied tbl [] (pre ++ o.inKey :: post)) [] ↔ x ∈ o.combo :=
      mem_remOf_applied.trans
        ⟨fun ⟨o', ho', hx⟩ => hall o' ho' ▸ hx, fun hx => ⟨o, hfire, hx⟩⟩
    simp [this]
  have h := overrideKeys_eq tbl hwf (pre ++ o.inKey :: post) st
  rw [hfil, addOf_all_same o _ (fun o' h => hall o' (fires_iff_applied.mpr h))
    (List.ne_nil_of_mem (fires_iff_applied.mp hfire))] at h
  exact ⟨_, h, nodup_addOverrideKeys List.nodup_nil, fun x => by simp [mem_addOverrideKeys],
    addOverrideKeys_nil_of_nodup o⟩

/-- the witness `(defoverrides (lsft a) (b))` on `[a, lsft]`, also against the order-free
specification used as oracle -/
theorem spec_counterexample :
    let o : Override := ⟨30, 48, [42], []⟩
    specHeld [o] [30, 42] = some [48] ∧ lateMod [o] [30, 42] = true ∧
    (Overrides.new [o]).overrideKeys [30, 42] OverrideStates.new = .ok ([30, 42], ⟨2, [], []⟩) ∧
    (Overrides.new [o]).overrideKeys [42, 30] OverrideStates.new = .ok ([48], ⟨2, [42, 30], [48]⟩) :=
  ⟨rfl, rfl, rfl, rfl⟩

/-- **ovr_substitutes_any_order_counterexample** (counterexample).  The literal statement — the same
conclusion whenever the key list merely *contains* the combination — is false of the code:
`(defoverrides (lsft a) (b))` on the key list `[a, lsft]` leaves the list as it is (the OS sees
`a` and `lsft`), while the statement requires `b`.  `mods_pressed` is accumulated during the same
pass that looks the keys up, so a modifier that follows its key is not seen. -/
theorem ovr_substitutes_any_order_counterexample :
    ¬ (∀ (tbl : List Override) (o : Override) (ks : List Nat) (st : OverrideStates),
        (∀ o ∈ tbl, o.WF) → o ∈ tbl → o.containedIn ks = true →
        (∀ o' ∈ tbl, o'.inKey ∈ ks → o' = o) →
        ∃ st', (Overrides.new tbl).overrideKeys ks st =
          .ok (ks.filter (fun x => !o.combo.contains x) ++ o.addOverrideKeys [], st')) := by
  intro h
  obtain ⟨st', hst⟩ := h [⟨30, 48, [42], []⟩] ⟨30, 48, [42], []⟩ [30, 42] OverrideStates.new
    (by decide)
    (by simp) (by decide) (by intro o' ho' _; simpa using ho')
  rw [spec_counterexample.2.2.1] at hst
  exact absurd (Prod.mk.inj (Except.ok.inj hst)).1 (by decide)

/-- **ovr_outside_untouched** (full).  The keys that belong to no firing override's combination
survive with their multiplicity and in their original relative order, as a prefix of the result;
everything after that prefix is output keys of firing overrides. -/
theorem ovr_outside_untouched (tbl : List Override) (hwf : ∀ o ∈ tbl, o.WF) (ks : List Nat)
    (st : OverrideStates) :
    ∃ kept A st', (Overrides.new tbl).overrideKeys ks st = .ok (kept ++ A, st') ∧
      kept.Sublist ks ∧
      (∀ x, (¬ ∃ o, Fires tbl ks o ∧ x ∈ o.combo) → kept.count x = ks.count x) ∧
      (∀ x, (∃ o, Fires tbl ks o ∧ x ∈ o.combo) → x ∉ kept) ∧
      (∀ x ∈ A, ∃ o, Fires tbl ks o ∧ x ∈ o.outs) := by
  obtain ⟨R, A, st', h, hR, hA⟩ := overrideKeys_keys tbl hwf ks st
  refine ⟨_, A, st', h, List.filter_sublist, ?_, ?_, fun x hx => (hA x).mp hx⟩
  · intro x hx
    apply List.count_filter
    have : x ∉ R := fun hr => hx ((hR x).mp hr)
    simp [this]
  · intro x hx hk
    have : x ∈ R := (hR x).mpr hx
    simp [List.mem_filter, this] at hk

/-- **ovr_stateless** (full).  The OS-bound key list is a function of the table and the current
key list only: whatever a previous call left in `OverrideStates` has no influence (and for a
non-empty table the scratch state it leaves is a function of them too). -/
theorem ovr_stateless (t : Overrides) (ks : List Nat) (st1 st2 : OverrideStates) :
    (t.overrideKeys ks st1).map (·.1) = (t.overrideKeys ks st2).map (·.1) ∧
      (t.isEmpty = false → t.overrideKeys ks st1 = t.overrideKeys ks st2) := by
  unfold Overrides.overrideKeys
  cases t.isEmpty with
  | true => exact ⟨rfl, fun h => by cases h⟩
  | false => exact ⟨rfl, fun _ => rfl⟩

/-- **ovr_lets_go** (full).  A key is in the OS-bound list only if it is among the held keys or
is an output key of an override whose combination is among the held keys.  So once the
combination no longer holds, the next list contains none of that override's output keys — unless
the key is itself held or another override with its combination present outputs it — and the
diff against the previous list (`emit_tracks`) releases it. -/
theorem ovr_lets_go (tbl : List Override) (hwf : ∀ o ∈ tbl, o.WF) (ks : List Nat)
    (st : OverrideStates) (ks' : List Nat) (st' : OverrideStates)
    (h : (Overrides.new tbl).overrideKeys ks st = .ok (ks', st')) (x : Nat) (hx : x ∈ ks') :
    x ∈ ks ∨ ∃ o ∈ tbl, o.containedIn ks = true ∧ x ∈ o.outs :=
  ((mem_overrideKeys hwf h).mp hx).imp And.left
    fun ⟨o, hf, hxo⟩ => ⟨o, hf.contained.1, hf.contained.2, hxo⟩

/-- **ovr_mods_come_back** (full).  A held key (in particular a still-held modifier) that belongs
to the combination of no override whose combination is among the held keys is in the OS-bound
list. -/
theorem ovr_mods_come_back (tbl : List Override) (hwf : ∀ o ∈ tbl, o.WF) (ks : List Nat)
    (st : OverrideStates) (ks' : List Nat) (st' : OverrideStates)
    (h : (Overrides.new tbl).overrideKeys ks st = .ok (ks', st')) (m : Nat) (hm : m ∈ ks)
    (hfree : ∀ o ∈ tbl, o.containedIn ks = true → m ∉ o.combo) : m ∈ ks' :=
  (mem_overrideKeys hwf h).mpr
    (.inl ⟨hm, fun ⟨o, hf, hmo⟩ => hfree o hf.contained.1 hf.contained.2 hmo⟩)

/-! ## The statement itself, order-free, and where the code parts from it -/

/-- **ovr_meets_statement_when_mods_precede** (full under the named hypothesis; see
`ovr_statement_partial`).  `specHeld` is the statement read literally: for every held key take the
overrides of that key whose combination is *contained* in the held keys, let the one with the most
modifiers win, remove the winners' combinations, add their outputs (a set; `none` where the
statement does not determine the winner).  Whenever no modifier of a contained combination comes
after an occurrence of its key (`lateMod = false`), the set of keys `override_keys` produces is
exactly that set — for every table, every key list, every scratch state. -/
theorem ovr_meets_statement_when_mods_precede (tbl : List Override) (hwf : ∀ o ∈ tbl, o.WF)
    (ks : List Nat) (st : OverrideStates) (S : List Nat)
    (hlate : lateMod tbl ks = false) (hs : specHeld tbl ks = some S) :
    ∃ ks' st', (Overrides.new tbl).overrideKeys ks st = .ok (ks', st') ∧ ∀ x, x ∈ ks' ↔ x ∈ S := by
  unfold specHeld at hs
  simp only at hs
  split at hs
  · cases hs
  · rename_i hany
    have hall : ∀ k ∈ ks, (specWinner tbl ks k).isSome = true := fun k hk =>
      Option.isNone_eq_false_iff.mp (Bool.eq_false_iff.mpr fun hn =>
        hany (List.any_eq_true.mpr ⟨_, List.mem_map_of_mem hk, hn⟩))
    rw [spec_winners_eq_applied hwf hlate [] ks rfl hall] at hs
    cases hs
    obtain ⟨⟨ks', st'⟩, h⟩ := overrideKeys_ok tbl hwf ks st
    refine ⟨ks', st', h, fun x => ?_⟩
    simp only [mem_overrideKeys hwf h, mem_sortDedup, List.mem_append, List.mem_filter,
      Bool.not_eq_true', List.contains_eq_mem, decide_eq_false_iff_not, fires_iff_applied,
      List.mem_flatMap]

/-- **ovr_statement_partial** (partial).  Full statement: for every table, key list and scratch
state with `specHeld tbl ks = some S`, the keys `override_keys` produces are exactly `S`.  Proved
above under the extra hypothesis `lateMod tbl ks = false`; without it the statement is false of
the code (`ovr_substitutes_any_order_counterexample`, `spec_counterexample`): what is missing is
exactly the inputs in which a modifier of a contained combination follows its key.  This theorem
shows that the hypothesis cannot be dropped and is the only thing in the way: on the witness both
readings are defined and differ. -/
theorem ovr_statement_partial :
    (∀ (tbl : List Override) (ks : List Nat) (st : OverrideStates) (S : List Nat),
      (∀ o ∈ tbl, o.WF) → lateMod tbl ks = false → specHeld tbl ks = some S →
      ∃ ks' st', (Overrides.new tbl).overrideKeys ks st = .ok (ks', st') ∧ ∀ x, x ∈ ks' ↔ x ∈ S) ∧
    ¬ (∀ (tbl : List Override) (ks : List Nat) (st : OverrideStates) (S : List Nat),
      (∀ o ∈ tbl, o.WF) → specHeld tbl ks = some S →
      ∃ ks' st', (Overrides.new tbl).overrideKeys ks st = .ok (ks', st') ∧ ∀ x, x ∈ ks' ↔ x ∈ S) := by
  refine ⟨fun tbl ks st S hwf hl hs => ovr_meets_statement_when_mods_precede tbl hwf ks st S hl hs, ?_⟩
  intro h
  obtain ⟨ks', st', hk, hx⟩ := h [⟨30, 48, [42], []⟩] [30, 42] OverrideStates.new [48]
    (by decide) rfl
  rw [spec_counterexample.2.2.1] at hk
  obtain rfl := (Prod.mk.inj (Except.ok.inj hk)).1
  exact absurd ((hx 30).mp (by simp)) (by decide)

/-! ## From the key list to the OS -/

/-- **emission** (full).  `handle_keystate_changes` turns two consecutive key lists into OS events
such that, if the OS held exactly the keys of the previous list, it now holds exactly the keys of
the current one; in particular every key that left the list gets a release event. -/
theorem emission (prev cur held : List Nat) (h : ∀ x, x ∈ held ↔ x ∈ prev) :
    (∀ x, x ∈ osRun held (emitReleases prev cur ++ emitPresses cur prev) ↔ x ∈ cur) ∧
      (∀ k ∈ prev, k ∉ cur → OsEv.up k ∈ emitReleases prev cur) :=
  ⟨emit_tracks prev cur held h, fun k h1 h2 => release_emitted prev cur k h1 h2⟩

/-- **pipeline_os_sees_override_of_held** (full).  For every table of `try_new` results, with
release-on-activation on or off, after every history of press/release events and ticks (any
length, physically consistent or not) followed by one more tick: the set of keys the OS holds is
exactly the set of keys `override_keys` returns for the keys the layout holds in that tick. -/
theorem pipeline_os_sees_override_of_held (tbl : List Override) (roa : Bool) (steps : List Step)
    (p p' : Pipe) (evs : List (Nat × OsEv)) (evs' : List OsEv)
    (hrun : Pipe.run (Overrides.new tbl) roa steps Pipe.init 0 = .ok (p, evs))
    (htick : p.tick (Overrides.new tbl) roa = .ok (p', evs')) :
    ∃ st', (Overrides.new tbl).overrideKeys p.preKeys p.ost = .ok (p'.prev, st') ∧
      ∀ x, x ∈ osRun [] (evs.map (·.2) ++ evs') ↔ x ∈ p'.prev := by
  obtain ⟨st', h1, _⟩ := tick_prev htick
  refine ⟨st', h1, fun x => ?_⟩
  rw [osRun_append]
  exact tick_tracks htick (run_tracks _ roa steps Pipe.init p 0 evs [] hrun fun _ => Iff.rfl) x

/-- **pipeline_lets_go** (full).  After any history and one more tick: a key is down at the OS only
if the layout holds it in that tick or it is an output key of an override whose combination the
layout holds in that tick.  Hence when the combination has ended, that override's output keys are
up again (unless held themselves or output by another override whose combination is held); and a
key the layout holds that belongs to no such override's combination — a still-held modifier — is
down.  When the layout holds nothing, nothing is down. -/
theorem pipeline_lets_go (tbl : List Override) (hwf : ∀ o ∈ tbl, o.WF) (roa : Bool)
    (steps : List Step) (p p' : Pipe) (evs : List (Nat × OsEv)) (evs' : List OsEv)
    (hrun : Pipe.run (Overrides.new tbl) roa steps Pipe.init 0 = .ok (p, evs))
    (htick : p.tick (Overrides.new tbl) roa = .ok (p', evs')) :
    (∀ x, x ∈ osRun [] (evs.map (·.2) ++ evs') →
      x ∈ p.preKeys ∨ ∃ o ∈ tbl, o.containedIn p.preKeys = true ∧ x ∈ o.outs) ∧
    (∀ m ∈ p.preKeys, (∀ o ∈ tbl, o.containedIn p.preKeys = true → m ∉ o.combo) →
      m ∈ osRun [] (evs.map (·.2) ++ evs')) ∧
    (p.preKeys = [] → osRun [] (evs.map (·.2) ++ evs') = []) := by
  obtain ⟨st', h1, h2⟩ := pipeline_os_sees_override_of_held tbl roa steps p p' evs evs' hrun htick
  refine ⟨?_, ?_, ?_⟩
  · intro x hx
    exact ovr_lets_go tbl hwf _ _ _ _ h1 x ((h2 x).mp hx)
  · intro m hm hfree
    exact (h2 m).mpr (ovr_mods_come_back tbl hwf _ _ _ _ h1 m hm hfree)
  · intro hempty
    apply List.eq_nil_iff_forall_not_mem.mpr
    intro x hx
    rcases ovr_lets_go tbl hwf _ _ _ _ h1 x ((h2 x).mp hx) with h | ⟨o, _, hc, _⟩
    · rw [hempty] at h; cases h
    · rw [hempty, containedIn_iff] at hc
      cases hc.1

/-- **eager_erasure_and_release_on_activation** (full).  After `override_keys`, every layout state
whose key is the (non-modifier) trigger of a firing override is flagged clear-on-next-action and
clear-on-next-release, so the next press drops it and the next release of any key drops it; with
release-on-activation it is dropped at once.  Modifier states are never touched. -/
theorem eager_erasure_and_release_on_activation (removed : List Nat) (states : List NKey) :
    (∀ s ∈ markEager removed states, (∃ r ∈ removed, isMod r = false ∧ r = s.kc) →
        s.clearOnNextAction = true ∧ s.clearOnNextRelease = true) ∧
    (∀ s ∈ releaseOnActivation removed states, ¬ ∃ r ∈ removed, isMod r = false ∧ r = s.kc) ∧
    (∀ s ∈ states, isMod s.kc = true →
        s ∈ markEager removed states ∧ s ∈ releaseOnActivation removed states) := by
  have hany : ∀ (kc : Nat), (removed.any (fun r => !isMod r && r == kc) = true) ↔
      ∃ r ∈ removed, isMod r = false ∧ r = kc := by
    intro kc; simp [List.any_eq_true]
  refine ⟨?_, ?_, ?_⟩
  · intro s hs hr
    obtain ⟨s0, _, rfl⟩ := List.mem_map.mp hs
    by_cases h : removed.any (fun r => !isMod r && r == s0.kc) = true
    · simp only [h, if_true]
      exact ⟨beq_iff_eq.mpr (or_and_of_and rfl _), beq_iff_eq.mpr (or_and_of_and rfl _)⟩
    · simp only [h] at hr
      exact absurd ((hany s0.kc).mpr hr) h
  · intro s hs hr
    simp only [releaseOnActivation, List.mem_filter, Bool.not_eq_true'] at hs
    have := (hany s.kc).mpr hr
    rw [hs.2] at this; cases this
  · intro s hs hm
    have hn : removed.any (fun r => !isMod r && r == s.kc) = false := by
      rw [Bool.eq_false_iff]
      intro h
      obtain ⟨r, _, hr1, hr2⟩ := (hany s.kc).mp h
      rw [hr2, hm] at hr1; cases hr1
    constructor
    · simp only [markEager, List.mem_map]
      exact ⟨s, hs, by simp [hn]⟩
    · simp [releaseOnActivation, List.mem_filter, hs, hn]

/-! ## Tables regenerated from the source -/

/-- **tables_from_source** (full).  `maskForKey` is `mask_for_key` as it stands in the source tree
now, `OsCode::is_modifier` denotes the same eight keys, and the flag constants and capacities of
the layout slice are the source's (`KVerif.Gen.OverrideTables` is regenerated on every run). -/
theorem tables_from_source :
    (∀ p ∈ Gen.ovrMaskArms, maskForKey p.1 = some (2 ^ p.2)) ∧
    Gen.ovrMaskArms.length = 8 ∧
    (∀ k, isMod k = true ↔ k ∈ Gen.ovrMaskArms.map (·.1)) ∧
    (∀ k, isMod k = true ↔ k ∈ Gen.osIsModifier) ∧
    NKF_CLEAR_ON_NEXT_ACTION = Gen.NKF_CLEAR_ON_NEXT_ACTION ∧
    NKF_CLEAR_ON_NEXT_RELEASE = Gen.NKF_CLEAR_ON_NEXT_RELEASE ∧
    QUEUE_SIZE = Gen.LAYOUT_QUEUE_SIZE ∧ STATES_CAP = Gen.LAYOUT_STATES_CAP := by
  refine ⟨by decide, rfl, isMod_iff_mem, fun k => ?_, rfl, rfl, rfl, rfl⟩
  -- `is_modifier` lists the eight keys of `modKeys` in another order
  rw [isMod_iff_mem]
  exact ⟨(by decide : ∀ x ∈ modKeys, x ∈ Gen.osIsModifier) k,
    (by decide : ∀ x ∈ Gen.osIsModifier, x ∈ modKeys) k⟩

/-! ## Non-vacuity: concrete, non-trivial instances meet the hypotheses used above

Keys: lctl 29, lsft 42, lalt 56, rctl 97; a 30, b 48, c 46, d 32, 1 2. -/

/-- `(defoverrides (lsft a) (b)  (lsft lctl a) (lalt c)  (lctl a) (d)  (1) (lsft 1)  (lsft 1) (1))` -/
def sampleTable : List Override :=
  [⟨30, 48, [42], []⟩, ⟨30, 46, [42, 29], [56]⟩, ⟨30, 32, [29], []⟩, ⟨2, 2, [], [42]⟩, ⟨2, 2, [42], []⟩]

-- the table is what `try_new` makes of the written lists, hence well-formed
example : [Override.tryNew [42, 30] [48], Override.tryNew [42, 29, 30] [56, 46],
    Override.tryNew [29, 30] [32], Override.tryNew [2] [42, 2], Override.tryNew [42, 2] [2]] =
    sampleTable.map Except.ok := rfl
example : ∀ o ∈ sampleTable, o.WF := by
  decide
example : Override.tryNew [42] [48] = .error .inNone ∧ Override.tryNew [30, 48] [48] = .error .inMultiple ∧
    Override.tryNew [42, 30] [42] = .error .outNone ∧ Override.tryNew [30] [30, 48] = .error .outMultiple :=
  ⟨rfl, rfl, rfl, rfl⟩

-- most modifiers wins (`ovr_longest_wins`, `Fires`): lsft, lctl, a → the two-modifier override
example : Fires sampleTable [42, 29, 30] ⟨30, 46, [42, 29], [56]⟩ := fires_iff_applied.mpr (by decide)
example : (Overrides.new sampleTable).overrideKeys [42, 29, 30] OverrideStates.new =
    .ok ([56, 46], ⟨3, [42, 29, 30], [56, 46]⟩) := rfl
-- ties go to the earlier entry: with lctl before a and lsft after, `(lctl a)` fires; with both
-- before, neither one-modifier entry does (the two-modifier entry is longer)
example : Fires sampleTable [29, 30, 42] ⟨30, 32, [29], []⟩ := fires_iff_applied.mpr (by decide)
example : winnerAt [⟨30, 48, [42], []⟩, ⟨30, 32, [29], []⟩] [42, 29] 30 = some ⟨30, 48, [42], []⟩ := rfl
example : winnerAt [⟨30, 32, [29], []⟩, ⟨30, 48, [42], []⟩] [42, 29] 30 = some ⟨30, 32, [29], []⟩ := rfl

-- `ovr_substitutes_when_mods_precede`: `(lsft rctl a) (lalt b)` with rctl, d, lsft before a and c after
example : ∃ st', (Overrides.new [⟨30, 48, [42, 97], [56]⟩]).overrideKeys [97, 32, 42, 30, 46] OverrideStates.new
    = .ok ([32, 46, 56, 48], st') := by
  obtain ⟨st', h, _⟩ := ovr_substitutes_when_mods_precede [⟨30, 48, [42, 97], [56]⟩]
    (by decide)
    ⟨30, 48, [42, 97], [56]⟩ (by simp) [97, 32, 42] [46] OverrideStates.new (by decide)
    (by intro o' ho' _; simpa using ho')
  exact ⟨st', h⟩

-- `ovr_identity_when_no_match`: a alone, and a before its modifier
example : ∀ o ∈ sampleTable, ∀ l1 l2, [30, 42] = l1 ++ o.inKey :: l2 → o.modsIn l1 = false := by
  intro o ho l1 l2 h
  -- the key is `a` with nothing before it, or `lsft` (no override's key) with `a` before it
  have hsplit : (l1 = [] ∧ o.inKey = 30) ∨ (l1 = [30] ∧ o.inKey = 42) := by
    rcases l1 with _ | ⟨x, _ | ⟨y, l⟩⟩ <;> simp_all
  rcases hsplit with ⟨rfl, hk⟩ | ⟨rfl, hk⟩
  · exact (by decide : ∀ o ∈ sampleTable, o.inKey = 30 → o.modsIn [] = false) o ho hk
  · exact (by decide : ∀ o ∈ sampleTable, o.inKey = 42 → o.modsIn [30] = false) o ho hk

-- `ovr_meets_statement_when_mods_precede`: hypotheses hold on a list with two firing overrides
example : lateMod sampleTable [42, 30, 2] = false ∧ specHeld sampleTable [42, 30, 2] = some [2, 48] := by
  decide
example : (Overrides.new sampleTable).overrideKeys [42, 30, 2] OverrideStates.new =
    .ok ([48, 2], ⟨2, [42, 30, 2], [48, 2]⟩) := rfl

-- the pipeline theorems: lsft, a, then lsft released (eager erasure drops a), release-on-activation off and on
example : ∃ p evs, Pipe.run (Overrides.new sampleTable) false
    [.ev (.press 42), .tick, .ev (.press 30), .tick, .ev (.release 42), .tick] Pipe.init 0 = .ok (p, evs) ∧
    evs = [(1, .down 42), (2, .up 42), (2, .down 48), (3, .up 48)] ∧ p.preKeys = [] :=
  ⟨_, _, rfl, rfl, rfl⟩
example : ∃ p evs, Pipe.run (Overrides.new sampleTable) true
    [.ev (.press 42), .tick, .ev (.press 30), .tick, .tick] Pipe.init 0 = .ok (p, evs) ∧
    evs = [(1, .down 42), (2, .up 42), (2, .down 48), (3, .up 48), (3, .down 42)] ∧ p.preKeys = [42] :=
  ⟨_, _, rfl, rfl, rfl⟩

/-- Observation (not part of the statement): "most modifiers" is `in_mod_oscs.len()`, so a modifier
written three times outweighs two different ones. -/
example : winnerAt [⟨30, 48, [42, 42, 42], []⟩, ⟨30, 46, [42, 29], []⟩] [42, 29] 30 =
    some ⟨30, 48, [42, 42, 42], []⟩ := rfl

end KVerif.Override
