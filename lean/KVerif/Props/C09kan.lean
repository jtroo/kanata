/-
C09 at the kanata level — chords v2 (`defchordsv2`) inside the composed model Model/KanataV2.lean
(`KV2` = kanata state + the chords-v2 state of its layout; `tickStatesV2`, `handleInputEventV2`,
`isIdleV2`, `canBlockV2` mirror src/kanata/mod.rs over `Layout` WITH its `chords_v2` field).
Property theorems only; helper lemmas in Lemmas/KanataV2Rest.lean.

(a) `idle_implies_chv2_at_rest`   what `can_block_update_idle_waiting` establishes about the chords-v2
    machine: exactly the three facts the code checks (input queue empty, no active chord, cool-down
    over). Before fix PENDING-kanv2 that was weaker than "at rest": `chv2_stale_countdown_counterexample`
    (over the pinned cool-down branch: a reachable blocking state whose scan countdown is still running;
    a `tap` input arriving then waits for it, while after one more tick it would not - reproduced on
    the real code, corpus/C07.txt). Since the repair: `cooldown_leaves_no_stale_countdown`,
    `chv2_no_stale_countdown_invariant`, `idle_implies_chv2_at_rest_full`, `chv2_stale_countdown_repaired`.
(b) `block_silent_v2`             C07's `block_silent` for the composed model: from a state in which
    kanata may block, a whole `tick_states` emits nothing and changes only ageing counters - of the
    layout (C07) and of the chords-v2 machine (`restTick`: the three fields of the scan-skipping
    optimisation); the blocking condition is preserved, so this holds for any number of ticks
    (`block_silent_v2_forever`, with the state in closed form: `ticksV2N_quiet`).  It is the case "at
    rest" of `quiet_tick_v2`: kanata's part may block and the tick of the chords-v2 machine hands
    nothing to the layout.
(c) `chord_v2_action_reaches_os_once_kan_partial`  see there.
-/
import KVerif.Lemmas.KanataV2Rest
import KVerif.Props.C09V2
namespace KVerif.C09
open KVerif.L KVerif.K

/-! ## (a) what blocking establishes about chords v2 -/

/-- **idle_implies_chv2_at_rest** (full; the statement is exactly what the code checks).  When
`can_block_update_idle_waiting` of the composed model answers "block", kanata's own idle predicate
holds and the chords-v2 machine has an empty input queue, no active chord (so no chord waits for its
release or for being read) and no running `chords-v2-min-idle` cool-down. -/
theorem idle_implies_chv2_at_rest (s : KV2) (ms : Nat) (h : (canBlockV2 s ms).2 = true) :
    isIdle s.k = true ∧ s.k.waitingForIdle = [] ∧ Chv2RestO s.chv2 := by
  simp only [canBlockV2, isIdleV2, Bool.and_eq_true, Bool.not_eq_true', Bool.or_eq_false_iff] at h
  obtain ⟨⟨⟨⟨⟨hi, hc⟩, hcnt⟩, _⟩, hacc⟩, _⟩ := h
  refine ⟨hi, ?_, ?_⟩
  · have := hcnt.1
    simpa using this
  · intro ch hch
    rw [hch] at hc hacc
    simp only [chv2IsIdle, Bool.and_eq_true, List.isEmpty_iff] at hc
    simp only [chv2Accepts, beq_iff_eq] at hacc
    exact ⟨hc.1, hc.2, hacc⟩

/-- non-vacuity of (a): a fresh configuration with a chord table may block -/
example : (canBlockV2 { k := { layout := { cfg := { layers := [[]], srcKeys := [] } }, customs := [], keyOutputs := [[]],
                               mods := { codes := [42, 54, 56, 100, 29, 97, 125, 126], lsft := 42, rsft := 54 } },
                        chv2 := some { cfg := { mapping := [(30, [v2Chord]), (48, [v2Chord])], minIdle := 5 } } } 1).2 = true := by
  rfl

/-! ## (b) ticking instead of blocking is unobservable -/

/-- the states the loop may sleep in (C07's `MayBlock` for the kanata part, which lists the two facts
the idle predicate does not check) and the chords-v2 facts of (a) -/
structure MayBlockV2 (s : KV2) (cur' : List KeyCode) (ost : Override.OverrideStates) : Prop where
  kan : C07.MayBlock s.k cur' ost
  rest : Chv2RestO s.chv2

/-- the state one tick later: C07's closed form for the kanata part, `restTick` for chords v2 -/
def afterQuietTickV2 (s : KV2) (cur' : List KeyCode) (ost : Override.OverrideStates) : KV2 :=
  { k := C07.afterQuietTick s.k cur' ost, chv2 := restTickO s.chv2 s.k.layout.currentLayer }

/-- holds whether or not the chords-v2 machine is at rest: also while it waits for further keys, or
holds a chord whose keys are down -/
theorem quiet_tick_v2 (s : KV2) (cur' : List KeyCode) (ost : Override.OverrideStates) (c' : Option ChV2)
    (hk : C07.MayBlock s.k cur' ost) (hs : silentTick? s.chv2 s.k.layout.currentLayer = some c') :
    tickStatesV2 s = .ok { k := C07.afterQuietTick s.k cur' ost, chv2 := c' } := by
  obtain ⟨i1, i2, i3, i4, i5, i6, i7, i8, i9, i10, i11, i12, i13, i14, i15, i16, i17⟩ := C07.idle_covers_time_driven s.k hk.idle
  have hq : C07.QuietLayout s.k.layout := ⟨i1, i2, i3, i5, i6, i7, i8, i9, hk.plain⟩
  let k1 : KState := { s.k with layout := tickPre s.k.layout, overrideStates := ost, curKeys := cur' }
  -- [seq] whatever the sequence configuration: with the key lists in sync no sequence hook runs
  have e1 : handleKeystateChangesV2 s = .ok { k := k1, chv2 := c' } :=
    handleKeystateChangesV2_quiet s c' hs hq i15 hk.curEmpty cur' ost hk.wanted hk.noErase hk.synced
  have e2 : tickMid k1 = .ok k1 := by
    unfold tickMid
    rw [C07.handleScrolling_none k1 i10 i11]
    simp only []
    rw [C07.handleMoveMouse_none k1 i12 i13]
    exact tickSequenceState_inactive k1 i17
  have e3 : tickIdleTimeoutV2 { k := k1, chv2 := c' } = .ok { k := k1, chv2 := c' } := tickIdleTimeoutV2_nil _ hk.noWait
  have hb : tickBook k1 = C07.afterQuietTick s.k cur' ost := by
    unfold tickBook
    have hrc : k1.dyn.rcd = none := hk.noRec
    simp only [dynTickRecord, hrc]
    rfl
  unfold tickStatesV2
  simp only [e1, e2, e3]
  rw [hb]
  exact tickHeldVkeysV2_nil _ i16

/-- **block_silent_v2** (full, under C07's hypotheses).  From a state in which the composed model may
block, one whole `tick_states` cannot crash, emits nothing, leaves the layout's states alone, and
changes in the chords-v2 machine only the three fields of the scan-skipping optimisation (`restTick`:
`ticks_until_next_state_change` counts down or is reset, `prev_active_layer` / `prev_queue_len` are
refreshed): table, queue, active chords, cool-down and the coordinate counter are untouched.  The
blocking condition holds again afterwards. -/
theorem block_silent_v2 (s : KV2) (cur' : List KeyCode) (ost : Override.OverrideStates) (h : MayBlockV2 s cur' ost) :
    tickStatesV2 s = .ok (afterQuietTickV2 s cur' ost) ∧
    (afterQuietTickV2 s cur' ost).k.out = s.k.out ∧
    (afterQuietTickV2 s cur' ost).k.layout.states = s.k.layout.states ∧
    (∀ ch, s.chv2 = some ch → ∃ ch', (afterQuietTickV2 s cur' ost).chv2 = some ch' ∧
        ch'.cfg = ch.cfg ∧ ch'.queue = [] ∧ ch'.active = [] ∧ ch'.ticksToIgnore = 0 ∧ ch'.nextCoord = ch.nextCoord) ∧
    (s.chv2 = none → (afterQuietTickV2 s cur' ost).chv2 = none) ∧
    MayBlockV2 (afterQuietTickV2 s cur' ost) cur' ost := by
  obtain ⟨hk, hr⟩ := h
  obtain ⟨_, ho, hst, hm⟩ := C07.block_silent s.k cur' ost hk
  refine ⟨quiet_tick_v2 s cur' ost _ hk (silentTick?_rest _ _ hr), ho, hst, ?_, ?_, ⟨hm, restTickO_rest _ _ hr⟩⟩
  · intro ch hch
    refine ⟨restTick ch s.k.layout.currentLayer, ?_, rfl, (hr ch hch).queue, (hr ch hch).active, (hr ch hch).cool, rfl⟩
    simp only [afterQuietTickV2, restTickO, hch, Option.map_some]
  · intro hn
    simp only [afterQuietTickV2, restTickO, hn, Option.map_none]

/-- `n` consecutive ticks of the composed model -/
def ticksV2N : Nat → KV2 → Except K.Crash KV2
  | 0, s => .ok s
  | n + 1, s => match tickStatesV2 s with
    | .error c => .error c
    | .ok s' => ticksV2N n s'

def afterQuietTicksV2 : Nat → KV2 → List KeyCode → Override.OverrideStates → KV2
  | 0, s, _, _ => s
  | n + 1, s, cur', ost => afterQuietTicksV2 n (afterQuietTickV2 s cur' ost) cur' ost

theorem ticksV2N_quiet (n : Nat) : ∀ (s : KV2) (cur' : List KeyCode) (ost : Override.OverrideStates),
    MayBlockV2 s cur' ost →
    ticksV2N n s = .ok (afterQuietTicksV2 n s cur' ost) ∧ (afterQuietTicksV2 n s cur' ost).k.out = s.k.out ∧
      (afterQuietTicksV2 n s cur' ost).k.layout.states = s.k.layout.states ∧
      (afterQuietTicksV2 n s cur' ost).chv2.isSome = s.chv2.isSome ∧ MayBlockV2 (afterQuietTicksV2 n s cur' ost) cur' ost := by
  induction n with
  | zero => intro s cur' ost h; exact ⟨rfl, rfl, rfl, rfl, h⟩
  | succ n ih =>
    intro s cur' ost h
    obtain ⟨e, ho, hs, _, _, hm⟩ := block_silent_v2 s cur' ost h
    obtain ⟨e', ho', hs', hc', hm'⟩ := ih _ cur' ost hm
    refine ⟨?_, ho'.trans ho, hs'.trans hs, ?_, hm'⟩
    · simp only [ticksV2N, e]; exact e'
    · exact hc'.trans (by simp only [afterQuietTickV2, restTickO, Option.isSome_map])

/-- **block_silent_v2_forever** (full): any number of ticks from a blocking state emits nothing, cannot
crash, keeps the layout's states, keeps the chords-v2 machine at rest with its table, and stays a
blocking state - sleeping instead of ticking changes no output. -/
theorem block_silent_v2_forever (n : Nat) : ∀ (s : KV2) (cur' : List KeyCode) (ost : Override.OverrideStates),
    MayBlockV2 s cur' ost →
    ∃ s', ticksV2N n s = .ok s' ∧ s'.k.out = s.k.out ∧ s'.k.layout.states = s.k.layout.states ∧
      s'.chv2.isSome = s.chv2.isSome ∧ MayBlockV2 s' cur' ost :=
  fun s cur' ost h => ⟨_, ticksV2N_quiet n s cur' ost h⟩

/-- non-vacuity of (b): a key held down with a chord table configured, its countdown still running -/
def heldWithTable : KV2 :=
  { k := { layout := { cfg := { layers := [[]], srcKeys := [] }, states := [.normalKey 30 (0, 30) 0] },
           customs := [], keyOutputs := [[]], prevKeys := [30],
           mods := { codes := [42, 54, 56, 100, 29, 97, 125, 126], lsft := 42, rsft := 54 } },
    chv2 := some { cfg := { mapping := [(30, [v2Chord]), (48, [v2Chord])], minIdle := 5 },
                   ticksUntilChange := 7, prevActiveLayer := 0, prevQueueLen := 0 } }

example : MayBlockV2 heldWithTable [30] Override.OverrideStates.new :=
  ⟨⟨rfl, rfl, by intro st hst; simp [heldWithTable] at hst; subst hst; trivial, rfl, rfl, rfl,
    ⟨fun _ h => h, fun _ h => h⟩, rfl⟩,
   by intro ch hch; simp only [heldWithTable, Option.some.injEq] at hch; rw [← hch]; exact ⟨rfl, rfl, rfl⟩⟩

/-! ## Runs of the composed model -/

inductive KIn | inp (i : Input) | t (n : Nat)

def runKV2 : List KIn → KV2 → Except K.Crash KV2
  | [], s => .ok s
  | .inp i :: rest, s => match handleInputEventV2 s i with
    | .error c => .error c
    | .ok s => runKV2 rest s
  | .t n :: rest, s => match ticksV2N n s with
    | .error c => .error c
    | .ok s => runKV2 rest s

/-! The long runs below are evaluated by the kernel.  A tick of the composed model is dear to evaluate, and
on most ticks of a run nothing happens: they are evaluated as `runQ`, which takes the closed form of
`quiet_tick_v2` for those ticks, and jumps to the end of a stretch of ticks once kanata may block
(`ticksV2N_quiet`).  (The statements are turned into `runQ` by `runQ_eq`, not by unfolding `runKV2` in
place: checking that rewriting, the kernel evaluates the run as it stands.) -/

def plainSt : St → Bool
  | .repeatingSequence .. | .seqCustomPending _ | .seqCustomActive _ | .tombstone => false
  | _ => true

/-- `C07.MayBlock k cur' ost` as a test that computes the two witnesses -/
def mayBlock? (k : KState) : Option (List KeyCode × Override.OverrideStates) :=
  match k.overrides.overrideKeys (adjustKeys k k.layout.keycodes) k.overrideStates with
  | .ok (cur', ost) =>
    if isIdle k && k.waitingForIdle.isEmpty && k.layout.states.all plainSt && k.curKeys.isEmpty &&
        ost.toRemove.isEmpty && k.prevKeys.all (cur'.contains ·) && cur'.all (k.prevKeys.contains ·) &&
        k.dyn.rcd.isNone then some (cur', ost) else none
  | .error _ => none

theorem mayBlock?_sound {k : KState} {cur' : List KeyCode} {ost : Override.OverrideStates}
    (h : mayBlock? k = some (cur', ost)) : C07.MayBlock k cur' ost := by
  unfold mayBlock? at h
  split at h
  · rename_i c o hov
    split at h
    · rename_i hk
      injection h with h; injection h with h1 h2; subst h1 h2
      simp only [Bool.and_eq_true, List.isEmpty_iff, List.all_eq_true, List.contains_iff_mem,
        Option.isNone_iff_eq_none] at hk
      obtain ⟨⟨⟨⟨⟨⟨⟨hi, hw⟩, hp⟩, hc⟩, hr⟩, hs1⟩, hs2⟩, hrc⟩ := hk
      refine ⟨hi, hw, fun st hst => ?_, hc, hov, hr, ⟨hs1, hs2⟩, hrc⟩
      have := hp st hst
      cases st <;> first | trivial | cases this
    · cases h
  · cases h

def atRest (c : Option ChV2) : Bool := c.all fun ch => chv2IsIdle ch && chv2Accepts ch

theorem atRest_sound {c : Option ChV2} (h : atRest c = true) : Chv2RestO c := by
  intro ch hc
  rw [hc] at h
  simp only [atRest, Option.all_some, chv2IsIdle, chv2Accepts, Bool.and_eq_true, List.isEmpty_iff, beq_iff_eq] at h
  exact ⟨h.1.1, h.1.2, h.2⟩

/-- `ticksV2N` with the closed form for the quiet ticks.  The test of the chords-v2 machine comes first:
it is the one that fails on the ticks on which something happens, and the cheaper one. -/
def ticksQ : Nat → KV2 → Except K.Crash KV2
  | 0, s => .ok s
  | n + 1, s =>
    match silentTick? s.chv2 s.k.layout.currentLayer, mayBlock? s.k with
    | some c', some (cur', ost) =>
      if atRest s.chv2 then .ok (afterQuietTicksV2 (n + 1) s cur' ost)
      else ticksQ n { k := C07.afterQuietTick s.k cur' ost, chv2 := c' }
    | _, _ =>
      match tickStatesV2 s with
      | .error c => .error c
      | .ok s' => ticksQ n s'

theorem ticksQ_eq : ∀ (n : Nat) (s : KV2), ticksQ n s = ticksV2N n s := by
  intro n
  induction n with
  | zero => intro s; rfl
  | succ n ih =>
    intro s
    unfold ticksQ
    split
    · rename_i c' cur' ost hs hk
      split
      · rename_i hr
        exact (ticksV2N_quiet (n + 1) s cur' ost ⟨mayBlock?_sound hk, atRest_sound hr⟩).1.symm
      · simp only [ticksV2N, quiet_tick_v2 s cur' ost c' (mayBlock?_sound hk) hs, ih]
    · simp only [ticksV2N]
      split
      · rfl
      · exact ih _

def runQ : List KIn → KV2 → Except K.Crash KV2
  | [], s => .ok s
  | .inp i :: rest, s => match handleInputEventV2 s i with
    | .error c => .error c
    | .ok s => runQ rest s
  | .t n :: rest, s => match ticksQ n s with
    | .error c => .error c
    | .ok s => runQ rest s

theorem runQ_eq : ∀ (l : List KIn) (s : KV2), runQ l s = runKV2 l s := by
  intro l
  induction l with
  | nil => intro s; rfl
  | cons x rest ih =>
    intro s
    cases x with
    | inp i => simp only [runQ, runKV2, ih]
    | t n => simp only [runQ, runKV2, ih, ticksQ_eq]

/-- keys a b c mapped to themselves, `(defchordsv2 (a b) 1 50 all-released ())`, rapid-event-delay 5:
the layout and table of `v2Start` (Props/C09V2.lean) under the kanata layer -/
def kanStart : KV2 :=
  { k := { layout := v2Start.lay, customs := [], keyOutputs := [[]],
           mods := { codes := [42, 54, 56, 100, 29, 97, 125, 126], lsft := 42, rsft := 54 } },
    chv2 := v2Start.chv2 }

/-- what reached the OS, the scan-skipping countdown and remembered queue length, whether kanata may block -/
def obsK : Except K.Crash KV2 → Option (List Os × Nat × Nat × Bool)
  | .error _ => none
  | .ok s => some (s.k.out, ((s.chv2.map (·.ticksUntilChange)).getD 0), ((s.chv2.map (·.prevQueueLen)).getD 0),
                   (canBlockV2 s 1).2)

/-- a alone is pressed and released 3 ms later (a failed chord attempt), then 5 ms pass -/
def failedAttempt : List KIn := [.inp (.press 30), .t 3, .inp (.release 30), .t 5]

/-- the same history at the layout level (`stepsV2` of Props/C09V2.lean takes the tick function) -/
def failedAttemptL : List In := [.p 30, .t 3, .r 30, .t 5]

/-- held keys, layout queue length, and of the chords-v2 machine: queue length, active chords, cool-down,
scan countdown, remembered queue length -/
def obsS : Except L.Crash LayoutV2 → Option (List Nat × List Nat)
  | .error _ => none
  | .ok s => match s.chv2 with
    | none => none
    | some c => some (s.lay.keycodes, [s.lay.queue.length, c.queue.length, c.active.length, c.ticksToIgnore,
                                       c.ticksUntilChange, c.prevQueueLen])

/-- **chv2_stale_countdown_counterexample** (the code BEFORE fix PENDING-kanv2, `PinnedStale.tickV2` of
Model/ChordsV2Pinned.lean: the cool-down branch of `drain_inputs` returned without touching
`ticks_until_next_state_change`).  After a failed chord attempt the cool-down ends with the countdown
of the last scan (46) and its queue length (2) left over, while everything `is_idle_chv2` and
`accepts_chords_chv2` look at is at rest: queue empty, no active chord, cool-down 0 - kanata blocks in
that state (first line).  One more tick resets the leftover (second line), so the blocking loop and the
always-ticking loop are in DIFFERENT states when the next input arrives, and an input that puts two
events into the queue at once (`KeyValue::Tap`, a virtual-key tap: press and release with no tick
between) tells them apart: from the blocking state the queue length equals the remembered 2 and the
scan is skipped while the stale countdown runs - two ticks later both events are still in the
chords-v2 queue and nothing is held (third line); had the loop ticked once more before the same input,
the key is down after two ticks (fourth line).  Reproduced on the real code (corpus/C07.txt, `kanv2
stale countdown`: the tapped key appears 195 ms later under the blocking loop).  On the repaired code
the leftover countdown is gone and both orders give the same (fifth, sixth line). -/
theorem chv2_stale_countdown_counterexample :
    obsS (stepsV2 PinnedStale.tickV2 failedAttemptL v2Start) = some ([], [0, 0, 0, 0, 46, 2]) ∧
    obsS (stepsV2 PinnedStale.tickV2 (failedAttemptL ++ [.t 1]) v2Start) = some ([], [0, 0, 0, 0, 0, 0]) ∧
    obsS (stepsV2 PinnedStale.tickV2 (failedAttemptL ++ [.p 30, .r 30, .t 2]) v2Start) = some ([], [0, 2, 0, 0, 44, 2]) ∧
    obsS (stepsV2 PinnedStale.tickV2 (failedAttemptL ++ [.t 1, .p 30, .r 30, .t 2]) v2Start) = some ([30], [1, 0, 0, 3, 49, 2]) ∧
    obsS (stepsV2 LayoutV2.tick (failedAttemptL ++ [.p 30, .r 30, .t 2]) v2Start) = some ([30], [1, 0, 0, 3, 0, 2]) ∧
    obsS (stepsV2 LayoutV2.tick (failedAttemptL ++ [.t 1, .p 30, .r 30, .t 2]) v2Start) = some ([30], [1, 0, 0, 3, 0, 2]) := by
  -- one evaluation: the six runs share their first steps
  decide +kernel

/-! ### What the repair PENDING-kanv2 makes true -/

/-- the scan branch of `drain_inputs` (its third branch) -/
def scanNow (s : ChV2) (dq : List Queued) (layer : Nat) : Except L.Crash (ChV2 × List Queued) :=
  let s := { s with ticksUntilChange := 0, prevActiveLayer := layer }
  match drainVirtualKeys s.queue dq with
  | .error c => .error c
  | .ok (q, dq) =>
    match drainReleases q 0 s.active dq with
    | .error c => .error c
    | .ok (q, achs, dq) =>
      match processPresses { s with queue := q, active := achs } layer with
      | .error c => .error c
      | .ok s => .ok ({ s with prevQueueLen := s.queue.length % 256 }, dq)

/-- **cooldown_leaves_no_stale_countdown** (full, any state).  A tick that finds the cool-down running
empties the queue and leaves `ticks_until_next_state_change = 0`; and with the countdown at 0 (and no
cool-down) `drain_inputs` never takes the skipping branch: whatever the remembered layer and queue
length, the queue is scanned in that very tick.  So an input that arrives after a cool-down - of any
queue length - is scanned at once. -/
theorem cooldown_leaves_no_stale_countdown (s : ChV2) (dq : List Queued) (layer : Nat) :
    (s.ticksToIgnore > 0 → ∃ s' dq', drainInputs s dq layer = .ok (s', dq') ∧ s'.ticksUntilChange = 0 ∧ s'.queue = []) ∧
    (s.ticksToIgnore = 0 → s.ticksUntilChange = 0 → drainInputs s dq layer = scanNow s dq layer) := by
  constructor
  · intro h
    exact ⟨_, _, drainInputs_cool s dq layer h, rfl, rfl⟩
  · intro h1 h2
    unfold drainInputs scanNow
    simp only [h1, h2, Nat.lt_irrefl, gt_iff_lt, if_false, decide_false, Bool.false_and, Bool.false_eq_true]
    rfl

/-- the countdown is only ever non-zero while presses are waiting in the queue -/
def NoStale (s : ChV2) : Prop := s.queue = [] → s.ticksUntilChange = 0

theorem processPresses_noStale (s s' : ChV2) (layer : Nat) (h0 : s.ticksUntilChange = 0)
    (h : processPresses s layer = .ok s') : NoStale s' := by
  rcases processPresses_cases s layer with h1 | h1 | ⟨presses, rf, starting, possible, st, hcp, hhead, _, _, h1⟩ <;>
    rw [h1] at h <;> cases h
  · exact fun _ => h0
  · exact fun _ => h0
  · -- an activation resets the countdown; without one the queue is the old one, which holds a press
    intro hq
    simp only [ppStore] at hq ⊢
    split
    · rfl
    · rename_i hna
      rw [if_neg hna] at hq
      rw [hq] at hcp
      cases hcp
      cases hhead

/-- **chv2_no_stale_countdown_invariant** (full; what the repair adds to `idle_implies_chv2_at_rest`).
`NoStale` - an empty queue has no countdown - holds in the fresh state, is preserved by every event
(the queue is not empty afterwards) and by every tick of the chords-v2 machine from ANY state that has
it.  With it, a blocking state (`idle_implies_chv2_at_rest`: queue empty) has `ticksUntilChange = 0`:
at rest in the full sense - the next input, of whatever queue length, is scanned in the first tick
after it (`cooldown_leaves_no_stale_countdown`), as under the loop that never blocks. -/
theorem chv2_no_stale_countdown_invariant :
    (∀ cfg : ChV2Cfg, NoStale { cfg }) ∧
    (∀ (s s' : ChV2) (layer : Nat) (dq : List Queued), NoStale s → tickChv2 s layer = .ok (s', dq) → NoStale s') := by
  refine ⟨fun _ _ => rfl, ?_⟩
  intro s s' layer dq hn h
  obtain ⟨s1, dq1, hd, rfl, _⟩ := tickChv2_ok h
  show s1.queue = [] → s1.ticksUntilChange = 0
  rcases Nat.eq_zero_or_pos (agedV2 s).ticksToIgnore with h0 | h0
  · by_cases hf : FastCond (agedV2 s) layer
    · -- the fast path only counts down, and is not taken with an empty queue
      rw [drainInputs_fast _ _ _ h0 hf] at hd
      cases hd
      intro hq
      exact absurd hf.1 (by rw [show (agedV2 s).ticksUntilChange = 0 from hn (List.map_eq_nil_iff.mp hq)]; exact Nat.lt_irrefl 0)
    · rw [drainInputs_scan _ _ _ h0 hf] at hd
      split at hd
      · cases hd
      · split at hd
        · cases hd
        · rename_i s2 hpp
          cases hd
          exact processPresses_noStale _ s2 layer rfl hpp
  · rw [drainInputs_cool _ _ _ h0] at hd
    cases hd
    exact fun _ => rfl

/-- a blocking state that has the invariant is at rest in the full sense -/
theorem idle_implies_chv2_at_rest_full (s : KV2) (ms : Nat) (h : (canBlockV2 s ms).2 = true)
    (ch : ChV2) (hch : s.chv2 = some ch) (hn : NoStale ch) :
    ch.queue = [] ∧ ch.active = [] ∧ ch.ticksToIgnore = 0 ∧ ch.ticksUntilChange = 0 := by
  obtain ⟨_, _, hr⟩ := idle_implies_chv2_at_rest s ms h
  have := hr ch hch
  exact ⟨this.queue, this.active, this.cool, hn this.queue⟩

/-- the failed attempt on the repaired model: kanata may block with no countdown left, and the tap that
follows is out after three ticks whether or not the loop ticked in between -/
theorem chv2_stale_countdown_repaired :
    obsK (runKV2 failedAttempt kanStart) = some ([.down 30, .up 30], 0, 2, true) ∧
    obsK (runKV2 (failedAttempt ++ [.inp (.tap 30), .t 3]) kanStart)
      = some ([.down 30, .up 30, .down 30, .up 30], 0, 2, false) ∧
    obsK (runKV2 (failedAttempt ++ [.t 1, .inp (.tap 30), .t 3]) kanStart)
      = some ([.down 30, .up 30, .down 30, .up 30], 0, 2, false) := by
  decide +kernel

/-! ## (c) the chord's action reaches the OS once -/

/-- both keys of the chord pressed `g` ms apart (either order), held, released one after the other,
then a quiet tail -/
def chordTyped (first second g : Nat) : List KIn :=
  [.inp (.press first), .t g, .inp (.press second), .t 10, .inp (.release first), .t 3, .inp (.release second), .t 70]

/-- **chord_v2_action_reaches_os_once_kan_partial**.  Full statement, not proved:
`chord_v2_action_reaches_os_once_kan` - for EVERY configuration with a two-key chord `{a, b}` whose
action is a plain key `c`, every state in which the chords-v2 machine and the layout are at rest,
every gap below the chord's timeout and either press order, the composed model emits exactly
`[down c, up c]`.  Proved here: that statement for the table `(defchordsv2 (a b) 1 50 all-released ())`
over plain keys from the fresh state, for the gaps 0, 1, 2, 24, 46, 47 ms between the two presses (the
boundaries of the 50 ms window as the code counts it, and the middle; the whole range `g < 48` evaluates
the same way but takes minutes) and both press orders, by kernel evaluation of the composed model (`handleInputEventV2` / `tickStatesV2`): the OS sees
one press and one release of the chord's key, no press of a or b, and kanata may block again
afterwards with the chords-v2 machine at rest.  What is missing for the full statement is the
composition, for symbolic tables and key codes, of stage theorems that exist: the scan decision
(`chord_v2_exact_set_partial`, any table, any order), delivery and release of the activated chord
(`chord_v2_pending_is_delivered`, `chord_v2_released_with_participants`, `chord_v2_released_chord_leaves`),
the layout performing a queued plain-key action, and the kanata key-list diffing (`C07.diff_silent_when_synced`
for the ticks in between, `block_silent_v2` for the tail); per run the correspondence check compares exactly
this observable with the real `Kanata` for every generated table. -/
theorem chord_v2_action_reaches_os_once_kan_partial :
    ∀ g ∈ [0, 1, 2, 24, 46, 47],
      obsK (runKV2 (chordTyped 30 48 g) kanStart) = some ([.down 2, .up 2], 0, 0, true) ∧
      obsK (runKV2 (chordTyped 48 30 g) kanStart) = some ([.down 2, .up 2], 0, 0, true) := by
  simp only [← runQ_eq]
  decide +kernel

/-- non-vacuity: the same keys typed one after the other (no overlap) are NOT the chord -/
example : obsK (runKV2 [.inp (.press 30), .t 5, .inp (.release 30), .t 30, .inp (.press 48), .t 5, .inp (.release 48), .t 70] kanStart)
    = some ([.down 30, .up 30, .down 48, .up 48], 0, 0, true) := by
  rw [← runQ_eq]
  decide +kernel

end KVerif.C09
