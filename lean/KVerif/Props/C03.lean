/-
C03 — configuration parsing is total: every text yields a configuration or a diagnostic.
Property theorems only, over the model of the front end (Model/SExpr.lean, Model/Template.lean);
helper lemmas are in KVerif/Lemmas/SExpr*.lean.  The ~90 per-action argument parsers are not
modelled: for them the check is the oracle run on the real parser (harness/src/c03.rs).

`fx : Fixes` selects the revision of the code: `Fixes.pinned` is the pinned source, `Fixes.fixed`
has the repairs fix-1, fix-3, fix-4, fix-7.  A theorem quantified over `fx` holds for both.
-/
import KVerif.Lemmas.SExprFront
import KVerif.Lemmas.SExprTemplate
import KVerif.Lemmas.SExprBalance
import KVerif.Gen.C03Consts
namespace KVerif.SExpr

/-! ## 1. lexer and list builder -/

/-- a span lies inside text `s` -/
def InBounds (s : List Nat) (sp : Span) : Prop := sp.start.abs ≤ sp.stop.abs ∧ sp.stop.abs ≤ s.length

/-- both ends of a span are character boundaries of `s` (what `&s[span]` and miette's
`SourceSpan` need) -/
def OnCharBoundaries (s : List Nat) (sp : Span) : Prop :=
  isCharBoundary s sp.start.abs = true ∧ isCharBoundary s sp.stop.abs = true

/-- `P` holds for every span of a parse result: the spans of all atoms and lists of the tree and of
the collected comments/whitespace when the text is accepted, the span of the diagnostic when it is
rejected. -/
def EverySpan (P : Span → Prop) (r : Except PErr (List TopLevel × List Meta)) : Prop :=
  match r with
  | .ok (tops, md) => (∀ t ∈ tops, P t.sp ∧ SExpr.AllL (fun _ sp => P sp) t.xs) ∧ ∀ m ∈ md, P m.span
  | .error e => P e.span

/-- **parse_total** (full, both revisions).  On every UTF-8 text — any bytes a Rust `&str` can
hold, no bound on length or nesting — `sexpr::parse_` returns: none of `Position::new`'s and
`Span::new`'s asserts, `Span::cover`'s file-name assert, the `expect`s on the stack and on the BOM
strip, or the `&s[span]` slices can panic, and the token loop finishes (it needs at most one
iteration per byte). -/
theorem parse_total (fx : Fixes) (ignore : Bool) (s : List Nat) (h : validUtf8 s = true) :
    ∃ r, parse fx ignore s = .ok r := by
  obtain ⟨_, r, _, hr, _⟩ := parse_spec fx ignore s h
  exact ⟨r, hr⟩

/-- the text `(defsrc a) ;; é⏎(deflayer "x" r#"漢"# #| 😀 |# a)` (1- to 4-byte characters) -/
def sampleText : List Nat :=
  [40, 100, 101, 102, 115, 114, 99, 32, 97, 41, 32, 59, 59, 32, 195, 169, 10, 40, 100, 101, 102, 108, 97, 121, 101,
   114, 32, 34, 120, 34, 32, 114, 35, 34, 230, 188, 162, 34, 35, 32, 35, 124, 32, 240, 159, 152, 128, 32, 124, 35, 32,
   97, 41]

example : validUtf8 sampleText = true := by decide +kernel
example : ∃ tops, parse Fixes.pinned true sampleText = .ok (.ok (tops, [])) ∧ tops.length = 2 := ⟨_, rfl, rfl⟩

/-- **spans_in_bounds** (full, both revisions).  Every span produced for an accepted or a rejected
text satisfies `start ≤ end ≤ length` of the text the spans refer to (the text after the BOM, which
is what the parser attaches to its spans as `file_content`). -/
theorem spans_in_bounds (fx : Fixes) (ignore : Bool) (s s' : List Nat) (r) (h : validUtf8 s = true)
    (hs : stripBom s = .ok s') (hr : parse fx ignore s = .ok r) : EverySpan (InBounds s') r :=
  (parse_post h hs hr).spans (P := InBounds s') (fun _ h => ⟨h.le, h.stop.le⟩) fun _ _ h => ⟨h.le, h.inb⟩

/-- **spans_on_char_boundary** (full for the repaired lexer; for the pinned lexer every span
except the end of an "Unterminated multiline string" diagnostic).  If the text is valid UTF-8, every
span starts and ends at a character boundary: the lexer only ever stops after an ASCII byte, before
an ASCII byte, or at the end of the text, and in UTF-8 a continuation byte never follows an ASCII
byte. -/
theorem spans_on_char_boundary (fx : Fixes) (ignore : Bool) (s s' : List Nat) (r) (h : validUtf8 s = true)
    (hs : stripBom s = .ok s') (hr : parse fx ignore s = .ok r)
    (hfix : fx.rawEnd = true ∨ ∀ e, r = .error e → e.msg ≠ .lex .untermMlString) :
    EverySpan (OnCharBoundaries s') r :=
  (parse_post h hs hr).spans (P := OnCharBoundaries s') (fun _ h => ⟨h.bs, h.be⟩) fun e he h =>
    ⟨h.bs, h.be fun hm => hfix.elim id fun hf => absurd hm (hf e he)⟩

/-- **atoms_are_slices** (full, both revisions).  In an accepted text every atom's string is exactly
`&s[span]` — the literal, checked slice of the text at the atom's span (`slice` panics like Rust
does when a bound is out of range or inside a character; it does not here).  This also justifies
the model's shortcut of taking an atom's bytes from the iterator instead of re-slicing the text. -/
theorem atoms_are_slices (fx : Fixes) (ignore : Bool) (s s' : List Nat) (tops md) (h : validUtf8 s = true)
    (hs : stripBom s = .ok s') (hr : parse fx ignore s = .ok (.ok (tops, md))) :
    ∀ t ∈ tops, SExpr.AllL (fun txt sp => ∀ a, txt = some a → slice s' sp.start.abs sp.stop.abs = .ok a) t.xs := by
  intro t ht
  exact SExpr.AllL.imp (fun _ _ h => h.2) _ ((parse_post h hs hr).1 t ht).2

/-- **raw_string_span_counterexample** (pinned source).  `r#"é` — an unterminated raw string that
ends in a two-byte character — is rejected with a span that ends *inside* that character
(offset 4 of 5): `read_until_multiline_string_end` stops one byte short of the end.  miette then
panics while rendering the one-line snippet (reproduced on the real code: "end byte index 4 is not
a char boundary", miette-5.10.0 graphical.rs:640). -/
theorem raw_string_span_counterexample :
    validUtf8 [114, 35, 34, 195, 169] = true ∧
    ∃ e, parse Fixes.pinned true [114, 35, 34, 195, 169] = .ok (.error e) ∧ e.msg = .lex .untermMlString ∧
      e.span.stop.abs = 4 ∧ isCharBoundary [114, 35, 34, 195, 169] 4 = false :=
  ⟨by decide, ⟨⟨⟨0, 0, 0⟩, ⟨4, 0, 0⟩, 1⟩, .lex .untermMlString⟩, rfl, rfl, rfl, by decide⟩

/-- with fix-7 the same text is rejected with the span of the whole text -/
example : ∃ e, parse Fixes.fixed true [114, 35, 34, 195, 169] = .ok (.error e) ∧ e.span.stop.abs = 5 :=
  ⟨⟨⟨⟨0, 0, 0⟩, ⟨5, 0, 0⟩, 1⟩, .lex .untermMlString⟩, rfl, rfl⟩

/-- **unbalanced_is_diag** (full, both revisions).  Let `ks` be the token kinds the lexer yields
for the text and `balance ks 0` the ordinary parenthesis count over them (the specification,
Lemmas/SExprBalance.lean).  Then `parse` answers exactly what the count says: a closing parenthesis
with nothing open gives the diagnostic "Unexpected closing parenthesis", parentheses left open give
"Unclosed opening parenthesis", a lexical error gives that error, and a text is accepted only if it
is balanced.  With `parse_total`: an unbalanced text always yields a diagnostic, never a crash and
never a configuration. -/
theorem unbalanced_is_diag (fx : Fixes) (ignore : Bool) (s s' : List Nat) (ks) (r)
    (hs : stripBom s = .ok s') (hk : tokKinds fx ignore (s'.length + 1) (It.ofText s') = .ok ks)
    (hr : parse fx ignore s = .ok r) :
    (balance ks 0 = .unexpectedClose → ∃ sp, r = .error ⟨sp, .unexpectedClose⟩) ∧
    (balance ks 0 = .unclosed → ∃ sp, r = .error ⟨sp, .unclosedOpen⟩) ∧
    (balance ks 0 = .lexError → ∃ sp l, r = .error ⟨sp, .lex l⟩) ∧
    (∀ tops md, r = .ok (tops, md) → balance ks 0 = .balanced) := by
  have key := parse_answers hs hk hr
  exact ⟨fun h => by rwa [h] at key, fun h => by rwa [h] at key, fun h => by rwa [h] at key,
    fun tops md hok => (hok ▸ key).of_ok⟩

/-- `(a))` has one closing parenthesis too many; `((a)` one too few -/
example : ∃ ks, tokKinds Fixes.fixed true 5 (It.ofText [40, 97, 41, 41]) = .ok ks ∧ balance ks 0 = .unexpectedClose :=
  ⟨_, rfl, rfl⟩
example : ∃ ks, tokKinds Fixes.fixed true 5 (It.ofText [40, 40, 97, 41]) = .ok ks ∧ balance ks 0 = .unclosed :=
  ⟨_, rfl, rfl⟩

/-- the token stream of the hypothesis exists for every text -/
example (fx : Fixes) (s : List Nat) : ∃ ks, tokKinds fx true (s.length + 1) (It.ofText s) = .ok ks :=
  tokKinds_total fx true s _ _ [] (Good.ofText s) (by simp [It.ofText])

/-! ## 2. `impl Debug for SExpr` -/

/-- **debug_total** (full, with fix-1).  The repaired `{:?}` of `SExpr` returns a string for every
expression, empty lists included. -/
theorem debug_total (e : SExpr) : ∃ bs, e.debug Fixes.fixed = .ok bs := debug_total_aux Fixes.fixed rfl e

/-- `(defalias () a)` -/
def debugWitness : List Nat := [40, 100, 101, 102, 97, 108, 105, 97, 115, 32, 40, 41, 32, 97, 41]

/-- **debug_counterexample** (pinned source).  `(defalias () a)` parses, and formatting the parsed
item with `{:?}` — which `parse_aliases`' error path does — hits `l.t.len() - 1` on the empty list
(reproduced on the real code: "attempt to subtract with overflow", sexpr.rs:226). -/
theorem debug_counterexample :
    ∃ xs sp, parse Fixes.pinned true debugWitness = .ok (.ok ([⟨xs, sp⟩], [])) ∧
      (SExpr.list xs sp).debug Fixes.pinned = .error .debugUnderflow :=
  ⟨[A "defalias" 1 9, L [] 10 12, A "a" 13 14], sp1 0 15, by decide +kernel⟩

example : ∃ xs sp, parse Fixes.fixed true debugWitness = .ok (.ok ([⟨xs, sp⟩], [])) ∧
      (SExpr.list xs sp).debug Fixes.fixed = .ok debugWitness :=
  ⟨[A "defalias" 1 9, L [] 10 12, A "a" 13 14], sp1 0 15, by decide +kernel⟩

/-! ## 3. variables -/

/-- **resolve_terminates** (full, on the model of `SExpr::atom(vars)` / `SExpr::list(vars)`).
If the chain of `$name` references is ranked (no variable reaches itself through atom values), then
resolving any expression finishes: there is a recursion depth that suffices, for every expression. -/
theorem resolve_terminates (vars : Vars) (rank : Bytes → Nat) (h : ChainRanked vars rank) (e : SExpr) :
    ∃ n, ∀ fuel, n ≤ fuel →
      (∃ r, e.atomV fuel (some vars) = .ok r) ∧ (∃ r, e.listV fuel (some vars) = .ok r) := by
  rcases chase_cases vars e with h0 | ⟨t, sp, m, v, rfl, hs, hl⟩
  · exact ⟨0, fun fuel _ => resolves_of_chase (h0 fuel)⟩
  · refine ⟨rank m + 1, fun fuel hf => ?_⟩
    obtain ⟨f, rfl⟩ : ∃ f, fuel = f + 1 := ⟨fuel - 1, by omega⟩
    obtain ⟨r, hr⟩ := chase_total_of_ranked h f m v hl (by omega)
    exact resolves_of_chase ((chase_ref vars hs hl f).trans hr)

/-- `(defvar a $b b c)`: `$a` resolves to `c` -/
example : ChainRanked [([97], .atom [36, 98] Span.default), ([98], .atom [99] Span.default)]
    (fun n => if n = [97] then 1 else 0) := by
  intro n t sp m v hn hd hm
  unfold List.lookup at hn
  split at hn
  · rename_i h1
    cases hn; cases hd
    cases eq_of_beq h1; decide
  · unfold List.lookup at hn
    split at hn
    · cases hn; cases hd
    · cases hn

/-- `(defvar a $a)` -/
def varCycleWitness : List Nat := [40, 100, 101, 102, 118, 97, 114, 32, 97, 32, 36, 97, 41]

/-- **parse_vars_accepts_cycle_counterexample** (pinned source).  `parse_vars` accepts
`(defvar a $a)`, and resolving `$a` afterwards recurses without end at every recursion depth: the
real parser overflows its stack (reproduced: process abort). -/
theorem parse_vars_accepts_cycle_counterexample :
    ∃ xs sp vars, parse Fixes.pinned true varCycleWitness = .ok (.ok ([⟨xs, sp⟩], [])) ∧
      parseVars Fixes.pinned 100 [xs] [] = .ok (.ok vars) ∧
      ∀ fuel, (SExpr.atom [36, 97] Span.default).atomV fuel (some vars) = .error .fuelOut :=
  ⟨[A "defvar" 1 7, A "a" 8 9, A "$a" 10 12], sp1 0 13, [([97], .atom [36, 97] (sp1 10 12))],
    by decide +kernel, by decide +kernel, fun fuel => by
      rw [(resolve_eq_chase _ _ _).1, chase_selfref (n := [97]) rfl rfl]; rfl⟩

/-- with fix-3 the definition is refused with a diagnostic at the variable name -/
example : ∃ xs sp d, parse Fixes.fixed true varCycleWitness = .ok (.ok ([⟨xs, sp⟩], [])) ∧
    parseVars Fixes.fixed 100 [xs] [] = .ok (.error d) ∧ (d.span.map (·.start.abs)) = some 8 :=
  ⟨[A "defvar" 1 7, A "a" 8 9, A "$a" 10 12], sp1 0 13, selfRefDiag (sp1 8 9), by decide +kernel⟩

/-- `(defvar l (x $l) c (concat $l))` -/
def varListCycleWitness : List Nat :=
  [40, 100, 101, 102, 118, 97, 114, 32, 108, 32, 40, 120, 32, 36, 108, 41, 32, 99, 32, 40, 99, 111, 110, 99, 97, 116,
   32, 36, 108, 41, 41]

/-- **concat_list_cycle_counterexample** (pinned source).  A list-valued variable that mentions
itself makes `push_all_atoms` (the evaluation of `concat`) recurse without end, inside `parse_vars`
itself: at every fuel the model runs out (reproduced on the real parser: stack overflow). -/
theorem concat_list_cycle_counterexample :
    parse Fixes.pinned true varListCycleWitness = .ok (.ok ([⟨[A "defvar" 1 7, A "l" 8 9,
      L [A "x" 11 12, A "$l" 13 15] 10 16, A "c" 17 18, L [A "concat" 20 26, A "$l" 27 29] 19 30], sp1 0 31⟩], [])) ∧
    ∀ fuel, parseVars Fixes.pinned fuel [[A "defvar" 1 7, A "l" 8 9,
      L [A "x" 11 12, A "$l" 13 15] 10 16, A "c" 17 18, L [A "concat" 20 26, A "$l" 27 29] 19 30]] [] =
        .error .fuelOut := by
  refine ⟨by decide +kernel, fun fuel => ?_⟩
  simp only [A, L]
  rw [parseVars_cons_ok _ _ _ _ (checkFirstExpr_kw "defvar" _ _)]
  -- `l` is stored as the list `(x $l)`: its head is not `concat`, the name is free, the pinned revision does not check
  rw [parseVarsPairs_pair, defineVar, evalValue, parseListVar_atom, if_neg (by decide +kernel)]
  show andThen (andThen (.ok (insertVar Fixes.pinned _ _ [] _)) _) _ = _
  rw [insertVar_of _ rfl rfl]
  -- `c` is `(concat $l)`, evaluated against that table
  show andThen (parseVarsPairs _ _ _ _) _ = _
  rw [parseVarsPairs_pair, defineVar, evalValue, parseListVar_atom, if_pos rfl, List.nil_append,
    pushAllAtoms_selfref (n := kw "l") (by decide +kernel) (by decide +kernel) (List.lookup_cons_self ..)]
  rfl

example : ∃ xs sp d, parse Fixes.fixed true varListCycleWitness = .ok (.ok ([⟨xs, sp⟩], [])) ∧
    parseVars Fixes.fixed 100 [xs] [] = .ok (.error d) ∧ (d.span.map (·.start.abs)) = some 8 :=
  ⟨[A "defvar" 1 7, A "l" 8 9, L [A "x" 11 12, A "$l" 13 15] 10 16, A "c" 17 18,
    L [A "concat" 20 26, A "$l" 27 29] 19 30], sp1 0 31, selfRefDiag (sp1 8 9), by decide +kernel⟩

/-! ## 4. templates -/

/-- `(deftemplate a (x y) ($x a $x $y))(t! a t! t!)` -/
def tmplWitness1 : List Nat :=
  [40, 100, 101, 102, 116, 101, 109, 112, 108, 97, 116, 101, 32, 97, 32, 40, 120, 32, 121, 41, 32, 40, 36, 120, 32, 97,
   32, 36, 120, 32, 36, 121, 41, 41, 40, 116, 33, 32, 97, 32, 116, 33, 32, 116, 33, 41]

def tmplTops1 : List TopLevel :=
  [⟨[A "deftemplate" 1 12, A "a" 13 14, L [A "x" 16 17, A "y" 18 19] 15 20,
     L [A "$x" 22 24, A "a" 25 26, A "$x" 27 29, A "$y" 30 32] 21 33], sp1 0 34⟩,
   ⟨[A "t!" 35 37, A "a" 38 39, A "t!" 40 42, A "t!" 43 45], sp1 34 46⟩]

/-- **expand_diverges_counterexample** (pinned source).  With `t!` passed as a parameter, the
expansion of `(t! a t! t!)` is `(t! a t! t!)` again: `expand` re-scans and re-expands it forever.
At every fuel the model of the pinned `expand_templates` runs out (reproduced: the real parser does
not return; killed after 20 s). -/
theorem expand_diverges_counterexample :
    parse Fixes.pinned true tmplWitness1 = .ok (.ok (tmplTops1, [])) ∧
    ∀ fuel, expandTemplates Fixes.pinned fuel tmplTops1 = .error .fuelOut :=
  ⟨by decide +kernel, expandTemplates_pinned_diverges
    (ts := [⟨kw "a", [kw "x", kw "y"], [L [A "$x" 22 24, A "a" 25 26, A "$x" 27 29, A "$y" 30 32] 21 33]⟩])
    (pre := []) (cx := [A "t!" 35 37, A "a" 38 39, A "t!" 40 42, A "t!" 43 45])
    (fx := [A "t!" 40 42, A "a" 25 26, A "t!" 40 42, A "t!" 43 45]) (csp := sp1 34 46) (fsp := sp1 21 33)
    (by decide +kernel)⟩

/-- `(deftemplate a () ((if-equal x x t!) a))(t! a)` -/
def tmplWitness2 : List Nat :=
  [40, 100, 101, 102, 116, 101, 109, 112, 108, 97, 116, 101, 32, 97, 32, 40, 41, 32, 40, 40, 105, 102, 45, 101, 113,
   117, 97, 108, 32, 120, 32, 120, 32, 116, 33, 41, 32, 97, 41, 41, 40, 116, 33, 32, 97, 41]

def tmplTops2 : List TopLevel :=
  [⟨[A "deftemplate" 1 12, A "a" 13 14, L [] 15 17,
     L [L [A "if-equal" 20 28, A "x" 29 30, A "x" 31 32, A "t!" 33 35] 19 36, A "a" 37 38] 18 39], sp1 0 40⟩,
   ⟨[A "t!" 41 43, A "a" 44 45], sp1 40 46⟩]

/-- **expand_diverges_without_expand_arguments_counterexample** (pinned source).  The hypothesis
"no `template-expand`/`t!` atom among the arguments" does not make expansion terminate either: a
conditional inside the template can produce the `t!` (`deftemplate`'s validation only looks at a
`t!` that is followed by a name).  `(t! a)` has no arguments at all and expands to itself forever
(reproduced: the real parser does not return). -/
theorem expand_diverges_without_expand_arguments_counterexample :
    parse Fixes.pinned true tmplWitness2 = .ok (.ok (tmplTops2, [])) ∧
    ∀ fuel, expandTemplates Fixes.pinned fuel tmplTops2 = .error .fuelOut :=
  ⟨by decide +kernel, expandTemplates_pinned_diverges
    (ts := [⟨kw "a", [], [L [L [A "if-equal" 20 28, A "x" 29 30, A "x" 31 32, A "t!" 33 35] 19 36, A "a" 37 38] 18 39]⟩])
    (pre := []) (cx := [A "t!" 41 43, A "a" 44 45]) (fx := [A "t!" 33 35, A "a" 37 38])
    (csp := sp1 40 46) (fsp := sp1 18 39) (by decide +kernel)⟩

/-- **expand_templates_total** (full, with fix-4).  The repaired `expand_templates` returns on
every list of top-level items — an expanded list or a diagnostic: the depth and size limits bound
the expansion (the model function is defined by well-founded recursion on them, without fuel), the
`expect("validated matching var lens")` is unreachable after the parameter-count check, and the
`while evaluate_conditionals` loop finishes because every changing sweep removes a node. -/
theorem expand_templates_total (fuel : Nat) (tops : List TopLevel) :
    ∃ r, expandTemplates Fixes.fixed fuel tops = .ok r := by
  unfold expandTemplates
  cases collectTemplates tops [] with
  | error d => exact ⟨_, rfl⟩
  | ok ts =>
    refine ok_bind (ok_bind ((expand_pass_total ts).1 _ _) fun r => ?_) fun r => ?_
    · cases r <;> exact ⟨_, rfl⟩
    · cases r <;> exact ⟨_, rfl⟩

/- (That the fix turns both divergent inputs into diagnostics at the offending expansion is checked by the
correspondence run: corpus cases `known:10…`; the well-founded definition does not reduce in the kernel.) -/

/-- **tmpl_limits_from_source**: the two limits of the model are the constants the translator read
from deftemplate.rs (regenerated on every run; `none` — and this fails — when the source lacks fix-4). -/
theorem tmpl_limits_from_source :
    Gen.C03_TMPL_LIMITS = some (MAX_EXPANSION_DEPTH, MAX_EXPANDED_NODES) := rfl

/-- **expand_terminates_partial** (pinned source; partial).  Full statement wanted: expansion
terminates whenever no template can produce a new expansion.  Proved: on items that contain no
`(template-expand …)`/`(t! …)` list at all, the pinned `expand` finishes within fuel proportional to
the size of the items and returns them unchanged.  Missing: a syntactic class of templates with
expansions for which termination holds — the two counterexamples above show that "no `t!` among the
arguments" is not such a class. -/
theorem expand_terminates_partial (ts : List Template) (xs : List SExpr) (h : inertL xs = true) :
    ∀ fuel, 2 * countNodes xs + 1 ≤ fuel → expandPinned ts fuel xs = .ok (.ok xs) :=
  fun fuel hf => (inert_pinned ts fuel xs h).2.resolve_right fun ⟨_, hlt⟩ => Nat.not_lt.mpr hf hlt

example : inertL [L [A "deflayer" 1 9, A "base" 10 14, L [A "tap-hold" 16 24, A "200" 25 28] 15 29] 0 30] = true := by
  decide +kernel

/-! ## 5. the whole loader, with the unmodelled back end as a parameter -/

/-- outcome of loading a configuration: accepted, or rejected with a diagnostic (from the front end
or from the back end) -/
inductive Loaded | cfg | syntaxDiag (e : PErr) | diag (d : Diag)

/-- `parse_cfg_raw_string` as far as it is modelled: `sexpr::parse`, then `expand_templates`, then
everything else — include/platform/environment filtering and the ~90 per-action parsers — as the
parameter `P`. -/
def load (fx : Fixes) (P : List TopLevel → Except Crash (Except Diag Unit)) (s : List Nat) : Except Crash Loaded := do
  match ← parse fx true s with
  | .error e => pure (.syntaxDiag e)
  | .ok (tops, _) =>
    match ← expandTemplates fx 0 tops with
    | .error d => pure (.diag d)
    | .ok tops' =>
      match ← P tops' with
      | .error d => pure (.diag d)
      | .ok () => pure .cfg

/-- **parse_total_full_partial**.  Full statement wanted: for every UTF-8 text, loading returns a
configuration or an in-bounds diagnostic and never crashes or hangs.  Proved: this holds for the
repaired front end composed with *any* back end `P` that is itself total — the assumption
`hP` stands for the ~90 argument parsers of cfg/mod.rs, which are not modelled; for them the check
is the oracle run on the real parser (harness/src/c03.rs), which found and fixed panics in four of
them. -/
theorem parse_total_full_partial (P : List TopLevel → Except Crash (Except Diag Unit))
    (hP : ∀ tops, ∃ r, P tops = .ok r) (s : List Nat) (h : validUtf8 s = true) :
    ∃ r, load Fixes.fixed P s = .ok r := by
  refine ok_bind (parse_total Fixes.fixed true s h) fun r => ?_
  match r with
  | .error e => exact ⟨_, rfl⟩
  | .ok (tops, md) =>
    refine ok_bind (expand_templates_total 0 tops) fun r2 => ?_
    match r2 with
    | .error d => exact ⟨_, rfl⟩
    | .ok tops' =>
      refine ok_bind (hP tops') fun r3 => ?_
      match r3 with
      | .error d => exact ⟨_, rfl⟩
      | .ok () => exact ⟨_, rfl⟩

example : ∀ tops, ∃ r, (fun (_ : List TopLevel) => (pure (.ok ()) : Except Crash (Except Diag Unit))) tops = .ok r :=
  fun _ => ⟨_, rfl⟩

end KVerif.SExpr
