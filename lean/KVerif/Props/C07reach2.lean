/-
C07 — more fragments in which `MayBlock` holds in every reachable state where kanata is idle:
lazy / eager tap-dance (`Quiesce.DInv` of Props/C01q2) and chords v1 (`Quiesce.CInv`).

The step lemmas of these fragments need more than "fewer than 32 events pending": a press must lie
inside the layer tables, and (tap-dance) the event must be physically possible — a key is pressed only
while up and released only while down.  The generic `Reach` of Lemmas/BlockReach.lean cannot say that,
so `ReachP` carries the set of keys physically down along the history.

Full statement: as `mayblock_reachable_layered`, for every history.  Proved (`…_partial`): for every
history in which an input event is delivered only while fewer than 32 are pending, presses lie inside
the layer tables and (tap-dance only) events are physically possible.  Missing: the overflow path of
`Layout::event`, presses outside the tables (a crash of the model, i.e. a panic), and impossible
event orders.  `mayblock_reachable_macro_partial` is NOT proved: a held `macro-repeat` key is a
`RepeatingSequence` state, so `PlainStates` follows from idleness only through an extra invariant
("a repeating sequence keeps `active_sequences` non-empty between ticks") that `Quiesce.MInv` does
not carry.
-/
import KVerif.Props.C07reach
import KVerif.Props.C01q2
namespace KVerif.C07
open KVerif.L KVerif.K KVerif.C06

/-- states reachable from `k0` together with the keys physically down; `ok l down e` is the side
condition under which the event `e` is delivered to the layout `l` -/
inductive ReachP (ok : Layout → List Coord → Ev → Prop) (k0 : KState) : KState → List Coord → Prop
  | init : ReachP ok k0 k0 []
  | press {k k' : KState} {down : List Coord} (code : Nat) : ReachP ok k0 k down →
      ok k.layout down (.press (0, code)) → handleInputEvent k (.press code) = .ok k' →
      ReachP ok k0 k' (downAfter down (.ev (.press (0, code))))
  | release {k k' : KState} {down : List Coord} (code : Nat) : ReachP ok k0 k down →
      ok k.layout down (.release (0, code)) → handleInputEvent k (.release code) = .ok k' →
      ReachP ok k0 k' (downAfter down (.ev (.release (0, code))))
  | rep {k k' : KState} {down : List Coord} (code : Nat) : ReachP ok k0 k down →
      handleInputEvent k (.rep code) = .ok k' → ReachP ok k0 k' down
  | tick {k k' : KState} {down : List Coord} : ReachP ok k0 k down → tickStates k = .ok k' →
      ReachP ok k0 k' down
  | decide {k : KState} {down : List Coord} (ms : Nat) : ReachP ok k0 k down →
      ReachP ok k0 (canBlockUpdateIdleWaiting k ms).1 down

/-- a layout-level invariant indexed by the keys physically down -/
structure LayoutInvP (P : Layout → List Coord → Prop) (ok : Layout → List Coord → Ev → Prop) : Prop where
  event : ∀ l down e l', P l down → ok l down e → l.event e = .ok l' →
    P l' (downAfter down (.ev e)) ∧ l'.queue ≠ []
  tick : ∀ l down l' cu, P l down → tick l = .ok (l', cu) → P l' down
  plain : ∀ l down, P l down → PlainStates l

theorem reachP_inv {P : Layout → List Coord → Prop} {ok : Layout → List Coord → Ev → Prop}
    (hP : LayoutInvP P ok) {k0 k : KState} {down : List Coord} (h0 : KInv (P · []) k0)
    (hr : ReachP ok k0 k down) : KInv (P · down) k := by
  induction hr with
  | init => exact h0
  | @press k k' down code _ hok he ih =>
    obtain ⟨r1, _, r3⟩ := handleInput_rest k k' ih.rest _ he
    exact .of_event r1 (hP.event _ _ _ _ ih.lay hok r3)
  | @release k k' down code _ hok he ih =>
    obtain ⟨r1, _, r3⟩ := handleInput_rest k k' ih.rest _ he
    exact .of_event r1 (hP.event _ _ _ _ ih.lay hok r3)
  | rep code _ he ih => exact ih.rep he
  | tick _ he ih => exact ih.tick he fun l' cu hl => hP.tick _ _ _ _ ih.lay hl
  | decide ms _ ih => exact ih.decide ms

theorem mayBlock_reachableP {P : Layout → List Coord → Prop} {ok : Layout → List Coord → Ev → Prop}
    (hP : LayoutInvP P ok) {k0 k : KState} {down : List Coord} (hs : KStart k0) (hl : P k0.layout [])
    (hr : ReachP ok k0 k down) (hidle : isIdle k = true) : MayBlock k k.layout.keycodes k.overrideStates :=
  have h := reachP_inv hP (hs.inv hl) hr
  h.mayBlock (hP.plain _ _ h.lay) hidle

theorem block_unobservableP {P : Layout → List Coord → Prop} {ok : Layout → List Coord → Ev → Prop}
    (hP : LayoutInvP P ok) {k0 k : KState} {down : List Coord} (hs : KStart k0) (hl : P k0.layout [])
    (hr : ReachP ok k0 k down) (ms : Nat) (hb : (canBlockUpdateIdleWaiting k ms).2 = true) :
    (canBlockUpdateIdleWaiting k ms).1 = k ∧
    ∀ n, ∃ k', ticksN n k = .ok k' ∧ k'.out = k.out ∧ k'.layout.states = k.layout.states ∧
      (n > 0 → k'.prevKeys = k.layout.keycodes) ∧ MayBlock k' k.layout.keycodes k.overrideStates :=
  have h := reachP_inv hP (hs.inv hl) hr
  h.block_unobservable (hP.plain _ _ h.lay) ms hb

/-! ## tap-dance (lazy and eager) -/

/-- side condition of the tap-dance fragment -/
def okD (l : Layout) (down : List Coord) (e : Ev) : Prop :=
  l.queue.length < QUEUE_SIZE ∧ (∀ c, e = .press c → Quiesce.CoordOK l.cfg c) ∧ Quiesce.possible down e

def TapDanceInv (T d : Nat) (l : Layout) (down : List Coord) : Prop := Quiesce.DInv T d l down ∧ Quiesce.SafeD l

theorem tapdance_layoutInvP (T d : Nat) : LayoutInvP (TapDanceInv T d) okD where
  event := fun l down e l' hp hok he => by
    obtain ⟨s1, e1, i1, i2, q1, _⟩ := hp.1.input hp.2 e hok.1 hok.2.1 hok.2.2
    exact event_of_room (P := (TapDanceInv T d · _)) he e1 ⟨i1, i2⟩ (List.ne_nil_of_length_pos (by omega))
  tick := fun l down l' cu hp ht => by
    obtain ⟨s1, e1, i1, i2, _⟩ := hp.1.tick hp.2
    rw [ht] at e1
    injection e1 with e1; injection e1 with e1 _; subst e1
    exact ⟨i1, i2⟩
  plain := fun l down hp => plain_of_stok hp.1.states

/-- **mayblock_reachable_tapdance_partial** (the tap-dance fragment of C17/C01: plain keys, output
chords, layer-while-held, transparent, lazy and eager tap-dance keys with simple actions, timeouts
`≤ T`, rapid-event delay `d`).  In every state reachable from a start state satisfying the
fragment's invariant by input events (delivered while fewer than 32 are pending, presses inside the
layer tables, physically possible), repeats, ticks and blocking decisions: `is_idle` implies
`MayBlock`. -/
theorem mayblock_reachable_tapdance_partial (T d : Nat) (k0 k : KState) (down : List Coord)
    (hi : Quiesce.DInv T d k0.layout []) (hsafe : Quiesce.SafeD k0.layout) (hs : KStart k0)
    (hr : ReachP okD k0 k down) (hidle : isIdle k = true) :
    MayBlock k k.layout.keycodes k.overrideStates :=
  mayBlock_reachableP (tapdance_layoutInvP T d) hs ⟨hi, hsafe⟩ hr hidle

/-- from start-up, with the decision function and the silent ticks -/
theorem block_unobservable_tapdance_partial (cfg : LCfg) (hc : Quiesce.CfgD cfg) (hcs : Quiesce.CfgSafeD cfg)
    (tv2 dfl qth : Bool) (osd : Nat) (ko : List (List (Nat × List Nat))) (mods : ModCodes) (k : KState)
    (down : List Coord) (hr : ReachP okD (freshK cfg tv2 dfl qth osd ko mods) k down) (ms : Nat)
    (hb : (canBlockUpdateIdleWaiting k ms).2 = true) :
    (canBlockUpdateIdleWaiting k ms).1 = k ∧
    ∀ n, ∃ k', ticksN n k = .ok k' ∧ k'.out = k.out ∧ k'.layout.states = k.layout.states ∧
      (n > 0 → k'.prevKeys = k.layout.keycodes) ∧ MayBlock k' k.layout.keycodes k.overrideStates :=
  block_unobservableP (tapdance_layoutInvP _ osd) (freshK_start cfg tv2 dfl qth osd ko mods)
    ⟨Quiesce.init_dinv cfg hc _ (Quiesce.dBound_max cfg) tv2 dfl qth osd,
      Quiesce.init_safe_D cfg hcs tv2 dfl qth osd⟩ hr ms hb

/-! ## chords v1 -/

/-- side condition of the chords fragment -/
def okC (l : Layout) (_down : List Coord) (e : Ev) : Prop :=
  l.queue.length < QUEUE_SIZE ∧ (∀ c, e = .press c → Quiesce.CoordOK l.cfg c)

def ChordsInv (T d : Nat) (l : Layout) (down : List Coord) : Prop := Quiesce.CInv T d l down ∧ Quiesce.SafeC l

theorem chords_layoutInvP (T d : Nat) : LayoutInvP (ChordsInv T d) okC where
  event := fun l down e l' hp hok he => by
    obtain ⟨s1, e1, i1, i2, q1, _⟩ := hp.1.input hp.2 e hok.1 hok.2
    exact event_of_room (P := (ChordsInv T d · _)) he e1 ⟨i1, i2⟩ (List.ne_nil_of_length_pos (by omega))
  tick := fun l down l' cu hp ht => by
    obtain ⟨s1, e1, i1, i2, _⟩ := hp.1.tick hp.2
    rw [ht] at e1
    injection e1 with e1; injection e1 with e1 _; subst e1
    exact ⟨i1, i2⟩
  plain := fun l down hp => plain_of_stok hp.1.states

/-- **mayblock_reachable_chords_v1_partial** (the chords-v1 fragment of C09/C01: plain keys, output
chords, layer-while-held, transparent, `chord` keys whose chord actions are simple, timeouts `≤ T`,
rapid-event delay `d`).  In every state reachable from a start state satisfying the fragment's
invariant by input events (delivered while fewer than 32 are pending, presses inside the layer
tables), repeats, ticks and blocking decisions: `is_idle` implies `MayBlock`. -/
theorem mayblock_reachable_chords_v1_partial (T d : Nat) (k0 k : KState) (down : List Coord)
    (hi : Quiesce.CInv T d k0.layout []) (hsafe : Quiesce.SafeC k0.layout) (hs : KStart k0)
    (hr : ReachP okC k0 k down) (hidle : isIdle k = true) :
    MayBlock k k.layout.keycodes k.overrideStates :=
  mayBlock_reachableP (chords_layoutInvP T d) hs ⟨hi, hsafe⟩ hr hidle

/-- from start-up, with the decision function and the silent ticks -/
theorem block_unobservable_chords_v1_partial (cfg : LCfg) (hc : Quiesce.CfgC cfg) (hcs : Quiesce.CfgSafeC cfg)
    (tv2 dfl qth : Bool) (osd : Nat) (ko : List (List (Nat × List Nat))) (mods : ModCodes) (k : KState)
    (down : List Coord) (hr : ReachP okC (freshK cfg tv2 dfl qth osd ko mods) k down) (ms : Nat)
    (hb : (canBlockUpdateIdleWaiting k ms).2 = true) :
    (canBlockUpdateIdleWaiting k ms).1 = k ∧
    ∀ n, ∃ k', ticksN n k = .ok k' ∧ k'.out = k.out ∧ k'.layout.states = k.layout.states ∧
      (n > 0 → k'.prevKeys = k.layout.keycodes) ∧ MayBlock k' k.layout.keycodes k.overrideStates :=
  block_unobservableP (chords_layoutInvP _ osd) (freshK_start cfg tv2 dfl qth osd ko mods)
    ⟨Quiesce.init_cinv cfg hc _ (Quiesce.cBound_max cfg) tv2 dfl qth osd,
      Quiesce.init_safe_C cfg hcs tv2 dfl qth osd⟩ hr ms hb

/-! ## non-vacuity (hypotheses satisfiable: the sample configurations of Props/C01q2 are in the
fragments; kanata at start-up, after a blocking decision, is a reachable idle state) -/

example : ∃ k down, ReachP okD (freshK C01.tdCfg true false false 5 [[]] stdMods) k down ∧
    MayBlock k k.layout.keycodes k.overrideStates ∧ ∀ n, ∃ k', ticksN n k = .ok k' ∧ k'.out = k.out := by
  have hr : ReachP okD (freshK C01.tdCfg true false false 5 [[]] stdMods)
      (canBlockUpdateIdleWaiting (freshK C01.tdCfg true false false 5 [[]] stdMods) 1).1 [] := .decide 1 .init
  have hb : (canBlockUpdateIdleWaiting (canBlockUpdateIdleWaiting (freshK C01.tdCfg true false false 5 [[]] stdMods) 1).1 1).2 = true := by
    decide +kernel
  obtain ⟨_, h2⟩ := block_unobservable_tapdance_partial C01.tdCfg C01.tdCfg_frag C01.tdCfg_safe true false false 5
    [[]] stdMods _ [] hr 1 hb
  exact ⟨_, [], hr, by obtain ⟨k', e, _, _, _, m⟩ := h2 0; simp only [ticksN] at e; injection e with e; subst e; exact m,
    fun n => by obtain ⟨k', e1, e2, _⟩ := h2 n; exact ⟨k', e1, e2⟩⟩

example : ∃ k down, ReachP okC (freshK C01.chCfg true false false 5 [[]] stdMods) k down ∧
    MayBlock k k.layout.keycodes k.overrideStates ∧ ∀ n, ∃ k', ticksN n k = .ok k' ∧ k'.out = k.out := by
  have hr : ReachP okC (freshK C01.chCfg true false false 5 [[]] stdMods)
      (canBlockUpdateIdleWaiting (freshK C01.chCfg true false false 5 [[]] stdMods) 1).1 [] := .decide 1 .init
  have hb : (canBlockUpdateIdleWaiting (canBlockUpdateIdleWaiting (freshK C01.chCfg true false false 5 [[]] stdMods) 1).1 1).2 = true := by
    decide +kernel
  obtain ⟨_, h2⟩ := block_unobservable_chords_v1_partial C01.chCfg C01.chCfg_frag C01.chCfg_safe true false false 5
    [[]] stdMods _ [] hr 1 hb
  exact ⟨_, [], hr, by obtain ⟨k', e, _, _, _, m⟩ := h2 0; simp only [ticksN] at e; injection e with e; subst e; exact m,
    fun n => by obtain ⟨k', e1, e2, _⟩ := h2 n; exact ⟨k', e1, e2⟩⟩

end KVerif.C07
