/-
C15 — live reload is all-or-nothing: failure keeps the old configuration, success is a restart.
Property theorems only (helper lemmas: KVerif/Lemmas/Reload*.lean).  Every theorem is quantified over
all `World`s — i.e. over every keyberon layout, every parser and every implementation of the parts of
`tick_states` that are not reload bookkeeping — and over all states and histories.
-/
import KVerif.Lemmas.ReloadSim
import KVerif.Model.ReloadMini
namespace KVerif.Reload
open KVerif.Gen.Reload

variable {W : World}

/-! ## 1. The model reads the source: generated lists vs. the hand classification -/

/-- **fields_classified**.  The generated enumeration lists every field of `struct Kanata` (checked
build) and both global stores exactly once, and the hand classification `classify` (a total function
with no wildcard arm, so a NEW field stops this file from compiling) splits them into exactly these
five lists. -/
theorem fields_classified :
    (∀ f : Field, f ∈ allFields) ∧ allFields.Nodup ∧
    fieldsOf .cfgDerived =
      [.key_outputs, .layout, .layer_info, .sequence_backtrack_modcancel, .sequence_always_on,
       .sequence_input_mode, .sequence_timeout, .sequences, .overrides, .log_layer_changes,
       .movemouse_inherit_accel_state, .movemouse_smooth_diagonals, .override_release_on_activation,
       .dynamic_macro_max_presses, .dynamic_macro_replay_behaviour, .virtual_keys,
       .switch_max_key_timing, .G_ZCH, .G_MAPPED_KEYS] ∧
    fieldsOf .cfgStartupOnly =
      [.kbd_in_paths, .continue_if_no_devices, .include_names, .exclude_names, .x11_repeat_rate,
       .device_detect_mode, .allow_hardware_repeat] ∧
    fieldsOf .runtimeReset =
      [.prev_layer, .scroll_state, .hscroll_state, .move_mouse_state_vertical,
       .move_mouse_state_horizontal, .move_mouse_speed_modifiers, .sequence_state,
       .dynamic_macro_replay_state, .dynamic_macro_record_state, .override_states,
       .live_reload_requested, .caps_word, .waiting_for_idle, .vkeys_pending_release,
       .ticks_since_idle, .movemouse_buffer, .unmodded_keys, .unmodded_mods, .unshifted_keys,
       .last_pressed_key, .macro_on_press_cancel_duration] ∧
    fieldsOf .runtimeRetained = [.cur_keys, .prev_keys, .dynamic_macros, .saved_clipboard_content] ∧
    fieldsOf .infrastructure =
      [.kbd_out, .cfg_paths, .cur_cfg_idx, .last_tick, .time_remainder, .tcp_server_address] := by
  refine ⟨mem_allFields, allFields_nodup, ?_⟩
  decide +kernel

/-- **steps_all_known**: the translator understood every statement of `do_live_reload`;
`do_live_reload` starts by parsing; the helper methods it calls write no field of the struct; and
every assignment whose right-hand side is not derived from `cfg` is either
`self.prev_layer = cur_layer` or stores, textually, the very expression both constructors store in
that field (which is what `resetVal` models). -/
theorem steps_all_known :
    reloadSteps.all stepKnown = true ∧ reloadSteps.head? = some .parse ∧ effectWrites = [] ∧
    reloadResetRhs.all (fun x => x == (.prev_layer, "cur_layer") ||
      ctorConstRhs.lookup x.1 == some (x.2, x.2)) = true := by
  decide +kernel

/-- **reload_covers_cfg_derived**.  Every field whose value is computed from the configuration and
used while keys are processed is re-assigned from the new `cfg` by `do_live_reload` — and from
nothing else; conversely `do_live_reload` assigns from `cfg` only such fields; and the fields it
assigns from anything else are exactly the run-time state classified as reset on reload (the request
flag is cleared by `handle_time_ticks` just before the call).  (Forgetting
`self.overrides = cfg.overrides` changes `Gen.Reload.reloadSteps` and this theorem no longer checks.) -/
theorem reload_covers_cfg_derived :
    (∀ f, classify f = .cfgDerived → cfgOnly reloadSteps f = true) ∧
    (∀ f, f ∈ assignedFromCfg reloadSteps → classify f = .cfgDerived) ∧
    (∀ f, f ∈ assignedReset reloadSteps ↔ (classify f = .runtimeReset ∧ f ≠ .live_reload_requested)) := by
  -- one pass over the fields for the three conjuncts
  simp only [← forall_and]
  exact forall_fields (by decide +kernel)

/-- **ctor_cfg_fields**.  The fields a constructor computes from `cfg` are exactly the
configuration-derived ones plus the start-up-only ones; both constructors initialise every field in
the same way; and the configuration-derived fields that `do_live_reload` does NOT re-assign are exactly
the seven start-up-only fields (device selection, X11 repeat rate field, `allow_hardware_repeat`,
which the Linux/macOS event loops read once before the processing loop starts). -/
theorem ctor_cfg_fields :
    ctorNew = ctorNewFromStr ∧
    (∀ f, ctorNew.lookup f = some true ↔ (classify f = .cfgDerived ∨ classify f = .cfgStartupOnly)) ∧
    (∀ f, (ctorNew.lookup f = some true ∧ f ∉ assigned reloadSteps) ↔ classify f = .cfgStartupOnly) ∧
    (∀ f, classify f = .infrastructure ∨ classify f = .runtimeRetained → f ∉ assigned reloadSteps) := by
  refine ⟨by decide +kernel, ?_⟩
  simp only [← forall_and]
  exact forall_fields (by decide +kernel)

/-- **write_sites_as_modelled**.  The functions of src/ that write one of the bookkeeping fields are
the ones the model implements (this is what justifies running the abstract parts of the tick inside
`frame`), and the functions that mention `live_reload_requested`, `cur_cfg_idx`, `cfg_paths`,
`ticks_since_idle` or `prev_layer` at all are modelled ones. -/
theorem write_sites_as_modelled :
    writeSites =
      [("cur_cfg_idx", "handle_keystate_changes"), ("cur_keys", "handle_keystate_changes"),
       ("cur_keys", "src/kanata/key_repeat.rs::handle_repeat"),
       ("cur_keys", "src/kanata/key_repeat.rs::handle_repeat_actual"), ("cur_keys", "tick_states"),
       ("layout", "do_live_reload"), ("live_reload_requested", "handle_time_ticks"),
       ("live_reload_requested", "tick_states"), ("macro_on_press_cancel_duration", "do_live_reload"),
       ("macro_on_press_cancel_duration", "handle_input_event"),
       ("macro_on_press_cancel_duration", "handle_keystate_changes"),
       ("macro_on_press_cancel_duration", "tick_states"), ("prev_keys", "handle_keystate_changes"),
       ("prev_keys", "tick_states"), ("prev_layer", "check_handle_layer_change"),
       ("prev_layer", "do_live_reload"), ("ticks_since_idle", "can_block_update_idle_waiting"),
       ("ticks_since_idle", "do_live_reload"),
       ("ticks_since_idle", "handle_input_event"), ("ticks_since_idle", "handle_keystate_changes"),
       ("waiting_for_idle", "do_live_reload"),
       ("waiting_for_idle", "handle_keystate_changes"), ("waiting_for_idle", "tick_idle_timeout")] ∧
    touchSites =
      [("cfg_paths", "do_live_reload"), ("cfg_paths", "handle_keystate_changes"),
       ("cur_cfg_idx", "do_live_reload"), ("cur_cfg_idx", "handle_keystate_changes"),
       ("live_reload_requested", "can_block_update_idle_waiting"),
       ("live_reload_requested", "handle_time_ticks"), ("live_reload_requested", "is_idle"),
       ("live_reload_requested", "tick_states"), ("prev_layer", "check_handle_layer_change"),
       ("prev_layer", "do_live_reload"), ("ticks_since_idle", "can_block_update_idle_waiting"),
       ("ticks_since_idle", "do_live_reload"),
       ("ticks_since_idle", "handle_input_event"), ("ticks_since_idle", "handle_keystate_changes"),
       ("ticks_since_idle", "handle_time_ticks"), ("ticks_since_idle", "tick_idle_timeout")] :=
  ⟨rfl, rfl⟩

/-! ## 2. Failure keeps the old configuration -/

/-- when does reading the configuration fail: the file is missing, cannot be read, or its text is
rejected by the parser (syntactically or semantically — the parser returns one error type) -/
theorem newFromFile_none_iff (env : Env W.toTypes) (p : Nat) :
    newFromFile env p = none ↔
      (match env.fs p with
       | .missing => True
       | .unreadable => True
       | .content c => ∃ e, W.parse c = .error e) := by
  unfold newFromFile
  cases env.fs p with
  | missing => simp
  | unreadable => simp
  | content c => cases h : W.parse c <;> simp [h]

/-- **reload_fail_is_noop** (full).  If the file to reload is missing, unreadable or does not parse,
`do_live_reload` returns an error and the `Kanata` value is *equal* to what it was — every field and
both global stores — and nothing is sent to the clients.  As the state is the whole input of every
later step, all later behaviour is that of the old configuration. -/
theorem reload_fail_is_noop (env : Env W.toTypes) (s : KSt W) (p : Nat)
    (hp : (s .cfg_paths : List Nat)[(s .cur_cfg_idx : Nat)]? = some p)
    (hfail : newFromFile env p = none) :
    doLiveReload env s = .ok ⟨s, [], false⟩ :=
  doLiveReload_fail env s p hp hfail

/-- **reload_fail_run_equiv** (full, over every history; the loop is taken without parking — that
parking is unobservable is C07).  Take any history — any inputs, any timing, the files changing under
kanata's feet, any number of reload requests through any of the reload actions, back-to-back or far
apart — in which no file of the command line can be loaded at any moment.  Then what reaches the OS
and the clients, iteration by iteration, is EXACTLY what the same history produces when the reload
actions do nothing at all (`nr = true`), and the final states agree on every field except the request
flag, the file index and the idle counter.  Hypothesis `Blind`: the parts of `tick_states` outside the
model do not read those three fields (checked against the source: `write_sites_as_modelled`). -/
theorem reload_fail_run_equiv (hB : Blind W) (script : List (Tick W.toTypes)) (msPrev : Nat) (s : KSt W)
    (hreq : s .live_reload_requested = false)
    (hfail : ∀ t ∈ script, ∀ p ∈ (s .cfg_paths : List Nat), newFromFile t.env p = none)
    (s' : KSt W) (out : List (List W.Os × List Msg))
    (h : runNB false script msPrev s = .ok (s', out)) :
    ∃ s'' : KSt W, runNB true script msPrev s = .ok (s'', out) ∧ (∀ f, f ∉ bk → s' f = s'' f) ∧
      s'' .live_reload_requested = false := by
  have h0 : Sim s s := ⟨fun _ _ => rfl, fun _ => rfl, hreq⟩
  obtain ⟨⟨s'', out'⟩, h1, h2, e⟩ := (sim_runNB hB script msPrev h0 hfail).ok h
  cases e
  exact ⟨s'', h1, h2.1.agree, h2.1.breq⟩

/-- the fallible calls that `do_live_reload` makes after it has started to overwrite fields: none -/
def lateFallibles : List String := lateFalliblesOf reloadSteps

/-- **reload_atomic** (full).  Whenever `do_live_reload` reports failure — the file does not load,
`update_kbd_out` fails, `xset` cannot be spawned — the `Kanata` value is equal to what it was, every
field and both global stores, and nothing was sent to the clients: every call that can fail precedes
the first assignment (`lateFallibles = []`).  Until the fix that moved `Kanata::set_repeat_rate` up
this was false: `reload_not_atomic_counterexample` (about the statement list as it was). -/
theorem reload_atomic (env : Env W.toTypes) (s : KSt W) (r : RRes W.toTypes)
    (h : doLiveReload env s = .ok r) (hr : r.ok = false) : r.st = s ∧ r.msgs = [] := by
  rw [doLiveReload_eq, ← List.takeWhile_append_dropWhile (p := isFallible) (l := reloadSteps.tail)] at h
  exact doLiveReloadWith_atomic _ _ List.all_takeWhile reloadSteps_fallibles_first.1 env s r h hr

example : lateFallibles = [] ∧ falliblesOf reloadSteps = ["update_kbd_out", "Kanata::set_repeat_rate"] := by
  decide

/-! ## 3. Success is a restart -/

/-- what must be true of the keyberon layout for "the first layer becomes active": a freshly built
layout has no held layers and its default layer is 0 (`Layout::new`) -/
def FreshLayer0 (W : World) : Prop := ∀ c, W.currentLayer (W.cfgVal .layout c) = 0

/-- the run-time state that a reload does not reset is in the condition a constructor leaves it in
(`prev_keys` is exempt: the next tick releases whatever it lists) -/
def retainedFieldsInitial (s : KSt W) : Prop :=
  ∀ f, classify f = .runtimeRetained → f ≠ .prev_keys →
    s f = constVal W (s .cfg_paths) (s .cur_cfg_idx) f

/-- a complete run: the file parsed, and state and notifications are the closed form -/
theorem reload_success_form (env : Env W.toTypes) (s : KSt W) (r : RRes W.toTypes)
    (h : doLiveReload env s = .ok r) (hok : r.ok = true) :
    ∃ p c, (s .cfg_paths : List Nat)[(s .cur_cfg_idx : Nat)]? = some p ∧ newFromFile env p = some c ∧
      r.st = reloaded c s ∧
      (env.tx = false → r.msgs = []) ∧
      (env.tx = true → ∃ name,
        W.layerName (W.cfgVal .layer_info c) (W.currentLayer (W.cfgVal .layout c)) = some name ∧
        r.msgs = [.configFileReload p, .layerChange name]) := by
  obtain ⟨p, hp, ⟨_, rfl⟩ | ⟨c, hc, hrun⟩⟩ := doLiveReloadWith_ok (body := reloadSteps.tail) h
  · cases hok
  · rw [doLiveReload_success env s p c hp hc fun callee hm =>
      runSteps_ok_fallibles hrun hok callee (falliblesOf_reloadSteps ▸ hm)] at h
    refine ⟨p, c, hp, hc, ?_⟩
    cases htx : env.tx <;> simp only [htx, Bool.false_eq_true, if_false, if_true] at h
    · cases h; exact ⟨rfl, fun _ => rfl, fun e => Bool.noConfusion e⟩
    · split at h
      · cases h
      · rename_i name hn; cases h; exact ⟨rfl, fun e => Bool.noConfusion e, fun _ => ⟨name, hn, rfl⟩⟩

/-- **reload_notifies_once** (full).  A reload that succeeds with a client channel sends exactly two
messages, in this order: `ConfigFileReload` with the path that was loaded and `LayerChange` with the
name — taken from the NEW `layer_info` — of the layer the new layout starts on.  A reload that fails
sends nothing (`reload_atomic`), and afterwards `prev_layer` equals the current layer, so
`check_handle_layer_change` does not announce that layer a second time. -/
theorem reload_notifies_once (env : Env W.toTypes) (s : KSt W) (r : RRes W.toTypes) (htx : env.tx = true)
    (h : doLiveReload env s = .ok r) (hok : r.ok = true) :
    (∃ p c name, (s .cfg_paths : List Nat)[(s .cur_cfg_idx : Nat)]? = some p ∧ newFromFile env p = some c ∧
      W.layerName (W.cfgVal .layer_info c) (W.currentLayer (W.cfgVal .layout c)) = some name ∧
      r.msgs = [.configFileReload p, .layerChange name]) ∧
    (∀ s' m, checkLayerChange env.tx r.st = .ok (s', m) → m = []) := by
  obtain ⟨p, c, hp, hc, hst, _, hm⟩ := reload_success_form env s r h hok
  obtain ⟨name, hn, hmsgs⟩ := hm htx
  refine ⟨⟨p, c, name, hp, hc, hn, hmsgs⟩, ?_⟩
  intro s' m hcl
  refine (checkLayerChange_spec _ _ _ _ hcl).2.1 ?_
  rw [hst]
  obtain ⟨_, _, r3, _, r5⟩ := reloaded_keeps c s
  rw [r3, r5]

/-- the closed form of a complete reload is the restart state, when the retained run-time fields are
initial -/
theorem reloaded_eq_restartState (hW : FreshLayer0 W) (c : W.Cfg) (s : KSt W)
    (hreq : s .live_reload_requested = false) (hret : retainedFieldsInitial s) :
    reloaded c s = restartState s c := by
  apply St.ext'
  intro f
  have hctor := ctor_cfg_fields.2.1 f
  have hcov := reload_covers_cfg_derived
  have hsilent : f ∈ assignedFromCfg silentPart ↔ classify f = .cfgDerived := by
    rw [parts_assign.1]
    exact ⟨hcov.2.1 f, fun h => of_decide_eq_true (Bool.and_eq_true_iff.1 (hcov.1 f h)).1⟩
  rw [reloaded_get]
  simp only [hsilent, parts_assign.2, hcov.2.2 f, restartState]
  have ne : ∀ g, classify g ≠ classify f → f ≠ g := fun g h e => h (e ▸ rfl)
  cases hcl : classify f <;> rw [hcl] at ne <;>
    simp only [hcl, reduceCtorEq, false_and, true_and, if_false, if_true, or_false, or_true, iff_true,
      iff_false] at hctor ⊢
  · rw [if_neg (ne .prev_keys (by decide)), freshAt_cfg _ _ _ _ _ hctor]
  · -- reset on reload: the constructor's constant, which is also what the cleared request flag holds
    rw [if_neg (ne .prev_keys (by decide)), freshAt_const _ _ _ _ _ hctor, constVal_eq _ _ f (ne _ (by decide)) (ne _ (by decide))]
    split
    · by_cases hl : f = .prev_layer
      · subst hl; exact hW c
      · exact resetVal_eq _ f hl
    · rename_i hq; rw [Decidable.not_not.1 hq]; exact hreq
  · split
    · rfl
    · rename_i hpk; rw [freshAt_const _ _ _ _ _ hctor]; exact hret f hcl hpk

/-- **reload_fresh_equiv_partial**.  FULL STATEMENT WANTED: after a successful reload kanata is in the
state of a freshly started instance of the new configuration.  PROVED: the state after a successful
reload EQUALS (every field, both global stores) the restart state — a fresh instance of the new
configuration positioned on the same command line, keeping the plumbing, the start-up-only settings and
`prev_keys` — PROVIDED the three run-time fields that `do_live_reload` still does not reset are in
their initial condition (`retainedFieldsInitial`: the `runtimeRetained` fields other than `prev_keys`,
i.e. `cur_keys` — empty whenever `handle_time_ticks` gets to the reload, `reload_deferral` — and
`dynamic_macros`, `saved_clipboard_content`: what the user recorded or saved, kept on purpose) and a
freshly built layout starts on layer 0.  State equality makes every later step identical.
Before the stale-state fix 21 fields were in this hypothesis: `reload_fresh_equiv_counterexample`. -/
theorem reload_fresh_equiv_partial (hW : FreshLayer0 W) (env : Env W.toTypes) (s : KSt W) (r : RRes W.toTypes)
    (h : doLiveReload env s = .ok r) (hok : r.ok = true)
    (hreq : s .live_reload_requested = false) (hret : retainedFieldsInitial s) :
    ∃ p c, (s .cfg_paths : List Nat)[(s .cur_cfg_idx : Nat)]? = some p ∧ newFromFile env p = some c ∧
      r.st = restartState s c := by
  obtain ⟨p, c, hp, hc, hst, _, _⟩ := reload_success_form env s r h hok
  exact ⟨p, c, hp, hc, by rw [hst]; exact reloaded_eq_restartState hW c s hreq hret⟩

/-- what `retainedFieldsInitial` asks for, field by field -/
theorem retainedFieldsInitial_iff (s : KSt W) :
    retainedFieldsInitial s ↔
      (s .cur_keys = ([] : List Nat) ∧ s .dynamic_macros = W.init0 .dynamic_macros ∧
       s .saved_clipboard_content = W.init0 .saved_clipboard_content) := by
  constructor
  · intro h
    exact ⟨h .cur_keys rfl (by decide), h .dynamic_macros rfl (by decide),
      h .saved_clipboard_content rfl (by decide)⟩
  · rintro ⟨h1, h2, h3⟩ f hcl hpk
    have hm := (mem_fieldsOf ..).2 hcl
    rw [fields_classified.2.2.2.2.2.1] at hm
    simp only [List.mem_cons, List.mem_nil_iff, or_false] at hm
    rcases hm with rfl | rfl | rfl | rfl
    · exact h1
    · exact absurd rfl hpk
    · exact h2
    · exact h3

/-- **reload_eq_restart_partial**: the whole of `do_live_reload` — result, state, notifications,
crashes, every way of failing — coincides with the all-or-nothing restart specification
`restartReload` (the specification the correspondence check runs against the real code), provided
the three retained fields are initial (see `reload_fresh_equiv_partial`).  No hypothesis about `xset`
any more. -/
theorem reload_eq_restart_partial (hW : FreshLayer0 W) (env : Env W.toTypes) (s : KSt W)
    (hreq : s .live_reload_requested = false) (hret : retainedFieldsInitial s) :
    doLiveReload env s = restartReload env s := by
  unfold restartReload
  cases hp : (s .cfg_paths : List Nat)[(s .cur_cfg_idx : Nat)]? with
  | none => simp only [doLiveReload_eq, doLiveReloadWith, hp]
  | some p =>
    simp only
    cases hc : newFromFile env p with
    | none => exact doLiveReload_fail env s p hp hc
    | some c =>
      simp only
      split
      · -- a fallible call fails: they all come before the first assignment
        rename_i hany
        obtain ⟨callee, hm, hf⟩ := List.any_eq_true.1 hany
        simp only [doLiveReload_eq, doLiveReloadWith, hp, hc]
        rw [← List.takeWhile_append_dropWhile (p := isFallible) (l := reloadSteps.tail)]
        exact runSteps_fallibles_fail env c _ _ none s [] List.all_takeWhile
          ⟨callee, reloadSteps_fallibles_first.2 ▸ hm, hf⟩
      · rename_i hany
        rw [doLiveReload_success env s p c hp hc fun callee hm =>
          Bool.eq_false_iff.2 fun hf => hany (List.any_eq_true.2 ⟨callee, hm, hf⟩),
          reloaded_eq_restartState hW c s hreq hret]
        cases env.tx <;> rfl

/-! ## 4. When the reload is applied -/

/-- **reload_deferral** (full).  One call of `handle_time_ticks` attempts a reload iff, after its
ticks and the layer-change check, a request is pending and either both key lists are empty or
`ticks_since_idle > 1000`; at most one attempt per call; without an attempt nothing but the ticks
happened.  Whenever at least one tick ran in this call (or `cur_keys` was empty on entry, which is
an invariant of the loop: `tick_states` and `handle_repeat` leave it empty), `cur_keys` is empty at
the decision, so "no output key is down" means exactly: `prev_keys` — the keys the last tick left
pressed at the OS — is empty. -/
theorem reload_deferral (env : Env W.toTypes) (ms : Nat) (s : KSt W) (r : HRes W.toTypes)
    (h : handleTimeTicks env ms s = .ok r) :
    ∃ s2 os m1, decisionState env ms s = .ok (s2, os, m1) ∧
      r.attempt.isSome = reloadDue s2 ∧
      (r.attempt = none → r.st = s2 ∧ r.msgs = m1 ∧ r.os = os) ∧
      ((s .cur_keys = ([] : List Nat) ∨ 0 < ms) →
        reloadDue s2 = ((s2 .live_reload_requested : Bool) &&
          ((s2 .prev_keys : List Nat).isEmpty || decide ((s2 .ticks_since_idle : Nat) > 1000)))) := by
  obtain ⟨s2, os, m1, hd, hos, hcase⟩ := handleTimeTicks_inv false env ms s r h
  refine ⟨s2, os, m1, hd, ?_, ?_, ?_⟩
  · rcases hcase with ⟨h1, h2, _, _⟩ | ⟨h1, rr, _, h2, _, _⟩ <;> simp [h1, h2]
  · intro hn
    rcases hcase with ⟨_, _, h3, h4⟩ | ⟨_, rr, _, h2, _, _⟩
    · exact ⟨h3, h4, hos⟩
    · simp [h2] at hn
  · intro hor
    have := (decisionState_rel hd).2 hor
    simp [reloadDue, this]

/-- **request_never_lost** (full): a pending request survives any number of ticks until an attempt
is made — ticks, custom actions, layer changes cannot clear it. -/
theorem request_never_lost (env : Env W.toTypes) (ms : Nat) (s : KSt W) (r : HRes W.toTypes)
    (h : handleTimeTicks env ms s = .ok r) (hreq : s .live_reload_requested = true)
    (hno : r.attempt = none) : r.st .live_reload_requested = true := by
  obtain ⟨s2, os, m1, hd, _, hcase⟩ := handleTimeTicks_inv false env ms s r h
  rcases hcase with ⟨_, _, h3, _⟩ | ⟨_, rr, _, h2, _, _⟩
  · rw [h3]; exact (decisionState_rel hd).1.req hreq
  · simp [h2] at hno

/-- **attempt_clears_request** (full): every attempt, successful or not, consumes the request — a
broken file is not retried until the user asks again (back-to-back requests each get one attempt). -/
theorem attempt_clears_request (env : Env W.toTypes) (ms : Nat) (s : KSt W) (r : HRes W.toTypes) (b : Bool)
    (h : handleTimeTicks env ms s = .ok r) (ha : r.attempt = some b) :
    r.st .live_reload_requested = false := by
  obtain ⟨s2, os, m1, hd, _, hcase⟩ := handleTimeTicks_inv false env ms s r h
  rcases hcase with ⟨_, h2, _, _⟩ | ⟨_, rr, hrr, _, h3, _⟩
  · simp [h2] at ha
  · rw [h3, doLiveReload_frame env _ rr .live_reload_requested hrr (by decide)]
    simp

/-- **fallback_needs_idle** (full).  In one iteration of the processing loop a reload is attempted
while an output key is still down only through the idle fall-back, and that needs: no input event in
this iteration, `is_idle()` true at its start, and the idle counter (after this iteration's update)
above 1000.  With a request pending `is_idle()` is false while any `NormalKey` state exists, so a
held — or stuck — ordinary key postpones the reload indefinitely; the fall-back can only fire for
keys that are down without a `NormalKey` state (`unmod`/`unshift` lists, keys left by macros). -/
theorem fallback_needs_idle (env : Env W.toTypes) (inp : Option W.Input) (ms msPrev : Nat) (s : KSt W)
    (r : IterRes W.toTypes) (h : loopIter env inp ms msPrev s = .ok r) (hatt : r.attempt.isSome = true) :
    ∃ s0 s2 os m1, decisionState env ms s0 = .ok (s2, os, m1) ∧ reloadDue s2 = true ∧
      (((s2 .prev_keys : List Nat) = [] ∧ (s2 .cur_keys : List Nat) = []) ∨
       (inp = none ∧ isIdle s = true ∧ 1000 < ((canBlockUpdate msPrev s).1 .ticks_since_idle : Nat))) := by
  rcases loopIter_ok h with ⟨_, rfl⟩ | ⟨hr, hh, rfl⟩
  · cases hatt
  · obtain ⟨s2, os, m1, hd, _, hcase⟩ := handleTimeTicks_inv false env ms _ hr hh
    refine ⟨_, s2, os, m1, hd, ?_⟩
    rcases hcase with ⟨_, h2, _, _⟩ | ⟨hdue, _⟩
    · rw [h2] at hatt; cases hatt
    · refine ⟨hdue, ?_⟩
      simp only [reloadDue, Bool.and_eq_true, Bool.or_eq_true, decide_eq_true_eq, List.isEmpty_iff] at hdue
      refine hdue.2.imp id fun hk => ?_
      -- the counter is above 1000 at the decision, so it was above 1000 when the ticks began
      have hlt := Nat.lt_of_lt_of_le hk (decisionState_rel hd).1.tsi
      cases inp with
      | some e =>
        have h0 : ((preTicks (some e) msPrev s).1 .ticks_since_idle : Nat) = 0 :=
          (handleInput_framed _ e _ (by decide)).trans (St.set_same _ _ _)
        exact absurd (h0 ▸ hlt) (Nat.not_lt_zero _)
      | none =>
        refine ⟨rfl, ?_, hlt⟩
        cases hni : isIdle s with
        | true => rfl
        | false =>
          have h0 : ((canBlockUpdate msPrev s).1 .ticks_since_idle : Nat) = 0 := by
            simp only [canBlockUpdate, hni]; exact St.set_same _ _ _
          exact absurd (h0 ▸ hlt) (Nat.not_lt_zero _)

/-! ## 5. Which file -/

/-- **reload_index_spec** (full).  With `cur_cfg_idx` inside `cfg_paths` (an invariant:
`reload_index_invariant`): `lrld` keeps the index; `lrld-next` / `lrld-prev` step cyclically;
`(lrld-num k+1)` selects `k` when it exists and otherwise leaves the index alone BUT STILL requests a
reload of the current file; `(lrld-file p)` selects the first position of `p`, and requests nothing
when `p` was not on the command line.  No arm can crash or leave the range.  (With an empty
`cfg_paths` — impossible after `Kanata::new` — `lrld-next/prev` would underflow `len() - 1`.) -/
theorem reload_index_spec (paths : List Nat) (idx : Nat) (hidx : idx < paths.length) :
    selectIndex paths idx .cur = .ok (idx, true) ∧
    selectIndex paths idx .next = .ok ((idx + 1) % paths.length, true) ∧
    selectIndex paths idx .prev = .ok ((idx + paths.length - 1) % paths.length, true) ∧
    (∀ n, selectIndex paths idx (.num n) = .ok (if n < paths.length then n else idx, true)) ∧
    (∀ p, (p ∉ paths → selectIndex paths idx (.file p) = .ok (idx, false)) ∧
          (p ∈ paths → ∃ i, selectIndex paths idx (.file p) = .ok (i, true) ∧ i < paths.length ∧
             paths[i]? = some p ∧ ∀ j, j < i → paths[j]? ≠ some p)) :=
  ⟨selectIndex_cur hidx, selectIndex_next hidx, selectIndex_prev hidx, selectIndex_num,
    fun _ => ⟨selectIndex_file_not_mem, selectIndex_file_mem⟩⟩

example : selectIndex [10, 11, 12] 2 .next = .ok (0, true) ∧ selectIndex [10, 11, 12] 0 .prev = .ok (2, true) ∧
    selectIndex [10, 11, 12] 1 (.num 7) = .ok (1, true) ∧ selectIndex [10, 11, 10] 1 (.file 10) = .ok (0, true) ∧
    selectIndex [10, 11, 12] 1 (.file 99) = .ok (1, false) ∧
    selectIndex [] 0 .next = .error (.subOverflow "LiveReloadNext cfg_paths.len() - 1") :=
  ⟨rfl, rfl, rfl, rfl, rfl, rfl⟩

/-- **reload_index_invariant** (full): one iteration of the processing loop — ticks, every reload
action, a failed or successful reload — leaves `cfg_paths` unchanged and `cur_cfg_idx` inside it, so
neither `do_live_reload` nor the log lines can index out of bounds, on any history. -/
theorem reload_index_invariant (env : Env W.toTypes) (inp : Option W.Input) (ms msPrev : Nat) (s : KSt W)
    (r : IterRes W.toTypes) (h : loopIter env inp ms msPrev s = .ok r)
    (hidx : (s .cur_cfg_idx : Nat) < (s .cfg_paths : List Nat).length) :
    r.st .cfg_paths = s .cfg_paths ∧ (r.st .cur_cfg_idx : Nat) < (r.st .cfg_paths : List Nat).length := by
  rcases loopIter_ok h with ⟨_, rfl⟩ | ⟨hr, hh, rfl⟩
  · have cp := canBlockUpdate_other msPrev s .cfg_paths (by decide)
    exact ⟨cp, by rw [cp, canBlockUpdate_other msPrev s .cur_cfg_idx (by decide)]; exact hidx⟩
  · have pp := preTicks_framed inp msPrev s .cfg_paths (by decide) (by decide)
    have pi := preTicks_framed inp msPrev s .cur_cfg_idx (by decide) (by decide)
    obtain ⟨s2, os, m1, hd, _, hcase⟩ := handleTimeTicks_inv false env ms _ hr hh
    have rel := (decisionState_rel hd).1
    have d3 := rel.idx (by rw [pp, pi]; exact hidx)
    have key : hr.st .cfg_paths = s2 .cfg_paths ∧ hr.st .cur_cfg_idx = s2 .cur_cfg_idx := by
      rcases hcase with ⟨_, _, h3, _⟩ | ⟨_, rr, hrr, _, h3, _⟩
      · rw [h3]; exact ⟨rfl, rfl⟩
      · rw [h3, doLiveReload_frame env _ rr .cfg_paths hrr (by decide),
          doLiveReload_frame env _ rr .cur_cfg_idx hrr (by decide)]
        exact ⟨St.set_other _ _ _ _ (by decide), St.set_other _ _ _ _ (by decide)⟩
    show hr.st .cfg_paths = s .cfg_paths ∧ (hr.st .cur_cfg_idx : Nat) < (hr.st .cfg_paths : List Nat).length
    rw [key.1, key.2, rel.paths, pp]
    exact ⟨rfl, pp ▸ d3⟩

/-! ## 6. Counterexamples and non-vacuity (on the concrete `Mini` world of the correspondence check) -/

/-- non-vacuity of `retainedFieldsInitial`, in every world: a freshly constructed instance satisfies it -/
theorem fresh_retained_initial (paths : List Nat) (c : W.Cfg) :
    retainedFieldsInitial (fresh (W := W) paths c) := by
  intro f hcl _
  -- a retained field is not computed from `cfg` by the constructor
  have hlk : ctorNew.lookup f ≠ some true := fun e => by
    rcases (ctor_cfg_fields.2.1 f).1 e with e1 | e1 <;> rw [hcl] at e1 <;> cases e1
  exact freshAt_const _ _ _ _ f hlk

/-- old configuration: key 0 → `1`, key 1 → `lrld`, key 2 → `(unmod 4)` -/
def Mini.cA : Mini.Cfg := ⟨0, [[.key 2, .rl .cur, .unmod 5, .noop, .noop, .noop]], [], false⟩
/-- new configuration that also sets `linux-x11-repeat-delay-rate` -/
def Mini.cB : Mini.Cfg := ⟨1, [[.key 4, .rl .cur, .noop, .noop, .noop, .noop]], [], true⟩
/-- new configuration without it -/
def Mini.cC : Mini.Cfg := ⟨2, [[.key 4, .rl .cur, .noop, .noop, .noop, .noop]], [], false⟩

def Mini.envOf (c : Mini.Content) : Env Mini.world.toTypes where
  fs := fun _ => .content c
  callFails := fun callee c => callee == "Kanata::set_repeat_rate" && c.x11
  tx := true

example : FreshLayer0 Mini.world := fun _ => rfl

/-- a failing file: hypotheses of `reload_fail_is_noop` are met, for a syntactically broken file, a
semantically rejected one, a missing one and an unreadable one -/
example : newFromFile (Mini.envOf .syn) 0 = none ∧ newFromFile (Mini.envOf .sem) 0 = none ∧
    newFromFile (W := Mini.world) ⟨fun _ => .missing, fun _ _ => false, true⟩ 0 = none ∧
    newFromFile (W := Mini.world) ⟨fun _ => .unreadable, fun _ _ => false, true⟩ 0 = none := ⟨rfl, rfl, rfl, rfl⟩

/-- a successful reload from a fresh state: hypotheses of `reload_fresh_equiv_partial` and
`reload_notifies_once` are met, and the result is the restart state -/
example : ∃ r, doLiveReload (Mini.envOf (.ok Mini.cC)) (fresh (W := Mini.world) [0] Mini.cA) = .ok r ∧ r.ok = true ∧
    r.msgs = [.configFileReload 0, .layerChange "c2l0"] := ⟨_, rfl, rfl, rfl⟩

/-- a pending request with no key down: the hypotheses of `reload_deferral`, `attempt_clears_request`,
`fallback_needs_idle` and `reload_index_invariant` are met and the reload is attempted in this call -/
example : ∃ r, handleTimeTicks (Mini.envOf (.ok Mini.cC)) 1
      ((fresh (W := Mini.world) [0] Mini.cA).set .live_reload_requested true) = .ok r ∧
    r.attempt = some true ∧ r.msgs = [.configFileReload 0, .layerChange "c2l0"] := ⟨_, rfl, rfl, rfl⟩

/-- a pending request while a key is down: `request_never_lost` applies (no attempt, still pending) -/
example : ∃ r, handleTimeTicks (Mini.envOf (.ok Mini.cC)) 1
      (((fresh (W := Mini.world) [0] Mini.cA).set .live_reload_requested true).set .layout
        { (Mini.initLayout Mini.cA) with states := [.normal 2 (0, 0)] }) = .ok r ∧
    r.attempt = none ∧ r.st .live_reload_requested = true := ⟨_, rfl, rfl, rfl⟩

/-- `do_live_reload` as it was at /repo 678db6b, before the two fixes (regenerated list of that
commit, kept here because the generated one follows the source): `Kanata::set_repeat_rate` runs
after the assignments, and only `prev_layer` and `macro_on_press_cancel_duration` are reset. -/
def pinnedSteps : List RStep := [
  .parse,
  .fallible "update_kbd_out",
  .assign .sequence_backtrack_modcancel true,
  .assign .sequence_always_on true,
  .assign .sequence_input_mode true,
  .assign .sequence_timeout true,
  .assign .layout true,
  .assign .key_outputs true,
  .assign .layer_info true,
  .assign .sequences true,
  .assign .overrides true,
  .assign .log_layer_changes true,
  .assign .movemouse_smooth_diagonals true,
  .assign .override_release_on_activation true,
  .assign .movemouse_inherit_accel_state true,
  .assign .dynamic_macro_max_presses true,
  .assign .dynamic_macro_replay_behaviour true,
  .assign .switch_max_key_timing true,
  .assign .virtual_keys true,
  .assign .G_ZCH true,
  .assign .G_MAPPED_KEYS true,
  .fallible "Kanata::set_repeat_rate",
  .notify "ConfigFileReload",
  .bindCurLayer,
  .assign .prev_layer false,
  .assign .macro_on_press_cancel_duration false,
  .notify "LayerChange"
]

example : lateFalliblesOf pinnedSteps = ["Kanata::set_repeat_rate"] ∧
    assignedReset pinnedSteps = [.prev_layer, .macro_on_press_cancel_duration] := by decide

/-- **reload_not_atomic_counterexample** (about `pinnedSteps`, the code before the fix).  The new file
parses but asks for an X11 repeat rate and `xset` cannot be spawned: `do_live_reload` returned an
error ("live reload failed") AFTER it had replaced the layout and every other configuration-derived
field.  The old configuration was gone, `ConfigFileReload` / `LayerChange` were never sent,
`prev_layer` was not updated.  Reproduced on the real code of that commit (harness cases `okx`);
with the fix `reload_atomic` holds with no hypothesis. -/
theorem reload_not_atomic_counterexample :
    ∃ r, doLiveReloadWith pinnedSteps (Mini.envOf (.ok Mini.cB)) (fresh (W := Mini.world) [0] Mini.cA) = .ok r ∧
      r.ok = false ∧ r.msgs = [] ∧
      (r.st .layout : Mini.Layout).layers = Mini.cB.layers ∧
      (r.st .layout : Mini.Layout).layers ≠ ((fresh (W := Mini.world) [0] Mini.cA) .layout : Mini.Layout).layers :=
  ⟨_, rfl, rfl, rfl, rfl, by decide⟩

/-- the same input on the code as it is now: a clean failure, nothing changed -/
example : doLiveReload (Mini.envOf (.ok Mini.cB)) (fresh (W := Mini.world) [0] Mini.cA) =
    .ok ⟨fresh (W := Mini.world) [0] Mini.cA, [], false⟩ := rfl

/-- a state in which a run-time field that used to be retained is not initial: `unmodded_keys = [5]`
(reachable: hold an `(unmod …)` key, request the reload with another key, keep holding for a second —
the idle fall-back fires because an `unmod` key has no `NormalKey` state) -/
def Mini.sU : KSt Mini.world := (fresh (W := Mini.world) [0] Mini.cA).set .unmodded_keys ([5] : List Nat)

/-- **reload_fresh_equiv_counterexample** (about `pinnedSteps`, the code before the fix).  From `sU`
the reload succeeded and notified, yet the very next tick of the reloaded instance pressed key 5
(and it stayed pressed: nothing in the new layout ever sends the custom release that removes it from
`unmodded_keys`), whereas the restarted instance emits nothing.  Reproduced on the real code of that
commit (harness cases with `um`). -/
theorem reload_fresh_equiv_counterexample :
    ∃ r, doLiveReloadWith pinnedSteps (Mini.envOf (.ok Mini.cC)) Mini.sU = .ok r ∧ r.ok = true ∧
      (∃ s1, tickStates (W := Mini.world) r.st = .ok (s1, [Mini.Os.down 5])) ∧
      (∃ s2, tickStates (W := Mini.world) (restartState Mini.sU Mini.cC) = .ok (s2, [])) :=
  ⟨_, rfl, rfl, ⟨_, rfl⟩, ⟨_, rfl⟩⟩

/-- the same input on the code as it is now: the reloaded instance is silent too -/
example : ∃ r, doLiveReload (Mini.envOf (.ok Mini.cC)) Mini.sU = .ok r ∧ r.ok = true ∧
    (∃ s1, tickStates (W := Mini.world) r.st = .ok (s1, [])) := ⟨_, rfl, rfl, ⟨_, rfl⟩⟩

theorem blindTo_mini {op : List Field} (h1 : Field.layout ∉ op) (h2 : Field.unmodded_keys ∉ op)
    (h3 : Field.cur_keys ∉ op) (h4 : Field.prev_keys ∉ op) : BlindTo op Mini.world := by
  refine .of_eqv (fun a b h => ?_) (fun _ _ h => ⟨h, rfl⟩) (fun _ _ h => ⟨h, rfl⟩)
    (fun a b e h => ?_) (fun a b h => ?_)
  · -- `Mini.ksc` writes three of the four
    have hl : a .layout = b .layout := h _ h1
    have hu : a .unmodded_keys = b .unmodded_keys := h _ h2
    have hc : a .cur_keys = b .cur_keys := h _ h3
    have hp : a .prev_keys = b .prev_keys := h _ h4
    show Eqv (W := Mini.world) _ (Mini.ksc a).1 (Mini.ksc b).1 ∧ (Mini.ksc a).2 = (Mini.ksc b).2
    simp only [Mini.ksc, hl, hu, hc, hp]
    exact ⟨eqv_set (eqv_set (eqv_set h _ _) _ _) _ _, trivial⟩
  · have hl : a .layout = b .layout := h _ h1
    show Eqv _ (a.set .layout (Mini.levent (a .layout) e)) (b.set .layout (Mini.levent (b .layout) e)) ∧ _
    rw [hl]
    exact ⟨eqv_set h _ _, rfl⟩
  · have hl : a .layout = b .layout := h _ h1
    show ((a .layout : Mini.Layout).queue).isEmpty = ((b .layout : Mini.Layout).queue).isEmpty
    rw [hl]

/-- non-vacuity of `Blind`: the concrete world of the correspondence check satisfies it -/
theorem blind_mini_world : Blind Mini.world :=
  .of_blindTo (blindTo_mini (by decide) (by decide) (by decide) (by decide))

/-- **failed_request_moves_index_pinned_counterexample** [t7:in-use].  "If the file to reload does not
parse, kanata … behaves exactly as if no reload had been requested" fails for `lrld-next` (likewise
prev / num / file): the request moves `cur_cfg_idx` when it is made (`applyAct`), the failed
`do_live_reload` returns the state unchanged (`reload_fail_is_noop`) - with the index still on the
file that failed.  With two files, the second one broken, the first one running: after the failed
`lrld-next` a plain `lrld` selects file 1, the broken one, not the file whose configuration runs.
Reproduced on the real code (`C15 S nf 2 ok … syn`: `rq1 fail … rq1 fail`, the specification run
has `rq1 fail … rq0 ok`); recorded as a known finding (repair proposed: restore the index on Err). -/
theorem failed_request_moves_index_pinned_counterexample (env : Env W.toTypes) (s : KSt W) (p0 p1 : Nat)
    (hpaths : (s .cfg_paths : List Nat) = [p0, p1]) (hidx : (s .cur_cfg_idx : Nat) = 0)
    (hfail : newFromFile env p1 = none) :
    ∃ s1 : KSt W, applyAct s (.reload .next) = .ok s1 ∧
      doLiveReload env s1 = .ok ⟨s1, [], false⟩ ∧
      selectIndex (s1 .cfg_paths) (s1 .cur_cfg_idx) .cur = .ok (1, true) ∧
      selectIndex (s .cfg_paths) (s .cur_cfg_idx) .cur = .ok (0, true) := by
  have hp : (((s.set .cur_cfg_idx (1 : Nat)).set .live_reload_requested true) .cfg_paths : List Nat) = [p0, p1] :=
    hpaths
  have hi : (((s.set .cur_cfg_idx (1 : Nat)).set .live_reload_requested true) .cur_cfg_idx : Nat) = 1 := rfl
  refine ⟨_, ?_, reload_fail_is_noop env _ p1 (by rw [hp, hi]; rfl) hfail, by rw [hp, hi]; rfl,
    by rw [hpaths, hidx]; rfl⟩
  simp only [applyAct, hpaths, hidx, selectIndex]
  rfl

/-- a history that meets the hypotheses of `reload_fail_run_equiv`: `lrld` tapped while the file is
syntactically broken -/
example : ∃ s' out, runNB (W := Mini.world) false
    [⟨Mini.envOf .syn, some (.press (0, 1)), 1⟩, ⟨Mini.envOf .syn, some (.release (0, 1)), 1⟩,
     ⟨Mini.envOf .syn, none, 1⟩] 0 (fresh (W := Mini.world) [0] Mini.cA) = .ok (s', out) ∧
    newFromFile (Mini.envOf .syn) 0 = none := ⟨_, _, rfl, rfl⟩

end KVerif.Reload
