import KVerif.Lemmas.KeyId
import KVerif.Gen.SeqConsts
/-!
# C11 — key identity: every key name and code survives the trip from config to OS output

All statements are about the model `KVerif.KeyId` (Model/KeyId.lean) instantiated with the tables
regenerated from the current source (Gen/KeyTables.lean, Linux build).  Statements over "every
code" / "every name" hold for the *complete* tables: the finite checks behind them are kernel
evaluations over whole tables (Lemmas/KeyId.lean, part A), lifted to `∀` by lemmas.  The statement
about the set of intercepted keys is a theorem about list programs, proved by induction for all
configurations (no bound on the number of keys, layers, exceptions).
-/
namespace KVerif.Props.C11
open KVerif.KeyId KVerif.Gen.KeyTables KVerif
open KVerif.KeyId.Spec (denotes)

/-! ## the two code spaces coincide value for value -/

/-- `OsCode` and `KeyCode` have exactly the same discriminants (for every `Nat`, hence for every
    `u16`): the soundness condition of both `transmute`s in parser/src/keys/mappings.rs. -/
theorem discriminants_coincide (v : Nat) : isOsCode v = isKeyCode v :=
  isOsCode_eq_isKeyCode v

example : isOsCode 30 = true ∧ isKeyCode 766 = true ∧ isOsCode 768 = false := by decide +kernel

/-- Over *all* discriminants (all 768, including the 18 that `from_u16` never returns): converting
    in either direction yields a value that exists in the target enum, keeps the number, and the
    round trip is the identity. -/
theorem transmute_target_valid (v : Nat) :
    (isOsCode v = true → keyCodeOfOsCode v = .ok v ∧ osCodeOfKeyCode v = .ok v) ∧
    (isKeyCode v = true → osCodeOfKeyCode v = .ok v ∧ keyCodeOfOsCode v = .ok v) := by
  rw [keyCodeOfOsCode, osCodeOfKeyCode, ← isOsCode_eq_isKeyCode]
  constructor <;> intro h <;> simp [h]

example : isOsCode 749 = true ∧ keyCodeOfOsCode 749 = .ok 749 := by decide +kernel

/-- The codes kanata knows on Linux are exactly the enum discriminants outside `KEY_749 … KEY_766`. -/
theorem accepted_set (v : Nat) : accepted v = (isOsCode v && !(decide (749 ≤ v) && decide (v ≤ 766))) := by
  rw [accepted_eq_known]; rfl

example : fromU16Arms.length = 750 ∧ osCodeDiscs.length = 768 := by decide +kernel

/-- `from_u16` / `as_u16` round trips: whatever `from_u16` returns has the number that went in and is
    a discriminant of the enum; and on every accepted code `from_u16 (as_u16 c) = Some c`. -/
theorem code_roundtrip :
    (∀ v c, fromU16 v = some c → asU16 c = v ∧ isOsCode c = true) ∧
    (∀ c, accepted c = true → fromU16 (asU16 c) = some c) :=
  ⟨fun _ _ h => ⟨fromU16_id h, fromU16_isOsCode h⟩, fun _ h => accepted_iff.1 h⟩

/-- For every accepted code the whole chain `u16 → OsCode → KeyCode → OsCode → u16` is the identity. -/
theorem code_chain_identity (v : Nat) (h : accepted v = true) :
    fromU16 v = some v ∧ keyCodeOfOsCode v = .ok v ∧ osCodeOfKeyCode v = .ok v ∧ asU16 v = v :=
  ⟨accepted_iff.1 h, keyCodeOfOsCode_accepted h, osCodeOfKeyCode_accepted h, rfl⟩

example : accepted 30 = true ∧ accepted 767 = true ∧ accepted 750 = false := by decide +kernel

/-! ## the defsrc layer -/

/-- `create_defsrc_layer` never hits an invalid `transmute`; it has `KEYS_IN_ROW` entries, entry 0
    is `NoOp`, and every other entry `v` is `KeyCode(v)` if `v` is a known code and `NoOp` otherwise. -/
theorem defsrc_identity :
    ∃ L, createDefsrcLayer = .ok L ∧ L.length = keysInRow ∧ L[0]? = some .noOp ∧
      ∀ v, v ≠ 0 → v < keysInRow → L[v]? = some (if accepted v then .keyCode v else .noOp) :=
  ⟨_, createDefsrcLayer_eq, by simp, by rw [getElem?_range_map _ (by decide)]; rfl, fun v h0 hlt => by
    rw [getElem?_range_map _ hlt]; simp [defsrcFn, h0]⟩

/-! ## key names -/

/-- Every arm of `str_to_oscode` and every default mapping is live and unambiguous: the name
    denotes exactly the code written next to it (no arm is shadowed by an earlier arm or by a
    default mapping with a different code); aliases of one arm therefore agree. -/
theorem names_functional (n c : Nat) (h : (n, c) ∈ defaultMappings ++ nameArms) :
    strToOscode defaultCustom n = some c :=
  strToOscode_default_iff.2 h

example : (encName [108, 115, 102, 116] /- "lsft" -/, 42) ∈ defaultMappings ++ nameArms ∧ (encName [8249, 8679] /- "‹⇧" -/, 42) ∈ defaultMappings ++ nameArms := by
  decide +kernel

/-- **overlap_marker_is_a_nameable_key_counterexample** [t8] (known finding, remark R7; "a key name
    denotes the same code wherever it is written" is FALSE for one name).  The key code the parser
    uses internally as the `O-` marker of defseq (`KEY_OVERLAP = KeyCode::ErrorRollOver`, regenerated
    as `Gen.SEQ_KEY_OVERLAP`) is the code the key name `dnd` (alias `DoNotDisturb`) denotes.  As a
    plain action `dnd` is key 251; written as the key of an output chord (`C-dnd`), as a macro item
    or inside a defseq key list the parser takes it for the marker and refuses the configuration
    ("O- is only valid in sequences", "macro contains O-", "O-(...) lists must have a minimum of 2
    elements") - on the real code: the `pipe-contexts` family of the C11 check. -/
theorem overlap_marker_is_a_nameable_key_counterexample :
    strToOscode defaultCustom (encName [100, 110, 100] /- "dnd" -/) = some Gen.SEQ_KEY_OVERLAP ∧
    strToOscode defaultCustom (encName [68, 111, 78, 111, 116, 68, 105, 115, 116, 117, 114, 98] /- "DoNotDisturb" -/) =
      some Gen.SEQ_KEY_OVERLAP ∧
    accepted Gen.SEQ_KEY_OVERLAP = true := by
  decide +kernel

/-- Every built-in key name denotes a code kanata knows — not 0, not the no-op key code, and small
    enough to index a layer row (so a name can never cause the out-of-bounds access of
    `key_max_counterexample`). -/
theorem names_denote_known_codes (n c : Nat) (h : strToOscode defaultCustom n = some c) :
    accepted c = true ∧ c ≠ 0 ∧ c < keysInRow ∧ c ≠ keyCodeNo :=
  let ⟨ha, h0, hlt, hno, _⟩ := name_code_known h
  ⟨ha, h0, hlt, hno⟩

/-- A key name denotes the same key wherever it is written: in action position
    (`parse_action_atom`, which tests its special atoms and the list-action names first) every
    built-in key name yields an action for the very code `str_to_oscode` gives in defsrc,
    deflayermap-input and exception position. -/
theorem action_position_agrees (n c : Nat) (h : strToOscode defaultCustom n = some c) :
    ∃ a, parseActionAtom defaultCustom n = some (.ok a) ∧ denotes a c := by
  have hn : n ∉ listActionNames ++ transAtoms ++ noopAtoms ++ topLevelErrorAtoms :=
    fun hm => nomatch names_all (key := id) atoms_not_keys hm h
  cases hm : mouseActionAtoms.lookup n with
  | none =>
    have hsp : n ∉ specialActionAtoms := fun hs => by
      simpa [hm] using names_all (key := id) specialAtoms_keys hs h
    exact ⟨_, parseActionAtom_key hn hm hsp h (name_code_known h).1, rfl⟩
  | some c' =>
    have := names_all (key := Prod.fst) mouseAtoms_keys (lookup_mem hm) h
    simp only [Bool.and_eq_true, beq_iff_eq, Bool.or_eq_true] at this
    obtain ⟨rfl, hbw⟩ := this
    refine ⟨_, parseActionAtom_mouse hn hm, ?_⟩
    split
    · exact ⟨rfl, ‹_›⟩
    · exact ⟨rfl, hbw.resolve_left ‹_›⟩

example : ∃ a, parseActionAtom defaultCustom (encName [109, 108, 102, 116] /- "mlft" -/) = some (.ok a) ∧ denotes a 272 :=
  action_position_agrees _ _ (by decide +kernel)

/-- Where the source itself writes the name of a key — the evdev identifier (`KEY_FOO` ↦ `foo`)
    and keyberon's `Display` string — an accepted key name of that spelling denotes that key, with
    the four documented exceptions `yen`, `menu`, `next`, `break`. -/
theorem canonical_names_agree (n v c : Nat) (hc : Spec.canonCode n = some v)
    (h : strToOscode defaultCustom n = some c) : c = v := by
  rw [Spec.canonCode] at hc
  split at hc
  · cases hc
  next hex =>
  have hm : (n, v) ∈ osCodeCanonNames ++ keyCodeDisplay := by
    split at hc
    · next hl => cases hc; exact List.mem_append_left _ (lookup_mem hl)
    · exact List.mem_append_right _ (lookup_mem hc)
  have := names_all (key := Prod.fst) canon_agree hm h
  simp only [Bool.or_eq_true, beq_iff_eq] at this
  exact this.resolve_right hex

example : Spec.canonCode (encName [101, 115, 99] /- "esc" -/) = some 1 ∧ strToOscode defaultCustom (encName [101, 115, 99] /- "esc" -/) = some 1 := by
  decide +kernel

/-! ## the reserved no-op codes -/

/-- The reserved no-op codes are the ones the names `nop0 … nop9` denote: the ten names map, in
    order, onto the ignored output range, and no other key name denotes a code in that range. -/
theorem nop_names_are_the_ignored_codes :
    Spec.nopNames.map (strToOscode defaultCustom) = (List.range' keyIgnoreMin 10).map some ∧
    keyIgnoreMax + 1 = keyIgnoreMin + 10 ∧
    ∀ n c, strToOscode defaultCustom n = some c → ignored c = true → n ∈ Spec.nopNames :=
  ⟨nopNames_codes, rfl, fun _ _ h => (name_code_known h).2.2.2.2⟩

/-- An ignored code is never sent to the OS by any of the three output filters, and nothing the
    filters emit is about an ignored code. -/
theorem ignored_never_sent (c : Nat) :
    (ignored c = true → pressKey c = [] ∧ releaseKey c = [] ∧ ∀ r, writeKey c r = []) ∧
    (∀ r, ∀ o ∈ pressKey c ++ releaseKey c ++ writeKey c r, o.code = c ∧ ignored o.code = false) := by
  constructor
  · intro h
    simp [pressKey, releaseKey, writeKey, h]
  · intro r o ho
    cases hi : ignored c with
    | true => simp [pressKey, releaseKey, writeKey, hi] at ho
    | false =>
      simp only [pressKey, releaseKey, writeKey, hi, Bool.false_eq_true, ↓reduceIte, List.mem_append] at ho
      have : o.code = c := by
        rcases ho with (ho | ho) | ho
        · split at ho
          · simp at ho; subst ho; rfl
          · split at ho <;> (simp at ho; subst ho; rfl)
        · split at ho
          · simp at ho; subst ho; rfl
          · split at ho
            · simp at ho
            · simp at ho; subst ho; rfl
        · simp at ho; subst ho; cases r <;> rfl
      exact ⟨this, by rw [this]; exact hi⟩

example : ignored 676 = true ∧ pressKey 30 = [.down 30] ∧ pressKey 272 = [.btnDown 272] := by decide +kernel

/-! ## the set of intercepted keys -/

/-- **The set of keys kanata intercepts is exactly defsrc, plus the deflayermap inputs, plus — when
    process-unmapped-keys is on — every known key below `KEYS_IN_ROW` other than the no-op key code
    and the listed exceptions**, for every configuration the parser slice accepts: any deflocalkeys,
    any number of defsrc keys, layers, deflayermap pairs (wildcards included) and exceptions. -/
theorem mapped_set_spec (cfg : Config) (m : List Nat) (h : mappedKeys cfg = .ok m) :
    ∀ x, x ∈ m ↔ x ∈ Spec.mappedSpec cfg := by
  have hs := mappedKeys_sat cfg
  rwa [h] at hs

example : mappedKeys { defsrc := [encName [97] /- "a" -/],
                       layers := [.map [(.key (encName [99] /- "c" -/), encName [88, 88] /- "XX" -/), (.any1, encName [97])]] }
    = .ok [30, 46] := by decide +kernel

example : ∃ m, mappedKeys { puk := .yes, layers := [.plain []] } = .ok m ∧ 31 ∈ m ∧ 240 ∉ m ∧ 767 ∉ m := by
  obtain ⟨m, hp, hm⟩ := parseCfg_puk_yes
  refine ⟨m, mappedKeys_of_parse hp, (hm 31).2 (by decide +kernel), fun h => ?_, fun h => ?_⟩
  · exact absurd ((hm 240).1 h).2.2 (by decide)
  · exact absurd ((hm 767).1 h).1 (by decide)

/-- The only way this slice of the parser can crash is an index equal to `KEYS_IN_ROW`, i.e. the
    key `KEY_MAX` in defsrc or as a deflayermap input (`key_max_counterexample`); in particular it
    never performs an invalid `transmute`, and the process-unmapped-keys loop is total. -/
theorem parser_crash_only_at_key_max (cfg : Config) (c : Crash) (h : mappedKeys cfg = .crash c) :
    c = .indexOOB keysInRow := by
  have hs := mappedKeys_sat cfg
  rwa [h] at hs

/-! ## one key through the pipeline -/

/-
Full statement (false of the code, see `key_max_counterexample`):
  for every accepted code `v ≠ 0` and every one-layer configuration that maps `v` to itself, leaves it
  transparent or does not mention it, a tap of `v` comes out as `Spec.tapSpec`.
Proved here for `v < KEYS_IN_ROW`, i.e. for every accepted code except `KEY_MAX = 767`; what is
missing is exactly that one code, for which the layer row has no slot.
-/
/-- A tap of a known key `v` on a layer row whose entry for `v` is absent, `Trans`, or `v` itself
    comes out as the same code through the channel the OS expects for it (nothing for the reserved
    no-op codes), or untouched if the key is not intercepted. -/
theorem key_identity_partial (mapped : List Nat) (row : Row) (v : Nat)
    (hv : accepted v = true) (h0 : v ≠ 0) (hlt : v < keysInRow)
    (hrow : row.lookup v = none ∨ row.lookup v = some .trans ∨
      ∃ a, row.lookup v = some a ∧ denotes a v) :
    tap mapped row v = .ok (Spec.tapSpec (mapped.contains v) v) :=
  tap_identity mapped row v fun _ => ⟨hv, h0, hlt, hrow⟩

example : tap [30] [(30, .keyCode 30)] 30 = .ok [.down 30, .up 30] := by decide +kernel

/-- **Self-mapped.** For every built-in key name `n`: `(defsrc n) (deflayer l n)`, key pressed and
    released ⇒ intercepted, and the same code comes out. -/
theorem self_mapped_identity (n v : Nat) (h : strToOscode defaultCustom n = some v) :
    tapCfg { defsrc := [n], layers := [.plain [n]] } v = .ok (true, Spec.tapSpec true v) := by
  obtain ⟨a, ha, hd⟩ := action_position_agrees n v h
  obtain ⟨hv, h0, hlt, _⟩ := name_code_known h
  exact tapCfg_one (lk := []) rfl h hv h0 hlt ha (.inr hd)

/-- **Transparent.** `(defsrc n) (deflayer l _)` ⇒ the same code comes out (through the defsrc layer). -/
theorem transparent_identity (n v : Nat) (h : strToOscode defaultCustom n = some v) :
    tapCfg { defsrc := [n], layers := [.plain [encName [95] /- "_" -/]] } v = .ok (true, Spec.tapSpec true v) := by
  obtain ⟨hv, h0, hlt, _⟩ := name_code_known h
  exact tapCfg_one (lk := []) rfl h hv h0 hlt (parseActionAtom_trans _) (.inl rfl)

/-
Full statement (false of the code, see `key_max_counterexample`): for *every* accepted code `v ≠ 0`,
also one that has no built-in name and is named with deflocalkeys-linux.  Proved for `v < KEYS_IN_ROW`,
i.e. for every accepted code except `KEY_MAX = 767`.
-/
/-- **Self-mapped, any code.** `(deflocalkeys-linux kx v) (defsrc kx) (deflayer l kx)` ⇒ the same code comes out. -/
theorem local_self_mapped_identity_partial (v : Nat) (hv : accepted v = true) (h0 : v ≠ 0) (hlt : v < keysInRow) :
    tapCfg { localKeys := [(localName, v)], defsrc := [localName], layers := [.plain [localName]] } v =
      .ok (true, Spec.tapSpec true v) := by
  have hs := strToOscode_local (lk := [(localName, v)]) (List.lookup_cons_self ..)
  exact tapCfg_one (parseLocalKeys_one hv hlt) hs hv h0 hlt
    (parseActionAtom_key localName_plain.1 localName_plain.2.1 localName_plain.2.2 hs hv) (.inr rfl)

/-- **Transparent, any code.** `(deflocalkeys-linux kx v) (defsrc kx) (deflayer l _)` ⇒ the same code comes out. -/
theorem local_transparent_identity_partial (v : Nat) (hv : accepted v = true) (h0 : v ≠ 0) (hlt : v < keysInRow) :
    tapCfg { localKeys := [(localName, v)], defsrc := [localName], layers := [.plain [encName [95] /- "_" -/]] } v =
      .ok (true, Spec.tapSpec true v) :=
  tapCfg_one (parseLocalKeys_one hv hlt) (strToOscode_local (List.lookup_cons_self ..)) hv h0 hlt
    (parseActionAtom_trans _) (.inl rfl)

example : accepted 300 = true ∧ (300 : Nat) < keysInRow ∧ fastLookup 300 = none := by decide +kernel

/-- **Unmapped with process-unmapped-keys.** `(defcfg process-unmapped-keys yes) (defsrc) (deflayer l)`:
    every known code other than 0 comes out as the same code — processed if it is below
    `KEYS_IN_ROW` and not the no-op key code (240), forwarded untouched otherwise. -/
theorem unmapped_identity (v : Nat) (hv : accepted v = true) (h0 : v ≠ 0) :
    tapCfg { puk := .yes, layers := [.plain []] } v =
      .ok (decide (v < keysInRow ∧ v ≠ keyCodeNo), Spec.tapSpec (decide (v < keysInRow ∧ v ≠ keyCodeNo)) v) := by
  obtain ⟨m, hp, hmem⟩ := parseCfg_puk_yes
  have hc : m.contains v = decide (v < keysInRow ∧ v ≠ keyCodeNo) := by
    apply Bool.eq_iff_iff.2
    simp only [List.contains_iff_mem, hmem v, hv, true_and, decide_eq_true_eq]
  rw [← hc]
  exact tapCfg_of_tap hp (tap_identity m [] v fun hm =>
    ⟨hv, h0, ((hmem v).1 (List.contains_iff_mem.1 hm)).1, .inl rfl⟩)

example : accepted 240 = true ∧ decide (240 < keysInRow ∧ 240 ≠ keyCodeNo) = false := by decide +kernel

/-- **Boundary of the full statement.** `KEY_MAX = 767` is a code `from_u16` accepts, but a layer
    row has only 767 slots.  Before the repair (414291c) `(deflocalkeys-linux k 767)` was accepted and
    putting that key in defsrc made `parse_layers` index the row at 767 — the parser panicked; the
    repaired `parse_deflocalkeys` refuses the number, so the key can never be named. -/
theorem key_max_counterexample :
    accepted 767 = true ∧
    tapCfg { localKeys := [(encName [107] /- "k" -/, 767)], defsrc := [encName [107] /- "k" -/], layers := [.plain [encName [107] /- "k" -/]] } 767
      = .rejected .localUnknownNumber := by
  decide +kernel

/-! ## the transcribed source is the source -/

/-- The pieces of the Rust source that Model/KeyId.lean transcribes by hand are textually the ones
    it transcribes (checked by the translator on every run). -/
theorem model_matches_source :
    parserSliceAsModelled = true ∧ asU16IsCast = true ∧ keyCodeOsCodeIsTransmute = true := by decide

end KVerif.Props.C11
