/-
C09 — chords v2 (`defchordsv2`), ARBITRARY tables: any number of chords, overlapping and nested
participant sets, per-chord timeouts, disabled layers, both release behaviours.  Property theorems
only; helper lemmas are in Lemmas/ChordsV2Full.lean (the loop of `process_presses` on any press list),
Lemmas/ChordsV2Ticks.lean (whole ticks of `tick_chv2`), Lemmas/ChordsV2Sched.lean (histories),
Lemmas/ChordsV2Rule.lean (releases that do not end a chord), Lemmas/ChordsV2Order.lean (what a tick hands over).

Vocabulary.  `possible` is the table entry of the first pressed key (`ChordsForKeys::mapping[k1]`, the
chords that contain it, in table order).  `Fk possible layer acc` = the chords of it that are enabled
on the layer and contain every key of `acc` - the candidates after the presses `acc`.  A prefix `r` of
the press order is `Undecided` when `Fk r` is not empty and, if it is a single chord, that chord is
not complete yet; the loop of `process_presses` goes on exactly over undecided prefixes.
`minPending l` = the shortest timeout in `l` (65535 for the empty list).
-/
import KVerif.Lemmas.ChordsV2Order
import KVerif.Lemmas.ChordsV2Rule
namespace KVerif.C09
open KVerif.L

/-! ## 2. The closed form of candidate narrowing (one scan of `process_presses`) -/

/-- **chord_v2_largest_wins_spec** (full: every table, every queue, every press order; only hypothesis:
one of the ten active-chord slots is free).  `ps` are the presses `process_presses` collects from the
queue (up to the first release of one of them, `rf` = that released key, if any), `possible` the table entry of the
first.  Exactly one of three things holds for the press order, and `process_presses` does:
* **(A) no prefix decides** (every non-empty prefix of `ps`, `ps` included, is undecided: after all the
  presses at least one enabled chord containing all of them is left, and a single one is incomplete -
  a strict superset is still completable).  While the shortest timeout among the remaining candidates
  has not run out and no participant is released, NOTHING happens but the countdown
  `ticks_until_next_state_change = minPending (Fk ps) - since`.  Once it has run out
  (`minPending (Fk ps) ≤ since`) or a participant is released, the FIRST enabled chord of the table
  entry whose participant set is exactly the pressed set is activated and exactly the presses of `ps`
  leave the queue; if there is no such chord the cool-down starts and the queue is untouched.
* **(B) a prefix `pre ++ [p]` completes the only candidate left** (`Fk (pre ++ [p]) = [x]`, all keys of
  `x` pressed; every shorter non-empty prefix undecided): `x` - whose participant set is exactly that
  prefix, and no other enabled chord contains it - is activated AT ONCE, whatever the timeouts, and the
  presses of `pre ++ [p]` leave the queue; later presses stay queued.
* **(C) backtracking: the press `p` after `acc` leaves no candidate** (`Fk (acc ++ [p]) = []`, every
  non-empty prefix of `acc` undecided): the first enabled chord whose participant set is exactly
  `acc` is activated (the presses of `acc` leave the queue, `p` and what follows stay); if `acc` is not
  a chord the cool-down starts.  No LONGER prefix of the press order is the key set of an enabled chord,
  so an activation in this arm is of the longest defined prefix-set of the press order; the converse is
  false (`chord_v2_backtrack_only_last_prefix_counterexample`).
The cool-down never starts in (B), in (A)/(C) only when no chord matches. -/
theorem chord_v2_largest_wins_spec (s : ChV2) (layer : Nat) (ps : List Nat) (p1 : Nat) (rf : Option Nat)
    (possible : List ChordV2)
    (hcp : collectPresses s.queue [] = .ok (ps, rf)) (hhead : ps.head? = some p1)
    (hget : s.cfg.get p1 = some possible) (hroom : s.active.length < ACTIVE_CHORDS_CAP) :
    ∃ s', processPresses s layer = .ok s' ∧
    -- (A)
    ((∀ r, r <+: ps → r ≠ [] → Undecided possible layer r) →
      (sinceOf s < minPending (Fk possible layer ps) → rf = none →
        s'.active = s.active ∧ s'.queue = s.queue ∧ s'.ticksToIgnore = s.ticksToIgnore ∧
        s'.ticksUntilChange = minPending (Fk possible layer ps) - sinceOf s) ∧
      (minPending (Fk possible layer ps) ≤ sinceOf s ∨ rf.isSome = true →
        match (possible.filter (enabledOn layer)).find? (exactMatch ps) with
        | some cch => ∃ coord, s'.active = s.active ++ [getActiveChord cch (sinceOf s) coord rf] ∧
            s'.queue = ppRetain s.queue ps ∧ s'.ticksToIgnore = s.ticksToIgnore
        | none => s'.active = s.active ∧ s'.queue = s.queue ∧ s'.ticksToIgnore = s.cfg.minIdle)) ∧
    -- (B)
    (∀ pre p rest x, ps = pre ++ p :: rest → (∀ r, r <+: pre → r ≠ [] → Undecided possible layer r) →
      Fk possible layer (pre ++ [p]) = [x] → x.keys.all ((pre ++ [p]).contains ·) = true →
      exactMatch (pre ++ [p]) x = true ∧
      ∃ coord, s'.active = s.active ++ [getActiveChord x (sinceOf s) coord rf] ∧
        s'.queue = ppRetain s.queue (pre ++ [p]) ∧ s'.ticksToIgnore = s.ticksToIgnore) ∧
    -- (C)
    (∀ acc p rest, ps = acc ++ p :: rest → (∀ r, r <+: acc → r ≠ [] → Undecided possible layer r) →
      Fk possible layer (acc ++ [p]) = [] →
      (match (possible.filter (enabledOn layer)).find? (exactMatch acc) with
        | some cch => ∃ coord, s'.active = s.active ++ [getActiveChord cch (sinceOf s) coord rf] ∧
            s'.queue = ppRetain s.queue acc ∧ s'.ticksToIgnore = s.ticksToIgnore
        | none => s'.active = s.active ∧ s'.queue = s.queue ∧ s'.ticksToIgnore = s.cfg.minIdle) ∧
      ∀ r, r <+: ps → acc.length < r.length →
        ¬ ∃ c ∈ possible, enabledOn layer c = true ∧ exactMatch r c = true) ∧
    -- the three cases are all there is
    ((∀ r, r <+: ps → r ≠ [] → Undecided possible layer r) ∨
     (∃ pre p rest x, ps = pre ++ p :: rest ∧ (∀ r, r <+: pre → r ≠ [] → Undecided possible layer r) ∧
        Fk possible layer (pre ++ [p]) = [x] ∧ x.keys.all ((pre ++ [p]).contains ·) = true) ∨
     (∃ acc p rest, ps = acc ++ p :: rest ∧ (∀ r, r <+: acc → r ≠ [] → Undecided possible layer r) ∧
        Fk possible layer (acc ++ [p]) = [])) := by
  have hsome : ∃ s', processPresses s layer = .ok s' := by
    cases h : processPresses s layer with
    | error c => exact absurd h (processPresses_no_err s layer c)
    | ok s' => exact ⟨s', rfl⟩
  obtain ⟨s', hs'⟩ := hsome
  refine ⟨s', hs', ?_, ?_, ?_, ?_⟩
  · intro hu
    refine ⟨?_, ?_⟩
    · intro htime hrf
      subst hrf
      obtain ⟨nc, h1⟩ := processPresses_wait hcp hhead hget hu htime
      rw [hs'] at h1; cases h1
      exact ⟨rfl, rfl, rfl, rfl⟩
    · intro hclosed
      obtain ⟨s1, h1, r⟩ := processPresses_resolve hcp hhead hget hu hclosed hroom
      rw [hs'] at h1; cases h1
      exact r
  · intro pre p rest x hps hu hF hcomp
    obtain ⟨s1, coord, h1, r1, r2, r3⟩ := processPresses_complete hcp hhead hget hps hu hF hcomp hroom
    rw [hs'] at h1; cases h1
    refine ⟨?_, coord, r1, r2, r3⟩
    have hx : x ∈ Fk possible layer (pre ++ [p]) := by rw [hF]; exact List.mem_singleton_self x
    simp only [exactMatch, Bool.and_eq_true]
    exact ⟨(mem_Fk.mp hx).2.2, hcomp⟩
  · intro acc p rest hps hu hF
    obtain ⟨s1, h1, r⟩ := processPresses_backtrack hcp hhead hget hps hu hF hroom
    rw [hs'] at h1; cases h1
    refine ⟨r, ?_⟩
    intro r' hr' hlen
    rw [hps] at hr'
    exact no_longer_prefix possible layer acc rest p hF r' hr' hlen
  · rcases decided_or_not possible layer ps with h | ⟨acc, p, rest, e, h1, h2⟩
    · exact Or.inl h
    · rcases not_undecided possible layer _ h2 with h3 | ⟨x, h3, h4⟩
      · exact Or.inr (Or.inr ⟨acc, p, rest, e, h1, h3⟩)
      · exact Or.inr (Or.inl ⟨acc, p, rest, x, e, h1, h3, h4⟩)

/-- `(defchordsv2 (a b) x 50 all-released () (a b c) y 30 first-release ())` -/
def chAB : ChordV2 := { action := .keyCode 2, keys := [30, 48], pending := 50, disabledLayers := [], release := .onLastRelease }
def chABC : ChordV2 := { action := .keyCode 3, keys := [30, 46, 48], pending := 30, disabledLayers := [], release := .onFirstRelease }
def cfgNested : ChV2Cfg :=
  { mapping := [(30, [chAB, chABC]), (48, [chAB, chABC]), (46, [chABC])], minIdle := 5 }

/-- (A), (B), (C) are not vacuous on the nested table: `b a` waits for `c`; `c b a` completes `(a b c)`;
`b a d` backtracks to `(a b)` -/
example : Undecided [chAB, chABC] 0 [48] ∧ Undecided [chAB, chABC] 0 [48, 30] ∧
    Fk [chAB, chABC] 0 [48, 30] = [chAB, chABC] ∧
    Fk [chAB, chABC] 0 [46, 48, 30] = [chABC] ∧ chABC.keys.all ([46, 48, 30].contains ·) = true ∧
    Fk [chAB, chABC] 0 [48, 30, 32] = [] ∧
    ([chAB, chABC].filter (enabledOn 0)).find? (exactMatch [48, 30]) = some chAB := by
  have h1 : Fk [chAB, chABC] 0 [48] = [chAB, chABC] := rfl
  have h2 : Fk [chAB, chABC] 0 [48, 30] = [chAB, chABC] := rfl
  refine ⟨⟨by rw [h1]; exact List.cons_ne_nil _ _, fun x h => ?_⟩, ⟨by rw [h2]; exact List.cons_ne_nil _ _, fun x h => ?_⟩,
    rfl, rfl, rfl, rfl, rfl⟩
  · rw [h1] at h; exact absurd (congrArg List.length h) (by simp)
  · rw [h2] at h; exact absurd (congrArg List.length h) (by simp)

/-- `(defchordsv2 (a b) x 200 all-released () (a b c d) y 200 all-released ())` -/
def chABCD : ChordV2 := { action := .keyCode 4, keys := [30, 32, 46, 48], pending := 200, disabledLayers := [], release := .onLastRelease }
def cfgGap : ChV2Cfg :=
  { mapping := [(30, [chAB, chABCD]), (48, [chAB, chABCD]), (46, [chABCD]), (32, [chABCD])], minIdle := 5 }

/-- **chord_v2_backtrack_only_last_prefix_counterexample**.  The backtracking arm looks at ONE prefix
only - the presses before the one that left no candidate - not at every defined prefix-set.
`(defchordsv2 (a b) x 200 all-released () (a b c d) y 200 all-released ())`, history `p a, p b, p c, p e`
within the timeout (all four queued on one scan, or arriving tick by tick): after `a b c` the only
candidate is `(a b c d)`, incomplete; `e` leaves no candidate; the loop goes back to `a b c`, which is no
chord, and starts the cool-down - all four keys reach the layout as plain keys although the prefix
`a b` is the participant set of a defined, enabled chord.  (Kanata: `a b c e` typed, `x` never.) -/
theorem chord_v2_backtrack_only_last_prefix_counterexample :
    let s : ChV2 := { cfg := cfgGap,
                      queue := [⟨.press (0, 30), 4⟩, ⟨.press (0, 48), 3⟩, ⟨.press (0, 46), 2⟩, ⟨.press (0, 18), 1⟩] }
    (∃ c ∈ [chAB, chABCD], enabledOn 0 c = true ∧ exactMatch [30, 48] c = true) ∧
    [30, 48] <+: [30, 48, 46, 18] ∧
    (match processPresses s 0 with
      | .ok s' => some (s'.active.length, s'.queue.length, s'.ticksToIgnore)
      | .error _ => none) = some (0, 4, 5) := by
  refine ⟨⟨chAB, List.mem_cons_self, rfl, rfl⟩, ⟨[46, 18], rfl⟩, by decide +kernel⟩

/-! ## 1. Order independence over a whole history -/

/-- **chord_v2_order_independent** (full for the stated history shape: every table, every layer, every
order, every spacing; chords of up to 16 keys - the size of the press list of `process_presses`).
At rest (`s0`: nothing queued, no active chord, no cool-down, no countdown running) the keys
`ps = k1 … kn` are pressed in ANY order, `sched` giving for each key but the last the number of ticks
(0 or more) that pass after it; `ps` is, as a set, the participant set of a chord `C` of the table that is
enabled on the layer (`hex`; `ps` distinct).  The presses are delivered within the timeout: the ticks
between first and last press stay below the timeout of EVERY enabled chord that contains the first
key (`hT`; with equal timeouts among the overlapping candidates this is "within the timeout of `C`";
that it cannot be weakened to `C`'s own timeout is `chord_v2_shortest_timeout_decides_counterexample`).
Then
* while the keys arrive the v2 machine hands NOTHING to the layout (`enterV2 … = (s1, [])`): no
  participant's own key event, whatever the order;
* the first tick after the last press (the first press is then `t + 1` ticks old, `t` = sum of the gaps)
  - activates `C` AT ONCE if no other enabled chord contains all of `ps` (`Fk ps = [C]`: no enabled
    strict superset) - or, if there are others but the shortest timeout among them has already run
    out, a chord with exactly the key set `ps`; the queue is empty afterwards (all presses consumed)
    and the only event handed to the layout is chords v2's no-op press `(0,0)`;
  - otherwise (an enabled strict superset is still completable and in time) activates nothing, hands
    over nothing and starts the countdown `minPending (Fk ps) - (t + 1)` (`Waiting`); what ends the
    wait is `chord_v2_superset_wait_ends`.
The conclusion depends on `sched` only through the key SET and the sum of the gaps. -/
theorem chord_v2_order_independent (s0 : ChV2) (layer : Nat) (sched : List (Nat × Nat)) (kn k1 : Nat)
    (possible : List ChordV2) (C : ChordV2)
    (hq : s0.queue = []) (ha : s0.active = []) (ht : s0.ticksToIgnore = 0) (hu : s0.ticksUntilChange = 0)
    (hhead : (sched.map (·.1) ++ [kn]).head? = some k1) (hget : s0.cfg.get k1 = some possible)
    (hnd : (sched.map (·.1) ++ [kn]).Nodup) (hC : C ∈ possible) (hen : enabledOn layer C = true)
    (hex : exactMatch (sched.map (·.1) ++ [kn]) C = true)
    (hlen : (sched.map (·.1) ++ [kn]).length ≤ SMOL_Q_LEN)
    (hT16 : gapSum sched < U16_MAX)
    (hT : ∀ c ∈ Fk possible layer [k1], gapSum sched < c.pending) :
    ∃ s1, enterV2 layer sched s0 = .ok (s1, []) ∧
    ∃ s2 dq, tickChv2 (pushV2 s1 (pressEv kn)) layer = .ok (s2, dq) ∧ s2.cfg = s0.cfg ∧ s2.ticksToIgnore = 0 ∧
      (((Fk possible layer (sched.map (·.1) ++ [kn]) = [C] ∨
          minPending (Fk possible layer (sched.map (·.1) ++ [kn])) ≤ gapSum sched + 1) ∧
        ∃ cch coord, cch ∈ possible ∧ enabledOn layer cch = true ∧ exactMatch (sched.map (·.1) ++ [kn]) cch = true ∧
          (Fk possible layer (sched.map (·.1) ++ [kn]) = [C] → cch = C) ∧
          s2.active = [getActiveChord cch (gapSum sched + 1) coord none] ∧ s2.queue = [] ∧
          dq = [⟨.press (0, 0), 0⟩]) ∨
       (2 ≤ (Fk possible layer (sched.map (·.1) ++ [kn])).length ∧
        gapSum sched + 1 < minPending (Fk possible layer (sched.map (·.1) ++ [kn])) ∧ dq = [] ∧
        Waiting s0.cfg layer (sched.map (·.1) ++ [kn]) (gapSum sched + 1)
          (minPending (Fk possible layer (sched.map (·.1) ++ [kn])) - (gapSum sched + 1)) s2)) := by
  have hM : gapSum sched < minPending (Fk possible layer [k1]) := lt_minPending _ _ hT16 hT
  have hlen' : sched.length + 1 ≤ 16 := by
    simpa only [List.length_append, List.length_map, List.length_cons, List.length_nil] using hlen
  -- all keys but the last are proper prefixes of the chord's keys
  obtain ⟨s1, h1, he1, hs1⟩ := enter_rest (layer := layer) hget sched (Entry.rest s0 hq ha ht)
    (Or.inl hu) (fun _ => rfl)
    (fun k hk => Option.some.inj ((by rw [List.head?_append, show (sched.map (·.1)).head? = some k from hk]; rfl :
      (sched.map (·.1) ++ [kn]).head? = some k).symm.trans hhead))
    (fun r hr _ => undecided_of_chord possible layer _ C hnd hC hen hex r (hr.trans (List.prefix_append _ _))
      (Nat.lt_of_le_of_lt hr.length_le (by rw [List.nil_append, List.length_append]; exact Nat.lt_succ_self _)))
    (by rw [List.nil_append, List.length_map]; show _ ≤ 16; omega) (by rw [Nat.zero_add]; exact hM)
  obtain ⟨hp1, hp2⟩ := he1.push
    (fun h => by rw [List.map_eq_nil_iff.mp h]; rfl) (by rw [List.nil_append, List.length_map]; show _ < 32; omega) (pressEv kn)
  have he := hp1.snoc
  rw [Nat.zero_add] at he
  have hss := hp2 hs1
  refine ⟨s1, h1, ?_⟩
  have hU : gapSum sched + 1 ≤ U16_MAX := by omega
  exact activation_tick he (hss.not_fast layer) hhead hget hnd hC hen hex hlen hU

/-- hypotheses of `chord_v2_order_independent` on the nested table: `b`, two ticks, `a` (chord `(a b)`,
superset `(a b c)` enabled: the wait branch) -/
example : let s0 : ChV2 := { cfg := cfgNested }
    s0.cfg.get 48 = some [chAB, chABC] ∧ exactMatch ([(48, 2)].map (·.1) ++ [30]) chAB = true ∧
    (∀ c ∈ Fk [chAB, chABC] 0 [48], gapSum [(48, 2)] < c.pending) ∧
    (match enterV2 0 [(48, 2)] s0 with
      | .ok (s1, dq) => (match tickChv2 (pushV2 s1 (pressEv 30)) 0 with
          | .ok (s2, dq2) => some (dq.length, dq2.length, s2.active.length, s2.queue.length, s2.ticksUntilChange)
          | .error _ => none)
      | .error _ => none) = some (0, 0, 0, 2, 27) := by
  refine ⟨rfl, rfl, ?_, by decide +kernel⟩
  intro c hc
  have : Fk [chAB, chABC] 0 [48] = [chAB, chABC] := rfl
  rw [this] at hc
  simp only [List.mem_cons, List.not_mem_nil, or_false] at hc
  rcases hc with e | e <;> subst e <;> decide

/-- **chord_v2_superset_wait_ends** (full, for timeouts below 65535).  The wait branch of
`chord_v2_order_independent`: the key set `ps` of the enabled chord `C` is queued, the first press `a`
ticks old, at least one more enabled chord contains all of `ps`, and the countdown stands at
`d = minPending (Fk ps) - a`.  With no further event
* the next `d` ticks take the fast path: nothing is handed to the layout, nothing is activated (so for
  every `j ≤ d` the state after `j` ticks is again `Waiting`, `wait_ticks`);
* tick `d + 1` - the first press is then `minPending (Fk ps) + 1` ticks old: the SHORTEST timeout
  among the chords that contain the pressed set decides, not `C`'s own - activates a chord whose key
  set is exactly `ps`, consumes all presses and hands over only the no-op press `(0,0)`.
An earlier end of the wait is an event: a queued release or press changes the queue length, the next
tick scans, and `chord_v2_largest_wins_spec` gives the decision of that scan - (A) with `rf` for the
release of a participant (the chord with key set `ps` is activated), (C) for a press that no candidate
contains (backtracking to `ps`: the same chord), (A)/(B) for a press of a superset's key. -/
theorem chord_v2_superset_wait_ends (cfg : ChV2Cfg) (layer : Nat) (ps : List Nat) (k1 : Nat)
    (possible : List ChordV2) (C : ChordV2) (a d : Nat) (s : ChV2)
    (hw : Waiting cfg layer ps a d s) (hsum : a + d = minPending (Fk possible layer ps))
    (hlt : minPending (Fk possible layer ps) < U16_MAX)
    (hhead : ps.head? = some k1) (hget : cfg.get k1 = some possible) (hnd : ps.Nodup)
    (hC : C ∈ possible) (hen : enabledOn layer C = true) (hex : exactMatch ps C = true)
    (hlen : ps.length ≤ SMOL_Q_LEN) (h2 : 2 ≤ (Fk possible layer ps).length) :
    ∃ s1, ticksV2c layer d s = .ok (s1, []) ∧ Waiting cfg layer ps (a + d) 0 s1 ∧
    ∃ s2 cch coord, tickChv2 s1 layer = .ok (s2, [⟨.press (0, 0), 0⟩]) ∧
      cch ∈ possible ∧ enabledOn layer cch = true ∧ exactMatch ps cch = true ∧
      s2.active = [getActiveChord cch (a + d + 1) coord none] ∧ s2.queue = [] ∧ s2.ticksToIgnore = 0 := by
  have hu := undecided_prefixes_of_chord possible layer ps C hnd hC hen hex h2
  obtain ⟨s1, h1, hw1⟩ := wait_ticks hhead hget hu hlen d a 0 s
    (by rw [Nat.zero_add]; exact hw) (by rw [Nat.zero_add, hsum]; exact Nat.le_of_lt hlt)
  refine ⟨s1, h1, hw1, ?_⟩
  have hnf : ¬ FastCond s1 layer := fun hf => Nat.lt_irrefl 0 (hw1.tuc ▸ hf.1)
  obtain ⟨s2, dq, h2', _, htti, hres⟩ := activation_tick hw1.entry hnf
    hhead hget hnd hC hen hex hlen (by rw [hsum]; exact hlt)
  rcases hres with ⟨_, cch, coord, c1, c2, c3, _, c5, c6, c7⟩ | ⟨_, hcontra, _⟩
  · subst c7
    exact ⟨s2, cch, coord, h2', c1, c2, c3, c5, c6, htti⟩
  · rw [hsum] at hcontra
    exact absurd hcontra (Nat.not_lt.mpr (Nat.le_succ _))

/-- the wait state of the example above: `b`, two ticks, `a`, one tick on the nested table -/
example : (match enterV2 0 [(48, 2)] ({ cfg := cfgNested } : ChV2) with
      | .ok (s1, _) => (match tickChv2 (pushV2 s1 (pressEv 30)) 0 with
          | .ok (s2, _) => some (s2.queue.map (fun (q : Queued) => (q.ev, q.since)), s2.ticksUntilChange, s2.prevActiveLayer, s2.prevQueueLen)
          | .error _ => none)
      | .error _ => none) = some ([(.press (0, 48), 3), (.press (0, 30), 1)], 27, 0, 2) ∧
    minPending (Fk [chAB, chABC] 0 [48, 30]) = 30 := by
  refine ⟨by decide +kernel, rfl⟩

/-- **chord_v2_shortest_timeout_decides_counterexample** (the known finding "overlapping v2 chords with
different timeouts: the shortest one decides", as a theorem about the model; it is why
`chord_v2_order_independent` asks for the timeout of every overlapping candidate).
`(defchordsv2 (a b) x 50 all-released () (a b c) y 30 first-release ())`, at rest: `p a`, 35 ticks,
`p b` - `b` arrives 35 ticks after `a`, within the 50 of `(a b)`.  But while only `a` is queued both
chords are candidates and the shorter timeout, 30, closes the window: on tick 31 `a` alone is no
chord, the cool-down starts and `a`'s own press is handed to the layout; `b` then starts a new
window and, timing out alone, is handed over as a plain key too - `(a b)` is never activated.  With
the gap 29 (below both timeouts) the chord is activated and no key event is handed over. -/
theorem chord_v2_shortest_timeout_decides_counterexample :
    let s0 : ChV2 := { cfg := cfgNested }
    let run (gap : Nat) := match enterV2 0 [(30, gap)] s0 with
      | .ok (s1, dq) => (match ticksV2c 0 40 (pushV2 s1 (pressEv 48)) with
          | .ok (s2, dq2) => some (dq.map (fun (q : Queued) => q.ev), dq2.map (fun (q : Queued) => q.ev), s2.active.length)
          | .error _ => none)
      | .error _ => none
    exactMatch [30, 48] chAB = true ∧ 35 < chAB.pending ∧
    run 35 = some ([.press (0, 30)], [.press (0, 48)], 0) ∧
    run 29 = some ([], [.press (0, 0)], 1) := by
  refine ⟨rfl, by decide, by decide +kernel, by decide +kernel⟩

/-! ## 3. The release rule -/

/-- **chord_v2_activation_ends_countdown** (full; the repaired behaviour of fix 0b65add).  Whenever
`process_presses` activates a chord it also clears `ticks_until_next_state_change`, so the tick after
an activation is never the fast path of `drain_inputs`: it looks at the queue (`processesQueue`), on
every layer.  Before the repair the countdown of the wait survived the activation and a queue whose
length happened to equal the remembered one (two releases after a two-key chord) was not looked at
until the countdown ran out. -/
theorem chord_v2_activation_ends_countdown (s s' : ChV2) (layer : Nat) (h : processPresses s layer = .ok s')
    (hact : s'.active.length > s.active.length) :
    s'.ticksUntilChange = 0 ∧ ∀ layer', processesQueue s' layer' := by
  have h0 : s'.ticksUntilChange = 0 := by
    rcases processPresses_ok_cases s s' layer h with e | e | ⟨f, e⟩
    · rw [e] at hact; exact absurd hact (Nat.lt_irrefl _)
    · rw [e] at hact; exact absurd hact (Nat.lt_irrefl _)
    · rw [e] at hact ⊢; exact if_pos hact
  exact ⟨h0, fun _ => Or.inr fun hh => Nat.lt_irrefl 0 (h0 ▸ hh.1)⟩

/-- an activation on the nested table with a countdown running -/
example : let s : ChV2 := { cfg := cfgNested, ticksUntilChange := 7,
                            queue := [⟨.press (0, 48), 2⟩, ⟨.press (0, 30), 1⟩, ⟨.press (0, 46), 0⟩] }
    (match processPresses s 0 with
      | .ok s' => some (s'.active.length, s'.ticksUntilChange)
      | .error _ => none) = some (1, 0) := by decide +kernel

/-- **chord_v2_release_rule** (full: any state, any table, any queue; one tick that looks at the queue -
`processesQueue`: the cool-down or a scan, not the fast path.  The hypothesis cannot be dropped for
ARBITRARY states - a state with a countdown running and `prev_queue_len` equal to the present length
takes the fast path and looks at nothing - but since fix 0b65add it holds on the tick after every
activation (`chord_v2_activation_ends_countdown`) and, `prev_queue_len` being the length left after the
last pass, on the first tick after any event entered the queue).  `a` is an active chord whose action
has been handed to the layout (`Releasable`).  `a.remaining` are the keys still to be released before
the chord ends: `get_active_chord` sets it to `[]` for a first-release chord and to the participants
for an all-released chord (`getActiveChord`), and every release of a participant removes that key.
In the cool-down only row-0 releases count (fix dea6e53).
* **not before, all-released**: if some key still to be released has NO release in the queue, the chord
  is still active after the tick, still `Releasable` (its virtual coordinate stays pressed in the
  layout) and still waits for that key;
* **not before, first-release**: if no participant at all has a release in the queue, the chord is in the
  active list after the tick exactly as it was (aged by one tick);
* **at that tick, never later**: if every key still to be released (for a first-release chord: none)
  has its release in the queue, and at least one participant has, the release of the chord's virtual
  coordinate is among the events handed to the layout on THIS tick and the chord is gone - so a
  first-release chord ends on the tick that sees the first participant release, an all-released chord
  on the tick that sees the last outstanding one, and none later than the release of all participants. -/
theorem chord_v2_release_rule (s s' : ChV2) (layer : Nat) (dq : List Queued)
    (h : tickChv2 s layer = .ok (s', dq)) (hproc : processesQueue s layer)
    (a : ActiveChord) (ha : a ∈ s.active) (hst : a.status = .releasable) :
    (∀ k ∈ a.remaining, (¬ ∃ qd ∈ s.queue, ∃ c, qd.ev = .release c ∧ c.2 = k) →
      ∃ a' ∈ s'.active, a'.coordinate = a.coordinate ∧ a'.keys = a.keys ∧ a'.action = a.action ∧
        a'.status = .releasable ∧ k ∈ a'.remaining) ∧
    ((¬ ∃ qd ∈ s.queue, ∃ c, qd.ev = .release c ∧ a.keys.contains c.2 = true) → agedChord a ∈ s'.active) ∧
    ((∀ k ∈ a.remaining, a.keys.contains k = true) →
      (∀ k ∈ a.remaining, ∃ qd ∈ s.queue, qd.ev = .release (0, k)) →
      (∃ k, a.keys.contains k = true ∧ ∃ qd ∈ s.queue, qd.ev = .release (0, k)) →
      (⟨.release (0, a.coordinate), 0⟩ : Queued) ∈ dq ∧ ∀ a' ∈ s'.active, a'.status ≠ .released) := by
  obtain ⟨js, hjs, hkeep⟩ := tickChv2_keeps h ha
  refine ⟨fun k hk hno => ?_, fun hno => ?_, fun hsub hall hsome => ?_⟩
  · -- not before, all-released
    obtain ⟨hs1, hk1⟩ := relAll_keeps js (agedChord a) k hk (fun hin => hno (hjs k hin))
    have hs2 : (relAll js (agedChord a)).status = .releasable := hs1.trans hst
    have hfld := relAll_fields js (agedChord a)
    exact ⟨_, hkeep (by rw [hs2]; decide), hfld.1, hfld.2.1, hfld.2.2.1, hs2, hk1⟩
  · -- not before, first-release
    have hnone : ∀ j ∈ js, (agedChord a).keys.contains j = false := by
      intro j hj
      obtain ⟨y, hy, c, he, hc2⟩ := hjs j hj
      cases hcon : (agedChord a).keys.contains j with
      | false => rfl
      | true => exact absurd ⟨y, hy, c, he, by rw [hc2]; exact hcon⟩ hno
    rw [relAll_noop _ _ hnone] at hkeep
    exact hkeep (by rw [show (agedChord a).status = .releasable from hst]; decide)
  · exact (chord_v2_released_with_participants s s' layer dq h hproc a ha hsub hall hsome).1 (by rw [hst]; rfl)

/-- an all-released chord `(a b)` whose action was delivered; `a`'s release is queued, `b`'s is not: the
chord stays and waits for `b`; with both queued its coordinate is released on that tick -/
example : let ach : ActiveChord := { coordinate := 851, remaining := [30, 48], keys := [30, 48], action := .keyCode 2,
                                     status := .releasable, delay := 3 }
    let st (q : List Queued) : ChV2 := { cfg := cfgNested, queue := q, active := [ach] }
    processesQueue (st [⟨.release (0, 30), 0⟩]) 0 ∧
    (match tickChv2 (st [⟨.release (0, 30), 0⟩]) 0 with
      | .ok (s', dq) => some (s'.active.map (·.remaining), dq.map (fun (q : Queued) => q.ev))
      | .error _ => none) = some ([[48]], [.release (0, 30)]) ∧
    (match tickChv2 (st [⟨.release (0, 30), 0⟩, ⟨.release (0, 48), 0⟩]) 0 with
      | .ok (s', dq) => some (s'.active.map (·.remaining), dq.map (fun (q : Queued) => q.ev))
      | .error _ => none) = some ([], [.release (0, 30), .release (0, 48), .release (0, 0), .release (0, 851)]) := by
  refine ⟨Or.inr (by decide), by decide +kernel, by decide +kernel⟩

/-! ## 4. Keys that complete no chord -/

/-- **chord_v2_nonchord_keys_in_order** (full: any state, any table, any queue of at most 46 events - the
input queue holds 32; every path of `tick_chv2`: cool-down, fast path, scan with or without an
activation).  `Q` is the queue as the tick ages it.  What one tick hands to the layout is `fwd ++ extra`:
* `extra` are chords v2's own events only - the no-op press `(0,0)` and releases of row-0 coordinates
  (the no-op `(0,0)` and the virtual coordinates of chords that end);
* `fwd` are queued events (nothing is invented), and the real-key (row 0) events of `fwd` followed by
  those still queued after the tick are a SUBSEQUENCE of the real-key events of `Q`: no real-key event is
  duplicated, none overtakes another, and everything handed over was queued before everything kept
  (events on other rows are handed over first, by `drain_virtual_keys`);
* NOTHING IS LOST but chord participants: every real-key event of `Q` is handed over on this tick, or
  still queued, or is the press of a participant of an active chord whose action is about to be handed
  to the layout.
Since `Layout::event` appends at the back of the queue, the same holds over any history: the real-key
events reach the layout in their original order, minus the presses consumed by activated chords. -/
theorem chord_v2_nonchord_keys_in_order (s s' : ChV2) (layer : Nat) (dq : List Queued)
    (h : tickChv2 s layer = .ok (s', dq)) (hroom : s.queue.length + 2 ≤ DRAIN_Q_LEN) :
    ∃ fwd extra, dq = fwd ++ extra ∧
      (∀ x ∈ extra, x.ev = .press (0, 0) ∨ ∃ n, x.ev = .release (0, n)) ∧
      (∀ x ∈ fwd, x ∈ (agedV2 s).queue) ∧
      ((fwd ++ s'.queue).filter row0).Sublist ((agedV2 s).queue.filter row0) ∧
      (∀ x ∈ (agedV2 s).queue, row0 x = true → x ∈ fwd ∨ x ∈ s'.queue ∨
        ∃ c, x.ev = .press c ∧ ∃ a ∈ s'.active, unreadClass a.status = true ∧ a.keys.contains c.2 = true) := by
  rw [tickChv2_eq] at h
  split at h
  · cases h
  · rename_i s1 dq1 hd
    have hl : (agedV2 s).queue.length + 2 ≤ DRAIN_Q_LEN := by rw [agedV2_queue_length]; exact hroom
    obtain ⟨h1, h2, h3, h4⟩ := drainInputs_split (agedV2 s) s1 dq1 layer hd (by omega)
    obtain ⟨extra, e1, e2, e3, e4⟩ := tickTail_split _ s1 s' dq1 dq h (by omega)
    refine ⟨dq1, extra, e1, e4, h3, by rw [e2]; exact h2, ?_⟩
    intro x hx hr0
    rcases h4 x hx hr0 with h' | h' | ⟨c, hc, a, ha, hu, hk⟩
    · exact Or.inl h'
    · exact Or.inr (Or.inl (by rw [e2]; exact h'))
    · refine Or.inr (Or.inr ⟨c, hc, a, ?_, hu, hk⟩)
      rw [e3]
      refine List.mem_filter.mpr ⟨ha, ?_⟩
      cases hs : a.status with
      | released => rw [hs] at hu; cases hu
      | _ => rfl

/-- a scan on the nested table: `r x` (a release in front), `p b`, `p a`, `p d` (no candidate contains
`d`): the release and nothing else of the queue is handed over, `(a b)` is activated by backtracking,
its two presses are consumed and `d` stays queued for the next tick, behind nothing -/
example : let s : ChV2 := { cfg := cfgNested, queue := [⟨.release (0, 45), 0⟩, ⟨.press (0, 48), 2⟩, ⟨.press (0, 30), 1⟩, ⟨.press (0, 32), 0⟩] }
    (match tickChv2 s 0 with
    | .ok (s', dq) => some (dq.map (fun (q : Queued) => q.ev), s'.queue.map (fun (q : Queued) => q.ev),
        s'.active.map (·.keys))
    | .error _ => none) = some ([.release (0, 45), .press (0, 0)], [.press (0, 32)], [[30, 48]]) := by
  decide +kernel

end KVerif.C09
