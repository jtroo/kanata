/-
C07, tie to the source (G3 of DESIGN.md): the kanata-level model's idle predicate and blocking decision
are the conjunction of EXACTLY the conjuncts that the current text of `Kanata::is_idle` and
`Kanata::can_block_update_idle_waiting` contains.  `Gen/IdleFields.lean` is rewritten from
src/kanata/mod.rs at the start of every check, so these theorems are re-checked against what the code
says now: a conjunct removed from the source, added to it, or rewritten makes one of them fail (or the
generated file stop elaborating), and the C07 check then searches for a history on which the blocking
loop and the always-ticking loop differ.
-/
import KVerif.Lemmas.IdleInterp
namespace KVerif.C07src
open KVerif.K KVerif.L KVerif.Gen.Idle

/-- **isIdle_interprets_source** (full): for every model state, the model's `isIdle` answers true iff
every conjunct found in the source of `Kanata::is_idle` holds of that state (conjuncts about components
outside this model are constantly true there).  Stated as an iff over membership, so a mere
re-ordering of the conjuncts in the source does not break it. -/
theorem isIdle_interprets_source (k : KState) :
    isIdle k = true ↔ ∀ t ∈ isIdleSrc, evalIdleTag k t = true := by
  -- both sides are the Boolean conjunction of the same conjuncts, in whatever order the source has them
  rw [← List.all_eq_true]
  apply Iff.of_eq
  congr 1
  simp only [isIdleSrc, List.all_cons, List.all_nil, evalIdleTag, isIdle, isIdleBase, pressedKeysMeansNotIdle,
    Bool.and_true, Bool.true_and]
  ac_rfl

/-- **idle_source_covers_model** (full): every conjunct that concerns a component of the model occurs
in the source - none has been dropped from `is_idle`. -/
theorem idle_source_covers_model : ∀ t : IdleTag, t.modelled = true → t ∈ isIdleSrc := by
  intro t h
  cases t <;> first | decide | exact absurd h (by decide)

/-- no conjunct occurs twice, and the one `let` in front is the definition the model uses -/
theorem idle_source_shape : isIdleSrc.Nodup ∧ isIdleLets = [.pressedKeysDef] := by decide

/-- **canBlock_interprets_source** (full): the decision `can_block_update_idle_waiting` returns is the
conjunction of exactly the conjuncts in its source; the statements in front of the returned expression
are the six the model transcribes (the last two concern chords v2 and the dynamic-macro recorder, which are outside this model), in that order; and the call leaves the layout alone. -/
theorem canBlock_interprets_source (k : KState) (ms : Nat) :
    ((canBlockUpdateIdleWaiting k ms).2 = true ↔ ∀ t ∈ canBlockSrc, evalBlockTag k t = true) ∧
    canBlockLets = [.cbLetIsIdle, .cbLetCounting, .cbUpdateTicksSinceIdle, .cbLetPassed, .cbLetChordsV2, .cbLetRecording] ∧
    (canBlockUpdateIdleWaiting k ms).1.layout = k.layout := by
  refine ⟨?_, by decide, (canBlock_layout k ms).1⟩
  rw [canBlock_decision, ← List.all_eq_true]
  apply Iff.of_eq
  congr 1
  simp only [canBlockSrc, List.all_cons, List.all_nil, evalBlockTag, Bool.and_true, Bool.true_and]
  ac_rfl

/-- a key held down, everything at rest (the state of Props/C07.lean's first example) -/
def heldKey : KState :=
  { layout := { cfg := { layers := [[]], srcKeys := [] }, states := [.normalKey 30 (0, 30) 0] },
    customs := [], keyOutputs := [[]], prevKeys := [30],
    mods := { codes := [42, 54, 56, 100, 29, 97, 125, 126], lsft := 42, rsft := 54 } }

/-- non-vacuity: that state satisfies every conjunct of the source, so the model says idle and the
decision is "block"; with an on-idle action waiting the same state is not idle, through the conjunct
about key states, and with a queued event any state is not idle, through the conjunct that says so -/
example : (∀ t ∈ isIdleSrc, evalIdleTag heldKey t = true) ∧ isIdle heldKey = true ∧
    (canBlockUpdateIdleWaiting heldKey 1).2 = true ∧
    evalIdleTag { heldKey with liveReloadRequested := true } .noSeqCustomOrCountedKeyState = false := by
  refine ⟨by decide, by decide, by decide, by decide⟩

example (k : KState) (q : Queued) (h : k.layout.queue = [q]) : isIdle k = false := by
  cases hi : isIdle k
  · rfl
  · have := (isIdle_interprets_source k).1 hi .queueEmpty (by decide)
    simp [evalIdleTag, h] at this

end KVerif.C07src
