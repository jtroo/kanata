/-
C03 — configuration parsing is total; the part about `defvar`.

Fix 8dc9082 ("reject variables that are defined in terms of themselves") put a cycle check into
`parse_vars` (parser/src/cfg/mod.rs): after every insertion a work-list search starts at the new
variable, follows the `$name` atoms found at every depth of the stored values (only names that are
keys of the table count, so a forward reference joins the graph when its target is defined) and
refuses the definition when it comes back to the new variable.  The model of that code is
`reachesVar` / `parseVarsPairs` / `parseVars` in Model/SExpr.lean with `Fixes.varCycle = true`; the
C03 correspondence compares it with the real `parse_vars` on every generated text (`vr` field).

Here it is proved, for every list of `defvar` items of any size and every recursion budget:

* the search decides self-reachability (`cycle_check_decides`), a loop-by-loop transcription of the
  Rust check gives the same verdict and cannot panic (`check_as_written`), and on an acyclic table
  a new definition is refused exactly when the table with it is cyclic (`insert_check_exact`);
* SOUNDNESS  an accepted list leaves an acyclic reference graph (`parse_vars_sound`);
* COMPLETENESS  the check refuses nothing else: the repaired `parse_vars` accepts with table `T`
  exactly when the unrepaired one does and `T` is acyclic (`parse_vars_accepts_iff`);
* CONSEQUENCES  against an accepted table, `SExpr::atom(vars)` / `SExpr::list(vars)` return with a
  recursion depth of at most the number of variables (`resolve_total_of_accepted`), the complete
  substitution `SExpr.expand` returns with that many hops and leaves no reference to a defined
  variable (`expand_total_of_accepted`), and `parse_vars` itself — which resolves variables while it
  evaluates `concat` — returns a table or a diagnostic, never overflowing (`parse_vars_total`).

Definitions: `Edge`, `Reaches`, `Acyclic`, `Defined`, `SExpr.expand` in Model/VarCycle.lean; helper
lemmas in Lemmas/VarCycle.lean (the decidable equality of outcomes that lets the kernel check the
examples is in Lemmas/SExprVars.lean).  `fx.varCycle = true` selects the repaired revision
(`Fixes.fixed`), `fx.varCycle = false` the pinned one; the other fields of `Fixes` do not occur in
`parseVars`.
-/
import KVerif.Lemmas.VarCycle
namespace KVerif.SExpr

/-! ## 0. the tables of the examples -/

/-- an atom / a list with a dummy span -/
def vA (t : String) : SExpr := .atom (kw t) Span.default
def vL (xs : List SExpr) : SExpr := .list xs Span.default

/-- `(defvar top (multi $l $r) l (f ($bot)) r $bot bot x)`: a diamond `top → l, r → bot` in which
every reference is a forward reference and one sits in a nested list -/
def diamondItem : List SExpr :=
  [vA "defvar", vA "top", vL [vA "multi", vA "$l", vA "$r"], vA "l", vL [vA "f", vL [vA "$bot"]],
   vA "r", vA "$bot", vA "bot", vA "x"]

/-- the table that `parse_vars` builds for `diamondItem` -/
def diamondVars : Vars :=
  [(kw "top", vL [vA "multi", vA "$l", vA "$r"]), (kw "l", vL [vA "f", vL [vA "$bot"]]),
   (kw "r", vA "$bot"), (kw "bot", vA "x")]

/-- `(defvar a (multi $c x) b $a c (macro $b))`: the cycle `a → c → b → a` is closed by the last
definition, through the forward reference `$c` of the first one -/
def cycle3Item : List SExpr :=
  [vA "defvar", vA "a", vL [vA "multi", vA "$c", vA "x"], vA "b", vA "$a", vA "c", vL [vA "macro", vA "$b"]]

/-- the table the unrepaired `parse_vars` builds for `cycle3Item` -/
def cycle3Vars : Vars :=
  [(kw "a", vL [vA "multi", vA "$c", vA "x"]), (kw "b", vA "$a"), (kw "c", vL [vA "macro", vA "$b"])]

/-- `(defvar p (concat $q "-" $r) q (x $r) r y)` then `(defvar s (concat $p $q))`: `concat` is
evaluated while the table is built, over forward references (`$q`, `$r` are still undefined when `p`
is stored, so they stay text) and over a list-valued variable (`$q` resolves to `(x $r)`, whose
`$r` resolves to `y`) -/
def concatItems : List (List SExpr) :=
  [[vA "defvar", vA "p", vL [vA "concat", vA "$q", vA "\"-\"", vA "$r"], vA "q", vL [vA "x", vA "$r"], vA "r", vA "y"],
   [vA "defvar", vA "s", vL [vA "concat", vA "$p", vA "$q"]]]

/-- the table that `parse_vars` builds for `concatItems` -/
def concatVars : Vars :=
  [(kw "p", vA "$q-$r"), (kw "q", vL [vA "x", vA "$r"]), (kw "r", vA "y"), (kw "s", vA "$q-$rxy")]

/-- three runs that several of the examples below speak about, each evaluated once -/
theorem cycle3_refused : reachesVar cycle3Vars (kw "c") (cycle3Vars.length + 1) [kw "c"] [] = true := by
  decide +kernel
theorem diamond_accepted : parseVars Fixes.fixed 0 [diamondItem] [] = .ok (.ok diamondVars) := by decide +kernel
theorem concat_accepted : parseVars Fixes.fixed 4 concatItems [] = .ok (.ok concatVars) := by decide +kernel

/-! ## 1. the check -/

/-- **cycle_check_decides** (full).  Run as `parse_vars` runs it — work list `[name]`, nothing
visited, on the table that already holds `name` — the search of the cycle check answers `true`
exactly when `name` reaches itself through one or more references between defined variables.  For
every table (also one with cycles elsewhere, or with repeated keys) and every name; in particular
the fuel `vars.length + 1` that the model gives the Rust `while let Some(name) = pending.pop()` loop
is never exhausted. -/
theorem cycle_check_decides (vars : Vars) (name : Bytes) :
    reachesVar vars name (vars.length + 1) [name] [] = true ↔ Reaches vars name name :=
  reachesVar_iff vars name

/-- in the table of `cycle3Item`, `c` reaches itself; in the diamond, `top` does not -/
example : Reaches cycle3Vars (kw "c") (kw "c") := (cycle_check_decides _ _).mp cycle3_refused
example : ¬ Reaches diamondVars (kw "top") (kw "top") := fun h =>
  absurd ((cycle_check_decides _ _).mpr h) (by decide +kernel)

/-- **check_as_written** (full).  The same check transcribed loop by loop from the Rust text
(`selfRefCheck`: the stack `values` walked depth-first from the right, one `visited.insert` per
reference, `pending.pop()`, the index `vars[name]`), for a variable that is in the table — as the
one just inserted always is: it ends by refusing or by running to the end (`vars[name]` cannot
panic, the outer loop finishes within `vars.length + 1` rounds), it refuses exactly when the
variable reaches itself, and that is the verdict of the search `reachesVar` used by the model of
`parse_vars` that the correspondence check runs against the real code. -/
theorem check_as_written (vars : Vars) (name : Bytes) (hn : Defined vars name) :
    (selfRefCheck vars name = .bail ∨ selfRefCheck vars name = .pass) ∧
    (selfRefCheck vars name = .bail ↔ Reaches vars name name) ∧
    (selfRefCheck vars name = .bail ↔ reachesVar vars name (vars.length + 1) [name] [] = true) := by
  rw [selfRefCheck_eq_reachesVar vars name hn, ← cycle_check_decides]
  cases reachesVar vars name (vars.length + 1) [name] [] <;> simp

example : selfRefCheck cycle3Vars (kw "c") = .bail ∧ selfRefCheck diamondVars (kw "top") = .pass := by
  decide +kernel
/-- the hypothesis is needed: for a name that is not a key the Rust index would panic -/
example : selfRefCheck diamondVars (kw "nokey") = .indexPanic := by decide +kernel

/-- **insert_check_exact** (full).  On an acyclic table a new definition passes the check exactly
when the table with it is still acyclic: a new cycle can only run through the new variable, because
every new edge starts there or — a forward reference that becomes live — ends there. -/
theorem insert_check_exact (vars : Vars) (name : Bytes) (v : SExpr) (hac : Acyclic vars) :
    reachesVar (vars ++ [(name, v)]) name ((vars ++ [(name, v)]).length + 1) [name] [] = false ↔
      Acyclic (vars ++ [(name, v)]) := by
  rw [Bool.eq_false_iff, Ne, cycle_check_decides]
  exact ⟨acyclic_snoc hac, fun h => h name⟩

/-- the first two definitions of `cycle3Item` form an acyclic table, and the third one is refused -/
example : Acyclic (cycle3Vars.take 2) ∧
    reachesVar cycle3Vars (kw "c") (cycle3Vars.length + 1) [kw "c"] [] = true := by
  refine ⟨?_, cycle3_refused⟩
  have h1 : Acyclic [(kw "a", vL [vA "multi", vA "$c", vA "x"])] :=
    (insert_check_exact [] (kw "a") _ acyclic_nil).mp (by decide +kernel)
  exact (insert_check_exact _ (kw "b") (vA "$a") h1).mp (by decide +kernel)

/-! ## 2. soundness and completeness of the repaired `parse_vars` -/

/-- **parse_vars_sound** (full).  If the repaired `parse_vars` accepts a list of `defvar` items —
any number of items and definitions, any values (atoms, nested lists, `concat`), any recursion
budget — then in the table it returns no variable reaches itself through one or more references
(`$name` atoms at any depth of a stored value whose `name` is defined; forward references
included). -/
theorem parse_vars_sound (fx : Fixes) (hfx : fx.varCycle = true) (fuel : Nat) (items : List (List SExpr))
    (vars : Vars) (h : parseVars fx fuel items [] = .ok (.ok vars)) : Acyclic vars :=
  (hfx ▸ (parseVars_stage items).grows h).acyclic acyclic_nil

/-- the diamond is accepted (so its table is acyclic) -/
example : parseVars Fixes.fixed 0 [diamondItem] [] = .ok (.ok diamondVars) := diamond_accepted
example : Acyclic diamondVars := parse_vars_sound Fixes.fixed rfl 0 [diamondItem] _ diamond_accepted

/-- **parse_vars_accepts_iff** (full: soundness and completeness).  The repaired `parse_vars`
accepts a list of items with table `vars` exactly when the unrepaired one accepts it with the same
table and that table is acyclic.  So the check refuses nothing but cyclic definitions: whatever else
is rejected (a list as a name, a name without value, a duplicate name, an item that is not a
`defvar`) is rejected by both revisions. -/
theorem parse_vars_accepts_iff (fx fx0 : Fixes) (hfx : fx.varCycle = true) (hfx0 : fx0.varCycle = false)
    (fuel : Nat) (items : List (List SExpr)) (vars : Vars) :
    parseVars fx fuel items [] = .ok (.ok vars) ↔
      (parseVars fx0 fuel items [] = .ok (.ok vars) ∧ Acyclic vars) := by
  constructor
  · intro h
    exact ⟨(parseVars_stage items).agree fx0 h (fun hx => by rw [hfx0] at hx; cases hx),
      parse_vars_sound fx hfx fuel items vars h⟩
  · intro ⟨h, hac⟩
    exact (parseVars_stage items).agree fx h (fun _ => hac)

/-- the diamond: accepted by both revisions; the 3-cycle through a forward reference: accepted by
the unrepaired `parse_vars` only, with a diagnostic at the name `c` from the repaired one -/
example : parseVars Fixes.pinned 0 [diamondItem] [] = .ok (.ok diamondVars) ∧ Acyclic diamondVars :=
  (parse_vars_accepts_iff Fixes.fixed Fixes.pinned rfl rfl 0 [diamondItem] _).mp diamond_accepted
example : parseVars Fixes.pinned 0 [cycle3Item] [] = .ok (.ok cycle3Vars) ∧
    parseVars Fixes.fixed 0 [cycle3Item] [] = .ok (.error (selfRefDiag Span.default)) ∧ ¬ Acyclic cycle3Vars :=
  ⟨by decide +kernel, by decide +kernel, fun h => h (kw "c") ((cycle_check_decides _ _).mp cycle3_refused)⟩

/-! ## 3. consequences: nothing that follows references recurses without end -/

/-- **resolve_total_of_accepted** (full).  Against a table accepted by the repaired `parse_vars`,
`SExpr::atom(vars)` and `SExpr::list(vars)` return for every expression with a recursion depth of at
most the number of variables: the fuel `vars.length` is never exhausted (a chain of references never
revisits a variable).  Compare `parse_vars_accepts_cycle_counterexample` in Props/C03.lean: with
the table of `(defvar a $a)` the pinned code overflows at every depth. -/
theorem resolve_total_of_accepted (fx : Fixes) (hfx : fx.varCycle = true) (fuel : Nat)
    (items : List (List SExpr)) (vars : Vars) (h : parseVars fx fuel items [] = .ok (.ok vars))
    (e : SExpr) (depth : Nat) (hd : vars.length ≤ depth) :
    (∃ r, e.atomV depth (some vars) = .ok r) ∧ (∃ r, e.listV depth (some vars) = .ok r) :=
  resolves_of_acyclic (parse_vars_sound fx hfx fuel items vars h) e depth hd

/-- `$top` of the diamond resolves to a list, `$r` to the atom `x`, with depth 4 -/
example : (vA "$top").listV 4 (some diamondVars) = .ok (some [vA "multi", vA "$l", vA "$r"]) ∧
    (vA "$r").atomV 4 (some diamondVars) = .ok (some (kw "x")) := by decide +kernel

/-- **expand_total_of_accepted** (full).  Against an accepted table the complete substitution of
variable references — every `$name` at every depth replaced by the expanded value of `name`, which
is the most any consumer of the configuration can unfold — returns with a budget of `vars.length`
nested hops, and what it returns mentions no defined variable any more.  The measure behind it: a
chain of hops visits pairwise distinct variables (`acyclic_fuel_induction`), so its length is below
the number of variables. -/
theorem expand_total_of_accepted (fx : Fixes) (hfx : fx.varCycle = true) (fuel : Nat)
    (items : List (List SExpr)) (vars : Vars) (h : parseVars fx fuel items [] = .ok (.ok vars))
    (e : SExpr) (hops : Nat) (hd : vars.length ≤ hops) :
    ∃ r, e.expand hops vars = .ok r ∧ ∀ m ∈ r.refs, ¬ Defined vars m := by
  obtain ⟨r, hr⟩ := expands_of_acyclic (parse_vars_sound fx hfx fuel items vars h) e hops hd
  exact ⟨r, hr, expand_no_refs vars hops e r hr⟩

/-- `($top $undefined)` against the diamond -/
example : (vL [vA "$top", vA "$undefined"]).expand 4 diamondVars =
    .ok (vL [vL [vA "multi", vL [vA "f", vL [vA "x"]], vA "x"], vA "$undefined"]) := by decide +kernel
/-- the budget is sharp: the chain `top → l → bot` needs three hops -/
example : (vA "$top").expand 2 diamondVars = .error .fuelOut := by decide +kernel

/-- **parse_vars_total** (full, on the model of `parse_vars` with the cycle check).  For every list
of `defvar` items there is a recursion budget from which on `parse_vars` returns a table or a
diagnostic: the recursion of `push_all_atoms` (the evaluation of `concat`, which resolves variables
and descends into the lists they stand for while the table is being built) is bounded, because the
table is acyclic whenever it runs.  Compare `concat_list_cycle_counterexample` in Props/C03.lean: the
pinned code overflows on `(defvar l (x $l) c (concat $l))` at every budget. -/
theorem parse_vars_total (fx : Fixes) (hfx : fx.varCycle = true) (items : List (List SExpr)) :
    ∃ F, ∀ fuel, F ≤ fuel → ∃ r, parseVars fx fuel items [] = .ok r :=
  (parseVars_stage items).total hfx acyclic_nil

/-- two items with `concat` over forward references and a list-valued variable: budget 4 is enough,
budget 3 is not -/
example : ∃ vars, parseVars Fixes.fixed 4 concatItems [] = .ok (.ok vars) ∧
    vars.lookup (kw "p") = some (vA "$q-$r") ∧ vars.lookup (kw "s") = some (vA "$q-$rxy") := ⟨concatVars, concat_accepted, by decide +kernel⟩
example : parseVars Fixes.fixed 3 concatItems [] = .error .fuelOut := by decide +kernel

/-- **parse_vars_outcome_stable** (full).  The outcome does not depend on the budget once there is
one: a larger budget gives the same table or the same diagnostic (both revisions). -/
theorem parse_vars_outcome_stable (fx : Fixes) (fuel fuel' : Nat) (hf : fuel ≤ fuel') (items : List (List SExpr))
    (r : Except Diag Vars) (h : parseVars fx fuel items [] = .ok r) : parseVars fx fuel' items [] = .ok r :=
  (parseVars_stage items).mono hf h

example : ∀ fuel, 4 ≤ fuel → ∃ vars, parseVars Fixes.fixed fuel concatItems [] = .ok (.ok vars) ∧ vars.length = 4 :=
  fun fuel hf => ⟨concatVars, parse_vars_outcome_stable Fixes.fixed 4 fuel hf concatItems _ concat_accepted, rfl⟩

end KVerif.SExpr
