/-
C01 — no stuck output, continued: quiescence on the fragments `Props/C01.lean` left open.

  * the tap-dance fragment of C17 (`quiesce_tapdance`, `quiesce_tapdance_fresh`): plain keys, output
    chords, layer-while-held, transparent / unmapped positions and tap-dance keys, lazy and eager, any
    number of them, whose listed actions are a key, an output chord or layer-while-held.

Same shape as the theorems of `Props/C01.lean`: after EVERY bounded-queue history that leaves no key
physically down, an explicit number of quiet ticks runs without a crash and leaves the layout at rest
(`Quiesce.LayoutAtRest`), hence (`at_rest_released_and_idle`) kanata releases everything at the OS
and reports idle.  New here: the history must be physically possible (`Quiesce.physical`: a key is
pressed only while up, released only while down) — without it the statement is false
(`tapdance_double_press_strands_key`).  Helper lemmas: Lemmas/QuiesceTapDance.lean.

  * the chords-v1 fragment of C09 (`quiesce_chords_v1`, `quiesce_chords_v1_fresh`): plain keys and
    `defchords` keys, any number of groups, whose chord actions are a key, an output chord or
    layer-while-held: chords that fire (early, on a stop event, at the timeout, moved to a released
    key), their repetition on every participating key, undefined key sets decomposed into the action
    queue.  Helper lemmas: Lemmas/QuiesceChords.lean.

  * two (or more) tap-hold keys (`quiesce_two_tapholds`, `taphold_keys_never_use_extra_waiting`): a
    second tap-hold key pressed while the first is undecided does NOT go through `extra_waiting` — its
    press stays in the queue until the first key is decided (`tick`: nothing is dequeued while
    `waiting` is set) — so `quiesce_taphold` of `Props/C01.lean` covers it; stated here with the fact
    that `extra_waiting` is empty after every prefix of every history.
Not proved: the paths that do fill `extra_waiting` — a tap-hold performed while another one is
pending: from the action queue (a decomposed chord whose single-key chords are tap-holds, a `switch`
with several matching tap-hold cases), on the queue-overflow path of `Layout::event`, or a `multi` of
two tap-holds (which `parse_multi` rejects) — and mixtures of the fragments.
-/
import KVerif.Props.C01
import KVerif.Lemmas.QuiesceTapDance
import KVerif.Lemmas.QuiesceChords
namespace KVerif.C01
open KVerif.L KVerif.K

/-! ### Quiescence on the tap-dance fragment (C17) -/

/-- **quiesce_tapdance** (full on the fragment).
Configurations of the fragment `CfgD`: plain keys, output chords, layer-while-held, transparent and
unmapped positions, and tap-dance keys — lazy (`tap-dance`) and eager (`tap-dance-eager`), any number
of them, any non-empty list of actions each of which is a key, an output chord or layer-while-held,
every timeout `≤ T` (`Quiesce.maxDanceTimeout cfg` is such a `T`); rapid-event delay `d`.  From any
state the layout can reach with no key physically down (`Quiesce.DInv T d s0 []`, `Quiesce.SafeD s0`:
both hold of the fresh layout and are kept by every physically possible history), after EVERY
physically possible history of presses, releases and ticks — dances of any number of taps, finished
by the timeout, by another key, by exhausting the list, re-opened by a late tap, lazy and eager ones
interleaved — that leaves no key physically down (an event never arrives while 32 are pending),
`N ≥ (T + d + 3) · (events still queued) + 2 T + d + 3` ticks without input run without a crash and
leave the layout at rest: no key or layer state, nothing queued, no dance undecided, no eager state,
no input pause; for this and every larger `N`.  By `at_rest_released_and_idle` kanata then releases
everything at the OS and reports idle (`tapdance_released_and_idle`).
The bound follows the code: while a lazy dance is undecided nothing is taken from the queue; it is
decided at most `T + 1` ticks later (one tick to read the queue again, which may restart the
countdown, then the countdown) and pauses input for `d` ticks; an eager state is forgotten `T + 1`
ticks after its last tap; each queued press may open a further dance.
Hypotheses: `h0` the invariant (every state, and the undecided key, belongs to a key that is
logically down — pressed, its release not yet taken from the queue; the queue physically possible;
no more taps counted than presses of the key are queued; countdowns `≤ T`, pause `≤ d`); `hS`/`hP`
exclude the index panics of `resolve_coord` (layer references in range, defsrc row of keys, presses
inside the layer tables); `hph` the history is physically possible — needed: the eviction that ends a
dance removes as many releases as presses of the key, so a key pressed twice without a release in
between loses the release that would have ended the chosen action
(`tapdance_double_press_strands_key`). -/
theorem quiesce_tapdance (s0 : Layout) (T d : Nat) (h0 : Quiesce.DInv T d s0 []) (hS : Quiesce.SafeD s0)
    (ins : List C06.In) (hP : Quiesce.PressesOK s0.cfg ins) (hph : Quiesce.physical [] ins = true) (s1 : Layout)
    (hrun : C06.run s0 [] ins = some (.ok (s1, [])))
    (N : Nat) (hN : (T + d + 3) * s1.queue.length + 2 * T + d + 3 ≤ N) :
    ∃ s2, C06.run s1 [] (List.replicate N .tick) = some (.ok (s2, [])) ∧ Quiesce.LayoutAtRest s2 := by
  have st := Quiesce.stepInv_D T d s0.cfg
  have hA := Quiesce.admitted_D [] hP hph
  have i1 := st.of_run ⟨h0, hS, rfl⟩ hA hrun
  obtain ⟨s2, hq, i2, hz⟩ := st.quiesce (Quiesce.dPot T d) Quiesce.dPot_tick ⟨h0, hS, rfl⟩ hA hrun
    (Nat.le_trans (Quiesce.dPot_le i1.1) hN)
  exact ⟨s2, hq, i2.1.atRest hz⟩

/-- **quiesce_tapdance_fresh**: the same from start-up, every hypothesis a decidable condition on the
configuration or on the list of inputs, the bound a function of the configuration alone: after every
physically possible history from the freshly created layout in which every pressed key is released
again and no event arrives while 32 are pending, `N ≥ 32 (T + d + 3) + 2 T + d + 3` further ticks,
`T` the largest tap-dance timeout, leave the layout at rest. -/
theorem quiesce_tapdance_fresh (cfg : LCfg) (hc : Quiesce.CfgD cfg) (hs : Quiesce.CfgSafeD cfg) (tv2 dfl qth : Bool)
    (d : Nat) (ins : List C06.In) (hP : Quiesce.PressesOK cfg ins) (hph : Quiesce.physical [] ins = true)
    (hbal : Quiesce.downs [] ins = [])
    (hroom : C06.run { cfg := cfg, transV2 := tv2, delegateToFirstLayer := dfl, quickTapHoldTimeout := qth,
                       oneshot := { pauseInputProcessingDelay := d } } [] ins ≠ none)
    (N : Nat) (hN : (Quiesce.maxDanceTimeout cfg + d + 3) * QUEUE_SIZE + 2 * Quiesce.maxDanceTimeout cfg + d + 3 ≤ N) :
    ∃ s1 s2, C06.run { cfg := cfg, transV2 := tv2, delegateToFirstLayer := dfl, quickTapHoldTimeout := qth,
                       oneshot := { pauseInputProcessingDelay := d } } [] ins = some (.ok (s1, [])) ∧
      C06.run s1 [] (List.replicate N .tick) = some (.ok (s2, [])) ∧ Quiesce.LayoutAtRest s2 := by
  obtain ⟨s1, s2, hr, hq, i2, hz⟩ := (Quiesce.stepInv_D _ d cfg).quiesce_balanced (Quiesce.dPot _ d) Quiesce.dPot_tick
    ⟨Quiesce.init_dinv cfg hc _ (Quiesce.dBound_max cfg) tv2 dfl qth d, Quiesce.init_safe_D cfg hs tv2 dfl qth d, rfl⟩
    (Quiesce.admitted_D [] hP hph) hbal hroom fun _ i => Nat.le_trans (Quiesce.dPot_le_cap i.1) hN
  exact ⟨s1, s2, hr, hq, i2.1.atRest hz⟩

/-- the bridge made explicit (any configuration; a corollary of `at_rest_released_and_idle`): whatever
kanata state holds the layout the theorems of this file end in — its other components at rest — wants
no key down, stays silent, reports idle, and has no dance, eager state or event pending -/
theorem tapdance_released_and_idle (k : KState) (h : Quiesce.LayoutAtRest k.layout)
    (h10 : k.scroll = none) (h11 : k.hscroll = none) (h12 : k.moveV = none) (h13 : k.moveH = none)
    (h14 : k.macroOnPressCancelDuration = 0) (h15 : k.capsWord = none) (h16 : k.vkeysPendingRelease = [])
    (h17 : k.waitingForIdle = []) (h18 : k.liveReloadRequested = false) (h20 : k.seq.st.active = false)
    (h21 : k.dyn.rep = none) :
    k.layout.keycodes = [] ∧ C07.QuietLayout k.layout ∧ isIdle k = true ∧ k.layout.tapDanceEager = none ∧
      k.layout.waiting = none ∧ k.layout.queue = [] :=
  let ⟨a, b, c⟩ := at_rest_released_and_idle k h h10 h11 h12 h13 h14 h15 h16 h17 h18 h20 h21
  ⟨a, b, c, h.tde, h.waiting, h.queue⟩

/-- a kanata state around the layout at rest these theorems end in (here: of the configuration `tdCfg`
below) meets the hypotheses -/
example : Quiesce.LayoutAtRest ({ cfg := { layers := [[]], srcKeys := [] } } : Layout) ∧
    (({ layout := { cfg := { layers := [[]], srcKeys := [] } }, customs := [], keyOutputs := [[]],
        mods := { codes := [42, 54, 56, 100, 29, 97, 125, 126], lsft := 42, rsft := 54 } } : KState).scroll = none) :=
  ⟨⟨rfl, rfl, rfl, rfl, rfl, rfl, rfl, rfl, rfl, rfl⟩, rfl⟩

/-- non-vacuity: a lazy tap-dance of three actions (a key, a modifier, a layer; 200 ticks), an eager
one of two (a key, an output chord; 150 ticks), a plain key that the upper layer remaps and an output
chord -/
def tdCfg : LCfg :=
  { layers := [
      [((0, 30), .tapDance [.keyCode 30, .keyCode 42, .layer 1] 200 false),
       ((0, 31), .tapDance [.keyCode 31, .multipleKeyCodes [29, 31]] 150 true),
       ((0, 32), .keyCode 32), ((0, 18), .multipleKeyCodes [29, 18])],
      [((0, 32), .keyCode 45)]],
    srcKeys := [(30, .keyCode 30), (31, .keyCode 31), (32, .keyCode 32), (18, .keyCode 18)] }

/-- the lazy key tapped twice and interrupted by a plain key, then the eager key tapped twice, the lazy
key pressed again, a chord key, and everything released in a burst (events are still queued at the end) -/
def tdHist : List C06.In :=
  [.ev (.press (0, 30)), .tick, .ev (.release (0, 30)), .ev (.press (0, 30)), .tick, .ev (.release (0, 30)),
   .ev (.press (0, 32)), .tick, .tick, .ev (.press (0, 31)), .ev (.release (0, 31)), .ev (.press (0, 31)),
   .ev (.release (0, 32)), .ev (.press (0, 30)), .ev (.press (0, 18)), .ev (.release (0, 31)),
   .ev (.release (0, 18)), .ev (.release (0, 30))]

theorem tdCfg_frag : Quiesce.CfgD tdCfg := by
  refine ⟨?_, ?_⟩
  · intro tbl ht e he
    simp only [tdCfg, List.mem_cons, List.mem_nil_iff, or_false] at ht
    rcases ht with rfl | rfl
    · simp only [List.mem_cons, List.mem_nil_iff, or_false] at he
      rcases he with rfl | rfl | rfl | rfl <;> simp [Quiesce.FragD, C06.Simple]
    · simp only [List.mem_cons, List.mem_nil_iff, or_false] at he
      subst he; simp [Quiesce.FragD]
  · intro e he
    simp only [tdCfg, List.mem_cons, List.mem_nil_iff, or_false] at he
    rcases he with rfl | rfl | rfl | rfl <;> simp [Quiesce.FragD]

theorem tdCfg_safe : Quiesce.CfgSafeD tdCfg := by
  refine ⟨rfl, by decide, ?_, ?_⟩
  · intro tbl ht e he
    simp only [tdCfg, List.mem_cons, List.mem_nil_iff, or_false] at ht
    rcases ht with rfl | rfl
    · simp only [List.mem_cons, List.mem_nil_iff, or_false] at he
      rcases he with rfl | rfl | rfl | rfl <;> simp [Quiesce.ActSafeD, Quiesce.SimpleSafe, tdCfg]
    · simp only [List.mem_cons, List.mem_nil_iff, or_false] at he
      subst he; simp [Quiesce.ActSafeD]
  · intro e he
    simp only [tdCfg, List.mem_cons, List.mem_nil_iff, or_false] at he
    rcases he with rfl | rfl | rfl | rfl <;> exact ⟨by simp [Quiesce.ActSafeD], fun h => by cases h⟩

/-- the hypotheses of `quiesce_tapdance_fresh` hold of this configuration and history (fourteen events:
`run_defined_D`), with rapid-event delay 5: 32 · (200 + 5 + 3) + 400 + 5 + 3 = 7064 quiet ticks leave
the layout at rest -/
example : ∃ s1 s2, C06.run { cfg := tdCfg, oneshot := { pauseInputProcessingDelay := 5 } } [] tdHist
      = some (.ok (s1, [])) ∧
    C06.run s1 [] (List.replicate 7064 .tick) = some (.ok (s2, [])) ∧ Quiesce.LayoutAtRest s2 := by
  have hP : Quiesce.PressesOK tdCfg tdHist := by
    intro c hc
    simp only [tdHist, List.mem_cons, List.mem_nil_iff, or_false, C06.In.ev.injEq, Ev.press.injEq,
      reduceCtorEq, false_or, or_false] at hc
    rcases hc with rfl | rfl | rfl | rfl | rfl | rfl | rfl <;> exact ⟨by decide, by decide⟩
  have hph : Quiesce.physical [] tdHist = true := by decide
  have hbal : Quiesce.downs [] tdHist = [] := by decide
  have hroom : C06.run { cfg := tdCfg, oneshot := { pauseInputProcessingDelay := 5 } } [] tdHist ≠ none :=
    Quiesce.run_defined_D tdHist _ []
      (Quiesce.init_dinv tdCfg tdCfg_frag _ (Quiesce.dBound_max _) true false false 5)
      (Quiesce.init_safe_D tdCfg tdCfg_safe true false false 5) hP hph (by decide)
  exact quiesce_tapdance_fresh tdCfg tdCfg_frag tdCfg_safe true false false 5 tdHist hP hph hbal hroom 7064 (by decide)

/-- **tapdance_double_press_strands_key** (why `hph` is needed; any state of this shape).  A lazy
tap-dance key is undecided and — physically impossible — is pressed again without having been
released, then released once: `downs` counts no key as down, but the queue `[press, release]` is not
possible for a key that is logically down.  The tick that counts the second tap (the list's second
action a plain key `kc`) evicts one press and one release of the key — the whole queue — and presses
`kc` at the key's coordinate: the layout is quiet, nothing is left that would release `kc`, and it is
held for ever. -/
theorem tapdance_double_press_strands_key (s : Layout) (w : Waiting) (acts : List Action) (T k : Nat)
    (kc : KeyCode) (n1 n2 : Nat) (hw : s.waiting = some w) (hc : w.config = .tapDance acts T k)
    (hq : s.queue = [⟨.press w.coord, n1⟩, ⟨.release w.coord, n2⟩])
    (hd : C17.decidesOn (C17.cd w) acts.length k s.queue = some 2) (hp : tdPick acts 2 = some (.keyCode kc))
    (hst : s.states = []) (hex : s.extraWaiting = []) (hk : s.oneshot.keys = [])
    (hdl : s.oneshot.pauseInputProcessingDelay = 0) (hsq : s.activeSequences = []) (hte : s.tapDanceEager = none)
    (haq : s.actionQueue = []) :
    ∃ s', tickMain s = .ok (s', .noEvent) ∧ s'.queue = [] ∧ s'.waiting = none ∧
      s'.states = [.normalKey kc w.coord 0] ∧
      ∀ N, ∃ s2, C06.run s' [] (List.replicate N .tick) = some (.ok (s2, [])) ∧ s2.keycodes = [kc] := by
  obtain ⟨s', e, st, q⟩ := Quiesce.double_press_tick s w acts T k kc n1 n2 hw hc hq hd hp hst hex hk hdl hsq hte haq
  refine ⟨s', e, q.queue, q.waiting, st, fun N => ?_⟩
  obtain ⟨s2, r, st2⟩ := Quiesce.quiet_forever N s' q
  exact ⟨s2, r, by unfold Layout.keycodes; rw [st2, st]; rfl⟩

/-- `(tap-dance 5 (a b))` on key `a` -/
def dblCfg : LCfg :=
  { layers := [[((0, 30), .tapDance [.keyCode 30, .keyCode 31] 5 false)]], srcKeys := [(30, .keyCode 30)] }

/-- the waiting state its press creates (taken from the queue one tick after it arrived) -/
def dblW : Waiting := Quiesce.freshWaiting (0, 30) 1 5 (.tapDance [.keyCode 30, .keyCode 31] 5 1) []

/-- ... then a second press and one release arrive -/
def dblState : Layout :=
  { cfg := dblCfg, waiting := some dblW, queue := [⟨.press (0, 30), 0⟩, ⟨.release (0, 30), 0⟩] }

/-- the history press, tick, press, release leaves no key down by `downs`, but is not physically possible -/
example : Quiesce.downs [] [.ev (.press (0, 30)), .tick, .ev (.press (0, 30)), .ev (.release (0, 30))] = [] ∧
    Quiesce.physical [] [.ev (.press (0, 30)), .tick, .ev (.press (0, 30)), .ev (.release (0, 30))] = false := by
  decide

/-- its first tick creates `dblW` -/
example : ∃ s, tick ({ cfg := dblCfg, queue := [⟨.press (0, 30), 0⟩] } : Layout) = .ok (s, .noEvent) ∧
    s.waiting = some dblW ∧ s.queue = [] ∧ s.states = [] := ⟨_, rfl, rfl, rfl, rfl⟩

/-- `dblState` meets the hypotheses of `tapdance_double_press_strands_key`: key `b` (31) stays down -/
example : ∃ s', tickMain dblState = .ok (s', .noEvent) ∧ s'.queue = [] ∧ s'.waiting = none ∧
    s'.states = [.normalKey 31 (0, 30) 0] ∧
    ∀ N, ∃ s2, C06.run s' [] (List.replicate N .tick) = some (.ok (s2, [])) ∧ s2.keycodes = [31] :=
  tapdance_double_press_strands_key dblState dblW _ 5 1 31 0 0 rfl rfl rfl (by decide) rfl rfl rfl rfl rfl rfl rfl rfl

/-! ### Quiescence on the chords-v1 fragment (C09) -/

/-- **quiesce_chords_v1** (full on the fragment).
Configurations of the fragment `CfgC`: plain keys, output chords, layer-while-held, transparent and
unmapped positions, and `defchords` keys (`Action::Chords`) — any number of groups, any key masks and
chord tables, every timeout `≤ T` (`Quiesce.maxChordTimeout cfg` is such a `T`) — whose chord actions
are a key, an output chord or layer-while-held; rapid-event delay `d`.  From any state the layout can
reach with no key physically down (`Quiesce.CInv T d s0 []`, `Quiesce.SafeC s0`: both hold of the
fresh layout and are kept by every history), after EVERY history of presses, releases and ticks —
chords that fire early, on a stop event or at the timeout, chords moved to the coordinate of a released
key, held while any participant is held, key sets for which no chord is defined and which are
decomposed into the action queue (more runs than its 8 slots included), participants released in any
order — that leaves no key physically down (an event never arrives while 32 are pending),
`N ≥ (T + d + 10) · (events still queued) + T + d + 9` ticks without input run without a crash and
leave the layout at rest: no key or layer state, nothing queued, no chord pending, no decomposed action
outstanding, no input pause; for this and every larger `N`.  By `at_rest_released_and_idle` kanata
then releases everything at the OS and reports idle.
The bound follows the code: while a chord is pending nothing is taken from the queue; it is decided no
later than when its countdown (`≤ T`) has run out; a chord that fires pauses input for `d` ticks; a
decomposition queues at most 8 actions, performed one per tick while nothing else advances; each queued
press may start a further chord.
Hypotheses: `h0` the invariant (every state, the pending chord's first key and every queued
decomposed action belong to a key that is down or whose release is queued — the chord `retain` removes
presses only, never a release; countdown `≤ T`, pause `≤ d`, at most 8 queued actions); `hS`/`hP`
exclude the index panics of `resolve_coord` (layer references in range, defsrc row of keys, presses
inside the layer tables).  No condition on the order of presses and releases is needed here. -/
theorem quiesce_chords_v1 (s0 : Layout) (T d : Nat) (h0 : Quiesce.CInv T d s0 []) (hS : Quiesce.SafeC s0)
    (ins : List C06.In) (hP : Quiesce.PressesOK s0.cfg ins) (s1 : Layout)
    (hrun : C06.run s0 [] ins = some (.ok (s1, [])))
    (N : Nat) (hN : (T + d + 10) * s1.queue.length + T + d + 9 ≤ N) :
    ∃ s2, C06.run s1 [] (List.replicate N .tick) = some (.ok (s2, [])) ∧ Quiesce.LayoutAtRest s2 := by
  have st := Quiesce.stepInv_C T d s0.cfg
  have i1 := st.of_run ⟨h0, hS, rfl⟩ (hP.admitted []) hrun
  obtain ⟨s2, hq, i2, hz⟩ := st.quiesce (Quiesce.cPot T d) Quiesce.cPot_tick ⟨h0, hS, rfl⟩ (hP.admitted []) hrun
    (Nat.le_trans (Quiesce.cPot_le i1.1) hN)
  exact ⟨s2, hq, i2.1.atRest hz⟩

/-- **quiesce_chords_v1_fresh**: the same from start-up, every hypothesis a decidable condition on the
configuration or on the list of inputs, the bound a function of the configuration alone: after every
history from the freshly created layout in which every pressed key is released again and no event
arrives while 32 are pending, `N ≥ 32 (T + d + 10) + T + d + 9` further ticks, `T` the largest chord
timeout, leave the layout at rest. -/
theorem quiesce_chords_v1_fresh (cfg : LCfg) (hc : Quiesce.CfgC cfg) (hs : Quiesce.CfgSafeC cfg) (tv2 dfl qth : Bool)
    (d : Nat) (ins : List C06.In) (hP : Quiesce.PressesOK cfg ins) (hbal : Quiesce.downs [] ins = [])
    (hroom : C06.run { cfg := cfg, transV2 := tv2, delegateToFirstLayer := dfl, quickTapHoldTimeout := qth,
                       oneshot := { pauseInputProcessingDelay := d } } [] ins ≠ none)
    (N : Nat) (hN : (Quiesce.maxChordTimeout cfg + d + 10) * QUEUE_SIZE + Quiesce.maxChordTimeout cfg + d + 9 ≤ N) :
    ∃ s1 s2, C06.run { cfg := cfg, transV2 := tv2, delegateToFirstLayer := dfl, quickTapHoldTimeout := qth,
                       oneshot := { pauseInputProcessingDelay := d } } [] ins = some (.ok (s1, [])) ∧
      C06.run s1 [] (List.replicate N .tick) = some (.ok (s2, [])) ∧ Quiesce.LayoutAtRest s2 := by
  obtain ⟨s1, s2, hr, hq, i2, hz⟩ := (Quiesce.stepInv_C _ d cfg).quiesce_balanced (Quiesce.cPot _ d) Quiesce.cPot_tick
    ⟨Quiesce.init_cinv cfg hc _ (Quiesce.cBound_max cfg) tv2 dfl qth d, Quiesce.init_safe_C cfg hs tv2 dfl qth d, rfl⟩
    (hP.admitted []) hbal hroom fun _ i => Nat.le_trans (Quiesce.cPot_le_cap i.1) hN
  exact ⟨s1, s2, hr, hq, i2.1.atRest hz⟩

/-- the chord group of the example: keys `a b c` (masks 1 2 4); chords `(a) (b)` single keys, `(a b)` a
key, `(a b c)` an output chord, `(c)` a layer; 50 ticks -/
def chAct : Action :=
  .chords [((0, 30), 1), ((0, 48), 2), ((0, 46), 4)]
    [(1, .keyCode 30), (2, .keyCode 48), (3, .keyCode 45), (7, .multipleKeyCodes [29, 44]), (4, .layer 1)] 50

/-- non-vacuity: three keys of one chord group, a plain key that the upper layer remaps, an output chord -/
def chCfg : LCfg :=
  { layers := [
      [((0, 30), chAct), ((0, 48), chAct), ((0, 46), chAct), ((0, 32), .keyCode 32),
       ((0, 18), .multipleKeyCodes [29, 18])],
      [((0, 32), .keyCode 45)]],
    srcKeys := [(30, .keyCode 30), (48, .keyCode 48), (46, .keyCode 46), (32, .keyCode 32), (18, .keyCode 18)] }

/-- the chord `(a b)` pressed over two ticks and released; `c` interrupted by a plain key; then `b c` —
no chord is defined for that set: decomposition — and everything released in a burst -/
def chHist : List C06.In :=
  [.ev (.press (0, 30)), .tick, .ev (.press (0, 48)), .tick, .ev (.release (0, 30)), .ev (.release (0, 48)), .tick,
   .ev (.press (0, 46)), .ev (.press (0, 32)), .ev (.release (0, 46)), .ev (.release (0, 32)), .tick,
   .ev (.press (0, 48)), .ev (.press (0, 46)), .ev (.press (0, 18)), .ev (.release (0, 48)), .ev (.release (0, 18)),
   .ev (.release (0, 46))]

theorem chCfg_frag : Quiesce.CfgC chCfg := by
  have hch : Quiesce.FragC chAct := by
    intro e he
    simp only [List.mem_cons, List.mem_nil_iff, or_false] at he
    rcases he with rfl | rfl | rfl | rfl | rfl <;> trivial
  refine ⟨?_, ?_⟩
  · intro tbl ht e he
    simp only [chCfg, List.mem_cons, List.mem_nil_iff, or_false] at ht
    rcases ht with rfl | rfl
    · simp only [List.mem_cons, List.mem_nil_iff, or_false] at he
      rcases he with rfl | rfl | rfl | rfl | rfl <;> first | exact hch | trivial
    · simp only [List.mem_cons, List.mem_nil_iff, or_false] at he
      subst he; trivial
  · intro e he
    simp only [chCfg, List.mem_cons, List.mem_nil_iff, or_false] at he
    rcases he with rfl | rfl | rfl | rfl | rfl <;> trivial

theorem chCfg_safe : Quiesce.CfgSafeC chCfg := by
  have hch : Quiesce.ActSafeC 2 chAct := by
    intro e he
    simp only [List.mem_cons, List.mem_nil_iff, or_false] at he
    rcases he with rfl | rfl | rfl | rfl | rfl <;> intro v hv <;> cases hv
    decide
  refine ⟨rfl, by decide, ?_, ?_⟩
  · intro tbl ht e he
    simp only [chCfg, List.mem_cons, List.mem_nil_iff, or_false] at ht
    rcases ht with rfl | rfl
    · simp only [List.mem_cons, List.mem_nil_iff, or_false] at he
      rcases he with rfl | rfl | rfl | rfl | rfl <;> first | exact hch | trivial
    · simp only [List.mem_cons, List.mem_nil_iff, or_false] at he
      subst he; trivial
  · intro e he
    simp only [chCfg, List.mem_cons, List.mem_nil_iff, or_false] at he
    rcases he with rfl | rfl | rfl | rfl | rfl <;> exact ⟨trivial, fun h => by cases h⟩

/-- the hypotheses of `quiesce_chords_v1_fresh` hold of this configuration and history (fourteen
events: `run_defined_C`), with rapid-event delay 5: 32 · (50 + 5 + 10) + 50 + 5 + 9 = 2144 quiet ticks
leave the layout at rest -/
example : ∃ s1 s2, C06.run { cfg := chCfg, oneshot := { pauseInputProcessingDelay := 5 } } [] chHist
      = some (.ok (s1, [])) ∧
    C06.run s1 [] (List.replicate 2144 .tick) = some (.ok (s2, [])) ∧ Quiesce.LayoutAtRest s2 := by
  have hP : Quiesce.PressesOK chCfg chHist := by
    intro c hc
    simp only [chHist, List.mem_cons, List.mem_nil_iff, or_false, C06.In.ev.injEq, Ev.press.injEq,
      reduceCtorEq, false_or, or_false] at hc
    rcases hc with rfl | rfl | rfl | rfl | rfl | rfl | rfl <;> exact ⟨by decide, by decide⟩
  have hbal : Quiesce.downs [] chHist = [] := by decide
  have hroom : C06.run { cfg := chCfg, oneshot := { pauseInputProcessingDelay := 5 } } [] chHist ≠ none :=
    Quiesce.run_defined_C chHist _ []
      (Quiesce.init_cinv chCfg chCfg_frag _ (Quiesce.cBound_max _) true false false 5)
      (Quiesce.init_safe_C chCfg chCfg_safe true false false 5) hP (by decide)
  exact quiesce_chords_v1_fresh chCfg chCfg_frag chCfg_safe true false false 5 chHist hP hbal hroom 2144 (by decide)

/-! ### Two tap-hold keys: `extra_waiting` is not involved -/

/-- **taphold_keys_never_use_extra_waiting** (full on the tap-hold fragment `CfgH` of
`quiesce_taphold`: any number of tap-hold keys of every variant, with plain keys).  After EVERY history
from the freshly created layout — tap-hold keys pressed together, one pressed while another is
undecided, in any order and timing — `extra_waiting` is empty and the eager tap-dance state unset: while
a tap-hold key is undecided `tick` takes nothing from the queue, so the press of a second tap-hold key
is not performed (and its waiting state not created) before the first key has been decided. -/
theorem taphold_keys_never_use_extra_waiting (cfg : LCfg) (hc : Quiesce.CfgH cfg) (tv2 dfl qth : Bool) (d : Nat)
    (ins : List C06.In) (s1 : Layout) (dn : List Coord)
    (hrun : C06.run { cfg := cfg, transV2 := tv2, delegateToFirstLayer := dfl, quickTapHoldTimeout := qth,
                      oneshot := { pauseInputProcessingDelay := d } } [] ins = some (.ok (s1, dn))) :
    s1.extraWaiting = [] ∧ s1.tapDanceEager = none ∧ s1.actionQueue = [] := by
  have h0 := Quiesce.init_hinv cfg hc _ _ (Quiesce.hBound_max cfg) tv2 dfl qth d
  have i1 := Quiesce.run_hinv ins _ [] h0 s1 dn hrun
  exact ⟨i1.extra, i1.tde, i1.aq⟩

/-- **quiesce_two_tapholds** (full on the fragment).  Configurations with two — or any number of —
tap-hold keys (`CfgH`, hypotheses and bound of `quiesce_taphold_fresh`): after every history from
start-up in which every pressed key is released again and no event arrives while 32 are pending,
`extra_waiting` has been empty after every prefix of the history (the second tap-hold key waits in the
queue, not in `extra_waiting`), and `N ≥ 32 (T + d + I + 2) + T + 2 d + I + 1` quiet ticks leave the
layout at rest. -/
theorem quiesce_two_tapholds (cfg : LCfg) (hc : Quiesce.CfgH cfg) (hs : Quiesce.CfgSafeH cfg) (tv2 dfl qth : Bool)
    (d : Nat) (ins : List C06.In) (hP : Quiesce.PressesOK cfg ins) (hbal : Quiesce.downs [] ins = [])
    (hroom : C06.run { cfg := cfg, transV2 := tv2, delegateToFirstLayer := dfl, quickTapHoldTimeout := qth,
                       oneshot := { pauseInputProcessingDelay := d } } [] ins ≠ none)
    (N : Nat) (hN : (Quiesce.maxHoldTimeout cfg + d + Quiesce.maxTapInterval cfg + 2) * QUEUE_SIZE +
      Quiesce.maxHoldTimeout cfg + 2 * d + Quiesce.maxTapInterval cfg + 1 ≤ N) :
    (∀ k sk dk, C06.run { cfg := cfg, transV2 := tv2, delegateToFirstLayer := dfl, quickTapHoldTimeout := qth,
                          oneshot := { pauseInputProcessingDelay := d } } [] (ins.take k) = some (.ok (sk, dk)) →
      sk.extraWaiting = []) ∧
    ∃ s1 s2, C06.run { cfg := cfg, transV2 := tv2, delegateToFirstLayer := dfl, quickTapHoldTimeout := qth,
                       oneshot := { pauseInputProcessingDelay := d } } [] ins = some (.ok (s1, [])) ∧
      C06.run s1 [] (List.replicate N .tick) = some (.ok (s2, [])) ∧ Quiesce.LayoutAtRest s2 :=
  ⟨fun k sk dk hr => (taphold_keys_never_use_extra_waiting cfg hc tv2 dfl qth d (ins.take k) sk dk hr).1,
   quiesce_taphold_fresh cfg hc hs tv2 dfl qth d ins hP hbal hroom N hN⟩

/-- two tap-hold keys of `thCfg` overlapping: the mod-tap key (default variant, 150 ticks) is pressed and
still undecided when the layer-tap key is pressed and released; then the first is released -/
def twoThHist : List C06.In :=
  [.ev (.press (0, 31)), .tick, .tick, .ev (.press (0, 30)), .tick, .ev (.release (0, 30)), .tick,
   .ev (.release (0, 31))]

/-- it meets the hypotheses of `quiesce_two_tapholds` (rapid-event delay 5; 10135 quiet ticks as for
`quiesce_taphold_fresh`) -/
example : (∀ k sk dk, C06.run { cfg := thCfg, oneshot := { pauseInputProcessingDelay := 5 } } [] (twoThHist.take k)
      = some (.ok (sk, dk)) → sk.extraWaiting = []) ∧
    ∃ s1 s2, C06.run { cfg := thCfg, oneshot := { pauseInputProcessingDelay := 5 } } [] twoThHist
      = some (.ok (s1, [])) ∧
    C06.run s1 [] (List.replicate 10135 .tick) = some (.ok (s2, [])) ∧ Quiesce.LayoutAtRest s2 := by
  have hP : Quiesce.PressesOK thCfg twoThHist := by
    intro c hc
    simp only [twoThHist, List.mem_cons, List.mem_nil_iff, or_false, C06.In.ev.injEq, Ev.press.injEq,
      reduceCtorEq, false_or, or_false] at hc
    rcases hc with rfl | rfl <;> exact ⟨by decide, by decide⟩
  have hbal : Quiesce.downs [] twoThHist = [] := by decide
  have hroom : C06.run { cfg := thCfg, oneshot := { pauseInputProcessingDelay := 5 } } [] twoThHist ≠ none := by
    obtain ⟨s', hr, _⟩ := Quiesce.run_defined_H twoThHist _ []
      (Quiesce.init_hinv thCfg thCfg_frag _ _ (Quiesce.hBound_max _) true false false 5)
      (Quiesce.init_safe_H thCfg thCfg_safe true false false 5) hP (by decide)
    rw [hr]; exact fun h => by cases h
  exact quiesce_two_tapholds thCfg thCfg_frag thCfg_safe true false false 5 twoThHist hP hbal hroom 10135 (by decide)

end KVerif.C01
