/-
C14 — OS key-repeat is forwarded for, and only for, keys kanata is holding down.
-/
import KVerif.Lemmas.KeyoutBase
namespace KVerif.C14
open KVerif.L KVerif.K KVerif.KO

/-! ### The key-output table covers every key-producing action form -/

theorem addL_complete (customs : List (List CAct)) (slot : Nat) : (acs : List Action) → (outs : List Nat) → (x : Nat) →
      x ∈ possibleOutputsL customs slot acs → x ∈ addOutputsL customs slot acs outs := by
  intro acs outs x h; rw [addOutputsL_eq_foldl]; exact mem_foldl_addKc.mpr (Or.inr h)

theorem addC_complete (customs : List (List CAct)) (slot : Nat) : (chs : List (Nat × Action)) → (outs : List Nat) → (x : Nat) →
      x ∈ possibleOutputsC customs slot chs → x ∈ addOutputsC customs slot chs outs := by
  intro chs outs x h; rw [addOutputsC_eq_foldl]; exact mem_foldl_addKc.mpr (Or.inr h)

theorem addS_complete (customs : List (List CAct)) (slot : Nat) : (cs : List (List Nat × Action × Bool)) → (outs : List Nat) → (x : Nat) →
      x ∈ possibleOutputsS customs slot cs → x ∈ addOutputsS customs slot cs outs := by
  intro cs outs x h; rw [addOutputsS_eq_foldl]; exact mem_foldl_addKc.mpr (Or.inr h)

/-- **keyouts_complete** (full): for every action — any nesting of plain key, output chord, multi,
tap-hold, tap-dance, one-shot, fork, switch, chord group, unmod/unshift, use-defsrc — every key code
of a key-producing leaf is in the key-output table entry built for the physical key. (This is the
"every variant has an arm" obligation of `add_key_output_from_action_to_key_pos`.) -/
theorem keyouts_complete (customs : List (List CAct)) (slot : Nat) (a : Action) (x : Nat)
    (h : x ∈ possibleOutputs customs slot a) : x ∈ keyOutputs customs slot a :=
  mem_addOutputs.mpr (Or.inr h)

/-! ### ... and with global overrides in the configuration -/

/-- **keyouts_complete_with_overrides** (full): with a `defoverrides` table the entry of a physical key
holds every key code of a key-producing leaf of its action AND the output key of every override
whose input key is such a key code - whatever the physical key is called (the table is what the
repeat logic consults, so a missing entry means a dropped repeat). -/
theorem keyouts_complete_with_overrides (t : Override.Overrides) (customs : List (List CAct)) (slot : Nat)
    (a : Action) (x : Nat) (h : x ∈ possibleOutputs customs slot a) :
    x ∈ withOverrides t (keyOutputs customs slot a) ∧
    ∀ o ∈ overrideOuts t x, o ∈ withOverrides t (keyOutputs customs slot a) :=
  withOverrides_closed (keyouts_complete customs slot a x h)

example : withOverrides (Override.Overrides.new [{ inKey := 45, outKey := 21, inMods := [42], outMods := [] }])
    (keyOutputs [] 30 (.keyCode 45)) = [45, 21] := by decide

/-! ### What a repeat event is forwarded as -/

theorem writeRepeat_out (k : KState) (kc : Nat) :
    (writeRepeat k kc).out = k.out ∨ (writeRepeat k kc).out = k.out ++ [.down kc] := by
  unfold writeRepeat; split
  · exact Or.inl rfl
  · exact Or.inr rfl

/-- **repeat_at_most_one** (full): a repeat event makes kanata emit nothing or exactly one event,
a key-down (repeat) of the chosen key. -/
theorem repeat_at_most_one (k k' : KState) (code : Nat) (h : handleRepeat k code = .ok k') :
    k'.out = k.out ∨ ∃ kc, k'.out = k.out ++ [.down kc] := by
  unfold handleRepeat at h
  by_cases hseq : (k.seq.st.active && k.seq.st.mode != .visibleBackspaced) = true
  · -- [seq] hidden sequence mode: the repeat is dropped
    rw [if_pos hseq] at h; cases h; exact Or.inl rfl
  rw [if_neg hseq] at h
  split at h
  · cases h
  dsimp only at h
  split at h
  · cases h
  cases h
  dsimp only
  split
  · next kc _ => exact (writeRepeat_out _ kc).imp_right fun h1 => ⟨kc, h1⟩
  · exact Or.inl rfl

theorem mem_repeatOrder (outs : List Nat) (x : Nat) : x ∈ repeatOrder outs ↔ x ∈ outs := by
  unfold repeatOrder
  cases hm : Override.isMod x <;> simp [hm]

theorem repeatCandidate_active (k : KState) (cur : List KeyCode) (outs : List Nat) (kc : Nat)
    (h : repeatCandidate k cur outs = some kc) : isActive k cur kc = true ∧ kc ∈ outs :=
  ⟨List.find?_some h, (mem_repeatOrder outs kc).mp (List.mem_of_find?_eq_some h)⟩

/-- the scan of `handle_repeat_actual`: non-modifiers, last-listed first, then modifiers -/
theorem repeatCandidate_eq (k : KState) (cur : List KeyCode) (outs : List Nat) :
    repeatCandidate k cur outs =
      ((outs.reverse.filter fun kc => !Override.isMod kc).find? (isActive k cur)).or
        ((outs.reverse.filter Override.isMod).find? (isActive k cur)) :=
  List.find?_append

theorem scanLayers_active (k : KState) (cur : List KeyCode) (code : Nat) : ∀ (order : List Nat) (kc : Nat),
    scanLayers k cur code order = some kc → isActive k cur kc = true := by
  intro order
  induction order with
  | nil => intro kc h; cases h
  | cons l rest ih =>
    intro kc h
    simp only [scanLayers] at h
    split at h
    · split at h
      · next hc => cases h; exact (repeatCandidate_active k cur _ _ hc).1
      · exact ih kc h
    · exact ih kc h

/-- **repeat_only_active** (full): the key a repeat is forwarded as is in the list of keys kanata
wants down — the layout's key codes after overrides — or in the unmod/unshift key lists. -/
theorem repeat_only_active (k : KState) (cur : List KeyCode) (order : List Nat) (code kc : Nat)
    (h : repeatTarget k cur order code = some kc) : isActive k cur kc = true := by
  unfold repeatTarget at h
  split at h
  · next hs => cases h; exact scanLayers_active k cur code order _ hs
  · split at h
    · next hd =>
      cases h
      split at hd
      · exact (repeatCandidate_active k cur _ _ hd).1
      · cases hd
    · split at h
      · next ha => cases h; exact ha
      · cases h

/-- the state in which `(tap-hold 200 200 a S-a)` has resolved to its hold action: `lsft` and `a` are
down -/
def relistWitness : KState :=
  { layout := { cfg := { layers := [[]], srcKeys := [] },
                states := [.normalKey 42 (0, 30) 0, .normalKey 30 (0, 30) 0] },
    customs := [], keyOutputs := [[(30, [30, 42])]],
    mods := { codes := [42, 54, 56, 100, 29, 97, 125, 126], lsft := 42, rsft := 54 },
    prevKeys := [42, 30] }

/-- **repeat_prefers_last_listed** (full, after fix PENDING-1): among the outputs listed for the key,
the last-listed non-modifier key that is active is chosen - whatever modifiers are listed, before or
after it (so `S-b` repeats `b`, not shift, also when `b` alone was listed earlier, as in
`(tap-hold 200 200 b S-b)` whose entry is `[b, lsft]`). -/
theorem repeat_prefers_last_listed (k : KState) (cur : List KeyCode) (pre : List Nat) (x : Nat) (post : List Nat)
    (hxm : Override.isMod x = false) (hx : isActive k cur x = true)
    (hpost : ∀ y ∈ post, Override.isMod y = false → isActive k cur y = false) :
    repeatCandidate k cur (pre ++ x :: post) = some x := by
  have hnone : (post.reverse.filter fun kc => !Override.isMod kc).find? (isActive k cur) = none :=
    List.find?_eq_none.mpr fun y hy => by
      obtain ⟨hy1, hy2⟩ := List.mem_filter.mp hy
      simp [hpost y (List.mem_reverse.mp hy1) (by simpa using hy2)]
  simp only [repeatCandidate_eq, List.reverse_append, List.reverse_cons, List.filter_append, List.find?_append,
    hnone, Option.none_or, List.filter_cons, hxm, Bool.not_false, if_true, List.filter_nil, List.find?_cons, hx,
    Option.some_or]

/-- **repeat_modifier_only_without_key** (full): a repeat is forwarded as a repeat of a modifier only when
none of the non-modifier outputs listed for the key is active ("preferring the last-listed key of a
chord over its modifiers", for every way the entry came about). -/
theorem repeat_modifier_only_without_key (k : KState) (cur : List KeyCode) (outs : List Nat) (m : Nat)
    (h : repeatCandidate k cur outs = some m) (hm : Override.isMod m = true) :
    ∀ y ∈ outs, Override.isMod y = false → isActive k cur y = false := by
  intro y hy hym
  rw [repeatCandidate_eq] at h
  cases hA : (outs.reverse.filter fun kc => !Override.isMod kc).find? (isActive k cur) with
  | some a =>
    -- a non-modifier was found: it is the result, but the result is a modifier
    rw [hA, Option.some_or, Option.some.injEq] at h
    have := (List.mem_filter.mp (List.mem_of_find?_eq_some hA)).2
    rw [h, hm] at this; cases this
  | none =>
    have := List.find?_eq_none.mp hA y (List.mem_filter.mpr ⟨List.mem_reverse.mpr hy, by rw [hym]; rfl⟩)
    simpa using this

example : repeatCandidate relistWitness [42, 30] [30, 42] = some 30 := by decide

/-- **relisted_key_behind_modifier_counterexample** (the scan before fix PENDING-1, plain reverse order):
the entry of `(tap-hold 200 200 a S-a)` is `[a, lsft]` - an output is listed once, at its first
listing - so with `S-a` held the reverse scan found `lsft` first and the OS repeat was forwarded as a
repeat of shift. Reproduced on the real code (corpus/C14.txt). -/
theorem relisted_key_behind_modifier_counterexample :
    keyOutputs [] 30 (.holdTap 200 (.multipleKeyCodes [42, 30]) (.keyCode 30) (.multipleKeyCodes [42, 30]) .default 200) = [30, 42] ∧
    repeatCandidatePinned relistWitness [42, 30] [30, 42] = some 42 ∧
    repeatCandidate relistWitness [42, 30] [30, 42] = some 30 := by
  refine ⟨by decide, by decide, by decide⟩

/-- **repeat_completeness** (full): if the held physical key has an entry on the first layer of the
order that has one, and any of those outputs is active, a repeat is forwarded (for one of them). -/
theorem repeat_completeness (k : KState) (cur : List KeyCode) (code l : Nat) (rest : List Nat) (outs : List Nat)
    (ho : outputsFor k l code = some outs) (x : Nat) (hx : x ∈ outs) (ha : isActive k cur x = true) :
    ∃ kc, repeatTarget k cur (l :: rest) code = some kc ∧ kc ∈ outs := by
  obtain ⟨kc, hkc⟩ : ∃ kc, repeatCandidate k cur outs = some kc :=
    Option.isSome_iff_exists.mp (List.find?_isSome.mpr ⟨x, (mem_repeatOrder outs x).mpr hx, ha⟩)
  exact ⟨kc, by simp only [repeatTarget, scanLayers, ho, hkc], (repeatCandidate_active k cur outs kc hkc).2⟩

/-- **repeat_only_down_partial** (partial: needs "no unmod / unshift key active"; the full statement
"never for a key that is up" is false otherwise, see `repeat_for_suppressed_modifier_counterexample`):
with the unmod and unshift lists empty, the forwarded key is in the post-override key list. -/
theorem repeat_only_down_partial (k : KState) (cur : List KeyCode) (order : List Nat) (code kc : Nat)
    (hu : k.unmoddedKeys = []) (hs : k.unshiftedKeys = [])
    (h : repeatTarget k cur order code = some kc) : kc ∈ cur := by
  have := repeat_only_active k cur order code kc h
  simpa [isActive, hu, hs] using this

/-! ### The only-down clause is false when a modifier is suppressed by `unmod` -/

/-- physical `lsft` held (its key code is in the layout), `(unmod a)` active: the OS sees `a` only -/
def unmodWitness : KState :=
  { layout := { cfg := { layers := [[]], srcKeys := [] },
                states := [.normalKey 42 (0, 42) 0, .custom 0 (0, 30)] },
    customs := [[.unmodded [30] 1]], keyOutputs := [[(42, [42]), (30, [30])]],
    mods := { codes := [42, 54, 56, 100, 29, 97, 125, 126], lsft := 42, rsft := 54 },
    unmoddedKeys := [30], unmoddedMods := 1, prevKeys := [30] }

/-- **repeat_for_suppressed_modifier_counterexample**: the key list sent to the OS is `[a]` (shift is
removed by `unmod`), yet an OS repeat event for the physical shift key is forwarded as a repeat of
`LShift`, which is up at the OS. Reproduced on the real code; recorded as a known finding. -/
theorem repeat_for_suppressed_modifier_counterexample :
    adjustKeys unmodWitness unmodWitness.layout.keycodes = [30] ∧
    repeatTarget unmodWitness unmodWitness.layout.keycodes [0] 42 = some 42 := by
  constructor <;> rfl

end KVerif.C14
