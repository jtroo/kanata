/-
C19 in the composed kanata-level model (Model/Kanata.lean + Model/KanataDyn.lean +
Model/KanataDynTick.lean): the last clause of C19, "so it produces the same output as typing them
again", lifted from the stand-alone glue model of Props/C19.lean to the model of `Kanata` that the
KAN correspondence check compares tick by tick with the real code.

Proved here
* `replay_feeds_layout_what_was_typed_kan`: record, type any history below the limit, stop with any
  truncation; with no replay running let the play action fire and let `tick_ms(1)` run long enough:
  the sequence of `layout.event` calls made by the replay is exactly the press/release projection of
  what was typed (minus the stop key and the truncated events) followed by one release per key left
  down; nothing is dropped by the `extra_ticks` loop.  Partial in one respect, named in the
  statement: the replay phase runs inside a *frame* (`K.DynFrame`: a set of kanata states closed
  under `tick_states` in which `tick_states` leaves the dynamic-macro state alone); the states with
  the other kanata-level components at rest and ANY layout are a frame (`K.dynFrame_rest`).  The
  recording phase is the unit functions `beginRecord` / `recordAll` / `stopMacro`, which the hooks
  `K.Dyn.recordPress` / `recordRelease` / `tickRecord` / `doAct` call literally.  The replay phase
  is `DynMacro.replay_feeds_same_events` of Props/C19.lean, carried over by `K.tickMs_sim`: in a frame
  the replay side of the composed model's `tick_ms` is the glue model's `tick_ms`.
* `replay_ends_released_kan`: when such a replay is over, every press it handed to the layout was
  followed by a release of the same key.
* `idle_implies_no_replay`, `replay_never_blocks`: `is_idle` is false, and the processing loop never
  blocks, while a replay is in progress; `recording_not_covered_by_idle`: `is_idle` does not look at the
  record state although a tick advances the recording's delay counter; `recording_never_blocks`:
  `can_block_update_idle_waiting` (after fix ccfb98e) therefore refuses to block while recording.
NOT proved: `replay_same_os_output_kan` - that on the layered fragment (`C04.CfgFrag`) the OS key
events produced during the replay equal those produced by typing the history again.
Props/C19out.lean has the stages that exist (the exact key diff of one `tick_states`, the OS events
of a run as a function of the layout's key lists) and names the two links that are missing.  The
same-output clause stays checked differentially (C19 K cases, and every KAN case of the composed
model: OS events per tick).
-/
import KVerif.Lemmas.KanataDynReplay
import KVerif.Props.C19
namespace KVerif.C19kan
open KVerif KVerif.K KVerif.L KVerif.DynMacro

/-- the replay phase, for any stored macro: with no replay running, the play action fires
(`Dyn.doAct (.play id)`, the `CustomAction::DynamicMacroPlay` arm), then `n` calls of `tick_ms(1)`
with `n` at least the countdown measure `mu` of the macro: the replay is over, the events handed to
`layout.event` are exactly the macro's key events in order, and the `extra_ticks` loop dropped none. -/
theorem replay_feeds_stored_macro_kan {S : KState → Prop} (hS : DynFrame S) (k k' : KState) (id : Nat)
    (items : List Item) (d1 : Dyn) (n : Nat) (hk : S k)
    (hidle : k.dyn.rep = none) (hst : k.dyn.store.get id = some items)
    (hplay : k.dyn.doAct (.play id) = .ok d1)
    (hrun : ticksMs n { k with dyn := d1 } = .ok k')
    (hn : mu k.dyn.beh (some ⟨[id], 0, items⟩) ≤ n) :
    k'.dyn.rep = none ∧ k'.dyn.fed = k.dyn.fed ++ evsQ items ∧ k'.dyn.lost = k.dyn.lost ∧
      k'.dyn.store = k.dyn.store := by
  have hd1 : d1 = { k.dyn with rep := some ⟨[id], 0, items⟩ } := by
    simp only [Dyn.doAct, playMacro, hidle, hst] at hplay
    cases hplay; rfl
  subst hd1
  -- the glue model over `unitI` from the same replay state makes the same run
  obtain ⟨a', ha', _, hs'⟩ := ticksMs_sim hS (d0 := k.dyn)
    (a := { lay := (), rep := some ⟨[id], 0, items⟩, fed := k.dyn.fed, lost := k.dyn.lost })
    hrun (hS.put k k.layout _ hk rfl) (Eq.refl _)
  obtain ⟨_, h2, h3⟩ := DynMacro.replay_feeds_same_events unitI _ noPlay_unit _ _ a'
    (msOK_ticks _ _ fun ms h => .inr (by rw [List.eq_of_mem_replicate h]; decide)) ha'
  obtain ⟨h4, h5⟩ := h3 (by rw [totalMs_ticks, List.sum_replicate_nat, Nat.mul_one]; exact hn)
  rw [show k'.dyn = _ from hs']
  exact ⟨h4, h5, h2, rfl⟩

/-- **replay_feeds_layout_what_was_typed_kan** (partial only in that the replay phase runs inside a
frame, see the file header; `K.dynFrame_rest` is one).  Start a recording of macro `id`, let any
history `evs` of presses, releases and ticks go by (below the limit), stop with truncation `t` - the
store of the composed state `k` is what these calls leave (`hrec`).  With no replay running, play
`id` and let `tick_ms(1)` run `n >= mu` times.  Then the `layout.event` calls made by the replay are,
in order: the key events typed, without the last one (the stop key) and without `t` more
(`evsQ (specBody t evs)`), then one release for each key these leave down (`tail`, a permutation of
`leftDown`); the replay is over and nothing was dropped. -/
theorem replay_feeds_layout_what_was_typed_kan {S : KState → Prop} (hS : DynFrame S) (k k' : KState)
    (fix : Bool) (hint hint' : List Nat) (max id t : Nat) (st : Store) (evs : List RecEv)
    (hlim : keyCount evs ≤ 2 * max + 2) (hne : fix = true ∨ keyCount evs ≠ 0)
    (hrec : (do let (r0, _) ← beginRecord fix hint id none
                let (r1, st1) := recordAll hint max (r0, st) evs
                let (r2, sv) ← stopMacro fix hint' t r1
                pure (r2, st1.save sv)) = .ok (k.dyn.rcd, k.dyn.store))
    (d1 : Dyn) (n : Nat) (hk : S k) (hidle : k.dyn.rep = none)
    (hplay : k.dyn.doAct (.play id) = .ok d1)
    (hrun : ticksMs n { k with dyn := d1 } = .ok k')
    (hn : ∀ items, k.dyn.store.get id = some items → mu k.dyn.beh (some ⟨[id], 0, items⟩) ≤ n) :
    ∃ tail : List Nat, tail.Perm (leftDown (specBody t evs)) ∧
      k'.dyn.rep = none ∧ k'.dyn.lost = k.dyn.lost ∧
      k'.dyn.fed = k.dyn.fed ++ evsQ (specBody t evs) ++ tail.map (fun o => ⟨false, o⟩) := by
  obtain ⟨tail, h1, h2⟩ := DynMacro.replay_is_recorded fix hint hint' max id t st evs hlim hne
  rw [h1] at hrec
  injection hrec with hrec
  injection hrec with _ hstore
  have hget : k.dyn.store.get id = some (specBody t evs ++ tail.map (Item.release · 0)) := by
    rw [← hstore, Store.get_insert]; simp
  obtain ⟨r1, r2, r3, _⟩ := replay_feeds_stored_macro_kan hS k k' id _ d1 n hk hidle hget hplay hrun (hn _ hget)
  refine ⟨tail, h2, r1, r3, ?_⟩
  rw [r2, evsQ_append, evsQ_releases, List.append_assoc]

/-- **replay_ends_released_kan**: a macro stored by the record functions is balanced
(`unreleased items = []`: `unreleased_addReleases`); when its replay is over (same setting as above),
every press the replay handed to the layout is followed by a release of the same key, also handed to
the layout by the replay. -/
theorem replay_ends_released_kan {S : KState → Prop} (hS : DynFrame S) (k k' : KState) (id : Nat)
    (items : List Item) (d1 : Dyn) (n : Nat) (hk : S k)
    (hidle : k.dyn.rep = none) (hst : k.dyn.store.get id = some items)
    (hbal : unreleased items = [])
    (hplay : k.dyn.doAct (.play id) = .ok d1)
    (hrun : ticksMs n { k with dyn := d1 } = .ok k')
    (hn : mu k.dyn.beh (some ⟨[id], 0, items⟩) ≤ n) :
    ∃ replayed, k'.dyn.fed = k.dyn.fed ++ replayed ∧ k'.dyn.rep = none ∧
      ∀ pre post x, replayed = pre ++ ⟨true, x⟩ :: post → (⟨false, x⟩ : KeyEv) ∈ post := by
  obtain ⟨r1, r2, _, _⟩ := replay_feeds_stored_macro_kan hS k k' id items d1 n hk hidle hst hplay hrun hn
  exact ⟨evsQ items, r2, r1, fun pre post x hf =>
    released_of_scanEv_nil ((scan_eq_scanEv [] items).symm.trans hbal) hf⟩

/-- every macro the stop action stores is balanced, whatever was recorded -/
theorem stored_macro_balanced (fix : Bool) (hint : List Nat) (n : Nat) (r : Option Rec) (r' : Option Rec)
    (id : Nat) (items : List Item) (h : stopMacro fix hint n r = .ok (r', some (id, items))) :
    unreleased items = [] := by
  cases r with
  | none => simp [stopMacro] at h
  | some st =>
    simp only [stopMacro] at h
    split at h
    · cases h
    · injection h with h; injection h with _ h; injection h with h; injection h with _ h
      rw [← h]; exact unreleased_addReleases _ _

/-- **idle_implies_no_replay** (full): what `is_idle` checks of the dynamic-macro state - exactly
that no replay is in progress; it is the conjunction of the other conjuncts (`isIdleBase`) and
`dynamic_macro_replay_state.is_none()`. -/
theorem idle_implies_no_replay (k : KState) :
    (isIdle k = true ↔ isIdleBase k = true ∧ k.dyn.rep = none) ∧
    (isIdle k = true → tickReplayK k = (k, none)) := by
  constructor
  · simp [isIdle, Option.isNone_iff_eq_none]
  · intro h
    have : k.dyn.rep = none := by
      simp only [isIdle, Bool.and_eq_true, Option.isNone_iff_eq_none] at h; exact h.2
    simp only [tickReplayK, this]

/-- **replay_never_blocks** (full): while a replay is in progress the processing loop does not block
and the idle clock is held at zero. -/
theorem replay_never_blocks (k : KState) (ms : Nat) (r : Replay) (h : k.dyn.rep = some r) :
    (canBlockUpdateIdleWaiting k ms).2 = false ∧ (canBlockUpdateIdleWaiting k ms).1.ticksSinceIdle = 0 := by
  have : isIdle k = false := by simp [isIdle, h]
  simp [canBlockUpdateIdleWaiting, this]

/-- a state in which a recording is on and everything else is at rest -/
def recordingWitness : KState :=
  { layout := { cfg := { layers := [[]], srcKeys := [] } }, customs := [], keyOutputs := [[]],
    mods := { codes := [42, 54, 56, 100, 29, 97, 125, 126], lsft := 42, rsft := 54 },
    dyn := { rcd := some { id := 1, waiting := some (30, .press), items := [], delay := 7 } } }

/-- **recording_never_blocks** (full; the code after fix ccfb98e): while a macro is being recorded
`can_block_update_idle_waiting` answers false, whatever else holds - ticks keep coming, so the
recording's delay counter keeps counting. -/
theorem recording_never_blocks (k : KState) (ms : Nat) (r : Rec) (h : k.dyn.rcd = some r) :
    (canBlockUpdateIdleWaiting k ms).2 = false := by
  -- the last conjunct reads the record state, which none of the idle-clock updates touches
  have key : ∀ k' : KState, k'.dyn = k.dyn → ∀ a : Bool, (a && k'.dyn.rcd.isNone) = false :=
    fun k' e a => by rw [e, h]; exact Bool.and_false a
  simp only [canBlockUpdateIdleWaiting]
  apply key
  split
  · rfl
  · split <;> rfl

/-- **recording_not_covered_by_idle** (why that conjunct is needed): `is_idle` itself does not look
at the record state.  In `recordingWitness` kanata is idle, yet one more `tick_states` changes the
state: the recording's `current_delay` goes from 7 to 8 - before ccfb98e the loop could block here and
the delays recorded for a macro left out the time kanata spent blocked; with the conjunct it does
not block. -/
theorem recording_not_covered_by_idle :
    isIdle recordingWitness = true ∧ (canBlockUpdateIdleWaiting recordingWitness 1).2 = false ∧
    (match tickStates recordingWitness with
     | .ok k' => k'.dyn.rcd.map (·.delay)
     | .error _ => none) = some 8 := by
  refine ⟨by rfl, by rfl, by rfl⟩

/-! ### non-vacuity -/

/-- one plain key `a` (30) that outputs `a`; macro 1 = tap `a` with recorded delays 3 and 2 -/
def sampleK : KState :=
  { layout := { cfg := { layers := [[((0, 30), .keyCode 30)]], srcKeys := [(30, .keyCode 30)] } },
    customs := [], keyOutputs := [[(30, [30])]],
    mods := { codes := [42, 54, 56, 100, 29, 97, 125, 126], lsft := 42, rsft := 54 },
    dyn := { store := [(1, [.press 30 3, .release 30 2])] } }

example : C07.KRest sampleK := ⟨rfl, rfl, rfl, rfl, rfl, rfl, rfl, rfl, rfl, rfl, rfl, rfl, rfl, rfl, rfl, rfl⟩

/-- the hypotheses of `replay_feeds_stored_macro_kan` / `replay_ends_released_kan` are met by
`sampleK` with 10 ticks, and the conclusion is what one expects: press then release of key 30 fed -/
def sampleD1 : Dyn := { sampleK.dyn with rep := some ⟨[1], 0, [.press 30 3, .release 30 2]⟩ }

example : sampleK.dyn.doAct (.play 1) = .ok sampleD1 ∧
    sampleK.dyn.store.get 1 = some [.press 30 3, .release 30 2] ∧
    unreleased [.press 30 3, .release 30 2] = [] ∧
    mu sampleK.dyn.beh (some ⟨[1], 0, [.press 30 3, .release 30 2]⟩) ≤ 10 := by
  refine ⟨rfl, rfl, rfl, by decide⟩

/- (that the run of this very state exists and ends with `fed = [press 30, release 30]`, OS output
`d30 u30`, is among the KAN cases the C19 check runs on the model and on the real code; evaluating
`tick_states` of the full kanata model inside the kernel is too slow for an `example`) -/

/-- the recording hypothesis of `replay_feeds_layout_what_was_typed_kan`: begin 1; press a, 3 ticks,
release a, 2 ticks, press the stop key; stop - stores the tap of `a` -/
example : (do let (r0, _) ← beginRecord true [] 1 none
              let (r1, st1) := recordAll [] 128 (r0, []) [.press 30, .tick, .tick, .tick, .release 30, .tick, .tick, .press 50]
              let (r2, sv) ← stopMacro true [] 0 r1
              pure (r2, st1.save sv)) = .ok (sampleK.dyn.rcd, sampleK.dyn.store) := by rfl

example : isIdle sampleK = true ∧ isIdle { sampleK with dyn := { rep := some ⟨[1], 0, []⟩ } } = false := by
  constructor <;> rfl

end KVerif.C19kan
