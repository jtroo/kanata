/-
C12 on the composed kanata-level model: sequence mode inside `Kanata` (Model/Kanata.lean with the
hooks of Model/KanataSeq.lean, which run the stand-alone functions of Model/Sequences.lean on the
real layout).  Helper lemmas are in Lemmas/KanataSeqOff.lean, Lemmas/KanataSeqRun.lean and
Lemmas/SeqFrame.lean.
-/
import KVerif.Lemmas.KanataSeqRun
import KVerif.Lemmas.VkeyMulti
namespace KVerif.C12kan
open KVerif.L KVerif.K KVerif.C07

/-- **idle_implies_no_sequence** (full).  `Kanata::is_idle` has the conjunct
`self.sequence_state.is_inactive()`: whenever kanata reports idle it is not in sequence mode, and so
the processing loop never blocks in sequence mode (`can_block_update_idle_waiting` answers true only
when `is_idle` does).  This is what C07's `MayBlock` needs about sequences: its field `idle` gives
"not in sequence mode" (used by `block_silent` to show that `tick_sequence_state` does nothing), and
the other sequence-driven state, `State::SeqCustomPending/Active` of the layout, is checked by
`is_idle` too; only a held `macro-repeat` (`PlainStates`) is not. -/
theorem idle_implies_no_sequence (k : KState) :
    (isIdle k = true → k.seq.st.active = false) ∧
    (∀ ms, (canBlockUpdateIdleWaiting k ms).2 = true → k.seq.st.active = false) := by
  have h1 : isIdle k = true → k.seq.st.active = false := fun h => (idle_covers_time_driven k h).2.2.2.2.2.2.2.2.2.2.2.2.2.2.2.2
  refine ⟨h1, fun ms h => h1 ?_⟩
  unfold canBlockUpdateIdleWaiting at h
  simp only [Bool.and_eq_true] at h
  exact h.1.1.1


/-- **seq_mode_ends_within_timeout_kan** (full, every table, every mode).  The composed model in
sequence mode with `b > 0` ticks left on the sequence timer, everything else at rest (`SeqQuiet`:
the hypotheses of C07's `MayBlock` without `is_idle`'s verdict - a quiet layout, OS key state equal
to the wanted list, no scrolling / mouse movement / caps-word / pending virtual keys), no input:
every one of the first `b - 1` whole `tick_states` leaves it in sequence mode with the layout's
states and (empty) queue untouched and nothing sent to the OS; the `b`-th ends sequence mode, again
without handing the layout any event - no virtual key is tapped - and leaves everything else at
rest (what hidden-delay-type then types is `timeout_ends` of Props/C12.lean).  `b = 0` in sequence
mode is the `ticks_until_timeout -= 1` underflow (the parser refuses a zero timeout). -/
theorem seq_mode_ends_within_timeout_kan (k : KState) (cur' : List KeyCode) (ost : Override.OverrideStates)
    (hq : SeqQuiet k cur' ost) (ha : k.seq.st.active = true) (b : Nat)
    (hb : k.seq.st.ticksUntilTimeout = b) (hpos : 0 < b) :
    (∀ n, n < b → ∃ kn, ticksN n k = .ok kn ∧ kn.seq.st.active = true ∧
        kn.layout.states = k.layout.states ∧ kn.layout.queue = [] ∧ kn.out = k.out) ∧
    ∃ k', ticksN b k = .ok k' ∧ k'.seq.st.active = false ∧ k'.layout.states = k.layout.states ∧
        k'.layout.queue = [] ∧ SeqQuiet k' cur' ost := by
  -- one tick at a time: all but the last leave the timer running, and the claim holds of the state after
  induction b generalizing k with
  | zero => omega
  | succ b ih =>
    have hst := (tickPre_quiet k.layout hq.quiet).1
    have h0 : ∃ kn, ticksN 0 k = .ok kn ∧ kn.seq.st.active = true ∧
        kn.layout.states = k.layout.states ∧ kn.layout.queue = [] ∧ kn.out = k.out :=
      ⟨k, rfl, ha, rfl, hq.quiet.queue, rfl⟩
    cases b with
    | zero =>
      obtain ⟨st', outs, hs, hina⟩ := seqTick_last k.seq ha hb
      obtain ⟨o, ht, _, hq1⟩ := seqQuiet_tick k cur' ost hq _ _ hs
      refine ⟨fun n hn => ?_, _, by simp only [ticksN, ht], hina, hst, hq1.quiet.queue, hq1⟩
      obtain rfl : n = 0 := by omega
      exact h0
    | succ m =>
      obtain ⟨o, ht, ho, hq1⟩ := seqQuiet_tick k cur' ost hq _ _ (seqTick_running k.seq m ha hb)
      obtain rfl := ho rfl
      obtain ⟨hstay, k', he, hina, hst', hqu, hq'⟩ := ih _ hq1 ha rfl (by omega)
      refine ⟨fun n hn => ?_, k', by simp only [ticksN, ht]; exact he, hina, hst'.trans hst, hqu, hq'⟩
      cases n with
      | zero => exact h0
      | succ n =>
        obtain ⟨kn, e, a, st, qu, ou⟩ := hstay n (by omega)
        exact ⟨kn, by simp only [ticksN, ht]; exact e, a, st.trans hst, qu, ou⟩

/-- a key held down (layout, OS and wanted list agree), sequence mode on (hidden-suppressed, 5 ticks) -/
def exSeqQuiet : KState :=
  { layout := { cfg := { layers := [[]], srcKeys := [] }, states := [.normalKey 30 (0, 30) 0] },
    customs := [], keyOutputs := [[]], prevKeys := [30],
    mods := { codes := [42, 54, 56, 100, 29, 97, 125, 126], lsft := 42, rsft := 54 },
    seq := { st := ({} : Seq.SeqState).activate .hiddenSuppressed 5 } }

example : SeqQuiet exSeqQuiet [30] Override.OverrideStates.new ∧ exSeqQuiet.seq.st.active = true ∧
    exSeqQuiet.seq.st.ticksUntilTimeout = 5 :=
  ⟨⟨⟨rfl, rfl, rfl, rfl, rfl, rfl, rfl, rfl, by intro st hst; simp [exSeqQuiet] at hst; subst hst; trivial⟩,
    rfl, rfl, rfl, rfl, ⟨fun _ h => h, fun _ h => h⟩, rfl, rfl, rfl, rfl, rfl, rfl, rfl⟩, rfl, rfl⟩

/-- **hidden_modes_press_nothing_kan_partial** (proved for the press loop, every table, any keys, any
modifier mask, any layout).
Full statement: while sequence mode is on in a hidden mode, the OS events of a whole `tick_states`
contain no press of a typed key.
Proved here, for the part of `handle_keystate_changes` the sequence code lives in - the press loop
over the wanted key list, with the real `do_sequence_press_logic` composed in: if sequence mode is on
in hidden-suppressed or hidden-delay-type mode when the loop starts and still on when it ends
(`sequence-always-on` not configured; with it a sequence that ends in the middle of the loop is
restarted by the next key, and the statement would have to follow the activations), the loop sent
NOTHING to the OS, however many keys were new.  "Still on at the end" is needed: a key that completes
or fails the sequence ends sequence mode, the remaining new keys of the same tick are pressed
normally, and hidden-delay-type replays the typed keys when it fails (`hidden_presses_nothing`).
(`hne`: the table stores no empty key list - `accepted_no_empty_key`.)
Missing for the whole tick: that the other stages send no key press - the release loop sends
releases only, the all-released hook nothing in the hidden modes (`hidden_presses_nothing`),
scrolling / mouse movement no key events, `tick_sequence_state` nothing while the mode stays on
(`seq_mode_ends_within_timeout_kan`) - and a restriction on the tick's custom event (`rpt` in sequence mode does press
the last typed key: the real code does that too); these stages are compared with the real code per
tick (0 disagreements), not proved about. -/
theorem hidden_modes_press_nothing_kan_partial (cur xs : List KeyCode) (k k' : KState)
    (ha : k.seq.st.active = true) (hm : k.seq.st.mode ≠ .visibleBackspaced) (hao : k.seq.alwaysOn = false)
    (hne : ∀ j, k.seq.trie.getOrDescendant [] ≠ .hasValue j)
    (h : pressLoop cur xs k = .ok k') (hk' : k'.seq.st.active = true) : k'.out = k.out := by
  induction xs generalizing k with
  | nil => injection h with h; rw [← h]
  | cons x xs ih =>
    unfold pressLoop at h
    split at h
    · exact ih k ha hm hao hne h
    · have haos : k.seq.alwaysOnStep = k.seq := by unfold SeqK.alwaysOnStep; simp [hao]
      simp only [haos, ha, if_true] at h
      split at h
      · cases h
      · rename_i sk l outs hkp
        obtain ⟨htrie, halw, hmode, hout⟩ := seqKeyPress_hidden hkp hm hne
        cases hact : sk.st.active with
        | false =>
          -- sequence mode ended here; without always-on it stays off, contradicting `hk'`
          have := pressLoop_off_stays _ _ _ k' (by rw [emitSeq_seq]; simp [SeqK.off, hact, halw, hao]) h
          rw [this] at hk'; cases hk'
        | true =>
          obtain rfl := hout hact
          exact ih { k with prevKeys := k.prevKeys ++ [x], lastPressedKey := x, seq := sk, layout := l } hact
            (hmode ▸ hm) (halw.trans hao) (htrie ▸ hne) h

/-- leader pressed (hidden-suppressed, table `(a b) ↦ 0, (a c d) ↦ 1`), then `a` arrives as a new key:
the press loop keeps it from the OS and sequence mode stays on -/
example : ∃ k', pressLoop [30] [30]
      { exSeqQuiet with layout := { cfg := { layers := [[]], srcKeys := [] } }, prevKeys := [],
                        seq := { trie := Seq.exPlain, st := ({} : Seq.SeqState).activate .hiddenSuppressed 5 } } = .ok k' ∧
    k'.seq.st.active = true ∧ k'.seq.st.sequence = [30] ∧ k'.out = [] ∧ k'.prevKeys = [30] := by
  exact ⟨_, rfl, by decide, by decide, by decide, by decide⟩


/-- **kan_refines_engine** (full: every table - plain, chorded, overlap groups -, every mode, any
layout, any other `Kanata` state).  The link between the composed model and the stand-alone one, on
which the engine-level theorems of Props/C12.lean are carried over: for a stream of sequence hook calls
(`kanSeqStep`: a new key reaching the press loop with no modifier held - `pressLoop_single` -, one
`tick_sequence_state`, the all-released hook - `seqReleasedHook_step`), if the stand-alone engine run on
the view of the real layout answers the stream without tapping a virtual key and is still in sequence
mode at the end, the composed model answers it with exactly the engine's sequence state and exactly
the engine's OS events (sent through `press_key` / `release_key`), and changes nothing else: not the
layout (states, queue, ...) and no other field of `Kanata`. -/
theorem kan_refines_engine (is : List Seq.Inp) (k : KState) (e' : Seq.Eng)
    (h : Seq.engRun k.seq.trie k.seq.modcancel (engOf k.seq k.layout) is = .ok e')
    (ht : e'.taps = []) (ha : e'.st.active = true) :
    kanSeqRun k is = .ok (emitSeq { k with seq := { k.seq with st := e'.st } } e'.out) :=
  kanSeqRun_of_engRun k is (engOf k.seq k.layout) e' rfl rfl h ht ha

/-- sequence mode as `sldr` leaves it (hidden-suppressed, 5 ticks) with the plain table
`(a b) ↦ 0, (a c d) ↦ 1` of Props/C12.lean, around an empty layout -/
def exTyping : KState :=
  { layout := { cfg := { layers := [[]], srcKeys := [] } },
    customs := [], keyOutputs := [[]],
    mods := { codes := [42, 54, 56, 100, 29, 97, 125, 126], lsft := 42, rsft := 54 },
    seq := { trie := Seq.exPlain, st := ({} : Seq.SeqState).activate .hiddenSuppressed 5 } }

/-- `a`, two ticks, all keys released: still in sequence mode tracking `a`, nothing sent, layout untouched -/
example : ∃ e', Seq.engRun exTyping.seq.trie exTyping.seq.modcancel (engOf exTyping.seq exTyping.layout)
      [.key 30, .tick, .tick, .released] = .ok e' ∧ e'.taps = [] ∧ e'.st.active = true ∧ e'.st.sequence = [30] := by
  exact ⟨_, rfl, by decide, by decide, by decide⟩

/-- **typed_sequence_taps_vkey_once_kan_partial** (proved for tables of plain keys, at the level of
the sequence hooks of the composed model).
Full statement: for every accepted table, leader then the keys of a defined sequence, each press
within the timeout, makes `Kanata` hand the layout exactly one press + release pair of the sequence's
virtual-key coordinate and leave sequence mode.
Proved here: the table consists of plain keys and is prefix-free (`PlainTrie`, `TrieOK`: what
`accepted_prefix_free` gives), the composed model is in sequence mode as the leader leaves it (empty
tracked sequence, timer at the timeout `T > 0`), the keys `u ++ [x]` of a defined sequence reach the
press loop one at a time with no modifier held, with fewer than `T` `tick_sequence_state` calls and
any number of all-released hooks between two keys (`WellTimed`).  Then, on the COMPOSED model (real
layout, real `Layout.event`):
* up to the last key the layout is not touched at all (no event handed over, no state removed) and
  sequence mode stays on; in the hidden modes nothing is sent to the OS;
* the last key removes some `NormalKey` states (`retain`; `keep`), then calls `layout.event` with
  `Press(1, j)` and then `Release(1, j)` for the virtual key `j` of the typed sequence - exactly this
  one pair, nothing else - and sequence mode is off afterwards; in the hidden modes nothing was sent to
  the OS during the whole sequence.
(If one of the two `Layout.event` calls crashes - the model's stand-in for unbounded recursion in
the overflow path of a full queue - so does the composed step; that is why they are hypotheses.)
Missing: chorded and overlap tables (as for `seq_fires_once_partial`); the key-state diff around the
hooks for arbitrary layouts (which keys are new in a tick, `mod_mask`, the release loop) - the
diffing is compared with the real code per tick (0 disagreements) and `pressLoop_single` /
`seqReleasedHook_step` / `tickSequenceState` state which call of `tick_states` each step is. -/
theorem typed_sequence_taps_vkey_once_kan_partial {k : KState} (hp : Seq.PlainTrie k.seq.trie)
    (hok : Seq.TrieOK k.seq.trie) (u : Seq.Key) (x j : Nat) (pre : List Seq.Inp)
    (hs : (u ++ [x], j) ∈ k.seq.trie.entries)
    (ha : k.seq.st.active = true) (hseq : k.seq.st.sequence = []) (hT : 0 < k.seq.st.timeout)
    (hb : k.seq.st.ticksUntilTimeout = k.seq.st.timeout)
    (hkeys : Seq.keysOf pre = u) (hwt : Seq.WellTimed k.seq.st.timeout k.seq.st.timeout pre) :
    ∃ k1, kanSeqRun k pre = .ok k1 ∧ k1.layout = k.layout ∧ k1.seq.st.active = true ∧
      (k.seq.st.mode ≠ .visibleBackspaced → k1.out = k.out) ∧
      ∃ keep : St → Bool, ∀ l1 l2,
        ({ k.layout with states := k.layout.states.filter keep } : Layout).event (.press (1, j)) = .ok l1 →
        l1.event (.release (1, j)) = .ok l2 →
        ∃ k', kanSeqRun k (pre ++ [.key x]) = .ok k' ∧ k'.layout = l2 ∧ k'.seq.st.active = false ∧
          (k.seq.st.mode ≠ .visibleBackspaced → k'.out = k.out) := by
  have hplain := Seq.plain_of_mem hp hs
  have hkk : Seq.plainKey x = true := hplain x (by simp)
  -- the keys before the last: the engine tracks `u` (`run_tracks`), the composed model follows it
  obtain ⟨e1, hr, h1a, h1s, h1t, _, _, h1m, _, _, _, h1o⟩ :=
    Seq.run_tracks hp k.seq.modcancel pre (engOf k.seq k.layout) k.seq.st.timeout u ha
      (by show ∀ y ∈ k.seq.st.sequence, y < 1024; rw [hseq]; simp) hb hT hT
      (fun y hy => hplain y (by rw [hkeys] at hy; simp [hy])) hwt
      (by show Seq.absTrack k.seq.trie.entries k.seq.st.sequence (Seq.keysOf pre) = some u
          rw [hseq, hkeys]
          simpa using Seq.absTrack_prefix hok hs u [] [x] (by simp) (by simp))
  have hsim := kan_refines_engine pre k e1 hr h1t h1a
  have hhid : k.seq.st.mode ≠ .visibleBackspaced → e1.out = [] := by
    intro hm
    rw [h1o]
    show [] ++ (if k.seq.st.mode = _ then _ else _) = []
    simp [hm]
  let k1 : KState := emitSeq { k with seq := { k.seq with st := e1.st } } e1.out
  have hk1l : k1.layout = k.layout := emitSeq_layout _ _
  have hk1s : k1.seq = { k.seq with st := e1.st } := emitSeq_seq _ _
  have hk1o : k.seq.st.mode ≠ .visibleBackspaced → k1.out = k.out := by
    intro hm
    show (emitSeq _ e1.out).out = _
    rw [hhid hm]; rfl
  -- the completing key: the engine terminates the sequence (`key_step`), tapping `j` once
  let E1 : Seq.Eng := { st := e1.st, states := k.layout.states.map viewSt, out := [], taps := [] }
  have hE1 : engOf k1.seq k1.layout = E1 := by rw [hk1s, hk1l]; rfl
  have hks := Seq.key_step hp k.seq.modcancel E1 hkk
    (by show ∀ y ∈ e1.st.sequence, y < 1024
        rw [h1s]; intro y hy; exact Seq.plainKey_lt (hplain y (by simp [hy])))
  rw [show E1.st.sequence = u from h1s, Seq.absKey_complete hok hs] at hks
  obtain ⟨ovl, b, _, hd⟩ := hks
  let T : Seq.Eng := Seq.terminate
    { Seq.pressBase E1 x with st := { (Seq.pressBase E1 x).st with sequence := u ++ [x], overlapped := ovl } } j b
  have pf := Seq.pressBase_fields E1 hkk
  have hTf := Seq.terminate_fields
    { Seq.pressBase E1 x with st := { (Seq.pressBase E1 x).st with sequence := u ++ [x], overlapped := ovl } } j b
  have hTt : T.taps = [j] := by
    show (Seq.terminate _ j b).taps = _
    rw [hTf.2.1]; show (Seq.pressBase E1 x).taps ++ [j] = _; rw [pf.2.1]; rfl
  refine ⟨k1, hsim, hk1l, by rw [hk1s]; exact h1a, hk1o, fun s => T.states.contains (viewSt s), ?_⟩
  intro l1 l2 hl1 hl2
  have hstep : kanSeqStep k1 (.key x) =
      .ok (emitSeq { k1 with seq := { k1.seq with st := T.st }, layout := l2 } T.out) := by
    have hact : k1.seq.st.active = true := by rw [hk1s]; exact h1a
    have hd' : Seq.doSeqPress k1.seq.trie k1.seq.modcancel E1 x 0 = T := by rw [hk1s]; exact hd
    simp only [kanSeqStep, hact, if_true, seqKeyPress, hE1, hd']
    show (match applyEng k1.seq k1.layout T with
      | .error e => Except.error (Crash.layout e)
      | .ok (sk, l, outs) => Except.ok (emitSeq { k1 with seq := sk, layout := l } outs)) = _
    unfold applyEng
    rw [hTt, hk1l]
    simp only [tapVkeys, retainStates, hl1, hl2]
  refine ⟨emitSeq { k1 with seq := { k1.seq with st := T.st }, layout := l2 } T.out, ?_, emitSeq_layout _ _,
    by rw [emitSeq_seq]; exact hTf.1, fun hm => ?_⟩
  · rw [kanSeqRun_append, hsim]
    show (match kanSeqStep k1 (.key x) with
      | .error c => Except.error c
      | .ok k' => kanSeqRun k' []) = _
    rw [hstep]; rfl
  · have hTo : T.out = [] := by
      show (Seq.terminate _ j b).out = _
      have hmodeT : (Seq.pressBase E1 x).st.mode = k.seq.st.mode := pf.2.2.2.2.1.trans h1m
      rw [hTf.2.2.2 (fun h => hm (hmodeT ▸ h))]
      show (Seq.pressBase E1 x).out = []
      rw [pf.2.2.2.2.2.2.2.2, show E1.st.mode = k.seq.st.mode from h1m]
      simp [hm, E1]
    rw [hTo]
    exact hk1o hm

/-- the hypotheses are met by `exTyping` and the history `a`, two ticks, all released, then `b` -/
example : Seq.PlainTrie exTyping.seq.trie ∧ Seq.TrieOK exTyping.seq.trie ∧
    ([30] ++ [48], 0) ∈ exTyping.seq.trie.entries ∧ exTyping.seq.st.active = true ∧
    exTyping.seq.st.sequence = [] ∧ 0 < exTyping.seq.st.timeout ∧
    exTyping.seq.st.ticksUntilTimeout = exTyping.seq.st.timeout ∧
    Seq.keysOf [.key 30, .tick, .tick, .released] = [30] ∧
    Seq.WellTimed exTyping.seq.st.timeout exTyping.seq.st.timeout [.key 30, .tick, .tick, .released] :=
  ⟨by decide, Seq.accepted_prefix_free Seq.exPlainTable Seq.exPlain (by rfl), by decide, rfl, rfl, by decide, rfl, rfl,
    by simp [Seq.WellTimed, exTyping, Seq.SeqState.activate]⟩

/-- **typed_sequence_queues_one_tap_kan_partial** (corollary, same fragment): while the layout's event
queue has room for two more events (fewer than 31 pending: no overflow handling runs), the
hypotheses about `Layout.event` hold and the conclusion is concrete: after the last key the layout's
queue is the old queue followed by exactly `Press(1, j)`, `Release(1, j)`; sequence mode is off; in
the hidden modes nothing was sent to the OS. -/
theorem typed_sequence_queues_one_tap_kan_partial {k : KState} (hp : Seq.PlainTrie k.seq.trie)
    (hok : Seq.TrieOK k.seq.trie) (u : Seq.Key) (x j : Nat) (pre : List Seq.Inp)
    (hs : (u ++ [x], j) ∈ k.seq.trie.entries)
    (ha : k.seq.st.active = true) (hseq : k.seq.st.sequence = []) (hT : 0 < k.seq.st.timeout)
    (hb : k.seq.st.ticksUntilTimeout = k.seq.st.timeout)
    (hkeys : Seq.keysOf pre = u) (hwt : Seq.WellTimed k.seq.st.timeout k.seq.st.timeout pre)
    (hroom : k.layout.queue.length + 2 ≤ QUEUE_SIZE) :
    ∃ k', kanSeqRun k (pre ++ [.key x]) = .ok k' ∧
      k'.layout.queue = k.layout.queue ++ [⟨.press (1, j), 0⟩, ⟨.release (1, j), 0⟩] ∧
      k'.seq.st.active = false ∧ (k.seq.st.mode ≠ .visibleBackspaced → k'.out = k.out) := by
  obtain ⟨k1, _, _, _, _, keep, hfin⟩ :=
    typed_sequence_taps_vkey_once_kan_partial hp hok u x j pre hs ha hseq hT hb hkeys hwt
  have h1 := VkeyMulti.event_press_room ({ k.layout with states := k.layout.states.filter keep } : Layout) (1, j)
    (by show k.layout.queue.length < QUEUE_SIZE; omega)
  have h2 := VkeyMulti.event_release_room
    ({ ({ k.layout with states := k.layout.states.filter keep } : Layout) with
        histInputs := histPush k.layout.histInputs (1, j), queue := k.layout.queue ++ [⟨.press (1, j), 0⟩] } : Layout) (1, j)
    (by show (k.layout.queue ++ [_]).length < QUEUE_SIZE; simp; omega)
  obtain ⟨k', r, hl, hact, hout⟩ := hfin _ _ h1 h2
  refine ⟨k', r, ?_, hact, hout⟩
  rw [hl]
  show (k.layout.queue ++ [_]) ++ [_] = _
  simp [VkeyMulti.relEv]


/-- `exTyping`, history `a`, two ticks, all released, `b`: the layout's queue ends as exactly the press
and the release of virtual key 0; sequence mode is off; nothing was sent to the OS -/
example : ∃ k', kanSeqRun exTyping ([.key 30, .tick, .tick, .released] ++ [.key 48]) = .ok k' ∧
    k'.layout.queue = [⟨.press (1, 0), 0⟩, ⟨.release (1, 0), 0⟩] ∧ k'.seq.st.active = false ∧ k'.out = [] := by
  obtain ⟨k', h1, h2, h3, h4⟩ := typed_sequence_queues_one_tap_kan_partial (k := exTyping) (by decide)
    (Seq.accepted_prefix_free Seq.exPlainTable Seq.exPlain (by rfl)) [30] 48 0 [.key 30, .tick, .tick, .released]
    (by decide) rfl rfl (by decide) rfl rfl (by simp [Seq.WellTimed, exTyping, Seq.SeqState.activate]) (by decide)
  exact ⟨k', h1, h2, h3, h4 (by decide)⟩

end KVerif.C12kan
