/-
C16 — configuration abstractions are transparent: indirection never changes behaviour.
Property theorems only; helper lemmas are in KVerif/Lemmas/CfgTree*.lean, the model in
KVerif/Model/CfgTree.lean.

What is proved here is the transparency of the *indirection layer itself* (variables, templates and
their conditionals, include, platform, alias table, the two layer fillers), for all trees and
configurations, by induction, with no size bound.  "Accepted iff / behaves identically for the whole
parser" additionally needs every argument parser to look at its input only through the resolved
view; that is not provable without modelling all of them and is discharged by the paired runs of the
correspondence check (harness/src/c16.rs), with the sites known to bypass variables regenerated from
the source (`bypass_sites_classified`).
-/
import KVerif.Lemmas.CfgTreeTop
import KVerif.Lemmas.CfgTreeLayer
import KVerif.Lemmas.CfgTreeVars
import KVerif.Lemmas.CfgTreeCond
import KVerif.Lemmas.CfgTreeExpand
import KVerif.Lemmas.CfgTreeSubst
import KVerif.Gen.BypassSites
namespace KVerif.CfgTree

/-! ## Sites that bypass variables -/

/-- **bypass_sites_classified**: every parser function that the translator finds looking at an
s-expression without variable resolution (`.atom(None)`, `.list(None)`, pattern matches on
`SExpr::Atom/List`; regenerated from the source on every run) is classified in `bypassClass`, and
nothing is classified that is not there.  A new such site in the parser makes this fail until
somebody decides what it means for the applicable rewrite sites. -/
theorem bypass_sites_classified :
    (KVerif.Gen.bypassFns.all fun f => (bypassClass.map (·.1)).contains f) = true ∧
    ((bypassClass.map (·.1)).all fun f => KVerif.Gen.bypassFns.contains f) = true := by
  decide +kernel

/-! ## defvar -/

/-- **defvar_neutral** (full).  Take any expression `C[e]`, give the subexpression `e` a name — a
fresh variable `v` that nothing mentions — and write `$v` in its place.  Then the rewritten
expression has a resolved view exactly when the original has one, and it is the same view.  (The
resolved view is what every consumer obtains through `SExpr::atom(vars)` / `SExpr::list(vars)`.) -/
theorem defvar_neutral (vars : Vars) (v : Str) (e : Tree) (hfresh : lookup v vars = none)
    (hv : NoRefVars v vars) (he : NoRef v e) (c : Ctx) (hc : c.NoRef v) (r : Tree) :
    Resolves (vars ++ [(v, e)]) (c.plug (.atom ('$' :: v))) r ↔ Resolves vars (c.plug e) r := by
  constructor
  · rintro ⟨f, h⟩
    exact ⟨f, resolve_defvar_bwd vars v e hfresh hv he c hc f r h⟩
  · rintro ⟨f, h⟩
    exact ⟨f + 1, resolve_defvar_fwd vars v e hfresh hv he c hc f r h⟩

example : Resolves [("t".toList, .atom "200".toList), ("h".toList, .atom "lsft".toList)]
    (.list [.atom "tap-hold".toList, .atom "$t".toList, .atom "$t".toList, .atom "a".toList, .atom "$h".toList])
    (.list [.atom "tap-hold".toList, .atom "200".toList, .atom "200".toList, .atom "a".toList, .atom "lsft".toList]) :=
  ⟨3, by decide +kernel⟩

/-- **defvar_unobservable** (full): the congruence closure — no consumer that is a function of the
resolved view can tell the rewritten expression from the original. -/
theorem defvar_unobservable {β} (consumer : Tree → β) (vars : Vars) (v : Str) (e : Tree)
    (hfresh : lookup v vars = none) (hv : NoRefVars v vars) (he : NoRef v e) (c : Ctx)
    (hc : c.NoRef v) (r1 r2 : Tree)
    (h1 : Resolves (vars ++ [(v, e)]) (c.plug (.atom ('$' :: v))) r1)
    (h2 : Resolves vars (c.plug e) r2) : consumer r1 = consumer r2 := by
  have := (defvar_neutral vars v e hfresh hv he c hc r1).mp h1
  rw [Resolves.unique this h2]

/-- **defvar_total** (full): with an acyclic variable graph — a rank under which every value only
mentions bound variables of smaller rank — everything has a resolved view, i.e. the recursion of
`atom(vars)` / `list(vars)` ends.  A variable may mention variables defined later. -/
theorem defvar_total (vars : Vars) (hac : Acyclic vars) (t : Tree) : ∃ r, Resolves vars t r :=
  resolves_of_acyclic vars hac t

example : Acyclic [(['a'], .atom ['$', 'b']), (['b'], .atom ['1'])] := by
  refine ⟨fun n => if n = ['a'] then 1 else 0, fun n e hl m e' hm _ => ?_⟩
  simp only [lookup] at hl
  split at hl
  · cases hl
    cases List.mem_singleton.mp hm
    subst n
    decide
  · split at hl <;> cases hl
    cases List.mem_singleton.mp hm

/-- **defvar_cycle_diverges** (the hypothesis of `defvar_total` is needed): `(defvar a $a)` has no
resolved view for any amount of fuel — the real accessors recurse until the stack overflows. -/
theorem defvar_cycle_diverges (a : Str) (f : Nat) :
    resolve f [(a, .atom ('$' :: a))] (.atom ('$' :: a)) = none :=
  resolve_self_ref _ a (by rw [lookup, if_pos rfl]) f

/-! ## Templates -/

/-- **template_call_is_body** (full, on the substitution semantics).  Anywhere in a configuration
that is not inside the arguments of another call, `(template-expand name a₁…aₙ)` and the
instantiated body — parameters substituted, `concat` and the conditionals evaluated — spliced in its
place expand to the same thing. -/
theorem template_call_is_body (T : List Template) (l repl : List Tree)
    (hh : isExpandHead l = true) (hi : instantiate T l = .ok repl) (c : FCtx) (hc : c.Plain)
    (r : List Tree) : Expands T (c.fill [.list l]) r ↔ Expands T (c.fill repl) r :=
  Expands.fill_call hh hi c hc r

/-- **template_abstraction** (full, one parameter).  Abstracting a subexpression `e` of a shape
`C[e]` into a parameter and calling the template with `e` gives the shape back: the call
instantiates to `C[e]`.  Hypotheses: the parameter name is not used in the shape, and the shape has
no `concat` list and no conditional form of its own (those are evaluated at instantiation — see the
findings about `concat`). -/
theorem template_abstraction (T : List Template) (name p kwd : Str) (c : Ctx) (e : Tree)
    (hT : findTemplate name T =
      some { name := name, params := [p], content := [c.plug (.atom ('$' :: p))] })
    (hc : c.NoRef p) (hnc : noConcatTree (c.plug e) = true) (hnf : nfcTree (c.plug e) = true) :
    instantiate T [.atom kwd, .atom name, e] = .ok [c.plug e] := by
  rw [instantiate_abs T (.atom kwd) name [p] [e] _ [c.plug e] hT (List.pairwise_singleton _ p) rfl
    ⟨absTree_plug p e c hc, trivial⟩, concatList, concatTree_id _ hnc, concatList]
  exact condLoop_nfc _ _ (by simp [nfcList, hnf])

/-- **expand_is_subst_partial.**  Full statement (not provable, and false when a template produces
the keyword `template-expand` at the head of a list: the loop re-scans a list only when a sibling
elsewhere forces another iteration, the substitution semantics never does):
`(∃ F, expandLoop F T ts = .ok r) ↔ (∃ f, expandSpec f T ts = .ok r)`.
Proved: completeness of the loop of `expand` for every *fully expanded* result — if substituting
template bodies for their calls, everywhere and recursively, yields `r` and `r` contains no
unexpanded call, then `expand` terminates with exactly `r`.  Missing: the converse direction and the
agreement of the two on errors. -/
theorem expand_is_subst_partial (T : List Template) (ts r : List Tree) (h : Expands T ts r)
    (hn : nfList r = true) : ∃ F, expandLoop F T ts = .ok r := by
  obtain ⟨f, h⟩ := h
  exact expandLoop_complete T f ts r h hn

/-- **template_rewrite_neutral_partial**: putting the pieces together for the rewrite "a shape →
a template call".  If the configuration with the shape written out expands (substitution semantics)
to the fully expanded `r`, then the real loop expands BOTH the original configuration and the one
with the call `(t! name e)` to `r`.  (Partial for the reason given at `expand_is_subst_partial`.) -/
theorem template_rewrite_neutral_partial (T : List Template) (name p kwd : Str) (c : Ctx) (e : Tree)
    (hk : isExpandHead [.atom kwd, .atom name, e] = true)
    (hT : findTemplate name T =
      some { name := name, params := [p], content := [c.plug (.atom ('$' :: p))] })
    (hc : c.NoRef p) (hnc : noConcatTree (c.plug e) = true) (hnf : nfcTree (c.plug e) = true)
    (fc : FCtx) (hfc : fc.Plain) (r : List Tree)
    (h : Expands T (fc.fill [c.plug e]) r) (hn : nfList r = true) :
    (∃ F, expandLoop F T (fc.fill [c.plug e]) = .ok r) ∧
    (∃ F, expandLoop F T (fc.fill [.list [.atom kwd, .atom name, e]]) = .ok r) := by
  refine ⟨expand_is_subst_partial T _ r h hn, expand_is_subst_partial T _ r ?_ hn⟩
  exact (template_call_is_body T _ _ hk
    (template_abstraction T name p kwd c e hT hc hnc hnf) fc hfc r).mpr h

section example_template
/-- `(deftemplate m (x) (macro $x 10 b))`; the shape `(macro a 10 b)` inside a deflayer -/
private def exT : List Template :=
  [{ name := "m".toList, params := ["x".toList],
     content := [.list [.atom "macro".toList, .atom "$x".toList, .atom "10".toList, .atom "b".toList]] }]
private def exC : Ctx := .node [.atom "macro".toList] .hole [.atom "10".toList, .atom "b".toList]
private def exF : FCtx :=
  .under [] (.atom "deflayer".toList) (.here [.atom "l0".toList] [.atom "c".toList]) []
private def exR : List Tree :=
  [.list [.atom "deflayer".toList, .atom "l0".toList,
    .list [.atom "macro".toList, .atom "a".toList, .atom "10".toList, .atom "b".toList], .atom "c".toList]]

/-- the hypotheses of `template_rewrite_neutral_partial` are met by a concrete rewrite … -/
example : (∃ F, expandLoop F exT (exF.fill [exC.plug (.atom "a".toList)]) = .ok exR) ∧
    (∃ F, expandLoop F exT (exF.fill [.list [.atom sTBang, .atom "m".toList, .atom "a".toList]]) = .ok exR) :=
  template_rewrite_neutral_partial exT "m".toList "x".toList sTBang exC (.atom "a".toList)
    (by decide +kernel) (by decide +kernel) (by refine ⟨?_, trivial, ?_⟩ <;> decide +kernel)
    (by decide +kernel) (by decide +kernel) exF ⟨by decide +kernel, trivial⟩
    exR ⟨3, by decide +kernel⟩ (by decide +kernel)

/-- … and the loop really computes that -/
example : expandLoop 4 exT (exF.fill [.list [.atom sTBang, .atom "m".toList, .atom "a".toList]]) = .ok exR := by
  decide +kernel
end example_template

/-! ## Conditionals in templates -/

/-- **if_equal_spec** (full, for the specification): what the four conditional forms denote.
`(if-equal a b body…)` is `body` when the two strings are equal and nothing otherwise; `if-not-equal`
the opposite; `(if-in-list a (l…) body…)` tests membership among ALL atoms of the list, nested ones
included; the comparands are compared as written (no variable resolution, no quote trimming). -/
theorem if_equal_spec (a b : Str) (lst body : List Tree) :
    condSpecTree (.list (.atom sIfEqual :: .atom a :: .atom b :: body)) =
      (if a = b then condSpec body else .ok []) ∧
    condSpecTree (.list (.atom sIfNotEqual :: .atom a :: .atom b :: body)) =
      (if a = b then .ok [] else condSpec body) ∧
    condSpecTree (.list (.atom sIfInList :: .atom a :: .list lst :: body)) =
      (if a ∈ atomsOfList lst then condSpec body else .ok []) ∧
    condSpecTree (.list (.atom sIfNotInList :: .atom a :: .list lst :: body)) =
      (if a ∈ atomsOfList lst then .ok [] else condSpec body) := by
  have ⟨k1, k2, k3, k4⟩ := condKind?_keywords
  refine ⟨?_, ?_, ?_, ?_⟩
  · rw [condSpecTree_ok _ (decide (a = b)) (by rw [condTest, k1])]
    simp only [decide_eq_true_eq, List.drop_succ_cons, List.drop_zero]
  · rw [condSpecTree_ok _ (decide (a ≠ b)) (by rw [condTest, k2])]
    simp only [decide_eq_true_eq, List.drop_succ_cons, List.drop_zero, ne_eq, ite_not]
  · rw [condSpecTree_ok _ (decide (a ∈ atomsOfList lst)) (by rw [condTest, k3])]
    simp only [decide_eq_true_eq, List.drop_succ_cons, List.drop_zero]
  · rw [condSpecTree_ok _ (decide (a ∉ atomsOfList lst)) (by rw [condTest, k4])]
    simp only [decide_eq_true_eq, List.drop_succ_cons, List.drop_zero, ite_not]

/-- **cond_loop_is_spec_partial.**  Full statement (false when one conditional produces the keyword
of another at the head of a list — the loop then evaluates the new form, the one-traversal
specification does not): `condLoop (size+1) ts = condSpec ts`.
Proved: whenever the specification's result contains no conditional form, the loop
`while evaluate_conditionals(..)? {}` terminates within `size + 1` iterations with exactly that
result (so the branch not taken is never evaluated, outermost forms decide first, and the fuel of the
model is never the reason for a failure).  Missing: agreement on errors. -/
theorem cond_loop_is_spec_partial (ts r : List Tree) (hs : condSpec ts = .ok r)
    (hn : nfcList r = true) : condLoop (sizeList ts + 1) ts = .ok r :=
  condLoop_complete _ ts r (Nat.lt_succ_self _) hs hn

/-- an instance: the branch not taken hides a malformed conditional, the taken one contains another
conditional which is evaluated in a later pass -/
example :
    let ts := [Tree.list [.atom sIfEqual, .atom "x".toList, .atom "y".toList, .list [.atom sIfEqual]],
      .list [.atom sIfNotEqual, .atom "x".toList, .atom "y".toList, .atom "k".toList,
        .list [.atom sIfInList, .atom "m".toList, .list [.atom "n".toList, .list [.atom "m".toList]], .atom "j".toList]]]
    condLoop (sizeList ts + 1) ts = .ok [.atom "k".toList, .atom "j".toList] :=
  cond_loop_is_spec_partial _ _ (by decide +kernel) (by decide +kernel)

/-! ## include -/

/-- **include_is_splice** (full).  Moving a run of top-level items `xs` (none of them an include)
into a file and writing `(include file)` in their place gives the same list of items after
`expand_includes` — in particular the same acceptance. -/
theorem include_is_splice (files : Files) (path : Str) (xs pre post : List (List Tree))
    (hf : lookup (trimAtomQuotes path) files = some xs)
    (hx : ∀ i ∈ xs, headIs sInclude i = false) :
    expandIncludes files (pre ++ [[.atom sInclude, .atom path]] ++ post) =
      expandIncludes files (pre ++ xs ++ post) := by
  simp only [expandIncludes_append, expandIncludes_single files path xs hf,
    expandIncludes_noinclude files xs hx]

example : expandIncludes [("f.kbd".toList, [[.atom "defsrc".toList, .atom "a".toList]])]
    [[.atom sInclude, .atom "\"f.kbd\"".toList], [.atom "deflayer".toList, .atom "l".toList, .atom "b".toList]]
    = .ok [[.atom "defsrc".toList, .atom "a".toList], [.atom "deflayer".toList, .atom "l".toList, .atom "b".toList]] := by
  decide +kernel

/-! ## platform -/

/-- **platform_neutral_for_active** (full).  Wrapping an item (that is not itself a `platform`
form) in `(platform (p₁ … pₙ) item)` with valid platform names that include the current platform
does not change the result of `filter_platform_specific_cfg`; with names that do not include it the
item is dropped, whatever it contains. -/
theorem platform_neutral_for_active (cur : Str) (ps : List Str) (item : List Tree)
    (pre post : List (List Tree)) (hv : ∀ p ∈ ps, p ∈ validPlatforms)
    (hitem : headIs sPlatform item = false) :
    filterPlatform cur (pre ++ [[.atom sPlatform, .list (ps.map .atom), .list item]] ++ post) =
      if cur ∈ ps then filterPlatform cur (pre ++ [item] ++ post)
      else filterPlatform cur (pre ++ post) := by
  have h1 : filterPlatform cur [[.atom sPlatform, .list (ps.map .atom), .list item]] =
      .ok (if cur ∈ ps then [item] else []) := by
    simp [filterPlatform, headIs, checkPlatformNames_ok ps hv]
  have h2 : filterPlatform cur [item] = .ok [item] := by
    simp [filterPlatform, hitem]
  by_cases hc : cur ∈ ps
  · simp only [filterPlatform_append, h1, h2, hc, if_true]
  · simp only [filterPlatform_append, h1, hc, if_false]
    cases filterPlatform cur pre with
    | error e => rfl
    | ok ra => cases filterPlatform cur post <;> simp

example : ∀ p ∈ ["win".toList, "linux".toList], p ∈ validPlatforms := by decide +kernel

/-! ## defalias -/

/-- **alias_value** (full, for any parsed-action type and any action parser).  After all
`defalias` pairs are read, a name holds the parse of its action in the alias table *as it was when
the pair was read* (definition order matters), the name was not defined before, and no later pair
changes it. -/
theorem alias_value {α} (parse : List (Str × α) → Tree → Res α)
    (ps : List (Str × Tree)) (n : Str) (e : Tree) (rest : List Tree) (al al' : List (Str × α))
    (h : parseAliasPairs parse al (flatPairs ps ++ .atom n :: e :: rest) = .ok al') :
    ∃ al1 a, parseAliasPairs parse al (flatPairs ps) = .ok al1 ∧ parse al1 e = .ok a ∧
      lookup n al1 = none ∧ lookup n al' = some a :=
  parseAliasPairs_value parse ps n e rest al al' h

/-- **alias_neutral** (full, on the alias-resolved view).  Name an action `e` used at a site `C[e]`
with a fresh alias `n` defined after everything `e` uses (so the table is `al ++ [(n, a)]` with `a`
the view of `e` under `al`), and write `@n` at the site.  Then the rewritten site has an
alias-resolved view exactly when the original has one, and it is the same. -/
theorem alias_neutral (al : List (Str × Tree)) (n : Str) (e a : Tree)
    (hfresh : lookup n al = none) (ha : inlineTree al e = .ok a)
    (he : ('@' :: n) ∉ atomsOfTree e) (c : Ctx) (hc : c.Avoids ('@' :: n)) (r : Tree) :
    inlineTree (al ++ [(n, a)]) (c.plug (.atom ('@' :: n))) = .ok r ↔
      inlineTree al (c.plug e) = .ok r := by
  have hsub : SubTable al (al ++ [(n, a)]) := SubTable.append_fresh al n a
  have hlook := lookup_append_self n al a hfresh
  have hsite : inlineTree (al ++ [(n, a)]) (.atom ('@' :: n)) = inlineTree (al ++ [(n, a)]) e := by
    rw [inlineTree_mono al _ hsub e a ha]
    simp [inlineTree, aliasName?, hlook]
  rw [inlineTree_congr _ _ _ hsite c]
  constructor
  · exact inlineTree_strengthen al n a _ r (hc.plug he)
  · exact inlineTree_mono al _ hsub _ r

example : inlineTree [("th".toList, .list [.atom "tap-hold".toList, .atom "a".toList])]
    (.list [.atom "multi".toList, .atom "@th".toList, .atom "b".toList]) =
    .ok (.list [.atom "multi".toList, .list [.atom "tap-hold".toList, .atom "a".toList], .atom "b".toList]) := by
  decide +kernel

/-- **alias_before_definition_rejected**: the order hypothesis is needed — a reference to an alias
that is not (yet) in the table is an error, whatever is defined later. -/
theorem alias_before_definition_rejected (al : List (Str × Tree)) (n : Str)
    (h : lookup n al = none) : inlineTree al (.atom ('@' :: n)) = rej "Referenced unknown alias" := by
  simp [inlineTree, aliasName?, h]

/-! ## deflayer vs deflayermap -/

/-- **layermap_equiv** (full).  Writing a layer as `deflayermap` with the `key action` pairs of the
deflayer (keys = defsrc, in ANY order) fills exactly the same table; hence the same finished layer. -/
theorem layermap_equiv {α} (order : List Nat) (acts : List α) (n : Nat) (pu block : Bool)
    (isButton : Nat → Bool) (trans noop : α) (ps : List (Nat × α)) (hnd : order.Nodup)
    (hperm : ps.Perm (order.zip acts)) :
    ∃ st, layermapFill order n pu { table := Table.empty } (keyPairs ps) = .ok st ∧
      finishLayer block isButton trans noop st.table =
        finishLayer block isButton trans noop (deflayerFill Table.empty order acts) := by
  obtain ⟨st, h1, h2⟩ := layermap_table order acts n pu ps hnd hperm
  exact ⟨st, h1, by rw [h2]⟩

/-- **layermap_default_equiv** (full).  Leaving out every defsrc key whose action is `d` and writing
`_ d` anywhere among the remaining pairs is again the same table: `_` fills exactly the defsrc
positions that no pair mentions. -/
theorem layermap_default_equiv {α} [DecidableEq α] (order : List Nat) (acts : List α) (n : Nat)
    (pu block : Bool) (isButton : Nat → Bool) (trans noop d : α) (ps1 ps2 : List (Nat × α))
    (hnd : order.Nodup) (hlen : order.length ≤ acts.length)
    (hperm : (ps1 ++ ps2).Perm ((order.zip acts).filter (fun p => p.2 ≠ d))) :
    ∃ st, layermapFill order n pu { table := Table.empty }
        (keyPairs ps1 ++ (MapIn.anyDefsrc, d) :: keyPairs ps2) = .ok st ∧
      finishLayer block isButton trans noop st.table =
        finishLayer block isButton trans noop (deflayerFill Table.empty order acts) := by
  obtain ⟨st, h1, h2⟩ := layermap_table_default order acts n pu d ps1 ps2 hnd hlen hperm
  exact ⟨st, h1, by rw [h2]⟩

example : ([(30, "x"), (48, "y")] ++ [] : List (Nat × String)).Perm
    (([30, 31, 48].zip ["x", "d", "y"]).filter (fun p => p.2 ≠ "d")) := by decide +kernel

/-- **layermap_omitted_is_trans**: a defsrc key that a deflayermap does not mention ends up as the
transparent action — the same as writing `_` for it in a deflayer — unless `block-unmapped-keys`
turns the default into no-op (then the two forms differ: the generator does not omit keys there). -/
theorem layermap_omitted_is_trans {α} (isButton : Nat → Bool) (trans noop : α) (t : Table α)
    (i : Nat) (hi : i ≠ 0) (ht : t i = none) :
    finishLayer false isButton trans noop t i = trans ∧
    finishLayer false isButton trans noop (t.set i trans) i = trans := by
  simp [finishLayer, hi, ht, Table.set]

end KVerif.CfgTree
