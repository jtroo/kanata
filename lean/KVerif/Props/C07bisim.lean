/-
C07 — idle blocking is unobservable, SECOND HALF: "whatever input arrives later is handled exactly as
if the loop had kept ticking through the gap".

`Props/C07.lean` (`block_silent`, `block_silent_forever`) and `Props/C07reach.lean`
(`block_unobservable_*`) state SILENCE during the gap only: from a reachable state in which
`can_block_update_idle_waiting` answers true, `n` whole `tick_states` emit nothing.  Here the
bisimulation: the state after the `n` ticks and the state without them are `AgeEquiv`alent, and
`AgeEquiv` is preserved by every later `handle_input_event`, `tick_states` and evaluation of the
blocking decision with IDENTICAL OS output and identical crash behaviour; hence (`block_bisim_layered`)
the OS output of (n ticks, then any history) equals the OS output of (that history).

Full statement (DESIGN §6 C07 `block_bisim`): for every accepted configuration, every reachable
state `k` in which the decision is "block", every `n` and every later history of inputs / ticks /
decisions: output(n ticks; history) = output(history).

What differs between `k` and `k` after `n` silent ticks (closed form of `block_silent`), and who reads it
— the complete list for the model (Model/Layout.lean, Model/Kanata.lean):
* `layout.histKeys` ages (`ticks_since_occurrence` of `historical_keys`): aged by `tickPre`
  (saturating at 65535).  READ ONLY by the `switch` key-timing tests `ticksLt` / `ticksGt`
  (`Switch.leafVal`, reached through the `Switch` arm of `dispatch`); `histKeyCode` reads only the
  key.  This is what the `switch_max_key_timing` conjunct of `can_block…` is for (it checks the newest
  entry only; the older ones are older).  Not read at all on configurations without `switch`.
* `layout.histInputs` ages: aged by `tickPre`; read by NOTHING (`Switch.leafVal .histInput` reads the
  coordinate only).
* `layout.lptTapHoldTimeout` (the quick-tap / tap-hold-interval countdown, read by the `HoldTap` arm):
  `is_idle` demands it to be 0, `tickPre` keeps it at 0 — identical on both sides.
* `layout.queue[..].since` (read by tap-hold / chord timing): the queue is empty when idle.
* `macroOnPressCancelDuration` (read by `handle_input_event`): 0 when idle, stays 0.
* `ticksSinceIdle` (read by `tick_idle_timeout`): not touched by `tick_states`; `can_block…` only
  advances it while something waits for idleness, and then it does not block.
* waiting-state / one-shot / eager-tap-dance / sequence / caps-word / held-virtual-key / scroll /
  mouse-move countdowns: absent when idle (`idle_covers_time_driven`).
* `prevKeys`, `overrideStates`, `curKeys`: rewritten by the tick with the values they already have in
  a reachable blocking state (`KInv.sync`: `prev_keys` IS the layout's key-code list).
So on configurations in which no `switch` key-timing test is evaluated the relation is simply "equal
except history ages" (`AgeEquiv`, Lemmas/C07BisimK.lean) and no side condition on ages is needed.

Proved here, in FULL for the layered fragment of C04 (plain keys, output chords, `multi`,
layer-while-held, layer-switch, release-key / release-layer, transparent, use-defsrc; no custom
actions, no overrides; ANY history, no bound on queue length — the overflow path of the 32-entry queue
included — or on held layers):
* `quiet_ticks_ageEquiv`  (a) n ticks from a blocking state yield an `AgeEquiv` state;
* `step_ageEquiv`, `run_ageEquiv`  (b) `AgeEquiv` is preserved by every step, identical outputs;
* `block_bisim_layered`  (c) the conclusion, from kanata at start-up.
Not proved (open): the same for the tap-hold / one-shot fragments (the relation and the kanata-level
lemmas are generic; what is missing is the layout-level equivariance `doAction (core s) = core
(doAction s)` for the `HoldTap` / `OneShot` arms and the waiting-state machinery of `tick` — none of
them reads a history age, and the quick-tap countdown is identical on both sides by `is_idle`), and
for `switch` with key-timing (there the relation has to become "ages equal, or both above
`switch_max_key_timing`", kept by `tickPre` and sufficient for `ticksLt`/`ticksGt` because the
history is aged BEFORE the queued event is processed; the one place where an un-aged history is read
is the overflow path of `Layout::event` — 33 events without a tick in between — where a
`(key-timing 1 gt N)` test with the newest key exactly `N` ticks old would differ; not formalised).
Property theorems only; helper lemmas in Lemmas/C07Age.lean, Lemmas/C07BisimK.lean.
-/
import KVerif.Lemmas.C07BisimK
import KVerif.Props.C07reach
namespace KVerif.C07
open KVerif.L KVerif.K

/-! ## (a) the silent ticks change history ages only -/

/-- one silent tick from an idle state with the kanata-level components at rest (any configuration)
whose OS key state is the layout's key-code list: the new state is the old one with `tickPre` applied
to the layout, and `tickPre` changed history ages only -/
theorem quiet_tick_rest (k : KState) (hr : KRest k) (hp : PlainStates k.layout) (hidle : isIdle k = true)
    (hsync : k.prevKeys = k.layout.keycodes) :
    tickStates k = .ok (setL k (tickPre k.layout)) ∧ AgeEq k.layout (tickPre k.layout) := by
  obtain ⟨i1, i2, i3, i4, i5, i6, i7, i8, i9, _⟩ := idle_covers_time_driven k hidle
  have hm := KInv.mayBlock (Q := fun _ => True) ⟨hr, trivial, fun _ => hsync⟩ hp hidle
  refine ⟨(block_silent k _ _ hm).1.trans (congrArg Except.ok ?_),
    ageEq_tickPre ⟨i1, i2, i3, i5, i6, i7, i8, i9, hp⟩ i4⟩
  -- `cur_keys`, `prev_keys` and the macro-cancel window are rewritten with the values they have
  have hcur := hr.cur
  have hmcd := hr.mcd
  cases k
  simp only [setL, afterQuietTick] at *
  subst hcur hmcd hsync
  rfl

/-- the same for `n` ticks -/
theorem quiet_ticks_rest (n : Nat) : ∀ (k : KState), KRest k → PlainStates k.layout → isIdle k = true →
    k.prevKeys = k.layout.keycodes → ∃ kn, ticksN n k = .ok kn ∧ AgeEquiv k kn := by
  induction n with
  | zero => intro k _ _ _ _; exact ⟨k, rfl, AgeEquiv.refl k⟩
  | succ n ih =>
    intro k hr hp hidle hsync
    obtain ⟨e1, e2⟩ := quiet_tick_rest k hr hp hidle hsync
    obtain ⟨kn, r1, r2⟩ := ih (setL k (tickPre k.layout)) (hr.setL _)
      (fun st hst => hp st (e2.states ▸ hst)) ((isIdle_setL k _ e2).trans hidle) (hsync.trans e2.keycodes)
    exact ⟨kn, by simp only [ticksN, e1]; exact r1, AgeEquiv.trans ⟨_, e2, rfl⟩ r2⟩

/-- **quiet_ticks_ageEquiv** (a): `n` ticks from such a state succeed and end in an `AgeEquiv`alent
state (so in particular nothing was written: `AgeEquiv.out`) -/
theorem quiet_ticks_ageEquiv (n : Nat) : ∀ (k : KState), KLay k → isIdle k = true →
    k.prevKeys = k.layout.keycodes → ∃ kn, ticksN n k = .ok kn ∧ AgeEquiv k kn :=
  fun k hk => quiet_ticks_rest n k hk.rest (plain_of_stok hk.inert.states)

/-! ## (b) every later step preserves the relation, with identical output -/

/-- outcomes of a history from two states: both stop (crash) or both go on to `AgeEquiv`alent states -/
def RunRel (r1 r2 : Option KState) : Prop :=
  match r1, r2 with
  | some a, some b => KLay a ∧ AgeEquiv a b
  | none, none => True
  | _, _ => False

theorem RunRel.of_krel {r1 r2 : Except K.Crash KState} (h : KRel r1 r2) (hk : ∀ a, r1 = .ok a → KLay a) :
    RunRel (match (generalizing := false) r1 with | .ok k' => some k' | .error _ => none)
      (match (generalizing := false) r2 with | .ok k' => some k' | .error _ => none) := by
  cases r1 <;> cases r2 <;> first | exact h.elim | exact trivial | exact ⟨hk _ rfl, h⟩

theorem RunRel.bind {o1 o2 : Option KState} (h : RunRel o1 o2) {f g : KState → Option KState}
    (hfg : ∀ a b, KLay a → AgeEquiv a b → RunRel (f a) (g b)) :
    RunRel (match (generalizing := false) o1 with | some k' => f k' | none => none)
      (match (generalizing := false) o2 with | some k' => g k' | none => none) := by
  cases o1 <;> cases o2 <;> first | exact h.elim | exact trivial | exact hfg _ _ h.1 h.2

theorem inputOK_true (k : KState) (i : Input) : inputOK (fun _ => true) k i = true := by
  cases i with
  | tap code =>
    simp only [inputOK, Bool.true_and]
    split <;> rfl
  | _ => rfl

/-- **step_ageEquiv** (b): one step of the processing loop — an input event (press, release, repeat,
tap) handled, one whole `tick_states`, or one evaluation of the blocking decision — from two
`AgeEquiv`alent states of the layered fragment: both crash or neither, and the successors are
`AgeEquiv`alent again, which includes `out` (everything written to the OS so far) being EQUAL. -/
theorem step_ageEquiv {k k' : KState} (hk : KLay k) (he : AgeEquiv k k') (s : Step) :
    RunRel (stepK (fun _ => true) k s) (stepK (fun _ => true) k' s) := by
  cases s with
  | input i =>
    simp only [stepK, inputOK_true, if_true]
    exact .of_krel (handleInput_equiv hk he i) fun a h => handleInput_klay hk i h
  | tick => exact .of_krel (tickStates_equiv hk he) fun a h => tickStates_klay hk h
  | decide ms => exact ⟨canBlock_klay hk ms, canBlock_equiv he ms⟩

/-- **run_ageEquiv** (b, iterated): any history of steps from two `AgeEquiv`alent states -/
theorem run_ageEquiv (steps : List Step) : ∀ {k k' : KState}, KLay k → AgeEquiv k k' →
    RunRel (runSteps (fun _ => true) k steps) (runSteps (fun _ => true) k' steps) := by
  induction steps with
  | nil => intro k k' hk he; exact ⟨hk, he⟩
  | cons s rest ih => intro k k' hk he; exact (step_ageEquiv hk he s).bind fun a b => ih

/-! ## (c) blocking is unobservable: silence during the gap AND identical handling afterwards -/

/-- the kanata-level invariant of the layered fragment holds in every reachable state -/
theorem klay_reachable {k0 k : KState} (hc : C04.CfgFrag k0.layout.cfg) (hi : C04.Inert k0.layout)
    (hs : KStart k0) (hr : Reach (fun _ => true) k0 k) :
    KLay k ∧ (k.layout.queue = [] → k.prevKeys = k.layout.keycodes) := by
  have h := reach_inv layered_layoutInv ⟨hs.rest, ⟨hc, hi⟩, fun _ => hs.prev⟩ hr
  exact ⟨⟨h.rest, h.lay.1, h.lay.2⟩, h.sync⟩

/-- **block_bisim_layered** (full, on the layered fragment of C04).  Kanata at start-up on any
configuration of the fragment; `k` any state reachable by any history of input events, ticks and
blocking decisions in which `can_block_update_idle_waiting` answers true; `n` any number of ticks run
INSTEAD of sleeping; `steps` any later history (inputs, ticks, decisions — no side condition, the
queue may overflow).  Then the `n` ticks succeed and write nothing, and the history run after them and
the history run without them either both crash or end in states that are equal except history ages
— in particular the complete OS output is the same list. -/
theorem block_bisim_layered (cfg : LCfg) (hc : C04.CfgFrag cfg) (tv2 dfl qth : Bool) (osd : Nat)
    (ko : List (List (Nat × List Nat))) (mods : ModCodes) (k : KState)
    (hr : Reach (fun _ => true) (freshK cfg tv2 dfl qth osd ko mods) k) (ms : Nat)
    (hb : (canBlockUpdateIdleWaiting k ms).2 = true) (n : Nat) (steps : List Step) :
    ∃ kn, ticksN n k = .ok kn ∧ kn.out = k.out ∧
      match runSteps (fun _ => true) k steps, runSteps (fun _ => true) kn steps with
      | some a, some b => b.out = a.out ∧ AgeEquiv a b
      | none, none => True
      | _, _ => False := by
  obtain ⟨hk, hsync⟩ := klay_reachable (k0 := freshK cfg tv2 dfl qth osd ko mods) hc
    (C04.init_inert cfg tv2 dfl qth osd) (freshK_start cfg tv2 dfl qth osd ko mods) hr
  obtain ⟨hidle, _⟩ := canBlock_true k ms hb
  have hq := (idle_covers_time_driven k hidle).1
  obtain ⟨kn, e1, e2⟩ := quiet_ticks_ageEquiv n k hk hidle (hsync hq)
  refine ⟨kn, e1, e2.out, ?_⟩
  have h := run_ageEquiv steps hk e2
  generalize runSteps _ k steps = o1 at h ⊢
  generalize runSteps _ kn steps = o2 at h ⊢
  cases o1 <;> cases o2 <;> first | exact h | exact ⟨h.2.out, h.2⟩

/-- the same from any start state of the fragment (not only the fresh one) -/
theorem block_bisim_layered_from (k0 k : KState) (hc : C04.CfgFrag k0.layout.cfg)
    (hi : C04.Inert k0.layout) (hs : KStart k0) (hr : Reach (fun _ => true) k0 k)
    (hidle : isIdle k = true) (n : Nat) (steps : List Step) :
    ∃ kn, ticksN n k = .ok kn ∧ AgeEquiv k kn ∧
      RunRel (runSteps (fun _ => true) k steps) (runSteps (fun _ => true) kn steps) := by
  obtain ⟨hk, hsync⟩ := klay_reachable hc hi hs hr
  obtain ⟨kn, e1, e2⟩ := quiet_ticks_ageEquiv n k hk hidle (hsync (idle_covers_time_driven k hidle).1)
  exact ⟨kn, e1, e2, run_ageEquiv steps hk e2⟩

/-! ## non-vacuity -/

/-- what happens after the block in the example: the held key `x` is auto-repeated, released, then
Shift + layer key + another key, ticks in between -/
def laterHist : List Step :=
  [.input (.rep 46), .tick, .input (.release 46), .tick, .tick, .input (.press 48), .tick,
   .input (.tap 46), .tick, .tick, .decide 1, .tick]

/-- non-vacuity: on the three-layer configuration of C04 the history `layeredHist` reaches a state
with `x` held in which kanata blocks; 1000 ticks instead of sleeping, then `laterHist`: the theorem
applies, the later history does not crash, it DOES write to the OS (so the equality of outputs is
not the equality of two empty lists), and the history ages really differ at the end. -/
example : ∃ k, Reach (fun _ => true) (freshK C04.sampleCfg true false false 0 [[]] stdMods) k ∧
    (canBlockUpdateIdleWaiting k 1).2 = true ∧
    ∃ kn a b, ticksN 1000 k = .ok kn ∧ runSteps (fun _ => true) k laterHist = some a ∧
      runSteps (fun _ => true) kn laterHist = some b ∧ b.out = a.out ∧ a.out.length > k.out.length := by
  obtain ⟨k, hr, hp⟩ := reach_of_endsWith
    (g := fun _ => true) (k0 := freshK C04.sampleCfg true false false 0 [[]] stdMods) (steps := layeredHist)
    (p := fun k => (canBlockUpdateIdleWaiting k 1).2 &&
      endsWith (runSteps (fun _ => true) k laterHist) fun a => decide (a.out.length > k.out.length))
    (by decide +kernel)
  simp only [Bool.and_eq_true] at hp
  obtain ⟨a, h1, ha⟩ := exists_of_endsWith hp.2
  obtain ⟨kn, e1, _, e3⟩ := block_bisim_layered _ sampleCfg_frag true false false 0 [[]] stdMods k hr 1 hp.1 1000 laterHist
  rw [h1] at e3
  cases h2 : runSteps (fun _ => true) kn laterHist with
  | none => rw [h2] at e3; exact e3.elim
  | some b =>
    rw [h2] at e3
    exact ⟨k, hr, hp.1, kn, a, b, e1, h1, h2, e3.1, of_decide_eq_true ha⟩

/-! ## the statement is FALSE on the model for `switch` key-timing under an arbitrary history -/

/-- `a` plain; key 31 is `(switch ((key-timing 1 gt 5)) x break () c break)`: opcode `0x4000 + 5`
(`TICKS_SINCE_VAL_GT`, first-newest key, threshold 5) -/
def swCfg : LCfg :=
  { layers := [[((0, 30), .keyCode 30),
                ((0, 31), .switch [([16389], .keyCode 45, true), ([], .keyCode 46, true)])]],
    srcKeys := [(30, .keyCode 30), (31, .keyCode 31)] }

/-- kanata at start-up on that configuration; the parser sets `switch_max_key_timing` to 5 -/
def swK0 : KState := { freshK swCfg true false false 0 [[]] stdMods with switchMaxKeyTiming := 5 }

/-- `a` tapped; exactly 5 ticks after it was pressed (its history age is 5 = `switch_max_key_timing`)
the blocking decision is evaluated -/
def swHist : List Step :=
  [.input (.press 30), .tick, .input (.release 30), .tick, .tick, .tick, .tick, .tick, .decide 1]

/-- 33 input events WITHOUT a tick in between (the switch key pressed and released, then an unmapped
key 15 times tapped and once pressed): the 33rd overflows the queue of 32 and the press of the switch
key is processed at once, against a history that has not been aged since the decision; then ticks -/
def swLater : List Step :=
  [.input (.press 31), .input (.release 31)] ++ (List.replicate 15 (Step.input (.tap 16))) ++
  [.input (.press 16), .tick, .tick, .tick]

/-- **block_bisim_switch_overflow_counterexample** (on the MODEL, for histories the real processing
loop cannot produce).  With a `switch` key-timing test `gt N`, `N = switch_max_key_timing`, the
blocking decision answers true as soon as the newest key is exactly `N` ticks old
(`ticks_since_occurrence >= switch_max_key_timing`).  One silent tick later the age is `N + 1`.  If the
later history delivers 33 input events with no tick in between, the queue overflow makes
`Layout::event` process the switch key's press at once, with the history NOT aged first: `gt N` is
false without the tick and true with it — a different case of the switch fires, a different key
reaches the OS.  In the real loop (`start_processing_loop`) a blocking receive is always followed by
the event AND at least one tick (`last_tick = now - 1 ms`), and a tick ages the history before it
dequeues, so both runs see an age above `N`; the counterexample therefore shows that `block_bisim` for
`switch` key-timing needs the hypothesis "a tick precedes the first `switch` evaluation after the
block" (equivalently: fewer than 33 events before the first tick), not that kanata misbehaves.
In kanata syntax: `(defsrc a b) (deflayer l a (switch ((key-timing 1 gt 5)) x break () c break))`;
tap `a`, wait 5 ms (kanata blocks), then — without any tick — press and release `b` and send 31 more
events on an unmapped key, then tick: `c` without the gap ticks, `x` with them. -/
theorem block_bisim_switch_overflow_counterexample :
    ∃ k, Reach (fun _ => true) swK0 k ∧ (canBlockUpdateIdleWaiting k 1).2 = true ∧
      k.layout.histKeys.head? = some (30, 5) ∧
      ∃ k1 a b, tickStates k = .ok k1 ∧ k1.out = k.out ∧
        runSteps (fun _ => true) k swLater = some a ∧ runSteps (fun _ => true) k1 swLater = some b ∧
        a.out.contains (.down 46) = true ∧ a.out.contains (.down 45) = false ∧
        b.out.contains (.down 45) = true ∧ b.out.contains (.down 46) = false := by
  obtain ⟨k, hr, hp⟩ := reach_of_endsWith (g := fun _ => true) (k0 := swK0) (steps := swHist)
    (p := fun k => (canBlockUpdateIdleWaiting k 1).2 && decide (k.layout.histKeys.head? = some (30, 5)) &&
      okWith (tickStates k) fun k1 => decide (k1.out = k.out) &&
        endsWith (runSteps (fun _ => true) k swLater) fun a =>
          endsWith (runSteps (fun _ => true) k1 swLater) fun b =>
            a.out.contains (.down 46) && !a.out.contains (.down 45) &&
              b.out.contains (.down 45) && !b.out.contains (.down 46))
    (by decide +kernel)
  simp only [Bool.and_eq_true, decide_eq_true_eq] at hp
  obtain ⟨⟨h1, h2⟩, h3⟩ := hp
  obtain ⟨k1, ht, h3⟩ := exists_of_okWith h3
  simp only [Bool.and_eq_true, decide_eq_true_eq] at h3
  obtain ⟨a, ha, h4⟩ := exists_of_endsWith h3.2
  obtain ⟨b, hb, h5⟩ := exists_of_endsWith h4
  simp only [Bool.and_eq_true, Bool.not_eq_true'] at h5
  exact ⟨k, hr, h1, h2, k1, a, b, ht, h3.1, ha, hb, h5.1.1.1, h5.1.1.2, h5.1.2, h5.2⟩

end KVerif.C07
