/-
C04 — layered remapping fidelity: on the fragment (plain keys, output chords, multi, no-op,
transparent, use-defsrc, layer-while-held, layer-switch, release-key/layer) the layout model is a
refinement of the simple layered-keymap machine of Spec/Layered.lean.
Property theorems only; helper lemmas are in Lemmas/Layered.lean and Lemmas/LayeredTick.lean.
-/
import KVerif.Lemmas.LayeredTick
import KVerif.Gen.Consts
import KVerif.Model.Kanata
namespace KVerif.C04
open KVerif.L KVerif.Spec.Layered

/-- inputs of a run: a key event, or one millisecond -/
inductive In
  | ev (e : Ev)
  | tick
  deriving Repr

/-- the layout model run on a history; the trace is the key-code list after every tick -/
def runM : Layout → List In → Except Crash (List (List KeyCode))
  | _, [] => .ok []
  | s, .ev e :: r =>
    match s.event e with
    | .error c => .error c
    | .ok s' => runM s' r
  | s, .tick :: r =>
    match tick s with
    | .error c => .error c
    | .ok (s', _) =>
      match runM s' r with
      | .error c => .error c
      | .ok t => .ok (s'.keycodes :: t)

/-- the layered machine run on the same history -/
def runS (km : Keymap) : State → List In → List (List KeyCode)
  | _, [] => []
  | s, .ev e :: r => runS km (input s e) r
  | s, .tick :: r => keys (step km s) :: runS km (step km s) r

/-- the bounds of the statement, expressed on the run of the *simple* machine: fewer than 32 events
pending whenever one arrives, and at most 10 layers held at once (the layer stack holds 12 entries
including the base layer and the first layer) -/
def Safe (km : Keymap) : State → List In → Prop
  | _, [] => True
  | s, .ev e :: r => s.pending.length < QUEUE_SIZE ∧ Safe km (input s e) r
  | s, .tick :: r => (heldLayers s).length + 2 ≤ MAX_ACTIVE_LAYERS ∧ Safe km (step km s) r

/-- the refinement along a simulation: a layout at the state `t` of the layered machine shows the
machine's key codes from there on -/
theorem refines_of_sim {km : Keymap} : ∀ (ins : List In) (s : Layout) (t : State), Sim s km t →
    Safe km t ins → ∀ tr, runM s ins = .ok tr → tr = runS km t ins
  | [], _, _, _, _, tr, h => by cases h; rfl
  | .ev e :: rest, s, t, hs, hsafe, tr, h => by
    obtain ⟨s1, e1, hs1⟩ := hs.event e hsafe.1
    simp only [runM, e1] at h
    exact refines_of_sim rest s1 _ hs1 hsafe.2 tr h
  | .tick :: rest, s, t, hs, hsafe, tr, h => by
    simp only [runM] at h
    split at h; · cases h
    rename_i s1 cu ht
    have hs1 := hs.tick hsafe.1 ht
    split at h; · cases h
    rename_i tr1 hr
    cases h
    rw [refines_of_sim rest s1 _ hs1 hsafe.2 tr1 hr, keycodes_abs hs1.inert.states, hs1.abs_eq]
    rfl

/-- **layered_refines** (full, on the fragment).  For every configuration of the C04 fragment, every
inert state (in particular the initial one) and every history — any order and timing of presses,
releases and ticks, physically consistent or not — that keeps the simple machine within the stated
bounds: if the layout processes the history, the key-code list it shows after every tick is exactly
that of the layered-keymap machine. -/
theorem layered_refines : ∀ (ins : List In) (s : Layout), CfgFrag s.cfg → Inert s →
    Safe (km s) (abs s) ins → ∀ t, runM s ins = .ok t → t = runS (km s) (abs s) ins :=
  fun ins s hc hi hs t h => refines_of_sim ins s _ ⟨hc, hi, rfl, rfl⟩ hs t h

/-- **stays_inert**: on the fragment nothing ever waits — no tap-hold, tap-dance, chord, one-shot,
macro or queued action state arises, whatever the history. -/
theorem stays_inert : ∀ (ins : List In) (s : Layout), CfgFrag s.cfg → Inert s →
    Safe (km s) (abs s) ins → ∀ s' , (ins.foldlM (fun (s : Layout) i => match i with
        | .ev e => s.event e
        | .tick => match tick s with
          | .ok (s', _) => .ok s'
          | .error c => .error c) s) = .ok s' → Inert s' := by
  intro ins
  induction ins with
  | nil => intro s _ hi _ s' h; cases h; exact hi
  | cons i rest ih =>
    intro s hc hi hsafe s' h
    have hs : Sim s (km s) (abs s) := ⟨hc, hi, rfl, rfl⟩
    simp only [List.foldlM, bind, Except.bind] at h
    cases i with
    | ev e =>
      obtain ⟨s1, e1, hs1⟩ := hs.event e hsafe.1
      simp only [e1] at h
      exact ih s1 hs1.frag hs1.inert (hs1.km_eq ▸ hs1.abs_eq ▸ hsafe.2) s' h
    | tick =>
      cases ht : tick s with
      | error c => simp only [ht] at h; cases h
      | ok r =>
        have hs1 := hs.tick hsafe.1 (cu := r.2) ht
        simp only [ht] at h
        exact ih r.1 hs1.frag hs1.inert (hs1.km_eq ▸ hs1.abs_eq ▸ hsafe.2) s' h

/-! ### What the layered machine guarantees (and hence, by `layered_refines`, the layout) -/

/-- **fifo_one_per_tick**: events take effect in arrival order, one per tick: an arriving event goes
to the back, a step consumes exactly the front. -/
theorem fifo_one_per_tick (km : Keymap) (s : State) (e : Ev) (rest : List Ev) (h : s.pending = e :: rest) (e2 : Ev) :
    (step km (input s e2)).pending = rest ++ [e2] ∧ (step km s).pending = rest := by
  have hp := fun c t => (perform_pending km c DEPTH).1 t .trans
  constructor
  · simp only [step, input, h, List.cons_append]
    cases e <;> simp only [hp]
  · simp only [step, h]
    cases e <;> simp only [hp]

/-- **release_undoes_press**: when a release takes effect, every contribution made by presses of that
coordinate is gone — whatever layers were active then or now — and every other contribution is kept,
in order. -/
theorem release_undoes_press (km : Keymap) (s : State) (c : Coord) (rest : List Ev)
    (h : s.pending = .release c :: rest) :
    (∀ x ∈ (step km s).contribs, contribCoord x ≠ c) ∧
    (step km s).contribs = s.contribs.filter (fun x => contribCoord x != c) ∧
    (step km s).base = s.base := by
  simp only [step, h]
  refine ⟨?_, by first | rfl | trivial, by first | rfl | trivial⟩
  intro x hx
  have := (List.mem_filter.mp hx).2
  simpa using this

/-- **press_searches_in_order**: the action a press performs is the first non-transparent entry in
the search order — held layers from the most recently activated to the oldest, then the base layer,
then (when configured) the first layer — and the defsrc key if all are transparent. -/
theorem press_searches_in_order (km : Keymap) (c : Coord) (order : List Nat) :
    (∀ l ∈ order, tableAction km l c = .trans) →
      lookup km c order = (if c.1 == 0 then km.cfg.srcKey c.2 else .noOp, []) := by
  induction order with
  | nil => intro _; rfl
  | cons l rest ih =>
    intro h
    rw [lookup_cons_trans (h l List.mem_cons_self)]
    exact ih fun x hx => h x (List.mem_cons_of_mem _ hx)

theorem press_finds_first (km : Keymap) (c : Coord) (pre : List Nat) (l : Nat) (post : List Nat)
    (hpre : ∀ x ∈ pre, tableAction km x c = .trans) (hl : tableAction km l c ≠ .trans) :
    lookup km c (pre ++ l :: post) = (tableAction km l c, post) := by
  induction pre with
  | nil => exact lookup_cons_found hl post
  | cons x xs ih =>
    rw [List.cons_append, lookup_cons_trans (hpre x List.mem_cons_self)]
    exact ih fun y hy => hpre y (List.mem_cons_of_mem _ hy)

/-- the search order itself -/
theorem search_order_spec (km : Keymap) (s : State) :
    searchOrder km s =
      if km.layerStack then
        heldLayers s ++ [s.base] ++ (if km.delegateToFirst && currentLayer s != 0 && s.base != 0 then [0] else [])
      else [currentLayer s] ++ (if km.delegateToFirst && currentLayer s != 0 then [0] else []) := rfl

/-- **init_inert**: a freshly created layout is inert (so the theorems apply from start-up). -/
theorem init_inert (cfg : LCfg) (tv2 dfl qth : Bool) (osd : Nat) :
    Inert { cfg := cfg, transV2 := tv2, delegateToFirstLayer := dfl, quickTapHoldTimeout := qth,
            oneshot := { pauseInputProcessingDelay := osd } } :=
  ⟨rfl, rfl, rfl, rfl, rfl, rfl, rfl, fun _ h => by cases h⟩

/-- capacities used by the model are the ones in the source tree now -/
theorem consts_from_source :
    ACTION_QUEUE_LEN = Gen.ACTION_QUEUE_LEN ∧ MAX_ACTIVE_LAYERS = Gen.MAX_ACTIVE_LAYERS := by decide

/-! ### Non-vacuity: a three-layer configuration with every kind of action of the fragment -/

def sampleCfg : LCfg :=
  { layers := [
      [((0, 30), .layer 1), ((0, 48), .multipleActions [.keyCode 42, .layer 2]), ((0, 46), .keyCode 45)],
      [((0, 30), .trans), ((0, 48), .defaultLayer 2), ((0, 46), .multipleKeyCodes [42, 2])],
      [((0, 30), .src), ((0, 48), .releaseState (.layer 1)), ((0, 46), .multipleActions [.trans, .releaseState (.keyCode 42)])]],
    srcKeys := [(30, .keyCode 30), (48, .keyCode 48), (46, .keyCode 46)] }

theorem sampleCfg_cfgFrag : CfgFrag sampleCfg := by
  refine ⟨?_, ?_⟩
  · intro tbl ht e he
    simp only [sampleCfg, List.mem_cons, List.mem_nil_iff, or_false] at ht
    rcases ht with rfl | rfl | rfl <;>
      (simp only [List.mem_cons, List.mem_nil_iff, or_false] at he
       rcases he with rfl | rfl | rfl <;> simp [Frag, FragL])
  · intro e he
    simp only [sampleCfg, List.mem_cons, List.mem_nil_iff, or_false] at he
    rcases he with rfl | rfl | rfl <;> simp [Frag]

example : CfgFrag sampleCfg := sampleCfg_cfgFrag

/-! ### Beyond the bound of `Safe`: twelve and more layers held at once (known finding) -/

/-- layers 1 … n held, activated in that order -/
def heldN (n : Nat) : Layout :=
  { cfg := { layers := [], srcKeys := [] },
    states := (List.range n).map fun i => .layerModifier (i + 1) (0, 59 + i) }

/-- **twelve_held_layers_skip_base_counterexample**: the statement searches "the held layers from most
recently activated to oldest, then the base layer"; `LayerStack` has 12 entries, the held layers go in
first and the base layer is pushed with `let _ = v.push(..)`: with twelve layers held the base layer
(0) is not in the order the layout uses, and with thirteen the oldest held layer (1) is missing as
well, while the layered machine of the specification has both. Reproduced on the real code
(corpus/C04.txt, KNOWN_FINDINGS.jsonl); this is why `Safe` bounds the held layers by 10. -/
theorem twelve_held_layers_skip_base_counterexample :
    (heldN 12).transOrder = .ok [12, 11, 10, 9, 8, 7, 6, 5, 4, 3, 2, 1] ∧
    searchOrder (km (heldN 12)) (abs (heldN 12)) = [12, 11, 10, 9, 8, 7, 6, 5, 4, 3, 2, 1, 0] ∧
    (heldN 13).transOrder = .ok [13, 12, 11, 10, 9, 8, 7, 6, 5, 4, 3, 2] ∧
    searchOrder (km (heldN 13)) (abs (heldN 13)) = [13, 12, 11, 10, 9, 8, 7, 6, 5, 4, 3, 2, 1, 0] ∧
    (heldN 11).transOrder = .ok (searchOrder (km (heldN 11)) (abs (heldN 11))) := by
  refine ⟨rfl, by decide, rfl, by decide, rfl⟩

/-! ### The emission step: a key can be released twice (known finding) -/

/-- two keys that both output `lsft` are held: the layout's key list, and with it `prev_keys`, holds
`lsft` twice -/
def dupWitness : K.KState :=
  { layout := { cfg := { layers := [[]], srcKeys := [] } }, customs := [], keyOutputs := [[]],
    mods := { codes := [42, 54, 56, 100, 29, 97, 125, 126], lsft := 42, rsft := 54 },
    prevKeys := [42, 42] }

/-- **duplicate_release_counterexample**: the OS events of the statement are "the ordered,
de-duplicated diff of consecutive key lists"; presses are de-duplicated (`pressNew` extends `prev_keys`
as it goes), releases are not: `prev_keys` keeps the duplicates of the layout's key list, and when all
of them go away in the same tick (`(release-key lsft)`) the release loop emits `up lsft` twice.
Reproduced on the real code (corpus/C04.txt, observable `OS=` of the C04 harness); known finding. -/
theorem duplicate_release_counterexample :
    (K.releaseOld dupWitness [] false).out = [.up 42, .up 42] ∧
    (K.pressNew { dupWitness with prevKeys := [] } [42, 42]).out = [.down 42] := by
  refine ⟨by decide, by decide⟩

end KVerif.C04
