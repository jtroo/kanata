/-
C09 — chords v2 (`defchordsv2`).  Property theorems only; helper lemmas are in Lemmas/ChordsV2.lean,
Lemmas/ChordsV2Release.lean, Lemmas/ChordsV2Exact.lean and Lemmas/ChordsV2Full.lean.

Model/ChordsV2.lean follows keyberon/src/chord.rs AFTER the three fixes
  <fix-capacity>  a full `active_chords` list means "no chord activated" instead of a panic,
  <fix-cooldown>  releases reach the active chords during the cool-down as well,
  <fix-double>    the block after the loop of `process_presses` does not run when the loop activated a chord.
It is validated differentially (key lists, custom events and a digest of the private state of `Layout`
and `ChordsV2`).  Part 1 proves, for every state / table / queue, what the fixes make true.  Part 2
keeps the three defects of the code before the fixes as kernel-evaluated counterexamples over
Model/ChordsV2Pinned.lean (used nowhere else).  Part 3 is the exact-set statement.
-/
import KVerif.Lemmas.ChordsV2Full
import KVerif.Model.ChordsV2Pinned
import KVerif.Gen.ChordV2Consts
namespace KVerif.C09
open KVerif.L

/-! ## 1. What holds of the fixed code, for all states -/

/-- **chv2_consts_from_source**: the capacities the model uses, and the three code shapes the repaired
behaviour rests on, are those of the source tree now (`KVerif.Gen.ChordV2Consts` is regenerated from
/repo on every run). -/
theorem chv2_consts_from_source :
    SMOL_Q_LEN = Gen.CHV2_SMOL_Q_LEN ∧ DRAIN_Q_LEN = Gen.CHV2_DRAIN_Q_LEN ∧
    ACTIVE_CHORDS_CAP = Gen.CHV2_ACTIVE_CAP ∧ QUEUE_SIZE = Gen.CHV2_QUEUE_SIZE ∧
    Gen.CHV2_QUEUE_SIZE + Gen.CHV2_ACTIVE_CAP + 2 ≤ Gen.CHV2_DRAIN_Q_LEN ∧
    Gen.CHV2_PRESS_LISTS_UNASSERTED = true ∧ Gen.CHV2_HANDOVER_BY_PUSH_BACK = true ∧
    Gen.CHV2_COOLDOWN_EXTEND = true := by decide

/-- **chord_v2_only_drain_queue_assert** (full; after the repair of the two press lists).  The two
`debug_assert`s on the 16-slot press lists of `drain_releases` / `process_presses` - reachable on the
pinned code with 17 presses queued between two ticks (debug builds panicked: `p a` x 17, tick) - are
gone: the only remaining way for a tick of the chords-v2 machine to fail is the drain-queue assertion
(more than 16 virtual-key events or released chords handed back in one tick). -/
theorem chord_v2_only_drain_queue_assert (s : ChV2) (layer : Nat) (c : Crash) (h : tickChv2 s layer = .error c) :
    c = crashDQ := by
  rw [tickChv2_eq] at h
  split at h
  · rename_i c' he; cases h; exact drainInputs_err _ _ _ _ he
  · exact tickTail_err h

/-- **chord_v2_crash_sites** (full).  One tick of the chords-v2 machine, from ANY state, on any layer,
either succeeds or fails at one of three bounded-queue assertions (more than 16 virtual-key events /
released chords for the drain queue, more than 16 presses queued): the table lookup
`chord_candidates[0]` cannot fail, and a full `active_chords` list is not a failure any more. -/
theorem chord_v2_crash_sites (s : ChV2) (layer : Nat) (c : Crash) (h : tickChv2 s layer = .error c) :
    c = crashDQ ∨ c = crashPR ∨ c = crashTM :=
  Or.inl (chord_v2_only_drain_queue_assert s layer c h)

/-- the pinned code: 17 presses queued between two ticks trip the `debug_assert` of `drain_releases`
(reproduced on the real code in a debug build: chords v2 configured, `d:a` x 17, one tick); the
repaired function keeps them all queued -/
theorem press_list_debug_assert_pinned_counterexample :
    Pinned.drainReleasesDbg (List.replicate 17 ⟨.press (0, 30), 0⟩) 0 [] [] = .error crashPR ∧
    drainReleases (List.replicate 17 ⟨.press (0, 30), 0⟩) 0 [] [] =
      .ok (List.replicate 17 ⟨.press (0, 30), 0⟩, [], []) := by
  constructor <;> rfl

/-- **chord_v2_no_capacity_crash** (full; the capacity theorem without hypothesis).  No state, no queue
contents and no number of active chords makes the v2 machine stop with "active chords has room"; and
the chords-v2 prologue of `Layout::tick` fails only where the v2 machine does (the drain-queue
assertion) or where the hand-over to the layout queue does - which, since the hand-over repair, is
`Layout::event`'s own overflow path (waiting keys forced to hold, oldest event processed at once),
no event is dropped. -/
theorem chord_v2_no_capacity_crash :
    (∀ (s : ChV2) (layer : Nat), tickChv2 s layer ≠ .error (.indexOOB "active chords has room")) ∧
    (∀ (s : LayoutV2) (c : Crash), tickV2Pre s = .error c →
      c = crashDQ ∨ ∃ ch ch' dq, s.chv2 = some ch ∧ tickChv2 ch s.lay.currentLayer = .ok (ch', dq) ∧
        handOver s.lay dq = .error c) := by
  have h1 : ∀ (s : ChV2) (layer : Nat), tickChv2 s layer ≠ .error (.indexOOB "active chords has room") := by
    intro s layer h
    have e := chord_v2_only_drain_queue_assert s layer _ h
    simp [crashDQ] at e
  refine ⟨h1, ?_⟩
  intro s c h
  obtain ⟨ch, hch, he | ⟨ch', dq, hok, he⟩⟩ := tickV2Pre_err h
  · exact Or.inl (chord_v2_only_drain_queue_assert _ _ _ he)
  · exact Or.inr ⟨ch, ch', dq, hch, hok, he⟩

example : crashDQ ≠ .indexOOB "active chords has room" := by decide

/-- **chord_v2_active_bounded** (full).  The ten slots are never exceeded: a tick keeps
`active_chords.len() ≤ 10`. -/
theorem chord_v2_active_bounded (s s' : ChV2) (layer : Nat) (dq : List Queued)
    (h : tickChv2 s layer = .ok (s', dq)) (hb : s.active.length ≤ ACTIVE_CHORDS_CAP) :
    s'.active.length ≤ ACTIVE_CHORDS_CAP := by
  obtain ⟨js, new, _, _, hnew, hA, _⟩ := tickChv2_active h
  rw [hA]
  refine Nat.le_trans (List.length_filter_le _ _) ?_
  rw [List.length_append, List.length_map]
  rcases hnew with rfl | ⟨ach, rfl, _, hl⟩
  · exact hb
  · exact hl

/-- **chord_v2_activates_once_and_exactly** (full, any table — overlapping candidates, backtracking,
more than 16 candidates).  One run of `process_presses` changes `active_chords` in at most one way:
it appends ONE chord.  That chord is an entry of the first pressed key's table entry, enabled on the
current layer, whose participant set equals (both inclusions) a prefix `acc` of the pressed keys in
press order; exactly the presses of the keys in `acc` leave the v2 queue (so no participant's own
action is performed), and nothing else of the queue changes.  If nothing is activated the queue is
untouched. -/
theorem chord_v2_activates_once_and_exactly (s s' : ChV2) (layer : Nat) (h : processPresses s layer = .ok s') :
    (s'.active = s.active ∧ s'.queue = s.queue) ∨
    ∃ presses relFound starting possible cch coord acc,
      collectPresses s.queue [] = .ok (presses, relFound) ∧ presses.head? = some starting ∧
      s.cfg.get starting = some possible ∧
      cch ∈ possible ∧ enabledOn layer cch = true ∧ exactMatch acc cch = true ∧ acc <+: presses ∧
      s.active.length < ACTIVE_CHORDS_CAP ∧
      s'.active = s.active ++ [getActiveChord cch (sinceOf s) coord relFound] ∧
      s'.queue = ppRetain s.queue acc :=
  processPresses_spec s s' layer h

/-- **chord_v2_released_with_participants** (full; the "no stuck output" statement for v2).  Take any
state and any active chord `a` whose bookkeeping is sane (the keys still to be released are
participants).  If the queue holds a release of every key still to be released — and of at least one
participant — then ONE tick that looks at the queue, in the cool-down or not, whatever else is
queued and in whatever order, ends the chord:
* if its action had already been handed to the layout, the release of its virtual coordinate is in
  the events forwarded to the layout queue on this very tick and the chord is gone;
* if not, it is still there, marked UnreadReleased with nothing left to release: its action is handed
  out by `get_action_chv2` (`chord_v2_pending_is_delivered`) and its coordinate is released by the
  tick after that. -/
theorem chord_v2_released_with_participants (s s' : ChV2) (layer : Nat) (dq : List Queued)
    (h : tickChv2 s layer = .ok (s', dq)) (hproc : processesQueue s layer)
    (a : ActiveChord) (ha : a ∈ s.active)
    (hsub : ∀ k ∈ a.remaining, a.keys.contains k = true)
    (hall : ∀ k ∈ a.remaining, ∃ qd ∈ s.queue, qd.ev = .release (0, k))
    (hsome : ∃ k, a.keys.contains k = true ∧ ∃ qd ∈ s.queue, qd.ev = .release (0, k)) :
    (unreadClass a.status = false →
      (⟨.release (0, a.coordinate), 0⟩ : Queued) ∈ dq ∧ ∀ a' ∈ s'.active, a'.status ≠ .released) ∧
    (unreadClass a.status = true →
      ∃ a' ∈ s'.active, a'.coordinate = a.coordinate ∧ a'.action = a.action ∧
        a'.status = .unreadReleased ∧ a'.remaining = []) := by
  obtain ⟨js, new, hjs, _, _, hA, hrel⟩ := tickChv2_active h
  -- the chord after ageing and the releases: every key it waited for is among them
  have hb : relAll js (agedChord a) ∈ (s.active.map fun a => relAll js (agedChord a)) ++ new :=
    List.mem_append_left _ (List.mem_map.mpr ⟨a, ha, rfl⟩)
  have hfld := relAll_fields js (agedChord a)
  have hcls := relAll_class js (agedChord a)
  obtain ⟨hpend, hrem⟩ := relAll_all_released js (agedChord a) hsub (fun k hk => hjs hproc k (hall k hk))
    (let ⟨k, hk1, hk2⟩ := hsome; ⟨k, hjs hproc k hk2, hk1⟩)
  constructor
  · intro hcl
    have hst : (relAll js (agedChord a)).status = .released := by
      refine hpend.resolve_left fun e => ?_
      rw [e] at hcls
      exact absurd (hcls.trans hcl) (by decide)
    exact ⟨hfld.1 ▸ hrel _ hb hst, tickChv2_no_released h⟩
  · intro hcl
    have hst : (relAll js (agedChord a)).status = .unreadReleased := by
      refine hpend.resolve_right fun e => ?_
      rw [e] at hcls
      exact absurd (hcls.trans hcl) (by decide)
    refine ⟨_, ?_, hfld.1, hfld.2.2.1, hst, hrem⟩
    rw [hA]
    exact List.mem_filter.mpr ⟨hb, by rw [hst]; rfl⟩

/-- **chord_v2_pending_is_delivered** (full).  `get_action_chv2` hands out exactly the FIRST chord whose
action the layout has not seen yet, with that chord's virtual coordinate, age and action, and marks
it Releasable — or Released when its release is already pending; it touches nothing else.  With no
such chord it returns nothing.  So every activation reaches the layout exactly once, in activation
order, one per tick. -/
theorem chord_v2_pending_is_delivered : ∀ (achs : List ActiveChord),
    (achs.all (fun a => !unreadClass a.status) = true ∧ getActionChv2 achs = (achs, none)) ∨
    ∃ pre x post, achs = pre ++ x :: post ∧ pre.all (fun a => !unreadClass a.status) = true ∧
      unreadClass x.status = true ∧
      getActionChv2 achs =
        (pre ++ { x with status := if x.status = .unread then .releasable else .released } :: post,
         some ((0, x.coordinate), x.delay, x.action)) := by
  intro achs
  induction achs with
  | nil => exact Or.inl ⟨rfl, rfl⟩
  | cons a rest ih =>
    cases hc : unreadClass a.status with
    | true => exact Or.inr ⟨[], a, rest, rfl, rfl, hc, getActionChv2_cons_unread a rest hc⟩
    | false =>
      have hall : ∀ l : List ActiveChord, l.all (fun a => !unreadClass a.status) = true →
          (a :: l).all (fun a => !unreadClass a.status) = true := fun l h => by rw [List.all_cons, hc, h]; rfl
      rw [getActionChv2_cons_seen a rest hc]
      rcases ih with ⟨h1, h2⟩ | ⟨pre, x, post, e, h1, h2, h3⟩
      · exact Or.inl ⟨hall _ h1, by rw [h2]⟩
      · exact Or.inr ⟨a :: pre, x, post, by rw [e]; rfl, hall _ h1, h2, by rw [h3]; rfl⟩

/-- **chord_v2_released_chord_leaves** (full).  A chord marked Released is removed by the next tick —
on every path through `tick_chv2`, also the "nothing changed" fast path and the cool-down — and the
release of its virtual coordinate is among the events forwarded to the layout queue. -/
theorem chord_v2_released_chord_leaves (s s' : ChV2) (layer : Nat) (dq : List Queued)
    (h : tickChv2 s layer = .ok (s', dq)) (a : ActiveChord) (ha : a ∈ s.active) (hst : a.status = .released) :
    (⟨.release (0, a.coordinate), 0⟩ : Queued) ∈ dq ∧ ∀ a' ∈ s'.active, a'.status ≠ .released := by
  obtain ⟨js, new, _, _, _, _, hrel⟩ := tickChv2_active h
  have := hrel (relAll js (agedChord a)) (List.mem_append_left _ (List.mem_map.mpr ⟨a, ha, rfl⟩))
    (relAll_released js (agedChord a) hst)
  rw [(relAll_fields js (agedChord a)).1] at this
  exact ⟨this, tickChv2_no_released h⟩

/-- **chord_v2_unmatched_keys_are_forwarded** (full: for queues of at most 46 events, and the input
queue holds 32; before the hand-over repair the hand-over queue had 16 slots and the 17th event of a
cool-down tick was dropped - a lost release left a key down for good).  Keys that do not
complete a chord are not swallowed.  (1) When the first pressed key is in no chord at all,
`process_presses` changes nothing but starts the cool-down.  (2) A tick in the cool-down forwards the
WHOLE v2 queue to the layout, first and in its original order (followed only by chords v2's own no-op
and coordinate-release events), and empties it.  (Whenever `process_presses` activates nothing it
leaves the queue untouched — `chord_v2_activates_once_and_exactly` — and every arm that gives up
starts the cool-down.) -/
theorem chord_v2_unmatched_keys_are_forwarded :
    (∀ (s : ChV2) (layer : Nat) (ps : List Nat) (rf : Option Nat) (p1 : Nat),
      collectPresses s.queue [] = .ok (ps, rf) → ps.head? = some p1 → s.cfg.get p1 = none →
      processPresses s layer = .ok { s with ticksToIgnore := s.cfg.minIdle }) ∧
    (∀ (s s' : ChV2) (layer : Nat) (dq : List Queued), s.ticksToIgnore > 0 → s.queue.length + 2 ≤ DRAIN_Q_LEN →
      tickChv2 s layer = .ok (s', dq) →
      s'.queue = [] ∧ ∃ extra, dq = s.queue.map (fun (q : Queued) => { q with since := min (q.since + 1) U16_MAX }) ++ extra) := by
  refine ⟨?_, ?_⟩
  · intro s layer ps rf p1 hcp hh hg
    unfold processPresses
    simp only [hcp, hh, hg]
  · intro s s' layer dq hti hlen h
    obtain ⟨s1, dq1, hd, rfl, rfl⟩ := tickChv2_ok h
    rw [drainInputs_cool _ _ _ (show (agedV2 s).ticksToIgnore > 0 from hti)] at hd
    cases hd
    have hl : (agedV2 s).queue.length + 2 ≤ DRAIN_Q_LEN := by rw [agedV2_queue_length]; exact hlen
    rw [drainExtend_fits _ _ (by simpa using Nat.le_of_succ_le (Nat.le_of_succ_le hl)), List.nil_append,
      tickNoops_fits _ _ _ hl, List.append_assoc]
    exact ⟨rfl, _, rfl⟩

/-! ## 2. The code before the fixes: pinned counterexamples (Model/ChordsV2Pinned.lean) -/

inductive In | p (y : Nat) | r (y : Nat) | t (n : Nat)

/-- `n` ticks with the given tick function (`LayoutV2.tick` = the code as fixed, `Pinned.tickV2` =
the code before the three fixes) -/
def ticksV2 (tk : LayoutV2 → Except Crash (LayoutV2 × CustomEv)) : Nat → LayoutV2 → Except Crash LayoutV2
  | 0, s => .ok s
  | n + 1, s => match tk s with
    | .error c => .error c
    | .ok (s, _) => ticksV2 tk n s

def stepsV2 (tk : LayoutV2 → Except Crash (LayoutV2 × CustomEv)) : List In → LayoutV2 → Except Crash LayoutV2
  | [], s => .ok s
  | .p y :: rest, s => match s.event (.press (0, y)) with
    | .error c => .error c
    | .ok s => stepsV2 tk rest s
  | .r y :: rest, s => match s.event (.release (0, y)) with
    | .error c => .error c
    | .ok s => stepsV2 tk rest s
  | .t n :: rest, s => match ticksV2 tk n s with
    | .error c => .error c
    | .ok s => stepsV2 tk rest s

def crashOf {α} : Except Crash α → Option Crash
  | .error c => some c
  | .ok _ => none

/-- what is observed of a run: held key codes, lengths of the two input queues, and per active chord
the keys still to be released -/
def obsV2 : Except Crash LayoutV2 → Option (List Nat × Nat × Nat × List (List Nat))
  | .error _ => none
  | .ok s => some (s.lay.keycodes, s.lay.queue.length, ((s.chv2.map (·.queue.length)).getD 0),
                   (s.chv2.map fun c => c.active.map (·.remaining)).getD [])

/-- keys a b c mapped to themselves; `(defchordsv2 (a b) 1 50 all-released ())` -/
def v2Chord : ChordV2 := { action := .keyCode 2, keys := [30, 48], pending := 50, disabledLayers := [], release := .onLastRelease }
def v2Start : LayoutV2 :=
  { lay := { cfg := { layers := [[((0, 30), .keyCode 30), ((0, 48), .keyCode 48), ((0, 46), .keyCode 46)]],
                      srcKeys := [(30, .keyCode 30), (48, .keyCode 48), (46, .keyCode 46)] },
             oneshot := { pauseInputProcessingDelay := 5 } },
    chv2 := some { cfg := { mapping := [(30, [v2Chord]), (48, [v2Chord])], minIdle := 5 } } }

def elevenTimes : List In := (List.replicate 11 [In.p 30, In.p 48, In.t 3]).flatten
def stuckHistory : List In := [.p 30, .p 48, .t 5, .r 48, .t 5, .p 46, .t 1, .r 30, .t 1, .r 46, .t 60]
def edgeHistory : List In := [.p 30, .t 49, .p 48, .t 3]

/-- the history of the capacity counterexample on the fixed code, evaluated once: no crash, and all ten
slots are taken at the end -/
theorem elevenTimes_fixed :
    crashOf (stepsV2 LayoutV2.tick elevenTimes v2Start) = none ∧
    (obsV2 (stepsV2 LayoutV2.tick elevenTimes v2Start)).map (·.2.2.2.length) = some 10 := by
  decide +kernel

/-- **chord_v2_capacity_crash_counterexample** (before <fix-capacity>).  `(defchordsv2 (a b) 1 50
all-released ())`, a and b pressed eleven times without a release: the eleventh activation finds the
ten slots of `active_chords` taken and `assert!(overflow.is_ok(), "active chords has room")` panics.
The same history on the fixed code does not crash; the keys of the eleventh press come out as plain
keys. -/
theorem chord_v2_capacity_crash_counterexample :
    crashOf (stepsV2 Pinned.tickV2 elevenTimes v2Start) = some (.indexOOB "active chords has room") ∧
    crashOf (stepsV2 LayoutV2.tick elevenTimes v2Start) = none :=
  ⟨by decide +kernel, elevenTimes_fixed.1⟩

/-- **chord_v2_stuck_counterexample** (before <fix-cooldown>; C09 "released no later than the release of
all participants" was false for v2).  The chord is activated, b is released, c (in no chord) is
tapped — which starts the cool-down — and a is released one tick later, inside the cool-down: every
physical key is up, both queues are empty, yet the chord's key (code 2) is still held and the chord
is still active.  On the fixed code the same history ends with nothing held and no active chord. -/
theorem chord_v2_stuck_counterexample :
    obsV2 (stepsV2 Pinned.tickV2 stuckHistory v2Start) = some ([2], 0, 0, [[30]]) ∧
    obsV2 (stepsV2 LayoutV2.tick stuckHistory v2Start) = some ([], 0, 0, []) := by
  decide +kernel

/-- **chord_v2_double_activation_counterexample** (before <fix-double>; C09 "performed once" was false
for v2).  The second key arrives 49 ticks after the first (timeout 50): the chord is pushed by the
loop of `process_presses` and once more by the block after the loop — two active chords, the action
on two coordinates (the one queued layout event is the no-op press chords v2 forwards to trigger
tap-hold decisions).  On the fixed code: one active chord, the key once. -/
theorem chord_v2_double_activation_counterexample :
    obsV2 (stepsV2 Pinned.tickV2 edgeHistory v2Start) = some ([2, 2], 1, 0, [[30, 48], [30, 48]]) ∧
    obsV2 (stepsV2 LayoutV2.tick edgeHistory v2Start) = some ([2], 1, 0, [[30, 48]]) := by
  decide +kernel

/-! ## 3. The exact-set statement for v2 -/

/-- **chord_v2_exact_set_partial** (general table: overlapping candidates, sub- and super-chords).  Full
statement, not proved: `chord_v2_exact_set` — over a whole history, all keys of a defined enabled
chord pressed in any order within its timeout activate it exactly once and consume the participants.
What is proved is the decision `process_presses` takes on ONE scan, for every table; what is missing
is the composition over the ticks during which the keys arrive (each earlier scan takes the "wait"
branch below or the fast path) and the arms listed at the end.  The queued presses `ps` are distinct (`collectPresses … = (ps, rf)`:
the presses up to the first queued release of one of them, `rf` = there is such a release; releases
of other keys may be mixed in), and `ps` is —
in ANY order — exactly the key set of a chord `C` of the first key's table entry that is enabled on
the layer; one of the ten slots is free.  (The 16-slot `chord_candidates` list may overflow: the
loop then rebuilds it from the table on every key, which the proof follows.)  With `F` = the enabled chords containing all
pressed keys (`C` and its enabled strict supersets), `process_presses`
* ACTIVATES, exactly once, a chord whose key set is exactly `ps` — `C` itself when `F = [C]` — and
  removes exactly the presses of `ps` from the queue, when `C` is unambiguous (`F = [C]`), or the
  shortest timeout among `F` has run out (`minPending F ≤ since`), or a participant has already been
  released (`rf`);
* otherwise (a strict superset is still possible and in time) changes nothing but the countdown
  `ticks_until_next_state_change = minPending F − since`: no activation, queue untouched;
and in neither case starts the cool-down.  Whether this is the first, an inner or the last
permutation of the keys makes no difference: `ps` enters only through its set of keys.

Not covered (they stay with `chord_v2_activates_once_and_exactly`, which bounds what CAN happen, and
with the differential oracle): the same key pressed twice in the queue (impossible for a physically consistent queue: collecting
stops at the first release of a collected key), and pressed sets that are not a chord
but have a chord as a proper prefix (the backtracking arm). -/
theorem chord_v2_exact_set_partial (s : ChV2) (layer : Nat) (ps : List Nat) (p1 : Nat) (possible : List ChordV2) (C : ChordV2)
    (rf : Option Nat) (hcp : collectPresses s.queue [] = .ok (ps, rf)) (hhead : ps.head? = some p1)
    (hget : s.cfg.get p1 = some possible) (hnd : ps.Nodup)
    (hC : C ∈ possible) (hen : enabledOn layer C = true) (hex : exactMatch ps C = true)
    (hroom : s.active.length < ACTIVE_CHORDS_CAP) :
    ∃ s', processPresses s layer = .ok s' ∧ s'.ticksToIgnore = s.ticksToIgnore ∧
      (((Fk possible layer ps = [C] ∨ minPending (Fk possible layer ps) ≤ sinceOf s ∨ rf.isSome = true) ∧
        ∃ cch coord, cch ∈ possible ∧ enabledOn layer cch = true ∧ exactMatch ps cch = true ∧
          (Fk possible layer ps = [C] → cch = C) ∧
          s'.active = s.active ++ [getActiveChord cch (sinceOf s) coord rf] ∧
          s'.queue = ppRetain s.queue ps) ∨
       (2 ≤ (Fk possible layer ps).length ∧ sinceOf s < minPending (Fk possible layer ps) ∧ rf.isSome = false ∧
        s'.active = s.active ∧ s'.queue = s.queue ∧
        s'.ticksUntilChange = minPending (Fk possible layer ps) - sinceOf s)) := by
  have hin : ps.all (C.keys.contains ·) = true ∧ C.keys.all (ps.contains ·) = true := by
    simpa only [exactMatch, Bool.and_eq_true] using hex
  have hCF : C ∈ Fk possible layer ps := mem_Fk.mpr ⟨hC, hen, hin.1⟩
  by_cases h2 : 2 ≤ (Fk possible layer ps).length
  · -- a strict superset is still possible: no prefix of the presses decides
    have hu := undecided_prefixes_of_chord possible layer ps C hnd hC hen hex h2
    have hnotC : Fk possible layer ps = [C] → False := fun hF => absurd (show 2 ≤ [C].length from hF ▸ h2) (Nat.not_succ_le_self 1)
    by_cases hto : minPending (Fk possible layer ps) ≤ sinceOf s ∨ rf.isSome = true
    · -- the window has closed: the first exact match is activated, and `C` is one
      obtain ⟨s', hp, hres⟩ := processPresses_resolve hcp hhead hget hu hto hroom
      cases hfind : (possible.filter (enabledOn layer)).find? (exactMatch ps) with
      | none => exact absurd hex (List.find?_eq_none.mp hfind C (List.mem_filter.mpr ⟨hC, hen⟩))
      | some cch =>
        rw [hfind] at hres
        obtain ⟨coord, hact, hq, htti⟩ := hres
        have hmem := List.mem_filter.mp (List.mem_of_find?_eq_some hfind)
        exact ⟨s', hp, htti, Or.inl ⟨Or.inr hto, cch, coord, hmem.1, hmem.2, List.find?_some hfind,
          fun hF => (hnotC hF).elim, hact, hq⟩⟩
    · have hrf : rf = none := by
        cases rf with
        | none => rfl
        | some j => exact absurd (Or.inr rfl) hto
      subst hrf
      have hlt : sinceOf s < minPending (Fk possible layer ps) := Nat.lt_of_not_le fun h => hto (Or.inl h)
      obtain ⟨nc, hp⟩ := processPresses_wait hcp hhead hget hu hlt
      exact ⟨_, hp, rfl, Or.inr ⟨h2, hlt, rfl, rfl, rfl, rfl⟩⟩
  · -- `C` is the only candidate left: completed by the last press
    have hF : Fk possible layer ps = [C] := by
      match hFk : Fk possible layer ps with
      | [] => rw [hFk] at hCF; cases hCF
      | [x] => rw [hFk] at hCF; rw [List.mem_singleton.mp hCF]
      | _ :: _ :: _ => rw [hFk] at h2; exact absurd (Nat.le_add_left 2 _) h2
    obtain ⟨pre, p, hps⟩ : ∃ pre p, ps = pre ++ [p] := by
      cases hd : ps.reverse with
      | nil => rw [List.reverse_eq_nil_iff.mp hd] at hhead; cases hhead
      | cons p t => exact ⟨t.reverse, p, by rw [← List.reverse_reverse ps, hd, List.reverse_cons]⟩
    subst hps
    obtain ⟨s', coord, hp, hact, hq, htti⟩ := processPresses_complete (rest := []) hcp hhead hget rfl
      (fun r hr _ => undecided_of_chord possible layer _ C hnd hC hen hex r (hr.trans (List.prefix_append _ _))
        (Nat.lt_of_le_of_lt hr.length_le (by rw [List.length_append]; exact Nat.lt_succ_self _)))
      hF hin.2 hroom
    exact ⟨s', hp, htti, Or.inl ⟨Or.inl hF, C, coord, hC, hen, hex, fun _ => rfl, hact, hq⟩⟩

/-! ## 4. After the repairs PENDING-1 .. PENDING-4 (remarks t3) -/

/-- PENDING-2: during the cool-down, events of the virtual-key rows leave the active chords alone, whatever
their index (before the repair a release at `(1, n)` released the participant with key code `n`) -/
theorem chord_v2_cooldown_ignores_virtual_rows (s : ChV2) (dq : List Queued) (layer : Nat)
    (hcool : s.ticksToIgnore > 0) (hq : ∀ qd ∈ s.queue, qd.ev.coord.1 ≠ 0) :
    drainInputs s dq layer = .ok ({ s with queue := [], active := s.active, ticksUntilChange := 0 }, drainExtend dq s.queue) := by
  have hnil : realInputs s.queue = [] := by
    unfold realInputs
    rw [List.filter_eq_nil_iff]
    intro qd hm
    simpa using hq qd hm
  rw [drainInputs_cool s dq layer hcool, hnil]
  rfl

example : (∀ qd ∈ [(⟨.release (1, 2), 0⟩ : Queued)], qd.ev.coord.1 ≠ 0) := by
  intro qd h; simp only [List.mem_singleton] at h; subst h; decide

/-- PENDING-3: a chord is created already released only if it is a first-release chord AND the released
key is one of its participants -/
theorem chord_v2_created_released_iff (cch : ChordV2) (since coord : Nat) (released : Option Nat) :
    (getActiveChord cch since coord released).status = .unreadReleased ↔
      (cch.release = .onFirstRelease ∧ ∃ j, released = some j ∧ cch.keys.contains j = true) := by
  cases released <;> cases hr : cch.release <;> simp [getActiveChord, relHits, hr]

example : (getActiveChord { v2Chord with release := .onFirstRelease } 1 851 (some 46)).status = .unread ∧
    (getActiveChord { v2Chord with release := .onFirstRelease } 1 851 (some 30)).status = .unreadReleased := ⟨rfl, rfl⟩

example : collectPresses [⟨.press (0, 48), 3⟩, ⟨.press (0, 30), 1⟩] [] = .ok ([48, 30], none) ∧
    exactMatch [48, 30] v2Chord = true ∧ Fk [v2Chord] 0 [48, 30] = [v2Chord] := ⟨rfl, rfl, rfl⟩

end KVerif.C09
