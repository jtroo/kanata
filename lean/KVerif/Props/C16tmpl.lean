/-
C16 — configuration abstractions are transparent: the three template theorems of `Props/C16.lean`
that were partial (`cond_loop_is_spec_partial`, `template_rewrite_neutral_partial`,
`expand_is_subst_partial`), at full strength.  Property theorems only; the lemmas are in
`Lemmas/CfgTreeHeadOnly.lean`, `Lemmas/CfgTreeCondFull.lean`, `Lemmas/CfgTreeAbstract.lean`,
`Lemmas/CfgTreeExpandFull.lean`; the model is `Model/CfgTree.lean` (it follows deftemplate.rs after
819344a and 589d367: `deftemplate` items are removed before the expansion loop runs, so a call
inside a template body is expanded when the body has been instantiated; parameters are substituted
in one simultaneous pass; the expanded list is built in one pass).

The unconditional statements `condLoop (size+1) ts = condSpec ts` and
`(∃ F, expandLoop F T ts = .ok r) ↔ (∃ f, expandSpec f T ts = .ok r)` are FALSE (counterexamples
below): an evaluation step may make an enclosing list start with a keyword, and the loops then treat
that list as a form on a later iteration.  They hold, in both directions, under a decidable
syntactic discipline: *keywords occur only as the first element of a list*.
-/
import KVerif.Lemmas.CfgTreeCondFull
import KVerif.Lemmas.CfgTreeAbstract
import KVerif.Lemmas.CfgTreeExpandCtx
namespace KVerif.CfgTree

/-! ## (3) the conditional loop computes the denotation -/

/-- **cond_loop_is_spec** (full, under `khList`).  For EVERY forest `ts` (any nesting, conditionals
inside lists, inside each other, in either branch) in which `if-equal`, `if-not-equal`, `if-in-list`
and `if-not-in-list` occur only as the first element of a list (`khList`, decidable), the loop
`while evaluate_conditionals(..)? {}` run for `size + 1` iterations
* returns `r` exactly when the denotation `condSpec` (`if_equal_spec` in `Props/C16.lean` says what
  it is on the four forms) is `r`;
* fails only with a diagnostic (never by exhausting the iterations — the fuel of the model is never
  the reason), and then the denotation fails as well;
* fails whenever the denotation fails.
The diagnostics themselves may differ (`cond_error_order_counterexample`): the loop finds malformed
forms level by level, the denotation depth first. -/
theorem cond_loop_is_spec (ts : List Tree) (hk : khList ts = true) :
    (∀ r, condLoop (sizeList ts + 1) ts = .ok r ↔ condSpec ts = .ok r) ∧
    (∀ e, condLoop (sizeList ts + 1) ts = .error e →
      (∃ w, e = .rej w) ∧ ∃ e', condSpec ts = .error e') ∧
    (∀ e', condSpec ts = .error e' → ∃ w, condLoop (sizeList ts + 1) ts = .error (.rej w)) := by
  have ⟨A, B⟩ := condLoop_spec (sizeList ts + 1) ts (Nat.lt_succ_self _) hk
  refine ⟨A, B, fun e' h => ?_⟩
  cases hc : condLoop (sizeList ts + 1) ts with
  | ok r0 => rw [(A r0).mp hc] at h; cases h
  | error e => obtain ⟨⟨w, rfl⟩, -⟩ := B e hc; exact ⟨w, rfl⟩

/-- an instance: conditionals nested in lists and in each other, a malformed one in the branch that
is not taken, `if-in-list` looking through a nested list -/
example :
    let ts := [Tree.list [.atom "macro".toList,
        .list [.atom sIfEqual, .atom "x".toList, .atom "y".toList, .list [.atom sIfEqual]],
        .list [.atom sIfNotEqual, .atom "x".toList, .atom "y".toList, .atom "k".toList,
          .list [.atom sIfInList, .atom "m".toList, .list [.atom "n".toList, .list [.atom "m".toList]],
            .atom "j".toList]]]]
    khList ts = true ∧
    condLoop (sizeList ts + 1) ts = .ok [.list [.atom "macro".toList, .atom "k".toList, .atom "j".toList]] := by
  intro ts
  have hk : khList ts = true := by decide +kernel
  exact ⟨hk, ((cond_loop_is_spec ts hk).1 _).mpr (by decide +kernel)⟩

/-- **cond_loop_head_counterexample**: the hypothesis of `cond_loop_is_spec` is needed.  In
`((if-equal a a if-equal) b b x)` the first sweep turns the outer list into `(if-equal b b x)`,
which the second sweep evaluates to `x`; the one-traversal denotation keeps `(if-equal b b x)`.
kanata: `(deftemplate f () ((if-equal a a if-equal) b b x))`, `(t! f)` yields `x`. -/
theorem cond_loop_head_counterexample :
    let ts := [Tree.list [.list [.atom sIfEqual, .atom "a".toList, .atom "a".toList, .atom sIfEqual],
      .atom "b".toList, .atom "b".toList, .atom "x".toList]]
    khList ts = false ∧
    condLoop (sizeList ts + 1) ts = .ok [.atom "x".toList] ∧
    condSpec ts = .ok [.list [.atom sIfEqual, .atom "b".toList, .atom "b".toList, .atom "x".toList]] := by
  decide +kernel

/-- **cond_error_order_counterexample**: with two malformed conditionals the loop and the
denotation both fail, but not with the same diagnostic, so the agreement on failures in
`cond_loop_is_spec` cannot be an equation.  `(if-equal a a (if-equal))  (if-equal (x) y)`: the
denotation reaches the inner `(if-equal)` first, the loop reports the second form in its first
sweep. -/
theorem cond_error_order_counterexample :
    let ts := [Tree.list [.atom sIfEqual, .atom "a".toList, .atom "a".toList, .list [.atom sIfEqual]],
      .list [.atom sIfEqual, .list [.atom "x".toList], .atom "y".toList]]
    khList ts = true ∧
    condSpec ts = rej "expects a string comparand as the first parameter" ∧
    condLoop (sizeList ts + 1) ts = rej "comparands must be strings" := by
  decide +kernel

/-! ## (1) `expand` is substitution -/

/-- **expand_is_subst** (full, under `headSafe`).  `headSafe T ts` (decidable): in every list of
the configuration `ts` and of every template body of `T`, the atoms `template-expand`, `t!` and
`concat` occur only as the first element (`concat` not even there), and they are not items directly
in a template body.  Then, for ALL such tables and configurations — calls at any nesting depth,
arguments containing further calls, templates calling templates, conditionals — the loop of `expand`
ends with `r` for some amount of stack/iterations exactly when substituting instantiated bodies for
calls, everywhere and recursively (`expandSpec`), ends with `r`; and `r` contains no unexpanded call.
Consequently the loop yields no result (a diagnostic of the call or of an expansion limit — in this
model: no amount of fuel suffices) exactly when the substitution semantics yields none. -/
theorem expand_is_subst (T : List Template) (ts : List Tree) (h : headSafe T ts = true) :
    (∀ r, (∃ F, expandLoop F T ts = .ok r) ↔ (∃ f, expandSpec f T ts = .ok r)) ∧
    (∀ F r, expandLoop F T ts = .ok r → nfList r = true) ∧
    ((∀ F r, expandLoop F T ts ≠ .ok r) ↔ (∀ f r, expandSpec f T ts ≠ .ok r)) := by
  refine ⟨expandLoop_iff_spec T ts h, expandLoop_result_nf T ts h, ?_⟩
  constructor
  · intro hl f r hf
    obtain ⟨F, hF⟩ := (expandLoop_iff_spec T ts h r).mpr ⟨f, hf⟩
    exact hl F r hF
  · intro hs F r hF
    obtain ⟨f, hf⟩ := (expandLoop_iff_spec T ts h r).mp ⟨F, hF⟩
    exact hs f r hf

/-- **instantiate_is_subst**: what a call with the right number of arguments is replaced by —
the body with all parameters substituted at once, `concat` lists joined, then the conditional loop.
Under the discipline there is no `concat` to join; if moreover the conditional keywords are in head
position in the substituted body, the loop is the denotation `condSpec` (`cond_loop_is_spec`). -/
theorem instantiate_is_subst (T : List Template) (hd : Tree) (name : Str) (args : List Tree)
    (tpl : Template) (hT : findTemplate name T = some tpl) (hlen : args.length = tpl.params.length) :
    let body := substList tpl.params args tpl.content
    instantiate T (hd :: .atom name :: args) =
      condLoop (sizeList (concatList body) + 1) (concatList body) ∧
    (tmplSafe T = true → hoTree xBadH xBadT (.list (hd :: .atom name :: args)) = true →
      concatList body = body ∧
      (khList body = true → ∀ r,
        instantiate T (hd :: .atom name :: args) = .ok r ↔ condSpec body = .ok r)) := by
  intro body
  have h0 : instantiate T (hd :: .atom name :: args) =
      condLoop (sizeList (concatList body) + 1) (concatList body) :=
    instantiate_call T hd name args tpl hT hlen
  refine ⟨h0, fun hs hl => ?_⟩
  have hb : xho body = true := (substBody_xho hs hT hl).1
  have hc := concatList_id_xho body hb
  refine ⟨hc, fun hk r => ?_⟩
  rw [h0, hc]
  exact (cond_loop_is_spec body hk).1 r

/-- **expand_call_is_body** (full, under `headSafe`): the statement of `expand_is_subst` for one
call.  In a configuration `fc[(kwd name a₁…aₙ)]` — the call at any depth, not inside the arguments
of another call; the arguments may contain calls — with `n` the number of parameters, if the
instantiated body (`instantiate_is_subst`) is `B`, then `expand` takes the configuration to `r`
exactly when it takes the configuration with `B` spliced in place of the call to `r`. -/
theorem expand_call_is_body (T : List Template) (l B : List Tree) (fc : FCtx) (hfc : fc.Plain)
    (hh : isExpandHead l = true) (hi : instantiate T l = .ok B)
    (hs : headSafe T (fc.fill [.list l]) = true) (r : List Tree) :
    headSafe T (fc.fill B) = true ∧
    ((∃ F, expandLoop F T (fc.fill [.list l]) = .ok r) ↔ (∃ F, expandLoop F T (fc.fill B) = .ok r)) := by
  have hs' := hs
  rw [headSafe, Bool.and_eq_true] at hs'
  have hl := (hoList_cons.mp (hoList_of_fill fc [.list l] hs'.2)).1
  obtain ⟨b1, b2⟩ := instantiate_xho T l B hs'.1 hl hi
  have hsB : headSafe T (fc.fill B) = true := by
    rw [headSafe, Bool.and_eq_true]
    exact ⟨hs'.1, hoList_fill fc [.list l] B hs'.2 b1 b2⟩
  refine ⟨hsB, ?_⟩
  rw [expandLoop_iff_spec T _ hs r, expandLoop_iff_spec T _ hsB r]
  exact Expands.fill_call hh hi fc hfc r

section example_expand
/-- `(deftemplate k (x) (macro $x (t! d $x)))  (deftemplate d (y) (if-equal $y a A) (if-not-equal $y a $y))` -/
private def exT2 : List Template :=
  [{ name := "d".toList, params := ["y".toList],
     content := [.list [.atom sIfEqual, .atom "$y".toList, .atom "a".toList, .atom "A".toList],
                 .list [.atom sIfNotEqual, .atom "$y".toList, .atom "a".toList, .atom "$y".toList]] },
   { name := "k".toList, params := ["x".toList],
     content := [.list [.atom "macro".toList, .atom "$x".toList,
       .list [.atom sTBang, .atom "d".toList, .atom "$x".toList]]] }]
/-- `(deflayer l0 (t! k a) ((t! k b) c))`: calls at two depths, one at the head of a list, a
template calling a template -/
private def exCfg : List Tree :=
  [.list [.atom "deflayer".toList, .atom "l0".toList,
    .list [.atom sTBang, .atom "k".toList, .atom "a".toList],
    .list [.list [.atom sTBang, .atom "k".toList, .atom "b".toList], .atom "c".toList]]]

/-- the hypothesis of `expand_is_subst` holds for it, and the loop computes the substitution result -/
example : headSafe exT2 exCfg = true ∧
    ∃ F, expandLoop F exT2 exCfg = .ok [.list [.atom "deflayer".toList, .atom "l0".toList,
      .list [.atom "macro".toList, .atom "a".toList, .atom "A".toList],
      .list [.list [.atom "macro".toList, .atom "b".toList, .atom "b".toList], .atom "c".toList]]] :=
  have hs : headSafe exT2 exCfg = true := by decide +kernel
  ⟨hs, ((expand_is_subst exT2 exCfg hs).1 _).mpr ⟨8, by decide +kernel⟩⟩
end example_expand

/-- **expand_head_counterexample**: the hypothesis of `expand_is_subst` is needed, and without it
`expand` is not even compositional.  kanata:
`(deftemplate f () t!) (deftemplate m (x) $x) (deftemplate g () (z))`.  In `((t! f) m a)` the inner
call expands to the atom `t!`, so the enclosing list becomes `(t! m a)`.  On its own `expand` leaves
it that way (the enclosing level saw no call, its loop stops), and so does the substitution
semantics; next to a sibling call `(t! g)`, which forces another iteration of the enclosing level,
`expand` takes `(t! m a)` for a call and replaces it by `a`. -/
theorem expand_head_counterexample :
    let T : List Template := [Template.mk "f".toList [] [.atom sTBang],
      Template.mk "m".toList ["x".toList] [.atom "$x".toList],
      Template.mk "g".toList [] [.list [.atom "z".toList]]]
    let item := Tree.list [.list [.atom sTBang, .atom "f".toList], .atom "m".toList, .atom "a".toList]
    let sib := Tree.list [.atom sTBang, .atom "g".toList]
    headSafe T [item] = false ∧
    expandLoop 5 T [item] = .ok [.list [.atom sTBang, .atom "m".toList, .atom "a".toList]] ∧
    expandSpec 5 T [item] = .ok [.list [.atom sTBang, .atom "m".toList, .atom "a".toList]] ∧
    expandLoop 5 T [item, sib] = .ok [.atom "a".toList, .list [.atom "z".toList]] ∧
    expandSpec 5 T [item, sib] =
      .ok [.list [.atom sTBang, .atom "m".toList, .atom "a".toList], .list [.atom "z".toList]] := by
  decide +kernel

/-! ## (2) abstracting subexpressions into a template -/

/-- **template_call_is_item** (full; any number of parameters, any number of occurrences of each,
anywhere in the item; no hypothesis on what the arguments contain).  Let `pats` be the items
`items` with arbitrary subexpression occurrences `args[i]` replaced by `$params[i]`, the kept atoms
not being parameter references (`absList`: the parameter names are fresh), the parameter names
distinct.  Then the call `(kwd name args…)` of the template `(deftemplate name (params…) pats…)`
instantiates to exactly `items` with `concat` lists and conditional forms evaluated.  In particular
an argument may contain `$q` for another parameter `q`, template calls, anything: parameters are
substituted simultaneously, so the old hypothesis "parameter names do not occur in argument values"
is not needed (`sequential_subst_counterexample` shows what it was needed for). -/
theorem template_call_is_item (T : List Template) (name kwd : Str) (params : List Str)
    (args pats items : List Tree)
    (hT : findTemplate name T = some { name := name, params := params, content := pats })
    (hnd : params.Nodup) (hlen : args.length = params.length)
    (habs : absList params args pats items) :
    instantiate T (.atom kwd :: .atom name :: args) =
      condLoop (sizeList (concatList items) + 1) (concatList items) :=
  instantiate_abs T (.atom kwd) name params args pats items hT hnd hlen habs

/-- **template_rewrite_neutral** (full).  With the notation of `template_call_is_item`, for items
without `concat` lists in which the conditional keywords occur only in head position:
the call yields `r` exactly when the denotation of the items' own conditionals is `r`; if the items
contain no conditional form at all the call yields the items themselves — whatever else they
contain (other template calls, `$`-atoms, nested lists) — and then, anywhere in a configuration
that is not inside the arguments of another call, the configuration with the call and the
configuration with the items written out expand to the same thing. -/
theorem template_rewrite_neutral (T : List Template) (name kwd : Str) (params : List Str)
    (args pats items : List Tree)
    (hT : findTemplate name T = some { name := name, params := params, content := pats })
    (hnd : params.Nodup) (hlen : args.length = params.length)
    (habs : absList params args pats items) (hnc : noConcatList items = true)
    (hk : khList items = true) :
    (∀ r, instantiate T (.atom kwd :: .atom name :: args) = .ok r ↔ condSpec items = .ok r) ∧
    (nfcList items = true →
      instantiate T (.atom kwd :: .atom name :: args) = .ok items ∧
      ∀ (fc : FCtx), fc.Plain → isExpandHead [.atom kwd] = true → ∀ r,
        (Expands T (fc.fill [.list (.atom kwd :: .atom name :: args)]) r ↔
          Expands T (fc.fill items) r)) := by
  have h0 := template_call_is_item T name kwd params args pats items hT hnd hlen habs
  rw [concatList_id items hnc] at h0
  refine ⟨fun r => ?_, fun hn => ?_⟩
  · rw [h0]; exact (cond_loop_is_spec items hk).1 r
  · have h1 : instantiate T (.atom kwd :: .atom name :: args) = .ok items := by
      rw [h0]; exact condLoop_nfc _ items hn
    refine ⟨h1, fun fc hfc hkw r => ?_⟩
    have hh : isExpandHead (.atom kwd :: .atom name :: args) = true := by
      rw [isExpandHead_cons (.atom kwd) _ []]; exact hkw
    exact Expands.fill_call hh h1 fc hfc r

/-- **template_rewrite_neutral_loop** (full, under `headSafe`): the same for the real loop of
`expand`.  For items without `concat` lists and conditional forms, abstracted as in
`template_call_is_item`, and a configuration `fc[call]` that keeps the keywords in head position:
`expand` takes the configuration with the call and the configuration with the items written out to
the same result (and fails on one exactly when it fails on the other). -/
theorem template_rewrite_neutral_loop (T : List Template) (name kwd : Str) (params : List Str)
    (args pats items : List Tree)
    (hT : findTemplate name T = some { name := name, params := params, content := pats })
    (hnd : params.Nodup) (hlen : args.length = params.length)
    (habs : absList params args pats items) (hnc : noConcatList items = true)
    (hk : khList items = true) (hn : nfcList items = true)
    (fc : FCtx) (hfc : fc.Plain) (hkw : isExpandHead [.atom kwd] = true)
    (hs : headSafe T (fc.fill [.list (.atom kwd :: .atom name :: args)]) = true) (r : List Tree) :
    (∃ F, expandLoop F T (fc.fill [.list (.atom kwd :: .atom name :: args)]) = .ok r) ↔
      (∃ F, expandLoop F T (fc.fill items) = .ok r) := by
  have h1 := ((template_rewrite_neutral T name kwd params args pats items hT hnd hlen habs hnc hk).2 hn).1
  have hh : isExpandHead (.atom kwd :: .atom name :: args) = true := by
    rw [isExpandHead_cons (.atom kwd) _ []]; exact hkw
  exact (expand_call_is_body T _ items fc hfc hh h1 hs r).2

section example_rewrite
/-- `(deftemplate m (x y) (macro $x 10 $y $x) $y)` -/
private def rwPats : List Tree :=
  [.list [.atom "macro".toList, .atom "$x".toList, .atom "10".toList, .atom "$y".toList,
    .atom "$x".toList], .atom "$y".toList]
private def rwT : List Template :=
  [{ name := "m".toList, params := ["x".toList, "y".toList], content := rwPats }]
/-- the arguments: `$y` (a parameter-looking atom!) and a list containing another call -/
private def rwArgs : List Tree :=
  [.atom "$y".toList, .list [.atom sTBang, .atom "k".toList, .atom "b".toList]]
private def rwItems : List Tree :=
  [.list [.atom "macro".toList, .atom "$y".toList, .atom "10".toList,
    .list [.atom sTBang, .atom "k".toList, .atom "b".toList], .atom "$y".toList],
   .list [.atom sTBang, .atom "k".toList, .atom "b".toList]]

/-- the hypotheses of `template_rewrite_neutral` are met by a rewrite with two parameters, one of
them used twice, an argument that looks like the other parameter and an argument containing a call -/
example : instantiate rwT (.atom sTBang :: .atom "m".toList :: rwArgs) = .ok rwItems := by
  refine ((template_rewrite_neutral rwT "m".toList sTBang ["x".toList, "y".toList] rwArgs rwPats rwItems
    (by decide +kernel) (by decide +kernel) (by decide +kernel) ?_ (by decide +kernel)
    (by decide +kernel)).2 (by decide +kernel)).1
  simp only [absList, absTree, rwArgs, rwItems, rwPats, and_true]
  exact ⟨⟨.inl (by decide +kernel), .inr ⟨0, "x".toList, by decide +kernel⟩, .inl (by decide +kernel),
    .inr ⟨1, "y".toList, by decide +kernel⟩, .inr ⟨0, "x".toList, by decide +kernel⟩⟩,
    .inr ⟨1, "y".toList, by decide +kernel⟩⟩
end example_rewrite

/-- **sequential_subst_counterexample** (why "parameter names do not occur in argument values" is
no longer a hypothesis, and what the seeded change C16d breaks).  `(deftemplate f (x y) ($x $y))`,
`(t! f $y a)`: substituting all parameters at once — what the code and the model do — gives
`($y a)`; substituting them one after the other gives `(a a)`. -/
theorem sequential_subst_counterexample :
    let body := [Tree.list [.atom "$x".toList, .atom "$y".toList]]
    let args := [Tree.atom "$y".toList, .atom "a".toList]
    substList ["x".toList, "y".toList] args body = [.list [.atom "$y".toList, .atom "a".toList]] ∧
    substSeq ["x".toList, "y".toList] args body = [.list [.atom "a".toList, .atom "a".toList]] := by
  decide +kernel

/-- **template_rewrite_cond_counterexample**: the hypotheses on the items are needed for literal
neutrality.  Abstracting `k` out of `(if-equal a a k)` and calling the template gives `k`, not the
item: conditionals (and likewise `concat` lists: `(concat a k)` gives the atom `ak`) are evaluated
when a template is instantiated and nowhere else. -/
theorem template_rewrite_cond_counterexample :
    let T : List Template := [
      Template.mk "m".toList ["x".toList]
        [.list [.atom sIfEqual, .atom "a".toList, .atom "a".toList, .atom "$x".toList]],
      Template.mk "c".toList ["x".toList]
        [.list [.atom sConcat, .atom "a".toList, .atom "$x".toList]]]
    instantiate T [.atom sTBang, .atom "m".toList, .atom "k".toList] = .ok [.atom "k".toList] ∧
    instantiate T [.atom sTBang, .atom "c".toList, .atom "k".toList] = .ok [.atom "ak".toList] := by
  decide +kernel

end KVerif.CfgTree
