/-
C02 — an accepted configuration never crashes or hangs event processing.

Full statement (not proved as one theorem): for every configuration with `WF.cfgWF k = none` and every
finite list of inputs (key events for any code, ticks), `runK` never returns a `Crash`.
What is proved here are the crash sites one by one — each either shown unreachable for all states
(after the `fix:` commits) or exhibited with a witness — plus totality statements for the decision
functions, and, for the layered fragment of C04, the whole statement at the layout level
(`frag04_never_crashes`: `Layout::event` / `Layout::tick` never crash, for every history within the
bounds of `layered_refines`; helper lemmas in Lemmas/NoCrash04.lean).  The whole-model statement is
checked differentially (C02 correspondence + crash oracle).
-/
import KVerif.Model.CfgWF
import KVerif.Lemmas.TapHold
import KVerif.Lemmas.NoCrash04
import KVerif.Props.C04
namespace KVerif.C02
open KVerif.L

/-! ### The layer stack (heapless `Vec` of 12) -/

/-- **layer_stack_never_overflows** (full, after fix 31b82c0): whatever is held, computing the layer
order for transparent-key resolution succeeds and yields at most 12 entries. -/
theorem layer_stack_never_overflows (s : Layout) (h : s.cfg.pinnedLayerStack = false) :
    ∃ v, s.transOrder = .ok v ∧ v.length ≤ MAX_ACTIVE_LAYERS := by
  unfold Layout.transOrder
  simp only [h, Bool.false_eq_true, if_false]
  have hl : (s.activeHeldLayers.take MAX_ACTIVE_LAYERS).length ≤ MAX_ACTIVE_LAYERS := by
    rw [List.length_take]; omega
  have hp : ∀ (l : List Nat) (x : Nat), l.length ≤ MAX_ACTIVE_LAYERS →
      (pushCap MAX_ACTIVE_LAYERS l x).length ≤ MAX_ACTIVE_LAYERS := by
    intro l x hl; unfold pushCap; split
    · simp only [List.length_append, List.length_cons, List.length_nil]; omega
    · exact hl
  by_cases hv : s.transV2 = true
  · simp only [hv, if_true]
    rw [if_neg (by omega)]
    split
    · exact ⟨_, rfl, hp _ _ (hp _ _ hl)⟩
    · exact ⟨_, rfl, hp _ _ hl⟩
  · simp only [hv, Bool.false_eq_true, if_false]
    split <;> exact ⟨_, rfl, by simp [MAX_ACTIVE_LAYERS]⟩

/-- thirteen held layers -/
def thirteenLayers : Layout :=
  { cfg := { layers := [[], []], srcKeys := [], pinnedLayerStack := true },
    states := (List.range 13).map fun i => .layerModifier (i % 2) (0, 30) }

/-- **layer_stack_overflow_pinned_counterexample**: on the pinned code thirteen held layers made the
next key press panic (`Vec::from_iter overflow`); reproduced on the real code, repaired by 31b82c0. -/
theorem layer_stack_overflow_pinned_counterexample :
    thirteenLayers.transOrder = .error .layerStackOverflow ∧
    ({ thirteenLayers with cfg := { thirteenLayers.cfg with pinnedLayerStack := false } } : Layout).transOrder
      = .ok [0, 1, 0, 1, 0, 1, 0, 1, 0, 1, 0, 1] := by
  constructor <;> rfl

/-! ### The repeat action -/

/-- **repeat_with_nothing_saved_is_noop**: `rpt-any` with no saved action changes nothing but the
bookkeeping of every action (clear-on-next-action keys, quick-tap tracker). -/
theorem repeat_with_nothing_saved_is_noop (fuel : Nat) (s : Layout) (c : Coord) (d : Nat) (o : Bool)
    (ls : List Nat) (h : s.rptAction = none) :
    doAction (fuel + 2) s .repeat c d o ls = .ok (prelude s c, .noEvent) := by
  simp only [doAction, dispatch, C04.prelude_rptAction, h]

/-- **repeat_no_reentry** (full, after fix c6daee1): repeating runs the saved action on a state in
which nothing is saved, so a repeat nested inside the saved action is a no-op by the previous
theorem instead of re-entering it. -/
theorem repeat_no_reentry (fuel : Nat) (s : Layout) (ac : Action) (c : Coord) (d : Nat) (o : Bool)
    (ls : List Nat) (hf : s.cfg.pinnedRepeat = false) (h : s.rptAction = some ac) :
    doAction (fuel + 2) s .repeat c d o ls =
      match doAction fuel { prelude s c with rptAction := none } ac c d o [] with
      | .error e => .error e
      | .ok r => .ok (if r.1.rptAction.isNone then { r.1 with rptAction := some ac } else r.1, .noEvent) := by
  simp only [doAction, dispatch, C04.prelude_rptAction, h, (C04.prelude_same s c).cfg, hf, Bool.false_eq_true, if_false]
  rfl

/-- the saved action of `(multi rpt-any a)` after its first press -/
def selfRepeating (k : KeyCode) : Action := .multipleActions [.repeat, .keyCode k]

/-- **repeat_reentry_pinned_diverges** (counterexample, pinned code): with `(multi rpt-any a)` saved,
the second press recursed without bound — for every amount of fuel the model runs out of it (the real
process overflowed its stack and aborted; reproduced, repaired by c6daee1). -/
theorem repeat_reentry_pinned_diverges (k : KeyCode) : ∀ (fuel : Nat) (s : Layout) (c : Coord) (d : Nat) (ls : List Nat),
    s.cfg.pinnedRepeat = true → s.rptAction = some (selfRepeating k) →
    doAction fuel s (selfRepeating k) c d false ls = .error .fuelOut ∧
    doAction fuel s .repeat c d false ls = .error .fuelOut := by
  intro fuel
  induction fuel using Nat.strongRecOn with
  | _ fuel ih =>
    intro s c d ls hp hr
    have hp1 : (prelude s c).cfg.pinnedRepeat = true := (congrArg LCfg.pinnedRepeat (C04.prelude_same s c).cfg).trans hp
    have hr1 : (prelude s c).rptAction = some (selfRepeating k) := (C04.prelude_rptAction s c).trans hr
    constructor
    · -- the multi: its first sub-action is the repeat
      match fuel with
      | 0 => rfl
      | 1 => rfl
      | 2 => rfl
      | f + 3 =>
        have := (ih f (by omega) (updateCoord (prelude s c) c) c d ls
          ((congrArg LCfg.pinnedRepeat (C04.updateCoord_same _ c).cfg).trans hp1) ((C04.updateCoord_rptAction _ c).trans hr1)).2
        simp only [doAction, selfRepeating, dispatch, doActions, this]
    · match fuel with
      | 0 => rfl
      | 1 => rfl
      | f + 2 =>
        have := (ih f (by omega) (prelude s c) c d [] hp1 hr1).1
        simp only [doAction, dispatch, hr1, hp1, if_true, this]

/-! ### Decision functions are total -/

/-- **tap_hold_tick_total**: ticking a tap-hold waiting state never crashes. -/
theorem tap_hold_tick_total (w : Waiting) (cfg : HTConfig) (hc : w.config = .holdTap cfg)
    (q : List Queued) (aq : ActionQueue) : ∃ r, tickWt w q aq = .ok r :=
  ⟨_, C05.tickWt_holdTap w cfg hc q aq⟩

/-- **chord_tick_total**: ticking a chord waiting state never crashes. -/
theorem chord_tick_total (w : Waiting) (g : ChordsGroup) (hc : w.config = .chord g)
    (q : List Queued) (aq : ActionQueue) : ∃ r, tickWt w q aq = .ok r := by
  unfold tickWt
  simp only [hc]
  split <;> exact ⟨_, rfl⟩

/-- **tap_dance_tick_total**: ticking a tap-dance waiting state crashes only if its action list is
empty (`CfgWF` excludes that; the parser accepted it — see the C17 finding). -/
theorem tap_dance_tick_total (w : Waiting) (acts : List Action) (t n : Nat)
    (hc : w.config = .tapDance acts t n) (hne : acts ≠ []) (q : List Queued) (aq : ActionQueue) :
    ∃ r, tickWt w q aq = .ok r := by
  unfold tickWt
  simp only [hc]
  unfold tickWtTd tdPick
  generalize handleTapDance _ n acts.length q = res
  obtain ⟨q', ret, nt⟩ := res
  have hidx : min nt acts.length - 1 < acts.length := by
    have : 0 < acts.length := List.length_pos_iff.mpr hne
    omega
  cases ret with
  | none => exact ⟨_, rfl⟩
  | some a =>
    simp only [List.getElem?_eq_getElem hidx]
    exact ⟨_, rfl⟩

/-! ### [t7:u16-delay] The delay handed on when a waiting state resolves (`w.delay + w.ticks`, u16) -/

/-- the pinned code: `w.delay + w.ticks` with overflow checks (debug builds, `cargo test`);
`none` = `attempt to add with overflow` in waiting_into_hold / _tap / _timeout -/
def waitingDelayPinned (w : Waiting) : Option Nat :=
  match w.config with
  | .holdTap _ | .chord _ => if w.delay + w.ticks ≤ U16_MAX then some (w.delay + w.ticks) else none
  | .tapDance .. => some 0

/-- **waiting_delay_fits_u16** (full, after fix PENDING-1): whatever a waiting state holds, the
delay it hands to `do_action` when it resolves is a u16 - the sum saturates. -/
theorem waiting_delay_fits_u16 (w : Waiting) : waitingDelay w ≤ U16_MAX := by
  unfold waitingDelay
  cases w.config with
  | holdTap c => exact Nat.min_le_right _ _
  | chord g => exact Nat.min_le_right _ _
  | tapDance a t n => exact Nat.zero_le _

/-- **waiting_delay_repair_conservative**: wherever the pinned code did not panic, the repaired code
hands on the same delay. -/
theorem waiting_delay_repair_conservative (w : Waiting) (d : Nat) (h : waitingDelayPinned w = some d) :
    waitingDelay w = d := by
  unfold waitingDelayPinned at h
  unfold waitingDelay
  cases hcfg : w.config with
  | holdTap c =>
    simp only [hcfg] at h ⊢
    split at h
    · rename_i hle; injection h with h; rw [Nat.min_eq_left hle]; exact h
    · cases h
  | chord g =>
    simp only [hcfg] at h ⊢
    split at h
    · rename_i hle; injection h with h; rw [Nat.min_eq_left hle]; exact h
    · cases h
  | tapDance a t n =>
    simp only [hcfg] at h ⊢
    injection h

/-- **waiting_delay_overflow_pinned_counterexample** (pinned code): every tap-hold or chord state
whose press waited in the queue for at least one tick (`delay = Queued.since ≥ 1`: the tick that
dequeues a press has aged it already) and whose own counter is saturated (`tickWt` counts
`min (ticks + 1) U16_MAX`, i.e. the key was undecided for 65535 ms) panicked when it resolved.
Witness on the real code: `(tap-hold 0 65535 a lctl)`, `d:a t:65536`. -/
theorem waiting_delay_overflow_pinned_counterexample (w : Waiting) (hc : ∀ a t n, w.config ≠ .tapDance a t n)
    (hd : 1 ≤ w.delay) (ht : w.ticks = U16_MAX) : waitingDelayPinned w = none := by
  unfold waitingDelayPinned
  cases hcfg : w.config with
  | holdTap c => simp only []; rw [if_neg (by omega)]
  | chord g => simp only []; rw [if_neg (by omega)]
  | tapDance a t n => exact absurd hcfg (hc a t n)

/-- the hypotheses are met by the state of the witness one tick before the deadline -/
example : waitingDelayPinned { (default : Waiting) with delay := 1, ticks := U16_MAX, config := .holdTap .default } = none :=
  waiting_delay_overflow_pinned_counterexample _ (by intro a t n h; cases h) (by decide) rfl

/-! ### The edge of the layer table (not reachable from the event loop) -/

/-- **input_code_767_counterexample**: the layer tables have 767 columns (0‥766) but key code 767
(`KEY_MAX`) is a valid `OsCode`; `handle_input_event` called with that code indexes out of bounds
(`resolve_coord` asserts `y <= len` instead of `y < len`). This is a fact about the function, not
a defect of kanata: the event loop hands an event to `handle_input_event` only if its code is in
`MAPPED_KEYS`, and no configuration maps 767 (C11 `mapped_set_spec`; `parse_deflocalkeys` refuses it
since 414291c). It was first recorded as a known finding because the harness called
`handle_input_event` with every code; that was a false alarm of the harness and has been withdrawn
(the generator now stays below `KEYS_IN_ROW`, as the event loop does). -/
theorem input_code_767_counterexample (s : Layout) (l : Nat) (rest : List Nat)
    (hl : l < s.cfg.layers.length) (hr : s.cfg.rows = 2) (hc : s.cfg.cols = 767) :
    ∃ site, s.resolveCoord (0, 767) (l :: rest) = .error (.indexOOB site) := by
  have hget : ∃ tbl, s.cfg.layers[l]? = some tbl := ⟨_, List.getElem?_eq_getElem hl⟩
  obtain ⟨tbl, ht⟩ := hget
  refine ⟨"layers[l][x][y]", ?_⟩
  simp [Layout.resolveCoord, LCfg.layerAction, hr, hc, ht]

/-! ### The layered fragment never crashes (the unconditional half of C04's `layered_refines`) -/

section Layered
open KVerif.C04 KVerif.Spec.Layered

/-- every press of the history lies inside the layer table (decidable) -/
def InTable (c : LCfg) (ins : List In) : Prop :=
  (ins.all fun i => match i with | .ev e => evOK c e | .tick => true) = true

instance (c : LCfg) (ins : List In) : Decidable (InTable c ins) := by unfold InTable; exact inferInstance

/-- no crash along a simulation: the conditions are on the keymap, the machine's state and the history -/
theorem runs_of_sim {km : Keymap} (hd : DepthOK km.cfg) (hr : RangeOK km.cfg) : ∀ (ins : List In) (s : Layout)
    (t : State), Sim s km t → InRangeT km.cfg t → Safe km t ins → InTable km.cfg ins → ∃ tr, runM s ins = .ok tr
  | [], _, _, _, _, _, _ => ⟨[], rfl⟩
  | .ev e :: rest, s, t, hs, hin, hsafe, ht => by
    simp only [InTable, List.all_cons, Bool.and_eq_true] at ht
    obtain ⟨s1, e1, hs1⟩ := hs.event e hsafe.1
    obtain ⟨tr, h⟩ := runs_of_sim hd hr rest s1 _ hs1 (input_inRange hin ht.1) hsafe.2 ht.2
    exact ⟨tr, by simp only [runM, e1, h]⟩
  | .tick :: rest, s, t, hs, hin, hsafe, ht => by
    simp only [InTable, List.all_cons, Bool.and_eq_true] at ht
    obtain ⟨⟨s1, cu⟩, h1⟩ := hs.tick_total hd hr hin hsafe.1
    obtain ⟨tr, h⟩ := runs_of_sim hd hr rest s1 _ (hs.tick hsafe.1 h1) (step_inRange km hr hin) hsafe.2 ht.2
    exact ⟨s1.keycodes :: tr, by simp only [runM, h1, h]⟩

/-- **frag04_never_crashes** (full, on the fragment).  On the layered fragment of C04 the model of
`Layout::event` / `Layout::tick` never takes a crash branch — no index out of bounds, no layer-stack
overflow, no unresolved transparent action, no exhausted recursion budget — for every history, any
order and timing of presses, releases and ticks, physically consistent or not, that stays within the
bounds `layered_refines` already assumes (`Safe`: fewer than 32 events pending when one arrives, at
most 10 layers held).  Hypotheses beyond those of `layered_refines` (each a decidable predicate):

* `DepthOK`: every configured action has fuel cost ≤ `COST_MAX` = 300, where the cost of a `multi` is
  2 + max over its members of (position + 1 + cost of the member) and 2 for everything else
  (`nesting_bound_suffices`: `multi` nested ≤ `d` deep with ≤ `w` members each is enough whenever
  `d * (w + 2) + 2 ≤ 300`, e.g. 16 × 16 or 1 × 296).  The model recurses on fuel (`FUEL` = 4000, and
  its `multi` loop also consumes one unit per member; through `Trans` resolution the budget is spent
  at most once more per held layer, hence 300 ≈ 4000 / 13); the real `do_action` recurses on the
  call stack once per nesting level and loops over the members.  On this fragment `parse_multi`
  splices a `multi` written directly inside a `multi` into its parent, so parsed actions nest one
  level deep and only their length is unbounded — harmless in Rust, but a flat `multi` of 4000
  members exhausts the *model's* budget (a model artefact, stated here rather than hidden).
  Across the whole grammar **kanata's parser does not bound the nesting** (`multi` inside
  `fork` / `tap-hold` / `one-shot` / `tap-dance` / `switch` inside `multi` …): an accepted
  configuration nested deeply enough exhausts the stack.  That risk is outside this theorem; the C02
  crash oracle probes it separately (deep-nesting configurations run on the real code).
* `RangeOK` (configuration) and `InRange` (state): there is a layer; every `layer-while-held` target,
  every held layer and the base layer exist — otherwise `self.layers[layer]` in `resolve_coord`
  panics (index out of bounds); kanata's parser resolves layer names, so targets are in range, and
  `layer-switch` is range-checked at run time.  The defsrc row holds no transparent / use-defsrc item —
  otherwise a press that falls through every layer reaches `unreachable!("Trans action should have
  been resolved earlier")`, or `Src` re-enters itself without bound; kanata fills the row with plain
  key codes (`CfgWF`: "defsrc entry is not a plain key").
* `InTable` (history) and the pending part of `InRange` (state): every press has row < `rows` and
  column < `cols` (2 × 767 in kanata) — otherwise `self.layers[layer][x][y]` / `self.src_keys[y]`
  in `resolve_coord` panic (see `input_code_767_counterexample`: the `assert!`s there use `<=`).
  Releases need no bound.  The event loop only forwards codes in `MAPPED_KEYS` (C11). -/
theorem frag04_never_crashes : ∀ (ins : List In) (s : Layout), CfgFrag s.cfg → DepthOK s.cfg →
    RangeOK s.cfg → Inert s → InRange s → Safe (km s) (abs s) ins → InTable s.cfg ins →
    ∃ t, runM s ins = .ok t :=
  fun ins s hc hd hr hi hin hs ht =>
    runs_of_sim (km := km s) hd hr ins s (C04.abs s) ⟨hc, hi, rfl, rfl⟩ hin hs ht

/-- **frag04_runs_as_layered** (full, on the fragment): the run exists *and* is the trace of the
layered-keymap machine — `layered_refines` without its "if the layout processes the history". -/
theorem frag04_runs_as_layered (ins : List In) (s : Layout) (hc : CfgFrag s.cfg) (hd : DepthOK s.cfg)
    (hr : RangeOK s.cfg) (hi : Inert s) (hin : InRange s) (hs : Safe (km s) (abs s) ins)
    (ht : InTable s.cfg ins) : runM s ins = .ok (runS (km s) (abs s) ins) := by
  obtain ⟨t, h⟩ := frag04_never_crashes ins s hc hd hr hi hin hs ht
  rw [h, layered_refines ins s hc hi hs t h]

/-- a freshly created layout is in range (so, with `init_inert`, the theorems apply from start-up) -/
theorem init_inRange (cfg : LCfg) (tv2 dfl qth : Bool) (osd : Nat) (hr : RangeOK cfg) :
    InRange { cfg := cfg, transV2 := tv2, delegateToFirstLayer := dfl, quickTapHoldTimeout := qth,
              oneshot := { pauseInputProcessingDelay := osd } } :=
  InRangeT.pack ⟨hr.unpack.pos, by intro x hx; simp [C04.abs] at hx⟩ (by intro e he; simp [C04.abs] at he)

/-! Non-vacuity: the three-layer configuration of C04 (every kind of action of the fragment, a
transparent item nested in a `multi`, use-defsrc), a state with a key down and a press pending, and
a history with presses, releases and idle ticks (the pending press holds layer 2 and sends 42; the
next one is use-defsrc on layer 2; the third finds its key through a transparent item nested in a
`multi`, which also releases 42). -/

def sampleState : Layout :=
  { cfg := sampleCfg, states := [.normalKey 7 (0, 7) 0], queue := [⟨.press (0, 48), 0⟩] }

def sampleHist : List In :=
  [.ev (.press (0, 30)), .tick, .tick, .ev (.press (0, 46)), .tick, .ev (.release (0, 48)), .tick,
   .ev (.press (0, 46)), .ev (.release (0, 30)), .tick, .tick, .tick]

theorem sampleCfg_frag : CfgFrag sampleCfg := sampleCfg_cfgFrag

theorem sampleState_inert : Inert sampleState :=
  ⟨rfl, rfl, rfl, rfl, rfl, rfl, rfl, by
    intro st h
    simp only [sampleState, List.mem_cons, List.mem_nil_iff, or_false] at h
    subst h; exact Or.inl rfl⟩

example : NestingOK 1 296 sampleCfg := by decide
example : DepthOK sampleCfg := nesting_bound_suffices (d := 1) (w := 296) (by decide) (by decide)
example : DepthOK sampleCfg := nesting_bound_suffices (d := 16) (w := 16) (by decide) (by decide)
example : RangeOK sampleCfg := by decide
example : InRange sampleState := by decide
example : InTable sampleCfg sampleHist := by decide
theorem sampleHist_safe : Safe (km sampleState) (C04.abs sampleState) sampleHist := by
  simp only [sampleHist, Safe]
  decide

/-- the theorem applied: the sample run exists and is the layered machine's trace -/
example : runM sampleState sampleHist = .ok (runS (km sampleState) (C04.abs sampleState) sampleHist) :=
  frag04_runs_as_layered sampleHist sampleState sampleCfg_frag (by decide) (by decide) sampleState_inert
    (by decide) sampleHist_safe (by decide)

/-- and the trace is not trivial -/
example : runS (km sampleState) (C04.abs sampleState) sampleHist =
    [[7, 42], [7, 42, 30], [7, 30, 45], [7, 30, 45], [7, 30, 45, 45], [7, 45, 45], [7, 45, 45]] := by decide

/-! Each index hypothesis is needed: drop it and the model takes the crash branch named in the
statement of `frag04_never_crashes`.  None of the three witnesses is a configuration kanata's parser
produces (layer names are resolved, the defsrc row is filled with plain key codes). -/

/-- the crash outcome of a run, if any -/
def crashOf {α} : Except Crash α → Option Crash
  | .error c => some c
  | .ok _ => none

/-- `layer-while-held` on a layer that does not exist: the next press indexes `self.layers[5]` -/
def badLayerCfg : LCfg :=
  { layers := [[((0, 30), .layer 5)]], srcKeys := [(30, .keyCode 30), (31, .keyCode 31)] }

theorem layer_target_out_of_range_counterexample :
    DepthOK badLayerCfg ∧ ¬ RangeOK badLayerCfg ∧
    crashOf (runM { cfg := badLayerCfg } [.ev (.press (0, 30)), .tick, .ev (.press (0, 31)), .tick])
      = some (.indexOOB "layers[layer]") := by
  refine ⟨by decide, by decide, by decide +kernel⟩

/-- a transparent item in the defsrc row: a press that falls through every layer reaches
`unreachable!("Trans action should have been resolved earlier")` -/
def transDefsrcCfg : LCfg := { layers := [[]], srcKeys := [(30, .trans)] }

theorem trans_in_defsrc_counterexample :
    DepthOK transDefsrcCfg ∧ ¬ RangeOK transDefsrcCfg ∧
    crashOf (runM { cfg := transDefsrcCfg } [.ev (.press (0, 30)), .tick]) = some .transUnresolved := by
  refine ⟨by decide, by decide, by decide +kernel⟩

/-- use-defsrc in the defsrc row re-enters itself: whatever the budget, it runs out (the real code
would recurse until the stack is exhausted) -/
theorem src_in_defsrc_diverges : ∀ (fuel : Nat) (s : Layout) (c : Coord) (d : Nat) (ls : List Nat),
    s.cfg.srcKey c.2 = .src → c.2 < s.cfg.cols →
    doAction fuel s .src c d false ls = .error .fuelOut ∧
    dispatch fuel s .src c d false ls = .error .fuelOut := by
  intro fuel
  induction fuel with
  | zero => intro s c d ls _ _; exact ⟨rfl, rfl⟩
  | succ fuel ih =>
    intro s c d ls h hc
    have hp : (prelude s c).cfg = s.cfg := (prelude_same s c).cfg
    refine ⟨?_, ?_⟩
    · simp only [doAction]
      exact (ih (prelude s c) c d ls (hp ▸ h) (hp ▸ hc)).2
    · simp only [dispatch]
      rw [if_neg (by omega), h, (ih s c d [] h hc).1]

end Layered

/-- **positional_action_outside_rows_crashes** (pinned defect, repaired by bad1252 in the parser):
`use-defsrc` and the transparent action are resolved through the position of the pressed key.
Performed at a position beyond the layer rows - where chords v2 perform their actions - both index
out of bounds, whatever the rest of the state is.  The parser therefore has to refuse them inside
`defchordsv2` in every nesting (before the repair it refused only the literal `_`). -/
theorem positional_action_outside_rows_crashes (fuel : Nat) (s : Layout) (c : Coord) (d : Nat)
    (os : Bool) (ls : List Nat) (h : c.2 > s.cfg.cols) :
    (∃ e, dispatch (fuel + 1) s .src c d os ls = .error (.indexOOB e)) ∧
    (∃ e, doAction (fuel + 1) s .trans c d os ls = .error (.indexOOB e)) := by
  refine ⟨⟨_, by simp only [dispatch]; rw [if_pos (by omega)]⟩, ?_⟩
  cases ls <;> simp only [doAction, Layout.resolveCoord] <;> by_cases hx : c.1 > s.cfg.rows
  · exact ⟨_, by rw [if_pos hx]⟩
  · exact ⟨_, by rw [if_neg hx, if_pos h]⟩
  · exact ⟨_, by rw [if_pos hx]⟩
  · exact ⟨_, by rw [if_neg hx, if_pos h]⟩

end KVerif.C02
