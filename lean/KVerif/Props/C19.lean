/-
C19 — dynamic macros replay what was typed and never leave a key down.
Property theorems only; helper lemmas are in KVerif/Lemmas/DynMacro*.lean.

Reading guide.  `Rec`, `Replay`, `beginRecord`, `recordPress`, `recordRelease`, `stopMacro`,
`playMacro`, `tickReplay` model src/kanata/dynamic_macro.rs; `K`, `handleInput`, `tickStates`, `tickMs`,
`run` model the glue in src/kanata/mod.rs over an arbitrary layout `I : LayoutI L` (so the
theorems about the glue hold whatever keyberon does).  `c.fix = true` is the code with the proposed
fix, `false` the pinned code.  `k.fed` is the log of the key events the replay handed to
`layout.event`, `k.lost` the log of events the `extra_ticks` loop popped and dropped.
-/
import KVerif.Lemmas.DynMacroRun
import KVerif.Lemmas.DynMacroFlatK
import KVerif.Lemmas.DynMacroOvershoot
import KVerif.Gen.DynMacroConsts
namespace KVerif.DynMacro

/-! ## What gets stored -/

/-- **replay_is_recorded** (full).  Start a recording of macro `id`, let any history `evs` of
presses, releases and ticks go by (fewer than the limit: at most `2·max + 2` key events, the last of
which is the stop key), then stop with truncation `n`.  What is stored under `id` is exactly: the
typed key events in order, each with the time to the next one (`timed`), without the last one (the
stop key) and without `n` more (`specBody`), followed by one zero-delay release for each key that
this body leaves down, in some order (`tail` is a permutation of `leftDown`).  For every history, every
`n`, every hash-set order `hint`; on the pinned code provided at least one key event was recorded. -/
theorem replay_is_recorded (fix : Bool) (hint hint' : List Nat) (max id n : Nat) (st : Store)
    (evs : List RecEv) (hlim : keyCount evs ≤ 2 * max + 2) (hne : fix = true ∨ keyCount evs ≠ 0) :
    ∃ tail : List Nat,
      (do let (r0, _) ← beginRecord fix hint id none
          let (r1, st1) := recordAll hint max (r0, st) evs
          let (r2, sv) ← stopMacro fix hint' n r1
          pure (r2, st1.save sv)) =
        .ok (none, st.insert id (specBody n evs ++ tail.map (Item.release · 0))) ∧
      tail.Perm (leftDown (specBody n evs)) := by
  obtain ⟨tail, ht1, ht2⟩ := addReleases_eq hint' (specBody n evs)
  refine ⟨tail, ?_, ht2⟩
  have hrun : recordAll hint max (some (Rec.new id), st) evs = (some (recRun (Rec.new id) evs), st) :=
    recordAll_eq hint max id st [] evs hlim
  have hstop : stopMacro fix hint' n (some (recRun (Rec.new id) evs)) =
      .ok (none, some (id, addReleases hint' (specBody n evs))) := by
    have := stopMacro_some fix hint' n (recRun (Rec.new id) evs) (removeLast_ok
      (hne.imp_right fun h he => h (by rw [← timed_length, ← flush_recRun_new id, he]; rfl)) _)
    rwa [flush_recRun_new, dropLast_take, recRun_id] at this
  simp only [beginRecord, bind, Except.bind, hrun, hstop, pure, Except.pure, Store.save, ← ht1]

/-- **leftDown_iff**: which keys get a trailing release — exactly those for which the body contains
a press that is not followed by a release of the same key; each once. -/
theorem leftDown_iff (items : List Item) (x : Nat) :
    x ∈ leftDown items ↔
      ∃ pre post, evsQ items = pre ++ ⟨true, x⟩ :: post ∧ (⟨false, x⟩ : KeyEv) ∉ post := by
  unfold leftDown unreleased
  rw [scan_eq_scanEv, mem_scanEv_iff]
  simp

theorem leftDown_nodup (items : List Item) : (leftDown items).Nodup := by
  unfold leftDown unreleased
  rw [scan_eq_scanEv]; exact scanEv_nodup [] _ (by simp)

/-- **stops_at_limit** (full).  While fewer than `2·max + 2` key events have been recorded a press
is accepted; the press after that stops the recording by itself and stores everything recorded
except the event still waiting (the last one typed), with the releases of the keys left down.  So
no stored macro has more than `2·max + 1` typed items. -/
theorem stops_at_limit (hint : List Nat) (max id o : Nat) (evs : List RecEv) :
    (keyCount evs < 2 * max + 2 →
      recordPress hint max o (some (recRun (Rec.new id) evs)) =
        (some (recRun (Rec.new id) (evs ++ [.press o])), none)) ∧
    (keyCount evs = 2 * max + 2 →
      ∃ tail : List Nat,
        recordPress hint max o (some (recRun (Rec.new id) evs)) =
          (none, some (id, specBody 0 evs ++ tail.map (Item.release · 0))) ∧
        tail.Perm (leftDown (specBody 0 evs)) ∧ (specBody 0 evs).length = 2 * max + 1) := by
  have hlen := items_length_recRun_new id evs
  have hb : (recRun (Rec.new id) evs).items = specBody 0 evs :=
    (items_recRun_new id evs).trans (List.dropLast_eq_take ..)
  constructor
  · intro h
    rw [recordPress_below hint o (by rw [hlen]; omega), recRun_append]
    rfl
  · intro h
    rw [h] at hlen
    obtain ⟨tail, ht1, ht2⟩ := addReleases_eq hint (specBody 0 evs)
    refine ⟨tail, ?_, ht2, hb ▸ hlen⟩
    rw [recordPress_above hint o (by rw [hlen, Nat.mul_comm]; exact Nat.lt_succ_self _), recRun_id, hb, ht1]
    rfl

/-! ## What the replay feeds -/

/-- **replay_feeds_same_events** (full).  Take any state with a replay in progress and any further
history (key events and `tick_ms` calls with arbitrary `ms`, on the pinned code `ms < 65536`) during
which the layout fires no `dynamic-macro-play`.  Then, for any layout:
(1) the key events handed to `layout.event` so far, followed by the key events of the items still
    queued, is always the same list — nothing is reordered, duplicated or invented;
(2) no event is popped and dropped by the `extra_ticks` loop;
(3) once the ticks add up to at least `mu` (a bound computed from the queued delays) the replay is
    over and what was handed to the layout is exactly the queued items' key events, in order. -/
theorem replay_feeds_same_events {L} (I : LayoutI L) (c : Cfg) (hn : NoPlay I) (inputs : List Input)
    (k k' : K L) (hm : MsOK c inputs) (h : run I c k inputs = .ok k') :
    k'.fed ++ planOf k'.rep = k.fed ++ planOf k.rep ∧ k'.lost = k.lost ∧
      (mu c.beh k.rep ≤ totalMs inputs → k'.rep = none ∧ k'.fed = k.fed ++ planOf k.rep) := by
  obtain ⟨h1, h2⟩ := run_noPlay I c hn inputs k k' hm h
  refine ⟨h1, run_lost I c inputs k k' hm h, ?_⟩
  intro hmu
  have : k'.rep = none := rep_none_of_mu_le h2 hmu
  rw [this] at h1
  exact ⟨this, (List.append_nil _).symm.trans h1⟩

/-- **play_queues_the_macro**: `dynamic-macro-play id` with no replay running queues exactly the
stored items of `id`; with a replay running and `id` not active it puts them (and an end marker) in
front of what is queued; in every other case it changes nothing. -/
theorem play_queues_the_macro (id : Nat) (store : Store) (rep : Option Replay) :
    planOf (playMacro id store rep) = planOf rep ∨
      ∃ items, store.get id = some items ∧
        planOf (playMacro id store rep) = evsQ items ++ planOf rep :=
  playMacro_plan id store rep

/-- **no_overshoot**: the `extra_ticks` loop never drops a replay event — fixed code: for every
`ms_elapsed`; pinned code: for `ms_elapsed < 65536`. -/
theorem no_overshoot {L} (I : LayoutI L) (c : Cfg) (ms : Nat) (k k' : K L)
    (hms : c.fix = true ∨ ms < 65536) (h : tickMs I c ms k = .ok k') : k'.lost = k.lost :=
  run_lost I c [.tick ms] k k' ⟨hms, trivial⟩ ((run_tick I c k ms).trans h)

/-- a replay in progress (recorded delays): `a` down, 65 535 ms, `b` down, `b` up, `a` up -/
def ovRep : Replay :=
  { active := [1], delay := 1, queue := [.press 30 65535, .press 31 0, .release 31 0, .release 30 0] }
def ovK : K Unit := { lay := (), rep := some ovRep }
def ovRepA : Replay := { active := [1], delay := 65535, queue := [.press 31 0, .release 31 0, .release 30 0] }
def ovRepC : Replay := { active := [1], delay := 0, queue := [.release 31 0, .release 30 0] }
def ovRepD : Replay := { active := [1], delay := 0, queue := [.release 30 0] }
def pinnedCfg : Cfg := { fix := false, beh := .recorded, maxPresses := 128 }

/-- **extra_loop_overshoot_counterexample** (pinned code).  `tick_ms` called with
`ms_elapsed = 65536` (`as u16` = 0) while that replay is in progress: the first loop hands `a`↓ and
`b`↓ to the layout, then the `extra_ticks` loop runs `65535 - 0` times instead of none, pops `b`↑ in
its first iteration and drops it ("overshot to next event ... the code is broken!") — `b` is never
released.  So `ms_elapsed < 65536` in `no_overshoot` cannot be dropped for the pinned code; the
fixed code (clamping instead of wrapping) drops nothing.  Reproduced on the real pinned code by the
harness with `tick_ms(70000)` (key left down for ever). -/
theorem extra_loop_overshoot_counterexample :
    (∃ k', tickMs unitI pinnedCfg 65536 ovK = .ok k' ∧
      k'.fed = [⟨true, 30⟩, ⟨true, 31⟩] ∧ k'.lost = [⟨false, 31⟩]) ∧
    (∀ k', tickMs unitI { pinnedCfg with fix := true } 65536 ovK = .ok k' → k'.lost = []) := by
  constructor
  · -- first iteration: `a`↓ is popped with its delay of 65535
    have h1 : mainLoop unitI pinnedCfg 1 ovK 0 =
        .ok ({ ovK with rep := some ovRepA, fed := [⟨true, 30⟩], nticks := 1 }, 65535) := rfl
    -- then 65534 iterations that only count down, and one that pops `b`↓, delay 0
    have hmain : mainLoop unitI pinnedCfg 65536 ovK 0 =
        .ok ({ ovK with rep := some ovRepC, fed := [⟨true, 30⟩, ⟨true, 31⟩], nticks := 65536 }, 65535) := by
      rw [show (65536 : Nat) = 1 + (65534 + 1) from rfl, mainLoop_add, h1]
      simp only []
      rw [mainLoop_add, mainLoop_idle pinnedCfg 65534 _ 65535 ovRepA rfl rfl (by decide)]
      rfl
    -- the second loop: 65535 - (65536 as u16) = 65535 iterations; the first one pops `b`↑
    exact ⟨{ ovK with rep := some ovRepD, fed := [⟨true, 30⟩, ⟨true, 31⟩], lost := [⟨false, 31⟩],
                      nticks := 65537 },
      (tickMs_of_mainLoop hmain).trans rfl, rfl, rfl⟩
  · intro k' h
    exact no_overshoot unitI _ 65536 ovK k' (.inl rfl) h

/-! ## Nothing is left down; no self-recursion -/

/-- **replay_ends_released** (full).  For any layout, any configuration values, any history from
start-up whatsoever (recordings, re-recordings, truncations, the limit, nested plays, typing during
replays, any `ms_elapsed`; pinned code: `ms_elapsed < 65536`): whenever no replay is in progress,
every key press that replays have handed to the layout has been followed by a release of the same
key, also handed to the layout. And every stored macro is balanced in the same sense. -/
theorem replay_ends_released {L} (I : LayoutI L) (c : Cfg) (lay : L) (inputs : List Input) (k' : K L)
    (hm : MsOK c inputs) (h : run I c (K.init lay) inputs = .ok k') :
    (k'.rep = none →
      ∀ pre post x, k'.fed = pre ++ ⟨true, x⟩ :: post → (⟨false, x⟩ : KeyEv) ∈ post) ∧
    (∀ id items, k'.store.get id = some items →
      ∀ pre post x, evsQ items = pre ++ ⟨true, x⟩ :: post → (⟨false, x⟩ : KeyEv) ∈ post) := by
  obtain ⟨_, g2, _, g4⟩ := run_good I c inputs _ k' hm (good_init lay) h
  constructor
  · intro hr pre post x hf
    rw [Bal, hr, planOf, List.append_nil] at g4
    exact released_of_scanEv_nil g4 hf
  · intro id items hg pre post x hf
    exact released_of_scanEv_nil ((scan_eq_scanEv [] items).symm.trans (g2 id items hg).2) hf

/-- **no_self_recursion** (full).  In every reachable state with a replay in progress, the guard set
`active_macros` is duplicate-free and consists of one top-level macro plus exactly the macros whose
end marker is still in the queue (i.e. whose items are still being played), the markers being
distinct; and playing an active macro changes nothing.  So a macro's items are never queued again
while an earlier expansion of the same macro is unfinished. -/
theorem no_self_recursion {L} (I : LayoutI L) (c : Cfg) (lay : L) (inputs : List Input) (k' : K L)
    (hm : MsOK c inputs) (h : run I c (K.init lay) inputs = .ok k') (st : Replay)
    (hs : k'.rep = some st) :
    st.active.Nodup ∧ (markers st.queue).Nodup ∧
      (∃ top, Item.endMacro top ∉ st.queue ∧
        ∀ a, a ∈ st.active ↔ (a = top ∨ Item.endMacro a ∈ st.queue)) ∧
      ∀ id ∈ st.active, playMacro id k'.store (some st) = some st := by
  obtain ⟨_, _, g3, _⟩ := run_good I c inputs _ k' hm (good_init lay) h
  rw [hs] at g3
  obtain ⟨h1, h2, top, h3, h4⟩ := g3
  refine ⟨h1, h2, ⟨top, by rwa [← mem_markers], fun a => by rw [h4 a, mem_markers]⟩, ?_⟩
  intro id hid
  simp only [playMacro, hid, if_true]

/-! ## Findings: dynamic-macro actions that fire late (KNOWN_FINDINGS.jsonl, C19, L lines)

`no_self_recursion` speaks about the guard set while the items of a macro are still in the replay
queue.  The guard dies with the queue: `tick_replay_state` sets the replay state to `None` one pop
after the last item was handed to `layout.event`, whether or not the layout has acted on the events
yet.  A play action that the layout performs later than that (tap-dance item at the dance timeout,
hold of a tap-hold, tap of a tap-hold behind another undecided tap-hold, a plain play key queued
behind an undecided tap-hold) finds no replay running and starts the macro again - from the macro's
own events, for ever.  Likewise the stop action drops ONE item, the last one recorded, which is the
stop key's press only if the action fires on that press. -/

/-- a layout with one key (32) whose action `(dynamic-macro-play 1)` fires `T` ticks after its press
(what a tap-dance item or the hold of a tap-hold does); the state is the countdown -/
def lateI (T : Nat) : LayoutI (Option Nat) :=
  { event := fun l e => if e.press && e.osc == 32 && l.isNone then some T else l,
    tick := fun l => match l with
      | none => (none, [], [])
      | some 0 => (none, [.play 1], [])
      | some (n + 1) => (some n, [], []) }

/-- macro 1 is a tap of that key -/
def lateK : K (Option Nat) := { (K.init none) with store := [(1, [.press 32 1, .release 32 1])] }

/-- **late_play_self_recursion_counterexample** (the code as it is; either delay behaviour).  ONE
physical press of the key, then 60 ms without any input: macro 1 - a tap of that key - has been
replayed five times, each replay started by the play action that the previous replay's own press
caused, each time with no replay running any more (so `playMacro` does not refuse).  The statement
of C19 ("a macro never replays itself recursively") and the documentation ("dynamic macros cannot
recurse") are violated; reproduced on the real code by the `C19 L` lines (tap-dance, tap-hold). -/
theorem late_play_self_recursion_counterexample (beh : Beh) :
    ∃ k', run (lateI 10) { fix := true, beh := beh, maxPresses := 128 } lateK
        [.key ⟨true, 32⟩, .tick 60] = .ok k' ∧
      k'.fed = [⟨true, 32⟩, ⟨false, 32⟩, ⟨true, 32⟩, ⟨false, 32⟩, ⟨true, 32⟩, ⟨false, 32⟩,
                ⟨true, 32⟩, ⟨false, 32⟩, ⟨true, 32⟩, ⟨false, 32⟩] := by
  cases beh <;> exact exists_ok_of_check _ K.fed _ (by decide +kernel)

/-- **stop_on_release_keeps_stop_key_counterexample**.  Recording: `a` (30) tapped, then the stop
key (31) pressed and released, the stop action firing on the release (the tap of a tap-hold).  The
stored macro still contains the press of the stop key, and a release is synthesized for it: only
the last recorded item is dropped.  C19 wants the stop key itself excluded. -/
theorem stop_on_release_keeps_stop_key_counterexample :
    stopMacro true [] 0 (recordRelease 31 (recordPress [] 128 31 (recordRelease 30
        (recordPress [] 128 30 (some (Rec.new 1))).1)).1) =
      .ok (none, some (1, [.press 30 0, .release 30 0, .press 31 0, .release 31 0])) := rfl

/-! ## No crash -/

/-- **stop_no_crash** (full, fixed code).  No history makes the dynamic-macro code of the fixed tree
crash, for any layout and any configuration values. -/
theorem stop_no_crash {L} (I : LayoutI L) (c : Cfg) (hf : c.fix = true) (inputs : List Input)
    (k : K L) : ∃ k', run I c k inputs = .ok k' :=
  run_total I c hf inputs k

/-- `(multi (dynamic-macro-record 1) (dynamic-macro-record 1))` on key 44, plus a plain key -/
def cexKeys : List KeyDef :=
  [{ osc := 44, out := none, acts := [.record 1, .record 1] }, { osc := 30, out := some 30, acts := [] }]

def cexInputs : List Input := [.key ⟨true, 44⟩, .tick 1]

/-- **stop_no_crash_counterexample** (pinned code).  Pressing that key once and letting one
millisecond pass runs `begin_record_macro` on a recording with nothing in it: `len() - 1` on an
empty `Vec` (reproduced on the real code by the harness: "attempt to subtract with overflow").
The fixed code stores an empty macro instead. -/
theorem stop_no_crash_counterexample :
    run (flatI cexKeys) { fix := false, beh := .recorded, maxPresses := 128 } (K.init {}) cexInputs
        = .error .beginLenMinusOne ∧
      ∃ k', run (flatI cexKeys) { fix := true, beh := .recorded, maxPresses := 128 } (K.init {}) cexInputs
        = .ok k' ∧ k'.store = [(1, [])] ∧ k'.rcd = none := by
  exact ⟨rfl, _, rfl, rfl, rfl⟩

/-- The pinned code crashes exactly when a recording with nothing recorded is stopped or re-begun. -/
theorem stop_crash_iff_pinned (hint : List Nat) (n : Nat) (r : Rec) :
    (∃ e, stopMacro false hint n (some r) = .error e) ↔ (r.items = [] ∧ r.waiting = none) := by
  obtain ⟨id, w, items, d⟩ := r
  cases w <;> cases items <;> simp [stopMacro, removeLast, Rec.flushItems]

/-! ## Same output as typing again (one-layer configurations of plain keys) -/

/-- **flat_output_is_timing_independent** (full, for the one-layer layout `Flat`).  Take a one-layer
configuration, a layout state whose event queue is empty and whose previous-keys list is up to date,
and any interleaving of events and ticks in which every event is followed by a tick before the
next event arrives (so that the 32-slot queue never holds two events), ending with a tick.  The OS
key events written, in order, are a function of the event sequence alone: how many ticks pass
between the events does not matter.  This is the determinism that turns "the same events in the
same order" into "the same output". -/
theorem flat_output_is_timing_independent (keys : List KeyDef) (l : Flat) (ops : List FlatOp)
    (hq : l.queue = []) (hp : l.prev = keycodes l.states) (hs : Spaced ops = true) :
    (flatRun keys l ops).2 = flatTrace keys l.states (eventsOf ops) :=
  flatRun_trace keys ops l hq hp hs

/-- **flat_replay_output** (full, for the one-layer layout).  A replay in progress on a one-layer
configuration without play keys, the layout's queue empty, nothing else arriving, `tick_ms` called
with any sequence of `ms` values that add up to at least `mu`: the replay ends, and the OS key events
written meanwhile are exactly `flatTrace` of the queued key events — every fed event is processed
in a tick of its own, none is lost, whatever the delays and the delay behaviour. -/
theorem flat_replay_output (keys : List KeyDef) (c : Cfg) (hn : NoPlay (flatI keys)) (ticks : List Nat)
    (k k' : K Flat) (hms : ∀ ms ∈ ticks, c.fix = true ∨ ms < 65536)
    (hq : k.lay.queue = []) (hp : k.lay.prev = keycodes k.lay.states)
    (hmu : mu c.beh k.rep ≤ ticks.sum)
    (h : run (flatI keys) c k (ticks.map .tick) = .ok k') :
    k'.rep = none ∧
      osKeys k'.os = osKeys k.os ++ flatTrace keys k.lay.states (planOf k.rep) := by
  have hj : FlatJ keys (osKeys k.os ++ flatTrace keys k.lay.states (planOf k.rep)) k :=
    ⟨hp, .inl hq, fun _ => hq, by simp [hq]⟩
  obtain ⟨_, _, j3, j4⟩ := runTicks_flatJ keys c hn _ ticks k k' hms hj h
  have hnone := (replay_feeds_same_events (flatI keys) c hn _ k k' (msOK_ticks c ticks hms) h).2.2
    (by rw [totalMs_ticks]; exact hmu)
  refine ⟨hnone.1, ?_⟩
  rw [hnone.1] at j4
  simpa [j3 hnone.1, planOf, flatTrace] using j4

/-- **replay_same_output_partial**.  Full statement wanted: on every time-insensitive configuration
the OS output of a replay equals the OS output of the original typing, followed by the releases of
the keys the typing left down.  Proved: exactly that for one-layer configurations of plain keys and
record/stop keys (`Flat`), for every typing history in which each event gets a tick before the next
(`Spaced`), every spacing of ticks, both delay behaviours and any `ms_elapsed` sequence: if the
replay's queue holds the typed events followed by `rels` (which is what `replay_is_recorded` stores:
`typed` = the kept events, `rels` = releases of the keys left down) and both start from the same
layout states, then

    replay output = typing output ++ output of feeding `rels`.

Not proved: the same for full keyberon (layers, and the time-sensitive actions — for those it is
false with constant delays, and holds with recorded delays only when no other event shares the
layout queue); there the check compares the real OS traces on generated histories. -/
theorem replay_same_output_partial (keys : List KeyDef) (c : Cfg) (hn : NoPlay (flatI keys))
    -- the typing
    (l : Flat) (ops : List FlatOp) (hlq : l.queue = []) (hlp : l.prev = keycodes l.states)
    (hs : Spaced ops = true)
    -- the replay
    (ticks : List Nat) (k k' : K Flat) (hms : ∀ ms ∈ ticks, c.fix = true ∨ ms < 65536)
    (hq : k.lay.queue = []) (hp : k.lay.prev = keycodes k.lay.states)
    (hmu : mu c.beh k.rep ≤ ticks.sum)
    (h : run (flatI keys) c k (ticks.map .tick) = .ok k')
    -- same starting states; the queue holds what was typed, then the releases
    (hst : k.lay.states = l.states) (rels : List KeyEv) (hplan : planOf k.rep = eventsOf ops ++ rels) :
    osKeys k'.os = osKeys k.os ++ (flatRun keys l ops).2 ++
      flatTrace keys (flatStates keys l.states (eventsOf ops)) rels := by
  obtain ⟨_, h2⟩ := flat_replay_output keys c hn ticks k k' hms hq hp hmu h
  rw [h2, hplan, flatTrace_append, hst, flat_output_is_timing_independent keys l ops hlq hlp hs,
    List.append_assoc]

/-! ## The model's constants and code shape are the ones in the source tree now -/

/-- **consts_from_source**: `KVerif.Gen.DynMacroConsts` is regenerated from the source on every run.
The replay gap 5, the limit factor 2, the layout's queue size and `states` capacity are the ones
the model uses; and the tree contains the two repaired expressions, i.e. the model with
`fix = true` (which the correspondence check runs) is the model of the current code. -/
theorem consts_from_source :
    Gen.DM_REPLAY_GAP = 5 ∧ Gen.DM_LIMIT_FACTOR = 2 ∧ Gen.LAYOUT_QUEUE_SIZE = QUEUE_SIZE ∧
      Gen.LAYOUT_STATES_CAP = STATES_CAP ∧ Gen.DM_FIX_POP = true ∧ Gen.DM_FIX_CLAMP = true := by
  decide

/-! ## Non-vacuity -/

/-- a typing history: `a` down, 3 ms, `b` down, `a` up, 1 ms, stop key down -/
def sampleEvs : List RecEv :=
  [.release 2, .tick, .press 30, .tick, .tick, .tick, .press 48, .release 30, .tick, .press 8]

example : keyCount sampleEvs ≤ 2 * 128 + 2 := by decide
example : timed sampleEvs =
    [.release 2 1, .press 30 3, .press 48 0, .release 30 1, .press 8 0] := by decide
example : specBody 1 sampleEvs = [.release 2 1, .press 30 3, .press 48 0] := by decide
example : leftDown (specBody 1 sampleEvs) = [30, 48] := by decide
example : leftDown (specBody 0 sampleEvs) = [48] := by decide
/-- a limit that is reached: max = 1 allows 4 key events, the fifth press stops the recording -/
example : keyCount (sampleEvs.take 9) = 2 * 1 + 2 := by decide
example : MsOK { fix := false, beh := .recorded, maxPresses := 1 } [.key ⟨true, 30⟩, .tick 5, .hint [1]] := by
  simp [MsOK]
example : NoPlay (flatI [{ osc := 30, out := some 30, acts := [] }, { osc := 2, out := none, acts := [.record 1] }]) := by
  apply noPlay_flat
  intro kd hkd id
  simp at hkd
  rcases hkd with rfl | rfl <;> simp
example : Spaced [.ev ⟨true, 30⟩, .tick, .tick, .ev ⟨false, 30⟩, .tick] = true := by decide

/-- a replay on a two-key one-layer configuration: the hypotheses of `flat_replay_output` and
`replay_same_output_partial` hold and the trace is the expected one -/
def sampleKeys : List KeyDef :=
  [{ osc := 30, out := some 30, acts := [] }, { osc := 48, out := some 48, acts := [] },
   { osc := 2, out := none, acts := [.record 1] }]
def sampleRep : Replay :=
  { active := [1], delay := 0, queue := [.press 30 3, .press 48 0, .release 30 1, .release 48 0] }
def sampleK : K Flat := { lay := {}, rep := some sampleRep }
def sampleCfg : Cfg := { fix := false, beh := .recorded, maxPresses := 128 }
def sampleOps : List FlatOp :=
  [.ev ⟨true, 30⟩, .tick, .tick, .tick, .ev ⟨true, 48⟩, .tick, .ev ⟨false, 30⟩, .tick]

example : NoPlay (flatI sampleKeys) := by
  apply noPlay_flat
  intro kd hkd id
  simp [sampleKeys] at hkd
  rcases hkd with rfl | rfl | rfl <;> simp
example : mu sampleCfg.beh sampleK.rep ≤ [2, 3, 1, 1].sum := by decide
example : Spaced sampleOps = true := by decide
example : planOf sampleK.rep = eventsOf sampleOps ++ [⟨false, 48⟩] := by decide
example : ∃ k', run (flatI sampleKeys) sampleCfg sampleK ([2, 3, 1, 1].map .tick) = .ok k' ∧
    osKeys k'.os = [⟨true, 30⟩, ⟨true, 48⟩, ⟨false, 30⟩, ⟨false, 48⟩] :=
  exists_ok_of_check _ (fun k : K Flat => osKeys k.os) _ (by decide +kernel)
example : (flatRun sampleKeys {} sampleOps).2 = [⟨true, 30⟩, ⟨true, 48⟩, ⟨false, 30⟩] := by decide
/-- a reachable replay state with a nested macro: the guard set is {top} ∪ markers -/
example : playMacro 2 [(2, [.press 30 0, .release 30 0])]
      (some { active := [1], delay := 3, queue := [.release 5 0] }) =
    some { active := [1, 2], delay := 3,
           queue := [.press 30 0, .release 30 0, .endMacro 2, .release 5 0] } := by decide

end KVerif.DynMacro
