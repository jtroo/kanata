/-
C12 — sequences: accepted `defseq` tables are unambiguous; a typed sequence fires its key once.
Property theorems only; helper lemmas are in KVerif/Lemmas/Seq*.lean, the executable model in
KVerif/Model/SeqTrie.lean (parser side) and KVerif/Model/Sequences.lean (runtime side), the
specification-side definitions (`perms`, `orderings`, `PrefixFree`, `lvs`, `absKey`) in
KVerif/Model/SeqSpec.lean.
-/
import KVerif.Lemmas.SeqRunPlain
import KVerif.Gen.SeqConsts
namespace KVerif.Seq

/-! ## the table side -/

/-- **seq_consts_from_source**: masks, key codes and small match-arm tables the model uses are the
ones in the source tree now (`KVerif.Gen.SeqConsts` is regenerated from the source on every run),
and the textual shape of the group-size arms of `parse_sequences` and of the three `Trie` wrappers
is the one modelled. -/
theorem seq_consts_from_source :
    MASK_KEYCODES = Gen.SEQ_MASK_KEYCODES ∧ MASK_MODDED = Gen.SEQ_MASK_MODDED ∧
    KEY_OVERLAP_MARKER = Gen.SEQ_KEY_OVERLAP_MARKER ∧ KC_OVERLAP = Gen.SEQ_KEY_OVERLAP ∧
    NOT_OVERLAP_MARKER = 65535 - Gen.SEQ_KEY_OVERLAP_MARKER ∧
    (∀ p ∈ Gen.SEQ_MOD_MASKS, modMask p.1 = p.2) ∧
    (∀ k < 1024, modMask k ≠ 0 → k ∈ Gen.SEQ_MOD_MASKS.map (·.1)) ∧
    (∀ k < 1024, isModifier k = Gen.SEQ_IS_MODIFIER.contains k) ∧
    (∀ k < 1024, isVbReleasedMod k = Gen.SEQ_VB_RELEASED_MODS.contains k) ∧
    (∀ k < 1024, normaliseMod k = (Gen.SEQ_R2L.lookup k).getD k) ∧
    KEY_IGNORE_MIN = Gen.SEQ_KEY_IGNORE_MIN ∧ KEY_IGNORE_MAX = Gen.SEQ_KEY_IGNORE_MAX ∧
    KC_BSPACE = Gen.SEQ_KEY_BACKSPACE ∧ Gen.SEQ_GROUP_ARMS_AS_MODELLED = true ∧
    Gen.SEQ_TRIE_WRAPPERS_AS_MODELLED = true := by
  refine ⟨rfl, rfl, rfl, rfl, rfl, by decide, ?_, ?_, ?_, ?_, rfl, rfl, rfl, rfl, rfl⟩
  · -- a key that is none of the listed ones falls through every arm of `modMask`
    intro k _ h
    apply Classical.byContradiction
    intro hk
    simp only [Gen.SEQ_MOD_MASKS, List.map_cons, List.map_nil, List.mem_cons, List.not_mem_nil,
      or_false, not_or] at hk
    simp [modMask, KC_LSHIFT, KC_RSHIFT, KC_LCTRL, KC_RCTRL, KC_LALT, KC_RALT, KC_LGUI, KC_RGUI,
      KC_OVERLAP, hk] at h
  -- `isModifier`, `isVbReleasedMod`: the definition tests the keys of the list, in its order
  iterate 2
    intro k _
    rw [Bool.eq_iff_iff]
    simp only [isModifier, isVbReleasedMod, Gen.SEQ_IS_MODIFIER, Gen.SEQ_VB_RELEASED_MODS, KC_LSHIFT,
      KC_RSHIFT, KC_LCTRL, KC_RCTRL, KC_LALT, KC_RALT, KC_LGUI, KC_RGUI, List.contains_iff_mem,
      List.mem_cons, List.not_mem_nil, Bool.or_eq_true, beq_iff_eq, or_false, or_assoc]
  · -- both sides make the same three tests in the same order
    intro k _
    simp only [normaliseMod, Gen.SEQ_R2L, List.lookup, KC_LSHIFT, KC_RSHIFT, KC_LCTRL, KC_RCTRL,
      KC_LGUI, KC_RGUI, ← beq_iff_eq (a := k)]
    cases k == 54 <;> cases k == 126 <;> cases k == 97 <;> rfl

/-- **gen_permutations_complete** (full for the sizes that reach it).  For a group of 2 to 6 members
— the only sizes for which `parse_sequences` calls `gen_permutations` — Heap's algorithm as
implemented produces exactly the permutations of the group: every list it outputs is a permutation
of the input and every permutation of the input is output.  The first half holds at every size (the
algorithm only swaps); the second is proved by naturality of the algorithm in the element type (all
sizes, by induction) plus complete evaluation on the index lists of length 2..6 inside the kernel;
not proved for sizes above 6, which the parser rejects before calling it. -/
theorem gen_permutations_complete {α : Type} (l : List α) (h2 : 2 ≤ l.length) (h6 : l.length ≤ 6)
    (p : List α) : p ∈ genPermutations l ↔ p.Perm l :=
  mem_genPermutations_iff l h2 h6 p

example : [3, 1, 2] ∈ genPermutations [1, 2, 3] :=
  (gen_permutations_complete [1, 2, 3] (by decide) (by decide) _).2 (by decide)

/-- **insertion_accepts_iff** (full).  The conflict checks of the insertion loop (`ancestor_exists`,
`descendant_exists`) accept a batch of keys exactly when the new keys are non-empty, pairwise
prefix-incomparable and incomparable with every key already stored; the trie then holds exactly the
old entries and the new keys with the given value. -/
theorem insertion_accepts_iff {V : Type} (v : V) (ps : List Key) (t t' : Trie V) :
    insertPerms t v ps = .ok t' ↔
      t'.entries = ps.reverse.map (fun p => (p, v)) ++ t.entries ∧ ps.Pairwise Incomp ∧ [] ∉ ps ∧
        ∀ p ∈ ps, ∀ k ∈ t.keys, Incomp p k :=
  insertPerms_ok_iff v ps t t'

/-- **accepted_prefix_free** (full).  Whenever the parser accepts a set of `defseq` tables, no stored
key — with every overlap group in every order included — is a prefix of another stored key (nor
equal to one stored at another position). -/
theorem accepted_prefix_free (tbl : List (Nat × List Item)) (t : Trie Nat)
    (h : parseSequences tbl = .ok t) : PrefixFree t.keys :=
  (parseSequences_spec h).1

/-- **accepted_stores_orderings** (full).  An accepted table stores exactly the permitted orderings of
its key lists (specification `orderings`: every `O-(…)` group in every permutation of its members,
given by plain insertion-permutations, not by Heap's algorithm), each with the virtual key of its
entry, and each is found by the runtime lookup with that virtual key. -/
theorem accepted_stores_orderings (tbl : List (Nat × List Item)) (t : Trie Nat)
    (h : parseSequences tbl = .ok t) :
    ∃ pairs, tableOrderings encOf tbl = some pairs ∧ (∀ x, x ∈ t.entries ↔ x ∈ pairs) ∧
      ∀ p v, (p, v) ∈ pairs → t.getOrDescendant p = .hasValue v := by
  obtain ⟨hok, _, pairs, hp, hm⟩ := parseSequences_spec h
  exact ⟨pairs, hp, hm, fun p v hpv => lookup_of_mem t hok p v ((hm (p, v)).2 hpv)⟩

/-- the table `(defseq v0 (a b) v1 (O-(c d)))` -/
def exTable : List (Nat × List Item) :=
  [(0, [.key 30, .key 48]), (1, [.held [251] [.key 46, .key 32]])]

def exTrie : Trie Nat := ⟨[([1056, 1070, 1024], 1), ([1070, 1056, 1024], 1), ([30, 48], 0)]⟩

theorem exTable_accepted : parseSequences exTable = .ok exTrie := by rfl

example : parseSequences exTable = .ok exTrie := exTable_accepted
example : PrefixFree exTrie.keys := accepted_prefix_free exTable exTrie exTable_accepted
example : tableOrderings encOf exTable =
    some [([30, 48], 0), ([1070, 1056, 1024], 1), ([1056, 1070, 1024], 1)] := by decide
/-- a table in which one sequence is a prefix of another is rejected -/
example : parseSequences [(0, [.key 30]), (1, [.key 30, .key 48])] = .error .conflictAncestor := by rfl

/-- **lookup_unique** (full).  In a trie whose keys are prefix-free, what the user types determines at
most one match: along any typed word at most one prefix has a value. -/
theorem lookup_unique (t : Trie Nat) (hpf : PrefixFree t.keys) (w p q : Key) (a b : Nat)
    (hp : p <+: w) (hq : q <+: w) (ha : t.getOrDescendant p = .hasValue a)
    (hb : t.getOrDescendant q = .hasValue b) : p = q ∧ a = b := by
  have hok : TrieOK t := hpf
  rcases List.prefix_or_prefix_of_prefix hp hq with h | h
  · simpa using hok.eq_of_prefix (mem_of_hasValue ha) (mem_of_hasValue hb) h
  · simpa [eq_comm] using hok.eq_of_prefix (mem_of_hasValue hb) (mem_of_hasValue ha) h

example : exTrie.getOrDescendant [30, 48] = .hasValue 0 ∧ exTrie.getOrDescendant [30] = .inTrie := by decide

/-! ## the runtime side -/

/-- **seq_fires_once_partial** (proved for tables of plain keys).
Full statement: for every accepted table (plain keys, modifier chords and groups, `O-(…)` groups),
after the leader, typing a defined sequence in a permitted order with every key arriving before the
timeout taps its virtual key exactly once and leaves sequence mode.
Proved here: the table consists of plain keys (`PlainTrie`; prefix-freeness `TrieOK` is what
`accepted_prefix_free` provides), the typed keys reach `do_sequence_press_logic` with no modifier
held, and between two keys any number `< T` of `tick_sequence_state` calls and any number of
all-keys-released hooks may occur.  Then exactly one virtual key is tapped, the one of the typed
sequence; sequence mode ends; in the hidden modes nothing at all is emitted at the OS; in
visible-backspaced mode the OS sees the typed keys, releases of held ctrl/alt/gui keys, and one
backspace per typed key (less the `sequence-noerase` count).
Missing for chorded and overlap tables: a characterisation of the modifier-bit backtracking loop,
of the overlapped-sequence variant and of the all-released completion when they *do* find entries
(they mutate both encodings), and of the key-state diff that supplies `mod_mask`; those paths are
modelled (Model/Sequences.lean) and compared with the real code tick by tick, not proved about. -/
theorem seq_fires_once_partial {t : Trie Nat} (hp : PlainTrie t) (hok : TrieOK t) (mc : Bool)
    (e : Eng) (u : Key) (k j : Nat) (pre : List Inp)
    (hs : (u ++ [k], j) ∈ t.entries)
    (ha : e.st.active = true) (hseq : e.st.sequence = []) (hT : 0 < e.st.timeout)
    (hb : e.st.ticksUntilTimeout = e.st.timeout)
    (hkeys : keysOf pre = u) (hwt : WellTimed e.st.timeout e.st.timeout pre) :
    ∃ e', engRun t mc e (pre ++ [.key k]) = .ok e' ∧ e'.st.active = false ∧ e'.taps = e.taps ++ [j] ∧
      (e.st.mode ≠ .visibleBackspaced → e'.out = e.out) ∧
      (e.st.mode = .visibleBackspaced → ∃ rel : List Nat,
        e'.out = e.out ++ (u ++ [k]).map Out.down ++ rel.flatMap osRelease ++
          (List.replicate ((u ++ [k]).length - e.st.noerase) [Out.down KC_BSPACE, Out.up KC_BSPACE]).flatten) := by
  have hplain := plain_of_mem hp hs
  obtain ⟨hu, b, ovl, hr⟩ := run_prefix hp hok mc e pre hs rfl (by simp) ha hseq hT hb hkeys hwt
  have kf := key_fires hp mc (e.tracked u ovl b u) (hplain k (by simp)) hu (absKey_complete hok hs)
  refine ⟨_, by rw [engRun_append, hr]; simp only [engRun, engStep, ha, if_true],
    kf.1, kf.2.1, fun hm => ?_, fun hm => ?_⟩
  · rw [kf.2.2.1 hm]
    simp [hm]
  · obtain ⟨rel, hrel⟩ := kf.2.2.2 hm
    exact ⟨rel, by rw [hrel]; simp [hm, charCount_plain _ hplain]⟩

/-- the plain table `(defseq v0 (a b) v1 (a c d))` as the trie the parser builds -/
def exPlain : Trie Nat := ⟨[([30, 46, 32], 1), ([30, 48], 0)]⟩
def exPlainTable : List (Nat × List Item) := [(0, [.key 30, .key 48]), (1, [.key 30, .key 46, .key 32])]
theorem exPlainTable_accepted : parseSequences exPlainTable = .ok exPlain := by rfl

example : parseSequences exPlainTable = .ok exPlain := exPlainTable_accepted
/-- sequence mode as `sldr` leaves it: hidden-suppressed, timeout 5 -/
def exFresh (mode : Mode) : Eng := { st := ({} : SeqState).activate mode 5, states := [] }

/-- `a`, two ticks, all keys released, `b`: virtual key 0 is tapped once, nothing is typed -/
example : ∃ e', engRun exPlain true (exFresh .hiddenSuppressed)
      ([.key 30, .tick, .tick, .released] ++ [.key 48]) = .ok e' ∧ e'.st.active = false ∧ e'.taps = [0] ∧
      e'.out = [] := by
  obtain ⟨e', h1, h2, h3, h4, _⟩ := seq_fires_once_partial (t := exPlain) (by decide)
    (accepted_prefix_free exPlainTable exPlain exPlainTable_accepted) true (exFresh .hiddenSuppressed) [30] 48 0
    [.key 30, .tick, .tick, .released] (by decide) rfl rfl (by decide) rfl rfl (by simp [WellTimed, exFresh, SeqState.activate])
  exact ⟨e', h1, h2, h3, h4 (by decide)⟩

/-- **nonmatching_key_ends_partial** (proved for tables of plain keys; what is missing for chorded
and overlap tables is as for `seq_fires_once_partial`).  After a proper prefix `u` of a defined
sequence has been typed in time, a key `k` after which no defined sequence can still match — no
non-empty suffix of what was typed is the beginning of a defined sequence — ends sequence mode
without tapping any virtual key.  hidden-suppressed emits nothing; hidden-delay-type types the raw
keys as taps; visible-backspaced has shown the typed keys and sends no backspace. -/
theorem nonmatching_key_ends_partial {t : Trie Nat} (hp : PlainTrie t) (hok : TrieOK t) (mc : Bool)
    (e : Eng) (s u v : Key) (k j : Nat) (pre : List Inp)
    (hs : (s, j) ∈ t.entries) (hsv : u ++ v = s) (hv : v ≠ [])
    (hk : plainKey k = true) (hfail : lvs t.entries (u ++ [k]) = [])
    (ha : e.st.active = true) (hseq : e.st.sequence = []) (hT : 0 < e.st.timeout)
    (hb : e.st.ticksUntilTimeout = e.st.timeout)
    (hkeys : keysOf pre = u) (hwt : WellTimed e.st.timeout e.st.timeout pre) :
    ∃ e', engRun t mc e (pre ++ [.key k]) = .ok e' ∧ e'.st.active = false ∧ e'.taps = e.taps ∧
      e'.out = e.out ++
        (match e.st.mode with
         | .hiddenSuppressed => []
         | .hiddenDelayType => (e.st.rawOscs ++ u ++ [k]).flatMap (fun x => osPress x ++ osRelease x)
         | .visibleBackspaced => (u ++ [k]).map Out.down) := by
  obtain ⟨hu, b, ovl, hr⟩ := run_prefix hp hok mc e pre hs hsv hv ha hseq hT hb hkeys hwt
  have kf := key_fails hp mc (e.tracked u ovl b u) hk hu (by simp [absKey, hfail])
  refine ⟨_, by rw [engRun_append, hr]; simp only [engRun, engStep, ha, if_true], kf.1, kf.2.1, ?_⟩
  rw [kf.2.2]
  cases hmode : e.st.mode <;> simp [hmode]

/-- `a`, then `x` (which begins nothing): sequence mode ends, nothing is tapped; hidden-delay-type
types `a x` as taps -/
example : ∃ e', engRun exPlain true (exFresh .hiddenDelayType) ([.key 30, .tick] ++ [.key 45]) = .ok e' ∧
      e'.st.active = false ∧ e'.taps = [] ∧
      e'.out = [.down 30, .up 30, .down 45, .up 45] := by
  obtain ⟨e', h1, h2, h3, h4⟩ := nonmatching_key_ends_partial (t := exPlain) (by decide)
    (accepted_prefix_free exPlainTable exPlain exPlainTable_accepted) true (exFresh .hiddenDelayType) [30, 48] [30] [48] 45 0
    [.key 30, .tick] (by decide) rfl (by decide) (by decide) (by decide) rfl rfl (by decide) rfl rfl
    (by simp [WellTimed, exFresh, SeqState.activate])
  exact ⟨e', h1, h2, h3, h4⟩

/-- **timeout_ends** (full, every table).  With `b` ticks left on the sequence timer (`b` is the
configured timeout `T` right after the leader and right after every key: `SequenceState::activate`
and `do_sequence_press_logic` both reset it), fewer than `b` calls of `tick_sequence_state` leave
sequence mode on and emit nothing; the `b`-th ends it without tapping any virtual key
(hidden-delay-type then types the raw keys).  So a key processed `T - 1` ticks after the previous
one still belongs to the sequence, one processed `T` ticks after it does not. -/
theorem timeout_ends (t : Trie Nat) (mc : Bool) (e : Eng) (ha : e.st.active = true)
    (hb : 0 < e.st.ticksUntilTimeout) :
    (∀ n, n < e.st.ticksUntilTimeout → ∃ e', engRun t mc e (List.replicate n .tick) = .ok e' ∧
        e'.st.active = true ∧ e'.taps = e.taps ∧ e'.out = e.out ∧ e'.st.sequence = e.st.sequence) ∧
    ∃ e', engRun t mc e (List.replicate e.st.ticksUntilTimeout .tick) = .ok e' ∧
        e'.st.active = false ∧ e'.taps = e.taps ∧
        e'.out = e.out ++ (if e.st.mode = .hiddenDelayType then
          e.st.rawOscs.flatMap (fun k => osPress k ++ osRelease k) else []) := by
  constructor
  · intro n hn
    exact ⟨_, ticks_keep_active t mc n e ha hn, ha, rfl, rfl, rfl⟩
  · have cf := cancelSequence_fields { e with st := { e.st with ticksUntilTimeout := 0 } }
    exact ⟨_, ticks_time_out t mc e ha hb, cf.1, cf.2.1, cf.2.2.2.2⟩

example : (exFresh .hiddenSuppressed).st.active = true ∧ 0 < (exFresh .hiddenSuppressed).st.ticksUntilTimeout := by
  decide

/-- **accepted_no_empty_key**: an accepted table never stores the empty key list (used below: after a
cancelled sequence the lookup of the emptied sequence cannot complete anything). -/
theorem accepted_no_empty_key (tbl : List (Nat × List Item)) (t : Trie Nat)
    (h : parseSequences tbl = .ok t) : ∀ j, t.getOrDescendant [] ≠ .hasValue j :=
  fun _ hj => (parseSequences_spec h).2.1 (List.mem_map_of_mem (mem_of_hasValue hj))

/-- **hidden_presses_nothing** (full, every table: plain, chorded, overlap groups; any modifier mask;
any state).  In the two hidden modes, while sequence mode is on, none of the three sequence hooks
presses anything at the OS — with one exception, which is the documented behaviour of
hidden-delay-type: when a key or the timeout cancels the sequence (and only then: no virtual key is
tapped in that step) the raw typed keys are sent as taps.  (`hne`: the table stores no empty key
list — `accepted_no_empty_key`.) -/
theorem hidden_presses_nothing (t : Trie Nat) (hne : ∀ j, t.getOrDescendant [] ≠ .hasValue j)
    (mc : Bool) (e : Eng) (hm : e.st.mode ≠ .visibleBackspaced) :
    (∀ k mm, (doSeqPress t mc e k mm).out = e.out ∨
      (e.st.mode = .hiddenDelayType ∧ (doSeqPress t mc e k mm).st.active = false ∧
        (doSeqPress t mc e k mm).taps = e.taps ∧
        (doSeqPress t mc e k mm).out = e.out ++
          (e.st.rawOscs ++ [k]).flatMap (fun k => osPress k ++ osRelease k))) ∧
    (allReleasedHook t e).out = e.out ∧
    (∀ e', tickSeq e = .ok e' → e'.out = e.out ∨
      (e.st.mode = .hiddenDelayType ∧ e'.st.active = false ∧ e'.taps = e.taps ∧
        e'.out = e.out ++ e.st.rawOscs.flatMap (fun k => osPress k ++ osRelease k))) := by
  refine ⟨fun k mm => doSeqPress_hidden t hne mc e k mm hm, ?_, ?_⟩
  · unfold allReleasedHook
    split
    · rfl
    · simp only
      split
      · exact (terminate_fields _ _ true).2.2.2 hm
      · rfl
      · rfl
  · intro e' h
    unfold tickSeq at h
    split at h
    · cases h; exact Or.inl rfl
    · split at h
      · cases h
      · simp only at h
        split at h <;> cases h
        · exact cancelSequence_hidden
            { e with st := { e.st with ticksUntilTimeout := e.st.ticksUntilTimeout - 1 } } hm
        · exact Or.inl rfl

example : ∀ j, exTrie.getOrDescendant [] ≠ .hasValue j := accepted_no_empty_key exTable exTrie exTable_accepted

/-- **backspaces_eq_typed** (full, every table).  When a sequence completes in visible-backspaced
mode the output is: releases of held ctrl/alt/gui keys, then exactly one backspace tap per character
key of the completed sequence — every element that is not the overlap marker, not a modifier and not
in the ignored range (this is how the code defines "character") — less the pending
`sequence-noerase` count.  For a plain-key sequence that is one backspace per typed key
(`seq_fires_once_partial`). -/
theorem backspaces_eq_typed (e : Eng) (j : Nat) (viaOverlap : Bool) (h : e.st.mode = .visibleBackspaced) :
    ∃ rel : List Nat, (terminate e j viaOverlap).out = e.out ++ rel.flatMap osRelease ++
      (List.replicate (charCount (if viaOverlap then e.st.overlapped else e.st.sequence) - e.st.noerase)
        [Out.down KC_BSPACE, Out.up KC_BSPACE]).flatten :=
  terminate_visible_out e j viaOverlap h

/-- `S-(a b)` completed: lsft is not a character, `a` and `b` are: two backspaces -/
example : charCount [42 ||| 0x8000, 30 ||| 0x8000, 48 ||| 0x8000] = 2 := by decide

end KVerif.Seq
