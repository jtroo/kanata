/-
C15, success half, after fix 908e3bf (`do_live_reload` resets the run-time state that referred to the
old layout): a successful live reload from an idle state IS a fresh start of the new configuration.
Property theorems only (helpers: KVerif/Lemmas/ReloadFresh.lean, ReloadRuns.lean, ReloadEqv.lean,
ReloadDM.lean, ReloadDMBlind.lean).  As in Props/C15.lean every theorem is quantified over all `World`s
(every keyberon layout, every parser, every implementation of the parts of kanata that are not reload
bookkeeping) and over all states and histories; `do_live_reload` and `Kanata::new` are INTERPRETED from
the statement / initialiser lists regenerated from src/kanata/mod.rs (`Gen/ReloadFields.lean`).
-/
import KVerif.Props.C15
import KVerif.Lemmas.ReloadEqv
import KVerif.Lemmas.ReloadDMBlind
namespace KVerif.Reload
open KVerif.Gen.Reload

variable {W : World}

/-- nothing is down: the last tick left no key pressed at the OS and no key is being collected -/
def NothingDown (s : KSt W) : Prop :=
  s .prev_keys = ([] : List Nat) ∧ s .cur_keys = ([] : List Nat)

/-! ## 1. Field by field: reloaded = freshly constructed, except a named list -/

/-- The comparison of `reload_from_idle_is_fresh_start` against a fresh instance positioned anywhere
on any command line (`freshAt`; `fresh paths' c` is position 0): `cfg_paths` and `cur_cfg_idx` are on
the retained list, so the position plays no role. -/
theorem reload_from_idle_is_fresh_at (hW : FreshLayer0 W) (env : Env W.toTypes) (s : KSt W)
    (r : RRes W.toTypes) (h : doLiveReload env s = .ok r) (hok : r.ok = true)
    (hreq : s .live_reload_requested = false) (hdown : NothingDown s) :
    ∃ p c, (s .cfg_paths : List Nat)[(s .cur_cfg_idx : Nat)]? = some p ∧ newFromFile env p = some c ∧
      (∀ (paths' : List Nat) (idx : Nat) (f : Field), f ∉ retainedOnReload →
        r.st f = (freshAt (W := W) ctorNew paths' idx c) f) ∧
      (∀ f : Field, f ∈ retainedOnReload → r.st f = s f) := by
  obtain ⟨p, c, hp, hc, hst, _, _⟩ := reload_success_form env s r h hok
  refine ⟨p, c, hp, hc, fun paths' idx f hf => ?_, fun f hf => ?_⟩
  · rw [hst]
    exact reloaded_get_fresh hW c s paths' idx hreq hdown.1 hdown.2 f (freshCheck_all f hf)
  · exact doLiveReload_frame env s r f h ((retained_exact f).1 hf).1

/-- **reload_from_idle_is_fresh_start** (full).  Take ANY state in which nothing is down (in
particular every state that is idle in kanata's sense, `isIdle`, with nothing down — `is_idle()`
itself turns out not to be needed: every run-time field is reset) and whose request flag has been
cleared (`handle_time_ticks` does that just before the call: `reload_in_loop_is_fresh_start`), and any
environment in which `do_live_reload` succeeds.  Then the file parsed to some `c` and, for EVERY
field `f` of `struct Kanata` and both global stores, except the fields of the explicit list
`retainedOnReload`

* plumbing — `kbd_out` (the sink handle), `cfg_paths`, `cur_cfg_idx` (the command line and the index of
  the file just loaded), `last_tick`, `time_remainder` (the clock), `tcp_server_address`;
* start-up-only options — `kbd_in_paths`, `continue_if_no_devices`, `include_names`, `exclude_names`,
  `x11_repeat_rate`, `device_detect_mode`, `allow_hardware_repeat` (read once before the loop starts);
* user data — `dynamic_macros` (macros recorded before the reload stay replayable: probably intended),
  `saved_clipboard_content`;

the reloaded instance holds exactly what `Kanata::new` of the new configuration stores in `f`
(whatever command line `paths'` the fresh instance is given).  The retained fields keep their old
value, and the list is tight (`retained_exact`: it is exactly the set of fields `do_live_reload` never
assigns, minus `cur_keys`, `prev_keys`, `live_reload_requested`).  The statement ranges over the
regenerated `Field` type and both sides are interpreted from the regenerated lists, so a field added
to the struct without a reset in `do_live_reload` makes `freshCheck_all` — and this theorem — fail.
Hypothesis `FreshLayer0`: a freshly built keyberon layout starts on layer 0 (needed for `prev_layer`,
which the reload sets to the new layout's current layer and the constructor to 0). -/
theorem reload_from_idle_is_fresh_start (hW : FreshLayer0 W) (env : Env W.toTypes) (s : KSt W)
    (r : RRes W.toTypes) (h : doLiveReload env s = .ok r) (hok : r.ok = true)
    (hreq : s .live_reload_requested = false) (hdown : NothingDown s) :
    ∃ p c, (s .cfg_paths : List Nat)[(s .cur_cfg_idx : Nat)]? = some p ∧ newFromFile env p = some c ∧
      (∀ (paths' : List Nat) (f : Field), f ∉ retainedOnReload → r.st f = (fresh (W := W) paths' c) f) ∧
      (∀ f : Field, f ∈ retainedOnReload → r.st f = s f) := by
  obtain ⟨p, c, hp, hc, hf, hk⟩ := reload_from_idle_is_fresh_at hW env s r h hok hreq hdown
  exact ⟨p, c, hp, hc, fun paths' => hf paths' 0, hk⟩

/-- the retained list, spelled out, and its tightness -/
example : retainedOnReload =
    [.kbd_out, .cfg_paths, .cur_cfg_idx, .last_tick, .time_remainder, .tcp_server_address,
     .kbd_in_paths, .continue_if_no_devices, .include_names, .exclude_names, .x11_repeat_rate,
     .device_detect_mode, .allow_hardware_repeat, .dynamic_macros, .saved_clipboard_content] ∧
    (∀ f, f ∈ retainedOnReload ↔ (f ∉ assigned reloadSteps ∧ f ∉ coveredByIdle)) :=
  ⟨rfl, retained_exact⟩

/-- the check behind the theorem is discriminating: every retained field FAILS it (none of them is
brought to the constructor's value by the regenerated statement list), so dropping a reset from
`do_live_reload` moves that field to the failing side and `freshCheck_all` no longer holds (tried:
deleting `self.caps_word = None` from the generated list breaks `freshCheck_all` and `retained_exact`) -/
example : ∀ f, f ∈ retainedOnReload → freshCheck f = false := by decide +kernel

/-- **reload_in_loop_is_fresh_start** (full): the same at the level of `handle_time_ticks`, where the
hypotheses of the previous theorem are established by the code itself.  Whenever one call of
`handle_time_ticks` performs a successful reload on the ordinary path — the idle counter at the
decision is at most 1000, so the reload condition can only have held because both key lists were
empty — the state it returns equals `Kanata::new` of the new configuration on every field outside
`retainedOnReload`.  (On the fall-back path, `ticks_since_idle > 1000` with keys still down, the same
holds for every field except `prev_keys`/`cur_keys`:
`successful_reload_first_layer_nothing_pressed_notified_once` says what happens to those keys.) -/
theorem reload_in_loop_is_fresh_start (hW : FreshLayer0 W) (env : Env W.toTypes) (ms : Nat) (s : KSt W)
    (r : HRes W.toTypes) (h : handleTimeTicks env ms s = .ok r) (hatt : r.attempt = some true) :
    ∃ s2 os m1, decisionState env ms s = .ok (s2, os, m1) ∧
      ((s2 .ticks_since_idle : Nat) ≤ 1000 →
        NothingDown s2 ∧
        ∃ p c, (s2 .cfg_paths : List Nat)[(s2 .cur_cfg_idx : Nat)]? = some p ∧ newFromFile env p = some c ∧
          ∀ (paths' : List Nat) (f : Field), f ∉ retainedOnReload → r.st f = (fresh (W := W) paths' c) f) := by
  obtain ⟨s2, os, m1, hd, _, hcase⟩ := handleTimeTicks_inv false env ms s r h
  refine ⟨s2, os, m1, hd, fun htsi => ?_⟩
  rcases hcase with ⟨_, h2, _, _⟩ | ⟨hdue, rr, hrr, hat, hst, _⟩
  · rw [h2] at hatt; cases hatt
  · have hnd : NothingDown s2 := by
      simp only [reloadDue, Bool.and_eq_true, Bool.or_eq_true, decide_eq_true_eq] at hdue
      rcases hdue.2 with hk | hk
      · exact ⟨List.isEmpty_iff.1 hk.1, List.isEmpty_iff.1 hk.2⟩
      · exact absurd hk (Nat.not_lt.2 htsi)
    obtain ⟨p, c, hp, hc, hf, _⟩ :=
      reload_from_idle_is_fresh_start hW env _ rr hrr (Option.some.inj (hat.symm.trans hatt))
        (St.set_same _ _ _)
        ⟨(St.set_other _ _ _ _ (by decide)).trans hnd.1, (St.set_other _ _ _ _ (by decide)).trans hnd.2⟩
    rw [St.set_other _ _ _ _ (by decide), St.set_other _ _ _ _ (by decide)] at hp
    exact ⟨hnd, p, c, hp, hc, fun paths' f hf' => by rw [hst]; exact hf paths' f hf'⟩

/-- the state `Mini.sU` with the idle counter at 7: idle in kanata's sense, nothing down, not initial
(an `unmod` key is recorded as held, the counter is running) -/
def Mini.sI : KSt Mini.world := Mini.sU.set .ticks_since_idle (7 : Nat)

/-- non-vacuity of `reload_from_idle_is_fresh_start` with the two configurations `Mini.cA` (old: key,
`lrld`, `(unmod …)`) and `Mini.cC` (new): `FreshLayer0` holds for the concrete world, the state is idle
with nothing down and is NOT a constructor's state, the reload succeeds -/
example : FreshLayer0 Mini.world ∧ isIdle Mini.sI = true ∧ NothingDown Mini.sI ∧
    Mini.sI .live_reload_requested = false ∧
    (Mini.sI .unmodded_keys : List Nat) = [5] ∧ (Mini.sI .ticks_since_idle : Nat) = 7 ∧
    ∃ r, doLiveReload (Mini.envOf (.ok Mini.cC)) Mini.sI = .ok r ∧ r.ok = true ∧
      (r.st .unmodded_keys : List Nat) = [] ∧ (r.st .ticks_since_idle : Nat) = 0 :=
  ⟨fun _ => rfl, rfl, ⟨rfl, rfl⟩, rfl, rfl, rfl, _, rfl, rfl, rfl, rfl⟩

/-- non-vacuity of `reload_in_loop_is_fresh_start`: a pending request with nothing down is served
in this call, on the ordinary path -/
example : ∃ r, handleTimeTicks (Mini.envOf (.ok Mini.cC)) 1
      (((fresh (W := Mini.world) [0] Mini.cA).set .ticks_since_idle (7 : Nat)).set
        .live_reload_requested true) = .ok r ∧ r.attempt = some true ∧
    (r.st .ticks_since_idle : Nat) = 0 := ⟨_, rfl, rfl, rfl⟩

/-! ## 2. Every later history: reloaded instance = fresh instance -/

/-- **reload_then_run_equiv_restart** (full, in the abstract-world setting; the loop is taken
without parking, as in `reload_fail_run_equiv`).  Let `do_live_reload` succeed, with new configuration
`c`, from a state with nothing down and the request flag cleared.  Compare the reloaded instance with
a freshly constructed instance of `c` on the same command line and positioned on the same file
(`freshAt ctorNew cfg_paths cur_cfg_idx c`; for index 0 this is literally `Kanata::new`).  Let `op` be
any set of retained fields other than `cfg_paths`/`cur_cfg_idx` (`OpOK`) such that

* `BlindTo op W`: the parts of kanata outside the reload bookkeeping (`handle_keystate_changes`,
  `tick_record_state`/`zippy_tick`/`tick_held_vkeys`, `tick_replay_state`, `handle_input_event`, the
  other conjuncts of `is_idle`) do not read the fields of `op`, and
* every other retained field happens to hold what the fresh instance holds (e.g. no dynamic macro
  was recorded before the reload; a start-up-only option has the same value in both configurations).

Then for EVERY later history — any inputs, any timing, the files changing again, further reload
requests that succeed or fail — both runs produce the same OS events and the same client
notifications iteration by iteration, or crash at the same point in the same way; and the final
states again agree on every field outside `op`.

With `op = retainedOpaque` the second hypothesis is vacuous: a world that never reads the retained
fields cannot tell a reloaded instance from a fresh one.  For kanata itself `BlindTo` is plausible for
the plumbing and start-up-only fields but FALSE for `dynamic_macros` (and `saved_clipboard_content`):
`reload_then_run_equiv_restart_counterexample`; taking `op` without them gives the equivalence for all
runs in which no macro had been recorded (no clipboard saved) before the reload. -/
theorem reload_then_run_equiv_restart (op : List Field) (hop : OpOK op) (hB : BlindTo op W)
    (hW : FreshLayer0 W) (env : Env W.toTypes) (s : KSt W) (r : RRes W.toTypes) (p : Nat) (c : W.Cfg)
    (hp : (s .cfg_paths : List Nat)[(s .cur_cfg_idx : Nat)]? = some p) (hc : newFromFile env p = some c)
    (h : doLiveReload env s = .ok r) (hok : r.ok = true)
    (hreq : s .live_reload_requested = false) (hdown : NothingDown s)
    (hret : ∀ g, g ∈ retainedOpaque → g ∉ op →
      s g = (freshAt (W := W) ctorNew (s .cfg_paths) (s .cur_cfg_idx) c) g)
    (script : List (Tick W.toTypes)) (msPrev : Nat) :
    ExRel (PairRel op) (runNB false script msPrev r.st)
      (runNB false script msPrev (freshAt ctorNew (s .cfg_paths) (s .cur_cfg_idx) c)) ∧
    (runNB false script msPrev r.st).map Prod.snd =
      (runNB false script msPrev (freshAt (W := W) ctorNew (s .cfg_paths) (s .cur_cfg_idx) c)).map Prod.snd := by
  obtain ⟨p', c', hp', hc', hfresh, hkeep⟩ := reload_from_idle_is_fresh_at hW env s r h hok hreq hdown
  obtain rfl : p = p' := Option.some.inj (hp.symm.trans hp')
  obtain rfl : c = c' := Option.some.inj (hc.symm.trans hc')
  have h0 : Eqv op r.st (freshAt (W := W) ctorNew (s .cfg_paths) (s .cur_cfg_idx) c) := by
    intro f hf
    by_cases hr : f ∈ retainedOnReload
    · rw [hkeep f hr]
      by_cases h1 : f = .cfg_paths
      · subst h1; rw [freshAt_const _ _ _ _ _ (by decide)]; rfl
      · by_cases h2 : f = .cur_cfg_idx
        · subst h2; rw [freshAt_const _ _ _ _ _ (by decide)]; rfl
        · exact hret f ((retainedOpaque_eq f).2 ⟨hr, h1, h2⟩) hf
    · exact hfresh _ _ f hr
  have hrel := eqv_runNB hop hB false script msPrev h0
  exact ⟨hrel, hrel.map_snd⟩

/-- non-vacuity of `BlindTo`: the concrete world of the correspondence check reads none of the
retained fields -/
theorem blindTo_mini_world : BlindTo retainedOpaque Mini.world :=
  blindTo_mini (by decide) (by decide) (by decide) (by decide)

/-- non-vacuity of `reload_then_run_equiv_restart` with `Mini.cA` → `Mini.cC` from the idle,
non-initial state `Mini.sI`: all hypotheses are met with `op = retainedOpaque`, and a history after
the reload (tap key 0, then tap `lrld` again) runs to the end producing output -/
example : OpOK retainedOpaque ∧
    (∃ r, doLiveReload (Mini.envOf (.ok Mini.cC)) Mini.sI = .ok r ∧ r.ok = true ∧
      ∃ s' out, runNB (W := Mini.world) false
        [⟨Mini.envOf (.ok Mini.cC), some (.press (0, 0)), 1⟩, ⟨Mini.envOf (.ok Mini.cC), some (.release (0, 0)), 1⟩,
         ⟨Mini.envOf (.ok Mini.cA), some (.press (0, 1)), 1⟩, ⟨Mini.envOf (.ok Mini.cA), some (.release (0, 1)), 1⟩,
         ⟨Mini.envOf (.ok Mini.cA), none, 1⟩] 0 r.st = .ok (s', out) ∧
        out.map Prod.fst = [[.down 4], [.up 4], [], [], []] ∧
        (out.map Prod.snd).flatten = [.configFileReload 0, .layerChange "c0l0"]) :=
  ⟨fun _ h => h, _, rfl, rfl, _, _, rfl, rfl, rfl⟩

/-- **reload_then_run_equiv_restart_counterexample**.  The equivalence is FALSE for a world that reads
`dynamic_macros` — as kanata does.  World `DM.world` (Lemmas/ReloadDM.lean) mirrors the record / stop /
play path of src/kanata/dynamic_macro.rs for a one-layer configuration.  In kanata syntax, both files

    (defsrc a b c d e)
    (deflayer base x (dynamic-macro-record 1) dynamic-macro-record-stop (dynamic-macro-play 1) lrld)

(old and new configuration may even be the same file).  History: tap `b` (start recording), tap `a`
(types x), tap `c` (stop), tap `e` (`lrld`: the reload succeeds with nothing down), then tap `d`
(play).  The reloaded instance is idle with nothing down when the reload runs (`DM.sRec`), the reload
succeeds — and afterwards the play key types `x` again, whereas a freshly started kanata on the same
file types nothing: macro 1 does not exist there.  Recorded as probably intended; the same
observation is reproduced on the real code by the relational harness cases `C15 R 1 16 ok 2`
(KNOWN_FINDINGS.jsonl, status `known`). -/
theorem reload_then_run_equiv_restart_counterexample :
    isIdle DM.sRec = true ∧ NothingDown DM.sRec ∧ DM.sRec .live_reload_requested = false ∧
    FreshLayer0 DM.world ∧
    ∃ r, doLiveReload DM.env DM.sRec = .ok r ∧ r.ok = true ∧
      ∃ s1 s2, runNB (W := DM.world) false DM.playScript 0 r.st =
          .ok (s1, [([], []), ([.down 45], []), ([], []), ([.up 45], []), ([], [])]) ∧
        runNB (W := DM.world) false DM.playScript 0 (freshAt ctorNew [0] 0 DM.cfg) =
          .ok (s2, [([], []), ([], []), ([], []), ([], []), ([], [])]) :=
  ⟨rfl, ⟨rfl, rfl⟩, rfl, fun _ => rfl, _, rfl, rfl, _, _, rfl, rfl⟩

/-- the state `DM.sRec` of the counterexample is what the history "tap record, tap a, tap stop"
leaves when run from a freshly constructed instance (so it is reachable), and the macro it holds is
the only difference from that instance -/
example : ∃ s' out, runNB (W := DM.world) false DM.recordScript 0 (fresh [0] DM.cfg) = .ok (s', out) ∧
    (s' .dynamic_macros : List (Nat × List DM.Ev)) = [(1, [.press 0, .release 0])] ∧
    (DM.sRec .dynamic_macros : List (Nat × List DM.Ev)) = [(1, [.press 0, .release 0])] :=
  ⟨_, _, rfl, rfl, rfl⟩

/-- the witness world of the counterexample reads `dynamic_macros` but none of the other retained
fields: `BlindTo` holds for the retained list without `dynamic_macros` -/
theorem blindTo_dm_world : BlindTo retainedOpaqueNoMacros DM.world :=
  .of_eqv (eqv_dm_ksc (by decide) (by decide) (by decide) (by decide) (by decide))
    (fun _ _ h => ⟨h, rfl⟩) (eqv_dm_replay (by decide) (by decide))
    (eqv_dm_inputEvent (by decide) (by decide)) (eqv_dm_coreIdle (by decide) (by decide))

/-- a state of the witness world that is idle with nothing down, not initial (the idle counter runs,
a layer change has been announced) and in which NO macro has been recorded -/
def DM.sNoRec : KSt DM.world :=
  ((fresh (W := DM.world) [0] DM.cfg).set .ticks_since_idle (7 : Nat)).set
    .macro_on_press_cancel_duration (3 : Nat)

/-- `reload_then_run_equiv_restart` APPLIED in the world that does read `dynamic_macros`, with
`op = retainedOpaqueNoMacros`: when no macro was recorded before the reload, every history after it —
here for all `script`s, including ones that record and replay macros — gives the same outputs as a
fresh instance.  (All hypotheses are discharged here, so they are jointly satisfiable.) -/
example (r : RRes DM.world.toTypes) (h : doLiveReload DM.env DM.sNoRec = .ok r) (hok : r.ok = true)
    (script : List (Tick DM.world.toTypes)) (msPrev : Nat) :
    (runNB false script msPrev r.st).map Prod.snd =
      (runNB false script msPrev (freshAt (W := DM.world) ctorNew [0] 0 DM.cfg)).map Prod.snd :=
  (reload_then_run_equiv_restart retainedOpaqueNoMacros opOK_noMacros blindTo_dm_world (fun _ => rfl)
    DM.env DM.sNoRec r 0 DM.cfg rfl rfl h hok rfl ⟨rfl, rfl⟩
    (fun g hg hn => by cases eq_macros_of_not_mem_noMacros hg hn; rfl)
    script msPrev).2

example : ∃ r, doLiveReload DM.env DM.sNoRec = .ok r ∧ r.ok = true := ⟨_, rfl, rfl⟩

/-! ## 3. First layer, nothing pressed, notified once -/

/-- **successful_reload_first_layer_nothing_pressed_notified_once** (full).  After every successful
`do_live_reload`, from ANY state (no idleness assumed):

* the layout is the new configuration's freshly built layout, its current layer is the first layer
  (`FreshLayer0`), and `prev_layer` says so;
* `do_live_reload` leaves `prev_keys`/`cur_keys` alone — on the ordinary path both are empty
  (`reload_in_loop_is_fresh_start`), so nothing is pressed;
* with a client channel exactly two messages were sent, `ConfigFileReload` with the loaded path and
  `LayerChange` with the name of layer 0 taken from the NEW `layer_info`, in this order, and the next
  `check_handle_layer_change` sends nothing (no duplicate); without a channel nothing is sent;
* on the idle fall-back path keys may still be down at the OS (`prev_keys ≠ []`): in any world whose
  `handle_keystate_changes` performs the OS release pass (`ReleasePass`: a key of `prev_keys` that is
  not in the new `cur_keys` is released), the first tick of the reloaded instance releases every such
  key that the new layout does not itself hold in that tick, and leaves `cur_keys` empty. -/
theorem successful_reload_first_layer_nothing_pressed_notified_once (hW : FreshLayer0 W)
    (env : Env W.toTypes) (s : KSt W) (r : RRes W.toTypes)
    (h : doLiveReload env s = .ok r) (hok : r.ok = true) :
    ∃ p c, (s .cfg_paths : List Nat)[(s .cur_cfg_idx : Nat)]? = some p ∧ newFromFile env p = some c ∧
      r.st .layout = W.cfgVal .layout c ∧ W.currentLayer (r.st .layout) = 0 ∧
      (r.st .prev_layer : Nat) = 0 ∧
      r.st .prev_keys = s .prev_keys ∧ r.st .cur_keys = s .cur_keys ∧
      (env.tx = true → ∃ name, W.layerName (W.cfgVal .layer_info c) 0 = some name ∧
        r.msgs = [.configFileReload p, .layerChange name]) ∧
      (env.tx = false → r.msgs = []) ∧
      (∀ s' m, checkLayerChange env.tx r.st = .ok (s', m) → m = []) ∧
      (∀ (up : Nat → W.Os), ReleasePass W up → ∀ (s1 : KSt W) (os : List W.Os),
        tickStates r.st = .ok (s1, os) →
          s1 .cur_keys = ([] : List Nat) ∧
          ∀ k ∈ (s .prev_keys : List Nat), k ∈ (s1 .prev_keys : List Nat) ∨ up k ∈ os) := by
  obtain ⟨p, c, hp, hc, hst, hm0, hm1⟩ := reload_success_form env s r h hok
  obtain ⟨_, _, k3, _, k5⟩ := reloaded_keeps c s
  have hpk : r.st .prev_keys = s .prev_keys := doLiveReload_frame env s r _ h (by decide)
  have hck : r.st .cur_keys = s .cur_keys := doLiveReload_frame env s r _ h (by decide)
  refine ⟨p, c, hp, hc, by rw [hst]; exact k3, by rw [hst, k3]; exact hW c,
    by rw [hst, k5]; exact hW c, hpk, hck, ?_, hm0, ?_, ?_⟩
  · intro htx
    obtain ⟨name, hn, hmsg⟩ := hm1 htx
    rw [hW c] at hn
    exact ⟨name, hn, hmsg⟩
  · intro s' m hcl
    refine (checkLayerChange_spec _ _ _ _ hcl).2.1 ?_
    rw [hst, k3, k5]
  · intro up hR s1 os ht
    refine ⟨(tickStates_prev_keys false r.st s1 os ht).2.1, ?_⟩
    intro k hk
    exact tickStates_releases up hR false r.st s1 os ht k (by rw [hpk]; exact hk)

/-- non-vacuity of `ReleasePass`: the concrete world of the correspondence check releases stale keys -/
theorem releasePass_mini_world : ReleasePass Mini.world Mini.Os.up := by
  refine ⟨fun s k hk hn => ?_⟩
  -- `k` is among the keys that the diff against `prev_keys` releases
  have hn' : k ∉ ((Mini.ksc s).1 .cur_keys : List Nat) := hn
  show Mini.Os.up k ∈ (Mini.ksc s).2.2
  simp only [Mini.ksc, St.set_same] at hn' ⊢
  refine List.mem_append_left _ (List.mem_map_of_mem (List.mem_filter.2 ⟨hk, ?_⟩))
  rw [Bool.not_eq_true', List.contains_eq_mem, decide_eq_false_iff_not]
  exact hn'

/-- the state `Mini.sI` with key 30 still down at the OS (what the idle fall-back can meet) -/
def Mini.sD : KSt Mini.world := Mini.sI.set .prev_keys ([30] : List Nat)

/-- non-vacuity of `successful_reload_first_layer_nothing_pressed_notified_once` with `Mini.cA` →
`Mini.cC`: the reload succeeds with key 30 still down, both notifications are sent once, and the
first tick of the reloaded instance releases key 30 -/
example : ∃ r, doLiveReload (Mini.envOf (.ok Mini.cC)) Mini.sD = .ok r ∧ r.ok = true ∧
    r.msgs = [.configFileReload 0, .layerChange "c2l0"] ∧ (r.st .prev_keys : List Nat) = [30] ∧
    ∃ s1, tickStates (W := Mini.world) r.st = .ok (s1, [Mini.Os.up 30]) ∧
      (s1 .prev_keys : List Nat) = [] := ⟨_, rfl, rfl, rfl, rfl, _, rfl, rfl⟩

end KVerif.Reload
