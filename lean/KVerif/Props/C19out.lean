/-
C19, last clause ("... so it produces the same output as typing them again"), OS-output side, in the
composed kanata-level model.  Staged; what is proved and what is still missing:

(a) `tick_os_exact` (full): with the other kanata-level components at rest (`C07.KRest`, any layout)
    one `tick_states` writes EXACTLY the key diff `osDiff k prev cur` between the OS key state before
    (`prev_keys`) and the layout's key-code list after the tick - releases of what is no longer
    wanted, then presses of what is new, duplicates once, through the output tables (ignored range,
    mouse-button and wheel key codes) - and leaves `cur` as the OS key state.  This is the exact form
    of the existential `C07.handleKeystateChanges_rest`.
(b) `run_os_is_function_of_key_lists` (full): the OS events of a whole run (`handle_input_event`,
    `tick_states`, any order) are `osTrace` of the sequence of key-code lists the layout shows after
    the ticks (`C04.runM`, the object `C04.layered_refines` speaks about).
(d) `same_key_lists_same_os_output` (full, conditional on (c)): two runs whose key-list sequences
    agree after dropping repeated lists (`dedupAdj`) write the same OS events - tick numbers and the
    number of idle ticks in between do not matter.
NOT proved - `replay_same_os_output_kan` itself needs two more links:
(b') the replay run (`tick_ms` with `tick_replay_state` feeding `layout.event` and the `extra_ticks`
    loop) as a `C04.In` list whose events are `dyn.fed` (known: `C19kan.replay_feeds_layout_what_was_typed_kan`)
    with at least one tick after each; `runK` here has no constructor for the replay's `layout.event`
    call; `K.tickMs_sim` already carries the frame induction through both loops.
(c) on `C04.CfgFrag`, by `C04.layered_refines`, the key-list sequence of a run in which every event
    is followed by a tick before the next one depends, after `dedupAdj`, only on the order of the
    events (`Spec.Layered.step` with nothing pending is the identity, `C04.fifo_one_per_tick`): not
    written down as a lemma yet.
With (b') and (c), (d) gives the statement.  Until then the clause stays checked differentially (C19 K
cases, and every KAN case: OS events per tick of model and real code).
-/
import KVerif.Lemmas.KanataDynOutRun
import KVerif.Props.C19kan
namespace KVerif.C19out
open KVerif KVerif.K KVerif.L

/-- **(a) tick_os_exact** -/
theorem tick_os_exact (k k' : KState) (hr : C07.KRest k) (h : tickStates k = .ok k') :
    ∃ l', tick k.layout = .ok (l', .noEvent) ∧ k'.layout = l' ∧
      k'.out = k.out ++ osDiff k k.prevKeys l'.keycodes ∧ k'.prevKeys = l'.keycodes ∧ C07.KRest k' := by
  obtain ⟨l', hl, rfl, hr'⟩ := tickStates_rest_eq hr h
  exact ⟨l', hl, C07.afterTick_layout k l', (afterTick_out k l').1, (afterTick_out k l').2.1, hr'⟩

/-- **(b) run_os_is_function_of_key_lists** -/
theorem run_os_is_function_of_key_lists (ins : List KIn) (k k' : KState) (hr : C07.KRest k)
    (h : runK k ins = .ok k') :
    ∃ trace, C04.runM k.layout (ins.map KIn.toIn) = .ok trace ∧
      k'.out = k.out ++ osTrace k k.prevKeys trace :=
  let ⟨t, a, b, _, _⟩ := runK_out ins k k' hr h
  ⟨t, a, b⟩

/-- **(d) same_key_lists_same_os_output**: two runs (e.g. typing a history, and anything that makes
the layout go through the same key lists in the same order, however many ticks apart) from states
with the same output tables and the same OS key state write the same OS events. -/
theorem same_key_lists_same_os_output (ins1 ins2 : List KIn) (k1 k1' k2 k2' : KState)
    (hr1 : C07.KRest k1) (hr2 : C07.KRest k2) (ht : SameTables k1 k2) (hp : k1.prevKeys = k2.prevKeys)
    (h1 : runK k1 ins1 = .ok k1') (h2 : runK k2 ins2 = .ok k2')
    (hsame : ∀ t1 t2, C04.runM k1.layout (ins1.map KIn.toIn) = .ok t1 →
      C04.runM k2.layout (ins2.map KIn.toIn) = .ok t2 → dedupAdj k1.prevKeys t1 = dedupAdj k1.prevKeys t2) :
    ∃ o, k1'.out = k1.out ++ o ∧ k2'.out = k2.out ++ o := by
  obtain ⟨t1, a1, b1⟩ := run_os_is_function_of_key_lists ins1 k1 k1' hr1 h1
  obtain ⟨t2, a2, b2⟩ := run_os_is_function_of_key_lists ins2 k2 k2' hr2 h2
  refine ⟨osTrace k1 k1.prevKeys t1, b1, ?_⟩
  rw [b2, ← hp, ← osTrace_congr ht, ← osTrace_dedup k1 t1, ← osTrace_dedup k1 t2, hsame t1 t2 a1 a2]

/-! ### non-vacuity -/

def tables : KState :=
  { layout := { cfg := { layers := [[]], srcKeys := [] } }, customs := [], keyOutputs := [[]],
    mods := { codes := [42, 54, 56, 100, 29, 97, 125, 126], lsft := 42, rsft := 54 },
    btnCodes := [(272, 0)], wheelCodes := [(747, 0)] }

example : C07.KRest tables := ⟨rfl, rfl, rfl, rfl, rfl, rfl, rfl, rfl, rfl, rfl, rfl, rfl, rfl, rfl, rfl, rfl⟩

/-- the diff: `a` (30) stays, `b` (48) goes, `c` (46) comes once although listed twice, the mouse
button code becomes a button event, the wheel code a scroll -/
example : osDiff tables [30, 48] [30, 46, 46, 272, 747] = [.up 48, .down 46, .btnDown 0, .scroll 0 120] := by decide

/-- repeated key lists add nothing; the tick count between changes does not matter -/
example : osTrace tables [] [[30], [30], [30, 48], [48], [48], []] = osTrace tables [] [[30], [30, 48], [48], []] ∧
    osTrace tables [] [[30], [30, 48], [48], []] = [.down 30, .down 48, .up 30, .up 48] := by decide

end KVerif.C19out
