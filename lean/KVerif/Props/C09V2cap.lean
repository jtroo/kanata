/-
C09 / C02 — chords v2 (`defchordsv2`): the hand-over queue (`DrainQueue`, 48 slots) has room for
everything one tick of the v2 machine can produce, so the machine itself never fails in a reachable
state.  Property theorems only; helper lemmas are in Lemmas/ChordsV2Cap.lean.

`chord_v2_only_drain_queue_assert` (Props/C09V2.lean) shows that from ANY state a tick of the v2 machine
can fail only with `assert!(overflow.is_none(), "oops overflowed drain queue")`.  Here:

1. `chord_v2_tick_never_fails`: with the input queue and the active chords within their container sizes
   (32 and 10) that assertion cannot fail either, and at most `queue + active + 2 ≤ 44` events are
   handed over;
2. `chord_v2_sizes_invariant`: the two sizes are an invariant of `Layout::event` / `Layout::tick`, hence
   hold in every state reachable from a fresh layout;
3. `chord_v2_machine_never_fails_reachable`: so in a reachable state the chords-v2 prologue of
   `Layout::tick` fails only where the hand-over into the layout queue (`Layout::event`'s overflow path)
   fails;
4. `hand_over_loses_nothing_partial`: what that hand-over does to the layout queue.
-/
import KVerif.Lemmas.ChordsV2Cap
namespace KVerif.C09
open KVerif.L

/-! ## 1. One tick of the v2 machine -/

/-- **chord_v2_tick_never_fails** (full).  `s` is ANY state of `ChordsV2` (any table, any counters, any
queue contents, any active chords) whose two containers are within their sizes: `queue.len() ≤ 32`
(`hq`: it is an `ArrayDeque<_, 32>`; needed - `chord_v2_tick_size_hypothesis_needed`) and
`active_chords.len() ≤ 10` (`ha`: a heapless `Vec<_, 10>`).  Then on every layer `tick_chv2`
* succeeds (neither drain-queue assertion fails);
* every event that leaves the input queue accounts for at most one handed-over event, and besides
  those only one release per chord that was active before the tick and the two tap-hold trigger
  events are handed over: `kept + handed over ≤ queue + active + 2` (a chord activated on this very
  tick is never released on it), so at most 44 of the 48 slots are used;
* the input queue does not grow and the active chords stay within 10. -/
theorem chord_v2_tick_never_fails (s : ChV2) (layer : Nat)
    (hq : s.queue.length ≤ QUEUE_SIZE) (ha : s.active.length ≤ ACTIVE_CHORDS_CAP) :
    ∃ s' dq, tickChv2 s layer = .ok (s', dq) ∧
      s'.queue.length + dq.length ≤ s.queue.length + s.active.length + 2 ∧
      dq.length + 4 ≤ DRAIN_Q_LEN ∧
      s'.queue.length ≤ s.queue.length ∧ s'.active.length ≤ ACTIVE_CHORDS_CAP := by
  have hq' : s.queue.length ≤ 32 := hq
  have ha' : s.active.length ≤ 10 := ha
  obtain ⟨s', dq, ht, hl, hq1, _⟩ := tickChv2_cap s layer
    (by show s.queue.length + s.active.length + 2 ≤ 48; omega)
  refine ⟨s', dq, ht, hl, ?_, hq1, chord_v2_active_bounded s s' layer dq ht ha⟩
  show dq.length + 4 ≤ 48
  omega

/-- the same with the one hypothesis the proof uses: the queued events, a release per active chord and
the two trigger events fit into the hand-over queue.  (Sufficient, not necessary: the two trigger
events are pushed without an assertion.) -/
theorem chord_v2_tick_never_fails_room (s : ChV2) (layer : Nat)
    (h : s.queue.length + s.active.length + 2 ≤ DRAIN_Q_LEN) :
    ∃ s' dq, tickChv2 s layer = .ok (s', dq) ∧
      s'.queue.length + dq.length ≤ s.queue.length + s.active.length + 2 ∧
      s'.queue.length ≤ s.queue.length ∧ s'.active.length ≤ s.active.length + 1 ∧
      (s.active.length ≤ ACTIVE_CHORDS_CAP → s'.active.length ≤ ACTIVE_CHORDS_CAP) :=
  let ⟨s', dq, ht, hl, hq, ha⟩ := tickChv2_cap s layer h
  ⟨s', dq, ht, hl, hq, ha, chord_v2_active_bounded s s' layer dq ht⟩

/-- a state within the sizes: a chord table, two presses that complete a chord, an event on a virtual
row, one chord whose release is due -/
def capState : ChV2 :=
  { cfg := { mapping := [(30, [v2Chord]), (48, [v2Chord])], minIdle := 5 },
    queue := [⟨.press (0, 30), 0⟩, ⟨.press (0, 48), 1⟩, ⟨.release (1, 7), 0⟩],
    active := [{ coordinate := 851, remaining := [], keys := [30, 48], action := .keyCode 2,
                 status := .released, delay := 3 }] }

example : capState.queue.length ≤ QUEUE_SIZE ∧ capState.active.length ≤ ACTIVE_CHORDS_CAP ∧
    (match tickChv2 capState 0 with
      | .ok (s', dq) => some (s'.queue.length, s'.active.length, dq.map (·.ev))
      | .error _ => none) =
      some (0, 1, [.release (1, 7), .press (0, 0), .release (0, 0), .release (0, 851)]) := by
  decide +kernel

/-- **chord_v2_tick_size_hypothesis_needed**.  Beyond the container sizes the assertion does fail: 48
queued events on a virtual row and one chord to release (not a reachable state - the queue holds 32)
make 49 pushes on the 48 slots.  So `chord_v2_tick_never_fails` is a statement about the sizes, not
about the shape of `tick_chv2`. -/
theorem chord_v2_tick_size_hypothesis_needed :
    crashOf (tickChv2 { cfg := { mapping := [], minIdle := 0 },
                        queue := List.replicate 48 ⟨.release (1, 7), 0⟩,
                        active := [{ coordinate := 851, remaining := [], keys := [30, 48], action := .keyCode 2,
                                     status := .released, delay := 3 }] } 0) = some crashDQ := by
  decide +kernel

/-! ## 2. The sizes are an invariant of the whole machine -/

/-- `SizesOKL` spelled out -/
example (s : LayoutV2) : SizesOKL s ↔
    ∀ ch, s.chv2 = some ch → ch.queue.length ≤ QUEUE_SIZE ∧ ch.active.length ≤ ACTIVE_CHORDS_CAP := Iff.rfl

/-- `FreshV2` spelled out -/
example (s : LayoutV2) : FreshV2 s ↔ ∀ ch, s.chv2 = some ch → ch.queue = [] ∧ ch.active = [] := Iff.rfl

/-- **chord_v2_sizes_invariant** (full).  `SizesOKL s`: the chords-v2 state of `s`, if there is one, has
at most 32 queued events and at most 10 active chords.  It is preserved by `Layout::event`, by the
chords-v2 prologue of `Layout::tick` and by `Layout::tick` whenever they return; hence it holds in
every state reachable (`ReachV2`: any sequence of key events and ticks, none of which crashed) from a
state where it holds - in particular from a fresh layout (`FreshV2`: nothing queued, no active
chord) - and after every history of presses, releases and ticks (`stepsV2`, the runner of the pinned
counterexamples).  No hypothesis on the configuration, the layout state or the events. -/
theorem chord_v2_sizes_invariant :
    (∀ (s s' : LayoutV2) (ev : Ev), s.event ev = .ok s' → SizesOKL s → SizesOKL s') ∧
    (∀ (s s' : LayoutV2), tickV2Pre s = .ok s' → SizesOKL s → SizesOKL s') ∧
    (∀ (s s' : LayoutV2) (cu : CustomEv), s.tick = .ok (s', cu) → SizesOKL s → SizesOKL s') ∧
    (∀ (s0 s : LayoutV2), SizesOKL s0 → ReachV2 s0 s → SizesOKL s) ∧
    (∀ (s0 s : LayoutV2), FreshV2 s0 → ReachV2 s0 s → SizesOKL s) ∧
    (∀ (s0 s : LayoutV2) (hist : List In), FreshV2 s0 → stepsV2 LayoutV2.tick hist s0 = .ok s → SizesOKL s) :=
  ⟨fun s s' ev h hs => LayoutV2.event_sizes s s' ev h hs,
   fun s s' h hs => tickV2Pre_sizes s s' h hs,
   fun s s' cu h hs => LayoutV2.tick_sizes s s' cu h hs,
   fun _ _ h0 hr => hr.sizes h0,
   fun _ _ h0 hr => hr.sizes h0.sizes,
   fun s0 s hist h0 h => (stepsV2_reach hist s0 s0 s .start h).sizes h0.sizes⟩

theorem v2Start_fresh : FreshV2 v2Start := by
  intro ch hc
  cases hc
  exact ⟨rfl, rfl⟩

/-- a reachable state with all ten slots taken: a and b pressed eleven times without a release -/
example : FreshV2 v2Start ∧
    (obsV2 (stepsV2 LayoutV2.tick elevenTimes v2Start)).map (·.2.2.2.length) = some 10 :=
  ⟨v2Start_fresh, elevenTimes_fixed.2⟩

/-! ## 3. The machine never fails in a reachable state -/

/-- **chord_v2_machine_never_fails_reachable** (full).  `s` is any state reachable from a state `s0`
within the sizes (`h0`; every fresh layout is: `FreshV2.sizes`) by key events and ticks.  Then
* `tick_chv2` succeeds on the chords-v2 state of `s`, on any layer, handing over at most
  `queue + active + 2 ≤ 44` events;
* the chords-v2 prologue of `Layout::tick` fails only if the hand-over of those events into the layout
  queue fails, i.e. in `Layout::event`'s own overflow path (`flushWaitings` / `dequeue`: the waiting
  keys forced to hold, the oldest event processed at once) - never with the drain-queue assertion of
  the v2 machine, never with "active chords has room";
* `Layout::tick` fails only there or in the tick of the layout proper. -/
theorem chord_v2_machine_never_fails_reachable (s0 s : LayoutV2) (h0 : SizesOKL s0) (hr : ReachV2 s0 s) :
    (∀ ch, s.chv2 = some ch → ∀ layer, ∃ ch' dq, tickChv2 ch layer = .ok (ch', dq) ∧
      dq.length ≤ ch.queue.length + ch.active.length + 2 ∧ dq.length + 4 ≤ DRAIN_Q_LEN) ∧
    (∀ c, tickV2Pre s = .error c →
      ∃ ch ch' dq, s.chv2 = some ch ∧ tickChv2 ch s.lay.currentLayer = .ok (ch', dq) ∧
        handOver s.lay dq = .error c) ∧
    (∀ c, s.tick = .error c →
      (∃ ch ch' dq, s.chv2 = some ch ∧ tickChv2 ch s.lay.currentLayer = .ok (ch', dq) ∧
        handOver s.lay dq = .error c) ∨
      ∃ s1, tickV2Pre s = .ok s1 ∧ KVerif.L.tick s1.lay = .error c) := by
  have hs : SizesOKL s := hr.sizes h0
  have h1 : ∀ ch, s.chv2 = some ch → ∀ layer, ∃ ch' dq, tickChv2 ch layer = .ok (ch', dq) ∧
      dq.length ≤ ch.queue.length + ch.active.length + 2 ∧ dq.length + 4 ≤ DRAIN_Q_LEN := by
    intro ch hch layer
    obtain ⟨hq, ha⟩ := hs ch hch
    obtain ⟨ch', dq, ht, hl, h4, _, _⟩ := chord_v2_tick_never_fails ch layer hq ha
    exact ⟨ch', dq, ht, by omega, h4⟩
  have h2 : ∀ c, tickV2Pre s = .error c →
      ∃ ch ch' dq, s.chv2 = some ch ∧ tickChv2 ch s.lay.currentLayer = .ok (ch', dq) ∧
        handOver s.lay dq = .error c := by
    intro c hc
    obtain ⟨ch, hch, he | ⟨ch', dq, hok, he⟩⟩ := tickV2Pre_err hc
    · obtain ⟨ch', dq, ht, _⟩ := h1 ch hch s.lay.currentLayer
      rw [ht] at he
      cases he
    · exact ⟨ch, ch', dq, hch, hok, he⟩
  refine ⟨h1, h2, ?_⟩
  intro c hc
  unfold LayoutV2.tick at hc
  split at hc
  · rename_i c' he
    cases hc
    exact Or.inl (h2 _ he)
  · rename_i s1 hs1
    split at hc
    · rename_i c' he
      cases hc
      exact Or.inr ⟨s1, hs1, he⟩
    · cases hc

/-! ## 4. The hand-over into the layout queue -/

/-- **hand_over_loses_nothing_partial**.  Full statement, not proved: `hand_over_loses_nothing` - for
every layout and every list of handed-over events, `handOver lay dq = .ok lay'` implies that
`lay.queue.map (·.ev) ++ dq.map (·.ev) = log.map (·.ev) ++ lay'.queue.map (·.ev)` where `log` are the
events `dequeue` was called on, in order.  As it stands that is not a property of `Layout::event`'s
overflow path: `do_action`, run by `dequeue` on a press or by a waiting key forced to hold, can itself
queue an event (the release of a one-shot key evicted from the full one-shot list), which then sits in
the queue between the old and the handed-over events - nothing is lost, but the equation gains a
term.  What is missing for the general statement "the new queue is the old events not yet processed,
the handed-over events, and the events `do_action` queued, in order" is a frame lemma for `queue`
through the mutual block `do_action` / `waiting_into_hold` / `dequeue` / `event`.

Proved, with `handOverLog` = `handOver` returning in addition the events `dequeue` was called on and a
flag "every overflow step left the layout queue as it found it":
(a) `handOverLog` is `handOver`: same failure, same layout;
(b) when the flag is set nothing is lost, duplicated or reordered: old queue ++ handed-over events =
    events processed at once ++ new queue (also as lists of bare events);
(c) when the events fit (`queue + dq ≤ 32`) the hand-over cannot fail and is a plain append;
(d) when no key is waiting (no tap-hold / tap-dance / chord v1 pending) and the events that do not
    fit - the first `queue + dq − 32` of old queue ++ handed-over events - are releases, the hand-over
    cannot fail, the flag is set, and (b) applies. -/
theorem hand_over_loses_nothing_partial :
    (∀ (lay : Layout) (dq : List Queued),
      handOver lay dq = match handOverLog lay dq with
        | .error c => .error c
        | .ok r => .ok r.1) ∧
    (∀ (lay lay' : Layout) (dq log : List Queued), handOverLog lay dq = .ok (lay', log, true) →
      lay.queue ++ dq = log ++ lay'.queue ∧
      lay.queue.map (·.ev) ++ dq.map (·.ev) = log.map (·.ev) ++ lay'.queue.map (·.ev) ∧
      lay'.queue.map (·.ev) <:+ lay.queue.map (·.ev) ++ dq.map (·.ev)) ∧
    (∀ (lay : Layout) (dq : List Queued), lay.queue.length + dq.length ≤ QUEUE_SIZE →
      handOver lay dq = .ok { lay with queue := lay.queue ++ dq }) ∧
    (∀ (lay : Layout) (dq : List Queued), lay.waiting = none → lay.extraWaiting = [] →
      (∀ q ∈ (lay.queue ++ dq).take (lay.queue.length + dq.length - QUEUE_SIZE), q.ev.isPress = false) →
      ∃ lay' log, handOver lay dq = .ok lay' ∧ handOverLog lay dq = .ok (lay', log, true) ∧
        lay.queue ++ dq = log ++ lay'.queue) := by
  refine ⟨fun lay dq => handOverLog_fst dq lay, ?_, fun lay dq h => handOver_fits dq lay h, ?_⟩
  · intro lay lay' dq log h
    have e := handOverLog_conserve dq lay lay' log h
    have e2 : lay.queue.map (·.ev) ++ dq.map (·.ev) = log.map (·.ev) ++ lay'.queue.map (·.ev) := by
      rw [← List.map_append, ← List.map_append, e]
    exact ⟨e, e2, ⟨log.map (·.ev), e2.symm⟩⟩
  · intro lay dq hw he hrel
    obtain ⟨lay', log, hl, _, _⟩ := handOverLog_releases dq lay hw he (by rw [List.length_append]; exact hrel)
    refine ⟨lay', log, ?_, hl, handOverLog_conserve dq lay lay' log hl⟩
    rw [handOverLog_fst, hl]

/-- the layout of the pinned histories with a full queue: a press of `a` followed by 31 releases -/
def capLay : Layout :=
  { v2Start.lay with queue := ⟨.press (0, 30), 2⟩ :: List.replicate 31 ⟨.release (0, 48), 0⟩ }

/-- (b), (c) are not vacuous: one more event makes the press of `a` fall out of the queue; it is
processed at once (the key goes down) and the queue is left alone -/
example : (match handOverLog capLay [⟨.release (0, 30), 0⟩] with
      | .ok (lay', log, st) => some (log.map (·.ev), st, lay'.queue.length, lay'.keycodes)
      | .error _ => none) = some ([.press (0, 30)], true, 32, [30]) := by
  decide +kernel

/-- (d) is not vacuous: 31 queued releases, three more handed over, two fall out -/
example : let lay : Layout := { v2Start.lay with queue := List.replicate 31 ⟨.release (0, 48), 0⟩ }
    let dq : List Queued := [⟨.release (0, 30), 0⟩, ⟨.release (0, 0), 0⟩, ⟨.release (0, 851), 0⟩]
    lay.waiting = none ∧ lay.extraWaiting = [] ∧ lay.queue.length + dq.length - QUEUE_SIZE = 2 ∧
    (∀ q ∈ (lay.queue ++ dq).take (lay.queue.length + dq.length - QUEUE_SIZE), q.ev.isPress = false) := by
  decide +kernel

end KVerif.C09
