/-
C05, several tap-hold keys pending at once — `waiting` plus `extra_waiting` (keyberon/src/layout.rs:
`Layout::tick`, `process_extra_waitings`, `waiting_into_*`, the `HoldTap` arm of `do_action`).
Property theorems only; helper lemmas and the auxiliary definitions are in Lemmas/TapHoldMulti.lean.

What the code does (and the model mirrors; read `tick` / `tickMain` / `processExtraWaitings` /
`tickExtraWaitings` in Model/Layout.lean):
* a tick first lets `waiting` decide (`tickMain`), then — only if the tick has produced no custom
  event so far — scans `extra_waiting` front to back (`process_extra_waitings`): every entry is
  `tick_wt`-ed until the FIRST one that decides; that one is removed and resolved, the entries behind
  it are not ticked at all in that tick (`break`);
* while anything is pending nothing is taken from the event queue;
* a tap-hold action performed while `waiting` is occupied is pushed to `extra_waiting`
  (`ArrayDeque<_, 8, Wrapping>`): when it is full the OLDEST entry is dropped.

Vocabulary (Lemmas/TapHold.lean, Lemmas/TapHoldMulti.lean): `htStep w q` = one `tick_wt` of entry `w` against queue `q`
(entry afterwards, decision); `Counted w w'` = `w'` is `w` with the countdown and the tick counter
advanced by one and nothing else of interest changed; `resolveAct S w a` = `waiting_into_hold/tap/
timeout` for the entry `w` already taken out of `S` (exactly one `do_action`, on `w`'s hold / tap /
timeout action, at `w`'s coordinate); `Pend` / `pendTick` / `pendRun` = the pending part of the
layout as a machine of its own, with the log of resolutions; `Pend.pot` = the tick bound
`max (countdown of waiting, ≥ 1) (max over extra_waiting of (countdown, ≥ 1) + position)`;
`pendOK s` = the (decidable) hypothesis of the run theorems:
  action queue empty, no one-shot key active, every pending entry is a tap-hold entry whose hold / tap
  / timeout actions are leaves (`Leaf`: keys, output chords, layer-while-held, layer-switch,
  release-key, release-layer, macros, cancel-macros, no-op) and whose timeout applies (not the
  tap-hold-except-keys variant, or a press is queued).
-/
import KVerif.Lemmas.TapHoldMulti
namespace KVerif.C05
open KVerif.L

/-! ## 1. One tick resolves at most one entry of `extra_waiting`, by exactly one `do_action` -/

/-- **extra_waiting_exactly_one** (full; any actions, any queue, any number of entries).
The `process_extra_waitings` stage of a tick that has produced no custom event so far, with `k ≥ 0`
tap-hold entries in `extra_waiting`: there is a count-down function `f` (`Counted w (f w)` for every
`w`: coordinate, actions, configuration, layer stack kept; countdown − 1) such that EITHER every entry
is counted down, nothing else in the layout changes and there is no output, OR the list splits as
`pre ++ w :: post`, `w` is removed, the entries before it are counted down, the entries behind it are
untouched, and EXACTLY ONE `do_action` is performed: on one of `w`'s own tap / hold / timeout actions,
at `w`'s coordinate, with the layers active when it was pressed, on a layout `s0` that differs from
`s` only in bookkeeping counters and in `extra_waiting = pre.map f ++ post`.  Hence in `s0` the list is
shorter by exactly one and the pending coordinates are those of `s` with position `|pre|` erased:
no entry is dropped or duplicated, and the removed one cannot resolve again. -/
theorem extra_waiting_exactly_one (s : Layout) (hall : ∀ w ∈ s.extraWaiting, isHT w = true)
    (s' : Layout) (cu : CustomEv) (h : processExtraWaitings s .noEvent = .ok (s', cu)) :
    ∃ f : Waiting → Waiting, (∀ w, Counted w (f w)) ∧
      ((cu = .noEvent ∧ s' = { s with extraWaiting := s.extraWaiting.map f }) ∨
       (∃ pre w post, s.extraWaiting = pre ++ w :: post ∧
          ∃ a ∈ outcomes w, ∃ s0 s1 : Layout, ∃ fuel : Nat, 3999 ≤ fuel ∧
            s0.extraWaiting = pre.map f ++ post ∧
            s0.extraWaiting.length + 1 = s.extraWaiting.length ∧
            s0.extraWaiting.map (·.coord) = (s.extraWaiting.map (·.coord)).eraseIdx pre.length ∧
            s0.waiting = s.waiting ∧ s0.queue = s.queue ∧ s0.states = s.states ∧
            s0.actionQueue = s.actionQueue ∧
            doAction fuel s0 a w.coord (min (w.delay + min (w.ticks + 1) U16_MAX) U16_MAX) false w.layerStack = .ok (s1, cu) ∧
            (s' = s1 ∨ s' = tapPost s1))) := by
  refine ⟨step1 s.queue, fun w => htStep_counted w s.queue, ?_⟩
  rw [processExtra_scan s hall] at h
  rcases scan_cases s.queue s.extraWaiting with ⟨_, hs, _⟩ | ⟨pre, w, post, a, h1, _, h3, hs, _⟩
  · left
    rw [hs] at h
    injection h with h; injection h with e1 e2
    exact ⟨e2.symm, e1.symm⟩
  · right
    rw [hs] at h
    have h4 : a ≠ .noOp := fun e => htStep_ne_noOp w s.queue (e ▸ h3)
    have hw : isHT w = true := hall w (by rw [h1]; simp)
    have hc := htStep_counted w s.queue
    obtain ⟨s0, s1, fuel, hf, fr, fs, hdo, hs'⟩ := resolveAct_spec h4 h
    have hx : s0.extraWaiting = pre.map (step1 s.queue) ++ post := fr.extra
    refine ⟨pre, w, post, h1, pick w a, pick_mem_outcomes w a h4, s0, s1, fuel, hf, hx, ?_, ?_,
      fr.waiting, fr.queue, fs, fr.aq, ?_, hs'⟩
    · rw [hx, h1, List.length_append, List.length_append, List.length_map, List.length_cons, Nat.add_assoc]
    · rw [hx, h1, List.map_append (l₁ := pre), List.map_cons, eraseIdx_mid _ _ _ (List.length_map ..),
        List.map_append, List.map_map]
      congr 1
      exact List.map_congr_left fun x _ => (htStep_counted x s.queue).coord
    · rw [← waitingDelay_step w hw s.queue, ← hc.pick a, ← hc.coord, ← hc.layerStack]
      exact hdo

/-- **extra_waiting_frozen_by_custom_event** (full).  When the tick has already produced a custom
event (a one-shot expiry releasing a custom-action key, or `waiting` resolving to a custom action),
`extra_waiting` is not touched at all in that tick — not even counted down. -/
theorem extra_waiting_frozen_by_custom_event (s : Layout) (cu : CustomEv) (h : cu ≠ .noEvent) :
    processExtraWaitings s cu = .ok (s, cu) := processExtraWaitings_frozen s h

/-- **tick_performs_the_logged_resolutions** (full on `pendOK` states with something pending).
A whole `tick`: its first two stages only age the queue; then `waiting` is counted down or resolved
by exactly one `resolveAct` (on the layout with `waiting` emptied, `extra_waiting` still untouched);
then `extra_waiting` is scanned and the first decider, if any, is resolved by exactly one `resolveAct`
on the layout the first resolution produced; nothing else is performed for a pending entry; the
tick cannot crash; afterwards the pending part of the layout is `pendTick`'s, the hypotheses hold
again, and the pending entries are, as a multiset of keys, the old ones minus the (at most two)
logged ones. -/
theorem tick_performs_the_logged_resolutions (s : Layout) (h : pendOK s = true)
    (hne : s.waiting ≠ none ∨ s.extraWaiting ≠ []) :
    ∃ s2 s3 : Layout,
      (match (stepMain (ageQ s.queue) s.waiting).2 with
        | none => s2 = { tickPre s with waiting := (stepMain (ageQ s.queue) s.waiting).1 }
        | some r => resolveAct { tickPre s with waiting := none } r.w r.kind = .ok (s2, .noEvent)) ∧
      (match (scanExtra (ageQ s.queue) s.extraWaiting).2 with
        | none => s3 = { s2 with extraWaiting := (scanExtra (ageQ s.queue) s.extraWaiting).1 }
        | some r => resolveAct { s2 with extraWaiting := (scanExtra (ageQ s.queue) s.extraWaiting).1 } r.w r.kind
            = .ok (s3, .noEvent)) ∧
      tick s = .ok (processSequenceCustom s3 .noEvent) ∧
      Pend.of (processSequenceCustom s3 .noEvent).1 = (pendTick (Pend.of s)).1 ∧
      pendOK (processSequenceCustom s3 .noEvent).1 = true ∧
      ((Pend.of s).all.map wkey).Perm
        ((pendTick (Pend.of s)).1.all.map wkey ++ (pendTick (Pend.of s)).2.map (fun r => wkey r.w)) ∧
      (pendTick (Pend.of s)).2.length ≤ 2 := by
  obtain ⟨s2, s3, h1, _, h2, h3, h4, h5⟩ := tick_staged s ((pendOK_iff s).mp h) hne
  refine ⟨s2, s3, h1, h2, h3, h4, (pendOK_iff _).mpr h5, pendTick_perm _, ?_⟩
  simp only [pendTick, List.length_append]
  have a : ∀ o : Option Res, o.toList.length ≤ 1 := fun o => by cases o <;> simp
  have := a (stepMain (ageQ (Pend.of s).queue) (Pend.of s).main).2
  have := a (scanExtra (ageQ (Pend.of s).queue) (Pend.of s).extra).2
  omega

/-! ## 2. With no further input every pending entry is resolved exactly once, within a bound -/

/-- **every_pending_taphold_resolves** (full on `pendOK` states: any number of entries, any
countdowns, any queue contents).  With no further input there is a tick count `n`, at most
`Pend.pot` = `max (countdown of waiting) (max over extra_waiting of countdown + position)` (countdowns
taken as at least 1), such that: the `n` ticks succeed; before each of them something is still
pending and the queue holds the same events in the same order (nothing is dequeued); after them
nothing is pending and the queue still holds the same events; the pending part of every
intermediate layout is the pending machine's, and the log grows on each tick by exactly what
`tick_performs_the_logged_resolutions` says that tick performs (one `resolveAct` per logged entry);
and the log of these `n` ticks is — as a multiset of keys (coordinate, the three actions, layer
stack, delay) — exactly the entries pending at the start: each was resolved exactly once, nothing
else was, and every resolution is a tap, a hold or a timeout (never the chord path's drop). -/
theorem every_pending_taphold_resolves (s : Layout) (h : pendOK s = true) :
    ∃ n, n ≤ (Pend.of s).pot ∧ ∃ s', tickN n s = .ok s' ∧
      s'.waiting = none ∧ s'.extraWaiting = [] ∧ pendOK s' = true ∧
      s'.queue.map (·.ev) = s.queue.map (·.ev) ∧
      Pend.of s' = (pendRun n (Pend.of s)).1 ∧
      (∀ m, m < n → ∃ sm, tickN m s = .ok sm ∧ pendOK sm = true ∧
        (sm.waiting ≠ none ∨ sm.extraWaiting ≠ []) ∧ sm.queue.map (·.ev) = s.queue.map (·.ev) ∧
        Pend.of sm = (pendRun m (Pend.of s)).1 ∧
        (pendRun (m + 1) (Pend.of s)).2 = (pendRun m (Pend.of s)).2 ++ (pendTick (Pend.of sm)).2) ∧
      ((s.waiting.toList ++ s.extraWaiting).map wkey).Perm ((pendRun n (Pend.of s)).2.map (fun r => wkey r.w)) ∧
      (∀ r ∈ (pendRun n (Pend.of s)).2, r.kind ≠ .noOp) := by
  have hp := (pendOK_iff s).mp h
  obtain ⟨n, hn, he, hf⟩ := pend_resolves _ (Pend.of s) (Nat.le_refl _) hp.applies
  obtain ⟨s', e, hpe, hok⟩ := run_sim n s hp hf
  obtain ⟨hw', hx'⟩ : s'.waiting = none ∧ s'.extraWaiting = [] :=
    (Pend.of s').all_nil_iff.mp (by rw [hpe]; exact he)
  have hq' : s'.queue.map (·.ev) = s.queue.map (·.ev) := by
    have := pendRun_evs n (Pend.of s)
    rw [← hpe] at this
    exact this
  refine ⟨n, hn, s', e, hw', hx', (pendOK_iff _).mpr hok, hq', hpe, ?_, ?_, pendRun_kinds n _⟩
  · intro m hm
    obtain ⟨sm, em, hpm, hokm⟩ := run_sim m s hp (fun k hk => hf k (Nat.lt_trans hk hm))
    refine ⟨sm, em, (pendOK_iff _).mpr hokm, (Pend.of sm).all_ne_nil_iff.mp (by rw [hpm]; exact hf m hm), ?_, hpm,
      by rw [hpm]; exact congrArg Prod.snd (pendRun_snoc m _)⟩
    · have := pendRun_evs m (Pend.of s)
      rw [← hpm] at this
      exact this
  · have := pendRun_perm n (Pend.of s)
    rw [he] at this
    simpa [Pend.all, Pend.of] using this

/-- **extra_entry_resolved_within** (full on `pendOK` states).  The entry at position `i` of
`extra_waiting`, countdown `T`: after some `n` ticks with `n + 1 ≤ max T 1 + i` it sits at a position
`j ≤ i`, the same key (only its counters moved), the layout is again `pendOK`, and the next tick
resolves exactly position `j` (`decider`; by `resolution_order` that is one `resolveAct` on it).
So it is resolved on a tick no later than its countdown plus the number of entries ahead of it. -/
theorem extra_entry_resolved_within (s : Layout) (h : pendOK s = true) (i : Nat) (w : Waiting)
    (hi : s.extraWaiting[i]? = some w) :
    ∃ n j w' sn, n + 1 ≤ max w.timeout 1 + i ∧ j ≤ i ∧ tickN n s = .ok sn ∧ pendOK sn = true ∧
      sn.extraWaiting[j]? = some w' ∧ wkey w' = wkey w ∧
      decider (ageQ sn.queue) sn.extraWaiting = some j := by
  have hp := (pendOK_iff s).mp h
  obtain ⟨n, j, w', b1, b2, b3, b4, b5⟩ := extra_entry_resolves (max w.timeout 1 + i) (Pend.of s) i w hp.applies hi
    (Nat.add_le_add_right (Nat.le_max_left ..) i) (Nat.lt_add_of_pos_left (Nat.le_max_right ..))
  -- something is pending before each of the first n ticks: the entry itself is still there after them
  have hpend := pendRun_nonempty_before n (Pend.of s) w' (by
    simp only [Pend.all, List.mem_append]
    exact Or.inr (List.mem_of_getElem? b3))
  obtain ⟨sn, e, hpe, hok⟩ := run_sim n s hp hpend
  have hx : sn.extraWaiting = (pendRun n (Pend.of s)).1.extra := by rw [← hpe]; rfl
  have hq : sn.queue = (pendRun n (Pend.of s)).1.queue := by rw [← hpe]; rfl
  exact ⟨n, j, w', sn, b1, b2, e, (pendOK_iff _).mpr hok, by rw [hx]; exact b3, b4, by rw [hx, hq]; exact b5⟩

/-- **waiting_entry_resolved_within** (full on `pendOK` states).  The entry in `waiting`, countdown
`T`, is resolved on a tick no later than `max T 1`, whatever is in `extra_waiting`: after some `n`
ticks with `n + 1 ≤ max T 1` it is still the same key in `waiting` and the main stage of the next tick
resolves it (`r` is the logged resolution; `tick_performs_the_logged_resolutions`). -/
theorem waiting_entry_resolved_within (s : Layout) (h : pendOK s = true) (w : Waiting)
    (hw : s.waiting = some w) :
    ∃ n w' sn r, n + 1 ≤ max w.timeout 1 ∧ tickN n s = .ok sn ∧ pendOK sn = true ∧
      sn.waiting = some w' ∧ wkey w' = wkey w ∧ (stepMain (ageQ sn.queue) sn.waiting).2 = some r := by
  have hp := (pendOK_iff s).mp h
  obtain ⟨n, w', r, b1, b2, b3, b4⟩ := main_entry_resolves (max w.timeout 1) (Pend.of s) w hp.applies hw
    (Nat.le_max_left ..) (Nat.le_max_right ..)
  have hpend := pendRun_nonempty_before n (Pend.of s) w' (by simp [Pend.all, b2])
  obtain ⟨sn, e, hpe, hok⟩ := run_sim n s hp hpend
  have hm : sn.waiting = (pendRun n (Pend.of s)).1.main := by rw [← hpe]; rfl
  have hq : sn.queue = (pendRun n (Pend.of s)).1.queue := by rw [← hpe]; rfl
  exact ⟨n, w', sn, r, b1, e, (pendOK_iff _).mpr hok, hm.trans b2, b3, by rw [hm, hq, b2]; exact b4⟩

/-- **tie_costs_the_later_entry_a_tick** (witness on the executable model; the bound of
`extra_entry_resolved_within` is attained, and "timeout at exactly T" fails for entries of
`extra_waiting`).  Two entries with the same countdown 2 in `extra_waiting`, nothing else, no input:
both countdowns reach 0 on the second tick, but only the first is resolved then (hold key 101 down
after 2 ticks); the second is resolved on the THIRD tick, `countdown + position = 2 + 1` (102 down
only after 3 ticks), one tick after its timeout, and its tick counter — added to the delay handed to
`do_action` — says 2, not 3. -/
theorem tie_costs_the_later_entry_a_tick :
    (keysAfter 1 tieS = [] ∧ keysAfter 2 tieS = [101] ∧ keysAfter 3 tieS = [101, 102]) ∧
    ((pendRun 2 (Pend.of tieS)).2.map (fun r => (r.w.coord, r.kind)) = [((0, 1), .timeout)] ∧
     (pendRun 3 (Pend.of tieS)).2.map (fun r => (r.w.coord, r.kind, r.w.ticks)) =
       [((0, 1), .timeout, 2), ((0, 2), .timeout, 2)]) ∧
    (Pend.of tieS).pot = 3 ∧ pendOK tieS = true := by
  decide +kernel

/-- **timeout_hypothesis_is_needed** (witness on the executable model).  `pendOK` asks that the
timeout applies to every entry.  A `tap-hold-except-keys` entry with no press queued skips its
timeout (`custom_tap_hold_except` answers "skip" until some key is pressed): countdown 2, and after
500 ticks it is still pending, nothing is output. -/
theorem timeout_hypothesis_is_needed :
    pendOK exceptS = false ∧ keysAfter 500 exceptS = [] ∧
    (match tickN 500 exceptS with | .ok s => s.extraWaiting.length | .error _ => 0) = 1 := by
  obtain ⟨k, h⟩ : ∃ k, tickN 500 exceptS = .ok (idleExcept k) := exceptS_stays_pending 498
  rw [keysAfter, h]
  exact ⟨by decide, rfl, rfl⟩

/-! ## 3. The order of resolutions, and the replay of buffered events -/

/-- **resolution_order** (full on `pendOK` states with something pending).  The order inside one
tick is: `waiting` first (its action runs on a layout in which `extra_waiting` is still as it was),
then `extra_waiting` in ARRIVAL order — position `j` is resolved iff it is the first position whose
`handle_hold_tap` decides this tick; every earlier position has been ticked and stays, every later
position is neither ticked nor resolved in this tick even if it would have decided (it loses the
tick).  Across ticks the order is therefore the order of decision ticks, ties broken by position —
NOT the order of arrival (`later_arrival_can_resolve_first`). -/
theorem resolution_order (s : Layout) (h : pendOK s = true) (hne : s.waiting ≠ none ∨ s.extraWaiting ≠ []) :
    ∃ s2 s3 : Layout,
      (match (stepMain (ageQ s.queue) s.waiting).2 with
        | none => s2 = { tickPre s with waiting := (stepMain (ageQ s.queue) s.waiting).1 }
        | some r => resolveAct { tickPre s with waiting := none } r.w r.kind = .ok (s2, .noEvent)) ∧
      s2.extraWaiting = s.extraWaiting ∧
      (match decider (ageQ s.queue) s.extraWaiting with
        | none => s3 = { s2 with extraWaiting := s.extraWaiting.map (step1 (ageQ s.queue)) }
        | some j => ∃ w a, s.extraWaiting[j]? = some w ∧ (htStep w (ageQ s.queue)).2 = some a ∧
            (∀ k x, k < j → s.extraWaiting[k]? = some x → (htStep x (ageQ s.queue)).2 = none) ∧
            resolveAct { s2 with extraWaiting := (s.extraWaiting.take j).map (step1 (ageQ s.queue)) ++
                                                s.extraWaiting.drop (j + 1) } (htStep w (ageQ s.queue)).1 a
              = .ok (s3, .noEvent)) ∧
      tick s = .ok (processSequenceCustom s3 .noEvent) := by
  obtain ⟨s2, s3, h1, hx, h2, h3, _, _⟩ := tick_staged s ((pendOK_iff s).mp h) hne
  refine ⟨s2, s3, h1, hx, ?_, h3⟩
  -- the scan in terms of the position of the first entry that decides
  rcases scan_cases (ageQ s.queue) s.extraWaiting with ⟨_, hs, hd⟩ | ⟨pre, w, post, a, hl, hpre, hw, hs, hd⟩
  · rw [hs] at h2
    rw [hd]
    exact h2
  · rw [hs] at h2
    rw [hd]
    refine ⟨w, a, by rw [hl]; exact getElem?_mid _ _ _ rfl, hw, ?_, ?_⟩
    · intro k x hk hx'
      rw [hl, List.getElem?_append_left hk] at hx'
      exact hpre x (List.mem_of_getElem? hx')
    · rw [hl, List.take_left, List.drop_length_add_append]
      exact h2

/-- **later_arrival_can_resolve_first** (witness on the executable model): `waiting` holds a key with
countdown 100, `extra_waiting` a key that arrived later with countdown 3, then one with countdown 50.
With no input the hold keys come down in the order 102 at tick 3, 103 at tick 51 (not 50: it was not
ticked on the tick on which the entry ahead of it was resolved), 101 at tick 100: by decision tick,
not by arrival. -/
theorem later_arrival_can_resolve_first :
    keysAfter 2 orderS = [] ∧ keysAfter 3 orderS = [102] ∧ keysAfter 50 orderS = [102] ∧
    keysAfter 51 orderS = [102, 103] ∧ keysAfter 99 orderS = [102, 103] ∧
    keysAfter 100 orderS = [102, 103, 101] ∧
    (pendRun 100 (Pend.of orderS)).2.map (·.w.coord) = [(0, 2), (0, 3), (0, 1)] ∧
    (Pend.of orderS).pot = 100 ∧ pendOK orderS = true := by
  decide +kernel

/-- **buffered_events_replayed_after_all_resolve** (full on `pendOK` states; lifts
`pending_events_are_buffered` / `buffered_events_replayed_in_order` of Props/C05 to any number of
concurrent tap-holds).  Whatever is queued while tap-holds are pending (arrival: `pending_events_
are_buffered`, any waiting state): with no further input, after `n ≤ Pend.pot` ticks nothing is
pending and the queue holds the same events in the same order (only their ages moved); then the
rapid-event pause, if a hold or tap resolution started it, runs for exactly the `p` ticks it has left,
during which nothing is dequeued either; and on the tick after that the main stage takes exactly the
OLDEST buffered event — `dequeue` of the head of the queue — after stages that again only aged the
queue.  From there on `buffered_events_replayed_in_order` applies to every later tick on which nothing
is waiting: one event per tick, in arrival order. -/
theorem buffered_events_replayed_after_all_resolve (s : Layout) (h : pendOK s = true) :
    ∃ n, n ≤ (Pend.of s).pot ∧ ∃ s', tickN n s = .ok s' ∧ s'.waiting = none ∧ s'.extraWaiting = [] ∧
      s'.queue.map (·.ev) = s.queue.map (·.ev) ∧
      ∃ s'', tickN s'.oneshot.pauseInputProcessingTicks s' = .ok s'' ∧
        s''.waiting = none ∧ s''.extraWaiting = [] ∧ s''.oneshot.pauseInputProcessingTicks = 0 ∧
        s''.queue.map (·.ev) = s.queue.map (·.ev) ∧
        ∀ q rest, s''.queue = q :: rest →
          tickOneshot (tickPre s'') = .ok (tickPre s'', .noEvent) ∧
          tickMain (tickPre s'') =
            dequeue FUEL ((tickPre s'').setQueue (ageQ rest)) ⟨q.ev, min (q.since + 1) U16_MAX⟩ := by
  obtain ⟨n, hn, s', e, hw, hx, hok, hq, _, _⟩ := every_pending_taphold_resolves s h
  have hp' := (pendOK_iff s').mp hok
  obtain ⟨s'', e2, hok2, w2, x2, p2, q2⟩ := pause_run _ s' hp' hw hx rfl
  refine ⟨n, hn, s', e, hw, hx, hq, s'', e2, w2, x2, p2, q2.trans hq, ?_⟩
  intro q rest hqq
  exact main_pops_oldest s'' hok2 w2 x2 p2 q rest hqq

/-! ## 4. Capacity: more tap-holds than `extra_waiting` has room for -/

/-- **holdTap_while_waiting_goes_to_extra_waiting** (full).  A tap-hold action performed while
`waiting` is occupied (not the quick-tap repress path, at most 12 layers): `do_action` does nothing
but the bookkeeping of `armHoldTapWait` — no output, no custom event. -/
theorem holdTap_while_waiting_goes_to_extra_waiting (fuel : Nat) (s : Layout) (T : Nat) (hold tap to : Action)
    (cfg : HTConfig) (iv : Nat) (c : Coord) (d : Nat) (os : Bool) (ls : List Nat)
    (hq : iv = 0 ∨ c ≠ s.lptCoord ∨ s.lptTapHoldTimeout = 0) (hl : ls.length ≤ MAX_ACTIVE_LAYERS) :
    dispatch (fuel + 1) s (.holdTap T hold tap to cfg iv) c d os ls =
      .ok (armHoldTapWait s c d T hold tap to cfg iv ls, .noEvent) := by
  have h1 : (iv == 0 || c != s.lptCoord || s.lptTapHoldTimeout == 0) = true := by
    rcases hq with h | h | h
    · simp [h]
    · simp [h]
    · simp [h]
  have h2 : ¬ (ls.length > MAX_ACTIVE_LAYERS) := Nat.not_lt.mpr hl
  simp only [dispatch, h1, if_true, h2, if_false]

/-- **extra_waiting_capacity** (full; the model's behaviour when more tap-holds are pending than
there is room for).  With `waiting` occupied, the new entry is appended to `extra_waiting` while fewer
than 8 are there; when 8 are there the OLDEST of them is dropped and the new one appended
(`ArrayDeque::push_back` with `Wrapping`).  Nothing is performed for the dropped entry: the key
states, the queue and the action queue are unchanged and `waiting` stays — that key's press is LOST,
it resolves to none of tap / hold / timeout, now or later (`tenth_concurrent_taphold_is_lost_
counterexample`).  It is not forced to hold (the queue-overflow path `flushWaitings` does that; this
path does not). -/
theorem extra_waiting_capacity (s : Layout) (w0 : Waiting) (hw : s.waiting = some w0) (c : Coord) (d T : Nat)
    (hold tap to : Action) (cfg : HTConfig) (iv : Nat) (ls : List Nat) :
    (armHoldTapWait s c d T hold tap to cfg iv ls).waiting = some w0 ∧
    (armHoldTapWait s c d T hold tap to cfg iv ls).states = s.states ∧
    (armHoldTapWait s c d T hold tap to cfg iv ls).queue = s.queue ∧
    (armHoldTapWait s c d T hold tap to cfg iv ls).actionQueue = s.actionQueue ∧
    (s.extraWaiting.length < EXTRA_WAITING_LEN →
      (armHoldTapWait s c d T hold tap to cfg iv ls).extraWaiting =
        s.extraWaiting ++ [newEntry s c d T hold tap to cfg ls]) ∧
    (∀ e rest, s.extraWaiting = e :: rest → s.extraWaiting.length = EXTRA_WAITING_LEN →
      (armHoldTapWait s c d T hold tap to cfg iv ls).extraWaiting =
        rest ++ [newEntry s c d T hold tap to cfg ls]) := by
  have key : ∀ S : Layout, (updateCoord S c).waiting = S.waiting ∧ (updateCoord S c).states = S.states ∧
      (updateCoord S c).queue = S.queue ∧ (updateCoord S c).actionQueue = S.actionQueue ∧
      (updateCoord S c).extraWaiting = S.extraWaiting := by
    intro S; unfold updateCoord; split <;> exact ⟨rfl, rfl, rfl, rfl, rfl⟩
  unfold armHoldTapWait
  simp only [hw]
  refine ⟨(key _).1, (key _).2.1, (key _).2.2.1, (key _).2.2.2.1, ?_, ?_⟩
  · intro hlt
    rw [(key _).2.2.2.2]
    simp only [pushBackWrap, hlt, if_true]
    rfl
  · intro e rest he hlen
    rw [(key _).2.2.2.2]
    have : ¬ ((e :: rest).length < EXTRA_WAITING_LEN) := by rw [← he]; omega
    simp only [pushBackWrap, he, this, if_false]
    rfl

/-- **tenth_concurrent_taphold_is_lost_counterexample** (witness on the executable model; the
property "every tap-hold press resolves to exactly one of tap / hold / timeout" is FALSE beyond the
capacity).  One physical key carrying ten tap-hold actions — `(multi (tap-hold 0 3 k201 k101)
(fork (tap-hold 0 3 k202 k102) XX (lctl)) … (fork (tap-hold 0 3 k210 k110) XX (lctl)))` in kanata
terms: the parser only refuses a second tap-hold directly inside `multi`, not one wrapped in `fork` /
`switch` — pressed once and held, no other input.  On the tick that dequeues the press the first
tap-hold takes `waiting`, the 2nd … 9th fill `extra_waiting`, the 10th evicts the 2nd.  Nine keys
resolve (hold keys 101, 103 … 110 come down); the second tap-hold resolves to NOTHING: neither its
hold key 102 nor its tap key 202 is ever pressed, at any tick.
Replay on the real code: that configuration, `press` the key, `tick` 12 times, read `keycodes()`
after every tick.  (`tenAfter n` = keys down, hold key of `waiting`, hold keys of `extra_waiting`
after the press and `n` ticks; definitions in Lemmas/TapHoldMulti.lean.) -/
theorem tenth_concurrent_taphold_is_lost_counterexample :
    tenAfter 1 = ([], some 101, [103, 104, 105, 106, 107, 108, 109, 110]) ∧
    tenAfter 3 = ([103], some 101, [104, 105, 106, 107, 108, 109, 110]) ∧
    tenAfter 4 = ([103, 101, 104], none, [105, 106, 107, 108, 109, 110]) ∧
    tenAfter 10 = ([103, 101, 104, 105, 106, 107, 108, 109, 110], none, []) ∧
    tenAfter 40 = ([103, 101, 104, 105, 106, 107, 108, 109, 110], none, []) ∧
    (∀ n, n ≤ 40 → 102 ∉ (tenAfter n).1 ∧ 202 ∉ (tenAfter n).1) := by
  decide +kernel

/-! ## Non-vacuity: a concrete state meeting the hypotheses of the theorems above -/

/-! `multiS` (Lemmas/TapHoldMulti.lean): three tap-hold keys pending — one in `waiting`, two in
`extra_waiting`, different variants and countdowns, keys / layer / macro as actions — and two events
buffered behind them. -/

/-- hypotheses of `extra_waiting_exactly_one` -/
example : ∀ w ∈ multiS.extraWaiting, isHT w = true := by decide
/-- hypothesis of `extra_waiting_frozen_by_custom_event` -/
example : CustomEv.press 7 ≠ .noEvent := by decide
/-- hypotheses of `tick_performs_the_logged_resolutions`, `every_pending_taphold_resolves`,
`resolution_order`, `buffered_events_replayed_after_all_resolve` -/
example : pendOK multiS = true ∧ (multiS.waiting ≠ none ∨ multiS.extraWaiting ≠ []) ∧ (Pend.of multiS).pot = 200 :=
  by decide +kernel
/-- hypotheses of `waiting_entry_resolved_within` (bound 200) -/
example : pendOK multiS = true ∧ ∃ w, multiS.waiting = some w ∧ max w.timeout 1 = 200 :=
  ⟨by decide +kernel, _, rfl, by decide⟩
/-- hypotheses of `extra_entry_resolved_within` (position 1, bound 150 + 1) -/
example : pendOK multiS = true ∧ ∃ w, multiS.extraWaiting[1]? = some w ∧ max w.timeout 1 + 1 = 151 :=
  ⟨by decide +kernel, _, rfl, by decide⟩
/-- on this state the model does what the theorems say: the queued release of (0,31) makes the first
extra entry decide tap on the very first tick although `waiting` (countdown 200) is still pending -/
example : (pendRun 1 (Pend.of multiS)).2.map (fun r => (r.w.coord, r.kind)) = [((0, 31), .tap)] := by
  decide +kernel
/-- and the replay of `buffered_events_replayed_after_all_resolve` on this state: the last pending key
is resolved on tick 200 (the bound), the two buffered events are still queued in order; the pause the
hold resolution started runs 5 ticks; tick 206 takes the press of (0,45), tick 207 the release of
(0,31) (key 31, tapped on tick 1, goes up) -/
example :
    (match tickN 199 multiS with | .ok s => s.waiting.isSome | .error _ => false) = true ∧
    (match tickN 200 multiS with
      | .ok s => (s.waiting.isNone, s.extraWaiting.length, s.queue.map (·.ev), s.oneshot.pauseInputProcessingTicks)
      | .error _ => (false, 0, [], 0)) = (true, 0, [.press (0, 45), .release (0, 31)], 5) ∧
    (match tickN 205 multiS with | .ok s => (s.queue.map (·.ev), s.keycodes) | .error _ => ([], [])) =
      ([.press (0, 45), .release (0, 31)], [31, 33]) ∧
    (match tickN 206 multiS with | .ok s => (s.queue.map (·.ev), s.keycodes) | .error _ => ([], [])) =
      ([.release (0, 31)], [31, 33]) ∧
    (match tickN 207 multiS with | .ok s => (s.queue.map (·.ev), s.keycodes) | .error _ => ([], [])) =
      ([], [33]) := by
  decide +kernel
/-- hypotheses of `holdTap_while_waiting_goes_to_extra_waiting` and `extra_waiting_capacity` -/
example : ((0 : Nat) = 0 ∨ ((0, 33) : Coord) ≠ multiS.lptCoord ∨ multiS.lptTapHoldTimeout = 0) ∧
    [0].length ≤ MAX_ACTIVE_LAYERS ∧ (∃ w0, multiS.waiting = some w0) ∧
    multiS.extraWaiting.length < EXTRA_WAITING_LEN := ⟨Or.inl rfl, by decide, ⟨_, rfl⟩, by decide⟩

end KVerif.C05
