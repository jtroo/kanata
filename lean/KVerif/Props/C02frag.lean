/-
C02 (continued) — an accepted configuration never crashes or hangs event processing: the statement IN
FULL on further fragments of the layout model.

`Props/C02.lean` proves the no-crash statement in full on the layered fragment of C04
(`frag04_never_crashes`), for histories that keep fewer than 32 events pending and at most 10 layers
held.  Here the same statement is proved

  1. on the one-shot fragment of C06           (`frag06_never_crashes`),
  2. on the macro fragment of C08              (`frag08_never_crashes`),
  3. on the tap-hold fragment of C05 / C01     (`frag05_never_crashes`),
  4. on their UNION with the layered fragment, `fork`, `one-shot-pause-processing` and custom actions,
     arbitrarily nested                        (`union_never_crashes`, `union_contains_the_fragments`),

for EVERY history of presses (inside the layer table), releases (of any coordinate at all, also of
keys that are not down; repeated presses of a key that is down) and ticks — any order, any timing, any
number of events between two ticks.  In particular the overflow path of `Layout::event` is covered: an
event arriving while 32 are pending flushes every undecided tap-hold key into its hold action and
processes the oldest event at once, which — with 16 one-shot keys active — re-enters `event` through
the overflow of the one-shot table, possibly 32 levels deep.  No bound on pending events, held
layers, active one-shot keys, states, active sequences or history length is assumed:

* **capacities are discharged, not assumed.**  16 active one-shot keys (`ONE_SHOT_MAX_ACTIVE`: the 17th
  pushes the oldest out, whose release is fed back through `event`), 16 deferred releases, 16 other
  pressed keys, 64 states (`push` is refused silently), 4 active sequences (the oldest is evicted and
  what it held is released), 8 extra waiting states (the oldest is dropped), 32 queued events, 12
  layers on the layer stack (after fix 31b82c0; before it: `pinned_layer_stack_counterexample`): none
  of these overflows reaches a crash branch, for any history (`capacities_need_no_hypothesis`).
* what IS assumed, each hypothesis a decidable predicate and each shown to be needed:
  - `RangeU` (configuration): repaired layer stack (`pinned_layer_stack_counterexample`); there is a
    layer; every action is in the fragment and every layer-while-held / one-shot-layer / tap-hold-layer
    target exists (`oneshot_layer_out_of_range_counterexample`, `taphold_layer_out_of_range_counterexample`,
    `C02.layer_target_out_of_range_counterexample`); the defsrc row holds no transparent / use-defsrc item
    (`C02.trans_in_defsrc_counterexample`, `C02.src_in_defsrc_diverges`).  kanata's parser resolves layer
    names and fills the defsrc row with plain key codes.
  - `InTable` (history): every press has row < `rows`, column < `cols` (`press_outside_table_counterexample`);
    releases need no bound.  The event loop only forwards codes in `MAPPED_KEYS` (C11).
  - `StartU` (state): met by a freshly created layout (`startU_init`) and kept by every step
    (`union_run_keeps_conditions`).
  - the recursion budget — `FuelU` for the union (a closed formula in the configuration), `CostU 3997`
    for the macro fragment, nothing for the one-shot and tap-hold fragments (their actions are flat).
    This is an artefact of the MODEL: `doAction` recurses on `FUEL` = 4000 and its `multi` loop spends
    one unit per member, where Rust loops; the re-entered `event` spends it where Rust spends stack
    (`fuel_budget_counterexample`: a flat `multi` of 3998 keys, harmless in Rust, exhausts the model's
    budget).  What it stands for in the real code — unbounded nesting exhausting the stack — is probed
    by the C02 crash oracle, see the remark at `frag04_never_crashes`.
Helper lemmas: Lemmas/NoCrashFrag.lean (`engine` is the induction over the recursion budget).
-/
import KVerif.Lemmas.NoCrashFrag
import KVerif.Props.C01
namespace KVerif.C02
open KVerif.L KVerif.NCF
open KVerif.C04 (In runM)

/-! ## 1. the one-shot fragment -/

/-- **frag06_never_crashes** (full, on the fragment).  For every configuration of the one-shot fragment
of C06 — base and upper layers of keys, output chords, layer-while-held, transparent / unmapped
positions, one-shot keys of all four end variants with any timeout — that is well-formed (`RangeU`),
every state that meets the state conditions (in particular the initial one) and EVERY history of
presses inside the table, releases and ticks, the model of `Layout::event` / `Layout::tick` never takes
a crash branch.  No capacity hypothesis: any number of one-shot keys may be stacked, any number of
events may arrive between two ticks (see the header).  (`RangeU` alone places the configuration in the
union fragment; `CfgFrag` narrows it to the one-shot fragment, whose actions are flat, so that no
recursion budget has to be assumed.) -/
theorem frag06_never_crashes (ins : List In) (s : Layout) (hc : C06.CfgFrag s.cfg) (hr : RangeU s.cfg)
    (hs : StartU s) (ht : InTable s.cfg ins) : ∃ t, runM s ins = .ok t :=
  run_ok (cfgOK_06 hc hr) budget_06 ins s hs.nc ht

/-! ## 2. the macro fragment -/

/-- **frag08_never_crashes** (full, on the fragment).  For every configuration of the macro fragment of
C08 (`CfgM`: keys, no-op, transparent, custom actions, `CancelSequences`, macros and repeating macros
alone or inside `multi`, nested to any depth) that is well-formed and whose actions cost at most 3997
units of fuel (`CostU`; `ucost`: 2 for anything but a `multi`, and for a `multi` 2 + the largest of
(position + 1 + cost) over its members, e.g. `n + 4` for a flat `multi` of `n` keys — the bound is a
model artefact, see `fuel_budget_counterexample`), EVERY history is processed without a crash outcome —
any number of macros started at once (the ring of 4 evicts), any number of events between two ticks. -/
theorem frag08_never_crashes (ins : List In) (s : Layout) (hc : Macro.CfgM s.cfg) (hr : RangeU s.cfg)
    (hd : CostU 3997 s.cfg) (hs : StartU s) (ht : InTable s.cfg ins) : ∃ t, runM s ins = .ok t :=
  run_ok (cfgOK_08 hc hr hd (by decide)) (budget_08 (Nat.le_refl _)) ins s hs.nc ht

/-! ## 3. the tap-hold fragment -/

/-- **frag05_never_crashes** (full, on the fragment).  For every configuration of the tap-hold fragment
(`CfgH`: keys, output chords, layer-while-held, transparent / unmapped positions and tap-hold keys —
any number of them, every variant, any hold timeout and tap-hold interval, hold / tap / timeout actions
a key, an output chord or layer-while-held) that is well-formed, EVERY history is processed without a
crash outcome: whatever is pressed while a key is undecided, however many events pile up (on a full
queue the undecided key takes its hold action and the oldest event is processed at once). -/
theorem frag05_never_crashes (ins : List In) (s : Layout) (hc : Quiesce.CfgH s.cfg) (hr : RangeU s.cfg)
    (hs : StartU s) (ht : InTable s.cfg ins) : ∃ t, runM s ins = .ok t :=
  run_ok (cfgOK_05 hc hr) budget_05 ins s hs.nc ht

/-! ## 4. the union -/

/-- **union_never_crashes** (full, on the union fragment `UAct`).  Configurations built — with
arbitrary nesting of `multi` and `fork` — from keys, output chords, no-op, transparent, use-defsrc,
layer-while-held, layer-switch, release-key / release-layer (C04); one-shot keys (C06); macros,
repeating macros, custom actions, cancel (C08); tap-hold keys (C05); `one-shot-pause-processing`:
if the configuration is well-formed (`RangeU`) and within the recursion budget (`FuelU`), EVERY
history is processed without a crash outcome, from every state that meets `StartU`.
Compared with `frag04_never_crashes` there is no bound on pending events or held layers. -/
theorem union_never_crashes (ins : List In) (s : Layout) (hr : RangeU s.cfg) (hf : FuelU s.cfg)
    (hs : StartU s) (ht : InTable s.cfg ins) : ∃ t, runM s ins = .ok t :=
  run_ok (cfgOK_of_range hr) hf ins s hs.nc ht

/-- **union_run_keeps_conditions**: the state reached meets the state conditions again (with the same
configuration), so the theorem applies to every continuation of the history. -/
theorem union_run_keeps_conditions (ins : List In) (s : Layout) (hr : RangeU s.cfg) (hf : FuelU s.cfg)
    (hs : StartU s) (ht : InTable s.cfg ins) : ∃ s', runL s ins = .ok s' ∧ s'.cfg = s.cfg ∧ StartU s' := by
  obtain ⟨s', h1, h2⟩ := runL_ok (cfgOK_of_range hr) hf ins s hs.nc ht
  exact ⟨s', h1, h2.cfgEq, NC.startU (h2.cfgEq.symm ▸ h2)⟩

/-- **union_contains_the_fragments**: every action of the layered fragment of C04, of the one-shot
fragment of C06, of the macro fragment of C08 and of the tap-hold fragment of C05 whose layer targets
exist (`L` layers) is an action of the union fragment. -/
theorem union_contains_the_fragments (L : Nat) (a : Action) :
    (C04.Frag a → C04.layersIn L a = true → UAct L a = true) ∧
    (C06.Frag a → Quiesce.ActSafe L a → UAct L a = true) ∧
    (Macro.MFrag a → UAct L a = true) ∧
    (Quiesce.FragH a → Quiesce.ActSafeH L a → UAct L a = true) :=
  ⟨fun h1 h2 => (frag04_facts L a h1 h2).1, fun h => (frag06_facts h).2.2, fun h => (frag08_facts L a h).1,
   fun h => (frag05_facts h).2.2.2⟩

/-- a freshly created layout meets the state conditions (so the theorems apply from start-up) -/
theorem startU_init (cfg : LCfg) (hr : RangeU cfg) (tv2 dfl qth : Bool) (osd : Nat) :
    StartU ({ cfg := cfg, transV2 := tv2, delegateToFirstLayer := dfl, quickTapHoldTimeout := qth,
              oneshot := { pauseInputProcessingDelay := osd } } : Layout) :=
  NCF.startU_init cfg hr.unpack.pos tv2 dfl qth osd

/-! ## Non-vacuity -/

/-- `n` presses of the keys in columns `from .. from + n - 1`, no tick in between -/
def burst (from_ n : Nat) : List In := (List.range n).map fun i => .ev (.press (0, from_ + i))

/-! ### one-shot: 20 one-shot keys, 17 of them tapped one after the other (the 16-entry table
overflows), then 40 more presses of one-shot keys without a single tick (the 32-entry queue overflows
while 16 one-shot keys are active: `event` re-enters itself through `do_action`) -/

def manyOneShots : LCfg :=
  { layers := [((List.range 20).map fun i => ((0, 1 + i), Action.oneShot (.keyCode (100 + i)) 1000 .firstPress)) ++
                 [((0, 30), .oneShot (.layer 1) 500 .firstReleaseOrRepress), ((0, 31), .keyCode 31)],
               [((0, 31), .multipleKeyCodes [42, 31])]],
    srcKeys := [(30, .keyCode 30), (31, .keyCode 31)] }

def manyOneShotsHist : List In :=
  ((List.range 17).flatMap fun i => [.ev (.press (0, 1 + i)), .tick, .ev (.release (0, 1 + i)), .tick]) ++
  burst 1 20 ++ burst 1 20 ++ [.ev (.press (0, 30)), .ev (.release (0, 77)), .tick, .ev (.press (0, 31)), .tick, .tick]

theorem manyOneShots_frag : C06.CfgFrag manyOneShots := by
  refine ⟨?_, ?_⟩
  · intro tbl ht e he
    simp only [manyOneShots, List.mem_cons, List.mem_nil_iff, or_false] at ht
    rcases ht with rfl | rfl
    · rcases List.mem_append.mp he with he | he
      · obtain ⟨i, _, rfl⟩ := List.mem_map.mp he
        simp [C06.Frag, C06.Simple]
      · simp only [List.mem_cons, List.mem_nil_iff, or_false] at he
        rcases he with rfl | rfl <;> simp [C06.Frag, C06.Simple]
    · simp only [List.mem_cons, List.mem_nil_iff, or_false] at he
      subst he; simp [C06.Frag]
  · intro e he
    simp only [manyOneShots, List.mem_cons, List.mem_nil_iff, or_false] at he
    rcases he with rfl | rfl <;> simp [C06.Frag]

/-- the hypotheses of the theorem, evaluated -/
theorem manyOneShots_hyps :
    RangeU manyOneShots ∧ StartU { cfg := manyOneShots } ∧ InTable manyOneShots manyOneShotsHist := by decide

example : RangeU manyOneShots := manyOneShots_hyps.1
example : StartU { cfg := manyOneShots } := manyOneShots_hyps.2.1
example : InTable manyOneShots manyOneShotsHist := manyOneShots_hyps.2.2

/-- **capacities_need_no_hypothesis**: the theorem applied to the history above — 17 one-shot keys
active in a row, then 43 events without a tick.  The second component (evaluated) shows that the run
really goes through the overflow of both tables: at the end 32 events are still queued and all 16
slots of the one-shot table are in use. -/
theorem capacities_need_no_hypothesis :
    (∃ t, runM { cfg := manyOneShots } manyOneShotsHist = .ok t) ∧
    (match runL { cfg := manyOneShots } (manyOneShotsHist.take (17 * 4 + 40)) with
      | .ok s => some (s.queue.length, s.oneshot.keys.length)
      | .error _ => none) = some (32, 16) :=
  ⟨frag06_never_crashes manyOneShotsHist { cfg := manyOneShots } manyOneShots_frag manyOneShots_hyps.1
    manyOneShots_hyps.2.1 manyOneShots_hyps.2.2, by decide +kernel⟩

/-! ### macros: the configuration of C08 with all macro forms; four macros started on top of each
other, then 40 events in a burst -/

def macroHist : List In :=
  [.ev (.press (0, 2)), .tick, .ev (.press (0, 3)), .tick, .tick, .ev (.press (0, 2)), .ev (.press (0, 2)),
   .ev (.press (0, 2)), .tick, .tick, .tick, .tick, .ev (.release (0, 3))] ++ burst 0 40 ++
  [.tick, .ev (.press (0, 11)), .tick, .tick, .ev (.release (0, 2)), .tick]

theorem macroCfg_hyps : RangeU C08.sampleCfg ∧ CostU 3997 C08.sampleCfg ∧ StartU { cfg := C08.sampleCfg } ∧
    InTable C08.sampleCfg macroHist := by decide

example : RangeU C08.sampleCfg := macroCfg_hyps.1
example : CostU 3997 C08.sampleCfg := macroCfg_hyps.2.1
example : StartU { cfg := C08.sampleCfg } := macroCfg_hyps.2.2.1
example : InTable C08.sampleCfg macroHist := macroCfg_hyps.2.2.2

example : ∃ t, runM { cfg := C08.sampleCfg } macroHist = .ok t :=
  frag08_never_crashes macroHist { cfg := C08.sampleCfg } C01.macroCfg_frag macroCfg_hyps.1 macroCfg_hyps.2.1
    macroCfg_hyps.2.2.1 macroCfg_hyps.2.2.2

/-! ### tap-hold: the configuration of C01 (a layer-tap key of the release variant, a mod-tap key with
a tap-hold interval); both tap-hold keys pressed, 40 events in a burst while they are undecided -/

def tapHoldHist : List In :=
  [.ev (.press (0, 30)), .tick, .ev (.press (0, 32)), .tick, .ev (.release (0, 32)), .tick, .tick,
   .ev (.press (0, 31)), .ev (.release (0, 31)), .ev (.press (0, 31)), .tick, .tick] ++ burst 18 40 ++
  [.tick, .ev (.release (0, 30)), .ev (.release (0, 31)), .ev (.release (0, 31)), .tick, .tick, .tick]

theorem thCfg_hyps : RangeU C01.thCfg ∧ InTable C01.thCfg tapHoldHist := by decide

example : RangeU C01.thCfg := thCfg_hyps.1
example : InTable C01.thCfg tapHoldHist := thCfg_hyps.2

/-- a state in which a tap-hold key is undecided meets the state conditions as well -/
def tapHoldWaiting : Layout :=
  { cfg := C01.thCfg,
    waiting := some { coord := (0, 30), timeout := 150, delay := 0, ticks := 50, hold := .layer 1, tap := .keyCode 30,
                      timeoutAction := .layer 1, config := .holdTap .permissiveHold, layerStack := [0],
                      prevQueueLen := 0 },
    queue := [⟨.press (0, 32), 3⟩] }

theorem thCfg_starts : StartU { cfg := C01.thCfg } ∧ StartU tapHoldWaiting := by decide

example : StartU { cfg := C01.thCfg } ∧ StartU tapHoldWaiting := thCfg_starts

example : (∃ t, runM { cfg := C01.thCfg } tapHoldHist = .ok t) ∧ (∃ t, runM tapHoldWaiting tapHoldHist = .ok t) :=
  ⟨frag05_never_crashes tapHoldHist { cfg := C01.thCfg } C01.thCfg_frag thCfg_hyps.1 thCfg_starts.1 thCfg_hyps.2,
   frag05_never_crashes tapHoldHist tapHoldWaiting C01.thCfg_frag thCfg_hyps.1 thCfg_starts.2 thCfg_hyps.2⟩

/-! ### the union: three layers with every kind of action of the union fragment, nested -/

def unionCfg : LCfg :=
  { layers := [
      [((0, 30), .oneShot (.keyCode 42) 500 .firstPress),
       ((0, 31), .holdTap 200 (.layer 1) (.keyCode 31) (.layer 1) .permissiveHold 0),
       ((0, 32), .sequence (C08.sampleEvs ++ [.complete])),
       ((0, 33), .multipleActions [.keyCode 29, .layer 2]),
       ((0, 34), .fork (.keyCode 34) (.multipleKeyCodes [42, 34]) [42]),
       ((0, 35), .defaultLayer 2), ((0, 36), .custom 7), ((0, 37), .cancelSequences),
       ((0, 38), .multipleActions [.oneShot (.layer 1) 50 .firstRelease, .custom 8]),
       ((0, 39), .fork (.holdTap 100 (.keyCode 56) (.keyCode 39) (.keyCode 56) .default 150) (.keyCode 1) [29])],
      [((0, 30), .oneShot (.layer 2) 10 .firstReleaseOrRepress),
       ((0, 33), .multipleActions [.trans, .releaseState (.keyCode 29)]), ((0, 34), .src), ((0, 36), .noOp)],
      [((0, 32), .multipleActions [.repeatableSequence (C08.sampleEvs ++ [.complete]), .custom 0]),
       ((0, 35), .defaultLayer 0), ((0, 36), .oneShotIgnoreEventsTicks 5), ((0, 37), .releaseState (.layer 1))]],
    srcKeys := [(30, .keyCode 30), (31, .keyCode 31), (32, .keyCode 32), (33, .keyCode 33), (34, .keyCode 34),
                (35, .keyCode 35), (36, .keyCode 36), (37, .keyCode 37), (38, .keyCode 38), (39, .keyCode 39)] }

def unionHist : List In :=
  [.ev (.press (0, 30)), .tick, .ev (.release (0, 30)), .tick, .ev (.press (0, 31)), .tick, .ev (.press (0, 33)), .tick,
   .ev (.press (0, 32)), .ev (.press (0, 38)), .tick, .tick, .tick, .ev (.press (0, 39)), .ev (.press (0, 34))] ++
  burst 30 10 ++ burst 30 10 ++ burst 30 10 ++ burst 30 10 ++
  [.tick, .ev (.release (0, 31)), .ev (.release (0, 99)), .tick, .ev (.press (0, 35)), .tick, .ev (.press (0, 36)), .tick] ++
  List.replicate 250 .tick ++ burst 30 10

theorem unionCfg_hyps : RangeU unionCfg ∧ FuelU unionCfg ∧ StartU { cfg := unionCfg } ∧ InTable unionCfg unionHist := by
  decide +kernel

example : RangeU unionCfg := unionCfg_hyps.1
example : FuelU unionCfg := unionCfg_hyps.2.1
example : maxCost unionCfg = 7 ∧ pressCost unionCfg = 97 ∧ cfgOsh unionCfg = true := by decide +kernel
example : StartU { cfg := unionCfg } := unionCfg_hyps.2.2.1
example : InTable unionCfg unionHist := unionCfg_hyps.2.2.2

example : ∃ t, runM { cfg := unionCfg } unionHist = .ok t :=
  union_never_crashes unionHist { cfg := unionCfg } unionCfg_hyps.1 unionCfg_hyps.2.1 unionCfg_hyps.2.2.1
    unionCfg_hyps.2.2.2

theorem sampleCfg_hyps : RangeU C04.sampleCfg ∧ FuelU C04.sampleCfg ∧ StartU sampleState := by decide

/-- the sample configuration of C04 / `frag04_never_crashes` is within the union theorem, with no bound
on pending events or held layers -/
example : RangeU C04.sampleCfg ∧ FuelU C04.sampleCfg ∧ StartU sampleState := sampleCfg_hyps

example : ∃ t, runM sampleState (sampleHist ++ burst 30 20 ++ burst 30 20 ++ sampleHist) = .ok t :=
  union_never_crashes _ sampleState sampleCfg_hyps.1 sampleCfg_hyps.2.1 sampleCfg_hyps.2.2 (by decide +kernel)

/-! ## Each hypothesis is needed -/

/-- thirteen layer-while-held keys (on both layers, so that they stay reachable while layer 1 is
held) and a plain key; `pinned` = the code before fix 31b82c0 -/
def pinnedCfg (pinned : Bool) : LCfg :=
  { layers := [((List.range 13).map fun i => ((0, 1 + i), Action.layer 1)) ++ [((0, 20), .keyCode 20)],
               (List.range 13).map fun i => ((0, 1 + i), Action.layer 1)],
    srcKeys := [(20, .keyCode 20)], pinnedLayerStack := pinned }

def pinnedHist : List In :=
  ((List.range 13).flatMap fun i => [.ev (.press (0, 1 + i)), .tick]) ++ [.ev (.press (0, 20)), .tick]

/-- **pinned_layer_stack_counterexample**: `RangeU` asks for the repaired layer stack.  On the pinned
code thirteen held layers make the next press panic (`Vec::from_iter overflow` in
`trans_resolution_layer_order`; reproduced on the real code, repaired by 31b82c0); on the repaired
code the same history of the same configuration runs. -/
theorem pinned_layer_stack_counterexample :
    ¬ RangeU (pinnedCfg true) ∧ RangeU (pinnedCfg false) ∧ InTable (pinnedCfg true) pinnedHist ∧
    crashOf (runM { cfg := pinnedCfg true } pinnedHist) = some .layerStackOverflow ∧
    ∃ t, runM { cfg := pinnedCfg false } pinnedHist = .ok t := by
  have hr : RangeU (pinnedCfg false) := by decide
  exact ⟨by decide, hr, by decide, by decide +kernel,
    union_never_crashes pinnedHist { cfg := pinnedCfg false } hr (by decide) (by decide) (by decide)⟩

/-- a one-shot layer key whose layer does not exist -/
def badOneShotCfg : LCfg :=
  { layers := [[((0, 30), .oneShot (.layer 5) 100 .firstPress), ((0, 31), .keyCode 31)]],
    srcKeys := [(30, .keyCode 30), (31, .keyCode 31)] }

/-- **oneshot_layer_out_of_range_counterexample**: the layer targets inside one-shot keys have to exist:
otherwise the press after the one-shot key indexes `self.layers[5]`. -/
theorem oneshot_layer_out_of_range_counterexample :
    ¬ RangeU badOneShotCfg ∧
    crashOf (runM { cfg := badOneShotCfg } [.ev (.press (0, 30)), .tick, .ev (.press (0, 31)), .tick])
      = some (.indexOOB "layers[layer]") := by
  refine ⟨by decide, by decide +kernel⟩

/-- a layer-tap key whose hold layer does not exist -/
def badTapHoldCfg : LCfg :=
  { layers := [[((0, 30), .holdTap 3 (.layer 7) (.keyCode 30) (.layer 7) .default 0), ((0, 31), .keyCode 31)]],
    srcKeys := [(30, .keyCode 30), (31, .keyCode 31)] }

/-- **taphold_layer_out_of_range_counterexample**: likewise for the hold action of a tap-hold key: held
past its timeout, the next press indexes `self.layers[7]`. -/
theorem taphold_layer_out_of_range_counterexample :
    ¬ RangeU badTapHoldCfg ∧
    crashOf (runM { cfg := badTapHoldCfg }
      [.ev (.press (0, 30)), .tick, .tick, .tick, .tick, .tick, .ev (.press (0, 31)), .tick])
      = some (.indexOOB "layers[layer]") := by
  refine ⟨by decide, by decide +kernel⟩

/-- **press_outside_table_counterexample**: `InTable` is needed: column 767 (`KEY_MAX`, see
`input_code_767_counterexample`) is outside the 2 × 767 table. -/
theorem press_outside_table_counterexample :
    RangeU manyOneShots ∧ ¬ InTable manyOneShots [.ev (.press (0, 767)), .tick] ∧
    crashOf (runM { cfg := manyOneShots } [.ev (.press (0, 767)), .tick]) = some (.indexOOB "layers[l][x][y]") := by
  exact ⟨manyOneShots_hyps.1, by decide, by decide +kernel⟩

/-- the defsrc row must hold no transparent item: the configuration of `trans_in_defsrc_counterexample` -/
example : ¬ RangeU transDefsrcCfg := by decide

/-- a `multi` of `n` plain keys: an action of the macro fragment (and of the layered one) -/
def longMulti (n : Nat) : Action := .multipleActions (List.replicate n (.keyCode 30))

/-- **fuel_budget_counterexample**: the recursion budget is a hypothesis about the MODEL, and it is
needed there.  A flat `multi` of `n ≥ 3998` plain keys is an action of the macro fragment of cost
`n + 4 > 3997`; in Rust it is a `for` loop, but the model's `doActions` loop spends one unit of fuel per
member, so with `FUEL` = 4000 the model answers `fuelOut` — whatever the state. -/
theorem fuel_budget_counterexample (n : Nat) (hn : FUEL - 2 ≤ n) (s : Layout) (c : Coord) (d : Nat) (os : Bool)
    (ls : List Nat) :
    Macro.MFrag (longMulti n) ∧ ucost (longMulti n) = n + 4 ∧
    doAction FUEL s (longMulti n) c d os ls = .error .fuelOut := by
  have h1 : ∀ m, Macro.MFragL (List.replicate m (.keyCode 30)) := by
    intro m
    induction m with
    | zero => trivial
    | succ m ih => exact ⟨trivial, (fun h => by cases h), ih⟩
  have h2 : ∀ m, ucostL (List.replicate (m + 1) (.keyCode 30)) = m + 3 := by
    intro m
    induction m with
    | zero => rfl
    | succ m ih =>
      rw [List.replicate_succ, ucostL, ih]
      simp only [ucost]; omega
  have h3 : ∀ (fuel m : Nat), fuel ≤ m → ∀ (s : Layout) (cu : CustomEv),
      doActions fuel s (List.replicate m (.keyCode 30)) c d os ls cu = .error .fuelOut := by
    intro fuel
    induction fuel with
    | zero => intro m _ s cu; rfl
    | succ fuel ih =>
      intro m hm s cu
      obtain ⟨k, rfl⟩ : ∃ k, m = k + 1 := ⟨m - 1, by omega⟩
      rw [List.replicate_succ]
      simp only [doActions]
      match fuel, ih with
      | 0, _ => rfl
      | 1, _ => rfl
      | f + 2, ih =>
        simp only [doAction, dispatch]
        exact ih k (by omega) _ _
  refine ⟨h1 n, ?_, ?_⟩
  · obtain ⟨k, rfl⟩ : ∃ k, n = k + 1 := ⟨n - 1, by simp only [FUEL] at hn; omega⟩
    simp only [longMulti, ucost, h2]; omega
  · have e : FUEL = 3998 + 2 := rfl
    rw [e]
    simp only [longMulti, doAction, dispatch]
    rw [h3 3998 n (by simp only [FUEL] at hn; omega)]

end KVerif.C02
