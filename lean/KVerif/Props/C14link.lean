/-
C14 (semantic link) — the key-output table speaks about what the layout actually puts down.

`Props/C14.lean: keyouts_complete` is syntactic: the table row built for a physical key contains every
key code of every key-producing leaf of the key's action tree (`possibleOutputs`).  This file links
that to the layout model (`Model/Layout.lean`): the key codes `do_action` pushes for a coordinate, and
the actions it stores for later execution (waiting tap-hold / tap-dance / chord states, eager tap-dance
state, action queue of `switch`, queued presses), stay inside the same syntactic closure - for the
press itself, across the resolution of the waiting states, and along every history of ticks and events.

Vocabulary (definitions in `Lemmas/DoActionKeys.lean`):
* `K : Coord → KeyCode → Prop`  which key codes may be held on behalf of which coordinate;
* `Q : Coord → Prop`            coordinates whose configuration cells (all layers + defsrc) are covered;
* `ActOK K Q c a`               the closure of action `a`, executed at `c`, is inside `K` (structural);
* `Inv K Q s`                   every `normalKey kc c _` state has `K c kc`, and every stored action is `ActOK`
                                 at the coordinate(s) it can later run at;
* `plain a`, `refFree a`        decidable fragments (no rpt-any / chords v1 / eager tap-dance; no
                                 transparent / use-defsrc leaf);
* `localK s c P`                "a code of `P` at `c`, or something already held in `s`".

NOT covered / covered only in a weaker form (stated where it matters):
* `Action::Repeat` (rpt-any) is outside every coordinate-dependent closure (`ActOK … .repeat = False`):
  it re-runs the action of ANOTHER key at this coordinate, and the real table has no arm for it
  (`do_action_repeat_counterexample`).
* chords v1 run their members at the coordinates of the group's participants (the released participant,
  the participants of the pressed queue, the coordinate chosen for a decomposed sub-chord) as well as at
  the coordinate the action sits on: `ActOK` demands the members be allowed at all of those, and the
  invariant is proved through `handle_chord`, the decomposition into the action queue and the repeat of
  the chord's action over the pressed queue.  The per-key TABLE corollaries (section 4) exclude chords
  (`plain`): whether a participant's table row holds the group's outputs depends on that participant
  carrying the group too, which is a property of the configuration, not of one action.
* the eager tap-dance runs its later members at "the last pressed real key", which is another key when
  the tap-dance sits on a virtual key: `ActOK` demands its members be allowed at every coordinate; the
  table corollaries exclude it.
* `fakeKey` states of sequences / macros are not `normalKey` states and the table has no arm for them.
-/
import KVerif.Lemmas.DoActionKeys
import KVerif.Props.C14
namespace KVerif.C14L
open KVerif.L KVerif.K KVerif.KO

/-! ### 1. The immediate part and the mutual block -/

/-- **do_action_preserves_cover** (full): for every fuel, state, action, coordinate, delay, flag and
layer stack: if the state satisfies the invariant and the action's closure at `c` is inside `K`
(`Trans`/`Src` leaves: the cells of `c` are covered, `Q c`), then after `do_action`
* every `normalKey` state - old or new - carries a key code allowed at its coordinate,
* every waiting state (tap-hold, tap-dance, chord; `waiting` and `extra_waiting`), the eager tap-dance
  state and every action-queue entry (`switch`) stores only actions inside the closure,
and the invariant holds again (so the statement iterates).
Hypotheses: `hinv` is needed because `do_action` also runs stored actions of OTHER coordinates (the
one-shot overflow path: `event` → queue overflow → `waiting_into_hold` for every waiting state →
`dequeue` of the oldest queued event); `ha` is the closure of the action itself. -/
theorem do_action_preserves_cover (K : KSet) (Q : Coord → Prop) (fuel : Nat) (s : Layout) (a : Action) (c : Coord)
    (delay : Nat) (isOneshot : Bool) (layerStack : List Nat) (s' : Layout) (cu : CustomEv)
    (hinv : Inv K Q s) (ha : ActOK K Q c a)
    (h : doAction fuel s a c delay isOneshot layerStack = .ok (s', cu)) :
    (∀ kc c' fl, St.normalKey kc c' fl ∈ s'.states → K c' kc) ∧
    (∀ w, (s'.waiting = some w ∨ w ∈ s'.extraWaiting) → WOK K Q w) ∧
    (∀ t, s'.tapDanceEager = some t → ∀ c', ActOKL K Q c' t.actions) ∧
    (∀ c' d a', (c', d, a') ∈ s'.actionQueue → ActOK K Q c' a') ∧
    Inv K Q s' := by
  have hi := doAction_inv hinv ha h
  refine ⟨hi.states, ?_, hi.tde, fun c' d a' hm => hi.aq (c', d, a') hm, hi⟩
  intro w hw
  rcases hw with hw | hw
  · exact hi.waiting w hw
  · exact hi.extra w hw

/-- **mutual_block_preserves_cover** (full): the same for every function of the mutual recursion of
`do_action` (one induction on the fuel mirroring the mutual definitions): `do_action`, its `match`
(`dispatch`), the `MultipleActions` loop, `waiting_into_hold`, the flush loop of `event`, `dequeue`
and `event`.  A press that is dequeued / enters `event` must be of a covered coordinate. -/
theorem mutual_block_preserves_cover (K : KSet) (Q : Coord → Prop) (fuel : Nat) :
    (∀ s a c d f ls s' cu, Inv K Q s → ActOK K Q c a → doAction fuel s a c d f ls = .ok (s', cu) → Inv K Q s') ∧
    (∀ s a c d f ls s' cu, Inv K Q s → ActOK K Q c a → dispatch fuel s a c d f ls = .ok (s', cu) → Inv K Q s') ∧
    (∀ s acs c d f ls cu0 s' cu, Inv K Q s → ActOKL K Q c acs →
      doActions fuel s acs c d f ls cu0 = .ok (s', cu) → Inv K Q s') ∧
    (∀ s idx s' cu, Inv K Q s → waitingIntoHold fuel s idx = .ok (s', cu) → Inv K Q s') ∧
    (∀ s l s', Inv K Q s → flushWaitings fuel s l = .ok s' → Inv K Q s') ∧
    (∀ s q s' cu, Inv K Q s → (∀ c, q.ev = .press c → Q c) → dequeue fuel s q = .ok (s', cu) → Inv K Q s') ∧
    (∀ s ev s', Inv K Q s → (∀ c, ev = .press c → Q c) → event fuel s ev = .ok s' → Inv K Q s') :=
  ⟨inv_all.doAction, inv_all.dispatch, inv_all.doActions, inv_all.waitingIntoHold, inv_all.flushWaitings,
    inv_all.dequeue, inv_all.event⟩

/-- the action `(multi lsft (fork a b (lctl)))` of the examples, and a tap-hold key next to it -/
def exAct : Action := .multipleActions [.keyCode 42, .fork (.keyCode 30) (.keyCode 48) [29]]
def exCfg : LCfg :=
  { layers := [[((0, 30), exAct), ((0, 31), .holdTap 200 (.keyCode 29) (.keyCode 31) (.keyCode 29) .default 0)],
               [((0, 30), .trans), ((0, 31), .src)]],
    srcKeys := [(30, .keyCode 30), (31, .keyCode 31)] }

/-- instance: cover "lsft, a, b at key 30", initial layout; the press puts down lsft and a at (0,30) -/
example : ∃ s' cu, doAction 10 { cfg := exCfg } exAct (0, 30) 0 false [] = .ok (s', cu) ∧
    Inv (fun c kc => c = (0, 30) ∧ kc ∈ [42, 30, 48]) (fun _ => False) { cfg := exCfg } ∧
    ActOK (fun c kc => c = (0, 30) ∧ kc ∈ [42, 30, 48]) (fun _ => False) (0, 30) exAct ∧
    s'.states = [.normalKey 42 (0, 30) 0, .normalKey 30 (0, 30) 0] :=
  ⟨_, _, rfl, inv_init _ (fun _ h => h.elim),
   ⟨⟨rfl, by decide⟩, ⟨⟨rfl, by decide⟩, ⟨rfl, by decide⟩⟩, trivial⟩, rfl⟩

/-! ### 2. What the press itself puts down -/

/-- **do_action_new_keys_local** (full, general form): let `P` contain `possibleOutputs` of the action
(slot = column of the coordinate, as in the table) and let the state satisfy the invariant for the
cover "a code of `P` at `c`, or a (code, coordinate) pair already held in `s`".  Then every `normalKey`
state after `do_action` either repeats a (code, coordinate) pair `s` already held, or sits at
coordinate `c` with a key code of `P`; and everything stored for later stays inside that cover.
Hypotheses: `plain` - see the header (rpt-any, chords v1, eager tap-dance act for other coordinates);
`hr` - a transparent / use-defsrc leaf is resolved in the configuration, so the cells of `c` must be
covered (`Q c`, and then `hinv.cfg` says they are inside `P`); `hinv` - the stored actions of other
coordinates that the one-shot overflow path may run (discharged by `inv_local_of_quiet` below). -/
theorem do_action_new_keys_local (customs : List (List CAct)) (fuel : Nat) (s : Layout) (a : Action) (c : Coord)
    (delay : Nat) (isOneshot : Bool) (layerStack : List Nat) (s' : Layout) (cu : CustomEv)
    (P : KeyCode → Prop) (Q : Coord → Prop)
    (hp : plain a = true) (hr : refFree a = true ∨ Q c)
    (hP : ∀ kc ∈ possibleOutputs customs c.2 a, P kc)
    (hinv : Inv (localK s c P) Q s)
    (h : doAction fuel s a c delay isOneshot layerStack = .ok (s', cu)) :
    (∀ kc c' fl, St.normalKey kc c' fl ∈ s'.states →
      (∃ fl', St.normalKey kc c' fl' ∈ s.states) ∨ (c' = c ∧ P kc)) ∧
    Inv (localK s c P) Q s' := by
  have ha : ActOK (localK s c P) Q c a :=
    actOK_of_possible customs c.2 _ _ c a hp hr (fun kc hk => Or.inl ⟨rfl, hP kc hk⟩)
  have hi := doAction_inv hinv ha h
  refine ⟨?_, hi⟩
  intro kc c' fl hm
  rcases hi.states kc c' fl hm with h1 | h1
  · exact Or.inr h1
  · exact Or.inl h1

/-- **do_action_keys_in_possible_outputs_partial** (THE MAIN THEOREM in the form asked for; partial:
the unrestricted statement

    doAction fuel s a c delay isOneshot ls = .ok (s', cu) →
    ∀ kc c' fl, normalKey kc c' fl ∈ s'.states → normalKey kc c' fl ∉ s.states →
      c' = c ∧ kc ∈ possibleOutputs customs c.2 a

is FALSE of the code - `do_action_repeat_counterexample` (rpt-any) and
`do_action_other_coordinate_counterexample` (one-shot overflow path) below - so the hypotheses are
needed, not proof gaps): an action of the plain fragment without transparent / use-defsrc leaves, executed by
`do_action` at coordinate `c` in a state that stores nothing for later (no waiting state, no eager
tap-dance, empty action queue) and has no press queued: every `normalKey kc c' fl` in the new state
whose (code, coordinate) pair was not held before has `c' = c` and `kc ∈ possibleOutputs a`; and every
action stored by it for later (waiting tap-hold / tap-dance state, action queue entries of `switch`,
the inner action of a one-shot runs at once) is inside the closure of that cover.
What the hypotheses are for: `hquiet`/`hq` - `do_action` can reach `event` (17th active one-shot key)
and from there, on queue overflow, run the hold action of every waiting state and dequeue the oldest
queued press, which act for other coordinates; with nothing stored and no press queued these paths
put down nothing. -/
theorem do_action_keys_in_possible_outputs_partial (customs : List (List CAct)) (fuel : Nat) (s : Layout) (a : Action)
    (c : Coord) (delay : Nat) (isOneshot : Bool) (layerStack : List Nat) (s' : Layout) (cu : CustomEv)
    (hp : plain a = true) (hr : refFree a = true)
    (hquiet : Quiet s) (hq : ∀ q ∈ s.queue, q.ev.isPress = false)
    (h : doAction fuel s a c delay isOneshot layerStack = .ok (s', cu)) :
    (∀ kc c' fl, St.normalKey kc c' fl ∈ s'.states →
      (∃ fl', St.normalKey kc c' fl' ∈ s.states) ∨ (c' = c ∧ kc ∈ possibleOutputs customs c.2 a)) ∧
    Inv (localK s c (· ∈ possibleOutputs customs c.2 a)) (fun _ => False) s' := by
  refine do_action_new_keys_local customs fuel s a c delay isOneshot layerStack s' cu _ _ hp (Or.inl hr)
    (fun _ hk => hk) ?_ h
  refine inv_local_of_quiet s c _ _ (fun _ hf => hf.elim) hquiet ?_
  intro q hm c' hc'
  have := hq q hm
  rw [hc'] at this
  cases this

example : ∃ s' cu, doAction 10 { cfg := exCfg } exAct (0, 30) 0 false [] = .ok (s', cu) ∧
    plain exAct = true ∧ refFree exAct = true ∧ Quiet { cfg := exCfg } ∧
    (∀ q ∈ ({ cfg := exCfg } : Layout).queue, q.ev.isPress = false) ∧
    possibleOutputs [] 30 exAct = [42, 30, 48] ∧
    s'.states = [.normalKey 42 (0, 30) 0, .normalKey 30 (0, 30) 0] :=
  ⟨_, _, rfl, rfl, rfl, ⟨rfl, rfl, rfl, rfl⟩, fun _ h => (by cases h), rfl, rfl⟩

/-- **do_action_keys_in_cell_outputs_partial** (partial in the same sense): the same for an action that may
contain transparent / use-defsrc leaves (in particular `Trans` itself, which is what `dequeue` hands
to `do_action` for a press): the new key codes at `c` are `possibleOutputs` of the action or of a
configuration cell of `c` (the action of some layer at `c`, or the defsrc key of its column) - the
cells `resolve_coord` / `Src` can resolve to.  Needs the cells of `c` on the plain fragment, and
queued presses (reachable through the overflow path) only of `c` itself. -/
theorem do_action_keys_in_cell_outputs_partial (customs : List (List CAct)) (fuel : Nat) (s : Layout) (a : Action)
    (c : Coord) (delay : Nat) (isOneshot : Bool) (layerStack : List Nat) (s' : Layout) (cu : CustomEv)
    (hp : plain a = true) (hcells : CellsPlain s.cfg c)
    (hquiet : Quiet s) (hq : ∀ q ∈ s.queue, ∀ c', q.ev = .press c' → c' = c)
    (h : doAction fuel s a c delay isOneshot layerStack = .ok (s', cu)) :
    (∀ kc c' fl, St.normalKey kc c' fl ∈ s'.states →
      (∃ fl', St.normalKey kc c' fl' ∈ s.states) ∨
      (c' = c ∧ (kc ∈ possibleOutputs customs c.2 a ∨ cellOutputs customs s.cfg c kc))) ∧
    Inv (localK s c (fun kc => kc ∈ possibleOutputs customs c.2 a ∨ cellOutputs customs s.cfg c kc)) (· = c) s' :=
  do_action_new_keys_local customs fuel s a c delay isOneshot layerStack s' cu _ _ hp (Or.inr rfl)
    (fun _ hk => Or.inl hk)
    (inv_local_of_quiet s c _ _ (cfgOK_local customs s c _ hcells (fun _ hk => Or.inr hk)) hquiet hq) h

/-- instance: layer 1 held, key 30 is transparent there and falls through to `exAct` on layer 0 -/
example : ∃ s' cu, doAction 10 { cfg := exCfg } .trans (0, 30) 0 false [1, 0] = .ok (s', cu) ∧
    plain .trans = true ∧ CellsPlain exCfg (0, 30) ∧ Quiet { cfg := exCfg } ∧
    s'.states = [.normalKey 42 (0, 30) 0, .normalKey 30 (0, 30) 0] :=
  ⟨_, _, rfl, rfl,
   cellsPlain_of_allPlain (allPlain_of_all exCfg rfl) (srcPlain_of_all exCfg rfl) _, ⟨rfl, rfl, rfl, rfl⟩, rfl⟩

/-- a state in which another key's action (`a`) is the saved repeat action -/
def rptWitness : Layout := { cfg := exCfg, rptAction := some (.keyCode 30) }

/-- **do_action_repeat_counterexample**: `Action::Repeat` (rpt-any) executed at key 31 puts down key
code 30 on behalf of (0,31); `possibleOutputs` of `Repeat` is empty (the real table builder has no arm
for it either: a key holding rpt-any has no table row). So `plain` cannot be dropped. -/
theorem do_action_repeat_counterexample :
    (match doAction 10 rptWitness .repeat (0, 31) 0 false [] with
     | .ok (s', _) => s'.states
     | .error _ => []) = [.normalKey 30 (0, 31) 0] ∧
    rptWitness.states = [] ∧ possibleOutputs [] 31 .repeat = [] := by decide

/-- 16 one-shot keys active, the event queue full with a press of key 30 at its head -/
def overflowWitness : Layout :=
  { cfg := exCfg, oneshot := { keys := List.replicate 16 (0, 1) },
    queue := ⟨.press (0, 30), 0⟩ :: List.replicate 31 ⟨.release (0, 99), 0⟩ }

/-- **do_action_other_coordinate_counterexample**: `do_action` of a one-shot at (0,50) with the one-shot
ring full releases the oldest one-shot key through `event`; the full queue overflows and the queued
press of key 30 is performed inside this `do_action`: lsft and a are put down on behalf of (0,30).
So "no press queued" (or: the invariant for the other coordinates) cannot be dropped. -/
theorem do_action_other_coordinate_counterexample :
    (match doAction 20 overflowWitness (.oneShot (.keyCode 56) 100 .firstPress) (0, 50) 0 false [] with
     | .ok (s', _) => s'.states
     | .error _ => []) = [.normalKey 56 (0, 50) 0, .normalKey 42 (0, 30) 0, .normalKey 30 (0, 30) 0] ∧
    overflowWitness.states = [] ∧ possibleOutputs [] 50 (.oneShot (.keyCode 56) 100 .firstPress) = [56] := by
  decide +kernel

/-! ### 3. The deferred part -/

/-- **hold_tap_stores_only_subactions** (full): outside the quick-tap window the `HoldTap` arm puts no
key down and stores one waiting state, for THIS coordinate, holding exactly the three sub-actions of
the action (so what `waiting_into_hold` / `_tap` / `_timeout` later hand to `do_action` is a
sub-action of the configured action, executed at the same coordinate). -/
theorem hold_tap_stores_only_subactions (fuel : Nat) (s : Layout) (timeout : Nat) (hold tap ta : Action)
    (config : HTConfig) (thi : Nat) (c : Coord) (delay : Nat) (isOneshot : Bool) (ls : List Nat)
    (s' : Layout) (cu : CustomEv)
    (hwin : (thi == 0 || c != s.lptCoord || s.lptTapHoldTimeout == 0) = true)
    (h : dispatch (fuel + 1) s (.holdTap timeout hold tap ta config thi) c delay isOneshot ls = .ok (s', cu)) :
    s'.states = s.states ∧
    ∃ w, (s'.waiting = some w ∨ w ∈ s'.extraWaiting) ∧ w.coord = c ∧ w.hold = hold ∧ w.tap = tap ∧
      w.timeoutAction = ta ∧ w.config = .holdTap config ∧ w.layerStack = ls := by
  simp only [dispatch, hwin, if_true] at h
  split at h
  · cases h
  · cases h
    simp only [armHoldTapWait]
    rw [updateCoord_eq]
    split
    · exact ⟨rfl, _, .inr (mem_pushBackWrap_self (by decide) _ _), rfl, rfl, rfl, rfl, rfl, rfl⟩
    · exact ⟨rfl, _, .inl rfl, rfl, rfl, rfl, rfl, rfl, rfl⟩

example : ∃ s' cu, dispatch 5 { cfg := exCfg } (.holdTap 200 (.keyCode 29) (.keyCode 31) (.keyCode 29) .default 0)
      (0, 31) 0 false [0] = .ok (s', cu) ∧
    ((0 : Nat) == 0 || ((0, 31) : Coord) != ({ cfg := exCfg } : Layout).lptCoord ||
      ({ cfg := exCfg } : Layout).lptTapHoldTimeout == 0) = true ∧
    (s'.waiting.map (·.coord)) = some (0, 31) :=
  ⟨_, _, rfl, rfl, rfl⟩

/-- **tick_main_preserves_cover** (full; the tap-hold mechanism done completely, and with it tap-dance
and chords v1): the third part of `tick` - `tick_wt` of the waiting state (tap-hold decision; tap-dance
count, eviction and pick; chord fold, retain and decomposition into the action queue), then
`waiting_into_hold` / `waiting_into_tap` (with the repeat of a chord's action over the participants) /
`waiting_into_timeout` / drop, or one queued event dequeued - keeps the invariant.  In particular the
action a resolving tap-hold hands to `do_action` is one of the three stored sub-actions, at the stored
coordinate, so the key codes it puts down are allowed at that coordinate. -/
theorem tick_main_preserves_cover (K : KSet) (Q : Coord → Prop) (s s' : Layout) (cu : CustomEv)
    (hinv : Inv K Q s) (h : tickMain s = .ok (s', cu)) : Inv K Q s' :=
  tickMain_inv hinv h

/-- **tick_preserves_cover** (full): a whole `tick` - action queue entry; or ageing, sequences, one-shot
expiry (releases), the waiting state / one dequeued event, the extra waiting states, pending custom
events of sequences - keeps the invariant. No hypothesis beyond the invariant. -/
theorem tick_preserves_cover (K : KSet) (Q : Coord → Prop) (s s' : Layout) (cu : CustomEv)
    (hinv : Inv K Q s) (h : tick s = .ok (s', cu)) : Inv K Q s' :=
  tick_inv hinv h

/-- **event_preserves_cover** (full): `Layout::event` keeps the invariant; a press must be of a covered
coordinate (its `Trans` lookup happens when it is dequeued). -/
theorem event_preserves_cover (K : KSet) (Q : Coord → Prop) (s s' : Layout) (ev : Ev)
    (hinv : Inv K Q s) (hq : ∀ c, ev = .press c → Q c) (h : s.event ev = .ok s') : Inv K Q s' :=
  layoutEvent_inv hinv hq h

/-- **history_preserves_cover** (full): along every history of ticks and events (presses of covered
coordinates) from the initial layout of a covered configuration, every `normalKey` state carries a key
code allowed at its coordinate. Unbounded in length; crashes end a history (`Steps` follows `.ok`). -/
theorem history_preserves_cover (K : KSet) (Q : Coord → Prop) (cfg : LCfg) (hc : CfgOK K Q cfg) (s : Layout)
    (h : Steps Q { cfg := cfg } s) : ∀ kc c fl, St.normalKey kc c fl ∈ s.states → K c kc :=
  (steps_inv (inv_init cfg hc) h).states

/-- instance for the tick-level theorems: the cover "row of the key-output table" on the example
configuration holds initially; press key 31 (tap-hold), release it, tick: the layout is waiting; press
key 30 and tick: lsft and a are down -/
example : Inv (rowK [] exCfg) (fun _ => True) { cfg := exCfg } ∧
    (match ({ cfg := exCfg } : Layout).event (.press (0, 31)) with
     | .ok s1 => (match s1.event (.release (0, 31)) with
       | .ok s2 => (match tick s2 with
         | .ok (s3, _) => s3.waiting.isSome
         | .error _ => false)
       | .error _ => false)
     | .error _ => false) = true ∧
    (match ({ cfg := exCfg } : Layout).event (.press (0, 30)) with
     | .ok s1 => (match tick s1 with
       | .ok (s2, _) => s2.keycodes
       | .error _ => [])
     | .error _ => []) = [42, 30] := by
  exact ⟨inv_init _ (cfgOK_rowK (C14.keyouts_complete []) (allPlain_of_all exCfg rfl) (srcPlain_of_all exCfg rfl)),
    by decide +kernel, by decide +kernel⟩

/-- instance with chords v1: keys 30 and 31 form a chord that types `b`; the cover allows `b` at both
participants; pressing both and ticking puts `b` down at (0,30) and - the repeat of the chord's action
over the pressed queue - at (0,31): a chord acts for coordinates other than the one that resolved it -/
def chAct : Action := .chords [((0, 30), 1), ((0, 31), 2)] [(3, .keyCode 48)] 50
def chCfg : LCfg := { layers := [[((0, 30), chAct), ((0, 31), chAct)]], srcKeys := [] }
def ticks : Nat → Layout → Layout
  | 0, s => s
  | n + 1, s => match tick s with
    | .ok (s', _) => ticks n s'
    | .error _ => s

example : CfgOK (fun c kc => (c = (0, 30) ∨ c = (0, 31)) ∧ kc = 48) (fun _ => True) chCfg ∧
    (match ({ cfg := chCfg } : Layout).event (.press (0, 30)) with
     | .ok s1 => (match s1.event (.press (0, 31)) with
       | .ok s2 => (ticks 3 s2).states
       | .error _ => [])
     | .error _ => []) = [.normalKey 48 (0, 30) 0, .normalKey 48 (0, 30) 0, .normalKey 48 (0, 31) 0] := by
  refine ⟨cfgOK_of_cells _ _ _ ?_ ?_, by decide +kernel⟩
  · intro tbl ht e he _
    simp only [chCfg, List.mem_singleton] at ht
    subst ht
    simp only [List.mem_cons, List.not_mem_nil, or_false] at he
    rcases he with rfl | rfl <;> simp [chAct, ActOK, ActOKC]
  · intro e he
    simp [chCfg] at he

/-! ### 4. At the level of the key-output table -/

/-- **press_keys_in_table_row_partial** (partial: plain fragment - no rpt-any, chords v1, eager
tap-dance -, nothing stored, no press queued; overrides and chords v2 are outside the layout model): the configuration maps physical key `k` to
action `a` on layer `l` (plain, no transparent / use-defsrc leaf); `do_action` of `a` at `(0, k)` in a
state with nothing stored and no press queued: every key code newly held is held on behalf of `(0, k)`
and is in the key-output table row the parser model builds for `k` on that layer
(`keyOutputs customs k a`, by `keyouts_complete`). -/
theorem press_keys_in_table_row_partial (customs : List (List CAct)) (fuel : Nat) (s : Layout) (l k : Nat) (a : Action)
    (delay : Nat) (isOneshot : Bool) (layerStack : List Nat) (s' : Layout) (cu : CustomEv)
    (hcfg : s.cfg.layerAction l (0, k) = .ok a)
    (hp : plain a = true) (hr : refFree a = true)
    (hquiet : Quiet s) (hq : ∀ q ∈ s.queue, q.ev.isPress = false)
    (h : doAction fuel s a (0, k) delay isOneshot layerStack = .ok (s', cu)) :
    ∀ kc c' fl, St.normalKey kc c' fl ∈ s'.states →
      (∃ fl', St.normalKey kc c' fl' ∈ s.states) ∨
      (c' = (0, k) ∧ ∃ a', s.cfg.layerAction l (0, k) = .ok a' ∧ kc ∈ keyOutputs customs k a') := by
  intro kc c' fl hm
  rcases (do_action_keys_in_possible_outputs_partial customs fuel s a (0, k) delay isOneshot layerStack s' cu hp hr
    hquiet hq h).1 kc c' fl hm with h1 | ⟨h1, h2⟩
  · exact Or.inl h1
  · exact Or.inr ⟨h1, a, hcfg, C14.keyouts_complete customs k a kc h2⟩

example : exCfg.layerAction 0 (0, 30) = .ok exAct ∧ keyOutputs [] 30 exAct = [42, 30, 48] := ⟨rfl, rfl⟩

/-- **press_keys_in_table_rows_partial** (partial in the same sense): the press of physical key `k` as the layout
performs it (`dequeue` of the press: `Trans` resolved down the layer stack).  With the cells of `(0, k)`
on the plain fragment and the defsrc row holding plain keys named after their position: every key code
newly held is held on behalf of `(0, k)` and is `k` itself (the defsrc key - the last fallback of
`handle_repeat`) or in the table row of `k` on some layer. -/
theorem press_keys_in_table_rows_partial (customs : List (List CAct)) (fuel : Nat) (s : Layout) (k since : Nat)
    (s' : Layout) (cu : CustomEv)
    (hcells : CellsPlain s.cfg (0, k)) (hsrc : SrcPlain s.cfg)
    (hquiet : Quiet s) (hq : ∀ q ∈ s.queue, ∀ c', q.ev = .press c' → c' = (0, k))
    (h : dequeue fuel s ⟨.press (0, k), since⟩ = .ok (s', cu)) :
    ∀ kc c' fl, St.normalKey kc c' fl ∈ s'.states →
      (∃ fl', St.normalKey kc c' fl' ∈ s.states) ∨
      (c' = (0, k) ∧ (kc = k ∨ ∃ l a, s.cfg.layerAction l (0, k) = .ok a ∧ kc ∈ keyOutputs customs k a)) := by
  have hP : ∀ kc, cellOutputs customs s.cfg (0, k) kc →
      (kc = k ∨ ∃ l a, s.cfg.layerAction l (0, k) = .ok a ∧ kc ∈ keyOutputs customs k a) := by
    intro kc hk
    rcases hk with ⟨l, a, hla, hk⟩ | hk
    · exact Or.inr ⟨l, a, hla, C14.keyouts_complete customs k a kc hk⟩
    · rcases hsrc k with hs | hs
      · have hs' : s.cfg.srcKey ((0, k) : Coord).2 = .keyCode k := hs
        rw [hs'] at hk
        simp only [possibleOutputs, List.mem_singleton] at hk
        exact Or.inl hk
      · have hs' : s.cfg.srcKey ((0, k) : Coord).2 = .noOp := hs
        rw [hs'] at hk
        simp [possibleOutputs] at hk
  have hinv := inv_local_of_quiet s (0, k) _ _ (cfgOK_local customs s (0, k) _ hcells hP) hquiet hq
  have hi := dequeue_inv hinv (fun c hc => by injection hc with hc; exact hc.symm) h
  intro kc c' fl hm
  rcases hi.states kc c' fl hm with h1 | h1
  · exact Or.inr h1
  · exact Or.inl h1

example : ∃ s' cu, dequeue 10 { cfg := exCfg } ⟨.press (0, 30), 0⟩ = .ok (s', cu) ∧
    CellsPlain exCfg (0, 30) ∧ SrcPlain exCfg ∧ Quiet { cfg := exCfg } ∧
    s'.states = [.normalKey 42 (0, 30) 0, .normalKey 30 (0, 30) 0] :=
  ⟨_, _, rfl, cellsPlain_of_allPlain (allPlain_of_all exCfg rfl) (srcPlain_of_all exCfg rfl) _,
   srcPlain_of_all exCfg rfl, ⟨rfl, rfl, rfl, rfl⟩, rfl⟩

/-- **reachable_keys_in_table_rows_partial** (partial: configurations on the plain fragment; what is
missing for all configurations: chords v1 need the configuration-level fact "every participant
carries the group" (then `history_preserves_cover` applies with the same cover), the eager tap-dance a
finer invariant on which key it belongs to, rpt-any has no table arm at all): on a configuration whose cells are all
on the plain fragment and whose defsrc row is plain, along EVERY history of ticks and events from the
initial layout - pending tap-holds, tap-dances, one-shots, `switch` actions run from the action queue,
layer changes between press and resolution included - every key code held on behalf of a real key
`(0, k)` is `k` itself or in the key-output table row of `k` on some layer.  This is the fact the
repeat logic relies on when it looks for an active output of the repeated key in those rows. -/
theorem reachable_keys_in_table_rows_partial (customs : List (List CAct)) (cfg : LCfg)
    (hplain : AllPlain cfg) (hsrc : SrcPlain cfg) (s : Layout)
    (h : Steps (fun _ => True) { cfg := cfg } s) :
    ∀ kc k fl, St.normalKey kc (0, k) fl ∈ s.states →
      kc = k ∨ ∃ l a, cfg.layerAction l (0, k) = .ok a ∧ kc ∈ keyOutputs customs k a := by
  intro kc k fl hm
  exact history_preserves_cover (rowK customs cfg) (fun _ => True) cfg
    (cfgOK_rowK (C14.keyouts_complete customs) hplain hsrc) s h kc (0, k) fl hm rfl

example : AllPlain exCfg ∧ SrcPlain exCfg ∧
    (∀ s1 s2 c2, ({ cfg := exCfg } : Layout).event (.press (0, 30)) = .ok s1 → tick s1 = .ok (s2, c2) →
      Steps (fun _ => True) { cfg := exCfg } s2) ∧
    (match ({ cfg := exCfg } : Layout).event (.press (0, 30)) with
     | .ok s1 => (match tick s1 with
       | .ok (s2, _) => s2.states
       | .error _ => [])
     | .error _ => []) = [.normalKey 42 (0, 30) 0, .normalKey 30 (0, 30) 0] :=
  ⟨allPlain_of_all exCfg rfl, srcPlain_of_all exCfg rfl,
   fun _ _ _ h1 h2 => .tick (.event (.refl _) (fun _ _ => trivial) h1) h2, by decide +kernel⟩

end KVerif.C14L
