/-
C06 on the mixed fragment: one-shot keys next to TAP-HOLD keys (home-row mods next to a one-shot
shift).  Property theorems only; helper lemmas are in Lemmas/OneShotMix*.lean and
Lemmas/OneShotAccounted.lean.

Fragment (`CfgM`): everything of the C06 fragment — plain keys, output chords, layer-while-held,
transparent / unmapped positions, one-shot of the first three in all four end variants — plus tap-hold
keys of all five variants (default, press, release, release-keys, except-keys; any hold timeout and
tap-hold interval) whose tap, hold and timeout actions are a key, an output chord or layer-while-held.
`MInv s down` is the invariant of that fragment (`mix_init_inv`: a fresh layout has it,
`mix_no_state_stranded`: every run keeps it), so a hypothesis `MInv s down` reads "for every state the
layout can reach".  No statement bounds a timeout, a delay, a queue content or a history length.

What the model (= the code) does, in one paragraph: `tick_osh` runs on EVERY tick, before the
waiting state is looked at, so the one-shot countdown goes on while a tap-hold key is undecided; the
press of the tap-hold key only creates the waiting state; `handle_press(Other coord)` is called by the
arm of the RESOLVED action (`do_action` from `waiting_into_hold/tap/timeout`).  Hence the one-shot
applies to the resolved action iff the tap-hold is resolved strictly before the one-shot's countdown
runs out, counted from the one-shot's activation — not iff the tap-hold key was *pressed* in time
(`next_key_pressed_in_time_counterexample`).
-/
import KVerif.Lemmas.OneShotMixTick
import KVerif.Props.C06
namespace KVerif.C06
open KVerif.L

/-! ## (3) never lingers on the mixed fragment -/

/-- a freshly created layout satisfies the invariant -/
theorem mix_init_inv (cfg : LCfg) (hc : CfgM cfg) (tv2 dfl qth : Bool) (osd : Nat) :
    MInv { cfg := cfg, transV2 := tv2, delegateToFirstLayer := dfl, quickTapHoldTimeout := qth,
           oneshot := { pauseInputProcessingDelay := osd } } [] :=
  ⟨rfl, rfl, rfl, rfl, (fun _ h => by cases h), rfl, hc, Nat.zero_le _, fun _ => ⟨rfl, rfl⟩, trivial,
   (fun _ h => by cases h), (fun _ h => by cases h)⟩

/-- **mix_no_state_stranded** (full, on the mixed fragment).  For every configuration of the fragment
and every history of presses, releases and ticks — any order and timing, any number of one-shot keys
stacked, tap-hold keys pressed while one-shot keys are active and the other way round — in which an
event never arrives while 32 are pending: after every step `extra_waiting` is empty (nothing is taken
from the queue while a tap-hold key is undecided), the undecided tap-hold key, if any, is physically
down or its release is queued, and every key or layer state belongs to a coordinate that is
physically down, or whose release is deferred in `released_keys` while a one-shot key is active, or
whose release is still in the input queue. -/
theorem mix_no_state_stranded : ∀ (ins : List In) (s : Layout) (down : List Coord), MInv s down →
    ∀ s' down', run s down ins = some (.ok (s', down')) → MInv s' down' :=
  Quiesce.run_preserves
    (fun _ _ e _ h hq he => by
      obtain ⟨_, e1, i1, _⟩ := h.input e hq
      cases e1.symm.trans he
      exact i1)
    (fun _ _ s' cu h ht => (h.step s' cu ht).1)

/-- **mix_nothing_lingers**: once every key is physically up, the input queue has drained and no
one-shot key is active, the layout holds no state at all — no key code, no layer — and nothing is
waiting: a tap-hold key cannot be pending with its key up and no release queued. -/
theorem mix_nothing_lingers {s : Layout} (h : MInv s []) (hq : s.queue = []) (hk : s.oneshot.keys = []) :
    s.states = [] ∧ s.keycodes = [] ∧ s.currentLayer = s.defaultLayer ∧ s.waiting = none ∧
    s.extraWaiting = [] := by
  have hs : s.states = [] := (hq ▸ h.accounted).nil hk
  refine ⟨hs, by simp [Layout.keycodes, hs], by simp [Layout.currentLayer, hs], ?_, h.extra⟩
  cases hw : s.waiting with
  | none => rfl
  | some w => exact absurd (hq ▸ (h.wok w hw).2) Held.nil

/-! ## (1) the one-shot survives a pending tap-hold key and applies to the resolved action -/

/-- **taphold_press_does_not_end_oneshot** (full).  Nothing pending, and the oldest event is the
press of a tap-hold key (any variant, not a quick re-tap inside its tap-hold interval): taking it from
the queue creates the waiting state — countdown `T` (`T − n` with `quick-tap-hold-timeout`), the three
actions, the key's coordinate — and does nothing else: no state is added, and the `OneShotState` is
untouched (no `handle_press(Other)`), whatever one-shot keys are active and whatever their variant. -/
theorem taphold_press_does_not_end_oneshot {s : Layout} {down : List Coord} (h : MInv s down)
    (hw : s.waiting = none) (c : Coord) (n : Nat) (order : List Nat) (ho : s.transOrder = .ok order)
    (T : Nat) (hold tap to : Action) (cfg : HTConfig) (iv : Nat) (ls : List Nat)
    (hr : s.resolveCoord c order = .ok (.holdTap T hold tap to cfg iv, ls))
    (hnq : iv = 0 ∨ c ≠ s.lptCoord ∨ s.lptTapHoldTimeout = 0) (hls : ls.length ≤ MAX_ACTIVE_LAYERS) :
    ∃ s1, dequeue FUEL s ⟨.press c, n⟩ = .ok (s1, .noEvent) ∧
      s1.waiting = some { coord := c, timeout := if s.quickTapHoldTimeout then T - n else T,
                          delay := if s.quickTapHoldTimeout then 0 else n, ticks := 0, hold := hold, tap := tap,
                          timeoutAction := to, config := .holdTap cfg, layerStack := ls, prevQueueLen := 255 } ∧
      s1.oneshot = s.oneshot ∧ s1.queue = s.queue ∧
      s1.states = s.states.filter (fun st => !st.clearOnNextAction) := by
  have hfa : FragM (.holdTap T hold tap to cfg iv) :=
    Quiesce.resolve_pred FragM trivial trivial s c h.cfg.1 h.cfg.2 _ _ _ hr
  obtain ⟨p1, p2, p3, p4⟩ := prelude_spec s c
  have hwp : (prelude s c).waiting = none := p1.waiting.trans hw
  have hqk : (prelude s c).quickTapHoldTimeout = s.quickTapHoldTimeout := by unfold prelude; split <;> rfl
  obtain ⟨w, e1, _, _, _, _, _, _, _, e9, e10, e11, _, _⟩ :=
    Quiesce.armHoldTapWait_spec (prelude s c) c n T hold tap to cfg iv ls hwp
  refine ⟨armHoldTapWait (prelude s c) c n T hold tap to cfg iv ls, ?_, ?_, e11.trans p2, e9.trans p3, e10.trans p4⟩
  · rw [FUEL_5]
    simp only [dequeue, h.tde, bind, Except.bind, ho, doAction, hr]
    rw [Quiesce.dispatch_holdTap 3995 (prelude s c) T hold tap to cfg iv c n ls hfa.2.1,
      if_pos (prelude_quick s c iv hnq), if_neg (Nat.not_lt.mpr hls)]
  · rw [armHoldTapWait_exact _ _ _ _ _ _ _ _ _ _ hwp, hqk]

/-- the tap-hold key stays pending through the whole history: after every prefix something is waiting -/
def StaysPending (s : Layout) (down : List Coord) (ins : List In) : Prop :=
  ∀ pre post, ins = pre ++ post → ∀ sp dp, run s down pre = some (.ok (sp, dp)) → sp.waiting ≠ none

/-- **oneshot_counts_down_while_taphold_pending** (full).  One-shot keys active (any variant), no
release requested, a tap-hold key pending.  Whatever arrives meanwhile (events are only queued), as
long as the tap-hold key stays undecided and fewer than `countdown` ticks pass: no state changes — the
one-shot key or layer stays in effect —, the active / deferred / remembered one-shot keys are
untouched, no input pause is started, and the two countdowns (one-shot, tap-hold) go down together,
one per tick.  For every countdown value and every history. -/
theorem oneshot_counts_down_while_taphold_pending : ∀ (ins : List In) (s : Layout) (down : List Coord)
    (w : Waiting), MInv s down → s.waiting = some w → s.oneshot.keys ≠ [] →
    s.oneshot.releaseOnNextTick = false → ticksOf ins + 1 ≤ s.oneshot.timeout → StaysPending s down ins →
    ∀ s' down', run s down ins = some (.ok (s', down')) →
      MInv s' down' ∧ s'.states = s.states ∧ SameKeys s.oneshot s'.oneshot ∧
      s'.oneshot.timeout = s.oneshot.timeout - ticksOf ins ∧
      s'.oneshot.pauseInputProcessingTicks = s.oneshot.pauseInputProcessingTicks ∧
      s'.queue.map (·.ev) = s.queue.map (·.ev) ++ eventsOf ins ∧
      ∃ w', s'.waiting = some w' ∧ w'.coord = w.coord ∧ w'.hold = w.hold ∧ w'.tap = w.tap ∧
        w'.timeoutAction = w.timeoutAction ∧ w'.config = w.config ∧ w'.timeout = w.timeout - ticksOf ins := by
  intro ins s down w h hw hk hr hn hU s' down' hrun
  have key := run_counting
    (P := fun k evs x d => MInv x d ∧ Counting s k evs x ∧
      x.oneshot.pauseInputProcessingTicks = s.oneshot.pauseInputProcessingTicks ∧
      ∃ w', x.waiting = some w' ∧ w'.coord = w.coord ∧ w'.hold = w.hold ∧ w'.tap = w.tap ∧
        w'.timeoutAction = w.timeoutAction ∧ w'.config = w.config ∧ w'.timeout = w.timeout - k)
    (G := fun x => x.waiting ≠ none) (s.oneshot.timeout - 1) ?_ ?_ ins 0 [] s down
    ⟨h, .refl s, rfl, w, hw, rfl, rfl, rfl, rfl, rfl, rfl⟩ (Nat.le_sub_one_of_lt hn) hU s' down' hrun
  · obtain ⟨i, c, p, wt⟩ := key
    exact ⟨i, c.states, c.keys, c.timeout, p, c.queue, wt⟩
  · -- an event is only queued
    intro k evs x d e x' ⟨i, c, p, w', hw', wt⟩ hq he
    obtain ⟨_, e1, i1, q1, st1, o1, w1⟩ := i.input e hq
    cases e1.symm.trans he
    exact ⟨i1, c.input q1 st1 o1, o1 ▸ p, w', w1.trans hw', wt⟩
  · -- a tick counts the one-shot and the key down; the key is still pending afterwards, so undecided
    intro k evs x d x' cu ⟨i, c, p, w', hw', r8, r9, r10, r11, r12, r13⟩ hk' ht hG
    obtain ⟨x1, st, st1, o1⟩ := staged_waits i (c.keys.keys ▸ hk) (c.keys.request ▸ hr) (c.two_le hk')
    obtain ⟨et, i2⟩ := st.pending hw'
    cases et.symm.trans ht
    cases hd : (C05.htStep w' x1.queue).2 with
    | some a => exact absurd (st.resolves hw' (st.queue ▸ hd)).2.2.1 hG
    | none =>
      have hc := C05.htStep_counted w' x1.queue
      rw [pendingResult_none hd] at i2 ⊢
      exact ⟨i2, c.tick st1 st.queue (o1 ▸ ⟨rfl, rfl, rfl, rfl, rfl, rfl⟩) (o1 ▸ rfl),
        (congrArg (·.pauseInputProcessingTicks) o1).trans p, _, rfl, hc.coord.trans r8, hc.hold.trans r9,
        hc.tap.trans r10, hc.timeoutAction.trans r11, hc.config.trans r12,
        by rw [hc.timeout, r13, Nat.sub_sub]⟩

/-- **oneshot_applies_to_resolved_taphold_action** (full): the resolution tick.  One-shot keys
active, no release requested, countdown `t ≥ 2` (so `tick_osh` does not fire on this tick), a tap-hold
key pending, and on this tick it decides `a` (tap, hold or timeout — C05 says which and when:
`release_decides`, `timeout_exactly_at_T`, the early triggers).  Then the tick performs that one
action: every earlier state stays (the one-shot key or layer is in effect for it; only output-chord
keys flagged clear-on-next-action go), states are added at the key's coordinate only, and the
`OneShotState` changes by exactly the `handle_press(Other coord)` of the resolved action's arm:
press variants — countdown `min(d, t − 1)`, input pause `d` (`d` = rapid-event delay);
release variants — the coordinate is remembered in `other_pressed_keys`, countdown `t − 1`, and the
input pause is the tap-hold's own (`d` after hold and tap, none after timeout). -/
theorem oneshot_applies_to_resolved_taphold_action {s : Layout} {down : List Coord} (h : MInv s down)
    (w : Waiting) (hw : s.waiting = some w) (hk : s.oneshot.keys ≠ []) (hr : s.oneshot.releaseOnNextTick = false)
    (h2 : 2 ≤ s.oneshot.timeout) (a : WAct) (hd : (C05.htStep w (age s.queue)).2 = some a) :
    ∃ s1, tick s = .ok (s1, .noEvent) ∧ MInv s1 down ∧ s1.waiting = none ∧ s1.queue = age s.queue ∧
      Adds w.coord s s1 ∧
      (isPressEnd s.oneshot.endConfig = true →
        s1.oneshot = { s.oneshot with
          timeout := min s.oneshot.pauseInputProcessingDelay (s.oneshot.timeout - 1),
          pauseInputProcessingTicks := s.oneshot.pauseInputProcessingDelay }) ∧
      (isPressEnd s.oneshot.endConfig = false →
        s1.oneshot = { s.oneshot with
          timeout := s.oneshot.timeout - 1,
          otherPressedKeys := (pushBackWrap ONE_SHOT_MAX_ACTIVE s.oneshot.otherPressedKeys w.coord).1,
          pauseInputProcessingTicks :=
            if a = .timeout then s.oneshot.pauseInputProcessingTicks else s.oneshot.pauseInputProcessingDelay } ∧
        w.coord ∈ s1.oneshot.otherPressedKeys) := by
  obtain ⟨s1, st, st1, o1⟩ := staged_waits h hk hr h2
  obtain ⟨et, i2, g1, g2, g3, g4⟩ := st.resolves hw hd
  rw [o1] at g4
  refine ⟨_, et, i2, g1, g2, (Adds.of_states (c := w.coord) st1).trans g3,
    fun he => g4.trans (resolvedOsh_pressEnd _ w.coord a hk h.ignore he), fun he => ?_⟩
  have e := g4.trans (resolvedOsh_releaseEnd _ w.coord a hk h.ignore he)
  exact ⟨e, e ▸ mem_pushBackWrap_new _ (by decide) _ _⟩

/-- **oneshot_survives_pending_taphold** (full): the timeline, for every one-shot countdown `t`, every
tap-hold timing and every rapid-event delay `d`.  Start: the state right after the tap-hold key's
press was taken (`taphold_press_does_not_end_oneshot`), one-shot countdown `t`.  If the tap-hold key
stays undecided during a history containing `j − 1` ticks and decides `a` on tick `j`, with `j < t`
(`ticksOf ins + 2 ≤ t`): up to then no state changed; tick `j` performs the resolved action with all
one-shot states still there, and sets — press variants — the countdown to `min(d, t − j)` and the input
pause to `d`, so that (`second_key_never_modified_mix`) the one-shot states are released
`max(min(d, t − j), 1)` ticks after tick `j`, before any later event is taken; release variants — the
coordinate joins `other_pressed_keys`, countdown `t − j`, and the one-shot ends on the tick after that
key's release is taken (`release_of_resolved_key_ends_oneshot`). -/
theorem oneshot_survives_pending_taphold (ins : List In) (s : Layout) (down : List Coord) (w : Waiting)
    (h : MInv s down) (hw : s.waiting = some w) (hk : s.oneshot.keys ≠ [])
    (hr : s.oneshot.releaseOnNextTick = false) (hn : ticksOf ins + 2 ≤ s.oneshot.timeout)
    (hU : StaysPending s down ins) (s' : Layout) (down' : List Coord)
    (hrun : run s down ins = some (.ok (s', down'))) (w' : Waiting) (hw' : s'.waiting = some w') (a : WAct)
    (hd : (C05.htStep w' (age s'.queue)).2 = some a) :
    s'.states = s.states ∧ w'.coord = w.coord ∧ w'.timeout = w.timeout - ticksOf ins ∧
    ∃ s1, tick s' = .ok (s1, .noEvent) ∧ MInv s1 down' ∧ s1.waiting = none ∧ Adds w.coord s s1 ∧
      s1.oneshot.keys = s.oneshot.keys ∧ s1.oneshot.releasedKeys = s.oneshot.releasedKeys ∧
      s1.oneshot.releaseOnNextTick = false ∧
      (isPressEnd s.oneshot.endConfig = true →
        s1.oneshot.timeout = min s.oneshot.pauseInputProcessingDelay (s.oneshot.timeout - (ticksOf ins + 1)) ∧
        s1.oneshot.pauseInputProcessingTicks = s.oneshot.pauseInputProcessingDelay) ∧
      (isPressEnd s.oneshot.endConfig = false →
        s1.oneshot.timeout = s.oneshot.timeout - (ticksOf ins + 1) ∧
        s1.oneshot.otherPressedKeys = (pushBackWrap ONE_SHOT_MAX_ACTIVE s.oneshot.otherPressedKeys w.coord).1 ∧
        w.coord ∈ s1.oneshot.otherPressedKeys) := by
  obtain ⟨r1, r2, r3, r4, _, _, w'', r7, r8, _, _, _, _, r13⟩ :=
    oneshot_counts_down_while_taphold_pending ins s down w h hw hk hr (Nat.le_of_succ_le hn) hU s' down' hrun
  cases r7.symm.trans hw'
  have hk' : s'.oneshot.keys ≠ [] := r3.keys ▸ hk
  obtain ⟨x1, st, st1, o1⟩ := staged_waits r1 hk' (r3.request ▸ hr) (r4 ▸ Nat.le_sub_of_add_le' hn)
  obtain ⟨et, i2, g1, _, g3, g4⟩ := st.resolves hw' hd
  rw [r8] at g3
  rw [o1, r8] at g4
  -- whatever the variant, the resolution leaves the active and the deferred keys and the request alone
  obtain ⟨k1, k2, k3, _⟩ := resolvedOsh_fields { s'.oneshot with timeout := s'.oneshot.timeout - 1 } w.coord a
  refine ⟨r2, r8, r13, _, et, i2, g1, (Adds.of_states (c := w.coord) (st1.trans r2)).trans g3,
    g4 ▸ k1.trans r3.keys, g4 ▸ k2.trans r3.released, g4 ▸ k3.trans (r3.request.trans hr), fun he => ?_, fun he => ?_⟩
  · rw [g4, resolvedOsh_pressEnd { s'.oneshot with timeout := s'.oneshot.timeout - 1 } w.coord a hk' r1.ignore
      (r3.endConfig ▸ he)]
    exact ⟨by show min s'.oneshot.pauseInputProcessingDelay (s'.oneshot.timeout - 1) = _; rw [r3.delay, r4, Nat.sub_sub],
      r3.delay⟩
  · rw [g4, resolvedOsh_releaseEnd { s'.oneshot with timeout := s'.oneshot.timeout - 1 } w.coord a hk' r1.ignore
      (r3.endConfig ▸ he)]
    exact ⟨by show s'.oneshot.timeout - 1 = _; rw [r4, Nat.sub_sub],
      by show (pushBackWrap ONE_SHOT_MAX_ACTIVE s'.oneshot.otherPressedKeys w.coord).1 = _; rw [r3.others],
      mem_pushBackWrap_new _ (by decide) _ _⟩

/-- **release_of_resolved_key_ends_oneshot** (full).  Release variants, nothing pending, one-shot
keys active: when the release of a key that is not an active one-shot key is taken from the queue, it
is applied normally and the release of the one-shot keys is requested iff that key is in
`other_pressed_keys` — where the resolved tap-hold key was put (`oneshot_survives_pending_taphold`).
The request is served at the start of the next tick (`staged_fires`), before anything else is taken. -/
theorem release_of_resolved_key_ends_oneshot {s : Layout} {down : List Coord} (h : MInv s down)
    (hk : s.oneshot.keys ≠ []) (he : isPressEnd s.oneshot.endConfig = false) (c : Coord) (n : Nat)
    (hc : s.oneshot.keys.contains c = false) :
    dequeue FUEL s ⟨.release c, n⟩ =
      .ok ({ s with
          oneshot := { s.oneshot with
            releaseOnNextTick := s.oneshot.releaseOnNextTick || s.oneshot.otherPressedKeys.contains c },
          states := s.states.filter (fun st => st.coord != some c) }, .noEvent) := by
  rw [dequeue_release_calm h.states c n, handleRelease_other _ c hk hc]
  simp only [afterRelease, if_true, he, Bool.not_false, Bool.true_and]

/-! ## (2) the one-shot expires while the tap-hold key is still pending -/

/-- **late_taphold_resolution_is_not_modified** (full).  No one-shot key active, a tap-hold key
pending that decides `a` on this tick: the action is performed on a layout that holds no deferred
one-shot state (`MInv`: nothing is deferred when no one-shot key is active); states are added at the
key's coordinate only, and the `OneShotState` is not touched beyond the tap-hold's own input pause. -/
theorem late_taphold_resolution_is_not_modified {s : Layout} {down : List Coord} (h : MInv s down)
    (w : Waiting) (hw : s.waiting = some w) (hk : s.oneshot.keys = []) (a : WAct)
    (hd : (C05.htStep w (age s.queue)).2 = some a) :
    ∃ s1, tick s = .ok (s1, .noEvent) ∧ MInv s1 down ∧ s1.waiting = none ∧ Adds w.coord s s1 ∧
      s1.oneshot = { s.oneshot with pauseInputProcessingTicks :=
        if a = .hold ∨ a = .tap then s.oneshot.pauseInputProcessingDelay else s.oneshot.pauseInputProcessingTicks } ∧
      s1.oneshot.keys = [] ∧ s1.oneshot.releasedKeys = [] := by
  obtain ⟨s1, st, st1, o1⟩ := staged_inactive h hk
  obtain ⟨et, i2, g1, _, g3, g4⟩ := st.resolves hw hd
  have e := (o1 ▸ g4).trans (resolvedOsh_inactive s.oneshot w.coord a (fun h0 => C05.htStep_ne_noOp w _ (h0 ▸ hd)) hk)
  exact ⟨_, et, i2, g1, (Adds.of_states (c := w.coord) st1).trans g3, e, e ▸ hk, e ▸ (h.idle hk).1⟩

/-- **oneshot_expires_while_taphold_pending** (full), for every countdown `t ≥ 1`.  One-shot keys
active, no release requested, a tap-hold key pending.  If the tap-hold key stays undecided during a
history containing `t − 1` ticks, then no state has changed up to there, and on the next tick — exactly
the `t`-th — the second stage of `tick` applies every deferred release and clears the one-shot state
(`sr`: no state of a tapped one-shot key is left, no one-shot key is active) while the tap-hold key is
still pending, untouched; only then does the third stage look at it, on `sr`.  So whatever the
tap-hold key decides on that tick or on any later one is performed without the one-shot key or layer
(`late_taphold_resolution_is_not_modified`, or `resolved … sr` on this very tick): the later-resolved
action is not modified. -/
theorem oneshot_expires_while_taphold_pending (ins : List In) (s : Layout) (down : List Coord) (w : Waiting)
    (h : MInv s down) (hw : s.waiting = some w) (hk : s.oneshot.keys ≠ [])
    (hr : s.oneshot.releaseOnNextTick = false) (hn : ticksOf ins + 1 = s.oneshot.timeout)
    (hU : StaysPending s down ins) (s' : Layout) (down' : List Coord)
    (hrun : run s down ins = some (.ok (s', down'))) :
    s'.states = s.states ∧
    ∃ w', s'.waiting = some w' ∧ w'.coord = w.coord ∧ w'.timeout = w.timeout - ticksOf ins ∧
    ∃ sr, tickOneshot (tickPre s') = .ok (sr, .noEvent) ∧ MInv sr down' ∧
      sr.oneshot.keys = [] ∧ sr.oneshot.releasedKeys = [] ∧
      sr.states = dropCoords s.oneshot.releasedKeys s.states ∧
      (∀ st ∈ sr.states, ∀ k ∈ s.oneshot.releasedKeys, st.coord ≠ some k) ∧
      sr.waiting = some w' ∧
      tick s' = .ok (pendingResult sr w', .noEvent) ∧
      (∀ a, (C05.htStep w' sr.queue).2 = some a →
        Adds w.coord sr (pendingResult sr w') ∧ (pendingResult sr w').oneshot.keys = [] ∧
        (pendingResult sr w').oneshot.releasedKeys = []) := by
  obtain ⟨r1, r2, r3, r4, _, _, w', r7, r8, _, _, _, _, r13⟩ :=
    oneshot_counts_down_while_taphold_pending ins s down w h hw hk hr (Nat.le_of_eq hn) hU s' down' hrun
  obtain ⟨sr, st, ho, hst⟩ := staged_fires r1 (r3.keys ▸ hk)
    (Or.inr (Nat.le_of_eq (by rw [r4, ← hn, Nat.add_sub_cancel_left])))
  have hw1 : sr.waiting = some w' := st.waiting.trans r7
  have hst' : sr.states = dropCoords s.oneshot.releasedKeys s.states := by rw [hst, r3.released, r2]
  refine ⟨r2, w', r7, r8, r13, sr, st.osh, st.inv, by rw [ho]; rfl, by rw [ho]; rfl, hst', ?_, hw1, (st.pending r7).1,
    fun a hd => ?_⟩
  · intro st hst'' k hk'
    rw [hst'] at hst''
    exact (mem_dropCoords.mp hst'').2 k hk'
  · obtain ⟨_, _, _, _, g3, g4⟩ := st.resolves r7 (st.queue ▸ hd)
    have e := g4.trans (resolvedOsh_inactive sr.oneshot w'.coord a (fun h0 => C05.htStep_ne_noOp w' _ (h0 ▸ hd))
      (by rw [ho]; rfl))
    exact ⟨r8 ▸ g3, by rw [e, ho]; rfl, by rw [e, ho]; rfl⟩

/-! ## (4) after the resolved action: exactly that action, nothing later -/

/-- **second_key_never_modified_mix** (full): press variants, end to end, for every delay `d` and
every remaining countdown `t ≥ 2`.  One-shot keys active, a tap-hold key pending that decides `a` on
this tick: the tick performs the resolved action with every one-shot state in place (`s1`); from
there, whatever arrives, after exactly `max (min d (t − 1)) 1 − 1` further ticks nothing has been
taken from the queue, nothing is pending and no state has changed; on the next tick the one-shot
states are released first (`sr` holds no state of a tapped one-shot key, no one-shot key is active)
and only then is the next event — the second following key — taken and processed, on `sr`.  So the
one-shot applies to exactly the resolved tap-hold action. -/
theorem second_key_never_modified_mix {s : Layout} {down : List Coord} (h : MInv s down)
    (w : Waiting) (hw : s.waiting = some w) (hk : s.oneshot.keys ≠ []) (hr : s.oneshot.releaseOnNextTick = false)
    (h2 : 2 ≤ s.oneshot.timeout) (he : isPressEnd s.oneshot.endConfig = true) (a : WAct)
    (hd : (C05.htStep w (age s.queue)).2 = some a) :
    ∃ s1, tick s = .ok (s1, .noEvent) ∧ MInv s1 down ∧ s1.waiting = none ∧ Adds w.coord s s1 ∧
      s1.queue = age s.queue ∧
      ∀ (ins : List In) (s' : Layout) (down' : List Coord),
        ticksOf ins + 1 = max (min s.oneshot.pauseInputProcessingDelay (s.oneshot.timeout - 1)) 1 →
        run s1 down ins = some (.ok (s', down')) →
        s'.states = s1.states ∧ s'.waiting = none ∧
        s'.queue.map (·.ev) = s.queue.map (·.ev) ++ eventsOf ins ∧
        ∃ sr, tickOneshot (tickPre s') = .ok (sr, .noEvent) ∧ sr.oneshot.keys = [] ∧
          sr.states = dropCoords s.oneshot.releasedKeys s1.states ∧
          (∀ st ∈ sr.states, ∀ k ∈ s.oneshot.releasedKeys, st.coord ≠ some k) ∧
          (∀ s'' cu, tick s' = .ok (s'', cu) ↔ tickMain sr = .ok (s'', cu)) ∧
          (tickMain sr = match age s'.queue with
            | [] => .ok (sr, .noEvent)
            | q :: rest' => dequeue FUEL (sr.setQueue rest') q) := by
  obtain ⟨s1, e1, i1, w1, q1, ad, hp, _⟩ := oneshot_applies_to_resolved_taphold_action h w hw hk hr h2 a hd
  have ho := hp he
  have ht1 : s1.oneshot.timeout = min s.oneshot.pauseInputProcessingDelay (s.oneshot.timeout - 1) := by rw [ho]
  refine ⟨s1, e1, i1, w1, ad, q1, ?_⟩
  intro ins s' down' hn hrun
  -- after `max m 1 − 1` ticks a countdown `m` is at its last step
  have hb : ticksOf ins ≤ s1.oneshot.timeout - 1 ∧ s1.oneshot.timeout - ticksOf ins ≤ 1 := by
    rw [← ht1] at hn
    rcases Nat.le_total s1.oneshot.timeout 1 with h1 | h1
    · rw [Nat.max_eq_right h1] at hn
      rw [Nat.succ.inj hn]
      exact ⟨Nat.zero_le _, h1⟩
    · rw [Nat.max_eq_left h1] at hn
      rw [← hn]
      exact ⟨Nat.le_refl _, Nat.le_of_eq (Nat.add_sub_cancel_left ..)⟩
  obtain ⟨r1, r2, c⟩ := m_no_pop_before_release ins i1 w1 (by rw [ho]; exact hk) (by rw [ho]; exact hr)
    (by rw [ho]; exact Nat.min_le_left _ _) hb.1 hrun
  obtain ⟨sr, st, ko, kst⟩ := staged_fires r1 (by rw [c.keys.keys, ho]; exact hk) (Or.inr (c.timeout ▸ hb.2))
  have hst : sr.states = dropCoords s.oneshot.releasedKeys s1.states := by
    rw [kst, c.keys.released, c.states, ho]
  refine ⟨c.states, r2, by rw [c.queue, q1, age_map_ev], sr, st.osh, by rw [ko]; rfl, hst, ?_,
    fun _ _ => by rw [st.main], ?_⟩
  · intro st hst' k hk'
    rw [hst] at hst'
    exact (mem_dropCoords.mp hst').2 k hk'
  · have hp0 : sr.oneshot.pauseInputProcessingTicks = 0 := by rw [ko]; rfl
    have hwn : sr.waiting = none := st.waiting.trans r2
    cases hqq : age s'.queue with
    | nil => exact tickMain_empty hwn st.inv.extra hp0 (st.queue.trans hqq)
    | cons q rest => exact tickMain_pops hwn st.inv.extra hp0 q rest (st.queue.trans hqq)

/-! ## the boundary: pressed in time is not enough -/

/-- one-shot shift (press variant, 10 ticks) next to a tap-hold key `s` / left control (hold timeout 200) -/
def cxCfg : LCfg :=
  { layers := [[((0, 30), .oneShot (.keyCode 42) 10 .firstPress),
                ((0, 31), .holdTap 200 (.keyCode 29) (.keyCode 31) (.keyCode 29) .default 0)]],
    srcKeys := [(30, .keyCode 30), (31, .keyCode 31)] }

def cxInit : Layout := { cfg := cxCfg, oneshot := { pauseInputProcessingDelay := 5 } }

/-- tap the one-shot key, press the tap-hold key on the third tick (8 ticks of the one-shot are left),
release it `gap + 1` ticks later -/
def cxHist (gap : Nat) : List In :=
  [.ev (.press (0, 30)), .tick, .ev (.release (0, 30)), .tick, .ev (.press (0, 31)), .tick] ++
  List.replicate gap .tick ++ [.ev (.release (0, 31)), .tick]

def keysAfterRun (s : Layout) (ins : List In) : Option (List KeyCode) :=
  match run s [] ins with
  | some (.ok (s', _)) => some s'.keycodes
  | _ => none

theorem cxCfg_frag : CfgM cxCfg := by
  refine ⟨?_, ?_⟩
  · intro tbl ht e he
    simp only [cxCfg, List.mem_cons, List.mem_nil_iff, or_false] at ht
    subst ht
    simp only [List.mem_cons, List.mem_nil_iff, or_false] at he
    rcases he with rfl | rfl <;> simp [FragM, Simple]
  · intro e he
    simp only [cxCfg, List.mem_cons, List.mem_nil_iff, or_false] at he
    rcases he with rfl | rfl <;> simp [FragM]

/-- **next_key_pressed_in_time_counterexample** (witness on the executable model, a configuration of
the mixed fragment, reachable from the fresh layout).  The naive reading of C06 — "the one-shot stays
active until the first following key is PRESSED or its timeout elapses, whichever comes first" — is
false when the first following key is a tap-hold key: it is pressed while 8 of the one-shot's 10 ticks
are left, but `handle_press(Other)` only happens when it RESOLVES, and `tick_osh` keeps counting
meanwhile.  Released after 3 ticks, the tap comes out shifted (`[42, 31]`); released after 21 ticks
(still a tap: hold timeout 200), the one-shot has expired in between and the very next key comes out
unshifted (`[31]`), although it was pressed in time. -/
theorem next_key_pressed_in_time_counterexample :
    keysAfterRun cxInit (cxHist 2) = some [42, 31] ∧ keysAfterRun cxInit (cxHist 20) = some [31] ∧
    keysAfterRun cxInit [.ev (.press (0, 30)), .tick, .ev (.release (0, 30)), .tick, .ev (.press (0, 31)), .tick]
      = some [42] := by
  decide +kernel

/-! ## Non-vacuity -/

example : MInv cxInit [] := mix_init_inv cxCfg cxCfg_frag true false false 5

/-- the state right after the tap-hold key's press was taken, one-shot shift tapped before: the
hypotheses of the pending / resolution / expiry theorems are met -/
def samplePending : Layout :=
  { cfg := cxCfg, states := [.normalKey 42 (0, 30) 0],
    waiting := some { coord := (0, 31), timeout := 200, delay := 0, ticks := 0, hold := .keyCode 29,
                      tap := .keyCode 31, timeoutAction := .keyCode 29, config := .holdTap .default,
                      layerStack := [], prevQueueLen := 255 },
    oneshot := { keys := [(0, 30)], releasedKeys := [(0, 30)], timeout := 8, endConfig := .firstPress,
                 pauseInputProcessingDelay := 5 } }

example : MInv samplePending [(0, 31)] ∧ samplePending.oneshot.keys ≠ [] ∧
    samplePending.oneshot.releaseOnNextTick = false ∧ 2 ≤ samplePending.oneshot.timeout ∧
    isPressEnd samplePending.oneshot.endConfig = true ∧ (∃ w, samplePending.waiting = some w) := by
  refine ⟨⟨rfl, rfl, rfl, rfl, ?_, rfl, cxCfg_frag, by decide, ?_, trivial, ?_, ?_⟩, by simp [samplePending], rfl,
    by decide, rfl, ⟨_, rfl⟩⟩
  · intro st hst
    simp only [samplePending, List.mem_cons, List.mem_nil_iff, or_false] at hst
    subst hst; exact Or.inl rfl
  · intro hk; simp [samplePending] at hk
  · intro st hst c hc
    simp only [samplePending, List.mem_cons, List.mem_nil_iff, or_false] at hst
    subst hst
    simp only [St.coord] at hc
    injection hc with hc
    subst hc
    exact Or.inr (Or.inl (by simp [samplePending]))
  · intro w hw
    simp only [samplePending] at hw
    injection hw with hw
    subst hw
    exact ⟨⟨⟨_, rfl⟩, trivial, trivial, trivial⟩, Or.inl (by simp)⟩

def sampleWaiting : Waiting :=
  { coord := (0, 31), timeout := 200, delay := 0, ticks := 0, hold := .keyCode 29, tap := .keyCode 31,
    timeoutAction := .keyCode 29, config := .holdTap .default, layerStack := [], prevQueueLen := 255 }

/-- with the key's release queued the pending key decides "tap" on the next tick (the hypothesis
`hd` of the resolution theorems), and with an empty queue it stays undecided (`StaysPending`) -/
example : samplePending.waiting = some sampleWaiting ∧
    (C05.htStep sampleWaiting (age [⟨.release (0, 31), 0⟩])).2 = some .tap ∧
    (C05.htStep sampleWaiting (age [])).2 = none :=
  ⟨rfl, by decide, by decide⟩

/-- the tap-hold key resolves on the base layer of `cxInit` -/
example : cxInit.transOrder = .ok [0] ∧
    cxInit.resolveCoord (0, 31) [0] = .ok (.holdTap 200 (.keyCode 29) (.keyCode 31) (.keyCode 29) .default 0, []) :=
  ⟨rfl, rfl⟩

end KVerif.C06
