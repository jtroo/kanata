/-
C18 — several simultaneous hold-for-duration / on-idle entries: what does NOT depend on the
iteration order of `vkeys_pending_release : HashMap<Coord, u16>` and `waiting_for_idle :
HashSet<FakeKeyOnIdle>` (rustc_hash Fx containers; `retain` visits them in an order that is a
function of the hashes), and the one thing that does.

Summary.
* Which entries expire / fire in a tick, which stay, and every countdown: order-independent
  (`tick_held_vkeys_perm` (a) (b), `tick_idle_timeout_perm`), over whole histories with an adversarial
  re-ordering of the container at any moment (`hold_for_duration_spec_multi`,
  `on_idle_fires_once_multi`): every entry behaves exactly as if it were alone.
* The events reach `Layout::event` in iteration order, so the layout's queue after the call holds the
  same events as a multiset but in iteration order (`tick_held_vkeys_perm` (c), `tick_idle_timeout_perm`).
  The layout consuming RELEASES of distinct coordinates back to back is order-independent
  (`release_dequeue_comm`, `tick_held_vkeys_perm_keystates_partial`).
* But the layout takes one queued event per tick and the kanata layer acts on each tick's custom event
  in between, so the order IS observable — in the model and in the real program
  (`tick_held_vkeys_order_counterexample`, `on_idle_same_tick_order_counterexample`: a key left held
  down for good in one order, tapped in the other; replayed on the real code, see the comments there).

`Pending`, `heldKept`, `heldReleased`, `releaseAll`, `look`, `heldRun`, … are defined in
`Lemmas/VkeyMulti.lean` next to the lemmas that tie them to `K.tickHeldVkeys`, `K.customPress`,
`K.tickIdleTimeout`.
-/
import KVerif.Lemmas.VkeyStuck
import KVerif.Props.C18
namespace KVerif.C18multi
open KVerif.L KVerif.K KVerif.VkeyMulti

/-! ## 1. one `tick_held_vkeys`, any iteration order -/

/-- **tick_held_vkeys_perm** (full for (a), (b); (c) in full for the state right after the call while
the layout's queue has room).  `p` are the pending entries in the order the model's list has them,
`p'` the same entries in any other order (what the hash map may present).  Hypotheses: `hperm` — same
entries; `hnd` — a coordinate is pending at most once (a hash map has one value per key; needed for
"released XOR kept" and for the lookups).
One call, in either order,
* is: hand the releases of the expiring entries to the layout in iteration order, keep the rest;
* (a) keeps the same entries with the same countdowns (a permutation; the same lookup table);
* (b) hands the same release events to the layout (a permutation of a duplicate-free list), none of
  them for an entry that is kept;
* (c) while the queue has room for them (`hroom`; otherwise `Layout::event` starts processing
  queued events — keyberon's overflow path — which is outside this statement), does not crash and
  yields the same state in every field except that the layout's queue ends with the release events in
  iteration order and the pending entries are listed in iteration order. -/
theorem tick_held_vkeys_perm (k : KState) (p p' : Pending) (hp : k.vkeysPendingRelease = p)
    (hperm : p'.Perm p) (hnd : (keys p).Nodup) :
    (tickHeldVkeys k =
      match releaseAll (heldReleased p) k.layout with
      | .error e => .error (.layout e)
      | .ok l => .ok { k with layout := l, vkeysPendingRelease := heldKept p }) ∧
    (tickHeldVkeys { k with vkeysPendingRelease := p' } =
      match releaseAll (heldReleased p') k.layout with
      | .error e => .error (.layout e)
      | .ok l => .ok { k with layout := l, vkeysPendingRelease := heldKept p' }) ∧
    -- (a)
    ((heldKept p').Perm (heldKept p) ∧ (keys (heldKept p)).Nodup ∧
      ∀ c, look (heldKept p') c = look (heldKept p) c) ∧
    -- (b)
    ((heldReleased p').Perm (heldReleased p) ∧ (heldReleased p).Nodup ∧
      ∀ c ∈ heldReleased p, c ∉ keys (heldKept p)) ∧
    -- (c)
    (k.layout.queue.length + (heldReleased p).length ≤ QUEUE_SIZE →
      tickHeldVkeys k =
        .ok { k with layout := { k.layout with queue := k.layout.queue ++ (heldReleased p).map relEv },
                     vkeysPendingRelease := heldKept p } ∧
      tickHeldVkeys { k with vkeysPendingRelease := p' } =
        .ok { k with layout := { k.layout with queue := k.layout.queue ++ (heldReleased p').map relEv },
                     vkeysPendingRelease := heldKept p' } ∧
      ((heldReleased p').map relEv).Perm ((heldReleased p).map relEv)) := by
  subst hp
  have e1 := tickHeldVkeys_eq k
  have e2 := tickHeldVkeys_eq { k with vkeysPendingRelease := p' }
  refine ⟨e1, e2, ⟨heldKept_perm hperm, nodup_heldKept hnd, ?_⟩,
    ⟨heldReleased_perm hperm, nodup_heldReleased hnd, fun c hc => released_not_kept hnd hc⟩, ?_⟩
  · intro c; exact look_perm (nodup_heldKept hnd) (heldKept_perm hperm) c
  · intro hroom
    have hlen : (heldReleased p').length = (heldReleased k.vkeysPendingRelease).length :=
      (heldReleased_perm hperm).length_eq
    refine ⟨?_, ?_, (heldReleased_perm hperm).map _⟩
    · rw [e1, releaseAll_room _ _ hroom]
    · rw [e2]
      simp only []
      rw [releaseAll_room _ _ (by omega)]

/-- non-vacuity: three entries with different countdowns, two expiring in the same tick, presented in
two orders; the hypotheses hold, the two results differ exactly in the order of the queue's tail -/
example :
    exP'.Perm exK.vkeysPendingRelease ∧ (keys exK.vkeysPendingRelease).Nodup ∧
    exK.layout.queue.length + (heldReleased exK.vkeysPendingRelease).length ≤ QUEUE_SIZE ∧
    heldReleased exK.vkeysPendingRelease = [(1, 0), (1, 2)] ∧ heldReleased exP' = [(1, 2), (1, 0)] ∧
    heldKept exK.vkeysPendingRelease = [((1, 1), 2)] ∧ heldKept exP' = [((1, 1), 2)] ∧
    (match tickHeldVkeys exK with
      | .ok k => some (k.layout.queue, k.vkeysPendingRelease) | .error _ => none)
      = some ([relEv (1, 0), relEv (1, 2)], [((1, 1), 2)]) ∧
    (match tickHeldVkeys { exK with vkeysPendingRelease := exP' } with
      | .ok k => some (k.layout.queue, k.vkeysPendingRelease) | .error _ => none)
      = some ([relEv (1, 2), relEv (1, 0)], [((1, 1), 2)]) := by
  refine ⟨by decide, by decide, by decide, by decide, by decide, by decide, by decide,
    by decide +kernel, by decide +kernel⟩

/-- **release_dequeue_comm** (full) — the commutation lemma for `Layout::dequeue` on two releases of
different coordinates, neither of them an active one-shot key (`h1`, `h2`: for a one-shot key
`handle_release` appends the coordinate to `released_keys`, an ordered list, and the release itself is
postponed): both orders end in the same layout, and each release reports the same custom event
whether it comes first or second.  The ages `t…` of the queued events are irrelevant. -/
theorem release_dequeue_comm (fuel : Nat) (s : Layout) (c1 c2 : Coord) (t1 t2 t1' t2' : Nat)
    (hne : c1 ≠ c2) (h1 : s.oneshot.keys.contains c1 = false) (h2 : s.oneshot.keys.contains c2 = false) :
    ∃ s1 s2 s12 cu1 cu2,
      dequeue (fuel + 1) s ⟨.release c1, t1⟩ = .ok (s1, cu1) ∧
      dequeue (fuel + 1) s1 ⟨.release c2, t2⟩ = .ok (s12, cu2) ∧
      dequeue (fuel + 1) s ⟨.release c2, t2'⟩ = .ok (s2, cu2) ∧
      dequeue (fuel + 1) s2 ⟨.release c1, t1'⟩ = .ok (s12, cu1) ∧
      s12.states = s.states.filter (fun st => relKeep c1 st && relKeep c2 st) := by
  have k1 : (releaseNow s c1).oneshot.keys.contains c2 = false := by rw [releaseNow_keys]; exact h2
  have k2 : (releaseNow s c2).oneshot.keys.contains c1 = false := by rw [releaseNow_keys]; exact h1
  refine ⟨releaseNow s c1, releaseNow s c2, releaseNow (releaseNow s c1) c2,
    releaseCustom s.states c1, releaseCustom s.states c2,
    dequeue_release_eq fuel s c1 t1 h1, ?_, dequeue_release_eq fuel s c2 t2' h2, ?_, ?_⟩
  · rw [dequeue_release_eq fuel _ c2 t2 k1, releaseCustom_releaseNow (Ne.symm hne)]
  · rw [dequeue_release_eq fuel _ c1 t1' k2, releaseNow_comm s c2 c1, releaseCustom_releaseNow hne]
  · simp only [releaseNow, List.filter_filter]
    apply List.filter_congr
    intro x _
    exact Bool.and_comm _ _

/-- non-vacuity: the two coordinates of `exK` that expire together -/
example : ((1, 0) : Coord) ≠ (1, 2) ∧ exK.layout.oneshot.keys.contains (1, 0) = false ∧
    exK.layout.oneshot.keys.contains (1, 2) = false := by decide

/-- **tick_held_vkeys_perm_keystates_partial** — part (c) "after the layout has consumed the events":
the release events of one `tick_held_vkeys` (`rel`, duplicate-free: `tick_held_vkeys_perm` (b)) taken
from the queue and processed by `Layout::dequeue` one after the other, in either order (`consume`),
leave the SAME layout — in particular the same key states: those of before without the states at the
released coordinates (and without the keys flagged clear-on-next-release) — and each release reports
the custom event it would report alone, so the custom events are the same multiset.
Hypothesis `hosh`: none of the coordinates is an active one-shot key (see `release_dequeue_comm`).

PARTIAL, and it cannot be made full.  The full statement would be: "let the two states that
`tick_held_vkeys_perm` (c) yields run through the same further input (`tick_states` …) — after the
queued releases have been consumed, the key states / the OS output agree".  That is FALSE:
`Layout::tick` takes ONE queued event per tick, and between two ticks the kanata layer performs the
custom actions of the tick's custom event (`on-release-fakekey`, mouse buttons, …) and sends the key
diff to the OS, so the consumption order is visible — see `tick_held_vkeys_order_counterexample`.
What is missing between this theorem and a conditional full one is a commutation of two whole
`tick_states` (not available in general, by the counterexample; it would need: no custom action on the
released virtual keys, no waiting tap-hold/chord state looking at the queue, nothing else queued). -/
theorem tick_held_vkeys_perm_keystates_partial (l : Layout) (rel rel' : List Coord) (age age' : Coord → Nat)
    (hperm : rel'.Perm rel) (hnd : rel.Nodup) (hosh : ∀ c ∈ rel, l.oneshot.keys.contains c = false) :
    ∃ l' log log',
      consume age rel l = .ok (l', log) ∧ consume age' rel' l = .ok (l', log') ∧
      l'.states = l.states.filter (fun st => rel.all fun c => relKeep c st) ∧
      log = rel.map (fun c => (c, releaseCustom l.states c)) ∧
      log' = rel'.map (fun c => (c, releaseCustom l.states c)) ∧ log'.Perm log := by
  have hnd' : rel'.Nodup := hperm.nodup_iff.mpr hnd
  have hosh' : ∀ c ∈ rel', l.oneshot.keys.contains c = false := fun c hc => hosh c (hperm.mem_iff.mp hc)
  refine ⟨rel.foldl releaseNow l, _, _, consume_eq age rel l hnd hosh, ?_,
    foldl_releaseNow_states rel l, rfl, rfl, hperm.map _⟩
  rw [consume_eq age' rel' l hnd' hosh', foldl_releaseNow_perm hperm]

/-- non-vacuity: the layout of `exK` consuming the releases of (1,0) and (1,2) in both orders: only
the key of (1,1) stays down -/
example :
    [(1, 2), (1, 0)].Perm [((1, 0) : Coord), (1, 2)] ∧ [((1, 0) : Coord), (1, 2)].Nodup ∧
    (∀ c ∈ [((1, 0) : Coord), (1, 2)], exK.layout.oneshot.keys.contains c = false) ∧
    (match consume (fun _ => 1) [(1, 0), (1, 2)] exK.layout with
      | .ok (l, _) => some l.keycodes | .error _ => none) = some [17] ∧
    (match consume (fun _ => 1) [(1, 2), (1, 0)] exK.layout with
      | .ok (l, _) => some l.keycodes | .error _ => none) = some [17] := by
  refine ⟨by decide, by decide, by decide, by decide +kernel, by decide +kernel⟩

/-- **tick_held_vkeys_order_counterexample** — the iteration order IS observable, for good.
Configuration (real syntax):
```
(defvirtualkeys v2 x  v0 (on-release-fakekey v2 press)  v1 (on-release-fakekey v2 release))
(defsrc a)
(deflayer l0 (multi (hold-for-duration 3 v0) (hold-for-duration 3 v1)))
```
Input: press `a`, 1 tick, release `a`, 20 ticks.  Both virtual keys are activated in the same tick with
the same duration, so both expire in the same `tick_held_vkeys`; their releases are queued in
iteration order and consumed in consecutive ticks; v0's release presses `x`, v1's releases it.
Order v0, v1: `x` is tapped (↓x ↑x).  Order v1, v0: the release of `x` comes first and does nothing,
then `x` is pressed and STAYS DOWN (the layout holds key 45 at the end, no ↑x is ever sent).
Everything `tick_held_vkeys_perm` states holds for this pair of states.
Replayed on the real code (`kvharness eval C18`, case lines `KAN 0 <hex(cfg)> HIST 4 p 0 30 t 1 r 0 30
t 20`): with the configuration above the real program answers `@8 d45`, final states `[N45.1.0.0]` —
`x` stuck down; with the two on-release actions exchanged between v0 and v1 it answers `@7 d45 @8 u45`
— tapped; exchanging the two members of the `multi` changes nothing (the order comes from the hashes
of the coordinates, not from the insertion order).  The model's list has insertion order, so on the
first configuration the model (order v0, v1) and the real code (order v1, v0) disagree: several
entries expiring in one tick are outside the correspondence, and the theorems above are what holds
for every order. -/
theorem tick_held_vkeys_order_counterexample :
    -- after the key press both entries are pending with the same countdown
    obsHeld heldCxK1 = some ([], [], [((1, 1), 2), ((1, 2), 2)]) ∧
    -- iteration order v0 (1,1), v1 (1,2): x (45) is tapped
    obsHeld (andThen heldCxK1 (ticksN 12)) = some ([.down 45, .up 45], [], []) ∧
    -- iteration order v1 (1,2), v0 (1,1): x is pressed and never released
    obsHeld (andThen heldCxK1 fun k =>
      ticksN 12 { k with vkeysPendingRelease := [((1, 2), 2), ((1, 1), 2)] }) = some ([.down 45], [45], []) ∧
    -- … for as long as one cares to look (any number of ticks from 12 to 41)
    (∀ n, n < 30 → obsOut (andThen heldCxK1 fun k =>
      ticksN (12 + n) { k with vkeysPendingRelease := [((1, 2), 2), ((1, 1), 2)] })
      = some ([.down 45], [45])) :=
  ⟨by decide +kernel, by decide +kernel, by decide +kernel, fun n _ => held_stuck_forever n⟩

/-! ## 2. hold-for-duration over whole histories -/

/-- **hold_for_duration_spec_multi** (full).  Any number of entries may be pending (`p0`, one
countdown per coordinate: `hnd`); the history is any sequence of activations / re-activations of any
virtual keys (`HStep.act`), ticks (`HStep.tick`) and re-orderings of the container
(`HStep.reorder`, the hash map presenting its entries in another order from then on).  Take ANY
activation `act c D` in it, call what follows `post`, and assume `post` does not activate the same
coordinate again (`hno` — so that this activation is the most recent one of `c`; other coordinates
are activated and re-activated freely).  Then
* `c` is released in exactly one tick of `post`: the `max D 1`-th (`D` for `D ≥ 1`; a duration of 0
  saturates and behaves as 1), exactly once, and in no other;
* at the end `c` is still pending, with countdown `D − ticks`, iff fewer ticks than that went by.
Neither the other entries nor the re-orderings appear on the right-hand sides. -/
theorem hold_for_duration_spec_multi (p0 : Pending) (pre post : List HStep) (c : Coord) (D : Nat)
    (hnd : (keys p0).Nodup) (hno : noAct c post = true) :
    look (heldRun (pre ++ .act c D :: post) p0).1 c =
      (if ticks post < max D 1 then some (D - ticks post) else none) ∧
    ((heldRun (pre ++ .act c D :: post) p0).2.drop (ticks pre)).map (·.count c) =
      (List.range (ticks post)).map (fun i => if i + 1 = max D 1 then 1 else 0) := by
  rw [heldRun_append, heldRun_act]
  simp only []
  rw [← length_run pre p0, List.drop_left]
  have := run_view c post _ (nodup_activate (nodup_run pre hnd) c D) hno
  rw [look_activate, if_pos rfl] at this
  simp only [due_viewAfter] at this
  exact this

/-- **hold_for_duration_spec_multi_countdown** (full): the lift of `C18.hold_for_duration_spec` in its
own terms — inside any history with any other entries and any re-ordering, the ticks (counted from
the most recent activation of `c`, which counts as the first) in which `c` is released are exactly the
one that the single-entry `C18.countdown` names. -/
theorem hold_for_duration_spec_multi_countdown (p0 : Pending) (pre post : List HStep) (c : Coord) (D : Nat)
    (hD : 1 ≤ D) (hnd : (keys p0).Nodup) (hno : noAct c post = true) :
    ((heldRun (pre ++ .act c D :: post) p0).2.drop (ticks pre)).map (·.count c) =
      (List.range (ticks post)).map
        (fun i => if C18.countdown (ticks post) D = some (i + 1) then 1 else 0) := by
  rw [(hold_for_duration_spec_multi p0 pre post c D hnd hno).2, C18.hold_for_duration_spec D _ hD,
    Nat.max_eq_left hD]
  refine List.map_congr_left fun i hi =>
    ite_congr (propext ⟨fun h => ?_, fun h => ?_⟩) (fun _ => rfl) fun _ => rfl
  · -- tick `i + 1` is among the `ticks post` ticks
    rw [if_pos (h ▸ Nat.succ_le_of_lt (List.mem_range.mp hi)), h]
  · split at h
    · exact (Option.some.inj h).symm
    · cases h

/-- **hold_for_duration_spec_multi_model** (full): the same on the model's own functions — run the
history with the real `customPress … [fakeKeyHold c D]` for activations and the real `tickHeldVkeys`
for ticks (`kRun`; `cur` is the key list `customPress` threads through); if the run does not crash
(it can only crash inside `Layout::event`), the pending entry of `c` at the end is what the
specification says. -/
theorem hold_for_duration_spec_multi_model (cur : List KeyCode) (k k' : KState) (pre post : List HStep)
    (c : Coord) (D : Nat) (hnd : (keys k.vkeysPendingRelease).Nodup) (hno : noAct c post = true)
    (hrun : kRun cur (pre ++ .act c D :: post) k = .ok k') :
    look k'.vkeysPendingRelease c = (if ticks post < max D 1 then some (D - ticks post) else none) := by
  rw [kRun_pending _ hrun]
  exact (hold_for_duration_spec_multi k.vkeysPendingRelease pre post c D hnd hno).1

/-- non-vacuity: three virtual keys with durations 5, 3 and 2; (1,0) is activated, a tick later (1,1),
another tick later (1,0) is re-activated and (1,2) activated, the map is re-ordered, and ticks go by.
The hypotheses hold for the activation `act (1,1) 3`, and the concrete run is as the theorem says:
(1,1) is released in the third tick after its activation (in the same tick as (1,2), whose second
tick that is), (1,0) still has 2 to go after its re-activation. -/
example :
    let pre : List HStep := [.act (1, 0) 5, .tick]
    let post : List HStep := [.tick, .act (1, 0) 5, .act (1, 2) 2, .reorder [((1, 2), 2), ((1, 1), 2), ((1, 0), 5)],
      .tick, .tick, .tick]
    (keys ([] : Pending)).Nodup ∧ noAct (1, 1) post = true ∧
    heldRun (pre ++ .act (1, 1) 3 :: post) [] =
      ([((1, 0), 2)], [[], [], [], [(1, 2), (1, 1)], []]) := by
  refine ⟨by decide, by decide, by decide⟩

/-- non-vacuity of the model-level statement: the same history on the model's state (three virtual
keys, nothing pending at first) runs without a crash; the layout has received ONE press per virtual
key (the re-activation of (1,0) sent none) and the two releases of the tick in which (1,2) and (1,1)
expire together, in iteration order. -/
example :
    let pre : List HStep := [.act (1, 0) 5, .tick]
    let post : List HStep := [.tick, .act (1, 0) 5, .act (1, 2) 2, .reorder [((1, 2), 2), ((1, 1), 2), ((1, 0), 5)],
      .tick, .tick, .tick]
    (keys exK0.vkeysPendingRelease).Nodup ∧ noAct (1, 1) post = true ∧
    (match kRun [] (pre ++ .act (1, 1) 3 :: post) exK0 with
      | .ok k => some (k.vkeysPendingRelease, k.layout.queue.map Queued.ev) | .error _ => none) =
      some ([((1, 0), 2)],
        [.press (1, 0), .press (1, 1), .press (1, 2), .release (1, 2), .release (1, 1)]) := by
  refine ⟨by decide, by decide, by decide +kernel⟩

/-! ## 3. on-idle -/

/-- **tick_idle_timeout_perm** (full; the layout part while the queue has room).  `ws` are the
registrations in the model's list order, `ws'` the same in any other order.  Hypotheses: `hperm` — same
registrations; `hnd` — no duplicates (a hash set).  One `tick_idle_timeout`, in either order,
* is: perform the registrations whose duration the idle clock has reached, in iteration order, keep
  the others; the clock itself is not changed;
* fires the same registrations (a permutation, no duplicates) — exactly those with `idle ≤ clock`, so
  two registrations with the same duration fire in the same call — and keeps the same ones;
* while the queue has room for their events (`idleEvs`: press → a press, release → a release, tap →
  both, toggle → a release if a key state has the coordinate, else a press), appends these events to
  the layout's queue in iteration order and touches nothing else but the input history: the key
  states are unchanged, so every toggle decides on the key states of before the call, whatever the
  order.  The relative order of the events of registrations that fire in the same call is the only
  thing left open. -/
theorem tick_idle_timeout_perm (k : KState) (ws ws' : List OnIdle) (hws : k.waitingForIdle = ws)
    (hperm : ws'.Perm ws) (hnd : ws.Nodup) :
    (tickIdleTimeout k =
      match fireAll (idleFired k.ticksSinceIdle ws) k.layout with
      | .error e => .error (.layout e)
      | .ok l => .ok { k with layout := l, waitingForIdle := idleKept k.ticksSinceIdle ws }) ∧
    (tickIdleTimeout { k with waitingForIdle := ws' } =
      match fireAll (idleFired k.ticksSinceIdle ws') k.layout with
      | .error e => .error (.layout e)
      | .ok l => .ok { k with layout := l, waitingForIdle := idleKept k.ticksSinceIdle ws' }) ∧
    ((idleFired k.ticksSinceIdle ws').Perm (idleFired k.ticksSinceIdle ws) ∧
      (idleFired k.ticksSinceIdle ws).Nodup ∧
      ∀ w, w ∈ idleFired k.ticksSinceIdle ws ↔ w ∈ ws ∧ w.idle ≤ k.ticksSinceIdle) ∧
    ((idleKept k.ticksSinceIdle ws').Perm (idleKept k.ticksSinceIdle ws) ∧
      (idleKept k.ticksSinceIdle ws).Nodup ∧
      ∀ w, w ∈ idleKept k.ticksSinceIdle ws ↔ w ∈ ws ∧ k.ticksSinceIdle < w.idle) ∧
    (k.layout.queue.length + ((idleFired k.ticksSinceIdle ws).flatMap (idleEvs k.layout.states)).length
        ≤ QUEUE_SIZE →
      tickIdleTimeout k =
        .ok { k with layout := pushEvs k.layout ((idleFired k.ticksSinceIdle ws).flatMap (idleEvs k.layout.states)),
                     waitingForIdle := idleKept k.ticksSinceIdle ws } ∧
      tickIdleTimeout { k with waitingForIdle := ws' } =
        .ok { k with layout := pushEvs k.layout ((idleFired k.ticksSinceIdle ws').flatMap (idleEvs k.layout.states)),
                     waitingForIdle := idleKept k.ticksSinceIdle ws' } ∧
      ((idleFired k.ticksSinceIdle ws').flatMap (idleEvs k.layout.states)).Perm
        ((idleFired k.ticksSinceIdle ws).flatMap (idleEvs k.layout.states)) ∧
      ∀ es, (pushEvs k.layout es).states = k.layout.states ∧
        (pushEvs k.layout es).queue = k.layout.queue ++ es.map (fun e => ⟨e, 0⟩)) := by
  subst hws
  have e1 := tickIdleTimeout_eq k
  have e2 := tickIdleTimeout_eq { k with waitingForIdle := ws' }
  have hf := idleFired_perm k.ticksSinceIdle hperm
  refine ⟨e1, e2, ⟨hf, nodup_idleFired hnd, fun w => mem_idleFired⟩,
    ⟨idleKept_perm k.ticksSinceIdle hperm, nodup_idleKept hnd, fun w => mem_idleKept⟩, ?_⟩
  intro hroom
  have hfm := hf.flatMap_right (idleEvs k.layout.states)
  refine ⟨?_, ?_, hfm, fun es => ⟨pushEvs_states es _, pushEvs_queue es _⟩⟩
  · rw [e1, fireAll_room _ _ hroom]
  · rw [e2]
    simp only []
    rw [fireAll_room _ _ (by rw [hfm.length_eq]; exact hroom)]

/-- non-vacuity: three registrations, two with the same duration 20 (a press and a toggle of a key that
is down), one with 50; the idle clock stands at 20.  Both orders fire the two, keep the third, and
queue the same two events in iteration order. -/
example :
    exWs'.Perm exKI.waitingForIdle ∧ exKI.waitingForIdle.Nodup ∧
    exKI.layout.queue.length +
      ((idleFired exKI.ticksSinceIdle exKI.waitingForIdle).flatMap (idleEvs exKI.layout.states)).length ≤ QUEUE_SIZE ∧
    (match tickIdleTimeout exKI with
      | .ok k => some (k.layout.queue.map (·.ev), k.waitingForIdle) | .error _ => none)
      = some ([.press (1, 0), .release (1, 2)], [{ coord := (1, 1), action := .tap, idle := 50 }]) ∧
    (match tickIdleTimeout { exKI with waitingForIdle := exWs' } with
      | .ok k => some (k.layout.queue.map (·.ev), k.waitingForIdle) | .error _ => none)
      = some ([.release (1, 2), .press (1, 0)], [{ coord := (1, 1), action := .tap, idle := 50 }]) := by
  refine ⟨by decide, by decide, by decide, by decide +kernel, by decide +kernel⟩

/-- **on_idle_fires_once_multi** (full).  The state is the idle clock and the set of registrations
(`s0`, no duplicates: `hnd`); the history is any sequence of registrations of any on-idle actions
(`IStep.reg`, which restarts the clock), ticks, re-orderings of the set, and ARBITRARY settings of the
idle clock (`IStep.clock n`: input events reset it, the processing loop advances or resets it —
whatever it does).  Take ANY registration `reg w` in it, call what follows `post`, assume `post` does
not register the same `w` (coordinate, action, duration) again (`hno`; registering it again after it
fired is a new registration).  Then, with `logPost` = (clock value seen, registrations fired) of the
ticks of `post`:
* `w` fires in exactly one tick — the FIRST one that sees the idle clock at or above `w`'s own
  duration — exactly once, and in no other tick;
* `w` is still registered at the end iff no tick has seen that.
Neither the other registrations nor the re-orderings appear on the right-hand sides. -/
theorem on_idle_fires_once_multi (s0 : IState) (pre post : List IStep) (w : OnIdle)
    (hnd : s0.2.Nodup) (hno : noReg w post = true) :
    (w ∈ (idleRun (pre ++ .reg w :: post) s0).1.2 ↔
      ∀ e ∈ (idleRun (pre ++ .reg w :: post) s0).2.drop (iticks pre), e.1 < w.idle) ∧
    ((idleRun (pre ++ .reg w :: post) s0).2.drop (iticks pre)).map (fun e => e.2.count w) =
      firstHit w.idle (((idleRun (pre ++ .reg w :: post) s0).2.drop (iticks pre)).map (·.1)) := by
  rw [idleRun_append, idleRun_reg]
  simp only []
  rw [← length_irun pre s0, List.drop_left]
  have := irun_view w post (0, idleReg (idleRun pre s0).1.2 w) (nodup_idleReg (nodup_irun pre hnd) w) hno
  rwa [if_pos (mem_idleReg.mpr (Or.inr rfl)), and_iff_right (mem_idleReg.mpr (Or.inr rfl))] at this

/-- **on_idle_fires_once_multi_model** (full): the same on the model's own functions — run the history
with the real `customPress … [fakeKeyOnIdle …]` for registrations and the real `tickIdleTimeout` for
ticks (`kiRun`; a `clock n` step overwrites `ticksSinceIdle`, standing for `handleInputEvent` /
`canBlockUpdateIdleWaiting`); if the run does not crash (it can only crash inside `Layout::event`),
`w` is registered at the end iff no tick after its registration saw the idle clock at or above its
duration. -/
theorem on_idle_fires_once_multi_model (cur : List KeyCode) (k k' : KState) (pre post : List IStep)
    (w : OnIdle) (hnd : k.waitingForIdle.Nodup) (hno : noReg w post = true)
    (hrun : kiRun cur (pre ++ .reg w :: post) k = .ok k') :
    (w ∈ k'.waitingForIdle ↔
      ∀ e ∈ (idleRun (pre ++ .reg w :: post) (k.ticksSinceIdle, k.waitingForIdle)).2.drop (iticks pre),
        e.1 < w.idle) := by
  have h := kiRun_state _ hrun
  have h2 : k'.waitingForIdle = (idleRun (pre ++ .reg w :: post) (k.ticksSinceIdle, k.waitingForIdle)).1.2 :=
    congrArg Prod.snd h
  rw [h2]
  exact (on_idle_fires_once_multi (k.ticksSinceIdle, k.waitingForIdle) pre post w hnd hno).1

/-- **on_idle_same_duration_same_tick** (full): two registrations with the same duration that are both
waiting fire in the same ticks of any history (in which neither is registered again) — in particular
in the same call of `tick_idle_timeout`.  Their relative order inside that call is the only thing the
real code leaves open (`tick_idle_timeout_perm`), and it matters:
`on_idle_same_tick_order_counterexample`. -/
theorem on_idle_same_duration_same_tick (s : IState) (h : List IStep) (w1 w2 : OnIdle)
    (hnd : s.2.Nodup) (h1 : w1 ∈ s.2) (h2 : w2 ∈ s.2) (hd : w1.idle = w2.idle)
    (hno1 : noReg w1 h = true) (hno2 : noReg w2 h = true) :
    (idleRun h s).2.map (fun e => e.2.count w1) = (idleRun h s).2.map (fun e => e.2.count w2) ∧
    (w1 ∈ (idleRun h s).1.2 ↔ w2 ∈ (idleRun h s).1.2) ∧
    (w1 ∈ idleFired s.1 s.2 ↔ w2 ∈ idleFired s.1 s.2) := by
  have a1 := irun_view w1 h s hnd hno1
  have a2 := irun_view w2 h s hnd hno2
  rw [if_pos h1, and_iff_right h1] at a1
  rw [if_pos h2, and_iff_right h2] at a2
  refine ⟨by rw [a1.2, a2.2, hd], by rw [a1.1, a2.1, hd], ?_⟩
  simp only [mem_idleFired, h1, h2, hd, true_and]

/-- non-vacuity: three registrations (durations 20, 50, 20) made one after the other, the clock moved
by the loop and reset by an input, the set re-ordered: both 20-registrations fire in the same tick
(the first that sees 20), the 50-registration later, each once. -/
example :
    let w1 : OnIdle := { coord := (1, 0), action := .press, idle := 20 }
    let w2 : OnIdle := { coord := (1, 1), action := .tap, idle := 50 }
    let w3 : OnIdle := { coord := (1, 2), action := .toggle, idle := 20 }
    let post : List IStep := [.reg w2, .reg w3, .clock 19, .tick, .clock 0, .tick, .reorder [w3, w2, w1],
      .clock 25, .tick, .tick, .clock 60, .tick, .tick]
    (([] : List OnIdle)).Nodup ∧ noReg w1 post = true ∧
    idleRun ([] ++ .reg w1 :: post) (0, []) =
      ((60, []), [(19, []), (0, []), (25, [w3, w1]), (25, []), (60, [w2]), (60, [])]) := by
  refine ⟨by decide, by decide, by decide⟩

/-- non-vacuity of the model-level statement: the same history on the model's state runs without a
crash; every registration has fired once (toggle and press of the two 20 ms registrations in iteration
order, then the tap of the 50 ms one). -/
example :
    let w1 : OnIdle := { coord := (1, 0), action := .press, idle := 20 }
    let w2 : OnIdle := { coord := (1, 1), action := .tap, idle := 50 }
    let w3 : OnIdle := { coord := (1, 2), action := .toggle, idle := 20 }
    let post : List IStep := [.reg w2, .reg w3, .clock 19, .tick, .clock 0, .tick, .reorder [w3, w2, w1],
      .clock 25, .tick, .tick, .clock 60, .tick, .tick]
    exK0.waitingForIdle.Nodup ∧ noReg w1 post = true ∧
    (match kiRun [] ([] ++ .reg w1 :: post) exK0 with
      | .ok k => some (k.ticksSinceIdle, k.waitingForIdle, k.layout.queue.map Queued.ev) | .error _ => none) =
      some (60, [], [.press (1, 2), .press (1, 0), .press (1, 1), .release (1, 1)]) := by
  refine ⟨by decide, by decide, by decide +kernel⟩

/-- **on_idle_same_tick_order_counterexample** — the relative order of two registrations that fire
in the same call is observable, for good.  Configuration (real syntax):
```
(defvirtualkeys v2 x)
(defsrc a)
(deflayer l0 (multi (on-idle-fakekey v2 press 20) (on-idle-fakekey v2 release 20)))
```
Input: press `a`, release `a`, then no input.  Both registrations are made by the same key press, have
the same duration and therefore fire in the same `tick_idle_timeout`; press first: `x` is tapped;
release first: the release does nothing, `x` is pressed and STAYS DOWN.
Replayed on the real code (`kvharness eval C18`, `KAN 0 <hex(cfg)> HIST 4 p 0 30 gap 3 r 0 30 gap 80`):
with duration 20, 21, 24 or 25 the real program leaves `x` stuck down (`@27 d45`, final states
`[N45.1.0.0]`), with duration 22 or 23 it taps it (`@28 d45 @29 u45`); the order of the two members of
the `multi` makes no difference (the order comes from the hash of (coordinate, action, duration)). -/
theorem on_idle_same_tick_order_counterexample :
    -- both registered, the idle clock has reached their duration
    obsIdle idleCxK1 = some ([], [], [{ coord := (1, 0), action := .press, idle := 20 },
                                      { coord := (1, 0), action := .release, idle := 20 }], 20) ∧
    -- press first: tapped
    obsIdle (andThen idleCxK1 (ticksN 5)) = some ([.down 45, .up 45], [], [], 20) ∧
    -- release first: pressed and never released (any number of ticks from 5 to 34)
    (∀ n, n < 30 → obsOut (andThen idleCxK1 fun k =>
      ticksN (5 + n) { k with waitingForIdle := [{ coord := (1, 0), action := .release, idle := 20 },
                                                 { coord := (1, 0), action := .press, idle := 20 }] })
      = some ([.down 45], [45])) :=
  ⟨by decide +kernel, by decide +kernel, fun n _ => idle_stuck_forever n⟩

end KVerif.C18multi
