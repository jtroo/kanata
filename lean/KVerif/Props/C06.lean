/-
C06 — one-shot applies to exactly the next key, or expires; it never lingers.
Property theorems, with the one induction over a history that the runs of countdown ticks share (`run_counting`); helper
lemmas are in Lemmas/OneShot*.lean, the run loop's own in Lemmas/RunLoop.lean.

All statements are about the layout model (`Model/Layout.lean`) on the C06 fragment — base and upper
layers of plain keys, output chords, layer-while-held, transparent / unmapped positions, and
one-shot keys of any of the four end variants whose inner action is one of the first three (what the
parser admits inside `one-shot`).  `Inv s down` is the invariant of that fragment (`no_state_stranded`
shows that every run keeps it, `init_inv` that a fresh layout has it), so a hypothesis `Inv s down`
reads "for every state the layout can reach".  No statement bounds a timeout, a delay, a queue
content or a history length.
-/
import KVerif.Lemmas.OneShotStep
import KVerif.Lemmas.RunLoop
import KVerif.Gen.OneShotConsts
namespace KVerif.C06
open KVerif.L

/-! ## never lingers: no state is stranded -/

/-- a freshly created layout satisfies the invariant -/
theorem init_inv (cfg : LCfg) (hc : CfgFrag cfg) (tv2 dfl qth : Bool) (osd : Nat) :
    Inv { cfg := cfg, transV2 := tv2, delegateToFirstLayer := dfl, quickTapHoldTimeout := qth,
          oneshot := { pauseInputProcessingDelay := osd } } [] :=
  ⟨⟨rfl, rfl, rfl, rfl, rfl, (fun _ h => by cases h), rfl⟩, hc, Nat.zero_le _, fun _ => ⟨rfl, rfl⟩, trivial,
   (fun _ h => by cases h)⟩

/-- **no_state_stranded** (full, on the fragment).  For every configuration of the fragment and every
history of presses, releases and ticks — any order and timing, physically consistent or not, any
number of one-shot keys stacked, including the overflow of the 16-entry tables — in which an event
never arrives while 32 are pending: after every step, every key or layer state in the layout belongs
to a coordinate that is physically down, or whose release is deferred in `released_keys` *while a
one-shot key is active* (so `tick_osh` is counting down towards releasing it, see
`oneshot_expires_at_T`), or whose release is still waiting in the input queue.  Nothing else ever
remains: a one-shot state cannot outlive its key other than through these three. -/
theorem no_state_stranded : ∀ (ins : List In) (s : Layout) (down : List Coord), Inv s down →
    ∀ s' down', run s down ins = some (.ok (s', down')) → Inv s' down' :=
  Quiesce.run_preserves
    (fun s down e s' h hq he => by
      obtain ⟨s1, e1, i1, _⟩ := h.input e hq
      cases he.symm.trans e1
      exact i1)
    (fun s down s' cu h ht => (h.step s' cu ht).1)

/-- **nothing_lingers**: once every key is physically up, the input queue has drained and no
one-shot key is active, the layout holds no state at all — no key code, no layer. -/
theorem nothing_lingers {s : Layout} (h : Inv s []) (hq : s.queue = []) (hk : s.oneshot.keys = []) :
    s.states = [] ∧ s.keycodes = [] ∧ s.currentLayer = s.defaultLayer := by
  have hs : s.states = [] := (hq ▸ h.accounted).nil hk
  exact ⟨hs, by simp [Layout.keycodes, hs], by simp [Layout.currentLayer, hs]⟩

/-! ## expiry -/

/-- `n` ticks without input -/
def ticks : Nat → Layout → Except Crash Layout
  | 0, s => .ok s
  | n + 1, s =>
    match tick s with
    | .error c => .error c
    | .ok (s', _) => ticks n s'

theorem ticks_succ {s s1 : Layout} {cu : CustomEv} (e : tick s = .ok (s1, cu)) (n : Nat) :
    ticks (n + 1) s = ticks n s1 := by
  simp only [ticks, e]

/-- **oneshot_expires_at_T** (full).  With one-shot keys active, no release requested, the countdown
at `T ≥ 1` (the value every activation installs) and no input: for `T − 1` ticks nothing changes but
the countdown; on exactly the `T`-th tick every deferred release is applied — the states of all
tapped one-shot keys go at once — and no one-shot key is active afterwards.  For every `T`. -/
theorem oneshot_expires_at_T : ∀ (T : Nat) (s : Layout) (down : List Coord), Inv s down →
    s.oneshot.keys ≠ [] → s.oneshot.releaseOnNextTick = false → s.oneshot.timeout = T → 1 ≤ T →
    s.queue = [] →
    (∀ n, n < T → ∃ sn, ticks n s = .ok sn ∧ sn.states = s.states ∧ SameKeys s.oneshot sn.oneshot ∧
        sn.oneshot.timeout = T - n) ∧
    (∃ sT, ticks T s = .ok sT ∧ sT.states = dropCoords s.oneshot.releasedKeys s.states ∧
        sT.oneshot.keys = [] ∧ sT.oneshot.releasedKeys = [] ∧ Inv sT down) := by
  intro T
  induction T with
  | zero => intro s down _ _ _ _ h; exact absurd h (Nat.not_succ_le_zero 0)
  | succ T ih =>
    intro s down h hk hr ht _ hq
    cases T with
    | zero =>
      obtain ⟨sr, _, i1, ho, hst, _, hm, hiff⟩ := tick_fires_then_pops h hk (Or.inr (Nat.le_of_eq ht))
      rw [hq] at hm
      have htick : tick s = .ok (sr, .noEvent) := (hiff sr .noEvent).mpr hm
      refine ⟨fun n hn => ?_, sr, ticks_succ htick 0, hst, by rw [ho]; rfl, by rw [ho]; rfl, i1⟩
      cases Nat.lt_one_iff.mp hn
      exact ⟨s, rfl, rfl, SameKeys.refl _, ht⟩
    | succ T =>
      obtain ⟨s1, e1, i1, f1, f2, f3, f4⟩ := tick_waits_idle h hk hr (ht ▸ Nat.le_add_left 2 T) hq
      obtain ⟨a1, sT, g1, g2, g3, g4, g5⟩ := ih s1 down i1 (f3.keys ▸ hk) (f3.request ▸ hr)
        (by rw [f4, ht]; rfl) (Nat.le_add_left 1 T) f2
      refine ⟨fun n hn => ?_, sT, (ticks_succ e1 _).trans g1, by rw [g2, f1, f3.released], g3, g4, g5⟩
      cases n with
      | zero => exact ⟨s, rfl, rfl, SameKeys.refl _, ht⟩
      | succ m =>
        obtain ⟨sn, k1, k2, k3, k4⟩ := a1 m (Nat.lt_of_succ_lt_succ hn)
        exact ⟨sn, (ticks_succ e1 m).trans k1, k2.trans f1, f3.trans k3, by rw [k4, Nat.add_sub_add_right]⟩

/-! ## press variants -/

/-- **first_key_press_variant** (full).  Press variants, one-shot keys active: when the press of a
plain key (key, output chord or layer-while-held) is taken from the queue, every state that was
there stays — the one-shot key or layer is still in effect for this key — the key's own state is
added, the countdown becomes `min(rapid-event-delay, countdown)` and input processing is paused for
`rapid-event-delay` ticks.  Active and deferred one-shot keys are untouched. -/
theorem first_key_press_variant {s : Layout} {down : List Coord} (h : Inv s down)
    (hk : s.oneshot.keys ≠ []) (he : isPressEnd s.oneshot.endConfig = true)
    (c : Coord) (n : Nat) (order : List Nat) (ho : s.transOrder = .ok order) (a : Action) (ls : List Nat)
    (hr : s.resolveCoord c order = .ok (a, ls)) (hs : Simple a) :
    ∃ s1, dequeue FUEL s ⟨.press c, n⟩ = .ok (s1, .noEvent) ∧ Adds c s s1 ∧ SameKeys s.oneshot s1.oneshot ∧
      s1.oneshot.timeout = min s.oneshot.pauseInputProcessingDelay s.oneshot.timeout ∧
      s1.oneshot.pauseInputProcessingTicks = s.oneshot.pauseInputProcessingDelay := by
  obtain ⟨s1, e, ad, _, o⟩ := dequeue_press_simple h.calm c n order ho a ls hr hs
  rw [handlePress_other_pressEnd _ c hk h.calm.ignore he] at o
  exact ⟨s1, e, ad, o ▸ ⟨rfl, rfl, rfl, rfl, rfl, rfl⟩, by rw [o], by rw [o]⟩

def ticksOf : List In → Nat
  | [] => 0
  | .tick :: r => ticksOf r + 1
  | .ev _ :: r => ticksOf r

def eventsOf : List In → List Ev
  | [] => []
  | .tick :: r => eventsOf r
  | .ev e :: r => e :: eventsOf r

theorem run_cons {s s1 : Layout} {i : In} (hov : overflows s i = false) (hs : stepIn s i = .ok s1)
    (down : List Coord) (rest : List In) : run s down (i :: rest) = run s1 (downAfter down i) rest := by
  simp only [run, hov, Bool.false_eq_true, if_false, hs]

/-- `P k evs`: after `k` ticks and the events `evs`.  The step of a tick may use `G` of the state it
reaches, when `G` is known of every state the run passes through. -/
theorem run_counting {P : Nat → List Ev → Layout → List Coord → Prop} {G : Layout → Prop} (N : Nat)
    (hev : ∀ k evs s down e s', P k evs s down → s.queue.length < QUEUE_SIZE → s.event e = .ok s' →
      P k (evs ++ [e]) s' (downAfter down (.ev e)))
    (htick : ∀ k evs s down s' cu, P k evs s down → k < N → tick s = .ok (s', cu) → G s' → P (k + 1) evs s' down) :
    ∀ (ins : List In) (k : Nat) (evs : List Ev) (s : Layout) (down : List Coord), P k evs s down →
      ticksOf ins + k ≤ N →
      (∀ pre post, ins = pre ++ post → ∀ sp dp, run s down pre = some (.ok (sp, dp)) → G sp) →
      ∀ s' down', run s down ins = some (.ok (s', down')) →
        P (ticksOf ins + k) (evs ++ eventsOf ins) s' down' := by
  intro ins
  induction ins with
  | nil =>
    intro k evs s down hP _ _ s' down' hr
    cases hr
    show P (0 + k) (evs ++ []) s down
    rw [List.append_nil, Nat.zero_add]
    exact hP
  | cons i rest ih =>
    intro k evs s down hP hN hG s' down' hr
    obtain ⟨hov, s1, hs, hr⟩ := Quiesce.run_cons_ok hr
    have hG' : ∀ pre post, rest = pre ++ post → ∀ sp dp,
        run s1 (downAfter down i) pre = some (.ok (sp, dp)) → G sp :=
      fun pre post hp sp dp hrun => hG (i :: pre) post (hp ▸ rfl) sp dp (run_cons hov hs down pre ▸ hrun)
    cases i with
    | ev e =>
      have hq : s.queue.length < QUEUE_SIZE := Nat.lt_of_not_le (of_decide_eq_false hov)
      have := ih k (evs ++ [e]) s1 _ (hev k evs s down e s1 hP hq hs) hN hG' s' down' hr
      rw [List.append_assoc] at this
      exact this
    | tick =>
      obtain ⟨cu, ht⟩ := Quiesce.stepIn_tick_ok hs
      have e : ticksOf rest + (k + 1) = ticksOf (.tick :: rest) + k := Nat.add_right_comm _ k 1
      have hk : k < N := Nat.lt_of_lt_of_le (Nat.lt_add_left _ (Nat.lt_succ_self k)) (e ▸ hN)
      exact e ▸ ih (k + 1) evs s1 down
        (htick k evs s down s1 cu hP hk ht (hG [.tick] rest rfl s1 down (run_cons hov hs down [])))
        (e ▸ hN) hG' s' down' hr

theorem stalls_run : ∀ (ins : List In) (s : Layout) (down : List Coord), Inv s down →
    s.oneshot.keys ≠ [] → s.oneshot.releaseOnNextTick = false →
    s.oneshot.timeout ≤ s.oneshot.pauseInputProcessingTicks → ticksOf ins ≤ s.oneshot.timeout - 1 →
    ∀ s' down', run s down ins = some (.ok (s', down')) →
      Inv s' down' ∧ Stalls s s' (ticksOf ins) (eventsOf ins) := by
  intro ins s down h hk hr hp hn s' down' hrun
  refine run_counting (P := fun k evs s1 d1 => Inv s1 d1 ∧ Stalls s s1 k evs) (G := fun _ => True)
    (s.oneshot.timeout - 1) ?_ ?_ ins 0 [] s down ⟨h, Stalls.refl s⟩ hn (fun _ _ _ _ _ _ => trivial) s' down' hrun
  · intro k evs s1 d1 e s2 ⟨i1, st⟩ hq he
    obtain ⟨_, e1, i2, st1⟩ := i1.input_stalls e hq
    cases e1.symm.trans he
    exact ⟨i2, Nat.zero_add k ▸ st.trans st1⟩
  · intro k evs s1 d1 s2 cu ⟨i1, st⟩ hk' ht _
    -- both counters are still above the ticks gone
    have h2 : 2 ≤ s1.oneshot.timeout := by rw [st.timeout]; omega
    have hp1 : 0 < s1.oneshot.pauseInputProcessingTicks := by rw [st.pause]; omega
    obtain ⟨_, e1, i2, _, st1⟩ := tick_waits_paused i1 (st.keys.keys ▸ hk) (st.keys.request ▸ hr) h2 hp1
    cases e1.symm.trans ht
    exact ⟨i2, List.append_nil evs ▸ Nat.add_comm 1 k ▸ st.trans st1⟩

/-- **no_pop_before_release** (full).  One-shot keys active, countdown `m`, input pause `p ≥ m` (the
situation `first_key_press_variant` creates: `m = min(d, countdown) ≤ d = p`).  Whatever arrives
meanwhile, during the next `max m 1 − 1` ticks nothing is taken from the input queue and no state
changes: both counters just go down together. -/
theorem no_pop_before_release : ∀ (ins : List In) (s : Layout) (down : List Coord) (m : Nat), Inv s down →
    s.oneshot.keys ≠ [] → s.oneshot.releaseOnNextTick = false → s.oneshot.timeout = m →
    m ≤ s.oneshot.pauseInputProcessingTicks → ticksOf ins + 1 ≤ max m 1 →
    ∀ s' down', run s down ins = some (.ok (s', down')) →
      Inv s' down' ∧ s'.states = s.states ∧ SameKeys s.oneshot s'.oneshot ∧
      s'.oneshot.timeout = m - ticksOf ins ∧
      s'.oneshot.pauseInputProcessingTicks = s.oneshot.pauseInputProcessingTicks - ticksOf ins ∧
      s'.queue.map (·.ev) = s.queue.map (·.ev) ++ eventsOf ins := by
  intro ins s down m h hk hr hm hp hn s' down' hrun
  subst hm
  obtain ⟨i, st⟩ := stalls_run ins s down h hk hr hp (by omega) s' down' hrun
  exact ⟨i, st.states, st.keys, st.timeout, st.pause, st.queue⟩

/-- **release_precedes_next_pop** (full).  On the tick on which `tick_osh` fires — the countdown is at
its last step, or a release was requested — the deferred releases are applied first: the layout is
`sr`, with no one-shot key active, every state of a tapped one-shot key gone and the input pause
lifted; only then is the oldest queued event taken, and it is processed on `sr`.  Hence a key pressed
after the first following key never sees the one-shot key or layer. -/
theorem release_precedes_next_pop {s : Layout} {down : List Coord} (h : Inv s down) (hk : s.oneshot.keys ≠ [])
    (hf : s.oneshot.releaseOnNextTick = true ∨ s.oneshot.timeout ≤ 1) :
    ∃ sr, tickOneshot (tickPre s) = .ok (sr, .noEvent) ∧ Inv sr down ∧
      sr.oneshot.keys = [] ∧ sr.oneshot.releasedKeys = [] ∧ sr.oneshot.pauseInputProcessingTicks = 0 ∧
      sr.states = dropCoords s.oneshot.releasedKeys s.states ∧
      (∀ st ∈ sr.states, ∀ k ∈ s.oneshot.releasedKeys, st.coord ≠ some k) ∧
      sr.queue = age s.queue ∧
      (tickMain sr = match age s.queue with
        | [] => .ok (sr, .noEvent)
        | q :: rest => dequeue FUEL (sr.setQueue rest) q) ∧
      (∀ s' cu, tick s = .ok (s', cu) ↔ tickMain sr = .ok (s', cu)) := by
  obtain ⟨sr, e1, i1, ho, hst, hq, hm, hiff⟩ := tick_fires_then_pops h hk hf
  refine ⟨sr, e1, i1, by rw [ho]; rfl, by rw [ho]; rfl, by rw [ho]; rfl, hst, ?_, hq, hm, hiff⟩
  intro st hst' k hk'
  rw [hst] at hst'
  exact (mem_dropCoords.mp hst').2 k hk'

/-- **oneshot_press_variant** (full): the timeline after the first following key.  From the state
`first_key_press_variant` produces (countdown `m ≤` pause), after any inputs containing exactly
`max m 1 − 1` ticks nothing has been taken from the queue and no state has changed; on the next tick
— tick number `max m 1`, i.e. `rapid-event-delay` ticks after the key when `1 ≤ d ≤ countdown`, the
very next tick when `d = 0` — the one-shot states are released *before* the queue is looked at.
The two counters were started by the same `handle_press` and run in step, for every `m`. -/
theorem oneshot_press_variant (ins : List In) (s : Layout) (down : List Coord) (m : Nat) (h : Inv s down)
    (hk : s.oneshot.keys ≠ []) (hr : s.oneshot.releaseOnNextTick = false) (hm : s.oneshot.timeout = m)
    (hp : m ≤ s.oneshot.pauseInputProcessingTicks) (hn : ticksOf ins + 1 = max m 1)
    (s' : Layout) (down' : List Coord) (hrun : run s down ins = some (.ok (s', down'))) :
    s'.states = s.states ∧ s'.queue.map (·.ev) = s.queue.map (·.ev) ++ eventsOf ins ∧
    ∃ sr, tickOneshot (tickPre s') = .ok (sr, .noEvent) ∧ sr.oneshot.keys = [] ∧
      sr.states = dropCoords s.oneshot.releasedKeys s.states ∧
      (∀ s'' cu, tick s' = .ok (s'', cu) ↔ tickMain sr = .ok (s'', cu)) ∧
      (tickMain sr = match age s'.queue with
        | [] => .ok (sr, .noEvent)
        | q :: rest => dequeue FUEL (sr.setQueue rest) q) := by
  obtain ⟨r1, r2, r3, r4, _, r6⟩ := no_pop_before_release ins s down m h hk hr hm hp (Nat.le_of_eq hn) s' down' hrun
  obtain ⟨sr, e1, _, k1, _, _, k4, _, _, k7, k8⟩ := release_precedes_next_pop r1 (by rw [r3.keys]; exact hk)
    (Or.inr (by omega))
  exact ⟨r2, r6, sr, e1, k1, by rw [k4, r3.released, r2], k8, k7⟩

/-- **second_key_never_modified** (full): the press-variant story end to end, for every delay `d` and
every remaining countdown `t`.  One-shot keys active (press variant), input not paused, and the
oldest queued event is the press of a plain key at `c`: this tick takes it — every earlier state
stays, so the one-shot key or layer applies to it — and from the resulting state `s1`, whatever
arrives, after exactly `max (min d t) 1 − 1` further ticks nothing has been taken from the queue and
no state has changed; on the next tick the one-shot states are released first (`sr` holds no state of
a tapped one-shot key, no one-shot key is active) and only then is the next event — e.g. the second
following key — taken and processed, on `sr`.  So the release happens on tick `max (min d t) 1` after
the first key (`= d` for `1 ≤ d ≤ t`, the very next tick for `d = 0`), and the first later pop on
that same tick, after it. -/
theorem second_key_never_modified {s : Layout} {down : List Coord} (h : Inv s down)
    (hk : s.oneshot.keys ≠ []) (hr : s.oneshot.releaseOnNextTick = false)
    (he : isPressEnd s.oneshot.endConfig = true) (hp : s.oneshot.pauseInputProcessingTicks = 0)
    (c : Coord) (n : Nat) (rest : List Queued) (hq : s.queue = ⟨.press c, n⟩ :: rest)
    (order : List Nat) (ho : s.transOrder = .ok order) (a : Action) (ls : List Nat)
    (hres : s.resolveCoord c order = .ok (a, ls)) (hs : Simple a) :
    ∃ s1, tickMain s = .ok (s1, .noEvent) ∧ Inv s1 down ∧ Adds c s s1 ∧ s1.queue = rest ∧
      s1.oneshot.releasedKeys = s.oneshot.releasedKeys ∧
      ∀ (ins : List In) (s' : Layout) (down' : List Coord),
        ticksOf ins + 1 = max (min s.oneshot.pauseInputProcessingDelay s.oneshot.timeout) 1 →
        run s1 down ins = some (.ok (s', down')) →
        s'.states = s1.states ∧ s'.queue.map (·.ev) = rest.map (·.ev) ++ eventsOf ins ∧
        ∃ sr, tickOneshot (tickPre s') = .ok (sr, .noEvent) ∧ sr.oneshot.keys = [] ∧
          sr.states = dropCoords s.oneshot.releasedKeys s1.states ∧
          (∀ s'' cu, tick s' = .ok (s'', cu) ↔ tickMain sr = .ok (s'', cu)) ∧
          (tickMain sr = match age s'.queue with
            | [] => .ok (sr, .noEvent)
            | q :: rest' => dequeue FUEL (sr.setQueue rest') q) := by
  have e0 := tickMain_pops h.calm.waiting h.calm.extra hp _ rest hq
  obtain ⟨s1, e1, ad, q1, o1⟩ := dequeue_press_simple (s := s.setQueue rest) (h.calm.setQueue rest) c n order ho
    a ls ((resolveCoord_cfg s (s.setQueue rest) rfl c order).trans hres) hs
  obtain ⟨i1, _⟩ := h.pop_press c n rest hq _ _ e1
  have o1 : s1.oneshot = (s.oneshot.handlePress (.other c)).1 := o1
  rw [handlePress_other_pressEnd _ c hk h.calm.ignore he] at o1
  refine ⟨s1, e0.trans e1, i1, ⟨ad.old, ad.new⟩, q1, by rw [o1], fun ins s' down' hn hrun => ?_⟩
  obtain ⟨r1, r2, sr, r3, r4, r5, r6, r7⟩ :=
    oneshot_press_variant ins s1 down (min s.oneshot.pauseInputProcessingDelay s.oneshot.timeout) i1
      (by rw [o1]; exact hk) (by rw [o1]; exact hr) (by rw [o1]) (by rw [o1]; exact Nat.min_le_left _ _)
      hn s' down' hrun
  exact ⟨r1, by rw [r2, q1]; rfl, sr, r3, r4, by rw [r5, o1], r6, r7⟩

/-- **press_variant_delay_zero**: with `rapid-event-delay 0` the first following key sets the
countdown to 0 and starts no pause; the very next tick releases the one-shot states before it takes
the next event — at the layout level the second following key is not modified for delay 0 either.
(What delay 0 breaks is outside the layout: `Kanata::is_idle` treats `oneshot.timeout == 0` as idle, so
the pinned event loop could stop ticking before that next tick happened; see C07, which repaired it.) -/
theorem press_variant_delay_zero {s : Layout} {down : List Coord} (h : Inv s down)
    (hk : s.oneshot.keys ≠ []) (he : isPressEnd s.oneshot.endConfig = true)
    (hd : s.oneshot.pauseInputProcessingDelay = 0)
    (c : Coord) (n : Nat) (order : List Nat) (ho : s.transOrder = .ok order) (a : Action) (ls : List Nat)
    (hr : s.resolveCoord c order = .ok (a, ls)) (hs : Simple a) :
    ∃ s1, dequeue FUEL s ⟨.press c, n⟩ = .ok (s1, .noEvent) ∧ s1.oneshot.timeout = 0 ∧
      s1.oneshot.pauseInputProcessingTicks = 0 ∧ s1.oneshot.keys = s.oneshot.keys := by
  obtain ⟨s1, e1, _, f3, f4, f5⟩ := first_key_press_variant h hk he c n order ho a ls hr hs
  exact ⟨s1, e1, by rw [f4, hd]; simp, by rw [f5, hd], f3.keys⟩

/-! ## release variants -/

/-- **first_key_release_variant** (full).  Release variants: the press of another key is only
remembered (`other_pressed_keys`); the countdown, the input pause and the one-shot keys are untouched
and every state stays — the one-shot key or layer remains in effect. -/
theorem first_key_release_variant {s : Layout} {down : List Coord} (h : Inv s down)
    (hk : s.oneshot.keys ≠ []) (he : isPressEnd s.oneshot.endConfig = false)
    (c : Coord) (n : Nat) (order : List Nat) (ho : s.transOrder = .ok order) (a : Action) (ls : List Nat)
    (hr : s.resolveCoord c order = .ok (a, ls)) (hs : Simple a) :
    ∃ s1, dequeue FUEL s ⟨.press c, n⟩ = .ok (s1, .noEvent) ∧ Adds c s s1 ∧
      s1.oneshot = { s.oneshot with
        otherPressedKeys := (pushBackWrap ONE_SHOT_MAX_ACTIVE s.oneshot.otherPressedKeys c).1 } ∧
      c ∈ s1.oneshot.otherPressedKeys := by
  obtain ⟨s1, e, ad, _, o⟩ := dequeue_press_simple h.calm c n order ho a ls hr hs
  rw [handlePress_other_releaseEnd _ c hk h.calm.ignore he] at o
  exact ⟨s1, e, ad, o, o ▸ mem_pushBackWrap_new _ (by decide) _ _⟩

/-- **oneshot_release_variant** (full).  Release variants, one-shot keys active: when the release of
a key that is not an active one-shot key is taken from the queue, it is applied normally, and the
release of the one-shot keys is requested **iff** that key was pressed since the activation
(`other_pressed_keys`); nothing else changes.  By `release_precedes_next_pop` the request is served at
the start of the next tick, before any later event is taken: nothing pressed after that release is
affected.  The release of a key that was already down when the one-shot key was tapped ends nothing. -/
theorem oneshot_release_variant {s : Layout} {down : List Coord} (h : Inv s down)
    (hk : s.oneshot.keys ≠ []) (he : isPressEnd s.oneshot.endConfig = false) (c : Coord) (n : Nat)
    (hc : s.oneshot.keys.contains c = false) :
    dequeue FUEL s ⟨.release c, n⟩ =
      .ok ({ s with
          oneshot := { s.oneshot with
            releaseOnNextTick := s.oneshot.releaseOnNextTick || s.oneshot.otherPressedKeys.contains c },
          states := s.states.filter (fun st => st.coord != some c) }, .noEvent) := by
  rw [dequeue_release_calm h.calm.states c n, handleRelease_other _ c hk hc]
  simp only [afterRelease, if_true, he, Bool.not_false, Bool.true_and]

/-- **nothing_after_first_release_is_affected** (full): the release-variant story end to end.
One-shot keys active (release variant), input not paused, and the oldest queued event is the release
of a key pressed since the activation: this tick applies it and requests the release; the next tick
releases the one-shot states first and only then takes the next event, on the released state `sr`.
So no key pressed after that first release is affected. -/
theorem nothing_after_first_release_is_affected {s : Layout} {down : List Coord} (h : Inv s down)
    (hk : s.oneshot.keys ≠ []) (he : isPressEnd s.oneshot.endConfig = false)
    (hp : s.oneshot.pauseInputProcessingTicks = 0)
    (c : Coord) (n : Nat) (rest : List Queued) (hq : s.queue = ⟨.release c, n⟩ :: rest)
    (hc : s.oneshot.keys.contains c = false) (hco : s.oneshot.otherPressedKeys.contains c = true) :
    ∃ s1, tickMain s = .ok (s1, .noEvent) ∧ Inv s1 down ∧ s1.queue = rest ∧
      s1.states = s.states.filter (fun st => st.coord != some c) ∧
      s1.oneshot.releasedKeys = s.oneshot.releasedKeys ∧
      ∃ sr, tickOneshot (tickPre s1) = .ok (sr, .noEvent) ∧ sr.oneshot.keys = [] ∧
        sr.states = dropCoords s.oneshot.releasedKeys s1.states ∧
        (∀ s'' cu, tick s1 = .ok (s'', cu) ↔ tickMain sr = .ok (s'', cu)) ∧
        (tickMain sr = match age rest with
          | [] => .ok (sr, .noEvent)
          | q :: rest' => dequeue FUEL (sr.setQueue rest') q) := by
  have e0 := tickMain_pops h.calm.waiting h.calm.extra hp _ rest hq
  obtain ⟨s1, e1, i1⟩ := h.pop_release c n rest hq
  have e2 := dequeue_release_calm (s := s.setQueue rest) h.calm.states c n
  rw [show (s.setQueue rest).oneshot = s.oneshot from rfl, handleRelease_other _ c hk hc] at e2
  simp only [afterRelease, if_true, he, hco, Bool.not_false, Bool.true_and, Bool.or_true] at e2
  rw [e2] at e1
  injection e1 with e1; injection e1 with e1
  subst e1
  obtain ⟨sr, k0, _, k1, _, _, k4, _, k6, k7, k8⟩ := release_precedes_next_pop i1 hk (Or.inl rfl)
  exact ⟨_, e0.trans e2, i1, rfl, rfl, rfl, sr, k0, k1, k4, k8, k7⟩

/-- the same release in a press variant requests nothing -/
theorem release_in_press_variant_requests_nothing {s : Layout} {down : List Coord} (h : Inv s down)
    (hk : s.oneshot.keys ≠ []) (he : isPressEnd s.oneshot.endConfig = true) (c : Coord) (n : Nat)
    (hc : s.oneshot.keys.contains c = false) :
    dequeue FUEL s ⟨.release c, n⟩ =
      .ok ({ s with states := s.states.filter (fun st => st.coord != some c) }, .noEvent) := by
  rw [dequeue_release_calm h.calm.states c n, handleRelease_other _ c hk hc]
  simp only [afterRelease, if_true, he, Bool.not_true, Bool.false_and, Bool.or_false]

/-! ## the one-shot key itself: tap, hold, stack, overflow, pcancel -/

/-- **tapped_oneshot_release_is_deferred** (full).  The release of an active one-shot key is not
applied: every state stays, the coordinate is remembered in `released_keys` — except that, when 16
releases are deferred already, the oldest of them is applied for real. -/
theorem tapped_oneshot_release_is_deferred {s : Layout} {down : List Coord} (h : Inv s down) (c : Coord) (n : Nat)
    (hc : s.oneshot.keys.contains c = true) :
    dequeue FUEL s ⟨.release c, n⟩ =
      .ok ({ s with
          oneshot := { s.oneshot with releasedKeys := (pushBackWrap ONE_SHOT_MAX_ACTIVE s.oneshot.releasedKeys c).1 },
          states := match (pushBackWrap ONE_SHOT_MAX_ACTIVE s.oneshot.releasedKeys c).2 with
            | some c2 => s.states.filter (fun st => st.coord != some c2)
            | none => s.states }, .noEvent) ∧
    c ∈ (pushBackWrap ONE_SHOT_MAX_ACTIVE s.oneshot.releasedKeys c).1 ∧
    (s.oneshot.releasedKeys.length < ONE_SHOT_MAX_ACTIVE →
      (pushBackWrap ONE_SHOT_MAX_ACTIVE s.oneshot.releasedKeys c).2 = none) := by
  refine ⟨?_, mem_pushBackWrap_new _ (by decide) _ _, fun hl => by rw [pushBackWrap_room hl]⟩
  rw [dequeue_release_calm h.calm.states c n, handleRelease_active _ c hc]
  simp only [afterRelease, Bool.false_eq_true, if_false]
  rfl

/-- **oneshot_stack_restarts_timeout** (full).  The press of a one-shot key (inner action a key, an
output chord or layer-while-held; timeout `T`, end variant `v`): its inner action takes effect like a
plain press (states added at its coordinate, nothing lost), and — whether or not other one-shot keys
are active — the countdown is set to `T` (restarting it), the end variant becomes `v`, the key joins
the active keys, and its own deferred release, if any, is withdrawn.  All active keys are released
together by the one `tick_osh` that fires (`release_precedes_next_pop` hands back *all* of
`released_keys`). -/
theorem oneshot_stack_restarts_timeout {s : Layout} {down : List Coord} (h : Inv s down)
    (hq : s.queue.length < QUEUE_SIZE) (c : Coord) (n : Nat) (order : List Nat) (ho : s.transOrder = .ok order)
    (inner : Action) (T : Nat) (v : OneShotEnd) (ls : List Nat)
    (hr : s.resolveCoord c order = .ok (.oneShot inner T v, ls)) (hs : Simple inner) :
    ∃ s1, dequeue FUEL s ⟨.press c, n⟩ = .ok (s1, .noEvent) ∧ Adds c s s1 ∧
      s1.oneshot.timeout = T ∧ s1.oneshot.endConfig = v ∧
      s1.oneshot.keys = (pushBackWrap ONE_SHOT_MAX_ACTIVE s.oneshot.keys c).1 ∧ c ∈ s1.oneshot.keys ∧
      c ∉ s1.oneshot.releasedKeys ∧
      (∀ x ∈ s.oneshot.releasedKeys, x ≠ c → x ∈ s1.oneshot.releasedKeys) ∧
      s1.oneshot.pauseInputProcessingTicks = s.oneshot.pauseInputProcessingTicks := by
  obtain ⟨s1, e1, _, e3, e4, _⟩ := dequeue_press_oneShot h.calm hq c n order ho inner T v ls hr hs
  obtain ⟨a1, a2, a3, _, _, a6, _, a8⟩ := activate_fields s.oneshot c T v
  obtain ⟨f1, _, _, f4, f5, f6⟩ := handlePress_osk_fields s.oneshot c
  refine ⟨s1, e1, e3, by rw [e4, a2], by rw [e4, a3], by rw [e4, a8], ?_, ?_, ?_, ?_⟩
  · rw [e4, a8]; exact mem_pushBackWrap_new _ (by decide) _ _
  · rw [e4, a6]
    intro hmem
    have hk0 := f6 h.calm.ignore hmem
    have := f5 c hmem
    rw [(h.idle hk0).1] at this
    cases this
  · intro x hx hne
    rw [e4, a6]
    rcases f4 x hx with g | g
    · exact g
    · exact absurd g hne
  · rw [e4]
    show (s.oneshot.handlePress (.oneShotKey c)).1.pauseInputProcessingTicks = _
    rw [handlePress_oneShotKey_fst]
    split <;> rfl

/-- **oneshot_overflow_releases_oldest** (full).  With 16 one-shot keys active, the activation of
another drops the oldest from the active keys and queues a release event for it; the other 15 and
the new key are active.  With fewer than 16 nothing is dropped.  (When that release event is taken
the key is no longer active, so — unless it was activated again meanwhile — it is applied normally,
`release_in_press_variant_requests_nothing` / `oneshot_release_variant`; that no state is stranded
either way is `no_state_stranded`.) -/
theorem oneshot_overflow_releases_oldest (o : OneShotState) (c : Coord) :
    (o.keys.length < ONE_SHOT_MAX_ACTIVE → activateOverflow o c = none ∧
      ∀ T v, (activate o c T v).keys = o.keys ++ [c]) ∧
    (∀ k0 tl, o.keys = k0 :: tl → ONE_SHOT_MAX_ACTIVE ≤ o.keys.length → activateOverflow o c = some k0 ∧
      ∀ T v, (activate o c T v).keys = tl ++ [c]) := by
  have f1 := (handlePress_osk_fields o c).1
  have f2 := fun T v => (activate_fields o c T v).2.2.2.2.2.2.2
  refine ⟨fun hl => ⟨?_, fun T v => ?_⟩, fun k0 tl hk hl => ⟨?_, fun T v => ?_⟩⟩
  · rw [activateOverflow, f1, pushBackWrap_room hl]
  · rw [f2, pushBackWrap_room hl]
  · rw [activateOverflow, f1, hk, pushBackWrap_full (hk ▸ hl)]
  · rw [f2, hk, pushBackWrap_full (hk ▸ hl)]

/-- **oneshot_held_is_plain** (full).  A one-shot key that is still physically held — its release has
not been taken from the queue, so its coordinate is not in `released_keys` (guaranteed right after its
press by `oneshot_stack_restarts_timeout`) — keeps its states when the one-shot activation ends, by
timeout or otherwise; from then on no one-shot key is active, so its eventual release is an ordinary
release removing exactly its states.  It acts as the plain key for as long as it is held. -/
theorem oneshot_held_is_plain {s : Layout} {down : List Coord} (h : Inv s down) (hk : s.oneshot.keys ≠ [])
    (hf : s.oneshot.releaseOnNextTick = true ∨ s.oneshot.timeout ≤ 1) (c : Coord)
    (hc : c ∉ s.oneshot.releasedKeys) :
    ∃ sr, tickOneshot (tickPre s) = .ok (sr, .noEvent) ∧
      (∀ st ∈ s.states, st.coord = some c → st ∈ sr.states) ∧
      ∀ n, dequeue FUEL sr ⟨.release c, n⟩ =
        .ok ({ sr with states := sr.states.filter (fun st => st.coord != some c) }, .noEvent) := by
  obtain ⟨sr, e1, i1, k1, _, _, k4, _⟩ := release_precedes_next_pop h hk hf
  refine ⟨sr, e1, fun st hst hco => ?_, fun n => dequeue_release_inactive i1.calm.states k1 c n⟩
  rw [k4]
  refine mem_dropCoords.mpr ⟨hst, fun k hk' hcon => ?_⟩
  rw [hco] at hcon
  injection hcon with hcon
  exact hc (hcon ▸ hk')

/-- **pcancel_on_repress** (full).  pcancel variants: pressing a one-shot key that is already active
requests the release of all one-shot keys (served at the start of the next tick,
`release_precedes_next_pop`, although the countdown was just restarted), and the re-pressed key is
not deferred, so it stays down as a plain key until it is released.  In the other two variants, and
for a one-shot key that is not active yet, nothing is requested. -/
theorem pcancel_on_repress {s : Layout} {down : List Coord} (h : Inv s down) (hk : s.oneshot.keys ≠ [])
    (hq : s.queue.length < QUEUE_SIZE) (c : Coord) (n : Nat) (order : List Nat) (ho : s.transOrder = .ok order)
    (inner : Action) (T : Nat) (v : OneShotEnd) (ls : List Nat)
    (hr : s.resolveCoord c order = .ok (.oneShot inner T v, ls)) (hs : Simple inner) :
    ∃ s1, dequeue FUEL s ⟨.press c, n⟩ = .ok (s1, .noEvent) ∧
      s1.oneshot.releaseOnNextTick =
        (s.oneshot.releaseOnNextTick || (isRepressEnd s.oneshot.endConfig && s.oneshot.keys.contains c)) ∧
      s1.oneshot.keys ≠ [] ∧ c ∉ s1.oneshot.releasedKeys := by
  obtain ⟨s1, e1, _, _, e4, _⟩ := dequeue_press_oneShot h.calm hq c n order ho inner T v ls hr hs
  obtain ⟨a1, _, _, _, _, a6, a7, _⟩ := activate_fields s.oneshot c T v
  have hp := handlePress_oneShotKey s.oneshot c hk h.calm.ignore
  refine ⟨s1, e1, by rw [e4, a7, hp], by rw [e4]; exact a1, ?_⟩
  rw [e4, a6, hp]
  simp

/-! ## the model is the code that is there now -/

theorem consts_from_source :
    ONE_SHOT_MAX_ACTIVE = Gen.OS_ONE_SHOT_MAX_ACTIVE ∧ QUEUE_SIZE = Gen.OS_QUEUE_SIZE ∧
    Gen.oneShotFnsAsModelled = true := by decide

/-! ## Non-vacuity -/

/-- one-shot shift (press variant), one-shot layer (release-pcancel variant), a one-shot output chord,
two plain keys; an upper layer mapping the plain keys to other keys -/
def sampleCfg : LCfg :=
  { layers := [
      [((0, 30), .oneShot (.keyCode 42) 500 .firstPress),
       ((0, 48), .oneShot (.layer 1) 10 .firstReleaseOrRepress),
       ((0, 46), .oneShot (.multipleKeyCodes [29, 56]) 3 .firstRelease),
       ((0, 32), .keyCode 32), ((0, 18), .keyCode 18)],
      [((0, 32), .keyCode 45), ((0, 18), .keyCode 21)]],
    srcKeys := [(30, .keyCode 30), (48, .keyCode 48), (46, .keyCode 46), (32, .keyCode 32), (18, .keyCode 18)] }

theorem sampleCfg_frag : CfgFrag sampleCfg := by
  refine ⟨?_, ?_⟩
  · intro tbl ht e he
    simp only [sampleCfg, List.mem_cons, List.mem_nil_iff, or_false] at ht
    rcases ht with rfl | rfl <;>
      (simp only [List.mem_cons, List.mem_nil_iff, or_false] at he
       rcases he with rfl | rfl | rfl | rfl | rfl <;> simp [Frag, Simple]) <;>
      (rcases he with rfl | rfl <;> simp [Frag])
  · intro e he
    simp only [sampleCfg, List.mem_cons, List.mem_nil_iff, or_false] at he
    rcases he with rfl | rfl | rfl | rfl | rfl <;> simp [Frag]

/-- a state in which one-shot shift has been tapped (release deferred) with the countdown running:
the hypotheses of the expiry, press-variant and release theorems are met -/
def sampleActive : Layout :=
  { cfg := sampleCfg, states := [.normalKey 42 (0, 30) 0],
    oneshot := { keys := [(0, 30)], releasedKeys := [(0, 30)], timeout := 500, endConfig := .firstPress,
                 pauseInputProcessingDelay := 5 } }

example : sampleActive.oneshot.keys ≠ [] ∧ sampleActive.oneshot.releaseOnNextTick = false ∧
    sampleActive.oneshot.timeout = 500 ∧ 1 ≤ 500 ∧ sampleActive.queue = [] ∧
    isPressEnd sampleActive.oneshot.endConfig = true ∧
    (∀ st ∈ sampleActive.states, ∀ c, st.coord = some c → c ∈ sampleActive.oneshot.releasedKeys) := by
  refine ⟨by simp [sampleActive], rfl, rfl, by decide, rfl, rfl, ?_⟩
  intro st hst c hc
  simp only [sampleActive, List.mem_cons, List.mem_nil_iff, or_false] at hst
  subst hst
  simp only [St.coord] at hc
  injection hc with hc
  subst hc
  simp [sampleActive]

/-- the plain key `d` resolves to a simple action in that state, on the base layer -/
example : sampleActive.transOrder = .ok [0] ∧
    sampleActive.resolveCoord (0, 32) [0] = .ok (.keyCode 32, []) ∧ Simple (.keyCode 32) := by
  exact ⟨rfl, rfl, trivial⟩

/-- the same state with the two plain keys pressed in a burst (both still held): the hypotheses of
`second_key_never_modified` — including the invariant — are met -/
def sampleBurst : Layout :=
  { sampleActive with queue := [⟨.press (0, 32), 1⟩, ⟨.press (0, 18), 1⟩] }

example : Inv sampleBurst [(0, 18), (0, 32)] ∧ sampleBurst.oneshot.keys ≠ [] ∧
    sampleBurst.oneshot.releaseOnNextTick = false ∧ isPressEnd sampleBurst.oneshot.endConfig = true ∧
    sampleBurst.oneshot.pauseInputProcessingTicks = 0 ∧
    sampleBurst.queue = ⟨.press (0, 32), 1⟩ :: [⟨.press (0, 18), 1⟩] ∧
    sampleBurst.transOrder = .ok [0] ∧
    sampleBurst.resolveCoord (0, 32) [0] = .ok (.keyCode 32, []) ∧ Simple (.keyCode 32) := by
  refine ⟨⟨⟨rfl, rfl, rfl, rfl, rfl, ?_, rfl⟩, sampleCfg_frag, by decide, ?_, ?_, ?_⟩, by simp [sampleBurst, sampleActive],
    rfl, rfl, rfl, rfl, rfl, rfl, trivial⟩
  · intro st hst
    simp only [sampleBurst, sampleActive, List.mem_cons, List.mem_nil_iff, or_false] at hst
    subst hst; exact Or.inl rfl
  · intro hk; simp [sampleBurst, sampleActive] at hk
  · exact ⟨Or.inl (by simp), Or.inl (by simp), trivial⟩
  · intro st hst c hc
    simp only [sampleBurst, sampleActive, List.mem_cons, List.mem_nil_iff, or_false] at hst
    subst hst
    simp only [St.coord] at hc
    injection hc with hc
    subst hc
    exact Or.inr (Or.inl (by simp [sampleBurst, sampleActive]))

/-! ## Findings recorded after the remarks of round t5 -/

/-- `n` ticks of the layout; `none` on a crash -/
def tickN : Nat → Layout → Option Layout
  | 0, s => some s
  | n + 1, s => match tick s with
    | .ok (s', _) => tickN n s'
    | .error _ => none

/-- an input event followed by the tick that processes it -/
def evThenTick (s : Layout) (e : Ev) : Option Layout :=
  match s.event e with
  | .ok s' => tickN 1 s'
  | .error _ => none

/-- From `sampleActive` (one-shot LShift tapped, press variant, rapid-event delay 5): the first
following key `d` is pressed; four ticks later - inside the delay in which the release of LShift is
outstanding and the input queue is paused - `aq` is put into the action queue (this is how chords v2
hands a chord's action to the layout: `Layout::tick` pushes it to `action_queue` and performs it
before `tick_osh`, whatever the pause says); `d` is released, 100 quiet ticks pass (first component)
and the second key `e` is pressed (second component). -/
def lingerRun (aq : ActionQueue) : Option (Layout × Layout) := do
  let s ← evThenTick sampleActive (.press (0, 32))
  let s ← tickN 4 s
  let s ← tickN 1 { s with actionQueue := aq }
  let s ← evThenTick s (.release (0, 32))
  let s1 ← tickN 100 s
  let s2 ← evThenTick s1 (.press (0, 18))
  pure (s1, s2)

/-- **oneshot_rearmed_in_release_delay_counterexample** (known finding, KNOWN_FINDINGS.jsonl C06).
Full statement that fails: "with the press variants the second following key is never modified".
`second_key_never_modified` proves it for every one-shot activation that arrives through the input
queue (the queue is paused until the release is out).  A one-shot action performed from the ACTION
queue during that delay (`do_action` `OneShot` arm: `self.oneshot.timeout = oneshot.timeout`)
restores the full timeout of the activation that the first key had already ended: 100 ticks later
LShift (42) is still down, and it is down together with the second key `e` (18).  Without the queued
action the same run ends the one-shot as the property says.  On the real code: chords v2 chord
`(defchordsv2 (e f) (one-shot 500 lalt) 35 first-release ())` pressed 5-6 ms after the first key
(corpus/C06.txt). -/
theorem oneshot_rearmed_in_release_delay_counterexample :
    ((lingerRun [((0, 33), 0, .oneShot (.keyCode 56) 500 .firstPress)]).map fun r =>
        (r.1.keycodes, r.2.keycodes)) = some ([42, 56], [42, 56, 18]) ∧
    ((lingerRun []).map fun r => (r.1.keycodes, r.2.keycodes)) = some ([], [18]) := by
  constructor <;> decide +kernel

/-- **stale_pause_counter_counterexample** (about the pinned code, `armIgnorePinned`; repaired by fix
PENDING-t5-1, KNOWN_FINDINGS: fixed).  `one-shot-pause-processing p` pressed while no one-shot is
active armed `ticks_to_ignore_events`, which `tick_osh` only counts down (and only clears) while a
one-shot is active: the value survived any number of ticks, and once a one-shot key was activated
(`keys` non-empty, everything else as it was) the press of the first following key was ignored -
it neither ended the one-shot nor was it recorded - so the one-shot key modified the SECOND following
key as well (real code: corpus/C06.txt, `one-shot-pause-processing 50` tapped a second before). -/
theorem stale_pause_counter_counterexample (o : OneShotState) (hk : o.keys = []) (p : Nat) (hp : 0 < p) :
    (∀ n, (Nat.repeat (fun x => x.tick.1) n (o.armIgnorePinned p)) = o.armIgnorePinned p) ∧
    (∀ (ks : List Coord) (T : Nat) (k : Coord),
      ({ o.armIgnorePinned p with keys := ks, timeout := T }).handlePress (.other k) =
        ({ o.armIgnorePinned p with keys := ks, timeout := T }, [])) := by
  refine ⟨fun n => ?_, fun ks T k => ?_⟩
  · induction n with
    | zero => rfl
    | succ n ih =>
      simp only [Nat.repeat, ih]
      rw [tick_inactive _ (by simp [OneShotState.armIgnorePinned, hk])]
  · have : ¬ p = 0 := by omega
    simp [OneShotState.handlePress, OneShotState.armIgnorePinned, Nat.pos_iff_ne_zero, this]

/-- **pause_only_armed_while_active** (full; the code as repaired).  The pause is only started while a
one-shot is active - where `tick_osh` counts it down on every tick and clears it when the activation
ends - so a layout without an active one-shot never holds an armed pause: the invariant
`keys = [] → ticksToIgnoreEvents = 0` is kept by the pause action (and `tick_osh` keeps it because it
zeroes the counter whenever it empties `keys`). -/
theorem pause_only_armed_while_active (o : OneShotState) (p : Nat)
    (h : o.keys = [] → o.ticksToIgnoreEvents = 0) :
    ((o.armIgnore p).keys = [] → (o.armIgnore p).ticksToIgnoreEvents = 0) ∧
    (o.keys = [] → o.armIgnore p = o) ∧
    ((o.tick.1).keys = [] → (o.tick.1).ticksToIgnoreEvents = 0) := by
  refine ⟨?_, ?_, ?_⟩
  · unfold OneShotState.armIgnore
    split
    · exact h
    · rename_i hne; intro hk; simp at hk; simp [hk] at hne
  · intro hk; simp [OneShotState.armIgnore, hk]
  · unfold OneShotState.tick
    split
    · exact h
    · simp only []
      split
      · intro _; rfl
      · rename_i hne _; intro hk; simp at hk; simp [hk] at hne

example : ({} : OneShotState).armIgnore 50 = {} ∧
    (({ keys := [(0, 30)], timeout := 500 } : OneShotState).armIgnore 50).ticksToIgnoreEvents = 50 := by
  exact ⟨rfl, rfl⟩

end KVerif.C06
