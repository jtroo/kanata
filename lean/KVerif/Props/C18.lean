/-
C18 — virtual keys obey press / release / tap / toggle and their timed forms.
-/
import KVerif.Lemmas.VkeyMulti
import KVerif.Lemmas.KanataDynQuiet
namespace KVerif.C18
open KVerif.L KVerif.K

/-! ### A virtual key is a physical key at a coordinate only kanata can operate -/

/-- **vkey_press_release_tap** (full): press / release / tap of a virtual key are exactly the layout
events a physical key at that coordinate would produce (tap = press then release, in that order). -/
theorem vkey_press_release_tap (l : Layout) (c : Coord) :
    fakeKeyAction l .press c = l.event (.press c) ∧
    fakeKeyAction l .release c = l.event (.release c) ∧
    fakeKeyAction l .tap c = (match l.event (.press c) with
      | .error e => .error e
      | .ok l' => l'.event (.release c)) := ⟨rfl, rfl, rfl⟩

/-- **vkey_toggle** (full): toggle releases if the key is held (some state carries its coordinate)
and presses otherwise. -/
theorem vkey_toggle (l : Layout) (c : Coord) :
    fakeKeyAction l .toggle c =
      if l.states.any (fun s => s.coord == some c) then l.event (.release c) else l.event (.press c) := rfl

/-- **vkey_toggle_alternates** (full, for settled states): once a toggle's event has been processed
— the key's state is in `states` after a press, gone after a release — the next toggle does the
opposite. -/
theorem vkey_toggle_alternates (l : Layout) (c : Coord) :
    ((∃ s ∈ l.states, s.coord = some c) → fakeKeyAction l .toggle c = l.event (.release c)) ∧
    ((∀ s ∈ l.states, s.coord ≠ some c) → fakeKeyAction l .toggle c = l.event (.press c)) := by
  constructor
  · rintro ⟨s, hs, hc⟩
    have : l.states.any (fun s => s.coord == some c) = true :=
      List.any_eq_true.mpr ⟨s, hs, by simp [hc]⟩
    simp [vkey_toggle, this]
  · intro h
    have : l.states.any (fun s => s.coord == some c) = false := by
      rw [List.any_eq_false]; intro s hs; simpa using h s hs
    simp [vkey_toggle, this]

/-- **vkey_same_from_any_source** (full): operated from a key (`on-press-fakekey`), from a key
release (`on-release-fakekey`), or when kanata goes idle (`on-idle-fakekey`), the layout receives
the result of the same function `fakeKeyAction` (a macro's custom item reaches `customPress` through
the same custom event; a TCP client calls `handle_fakekey_action` directly). -/
theorem vkey_same_from_any_source (k : KState) (c : Coord) (a : FkAction) (cur : List KeyCode) (l' : Layout)
    (h : fakeKeyAction k.layout a c = .ok l') :
    (∃ k', customPress k [.fakeKey c a] cur = .ok (k', cur) ∧ k'.layout = l' ∧ k'.out = k.out) ∧
    (∃ k', K.customRelease k [.fakeKeyOnRelease c a] = .ok k' ∧ k'.layout = l' ∧ k'.out = k.out) :=
  ⟨⟨{ k with layout := l' }, by rw [VkeyMulti.customPress_fakeKey_eq, h], rfl, rfl⟩,
    ⟨{ k with layout := l' }, by rw [VkeyMulti.customRelease_fakeKey_eq, h], rfl, rfl⟩⟩

/-! ### hold-for-duration -/

/-- the countdown of one held virtual key, isolated: `n` calls of `tick_held_vkeys` on a single
entry; returns how many calls it took to release, if it was released -/
def countdown : Nat → Nat → Option Nat
  | 0, _ => none
  | n + 1, d => if d - 1 == 0 then some 1 else (countdown n (d - 1)).map (· + 1)

/-- **hold_for_duration_spec** (full, every duration): a virtual key held for duration `D ≥ 1` is
released by the `D`-th `tick_held_vkeys` after its most recent (re-)activation and not earlier —
the activation's own tick counts as the first. -/
theorem hold_for_duration_spec : ∀ (D n : Nat), 1 ≤ D →
    countdown n D = if D ≤ n then some D else none := by
  intro D
  induction D with
  | zero => intro n h; omega
  | succ D ih =>
    intro n _
    cases n with
    | zero => simp [countdown]
    | succ n =>
      by_cases hD : D = 0
      · subst hD; simp [countdown]
      · have := ih n (by omega)
        simp only [countdown, Nat.add_sub_cancel, this]
        have h0 : ¬ ((D == 0) = true) := by simpa using hD
        simp only [h0]
        by_cases hle : D ≤ n
        · simp [hle]
        · simp [hle]

/-- one `tick_held_vkeys` on a single pending entry does what `countdown` counts: the deadline drops
by one, and at zero the release event is handed to the layout and the entry removed -/
theorem tickHeldVkeys_single (k : KState) (c : Coord) (d : Nat) (h : k.vkeysPendingRelease = [(c, d)]) :
    tickHeldVkeys k =
      if d - 1 == 0 then
        (match k.layout.event (.release c) with
          | .error e => .error (.layout e)
          | .ok l => .ok { k with layout := l, vkeysPendingRelease := [] })
      else .ok { k with vkeysPendingRelease := [(c, d - 1)] } := by
  rw [tickHeldVkeys, h]
  rfl

/-- **hold_for_duration_rearms** (full): activating a virtual key that is already held for a
duration restarts its countdown at the new duration and sends no second press. -/
theorem hold_for_duration_rearms (k : KState) (c : Coord) (d dur : Nat) (cur : List KeyCode)
    (h : k.vkeysPendingRelease = [(c, d)]) :
    customPress k [.fakeKeyHold c dur] cur =
      .ok ({ k with vkeysPendingRelease := [(c, dur)] }, cur) := by
  rw [VkeyMulti.customPress_hold_eq, if_pos (by rw [h]; exact List.mem_singleton.mpr rfl), h]
  simp only [VkeyMulti.heldActivate, List.any_cons, List.any_nil, beq_self_eq_true, Bool.or_false, if_true,
    List.map_cons, List.map_nil]

/-- **hold_for_duration_activates** (full): the first activation presses the key (one press event to
the layout) and starts the countdown. -/
theorem hold_for_duration_activates (k : KState) (c : Coord) (dur : Nat) (cur : List KeyCode) (l' : Layout)
    (h : k.vkeysPendingRelease = []) (he : k.layout.event (.press c) = .ok l') :
    customPress k [.fakeKeyHold c dur] cur =
      .ok ({ k with layout := l', vkeysPendingRelease := [(c, dur)] }, cur) := by
  rw [VkeyMulti.customPress_hold_eq, h, if_neg (by exact List.not_mem_nil), he]
  rfl

/-- **hold_for_duration_after_release_counterexample** (known finding, KNOWN_FINDINGS.jsonl:
`rearmed-after-release`; reproduced on the real code, corpus/C18.txt).  The re-arm branch looks only
at the countdown table, not at the key: when the key has been released by another action since the
first activation (release-vkey, release-key, a TCP release) while its countdown is still running - no
key state, nothing queued - a new hold-for-duration activation sends NO press: the layout is left
exactly as it was, so the key is not held at all although "hold-for-duration keeps the key pressed
until the stated time has passed since its most recent activation".  (General in `k`; the concrete
witness below it is the state after `(hold-for-duration 50 v)`, then `release-vkey v` 10 ms later.) -/
theorem hold_for_duration_after_release_counterexample (k : KState) (c : Coord) (d dur : Nat) (cur : List KeyCode)
    (h : k.vkeysPendingRelease = [(c, d)]) (hs : k.layout.states = []) (hq : k.layout.queue = []) :
    ∃ k', customPress k [.fakeKeyHold c dur] cur = .ok (k', cur) ∧
      k'.layout.states = [] ∧ k'.layout.queue = [] ∧ k'.vkeysPendingRelease = [(c, dur)] :=
  ⟨_, hold_for_duration_rearms k c d dur cur h, hs, hq, rfl⟩

/-- the witness: virtual key (1,0) = `lmet`, released explicitly 10 ticks into its 50-tick hold (the
table still says 40 to go, no key state, empty queue); the next activation changes nothing but the table -/
example :
    let k : KState :=
      { layout := { cfg := { layers := [[((0, 30), .custom 0), ((1, 0), .keyCode 125)]], srcKeys := [(30, .keyCode 30)] } },
        customs := [[.fakeKeyHold (1, 0) 50]], keyOutputs := [], mods := default,
        vkeysPendingRelease := [((1, 0), 40)] }
    k.layout.states = [] ∧ k.layout.queue = [] ∧
    (match customPress k [.fakeKeyHold (1, 0) 50] [] with
      | .ok (k', _) => k'.layout.states = [] ∧ k'.layout.queue = [] ∧ k'.vkeysPendingRelease = [((1, 0), 50)]
      | .error _ => False) := by
  intro k
  refine ⟨rfl, rfl, ?_⟩
  rw [hold_for_duration_rearms k (1, 0) 40 50 [] rfl]
  exact ⟨rfl, rfl, rfl⟩

/-! ### on-idle -/

/-- **on_idle_not_before** (full): an on-idle action does not fire while the accumulated idle time
is below its duration; it stays registered. -/
theorem on_idle_not_before (k : KState) (w : OnIdle) (h : k.waitingForIdle = [w])
    (hlt : k.ticksSinceIdle < w.idle) : tickIdleTimeout k = .ok k := by
  rw [tickIdleTimeout, h, tickIdleTimeout.go, if_neg (Nat.not_le.mpr hlt)]
  exact congrArg (fun x => Except.ok { k with waitingForIdle := x }) h.symm

/-- **on_idle_fires_once** (full): once the accumulated idle time reaches the duration the action is
performed through `fakeKeyAction` and the registration is removed, so it cannot fire again. -/
theorem on_idle_fires_once (k : KState) (w : OnIdle) (h : k.waitingForIdle = [w])
    (hge : k.ticksSinceIdle ≥ w.idle) (l' : Layout) (he : fakeKeyAction k.layout w.action w.coord = .ok l') :
    tickIdleTimeout k = .ok { k with layout := l', waitingForIdle := [] } := by
  rw [tickIdleTimeout, h, tickIdleTimeout.go, if_pos hge, he]
  rfl

/-- **idle_time_accumulates_only_while_idle** (full): the idle clock advances by the elapsed
milliseconds when kanata is idle and something waits for idleness, is reset when kanata is not idle,
and any input event resets it. -/
theorem idle_time_accumulates_only_while_idle (k : KState) (ms : Nat) :
    (isIdle k = false → (canBlockUpdateIdleWaiting k ms).1.ticksSinceIdle = 0) ∧
    (isIdle k = true → k.waitingForIdle ≠ [] →
      (canBlockUpdateIdleWaiting k ms).1.ticksSinceIdle = min (k.ticksSinceIdle + ms) 65535) ∧
    (∀ i k', handleInputEvent k i = .ok k' → match i with
      | .rep _ => True
      | _ => k'.ticksSinceIdle = 0) := by
  refine ⟨?_, ?_, ?_⟩
  · intro h
    show (if !isIdle k then _ else _ : KState).ticksSinceIdle = 0
    rw [h]
    rfl
  · intro h hw
    show (if !isIdle k then _ else if !k.waitingForIdle.isEmpty || _ then _ else _ : KState).ticksSinceIdle
      = _
    rw [h, Bool.eq_false_iff.mpr fun he => hw (List.isEmpty_iff.mp he)]
    rfl
  · intro i k' h
    cases i with
    | rep _ => trivial
    | press code =>
      simp only [handleInputEvent] at h
      split at h
      · cases h
      · injection h with h; subst h
        simp only []
        split <;> simp only [(dynRecord_fields _ _ _).2.2.2.2.2.2.1]
    | release code =>
      simp only [handleInputEvent] at h
      split at h
      · cases h
      · injection h with h; subst h
        simp only [(dynRecord_fields _ _ _).2.2.2.2.2.2.1]
    | tap code =>
      simp only [handleInputEvent] at h
      split at h
      · cases h
      · split at h
        · cases h
        · injection h with h; subst h; rfl

/-- while something waits for idleness kanata never blocks its loop (so the idle clock keeps running) -/
theorem never_blocks_while_waiting_for_idle (k : KState) (ms : Nat) (hw : k.waitingForIdle ≠ []) :
    (canBlockUpdateIdleWaiting k ms).2 = false := by
  have : k.waitingForIdle.isEmpty = false :=
    Bool.eq_false_iff.mpr fun he => hw (List.isEmpty_iff.mp he)
  simp [canBlockUpdateIdleWaiting, this]

/-! ### non-vacuity -/
example : countdown 10 3 = some 3 ∧ countdown 2 3 = none := by decide

end KVerif.C18
