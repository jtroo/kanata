/-
C05 — tap-hold resolves every press to exactly one of tap / hold / timeout, on time.
Property theorems only; helper lemmas are in Lemmas/TapHold.lean.
-/
import KVerif.Lemmas.TapHold
import KVerif.Lemmas.TickStages
namespace KVerif.C05
open KVerif.L

/-- `n` ticks with nothing in the queue; stops at the first tick on which the waiting state decides.
Returns the waiting state, how many ticks were consumed and the decision, if any. -/
def idleTicks (aq : ActionQueue) : Nat → Waiting → Except Crash (Waiting × Nat × Option WAct)
  | 0, w => .ok (w, 0, none)
  | n + 1, w =>
    match tickWt w [] aq with
    | .error c => .error c
    | .ok (w', _, _, some (a, _)) => .ok (w', 1, some a)
    | .ok (w', _, _, none) =>
      match idleTicks aq n w' with
      | .error c => .error c
      | .ok (w'', k, r) => .ok (w'', k + 1, r)

/-- the countdown of an idle tap-hold press, for every `T`; the queue-length memo plays no part -/
theorem idleTicks_timeout (cfg : HTConfig) (hk : skips cfg = false) (aq : ActionQueue) :
    ∀ (T : Nat) (w : Waiting), w.config = .holdTap cfg → w.timeout = T → 1 ≤ T →
      (∀ n, n < T → ∃ w', idleTicks aq n w = .ok (w', n, none) ∧ w'.timeout = T - n) ∧
      (∀ n, T ≤ n → ∃ w', idleTicks aq n w = .ok (w', T, some .timeout)) := by
  intro T
  induction T with
  | zero => exact fun _ _ _ h => absurd h (Nat.not_succ_le_zero 0)
  | succ T ih =>
    intro w hc ht _
    obtain ⟨w1, c1, e1⟩ := idle_tick w cfg hc hk aq
    have zero : ∃ w', idleTicks aq 0 w = .ok (w', 0, none) ∧ w'.timeout = T + 1 - 0 := ⟨w, rfl, ht⟩
    cases T with
    | zero =>
      -- the countdown is at 1: this tick decides
      rw [if_pos (Nat.le_of_eq ht)] at e1
      refine ⟨fun n hn => ?_, fun n hn => ?_⟩
      · obtain rfl := Nat.lt_one_iff.mp hn
        exact zero
      · cases n with
        | zero => exact absurd hn (Nat.not_succ_le_zero 0)
        | succ m => exact ⟨w1, by simp only [idleTicks, e1]⟩
    | succ T =>
      -- the countdown is above 1: this tick does not decide, the rest is the run from `T + 1`
      rw [if_neg (by rw [ht]; exact fun h => Nat.not_succ_le_zero T (Nat.le_of_succ_le_succ h))] at e1
      obtain ⟨i1, i2⟩ := ih w1 (c1.config.trans hc) (by rw [c1.timeout, ht]; rfl) (Nat.succ_pos T)
      refine ⟨fun n hn => ?_, fun n hn => ?_⟩
      · cases n with
        | zero => exact zero
        | succ m =>
          obtain ⟨w2, g1, g2⟩ := i1 m (Nat.lt_of_succ_lt_succ hn)
          exact ⟨w2, by simp only [idleTicks, e1, g1], by rw [g2, Nat.add_sub_add_right]⟩
      · cases n with
        | zero => exact absurd hn (Nat.not_succ_le_zero _)
        | succ m =>
          obtain ⟨w2, g1⟩ := i2 m (Nat.le_of_succ_le_succ hn)
          exact ⟨w2, by simp only [idleTicks, e1, g1]⟩

/-- **timeout_exactly_at_T** (full, all variants whose timeout applies).  With no other input and
the key still held, a tap-hold press with hold timeout `T ≥ 1` stays undecided for `T − 1` ticks and
chooses the timeout action (the hold action unless a separate one is configured) on exactly the
`T`-th tick after the press was processed — for every `T`, not a sampled one. -/
theorem timeout_exactly_at_T (cfg : HTConfig) (hk : skips cfg = false) (aq : ActionQueue) :
    ∀ (T : Nat) (w : Waiting), w.config = .holdTap cfg → w.timeout = T → 1 ≤ T →
      (w.prevQueueLen = 255 ∨ w.prevQueueLen = 0) →
      (∀ n, n < T → ∃ w', idleTicks aq n w = .ok (w', n, none) ∧ w'.timeout = T - n) ∧
      (∀ n, T ≤ n → ∃ w', idleTicks aq n w = .ok (w', T, some .timeout)) :=
  fun T w hc ht hT _ => idleTicks_timeout cfg hk aq T w hc ht hT

/-- **release_decides** (full).  When the key's own release is what the waiting state sees (no
other key pressed meanwhile), the decision is taken on that tick: **tap iff the remaining countdown
exceeds the queue-latency compensation**, i.e. with `T'` the countdown before this tick, `d` the
ticks the press had waited in the queue and `σ` the ticks the release has waited:
tap ⇔ `T' − 1 > d ∸ σ`; otherwise the timeout action — never both, never neither. -/
theorem release_decides (w : Waiting) (cfg : HTConfig) (hc : w.config = .holdTap cfg) (aq : ActionQueue)
    (q : List Queued) (hnp : NoPress q) (r : Queued) (hr : q.find? (fun s => s.ev == .release w.coord) = some r)
    (hlen : q.length % 256 ≠ w.prevQueueLen) :
    ∃ w', tickWt w q aq = .ok (w', q, aq,
      some (if w.timeout - 1 > w.delay - r.since then WAct.tap else WAct.timeout, none)) := by
  rw [tickWt_holdTap w cfg hc]
  refine ⟨(handleHoldTap { w with timeout := w.timeout - 1, ticks := min (w.ticks + 1) U16_MAX } cfg q).1, ?_⟩
  congr 2
  rw [handleHoldTap_noPress _ cfg q hnp]
  have : ¬ ((q.length % 256 == w.prevQueueLen) = true) := by simpa using hlen
  simp only [this, Bool.false_and, Bool.false_eq_true, if_false, hr]
  split <;> rfl

/-- the closed form of the design: press processed at `t₀` after waiting `d` ticks, release seen
`j ≥ 1` ticks later after waiting `σ` ticks: tap ⇔ `j + (d ∸ σ) < T`. -/
theorem tap_iff_closed_form (T j d σ : Nat) (hj : 1 ≤ j) (hjT : j ≤ T) :
    ((T - (j - 1)) - 1 > d - σ) ↔ j + (d - σ) < T := by
  generalize d - σ = x
  omega

/-- **exactly_one_of_tap_hold_timeout** (full).  One tick of the layout with a tap-hold key pending
either leaves everything but the countdown untouched (nothing is output, nothing is taken from the
queue), or consumes the waiting state and performs **exactly one** `do_action`, on one of the
key's tap / hold / timeout actions, at the key's own coordinate, with the layers that were active
when it was pressed — on a state that differs from the previous one only in bookkeeping counters.
Since the waiting state is gone afterwards, no press can resolve twice. -/
theorem exactly_one_of_tap_hold_timeout (s : Layout) (w : Waiting) (cfg : HTConfig)
    (hw : s.waiting = some w) (hc : w.config = .holdTap cfg) (s' : Layout) (cu : CustomEv)
    (h : tickMain s = .ok (s', cu)) :
    (∃ w', s' = { s with waiting := some w' } ∧ cu = .noEvent ∧ w'.config = w.config ∧
        w'.timeout = w.timeout - 1 ∧ w'.hold = w.hold ∧ w'.tap = w.tap ∧ w'.timeoutAction = w.timeoutAction) ∨
    (∃ a ∈ outcomes w, ∃ s0 s1 : Layout, ∃ fuel : Nat, 3999 ≤ fuel ∧
        s0.waiting = none ∧ s0.queue = s.queue ∧ s0.states = s.states ∧
        s0.extraWaiting = s.extraWaiting ∧
        doAction fuel s0 a w.coord (min (w.delay + min (w.ticks + 1) U16_MAX) U16_MAX) false w.layerStack = .ok (s1, cu) ∧
        (s' = s1 ∨ s' = tapPost s1)) := by
  have hh : isHT w = true := by unfold isHT; rw [hc]
  have hk := htStep_counted w s.queue
  rw [tickMain_ht s w hw hh] at h
  cases hd : (htStep w s.queue).2 with
  | none =>
    rw [hd] at h
    injection h with h; injection h with h1 h2
    exact Or.inl ⟨_, h1.symm, h2.symm, hk.config, hk.timeout, hk.hold, hk.tap, hk.timeoutAction⟩
  | some a =>
    rw [hd] at h
    -- `handle_hold_tap` never answers NoOp (that is the chord path); it would drop the waiting state
    have ha : a ≠ .noOp := fun e => htStep_ne_noOp w s.queue (e ▸ hd)
    obtain ⟨s0, s1, fuel, hf, fr, fs, hdo, hs'⟩ := resolveAct_spec ha h
    refine Or.inr ⟨pick w a, pick_mem_outcomes w a ha, s0, s1, fuel, hf, fr.waiting, fr.queue, fs, fr.extra, ?_, hs'⟩
    rw [← waitingDelay_step w hh s.queue, ← hk.pick a, ← hk.coord, ← hk.layerStack]
    exact hdo

/-! ### Early triggers of the press / release / keys variants -/

/-- **hold_on_other_key_press**: the press variant chooses hold as soon as any other press is queued. -/
theorem hold_on_other_key_press (q : List Queued) :
    earlyTrigger .holdOnOtherKeyPress q = (if ∃ x ∈ q, x.ev.isPress = true then some .hold else none, false) := by
  simp only [earlyTrigger, List.any_eq_true]

/-- **permissive_hold**: the release variant chooses hold exactly when some other key has been
pressed *and released* (in that order) while the decision is pending. -/
theorem permissive_hold (q : List Queued) :
    permissiveHoldHit q = true ↔
      ∃ pre x mid y post, q = pre ++ x :: mid ++ y :: post ∧ x.ev.isPress = true ∧ y.ev = .release x.ev.coord := by
  induction q with
  | nil => simp [permissiveHoldHit]
  | cons a rest ih =>
    simp only [permissiveHoldHit, Bool.or_eq_true, Bool.and_eq_true, List.any_eq_true]
    constructor
    · rintro (⟨hp, y, hy, hye⟩ | h)
      · obtain ⟨mid, post, rfl⟩ := List.append_of_mem hy
        exact ⟨[], a, mid, y, post, by simp, hp, by simpa using hye⟩
      · obtain ⟨pre, x, mid, y, post, rfl, hx, hy⟩ := ih.mp h
        exact ⟨a :: pre, x, mid, y, post, by simp, hx, hy⟩
    · rintro ⟨pre, x, mid, y, post, hq, hx, hy⟩
      cases pre with
      | nil =>
        simp only [List.nil_append, List.cons_append, List.cons.injEq] at hq
        obtain ⟨rfl, rfl⟩ := hq
        exact Or.inl ⟨hx, y, by simp, by simp [hy]⟩
      | cons p pre' =>
        simp only [List.cons_append, List.cons.injEq] at hq
        obtain ⟨rfl, rfl⟩ := hq
        exact Or.inr (ih.mpr ⟨pre', x, mid, y, post, by simp, hx, hy⟩)

/-- **release_keys_tap**: in the release-keys variant a queued press of a listed key, with no earlier
press that was already released, chooses tap. -/
theorem release_keys_tap (keys : List Nat) (pre : List Queued) (x : Queued) (post : List Queued)
    (hpre : NoPress pre) (hx : x.ev.isPress = true) (hk : keys.contains x.ev.coord.2 = true) :
    customRelease keys (pre ++ x :: post) = some .tap := by
  rw [customRelease_skip keys hpre]
  simp only [customRelease, hx, if_true, hk]

/-- **except_keys_first_press**: in the except-keys variant the first queued press decides: a listed key gives
tap at once, any other key leaves the decision to the timeout/release rule; with no press queued
the timeout is not applied. -/
theorem except_keys_first_press (keys : List Nat) (pre : List Queued) (x : Queued) (post : List Queued)
    (hpre : NoPress pre) (hx : x.ev.isPress = true) :
    customExcept keys (pre ++ x :: post) =
      (if keys.contains x.ev.coord.2 then some .tap else none, false) := by
  rw [customExcept_skip keys hpre]
  simp only [customExcept, hx, if_true]
  split <;> rfl

/-! ### [t8:while-down] The early triggers see only what happened while the key was down -/

/-- **released_key_decides_without_later_events** (full; the statement of the repair PENDING-1).  A
tap-hold key of ANY variant that has been released, with no other key pressed between its press and
its release (`pre`), resolves by the time comparison alone - tap iff the countdown exceeds the
latency compensation - whatever was queued after the release (`post`: the key's own next press, other
keys pressed and released, listed keys): the early triggers are triggers *while the key is
undecided and down*. -/
theorem released_key_decides_without_later_events (w : Waiting) (cfg : HTConfig)
    (pre : List Queued) (r : Queued) (post : List Queued) (hpre : NoPress pre)
    (hnr : ∀ x ∈ pre, (x.ev == .release w.coord) = false) (hr : r.ev = .release w.coord)
    (hlen : ¬ (((pre ++ r :: post).length % 256 == w.prevQueueLen && w.timeout > 0) = true)) :
    (handleHoldTap w cfg (pre ++ r :: post)).2 =
      some (if w.timeout > w.delay - r.since then WAct.tap else WAct.timeout) := by
  have hrr : (r.ev == .release w.coord) = true := by rw [hr]; simp
  have hfind : (pre ++ r :: post).find? (fun s => s.ev == .release w.coord) = some r := by
    rw [List.find?_append, List.find?_eq_none.mpr (by simpa using hnr)]
    simp [hrr]
  rw [handleHoldTap_eq, if_neg hlen]
  simp only [htDecision, whileDown_split w.coord pre r post hnr hrr, early_noPress cfg hpre, hfind]
  split <;> rfl

/-- witness: key b (coordinate 48) one tick after it left the queue, where it had waited 80 ticks -/
def lateW : Waiting :=
  { coord := (0, 48), timeout := 199, delay := 80, ticks := 1, hold := .keyCode 42, tap := .keyCode 48,
    timeoutAction := .keyCode 42, config := .holdTap .holdOnOtherKeyPress, layerStack := [0], prevQueueLen := 255 }
/-- its own release, then another key tapped -/
def lateOther : List Queued := [⟨.release (0, 48), 60⟩, ⟨.press (0, 46), 40⟩, ⟨.release (0, 46), 20⟩]
/-- its own release, then the key itself tapped again -/
def lateOwn : List Queued := [⟨.release (0, 48), 60⟩, ⟨.press (0, 48), 40⟩, ⟨.release (0, 48), 20⟩]

/-- **late_press_made_a_tap_a_hold_counterexample** (the behaviour before the repair, pinned as
`handleHoldTapPinned`): `tap-hold-press`, hold timeout 200, resolved late with its own release
(waited 60 ticks) and a later press of another key in the queue.  The pinned code answers hold; the
repaired code answers tap.  The same witness with the key's OWN second press instead of another key
(remark R1), and for `tap-hold-release` with a later press+release (remark R3). -/
theorem late_press_made_a_tap_a_hold_counterexample :
    (handleHoldTapPinned lateW .holdOnOtherKeyPress lateOther).2 = some .hold ∧
    (handleHoldTap lateW .holdOnOtherKeyPress lateOther).2 = some .tap ∧
    (handleHoldTapPinned lateW .holdOnOtherKeyPress lateOwn).2 = some .hold ∧
    (handleHoldTap lateW .holdOnOtherKeyPress lateOwn).2 = some .tap ∧
    (handleHoldTapPinned lateW .permissiveHold lateOther).2 = some .hold ∧
    (handleHoldTap lateW .permissiveHold lateOther).2 = some .tap := by
  decide

example : NoPress ([] : List Queued) ∧ (⟨.release ((0, 30) : Coord), 1⟩ : Queued).ev = .release (0, 30) :=
  ⟨(fun _ h => by cases h), rfl⟩

/-! ### [t8:concurrent-overdue] `concurrent-tap-hold yes`: a key whose countdown ran out in the queue -/

/-- **concurrent_overdue_tap_is_hold_counterexample** (known finding, remark R4; the statement "tap
if the key is released before the hold timeout has elapsed" is FALSE of the code with
`concurrent-tap-hold yes`).  With the option on, a plain `tap-hold` press that waited `d ≥ T` ticks
in the queue behind another undecided tap-hold gets the countdown `T ∸ d = 0` and the compensation
`0`; its first `tick_wt` then answers the timeout (= hold) action WHATEVER is queued - in particular
when the key's own release has been waiting there for hundreds of ticks, i.e. the key was tapped for
a few milliseconds long ago.  Witness on the real code: `(defcfg concurrent-tap-hold yes)`,
a = `(tap-hold 0 300 a lctl)`, b = `(tap-hold 0 200 b lsft)`, `d:a t:10 d:b t:50 u:b t:400 u:a`:
b was down for 50 of its 200 ms and comes out as LShift (without the option: as b). -/
theorem concurrent_overdue_tap_is_hold_counterexample (s : Layout) (hq : s.quickTapHoldTimeout = true)
    (hw : s.waiting = none) (c : Coord) (d T : Nat) (hold tap to : Action) (iv : Nat) (ls : List Nat)
    (hd : T ≤ d) :
    ∃ w, (armHoldTapWait s c d T hold tap to .default iv ls).waiting = some w ∧ w.timeout = 0 ∧
      ∀ (q : List Queued) (aq : ActionQueue), ∃ w', tickWt w q aq = .ok (w', q, aq, some (.timeout, none)) := by
  have key : ∀ S : Layout, (updateCoord S c).waiting = S.waiting := by
    intro S; unfold updateCoord; split <;> rfl
  refine ⟨{ coord := c, timeout := T - d, delay := 0, ticks := 0, hold := hold, tap := tap,
            timeoutAction := to, config := .holdTap .default, layerStack := ls, prevQueueLen := 255 }, ?_, ?_, ?_⟩
  · unfold armHoldTapWait
    simp only [hw, hq, if_true]
    rw [key]
  · show T - d = 0
    omega
  · intro q aq
    have h0 : T - d - 1 = 0 := by omega
    rw [tickWt_holdTap _ .default rfl q aq, handleHoldTap_overdue _ .default q h0 rfl]
    exact ⟨_, rfl⟩

example : (0 : Nat) + 200 ≤ 290 := by decide

/-! ### Keys pressed while the decision is pending -/

/-- **pending_events_are_buffered**: an event arriving while fewer than 32 are queued is appended to
the queue and nothing else happens — whatever is waiting. -/
theorem pending_events_are_buffered (s : Layout) (e : Ev) (hq : s.queue.length < QUEUE_SIZE) :
    ∃ s', s.event e = .ok s' ∧ s'.queue = s.queue ++ [⟨e, 0⟩] ∧ s'.states = s.states ∧
      s'.waiting = s.waiting ∧ s'.extraWaiting = s.extraWaiting := by
  unfold Layout.event
  rw [FUEL_succ]
  cases e <;> simp only [event, pushBackWrap, hq, if_true] <;> exact ⟨_, rfl, rfl, rfl, rfl, rfl⟩

/-- **buffered_events_replayed_in_order**: once nothing is waiting (and the rapid-event pause is
over) each tick takes exactly the oldest queued event and processes it. -/
theorem buffered_events_replayed_in_order (s : Layout) (h1 : s.waiting = none) (h2 : s.extraWaiting = [])
    (h3 : s.oneshot.pauseInputProcessingTicks = 0) (q : Queued) (rest : List Queued)
    (hq : s.queue = q :: rest) : tickMain s = dequeue FUEL (s.setQueue rest) q :=
  tickMain_pops h1 h2 h3 q rest hq

/-- while another tap-hold is still waiting in `extra_waiting`, nothing is taken from the queue -/
theorem nothing_dequeued_while_extra_waiting (s : Layout) (h1 : s.waiting = none)
    (h2 : s.extraWaiting ≠ []) : tickMain s = .ok (s, .noEvent) :=
  tickMain_blocked h1 h2

/-! ### Non-vacuity -/

def sampleW : Waiting :=
  { coord := (0, 30), timeout := 200, delay := 1, ticks := 0, hold := .keyCode 42, tap := .keyCode 30,
    timeoutAction := .keyCode 42, config := .holdTap .permissiveHold, layerStack := [0], prevQueueLen := 255 }

example : sampleW.config = .holdTap .permissiveHold ∧ skips .permissiveHold = false ∧ sampleW.timeout = 200 ∧
    1 ≤ 200 ∧ (sampleW.prevQueueLen = 255 ∨ sampleW.prevQueueLen = 0) := ⟨rfl, rfl, rfl, by decide, Or.inl rfl⟩

end KVerif.C05
