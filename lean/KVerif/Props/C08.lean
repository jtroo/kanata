/-
C08 — macros play exactly their key list, in order, and always end with keys released.
Property theorems only; helper lemmas are in Lemmas/Macro*.lean.
-/
import KVerif.Lemmas.MacroTick
import KVerif.Gen.MacroConsts
namespace KVerif.C08
open KVerif.L KVerif.Macro

/-! ## Expansion: the parser model produces exactly the spelling -/

/-- **expand_spells** (full).  For every macro body — any nesting depth, any number of items, keys,
delays, output chords, custom items (unicode, mouse …), list-form actions, plain groups and groups
held under modifier prefixes written `S-(…)`, `S- (…)` or `S-$var` — that satisfies what the parser
insists on (a body is not empty, delays are 1..=65535, a held group has at least one modifier, no
`O-` pseudo-modifier), the parser model — which walks the parameter list with remainder passing as
`parse_macro_item_impl` does, consuming two elements for a bare prefix followed by a list — returns
exactly the in-order spelling of the body followed by `Complete`: nothing added, nothing dropped,
nothing reordered; modifiers are pressed before and released after their group (in the order
written), chords are released in reverse order. -/
theorem expand_spells (body : List Body) (hne : body ≠ []) (hok : allOk body = true)
    (hov : (spellAll body).any isOverlap = false) :
    parseMacro (flattenAll body) = .ok (spellAll body ++ [.complete]) := by
  unfold parseMacro
  rw [flattenAll_isEmpty body hne, parseAll_spells _ body hok (Nat.le_refl _)]
  simp [hov]

/-- **expand_accepts_only_bodies** (full).  Conversely, every parameter list the parser model
accepts is the flattening of a well-formed body, and the event list is that body's spelling plus
`Complete` — so `expand_spells`, `expand_balanced` and the playback theorems speak about every
macro the parser model can produce, not about a subset of them. -/
theorem expand_accepts_only_bodies (params : List Item) (evs : List SeqEv)
    (h : parseMacro params = .ok evs) :
    ∃ body, params = flattenAll body ∧ body ≠ [] ∧ allOk body = true ∧
      (spellAll body).any isOverlap = false ∧ evs = spellAll body ++ [.complete] := by
  unfold parseMacro at h
  obtain ⟨hne, h⟩ := ok_of_guard h
  split at h
  · cases h
  · rename_i es hp
    obtain ⟨hov, h⟩ := ok_of_guard h
    cases h
    obtain ⟨bs, rfl, h2, rfl⟩ := parseAll_sound _ _ _ hp
    exact ⟨bs, rfl, fun hb => hne (by rw [hb]; rfl), h2, by simpa using hov, rfl⟩

/-- **expand_balanced** (full).  In the expansion of every macro body, every `Press k` is followed
later by a `Release k`; the events are presses, releases, delays and custom items only, so the
final `Complete` is the only one; and for every key the presses and releases are well nested (a
Dyck word: no release of `k` while no press of `k` is open, and none left open at the end) — a tap
is self-contained, a chord opens and closes its keys, a held group opens its modifiers before and
closes them after its items. -/
theorem expand_balanced (body : List Body) :
    (∀ pre k post, spellAll body = pre ++ .press k :: post → SeqEv.release k ∈ post) ∧
    (spellAll body).all isStep = true ∧
    (∀ k d, walk k d (spellAll body) = some d) :=
  ⟨(closedB_iff _).mp (closedB_spellAll body), spellAll_steps body, fun k d => walk_spellAll k body d⟩

/-! ## Playback: a single active macro -/

/-- **slots_append** (full): where each event falls in the schedule.  The events before `e` take
`(slots pre).length` ticks; `e` is performed on the next tick and occupies `ticksOf e` ticks in all —
one for a press, release or custom item, exactly `d` for a delay of `d ≥ 1` — during the rest of
which nothing happens; then the events after it follow.  So the step after a delay `d` comes `d + 1`
ticks after the step before the delay: never sooner than stated. -/
theorem slots_append (pre : List SeqEv) (e : SeqEv) (post : List SeqEv) :
    slots (pre ++ e :: post) =
      slots pre ++ some e :: List.replicate (ticksOf e - 1) none ++ slots post := by
  induction pre with
  | nil => simp [slots]
  | cons p pre ih => simp only [List.cons_append, slots, ih, List.append_assoc]

/-- **macro_trace** (full).  A single active macro — any list `evs` of presses, releases, delays and
custom items followed by `Complete`, as the parser emits them — in a layout in which no
other sequence is active: tick after tick `process_sequences` performs exactly the schedule
`slots evs` on `states`: on the `n`-th tick the `n`-th slot — each press pushes one `FakeKey`, each
release removes the `FakeKey`s of its key, each custom item is queued, at most one step per tick and in
the order spelled, a delay of `d` holding everything for exactly `d` ticks — while the macro stays
the one active sequence; on the tick after the last step `Complete` ends it, nothing else
changes, and the ring is empty again (or holds a fresh copy of the latest held repeating macro). -/
theorem macro_trace (evs : List SeqEv) (hall : evs.all isStep = true) (s : Layout) (cur : Option SeqEv)
    (h : s.activeSequences = [⟨cur, 0, none, evs ++ [.complete]⟩]) :
    (∀ n, n ≤ (slots evs).length →
      (runSeq n s).states = playStates s.states ((slots evs).take n) ∧
      ∃ q, (runSeq n s).activeSequences = [q]) ∧
    (runSeq ((slots evs).length + 1) s).states = playStates s.states (slots evs) ∧
    (runSeq ((slots evs).length + 1) s).activeSequences = restartOf (playStates s.states (slots evs)) := by
  obtain ⟨e1, cur', e2⟩ := effs_steps evs hall cur [.complete]
  have hrun : ∀ n, n ≤ (slots evs).length →
      (runSeq n s).states = playStates s.states ((slots evs).take n) ∧
      (runSeq n s).activeSequences = [seqRun n ⟨cur, 0, none, evs ++ [.complete]⟩] := by
    intro n hn
    -- `Complete` is still to come after the last step, so the sequence has not run empty before
    obtain ⟨r1, r2⟩ := single_run s _ h n (seqRun_ne_nil_of_le hn (by rw [e2]; nofun))
    exact ⟨by rw [r1, playStates_eq, ← effs_take _ _ n hn, e1, List.map_take], r2⟩
  refine ⟨fun n hn => ⟨(hrun n hn).1, _, (hrun n hn).2⟩, ?_⟩
  obtain ⟨r1, r2⟩ := hrun (slots evs).length (Nat.le_refl _)
  rw [List.take_length] at r1
  rw [e2] at r2
  obtain ⟨s1, s2⟩ := single_step (runSeq (slots evs).length s) _ r2
  rw [runSeq_succ_last, s1, s2, r1]
  exact ⟨rfl, rfl⟩

/-- **macro_ends_released** (full, single macro).  When a single macro whose events are what the
parser emits for some body (`expand_balanced`: steps in which every press is followed by a release)
has finished, no `FakeKey` of a key it presses or releases remains in `states` — even one that
was there before — and it has left no `FakeKey` that was not there before: every key it pressed
is released. -/
theorem macro_ends_released (evs : List SeqEv) (hall : evs.all isStep = true) (hbal : closedB evs = true)
    (s : Layout) (cur : Option SeqEv) (h : s.activeSequences = [⟨cur, 0, none, evs ++ [.complete]⟩]) :
    ∀ k, St.fakeKey k ∈ (runSeq ((slots evs).length + 1) s).states →
      St.fakeKey k ∈ s.states ∧ SeqEv.press k ∉ evs ∧ SeqEv.release k ∉ evs := by
  intro k hk
  rw [(macro_trace evs hall s cur h).2.1, playStates_slots] at hk
  exact fold_fake evs s.states k hbal hall hk

/-- the same for the macro of any body: it applies to everything `expand_spells` produces -/
theorem macro_of_body_ends_released (body : List Body) (s : Layout) (cur : Option SeqEv)
    (h : s.activeSequences = [⟨cur, 0, none, spellAll body ++ [.complete]⟩]) :
    ∀ k, St.fakeKey k ∈ (runSeq ((slots (spellAll body)).length + 1) s).states →
      St.fakeKey k ∈ s.states ∧ SeqEv.press k ∉ spellAll body :=
  fun k hk =>
    have r := macro_ends_released _ (spellAll_steps body) (closedB_spellAll body) s cur h k hk
    ⟨r.1, r.2.1⟩

/-- **cancel_ends_released** (full): every cancellation path leaves no active sequence and no
`FakeKey` at all — the `CancelSequences` action of keyberon, and the three sites of
src/kanata/mod.rs (`CancelMacroOnRelease` when the key of a release-cancel macro is released, a
key press while the countdown of a cancel-on-press macro runs), which also drop the
`RepeatingSequence` states so that a repeating macro does not start again. -/
theorem cancel_ends_released :
    (∀ (s : Layout) (a : Action) (c : Coord) (o : Bool),
      (armCancelSequences s a c o).activeSequences = [] ∧ ∀ k, St.fakeKey k ∉ (armCancelSequences s a c o).states) ∧
    (∀ l : Layout, (cancelAll l).activeSequences = [] ∧ (∀ k, St.fakeKey k ∉ (cancelAll l).states) ∧
      ∀ evs c, St.repeatingSequence evs c ∉ (cancelAll l).states) ∧
    (∀ k : KState, 0 < k.cancelDur → k.prePress.lay = cancelAll k.lay ∧ k.prePress.cancelDur = 0) ∧
    (∀ (tbl : Nat → List CAct) (k : KState) (id : Nat), CAct.cancelMacroOnRelease ∈ tbl id →
      (customEffects tbl k (.release id)).lay.activeSequences = [] ∧
      ∀ key, St.fakeKey key ∉ (customEffects tbl k (.release id)).lay.states) := by
  refine ⟨?_, ?_, ?_, ?_⟩
  · intro s a c o
    have hf := armCancelSequences_fields s a c o
    refine ⟨hf.1, ?_⟩
    intro k hk
    rw [hf.2, List.mem_filter] at hk
    simp at hk
  · intro l
    exact (cancelAll_inv l).2
  · intro k hk
    unfold KState.prePress
    simp [hk]
  · intro tbl k id hmem
    -- once cancelled, the rest of the list keeps the ring and the fake keys empty
    have key : ∀ (l : List CAct) (k : KState),
        (k.lay.activeSequences = [] ∧ ∀ key, St.fakeKey key ∉ k.lay.states) ∨ CAct.cancelMacroOnRelease ∈ l →
        (customEffects (fun _ => l) k (.release id)).lay.activeSequences = [] ∧
          ∀ key, St.fakeKey key ∉ (customEffects (fun _ => l) k (.release id)).lay.states := by
      intro l
      induction l with
      | nil => exact fun k h => h.resolve_right nofun
      | cons a rest ih =>
        intro k h
        cases a with
        | cancelMacroOnRelease => exact ih _ (.inl ⟨rfl, (cancelAll_inv k.lay).2.2.1⟩)
        | cancelMacroOnNextPress _ | other =>
          exact ih k (h.imp_right (List.mem_of_ne_of_mem (by exact nofun)))
    exact key (tbl id) k (.inr hmem)

/-- **repeat_only_while_held** (full).  `process_sequences` starts a sequence on its own only in
one situation: its loop has left the ring empty and a `RepeatingSequence` state is present — then
exactly one fresh copy of the latest pressed one is started, nothing else.  With no such state
present the ring stays empty.  That state is pushed by the press of a `macro-repeat…` key
(`armSequence … true`) and removed by the release of that key's coordinate (and by the
cancellation glue), so a repeating macro restarts only while its key is held; a run in progress when
the key is released plays to its end (`macro_trace`) and is not restarted. -/
theorem repeat_only_while_held (s : Layout) :
    ((processSequences s).activeSequences =
      if (seqLoop s.activeSequences.length s).activeSequences.isEmpty
      then restartOf (seqLoop s.activeSequences.length s).states
      else (seqLoop s.activeSequences.length s).activeSequences) ∧
    (∀ states, (∀ evs c, St.repeatingSequence evs c ∉ states) → restartOf states = []) ∧
    (∀ states q, q ∈ restartOf states → ∃ evs c, St.repeatingSequence evs c ∈ states ∧ q = { remaining := evs }) ∧
    (∀ (f : Bool) (c : Coord) (states : List St) (cu : CustomEv) evs,
      St.repeatingSequence evs c ∉ (releaseStates f c states cu).1) := by
  refine ⟨?_, ?_, ?_, ?_⟩
  · rw [processSequences_eq, restartRepeating_seqs]
  · intro states h
    unfold restartOf
    split
    · rename_i evs hl
      obtain ⟨c, hc⟩ := lastRepeating_mem hl
      exact absurd hc (h evs c)
    · rfl
  · intro states q hq
    unfold restartOf at hq
    split at hq
    · rename_i evs hl
      obtain ⟨c, hc⟩ := lastRepeating_mem hl
      simp only [List.mem_singleton] at hq
      exact ⟨evs, c, hc, hq⟩
    · cases hq
  · intro f c states cu evs
    exact releaseStates_no_rep f c states cu evs

/-! ## Interference: other keys and other macros -/

/-- **macro_projection_partial** (partial: at most 4 sequences in the ring).
Full statement: whatever else is typed or played meanwhile, an active macro performs its schedule.
Proved: in ANY layout state whose ring holds at most 4 sequences — whatever keys are held, queued or
waiting, whatever the other sequences are — one `process_sequences` pass makes every active sequence
perform exactly ONE effect, `seqEffect q`, and advance by `seqStep q`; both are functions of the
sequence alone (they do not take the layout), so what a macro does on its n-th tick is determined by
the macro (`effs_steps`: its `slots`), not by other input; the effects are applied to `states` in
ring order; a sequence leaves the ring only when its own events are used up; and (second part)
nothing that an action of the C08 fragment without `CancelSequences` does — plain keys, custom
actions, `multi`, starting other macros while the ring has room — changes a sequence that is
already active: it only appends the sequences it starts.
Missing: a 5th sequence (eviction), and the cancellation actions, which remove sequences by design. -/
theorem macro_projection_partial :
    (∀ s : Layout, s.activeSequences.length ≤ ACTIVE_SEQ_CAP →
      (seqLoop s.activeSequences.length s).activeSequences =
        s.activeSequences.flatMap (fun q => keep (seqStep q)) ∧
      (seqLoop s.activeSequences.length s).states =
        (s.activeSequences.map seqEffect).foldl effStates s.states ∧
      processSequences s = restartRepeating (seqLoop s.activeSequences.length s)) ∧
    (∀ fuel s a coord delay o ls s' cu, SeqInv s → MFrag a → a ≠ .trans → NoCancel a →
      s.activeSequences.length + seqCount a ≤ ACTIVE_SEQ_CAP →
      doAction fuel s a coord delay o ls = .ok (s', cu) →
      ∃ started, s'.activeSequences = s.activeSequences ++ started) := by
  refine ⟨?_, fun fuel s a coord delay o ls s' cu hi hf hnt hnc hroom h =>
    ((frag_all fuel).1 s a coord delay o ls s' cu hi hf hnt h).ext hnc hroom⟩
  exact fun s h => ⟨(seqLoop_all s h).1, (seqLoop_all s h).2, processSequences_eq s⟩

/-! ## All histories: macros end released while the ring of 4 is not overrun -/

/-- inputs of a run: a key event, or one millisecond -/
inductive In
  | ev (e : Ev)
  | tick
  deriving Repr

/-- the layout model run on a history -/
def runL : Layout → List In → Except Crash Layout
  | s, [] => .ok s
  | s, .ev e :: r =>
    match s.event e with
    | .error c => .error c
    | .ok s' => runL s' r
  | s, .tick :: r =>
    match tick s with
    | .error c => .error c
    | .ok (s', _) => runL s' r

/-- **macro_ends_released_partial** (partial: the configuration fragment below; no bound on the
history any more).
Full statement: for every configuration and every history, whenever no macro is playing no key
pressed by a macro is down.  It was false of the pinned code (a 5th concurrently active macro evicted
the oldest from the ring of 4 and stranded its keys: `macro_ring_eviction_strands_key_counterexample`);
since the `fix:` commit that introduced `start_sequence` an evicted sequence's outstanding releases
are performed at the eviction, and the hypothesis "at most 4 macros concurrently active" is gone.
Proved: for every configuration built from plain keys, no-op and transparent keys, custom actions,
`CancelSequences` and the macro actions (a `Sequence` / `RepeatableSequence` whose events are the
parser's, alone or inside a `multi` with a custom action — what the eight macro list actions
compile to, `compiled_in_fragment`), started quiet, and EVERY history of presses, releases and ticks
that the layout processes — any order and timing, physically consistent or not, macros activated
once, repeatedly, overlapping each other and plain keys, sharing keys and modifiers, any number of
them concurrently (also more than 4), any number of events pending (also bursts beyond the queue of
32): after the whole history (hence after every prefix of it) every `FakeKey` in `states` is owed a
`Release` by a sequence that is still active, every active sequence is a suffix of what the parser
emitted, and therefore **whenever no sequence is active, no `FakeKey` is left**.
Hypotheses that remain: `CfgM` (the configuration fragment), `Quiet` and `SeqInv` of the start
state (true of a fresh layout, `init_ok`), and that the run returns a state (`runL … = .ok`; on this
fragment the model has no crash outcome other than the index checks of `resolve_coord`).
Missing for the full statement: macros next to tap-hold, one-shot, tap-dance, chord, layer, fork and
switch actions, and sequences containing `Tap` events (never emitted by kanata's parser). -/
theorem macro_ends_released_partial : ∀ (ins : List In) (s : Layout), CfgM s.cfg → Quiet s → SeqInv s →
    ∀ s', runL s ins = .ok s' →
      SeqInv s' ∧ Quiet s' ∧ (s'.activeSequences = [] → ∀ k, St.fakeKey k ∉ s'.states) := by
  intro ins
  induction ins with
  | nil =>
    intro s _ hq hi s' h
    simp only [runL] at h
    injection h with h; subst h
    exact ⟨hi, hq, hi.released⟩
  | cons i rest ih =>
    intro s hc hq hi s' h
    cases i with
    | ev e =>
      simp only [runL] at h
      split at h
      · cases h
      · rename_i s1 he
        obtain ⟨e1, e2, e3⟩ := event_inv hc hq hi e s1 he
        exact ih s1 (e3 ▸ hc) e1 e2 s' h
    | tick =>
      simp only [runL] at h
      split at h
      · cases h
      · rename_i s1 cu ht
        obtain ⟨t1, t2, t3⟩ := tick_inv hc hq hi s1 cu ht
        exact ih s1 (t3 ▸ hc) t1 t2 s' h

/-- inputs of a run of the Kanata-level model -/
inductive KIn
  | press (c : Coord)
  | release (c : Coord)
  | tick
  deriving Repr

def runK (tbl : Nat → List CAct) : KState → List KIn → Except Crash KState
  | k, [] => .ok k
  | k, .press c :: r =>
    match k.press c with
    | .error e => .error e
    | .ok k' => runK tbl k' r
  | k, .release c :: r =>
    match k.release c with
    | .error e => .error e
    | .ok k' => runK tbl k' r
  | k, .tick :: r =>
    match k.tick tbl with
    | .error e => .error e
    | .ok (k', _) => runK tbl k' r

/-- **macro_ends_released_kanata_partial** (partial: the same configuration fragment; no bound on
the history).  The same with the cancellation glue of src/kanata/mod.rs in the loop (release-cancel,
cancel-on-press and their combination, whatever custom action table `tbl` the configuration has):
whatever is cancelled when, however many macros run at once, whenever no sequence is active no
`FakeKey` is left. -/
theorem macro_ends_released_kanata_partial (tbl : Nat → List CAct) : ∀ (ins : List KIn) (k : KState),
    CfgM k.lay.cfg → KInv k → ∀ k', runK tbl k ins = .ok k' →
      KInv k' ∧ (k'.lay.activeSequences = [] → ∀ key, St.fakeKey key ∉ k'.lay.states) := by
  intro ins
  induction ins with
  | nil =>
    intro k _ hi k' h
    simp only [runK] at h
    injection h with h; subst h
    exact ⟨hi, hi.inv.released⟩
  | cons i rest ih =>
    intro k hc hi k' h
    cases i with
    | press c =>
      simp only [runK] at h
      split at h
      · cases h
      · rename_i k1 he
        obtain ⟨e1, e2⟩ := kpress_inv hc hi c k1 he
        exact ih k1 (e2 ▸ hc) e1 k' h
    | release c =>
      simp only [runK] at h
      split at h
      · cases h
      · rename_i k1 he
        obtain ⟨e1, e2⟩ := krelease_inv hc hi c k1 he
        exact ih k1 (e2 ▸ hc) e1 k' h
    | tick =>
      simp only [runK] at h
      split at h
      · cases h
      · rename_i k1 keys ht
        obtain ⟨t1, t2⟩ := ktick_inv tbl hc hi k1 keys ht
        exact ih k1 (t2 ▸ hc) t1 k' h

/-- a freshly created layout is quiet and satisfies the invariant (the theorems apply from start-up) -/
theorem init_ok (cfg : LCfg) (tv2 dfl qth : Bool) (osd : Nat) :
    Quiet { cfg := cfg, transV2 := tv2, delegateToFirstLayer := dfl, quickTapHoldTimeout := qth,
            oneshot := { pauseInputProcessingDelay := osd } } ∧
    SeqInv { cfg := cfg, transV2 := tv2, delegateToFirstLayer := dfl, quickTapHoldTimeout := qth,
             oneshot := { pauseInputProcessingDelay := osd } } :=
  ⟨⟨rfl, rfl, rfl, rfl, rfl⟩,
   ⟨fun _ h => absurd h List.not_mem_nil, fun _ h => absurd h List.not_mem_nil, fun _ _ h => absurd h List.not_mem_nil,
    Nat.zero_le _⟩⟩

/-- the eight macro list actions compile to actions of the fragment -/
theorem compiled_in_fragment (form : Form) (rep : Bool) (params : List Item) (c : Compiled) (id : Nat)
    (h : compile form rep params = .ok c) : MFrag (c.toAction id) ∧ seqCount (c.toAction id) = 1 := by
  unfold compile at h
  split at h
  · cases h
  · rename_i evs hp
    obtain ⟨body, _, _, _, _, hev⟩ := expand_accepts_only_bodies params evs hp
    injection h with h; subst h
    have hok : EvsOK evs := hev ▸ EvsOK_spell body
    unfold Compiled.toAction
    cases form <;> cases rep <;> simp [MFrag, MFragL, seqCount, seqCountL, hok]

/-! ## The ring of 4 -/

/-- the macro `mod-(…6 ms…)`: press a modifier, wait, release it -/
def ringMacro (m : KeyCode) : List SeqEv := [.press m, .delay 6, .release m, .complete]

/-- what `do_action` did for a macro key at the pinned commit (before `start_sequence`) -/
def ringStartPinned (s : Layout) (m : KeyCode) : Layout :=
  armSequencePinned s (.sequence (ringMacro m)) (ringMacro m) (0, m) false false

/-- what `do_action` does for a macro key now -/
def ringStart (s : Layout) (m : KeyCode) : Layout :=
  armSequence s (.sequence (ringMacro m)) (ringMacro m) (0, m) false false

/-- five macros started one tick apart (LShift, LCtrl, LAlt, LGui, RAlt held over a 6 ms delay),
then 12 more ticks -/
def ringRun (start : Layout → KeyCode → Layout) : Layout :=
  let s : Layout := { cfg := { layers := [], srcKeys := [] } }
  let s := processSequences (start s 42)
  let s := processSequences (start s 29)
  let s := processSequences (start s 56)
  let s := processSequences (start s 125)
  let s := processSequences (start s 100)
  runSeq 12 s

/-- **macro_ring_eviction_strands_key_counterexample** (about the pinned code, `armSequencePinned`).
`active_sequences` is a ring of 4 that drops its oldest element when a 5th is pushed
(`pushBackWrap`).  Five well-formed macros (each presses a modifier, waits 6 ms and releases it —
`EvsOK`, so `macro_ends_released` applies to each alone) started on consecutive ticks: starting the
fifth evicted the first while it still held LShift; when all sequences had ended, `FakeKey LShift`
was still in `states` and nothing was left that would ever release it — the invariant of
`macro_ends_released_partial` is false of that state.  Reproduced on the real keyberon `Layout` and on
a whole `Kanata` at the pinned commit (DESIGN §7 row 8); repaired by the `fix:` commit that
introduced `start_sequence` (KNOWN_FINDINGS: fixed). -/
theorem macro_ring_eviction_strands_key_counterexample :
    (∀ m, EvsOK (ringMacro m)) ∧
    (ringRun ringStartPinned).activeSequences = [] ∧ St.fakeKey 42 ∈ (ringRun ringStartPinned).states ∧
    ¬ SeqInv (ringRun ringStartPinned) := by
  refine ⟨fun m => ⟨[.press m, .delay 6, .release m], rfl, by simp [isStep], by simp [closedB]⟩,
    by decide, by decide, ?_⟩
  intro h
  exact h.released (by decide) 42 (by decide)

/-- **ring_eviction_releases_owed_keys** (full; the code as it now is).  Starting a macro keeps the
invariant whether or not the ring of 4 has room: when the push evicts the oldest sequence,
`start_sequence` performs, at that moment, every release the evicted sequence still owed (and the
release of a pending tap), so no `FakeKey` is left without an active sequence that will release it.
On the witness of the counterexample the same five macros now end with nothing held.  What remains
of the ring's capacity: the evicted macro is cut short — its remaining presses are never played —
which `macro_projection_partial` excludes by its bound of 4. -/
theorem ring_eviction_releases_owed_keys :
    (∀ (s : Layout) (a : Action) (evs : List SeqEv) (c : Coord) (o rep : Bool), SeqInv s → EvsOK evs →
      SeqInv (armSequence s a evs c o rep)) ∧
    (ringRun ringStart).activeSequences = [] ∧ (ringRun ringStart).states = [] :=
  ⟨fun s a evs c o rep h hev => (armSequence_inv s a evs c o rep h hev).1, by decide, by decide⟩

/-! ## The cancel-on-press window -/

theorem totalDuration_sum : ∀ (l : List SeqEv) (acc : Nat),
    acc + (l.map evDur).sum ≤ U32_MAX →
    l.foldl (fun d e => min (d + evDur e) U32_MAX) acc =
      acc + (l.map evDur).sum := by
  intro l
  induction l with
  | nil => intro acc _; simp
  | cons e rest ih =>
    intro acc h
    simp only [List.map_cons, List.sum_cons, List.foldl_cons] at h ⊢
    rw [Nat.min_eq_left (by omega), ih _ (by omega)]
    omega

/-- **duration_is_playback_length** (full).  The duration `macro-cancel-on-press` hands to
`CancelMacroOnNextPress` (`macro_sequence_event_total_duration` of the parser) is exactly the
number of ticks the layout takes to play the macro (`macro_trace`: one per step, `d` per delay,
one for `Complete`), for every event list the parser can emit (delays ≥ 1) short of 2³² ticks.
The countdown starts on the tick the macro is started and is decremented on that tick already, so it
is positive — a key press cancels — exactly until the last step has been performed. -/
theorem duration_is_playback_length (evs : List SeqEv) (hd : ∀ d, SeqEv.delay d ∈ evs → 1 ≤ d)
    (hs : (slots evs).length + 1 ≤ U32_MAX) :
    totalDuration (evs ++ [.complete]) = (slots evs).length + 1 := by
  have hlen : ∀ l : List SeqEv, (∀ d, SeqEv.delay d ∈ l → 1 ≤ d) →
      (l.map evDur).sum = (slots l).length := by
    intro l
    induction l with
    | nil => intro _; rfl
    | cons e rest ih =>
      intro h
      have := ih (fun d hm => h d (List.mem_cons_of_mem _ hm))
      simp only [List.map_cons, List.sum_cons, this, slots, List.length_cons, List.length_append,
        List.length_replicate]
      cases e <;> simp only [ticksOf, evDur] <;> try omega
      rename_i d
      have := h d (by simp)
      rw [Nat.max_eq_left this]; omega
  unfold totalDuration
  have hc : evDur .complete = 1 := rfl
  rw [totalDuration_sum _ 0 (by simp only [List.map_append, List.sum_append, hlen evs hd]; simpa [hc] using hs)]
  simp only [List.map_append, List.sum_append, hlen evs hd]
  simp [hc]

/-- capacities and constants used by the model are the ones in the source tree now -/
theorem consts_from_source :
    ACTIVE_SEQ_CAP = Gen.MACRO_ACTIVE_SEQ_CAP ∧ Gen.MACRO_ACTIVE_SEQ_WRAPPING = true ∧
    STATES_CAP = Gen.MACRO_STATES_CAP ∧ KEY_OVERLAP = Gen.MACRO_KEY_OVERLAP ∧
    Gen.MACRO_DELAY_IS_NONZERO_U16 = true ∧ Gen.MACRO_COMPLETE_APPENDED = true := by decide

/-! ### Non-vacuity -/

/-- `S-(a 500 b) C-S-x (unicode é) (q (5 w)) A-RA- (z)` -/
def sampleBody : List Body :=
  [.held false none [42] [.key 30, .delay 500, .key 48], .chord [29, 42, 45], .actList (.custom 233) [],
   .group [.key 16, .group [.delay 5, .key 17]], .held false none [56, 100] [.key 44]]

example : sampleBody ≠ [] ∧ allOk sampleBody = true ∧ (spellAll sampleBody).any isOverlap = false := by
  refine ⟨by simp [sampleBody], by decide, by decide⟩

example : parseMacro (flattenAll sampleBody) = .ok
    [.press 42, .press 30, .release 30, .delay 500, .press 48, .release 48, .release 42,
     .press 29, .press 42, .press 45, .release 45, .release 42, .release 29, .custom 233,
     .press 16, .release 16, .delay 5, .press 17, .release 17,
     .press 56, .press 100, .press 44, .release 44, .release 56, .release 100, .complete] := by rfl

/-- an event list as in the hypotheses of `macro_trace` / `macro_ends_released` -/
def sampleEvs : List SeqEv := [.press 42, .press 30, .release 30, .delay 3, .press 48, .release 48, .release 42]

example : sampleEvs.all isStep = true ∧ closedB sampleEvs = true ∧
    (slots sampleEvs).length = 9 ∧
    playStates [] (slots sampleEvs) = [] ∧
    playStates [] ((slots sampleEvs).take 7) = [.fakeKey 42, .fakeKey 48] := by decide

/-- a configuration of the fragment: a plain macro, a repeating one with a custom action, and the cancel key -/
def sampleCfg : LCfg :=
  { layers := [[((0, 2), .sequence (sampleEvs ++ [.complete])),
                ((0, 3), .multipleActions [.repeatableSequence (sampleEvs ++ [.complete]), .custom 0]),
                ((0, 30), .keyCode 30), ((0, 11), .cancelSequences)]],
    srcKeys := [(2, .keyCode 2), (3, .keyCode 3), (30, .keyCode 30), (11, .keyCode 11)] }

example : CfgM sampleCfg := by
  have hok : EvsOK (sampleEvs ++ [.complete]) := ⟨sampleEvs, rfl, by decide, by decide⟩
  refine ⟨?_, ?_⟩
  · intro tbl ht e he
    simp only [sampleCfg, List.mem_cons, List.mem_nil_iff, or_false] at ht
    subst ht
    simp only [List.mem_cons, List.mem_nil_iff, or_false] at he
    rcases he with rfl | rfl | rfl | rfl <;> simp [MFrag, MFragL, hok]
  · intro e he
    simp only [sampleCfg, List.mem_cons, List.mem_nil_iff, or_false] at he
    rcases he with rfl | rfl | rfl | rfl <;> simp [MFrag]

/-- the hypotheses of `macro_ends_released_partial` hold of the freshly created layout of this configuration -/
example : Quiet { cfg := sampleCfg } ∧ SeqInv { cfg := sampleCfg } :=
  ⟨⟨rfl, rfl, rfl, rfl, rfl⟩,
   ⟨fun _ h => absurd h List.not_mem_nil, fun _ h => absurd h List.not_mem_nil, fun _ _ h => absurd h List.not_mem_nil,
    Nat.zero_le _⟩⟩

end KVerif.C08
