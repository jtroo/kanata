/-
C02 (continued) — an accepted configuration never crashes or hangs event processing: the no-crash
statement of `Props/C02frag.lean` (`union_never_crashes`) extended, in stages, towards the whole action
grammar of `Model/Action.lean`.

What is proved here, for EVERY history (presses inside the layer table; releases of any coordinate at
all, also of keys that are not down; repeated presses; ticks; any order, any timing, any number of
events between two ticks) and from every state that meets the invariant (in particular the fresh one):

  stage 1+2  `tapdance_chords_never_crash`   union fragment + tap-dance (lazy and eager) + chords v1
                                             (incl. the decomposition into the action queue and the
                                             repetition of a chord's action on the participating keys)
  stage 3    `switch_never_crashes`          + `switch` (opcodes checked by the decidable `opsCompiled`,
                                             sound by `eval_no_crash` of C10; the yielded actions go
                                             through the action queue)
  stage 4    the overflow path of `Layout::event` (an event arriving while 32 are pending) is INSIDE all
             of these theorems: no bound on pending events is assumed (`overflow_path_is_covered`).
  `whole_grammar_never_crashes_partial`      the statement for `CfgWF'`; see there for what is missing
                                             of the whole grammar (`repeat`; tap-hold keys whose HOLD
                                             action is not a key, an output chord or layer-while-held
                                             — tap and timeout actions are arbitrary; chords v2 has its
                                             own theorem).

The actions may be nested arbitrarily: tap-dance members, chord actions, switch case actions, `multi`
members, `fork` branches and the tap and timeout actions of a tap-hold key are again actions of the
fragment.  Helper lemmas: Lemmas/NoCrashFull.lean
(`engine2`: induction over the recursion budget; `NC2`: the state invariant, which now allows a waiting
state of tap-dance / chord kind, an eager tap-dance state and entries in the action queue, all carrying
sub-actions of configured actions and coordinates inside the table), Lemmas/SwitchDecomp.lean.
-/
import KVerif.Lemmas.NoCrashFull
import KVerif.Lemmas.SwitchDecomp
import KVerif.Props.C02frag
namespace KVerif.C02
open KVerif.L KVerif.NCF KVerif.NCG
open KVerif.C04 (In runM)

/-! ## the conditions -/

/-- **CfgWF'** (decidable): what the run time relies on.  For each clause: does the real parser
guarantee it?

* `RangeG` (`nodeOK` on every node of every configured action, `flat` = all nested actions):
  - the repaired layer stack (fix 31b82c0) — a property of the code, not of the configuration;
  - there is a layer — parser: `deflayer` is mandatory (`parse_cfg_raw_string`, "no deflayer");
  - `layer-while-held` / one-shot-layer / tap-hold-layer targets exist — parser: `layer_idx`
    (parser/src/cfg/mod.rs) resolves names, an unknown name is an error;
  - a one-shot key holds a key, an output chord or layer-while-held — parser: `parse_one_shot`
    ("one-shot is only allowed to contain layer-while-held, a keycode, or a chord");
  - **tap-hold: the HOLD action is a key, an output chord or layer-while-held — NOT guaranteed by the
    parser** (`parse_tap_hold` accepts any action); this is a restriction of the theorem, see
    `whole_grammar_never_crashes_partial`.  The tap and timeout actions are arbitrary actions of the
    fragment (they run from `tick` with the whole budget, or — inside the tap-hold interval — nested);
  - tap-dance lists are non-empty — parser: `parse_tap_dance` ("the list must not be empty");
    needed: `empty_tap_dance_counterexample`;
  - chord coordinates lie inside the layer table — parser: `resolve_chord_groups` takes them from
    defsrc positions; needed: `chord_coordinate_counterexample`;
  - switch opcodes are compiler output within the length (4095) and depth (8) limits, every operator
    has an operand, every leaf is in range (`Switch.opsCompiled`) — parser: `parse_switch_case_bool`
    (parser/src/cfg/switch.rs) is the only producer and performs both checks;
  - no `repeat` (`rpt`, `rpt-any`) and no repeat-buffer action — NOT a parser guarantee: outside the
    theorem (the pinned defect c6daee1 is `C02.repeat_*` in Props/C02.lean);
  - the defsrc row holds no transparent / use-defsrc item — parser: the row is filled with key codes.
* `FuelG`: the explicit budget for action nesting, a closed formula in the configuration
  (`pressCostG + 2`, plus `14 + 32 * (pressCostG + 3)` when a one-shot key occurs, at most 3999) — an
  artefact of the fuelled model (see `fuel_budget_counterexample`); the parser bounds nesting only by
  the length of the configuration text.
Capacities (32 queued events, 16 one-shot keys, 8 extra waiting states, 8 action-queue entries, 64
states, 4 sequences, 12 layers) are NOT hypotheses: every overflow path is covered. -/
def CfgWF' (cfg : LCfg) : Prop := RangeG Switch.opsCompiled cfg ∧ FuelG cfg

instance (cfg : LCfg) : Decidable (CfgWF' cfg) := by unfold CfgWF'; exact inferInstance

/-- the state invariant for a configuration that meets `RangeG sw` (see `NCG.NC2`) -/
abbrev InvG (sw : List Nat → Bool) (cfg : LCfg) (s : Layout) : Prop :=
  NC2 cfg sw (maxCostG cfg) (pressCostG cfg) (cfgOshG cfg) s

/-- a state that meets the state conditions of the union theorem (`StartU`: in particular a freshly
created layout, `startU_init`) meets the invariant -/
theorem invG_start (sw : List Nat → Bool) (s : Layout) (hs : StartU s) : InvG sw s.cfg s := NC.toNC2 hs.nc

/-! ## stage 3 (contains stages 1, 2 and 4) -/

/-- **switch_never_crashes** (full, on the fragment `GAct`).  Configurations built — with arbitrary
nesting of `multi`, `fork`, tap-dance members, chord actions and switch case actions — from the union
fragment of `union_never_crashes` (keys, output chords, no-op, transparent, use-defsrc, layer-while-held,
layer-switch, release-key / release-layer, one-shot keys, macros, repeating macros, custom actions,
cancel, one-shot-pause-processing), **tap-hold keys** of every variant whose hold action is a key, an
output chord or layer-while-held and whose tap and timeout actions are ANY actions of the fragment
(the union theorem wanted all three simple), **tap-dance** (lazy and eager, any timeout, non-empty list), **chords v1**
(any group whose coordinates lie inside the table, any timeout) and **switch** (opcodes accepted by a
sound check `sw`, break and fallthrough cases): if the configuration is well-formed (`RangeG sw`) and
within the recursion budget (`FuelG`), EVERY history is processed without a crash outcome, from every
state that meets the invariant.  No bound on pending events (the overflow path of `Layout::event`
— flush of all nine waiting slots, then the oldest event processed at once, possibly re-entering
`event` through the one-shot table — is covered), held layers, active one-shot keys, queued actions or
history length. -/
theorem switch_never_crashes (sw : List Nat → Bool) (hsw : SwSound sw) (ins : List In) (s : Layout)
    (hr : RangeG sw s.cfg) (hf : FuelG s.cfg) (hs : InvG sw s.cfg s) (ht : InTable s.cfg ins) :
    ∃ t, runM s ins = .ok t :=
  run_ok2 (cfgOK2_of_range hr hsw) hf ins s hs ht

/-- **run_keeps_invariant**: the state reached meets the invariant again, so the theorem applies to
every continuation of the history -/
theorem run_keeps_invariant (sw : List Nat → Bool) (hsw : SwSound sw) (ins : List In) (s : Layout)
    (hr : RangeG sw s.cfg) (hf : FuelG s.cfg) (hs : InvG sw s.cfg s) (ht : InTable s.cfg ins) :
    ∃ s', runL s ins = .ok s' ∧ s'.cfg = s.cfg ∧ InvG sw s.cfg s' := by
  obtain ⟨s', h1, h2⟩ := runL_ok2 (cfgOK2_of_range hr hsw) hf ins s hs ht
  exact ⟨s', h1, h2.cfgEq, h2⟩

/-- **fragment_contains_the_union**: every action of the union fragment of `union_never_crashes` is an
action of the fragment of this file (for any opcode check), so the theorems here subsume it -/
theorem fragment_contains_the_union (cfg : LCfg) (sw : List Nat → Bool) (a : Action)
    (h : UAct cfg.layers.length a = true) : GAct cfg sw a = true :=
  union_in_G cfg sw (ucost a) a (Nat.le_refl _) h

/-! ## stages 1 and 2: no hypothesis about opcodes -/

/-- **tapdance_chords_never_crash** (full, on the fragment without `switch`): the union fragment with
tap-dance (stage 1) and chords v1 (stage 2), arbitrarily nested.  `RangeG (fun _ => false)` admits no
switch case, so nothing is assumed about opcode arrays. -/
theorem tapdance_chords_never_crash (ins : List In) (s : Layout) (hr : RangeG (fun _ => false) s.cfg)
    (hf : FuelG s.cfg) (hs : StartU s) (ht : InTable s.cfg ins) : ∃ t, runM s ins = .ok t :=
  switch_never_crashes (fun _ => false) (fun _ h => by cases h) ins s hr hf (invG_start _ s hs) ht

/-! ## the statement for `CfgWF'` -/

/-
FULL STATEMENT (not proved):
  theorem whole_grammar_never_crashes (cfg) (h : CfgWF cfg) (ins) (ht : InTable cfg ins) :
      ∃ t, runM { cfg := cfg } ins = .ok t
where `CfgWF` admits EVERY action of Model/Action.lean that the parser can produce.
Missing from `CfgWF'` below:
  (a) `repeat` (rpt, rpt-any).  After fix c6daee1 the saved action runs with the repeat slot emptied, so
      termination rests on the SIZE of the saved action going down along nested repeats — except
      when a one-shot key inside it overflows the one-shot table and re-enters `event`, which can save
      ANY configured action.  The fuel accounting of `engine2` (cost of an action = a closed formula of
      the action) does not express that; it needs a lexicographic measure (pending presses, size of
      the saved action).  Not attempted here.
  (b) tap-hold keys whose HOLD action is not a key, an output chord or layer-while-held (the parser
      accepts any action; tap and timeout actions are covered).  The flush on queue overflow runs
      every hold action inside `event`; a hold action that is a one-shot key re-enters `event` with
      the same number of pending presses but one waiting state fewer: again a lexicographic measure.
  (c) chords v2 (`chord_v2_tick_never_fails`, Props/C09V2*.lean) and the kanata layer above keyberon.
-/

/-- **whole_grammar_never_crashes_partial**.  For every configuration that meets the decidable
`CfgWF'` (see its doc comment for the list of clauses and where the parser guarantees each), the run
of `Layout::event` / `Layout::tick` from the fresh state — any start-up options — on ANY history
(events also physically impossible; presses inside the table, which the event loop guarantees: C11)
yields no crash outcome.  Partial with respect to the whole grammar in exactly two action kinds:
`repeat`, and tap-hold keys with a non-simple HOLD action (see the comment above). -/
theorem whole_grammar_never_crashes_partial (cfg : LCfg) (h : CfgWF' cfg) (tv2 dfl qth : Bool) (osd : Nat)
    (ins : List In) (ht : InTable cfg ins) :
    ∃ t, runM ({ cfg := cfg, transV2 := tv2, delegateToFirstLayer := dfl, quickTapHoldTimeout := qth,
                 oneshot := { pauseInputProcessingDelay := osd } } : Layout) ins = .ok t := by
  have hp : 0 < cfg.layers.length := by
    have := h.1
    unfold RangeG at this
    simp only [Bool.and_eq_true, decide_eq_true_eq] at this
    exact this.1.1.2
  exact switch_never_crashes Switch.opsCompiled Switch.opsCompiled_sound ins _ h.1 h.2
    (invG_start _ _ (NCF.startU_init cfg hp tv2 dfl qth osd)) ht

/-! ## Non-vacuity -/

/-- a chord group on three keys: single keys, two two-key chords; the three-key chord is undefined, so
pressing all three decomposes into the action queue -/
def grp : Action := .chords [((0, 32), 1), ((0, 33), 2), ((0, 34), 4)]
  [(1, .keyCode 32), (2, .keyCode 33), (4, .keyCode 34), (3, .multipleActions [.keyCode 42, .keyCode 40]), (6, .layer 1)] 50

/-- the opcodes of `(switch ((or a (and b (not (input real 31)) (key-timing 3 gt 3000)) (layer 1))) …)` -/
def sampleOps : List Nat := [30, 8199, 1, 12294, 851, 31, 18948, 853, 1]

def fullCfg : LCfg :=
  { layers := [
      [((0, 30), .tapDance [.keyCode 30, .multipleActions [.keyCode 42, .keyCode 31], .layer 1] 200 false),
       ((0, 31), .tapDance [.keyCode 31, .oneShot (.keyCode 42) 500 .firstPress, .trans] 150 true),
       ((0, 32), grp), ((0, 33), grp), ((0, 34), grp),
       ((0, 35), .holdTap 200 (.layer 1) (.multipleActions [.keyCode 35, .sequence (C08.sampleEvs ++ [.complete])])
                   (.switch [([], .tapDance [.keyCode 7, .keyCode 8] 30 false, true)]) .permissiveHold 150),
       ((0, 36), .oneShot (.keyCode 42) 500 .firstPress),
       ((0, 37), .fork (.tapDance [.keyCode 37, .keyCode 38] 100 false) (.keyCode 1) [42]),
       ((0, 38), .multipleActions [.sequence (C08.sampleEvs ++ [.complete]), .custom 3]),
       ((0, 39), .switch [(sampleOps, .keyCode 39, false), ([30], .chords [((0, 32), 1)] [(1, .keyCode 5)] 20, false),
                          ([], .tapDance [.keyCode 1, .keyCode 2] 50 true, true)])],
      [((0, 30), .tapDance [.trans, .keyCode 2] 100 true), ((0, 36), .src), ((0, 37), .noOp)]],
    srcKeys := (List.range 10).map fun i => (30 + i, .keyCode (30 + i)) }

/-- all three chord keys (decomposition), a lazy tap-dance interrupted by 40 presses in one burst
(queue overflow with a tap-dance waiting), an eager tap-dance tapped three times (its second member is
a one-shot key, its third transparent), a tap-hold key (tap action a `multi` with a macro, timeout action a `switch` that yields a tap-dance; held
past its timeout, tapped, pressed again inside its tap-hold interval), the switch key, 300 idle ticks,
another burst -/
def fullHist : List In :=
  [.ev (.press (0, 32)), .tick, .ev (.press (0, 33)), .ev (.press (0, 34)), .tick, .tick, .ev (.release (0, 33)),
   .tick, .tick, .tick, .tick, .ev (.release (0, 32)), .ev (.release (0, 34)), .tick, .tick,
   .ev (.press (0, 30)), .tick, .ev (.release (0, 30)), .tick, .ev (.press (0, 30)), .tick] ++
  burst 30 10 ++ burst 30 10 ++ burst 30 10 ++ burst 30 10 ++
  [.tick, .tick, .ev (.press (0, 31)), .tick, .ev (.release (0, 31)), .tick, .ev (.press (0, 31)), .tick,
   .ev (.press (0, 31)), .tick, .ev (.press (0, 35)), .tick, .ev (.press (0, 30)), .tick, .ev (.press (0, 39)),
   .ev (.release (5, 9999)), .tick, .tick, .tick] ++ List.replicate 300 .tick ++ burst 30 10 ++
  [.tick, .ev (.press (0, 35)), .ev (.release (0, 35)), .tick, .tick, .ev (.press (0, 35)), .tick, .tick] ++
  List.replicate 250 .tick

theorem fullCfg_wf : CfgWF' fullCfg := by decide +kernel
theorem fullHist_inTable : InTable fullCfg fullHist := by decide +kernel

example : CfgWF' fullCfg := fullCfg_wf
example : maxCostG fullCfg = 8 ∧ pressCostG fullCfg = 110 ∧ cfgOshG fullCfg = true := by decide +kernel
example : InTable fullCfg fullHist := fullHist_inTable
example : Switch.opsCompiled sampleOps = true ∧ Switch.opsCompiled [] = true ∧ Switch.opsCompiled [851] = false := by
  decide +kernel

theorem fullCfg_runs : ∃ t, runM { cfg := fullCfg } fullHist = .ok t :=
  whole_grammar_never_crashes_partial fullCfg fullCfg_wf true false false 0 fullHist fullHist_inTable

example : ∃ t, runM { cfg := fullCfg } fullHist = .ok t := fullCfg_runs

/-- whether a history lies inside the layer table depends on the size of the table only -/
theorem inTable_of_size {c c' : LCfg} (hr : c'.rows = c.rows) (hc : c'.cols = c.cols) {ins : List In}
    (h : InTable c ins) : InTable c' ins := by
  have he : ∀ e, C04.evOK c' e = C04.evOK c e := fun e => by cases e <;> simp only [C04.evOK, C04.coordOK, hr, hc]
  unfold InTable at h ⊢
  simpa only [he] using h

/-- the same configuration without its switch key and its tap-hold key (whose timeout action is a
`switch`) is within stages 1 and 2 -/
def tdChordCfg : LCfg := { fullCfg with layers := fullCfg.layers.map fun tbl => tbl.filter fun e => e.1 != (0, 39) && e.1 != (0, 35) }

example : ∃ t, runM { cfg := tdChordCfg } fullHist = .ok t :=
  tapdance_chords_never_crash fullHist { cfg := tdChordCfg } (by decide +kernel) (by decide +kernel) (by decide)
    (inTable_of_size rfl rfl fullHist_inTable)

/-- **overflow_path_is_covered** (stage 4): the theorem applied to `fullHist`, and — evaluated — the
places the run goes through: after 8 inputs the undefined three-key chord has been decomposed into two
queued actions; after 57 inputs 32 events are pending while a tap-dance state waits and an eager
tap-dance state exists, and 28 more events arrive before the next tick (each of them takes the
overflow path of `Layout::event`). -/
theorem overflow_path_is_covered :
    (∃ t, runM { cfg := fullCfg } fullHist = .ok t) ∧
    (match runL { cfg := fullCfg } (fullHist.take 8) with
      | .ok s => some (s.actionQueue.length, s.queue.length)
      | .error _ => none) = some (2, 1) ∧
    (match runL { cfg := fullCfg } (fullHist.take 57) with
      | .ok s => some (s.queue.length, s.waiting.isSome, s.tapDanceEager.isSome)
      | .error _ => none) = some (32, true, true) :=
  ⟨fullCfg_runs, by decide +kernel, by decide +kernel⟩

/-- the union fragment's sample configuration meets `CfgWF'` as well (its actions are actions of the
larger fragment) -/
example : CfgWF' unionCfg := by decide +kernel

/-! ## Each new hypothesis is needed -/

/-- a lazy and an eager tap-dance key with an empty list -/
def emptyDanceCfg : LCfg :=
  { layers := [[((0, 30), .tapDance [] 3 false), ((0, 31), .tapDance [] 3 true)]],
    srcKeys := [(30, .keyCode 30), (31, .keyCode 31)] }

/-- **empty_tap_dance_counterexample**: tap-dance lists have to be non-empty.  kanata:
`(tap-dance 3 ())` — refused by `parse_tap_dance`; on the run-time side the lazy variant indexes
`tds.actions[0]` when its countdown ends, the eager one at once. -/
theorem empty_tap_dance_counterexample :
    ¬ CfgWF' emptyDanceCfg ∧
    crashOf (runM { cfg := emptyDanceCfg } [.ev (.press (0, 30)), .tick, .tick, .tick, .tick, .tick])
      = some (.indexOOB "tap-dance actions") ∧
    crashOf (runM { cfg := emptyDanceCfg } [.ev (.press (0, 31)), .tick]) = some (.indexOOB "td.actions[0]") := by
  refine ⟨by decide +kernel, by decide +kernel, by decide +kernel⟩

/-- a chord group that names a coordinate outside the 2 × 767 table; its one-key chord is use-defsrc -/
def badChordCfg : LCfg :=
  { layers := [[((0, 30), .chords [((0, 30), 1), ((0, 800), 2)] [(1, .src)] 50)]],
    srcKeys := [(30, .keyCode 30)] }

/-- **chord_coordinate_counterexample**: the coordinates of a chord group have to lie inside the table.
The release of the group's other "key" — a release is accepted for any coordinate — moves the pending
chord to that coordinate, and its action then indexes `src_keys[800]`.  (The parser takes chord
coordinates from defsrc positions, so this is not reachable from a configuration text.) -/
theorem chord_coordinate_counterexample :
    ¬ CfgWF' badChordCfg ∧ InTable badChordCfg [.ev (.press (0, 30)), .tick, .ev (.release (0, 800)), .tick, .tick] ∧
    crashOf (runM { cfg := badChordCfg } [.ev (.press (0, 30)), .tick, .ev (.release (0, 800)), .tick, .tick])
      = some (.indexOOB "src_keys[coord.1]") := by
  refine ⟨by decide +kernel, by decide +kernel, by decide +kernel⟩

/-- a switch case whose opcode array ends inside a two-word opcode -/
def badSwitchCfg : LCfg :=
  { layers := [[((0, 30), .switch [([851], .keyCode 30, true)])]], srcKeys := [(30, .keyCode 30)] }

/-- **switch_opcodes_counterexample**: the opcode check is needed: `[851]` (an `input` opcode without
its second word; never produced by `parse_switch_case_bool`) reaches the `expect` in `opcode_type`. -/
theorem switch_opcodes_counterexample :
    ¬ CfgWF' badSwitchCfg ∧
    crashOf (runM { cfg := badSwitchCfg } [.ev (.press (0, 30)), .tick]) = some (.switchCrash .nextMissing) := by
  refine ⟨by decide +kernel, by decide +kernel⟩

end KVerif.C02
