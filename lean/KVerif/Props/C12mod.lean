/-
C12, runtime side continued — sequences with modifier prefixes, the modifier-bit backtracking loop,
and the all-released completion of `O-(…)` groups.  Property theorems only; helper definitions and
lemmas are in KVerif/Lemmas/SeqMods.lean, the executable model in KVerif/Model/Sequences.lean.

The theorems speak about the stream of calls `tick` makes into the sequence functions (as
Props/C12.lean does), a key press now carrying the modifier mask that `get_mod_mask_for_cur_keys`
returned for it (`InpM.key k mm`, `engRunM`).  `callsOf` derives that stream from physical key
events (press / release / timer tick): a press reaches `do_sequence_press_logic` with the mask of
all keys then down, the release that empties `cur_keys` runs the all-released hook
(`tick_makes_these_calls` shows that this is what one `tick` of the tick-level machine does).  OS
release events produced by the key-state diff are outside these statements.
-/
import KVerif.Lemmas.SeqMods
import KVerif.Props.C12
namespace KVerif.Seq

/-! ## 0. the calls `tick` makes -/

/-- **tick_makes_these_calls** (full, for the tick-level machine of Model/Sequences.lean in a steady
state: `prev_keys` is the list of key codes down).  One `tick` does exactly what `callsOf` says for
the event at the head of the queue, followed by one `tick_sequence_state`:
* the press of a key mapped to the key code `kc` that is not yet down: `do_sequence_press_logic` for
  `kc` with the mask of all keys now down, itself included (`InpM.key kc (modMaskOf (held ++ [kc]))`;
  outside sequence mode the plain OS press), for no other key, and no all-released hook;
* a release: the OS releases of the keys that went up, the all-released hook iff no key is down any
  more while one was before (`InpM.released`), no key press;
* an empty queue: only `tick_sequence_state` (`InpM.tick`).
So a physical history is the `callsOf` stream with an `InpM.tick` after every event — one of the
interleavings the theorems below quantify over.  (`sequence-always-on` off; the virtual-key taps
queued by a completed sequence are layout events like any other.) -/
theorem tick_makes_these_calls (c : Cfg) (k : Kan)
    (hprev : k.prevKeys = k.states.filterMap KState.keycode) :
    (∀ co q kc, k.queue = .press co :: q → c.resolve co = .key kc → c.alwaysOn = false → kc ∉ k.prevKeys →
      tick c k =
        (let e0 : Eng := { st := k.seq, states := k.states ++ [.normalKey kc co], out := [] }
         match engStepM c.trie c.modcancel e0 (.key kc (modMaskOf (k.prevKeys ++ [kc]))) with
         | .error x => .error x
         | .ok e1 =>
           match tickSeq e1 with
           | .error x => .error x
           | .ok e2 =>
             .ok ({ queue := q ++ e2.taps.flatMap (fun j => [QEv.press (1, j), QEv.release (1, j)]),
                    states := e2.states, prevKeys := k.prevKeys ++ [kc], seq := e2.st }, e2.out))) ∧
    (∀ co q, k.queue = .release co :: q →
      tick c k =
        (let states' := k.states.filter (fun s => !(s.coord == co))
         let cur := states'.filterMap KState.keycode
         let e0 : Eng := { st := k.seq, states := states',
                           out := (k.prevKeys.filter (fun x => !cur.contains x)).flatMap osRelease }
         let e1 := if cur.isEmpty && !k.prevKeys.isEmpty then allReleasedHook c.trie e0 else e0
         match tickSeq e1 with
         | .error x => .error x
         | .ok e2 =>
           .ok ({ queue := q ++ e2.taps.flatMap (fun j => [QEv.press (1, j), QEv.release (1, j)]),
                  states := e2.states, prevKeys := cur, seq := e2.st }, e2.out))) ∧
    (k.queue = [] →
      tick c k =
        (match tickSeq { st := k.seq, states := k.states, out := [] } with
         | .error x => .error x
         | .ok e2 =>
           .ok ({ queue := e2.taps.flatMap (fun j => [QEv.press (1, j), QEv.release (1, j)]),
                  states := e2.states, prevKeys := k.prevKeys, seq := e2.st }, e2.out))) :=
  ⟨fun co q kc hq hres halw hnew => tick_press c k co q kc hq hres halw hprev hnew,
   fun co q hq => tick_release c k co q hq hprev,
   fun hq => tick_idle c k hq hprev⟩

/-- lsft is down, `a` is pressed: the hypotheses of the press case hold (the call is
`InpM.key 30 (modMaskOf [42, 30])` = `a` under the shift mask) -/
example :
    let c : Cfg := { trie := ⟨[([32810, 32798, 48], 0)]⟩, modcancel := true, alwaysOn := false,
                     defMode := .hiddenSuppressed, defTimeout := 5,
                     keymap := [(42, .key 42), (30, .key 30)], vkeys := [] }
    let k : Kan := { queue := [.press (0, 30)], states := [.normalKey 42 (0, 42)], prevKeys := [42],
                     seq := ({} : SeqState).activate .hiddenSuppressed 5 }
    k.prevKeys = k.states.filterMap KState.keycode ∧ c.resolve (0, 30) = .key 30 ∧ 30 ∉ k.prevKeys ∧
      modMaskOf (k.prevKeys ++ [30]) = 0x8000 := by
  decide

/-! ## 1. sequences with modifier prefixes, typed as spelled -/

/-- **parse_stores_what_typing_pushes** (full for key lists that can be typed as spelled).  For a key
list whose keys are non-modifier keys and whose prefixes are `S- C- A- M-` (left-hand) or `AG-` (= `RA-`),
nested in any way (`S-a`, `C-S-a`, `S-(a b)`, `C-(S-a b) c` …; `Item.typable`: no modifier repeated
inside its own scope, no empty list, no `O-`), the u16 word `parse_sequence_keys` stores is exactly
the word of values `do_sequence_press_logic` pushes when the list's own press/release expansion is
typed, each press arriving with the mask of the keys then down — the parser's press→press /
release→release heuristics and the run-time mask computation agree. -/
theorem parse_stores_what_typing_pushes (items : List Item) (h : Item.typableList [] items = true) :
    parseSequenceKeys items = .ok (codes (Item.eventsList items) []) ∧
    ∀ pevs : List PEv, evsOf pevs = Item.eventsList items →
      pushesOf (callsOf pevs []) = codes (Item.eventsList items) [] :=
  ⟨parseSequenceKeys_codes items h, fun pevs hp => by rw [pushesOf_callsOf, hp]⟩

/-- `(S-a b)`, `C-S-(a c)`, `A-(S-a b) c` -/
example : Item.typableList [] [.chord [42] 30, .key 48] = true ∧
    Item.typableList [] [.held [29, 42] [.key 30, .key 46]] = true ∧
    Item.typableList [] [.held [56] [.chord [42] 30, .key 48], .key 46] = true := by decide
example : codes (Item.eventsList [.held [56] [.chord [42] 30, .key 48], .key 46]) [] =
    [56 ||| 0x2000, 42 ||| 0xA000, 30 ||| 0xA000, 48 ||| 0x2000, 46] := by decide

/-- **seq_fires_once_exact** (full; every table, `O-(…)` groups included, under the two decidable
side conditions).  `s` is a stored word without overlap elements (a sequence of plain and
modifier-prefixed keys), none of its keys occurs anywhere in the table as a member of an `O-(…)`
group (`ovlFormFree`; without this the claim is false: `seq_mods_overlap_ambiguity_counterexample`),
and in the table bare markers only close groups (`markerWF`: a marker is never first and never directly
after an element without the overlap bit — decidable on the trie; it held for every accepted table
examined, but it is a hypothesis here, not derived from acceptance).
Sequence mode has just been entered.  The calls push exactly the word `s` (whatever physical typing
produces them), every key arrives before the timeout, timer ticks and all-released hooks are
interleaved arbitrarily.  Then the virtual key of `s` is tapped exactly once and nothing else is,
sequence mode ends, the hidden modes emit nothing and visible-backspaced sends the pressed keys,
releases of held ctrl/alt/gui keys, and one backspace per character key of `s` (modifier elements
are not characters) less the noerase count.  (`TrieOK`: what `accepted_prefix_free` provides.) -/
theorem seq_fires_once_exact {t : Trie Nat} (hok : TrieOK t) (hwf : markerWF t.entries = true) (mc : Bool)
    (e : Eng) (s : Key) (j : Nat) (hs : (s, j) ∈ t.entries) (hne : s ≠ [])
    (hso : ∀ x ∈ s, x &&& KEY_OVERLAP_MARKER = 0) (hfree : ovlFormFree t.entries s = true)
    (is : List InpM) (hp : pushesOf is = s)
    (ha : e.st.active = true) (hseq : e.st.sequence = []) (hovl : e.st.overlapped = [])
    (hT : 0 < e.st.timeout) (hb : e.st.ticksUntilTimeout = e.st.timeout)
    (hwt : WellTimedM e.st.timeout e.st.timeout is) :
    ∃ e', engRunM t mc e is = .ok e' ∧ e'.st.active = false ∧ e'.taps = e.taps ++ [j] ∧
      (e.st.mode ≠ .visibleBackspaced → e'.out = e.out) ∧
      (e.st.mode = .visibleBackspaced → ∃ rel : List Nat,
        e'.out = e.out ++ (keysOfM is).flatMap osPress ++ rel.flatMap osRelease ++
          bsTaps (charCount s - e.st.noerase)) := by
  obtain ⟨e', h1, h2, h3, _, h4, h5⟩ := run_exact_dead hok mc hs
    (fun w hw => markerDead_of_markerWF hwf (lastPlain_of_all fun x hx => hso x (hw.subset hx)))
    (ovlFormFree_iff.1 hfree) is e ha (hb ▸ hT) hT (by rw [hseq, hp]; rfl) (by rw [hp]; exact hne)
    (by rw [hovl]; exact markerDead_of_markerWF hwf (by intro z hz; simp at hz)) (hb ▸ hwt)
  exact ⟨e', h1, h2, h3, h4, h5⟩

/-- **seq_fires_once_mods** (full for key lists typed as spelled; same two side conditions).  For
every table the parser accepts and every entry `(v, items)` of it whose key list can be typed as
spelled (`Item.typable`, see `parse_stores_what_typing_pushes`): after the leader, typing the list's
own press/release expansion — every modifier pressed before and released after the keys it covers —
with any timer ticks in between, every press arriving before the timeout, taps `v` exactly once and
nothing else, and ends sequence mode; outputs as in `seq_fires_once_exact`. -/
theorem seq_fires_once_mods (tbl : List (Nat × List Item)) (t : Trie Nat) (hacc : parseSequences tbl = .ok t)
    (hwf : markerWF t.entries = true) (v : Nat) (items : List Item) (hmem : (v, items) ∈ tbl)
    (hty : Item.typableList [] items = true)
    (hfree : ovlFormFree t.entries (codes (Item.eventsList items) []) = true)
    (mc : Bool) (e : Eng) (pevs : List PEv) (hev : evsOf pevs = Item.eventsList items)
    (ha : e.st.active = true) (hseq : e.st.sequence = []) (hovl : e.st.overlapped = [])
    (hT : 0 < e.st.timeout) (hb : e.st.ticksUntilTimeout = e.st.timeout)
    (hwt : WellTimedM e.st.timeout e.st.timeout (callsOf pevs [])) :
    ∃ e', engRunM t mc e (callsOf pevs []) = .ok e' ∧ e'.st.active = false ∧ e'.taps = e.taps ++ [v] ∧
      (e.st.mode ≠ .visibleBackspaced → e'.out = e.out) ∧
      (e.st.mode = .visibleBackspaced → ∃ rel : List Nat,
        e'.out = e.out ++ (pressedOf (Item.eventsList items)).flatMap osPress ++ rel.flatMap osRelease ++
          bsTaps (charCount (codes (Item.eventsList items) []) - e.st.noerase)) := by
  have hst := typable_stored hacc hmem hty
  have hne : codes (Item.eventsList items) [] ≠ [] := by
    intro h0
    rw [h0] at hst
    exact accepted_no_empty_key tbl t hacc v (lookup_of_mem t (accepted_prefix_free tbl t hacc) [] v hst)
  have hso := codes_no_ovl _ [] (typable_facts_list items [] hty).2 (by simp)
  have := seq_fires_once_exact (accepted_prefix_free tbl t hacc) hwf mc e _ v hst hne hso hfree
    (callsOf pevs []) (by rw [pushesOf_callsOf, hev]) ha hseq hovl hT hb hwt
  rw [keysOfM_callsOf, hev] at this
  exact this

/-- the table `(defseq v0 (S-a b) v1 (C-S-(a c)) v2 (a b) v3 (O-(d e)))` -/
def exModTable : List (Nat × List Item) :=
  [(0, [.chord [42] 30, .key 48]), (1, [.held [29, 42] [.key 30, .key 46]]), (2, [.key 30, .key 48]),
   (3, [.held [251] [.key 32, .key 18]])]

def exModTrie : Trie Nat :=
  ⟨[([1042, 1056, 1024], 3), ([1056, 1042, 1024], 3), ([30, 48], 2), ([16413, 49194, 49182, 49198], 1),
    ([32810, 32798, 48], 0)]⟩

theorem exModTable_accepted : parseSequences exModTable = .ok exModTrie := by rfl

example : parseSequences exModTable = .ok exModTrie := exModTable_accepted

/-- `C-S-(a c)` typed with the modifiers released in the other order than the list spells (shift
before ctrl): the pushed word is the stored one, virtual key 1 is tapped once -/
example : ∃ e', engRunM exModTrie false (exFresh .hiddenDelayType)
      (callsOf [.press 29, .press 42, .tick, .press 30, .release 30, .press 46, .release 46, .release 42, .release 29] [])
        = .ok e' ∧ e'.st.active = false ∧ e'.taps = [1] ∧ e'.out = [] := by
  obtain ⟨e', h1, h2, h3, h4, _⟩ := seq_fires_once_exact (t := exModTrie)
    (accepted_prefix_free exModTable exModTrie exModTable_accepted) (by decide) false (exFresh .hiddenDelayType)
    [16413, 49194, 49182, 49198] 1 (by decide) (by decide) (by decide) (by decide)
    (callsOf [.press 29, .press 42, .tick, .press 30, .release 30, .press 46, .release 46, .release 42, .release 29] [])
    (by decide) rfl rfl rfl (by decide) rfl (by simp [WellTimedM, callsOf, hasKey, exFresh, SeqState.activate])
  exact ⟨e', h1, h2, h3, h4 (by decide)⟩

/-- lsft↓, a↓, a↑, lsft↑ (all released), b↓ with timer ticks in between: virtual key 0 is tapped once,
nothing is typed (hidden-suppressed); the table also holds the plain `a b` and an `O-(d e)` group -/
example : ∃ e', engRunM exModTrie true (exFresh .hiddenSuppressed)
      (callsOf [.press 42, .tick, .press 30, .release 30, .tick, .release 42, .tick, .press 48, .release 48, .tick] [])
        = .ok e' ∧ e'.st.active = false ∧ e'.taps = [0] ∧ e'.out = [] := by
  obtain ⟨e', h1, h2, h3, h4, _⟩ := seq_fires_once_mods exModTable exModTrie exModTable_accepted (by decide) 0
    [.chord [42] 30, .key 48] (by simp [exModTable]) (by decide) (by decide) true (exFresh .hiddenSuppressed)
    [.press 42, .tick, .press 30, .release 30, .tick, .release 42, .tick, .press 48, .release 48, .tick]
    (by decide) rfl rfl rfl (by decide) rfl (by simp [WellTimedM, callsOf, hasKey, exFresh, SeqState.activate])
  exact ⟨e', h1, h2, h3, h4 (by decide)⟩

/-- "the run succeeds and its result satisfies `Q`" is decided by running: the concrete tables and
histories of the counterexamples below are evaluated by the kernel, once each. -/
local instance decExistsOk {ε α : Type} (x : Except ε α) (Q : α → Prop) [DecidablePred Q] :
    Decidable (∃ a, x = .ok a ∧ Q a) :=
  match x with
  | .ok a => decidable_of_iff (Q a) ⟨fun h => ⟨a, rfl, h⟩, fun ⟨_, h, q⟩ => by cases h; exact q⟩
  | .error _ => isFalse fun ⟨_, h, _⟩ => nomatch h

/-- **seq_right_mod_counterexample** (the expected claim is false of the code for right-hand
prefixes).  `(defseq v0 (RS-a))` is accepted and stored as `[rsft|S, a|S]`, but at run time
`do_sequence_press_logic` turns right shift/ctrl/meta into the left-hand key code before the lookup,
so no typing can ever produce the stored word: pressing rsft (or lsft) and then `a` ends sequence
mode at the first key and taps nothing, with and without `sequence-backtrack-modcancel`.  The same
holds for `RC-`, `RM-` and for a bare `rsft`/`rctl`/`rmet` inside a key list.  Replayed on the real
code: `C12 R 0 50 0 1 0 50 1 0 1 c 1 54 30 H 12 p 59 t 2 r 59 t 2 p 54 t 2 p 30 t 2 r 30 t 2 r 54 t 10`
(no virtual key; `a` is typed), whereas the same history on `c 1 42 30` (`S-a`) taps the virtual key. -/
theorem seq_right_mod_counterexample :
    parseSequences [(0, [.chord [54] 30])] = .ok ⟨[([54 ||| 0x8000, 30 ||| 0x8000], 0)]⟩ ∧
    ∀ mc : Bool, ∀ shiftKey ∈ [54, 42], ∃ e',
      engRunM ⟨[([54 ||| 0x8000, 30 ||| 0x8000], 0)]⟩ mc (exFresh .hiddenSuppressed)
        (callsOf [.press shiftKey, .press 30, .release 30, .release shiftKey] []) = .ok e' ∧
      e'.taps = [] ∧ e'.st.active = false :=
  ⟨by rfl, by decide +kernel⟩

/-- **right_hand_modifiers_never_pushed** (full; the reason behind the counterexample).  Whatever key
is pressed under whatever mask of modifier bits, the key-code part of the value pushed into the
sequence is never right shift, right ctrl or right meta — so a stored word containing one of them
(`RS-`, `RC-`, `RM-` prefixes, bare `rsft`/`rctl`/`rmet`) is never produced by typing, and the
backtracking loop, which only clears bits above the key code, cannot produce it either.  (The
left-hand prefixes `S- C- M-` on the other hand are typed with either hand.) -/
theorem right_hand_modifiers_never_pushed (k mm : Nat) (hk : k < 1024) (hm : mm &&& MASK_KEYCODES = 0) :
    pushedOf k mm &&& MASK_KEYCODES ∉ [KC_RSHIFT, KC_RCTRL, KC_RGUI] ∧
    (strip true (pushedOf k mm)) &&& MASK_KEYCODES ∉ [KC_RSHIFT, KC_RCTRL, KC_RGUI] := by
  have hlt := normaliseMod_lt hk
  have h2 : pushedOf k mm &&& MASK_KEYCODES = normaliseMod k := by
    rw [pushedOf, Nat.and_or_distrib_right, hm, and_mask_of_lt _ hlt, Nat.or_zero]
  have h3 : strip true (pushedOf k mm) &&& MASK_KEYCODES = normaliseMod k := by
    rw [strip, if_pos rfl, h2, and_mask_of_lt _ hlt]
  rw [h2, h3]
  exact ⟨normaliseMod_not_right k, normaliseMod_not_right k⟩

/-- `S-a b` typed with the *right* shift key: the pushed word is the stored one (`seq_fires_once_exact`) -/
example : pushesOf (callsOf [.press 54, .press 30, .release 30, .release 54, .press 48, .release 48] []) =
    [32810, 32798, 48] := by decide

/-- **seq_mods_overlap_ambiguity_counterexample** (why `seq_fires_once_mods` needs `ovlFormFree`).
`(defseq v0 (S-a b) v1 (O-(lsft a)))` is accepted (the two encodings are prefix-incomparable), but
typing `S-a b` as spelled taps `v1` when lsft is released and `b` is then typed as an ordinary key:
`v0` can never be completed by holding shift.  Replayed on the real code:
`C12 R 0 50 0 1 0 50 2 0 2 c 1 42 30 k 48 1 1 h 1 251 2 k 42 k 30 H 16 p 59 t 2 r 59 t 2 p 42 t 2 p 30 t 2 r 30 t 2 r 42 t 2 p 48 t 2 r 48 t 10`. -/
theorem seq_mods_overlap_ambiguity_counterexample :
    ∃ t, parseSequences [(0, [.chord [42] 30, .key 48]), (1, [.held [251] [.key 42, .key 30]])] = .ok t ∧
      Item.typableList [] [.chord [42] 30, .key 48] = true ∧ markerWF t.entries = true ∧
      ∃ e', engRunM t true (exFresh .hiddenSuppressed)
        (callsOf [.press 42, .press 30, .release 30, .release 42, .press 48, .release 48] []) = .ok e' ∧
        e'.taps = [1] ∧ e'.out = [.down 48] :=
  by decide +kernel

/-! ## 2. the modifier-bit backtracking loop -/

/-- **seq_mod_backtracking** (full: every table, every sequence, bare markers included).
The standard variant of `do_sequence_press_logic` — look the sequence up; if it is not in the trie,
run `for i in (0..len).rev()` stripping element `i` (a bare marker is removed; another element loses
all modifier bits with `sequence-backtrack-modcancel yes`, only its overlap bit with `no`) and
looking up again, stopping at the first hit — succeeds **iff** the sequence itself or one of the
forms `btForm mc seq i` = (first `i` elements untouched) ++ (the others stripped), `i < len`, is a
stored key or a proper prefix of one; it then settles on the sequence itself, else on the form with
the **largest** such `i` (fewest elements stripped), and returns that form's lookup result; if no
form is in the trie the sequence is left fully stripped and the variant is invalid. -/
theorem seq_mod_backtracking (t : Trie Nat) (mc : Bool) (seq : List Nat) :
    ((stdVariant t mc seq).2.2 = false ↔
      viable t.entries seq = true ∨ ∃ i, i < seq.length ∧ viable t.entries (btForm mc seq i) = true) ∧
    (viable t.entries seq = true → stdVariant t mc seq = (seq, t.getOrDescendant seq, false)) ∧
    (∀ i, viable t.entries seq = false → i < seq.length → viable t.entries (btForm mc seq i) = true →
      (∀ j, i < j → j < seq.length → viable t.entries (btForm mc seq j) = false) →
      stdVariant t mc seq = (btForm mc seq i, t.getOrDescendant (btForm mc seq i), false)) ∧
    (viable t.entries seq = false → (∀ i, i < seq.length → viable t.entries (btForm mc seq i) = false) →
      stdVariant t mc seq = (btForm mc seq 0, .notInTrie, true)) := by
  have heq := stdVariant_eq t mc seq
  refine ⟨?_, ?_, ?_, ?_⟩
  · rw [heq]
    cases hv : viable t.entries seq with
    | true => simp
    | false =>
      simp only [Bool.false_eq_true, if_false, false_or]
      cases hf : btFind t mc seq seq.length with
      | none =>
        simp only [Bool.true_eq_false, false_iff, not_exists, not_and]
        intro i hi
        rw [(btFind_none.1 hf) i hi]; simp
      | some i =>
        have := btFind_some hf
        simp only [true_iff]
        exact ⟨i, this.1, this.2.1⟩
  · intro hv; rw [heq, hv]; rfl
  · intro i hv hi hvi hmax
    rw [heq, hv, btFind_of_max hi hvi hmax]; rfl
  · intro hv hall
    rw [heq, hv, btFind_none.2 hall]; rfl

/-- **backtrack_forms** (full).  What the stripped forms are: on a sequence without bare markers the
`i`-th form keeps the first `i` elements and maps the rest through `& MASK_KEYCODES` (modcancel yes)
or `& !KEY_OVERLAP_MARKER` (no); and without modcancel, on a sequence of u16 values that carry no
overlap bit — which is every sequence typed on a table without `O-(…)` groups — every form is the
sequence itself, so there the loop can never succeed: **without `sequence-backtrack-modcancel` the
standard variant finds exactly the words typed with exactly the stored modifier bits.** -/
theorem backtrack_forms (t : Trie Nat) (mc : Bool) (seq : List Nat) :
    ((∀ x ∈ seq, x ≠ KEY_OVERLAP_MARKER) → ∀ i, btForm mc seq i = seq.take i ++ (seq.drop i).map (strip mc)) ∧
    ((∀ x ∈ seq, x < 65536 ∧ x &&& KEY_OVERLAP_MARKER = 0) →
      (∀ i, btForm false seq i = seq) ∧
      stdVariant t false seq =
        if viable t.entries seq then (seq, t.getOrDescendant seq, false) else (seq, .notInTrie, true)) := by
  refine ⟨fun h i => btForm_no_marker mc seq i h, fun h => ⟨fun i => btForm_false_id seq i h, ?_⟩⟩
  rw [stdVariant_eq]
  cases hv : viable t.entries seq with
  | true => rfl
  | false => simp only [Bool.false_eq_true, if_false, btFind_false_none t seq h hv, btForm_false_id seq 0 h]

example : ∀ x ∈ [30 ||| 0x4000, 48 ||| 0x4000], x < 65536 ∧ x &&& KEY_OVERLAP_MARKER = 0 := by decide

/-- `[lctl|C, a]` typed on the table of `exModTable`: the exact word is not stored; with modcancel the
loop first strips `a` (nothing), then `lctl|C` to `lctl`, finds nothing and leaves `[lctl, a]` -/
example : stdVariant exModTrie true [29 ||| 0x4000, 30] = ([29, 30], .notInTrie, true) ∧
    btForm true [29 ||| 0x4000, 30] 1 = [29 ||| 0x4000, 30] ∧ btForm true [29 ||| 0x4000, 30] 0 = [29, 30] := by
  decide
/-- `a|C` then `b|C` (ctrl held since before the leader) on the same table: the loop strips `b|C`, then
`a|C`, and finds the plain `a b` — with modcancel; without it nothing is found -/
example : stdVariant exModTrie true [30 ||| 0x4000, 48 ||| 0x4000] = ([30, 48], .hasValue 2, false) ∧
    stdVariant exModTrie false [30 ||| 0x4000, 48 ||| 0x4000] = ([30 ||| 0x4000, 48 ||| 0x4000], .notInTrie, true) := by
  decide

/-- **press_logic_without_groups** (full for every table without `O-(…)` groups: plain keys and any
modifier prefixes; any state, any key, any modifier mask).  `do_sequence_press_logic` in closed form:
the overlap variant never finds anything; the standard variant settles on the word `stdSettle` =
the sequence itself or its first stripped form (from the back) that is in the trie
(`seq_mod_backtracking`); if there is one, both encodings become that word and its virtual key, if it
has one, is tapped (mode ends); if there is none, the fully stripped sequence loses keys from the
front until a suffix is in the trie (`lvs`) — that suffix is tracked, or completes, or, if no suffix
is left, sequence mode is cancelled.  (`hne`: `accepted_no_empty_key`.) -/
theorem press_logic_without_groups {t : Trie Nat} (hn : NoOvlTrie t)
    (hne : ∀ j, t.getOrDescendant [] ≠ .hasValue j) (mc : Bool) (e : Eng) (k mm : Nat) :
    doSeqPress t mc e k mm =
      (let b := pressBase e k
       let p := pushedOf k mm
       let w0 := e.st.sequence ++ [p]
       match stdSettle t mc w0 with
       | some w =>
         let e2 : Eng := { b with st := { b.st with sequence := w, overlapped := w } }
         match lookupKey t.entries w with
         | some j => terminate e2 j true
         | none => e2
       | none =>
         let w := lvs t.entries (btForm mc w0 0)
         let ovl' := e.st.overlapped ++
           [KEY_OVERLAP_MARKER, if p &&& MASK_KEYCODES = p then p else p &&& MASK_KEYCODES]
         let e3 : Eng := { b with st := { b.st with sequence := w, overlapped := ovl' } }
         if w.isEmpty then cancelSequence e3
         else match lookupKey t.entries w with
           | some j => terminate { e3 with st := { e3.st with overlapped := ovl' ++ [KEY_OVERLAP_MARKER] } } j false
           | none => e3) :=
  doSeqPress_closed hne mc e k mm (markerDead_of_noOvl hn _) (noOvl_absent hn (or_marker_ovl _))

/-- the table `(defseq v0 (lsft a))`: a bare modifier key in a key list is stored without modifier
bits (`[lsft, a]`), but pressing lsft pushes `lsft|S`; only the backtracking loop with modcancel finds
it.  So this sequence fires with `sequence-backtrack-modcancel yes` and can never fire with `no`
(real code: `C12 R 0 50 0 1 0 50 1 0 2 k 42 k 30 H 12 p 59 t 2 r 59 t 2 p 42 t 2 r 42 t 2 p 30 t 2 r 30 t 10`
taps the virtual key, the same line with modcancel `0` does not). -/
example : NoOvlTrie ⟨[([42, 30], 0)]⟩ ∧
    stdSettle ⟨[([42, 30], 0)]⟩ true [pushedOf 42 0x8000] = some [42] ∧
    stdSettle ⟨[([42, 30], 0)]⟩ false [pushedOf 42 0x8000] = none ∧
    (∃ e', engRunM ⟨[([42, 30], 0)]⟩ true (exFresh .hiddenSuppressed)
      (callsOf [.press 42, .release 42, .press 30, .release 30] []) = .ok e' ∧ e'.taps = [0]) ∧
    (∃ e', engRunM ⟨[([42, 30], 0)]⟩ false (exFresh .hiddenSuppressed)
      (callsOf [.press 42, .release 42, .press 30, .release 30] []) = .ok e' ∧ e'.taps = []) :=
  by decide +kernel

/-- **held_modifier_with_modcancel** (full for tables of plain keys).  With
`sequence-backtrack-modcancel yes`, on a table of plain keys, typing plain keys while any modifiers
are held (each press arriving with any mask of modifier bits — e.g. a modifier held since before the
leader) runs exactly as if no modifier were held: every statement of Props/C12.lean about plain
tables (`seq_fires_once_partial`, `nonmatching_key_ends_partial`) holds verbatim for such typing. -/
theorem held_modifier_with_modcancel {t : Trie Nat} (hp : PlainTrie t) (is : List InpM) (e : Eng)
    (hs : ∀ x ∈ e.st.sequence, x < 1024) (hh : PlainHeld is) :
    engRunM t true e is = engRun t true e (forgetM is) :=
  engRunM_modcancel_plain hp is e hh

/-- `a`, `b` typed with ctrl held (mask 0x4000) on the plain table `(defseq v0 (a b) v1 (a c d))`:
virtual key 0 is tapped once -/
example : ∃ e', engRunM exPlain true (exFresh .hiddenSuppressed) [.key 30 0x4000, .tick, .key 48 0x4000] = .ok e' ∧
    e'.st.active = false ∧ e'.taps = [0] := by
  rw [held_modifier_with_modcancel (t := exPlain) (by decide) _ _ (by simp [exFresh, SeqState.activate])
    (by simp [PlainHeld]; decide)]
  obtain ⟨e', h1, h2, h3, _⟩ := seq_fires_once_partial (t := exPlain) (by decide)
    (accepted_prefix_free exPlainTable exPlain exPlainTable_accepted) true (exFresh .hiddenSuppressed) [30] 48 0
    [.key 30, .tick] (by decide) rfl rfl (by decide) rfl rfl (by simp [WellTimed, exFresh, SeqState.activate])
  exact ⟨e', h1, h2, h3⟩

/-- **held_modifier_without_modcancel** (full for tables of plain keys).  With
`sequence-backtrack-modcancel no`, on a table of plain keys, a plain key pressed while a modifier is
held (a non-zero mask of modifier bits) cancels sequence mode at once: nothing is tapped
(hidden-delay-type then types the raw keys).  So with `no`, a plain sequence cannot be typed while
an unrelated modifier is down. -/
theorem held_modifier_without_modcancel {t : Trie Nat} (hp : PlainTrie t) (e : Eng) (k mm : Nat)
    (hk : plainKey k = true) (hs : ∀ x ∈ e.st.sequence, x < 1024)
    (hm : mm % 2048 = 0) (hm0 : mm ≠ 0) (hm16 : mm < 65536) :
    (doSeqPress t false e k mm).st.active = false ∧ (doSeqPress t false e k mm).taps = e.taps ∧
    (doSeqPress t false e k mm).out = e.out ++
      (match e.st.mode with
       | .hiddenSuppressed => []
       | .hiddenDelayType => (e.st.rawOscs ++ [k]).flatMap (fun x => osPress x ++ osRelease x)
       | .visibleBackspaced => [Out.down k]) := by
  obtain ⟨ovl, hd⟩ := doSeqPress_nomodcancel_plain hp e mm hk hm hm0 hm16
  exact cancelled_press e hk ovl hd

example : (doSeqPress exPlain false (exFresh .hiddenSuppressed) 30 0x4000).st.active = false ∧
    (doSeqPress exPlain false (exFresh .hiddenSuppressed) 30 0x4000).taps = [] :=
  let h := held_modifier_without_modcancel (t := exPlain) (by decide) (exFresh .hiddenSuppressed) 30 0x4000
    (by decide) (by simp [exFresh, SeqState.activate]) (by decide) (by decide) (by decide)
  ⟨h.1, h.2.1⟩

/-! ## 3. `O-(…)` groups: the members typed in any order, then released -/

/-- **overlap_group_completes_partial.**
Full statement aimed at: for every accepted table, typing the members of an `O-(…)` group in any
order (each press arriving while an earlier one is still down) and releasing them taps exactly the
virtual key the table defines for that set of keys.  As it stands this is false of the code
(`overlap_group_subgroup_counterexample`, `overlap_group_plain_prefix_counterexample`,
`overlap_group_continued_counterexample`: the standard variant, which runs in parallel, may complete
something else first), so it is proved under three decidable side conditions on the table and the
typed order `ps`, and for whole-group entries `O-(k1 … kn)` of plain keys:
* `noEarly`: no proper non-empty prefix of `ps` is itself defined, neither as a plain sequence
  `p1 … pi` nor as a complete group `O-(p1 … pi)`;
* `ovlThenPlainFree`: no stored key has a group member or a marker directly followed by one of the
  plain keys `ps` (no sequence continues with one of these keys after an `O-(…)` group);
* the member keys are plain keys other than key code 0.
Proved: for every accepted table with an entry `(v, O-(k1 … kn))`, every permutation `ps` of the
members (the parser stored all of them: `group_stored`), sequence mode just entered; the calls `pre`
are the presses of `ps` in order, each with no modifier held and without an all-released hook in
between, timer ticks anywhere, every tick leaving time on the timer; then the all-released hook;
then anything without key presses.  Then `v` is tapped exactly once and nothing else, and sequence
mode ends — by the last member's press when nothing longer is possible, else by the all-released
hook; nothing is sent to the OS in the hidden modes.
Missing for the full claim: groups inside longer key lists (`a O-(b c)`, `O-(a b) c`) typed after or
before other keys, modifier keys as group members, and a weakest side condition in place of the
three above. -/
theorem overlap_group_completes_partial (tbl : List (Nat × List Item)) (t : Trie Nat)
    (hacc : parseSequences tbl = .ok t) (v : Nat) (ks : List Nat)
    (hmem : (v, [Item.held [KC_OVERLAP] (ks.map Item.key)]) ∈ tbl)
    (hks : ∀ k ∈ ks, plainKey k = true ∧ k ≠ 0) (hne : ks ≠ []) (ps : List Nat) (hperm : ps.Perm ks)
    (hadj : ovlThenPlainFree t.entries ps = true) (hearly : noEarly t.entries ps = true)
    (mc : Bool) (e : Eng) (pre post : List InpM) (hkeys : keysOfM pre = ps) (hg : GroupPresses pre)
    (hpost : hasKey post = false)
    (ha : e.st.active = true) (hseq : e.st.sequence = []) (hovl : e.st.overlapped = [])
    (hT : 0 < e.st.timeout) (hb : e.st.ticksUntilTimeout = e.st.timeout)
    (hwt : WellTimedAll e.st.timeout e.st.timeout pre) :
    ∃ e', engRunM t mc e (pre ++ [.released] ++ post) = .ok e' ∧ e'.st.active = false ∧
      e'.taps = e.taps ++ [v] ∧ (e.st.mode ≠ .visibleBackspaced → e'.out = e.out) := by
  have hok := accepted_prefix_free tbl t hacc
  have hst := group_stored hacc hmem hks hne ps hperm
  have hpl : ∀ p ∈ ps, plainKey p = true ∧ p ≠ 0 := fun p hp => hks p ((hperm.mem_iff).1 hp)
  obtain ⟨e', h1, h2, h3, h4⟩ := group_run hok hadj hst hpl hearly mc pre e [] ha (hb ▸ hT) hT
    (by simpa using hkeys) hg ⟨by simpa using hovl, Or.inl hseq⟩ (hb ▸ hwt)
  refine ⟨e', ?_, h2, h3, h4⟩
  rw [engRunM_append, h1]
  exact engRunM_idle t mc post e' h2 hpost

/-- **overlap_group_completes_typed_partial**: the same over physical key events — all members
pressed in the order `ps` (events `A`), then all released in any order `qs` (events `B`), timer ticks
anywhere. -/
theorem overlap_group_completes_typed_partial (tbl : List (Nat × List Item)) (t : Trie Nat)
    (hacc : parseSequences tbl = .ok t) (v : Nat) (ks : List Nat)
    (hmem : (v, [Item.held [KC_OVERLAP] (ks.map Item.key)]) ∈ tbl)
    (hks : ∀ k ∈ ks, plainKey k = true ∧ k ≠ 0) (hne : ks ≠ []) (ps : List Nat) (hperm : ps.Perm ks)
    (hnd : ps.Nodup)
    (hadj : ovlThenPlainFree t.entries ps = true) (hearly : noEarly t.entries ps = true)
    (mc : Bool) (e : Eng) (A B : List PEv) (qs : List Nat)
    (hA : evsOf A = ps.map Ev.press) (hB : evsOf B = qs.map Ev.release) (hq : qs.Perm ps)
    (ha : e.st.active = true) (hseq : e.st.sequence = []) (hovl : e.st.overlapped = [])
    (hT : 0 < e.st.timeout) (hb : e.st.ticksUntilTimeout = e.st.timeout)
    (hwt : WellTimedAll e.st.timeout e.st.timeout (callsOf (A ++ B) [])) :
    ∃ e', engRunM t mc e (callsOf (A ++ B) []) = .ok e' ∧ e'.st.active = false ∧
      e'.taps = e.taps ++ [v] ∧ (e.st.mode ≠ .visibleBackspaced → e'.out = e.out) := by
  have hmask : ∀ k ∈ ps, modMask k = 0 := fun k hk => plainKey_modMask (hks k ((hperm.mem_iff).1 hk)).1
  have hpne : ps ≠ [] := by
    intro h0; rw [h0] at hperm; exact hne (hperm.nil_eq).symm
  have hg : GroupPresses (callsOf A []) :=
    GroupPresses_callsOf A [] (by rw [hA]; simp) (by rw [hA, pressedOf_presses]; exact hmask)
  have hk : keysOfM (callsOf A []) = ps := by rw [keysOfM_callsOf, hA, pressedOf_presses]
  have hheld : heldAfter (evsOf A) [] = ps := by rw [hA, heldAfter_presses, List.nil_append]
  obtain ⟨T1, T2, hc, hg1, hk1, hk2⟩ := callsOf_releases B ps (by rw [hB, pressedOf_releases]) hpne
    (by rw [hB]; exact heldAfter_releases qs ps [] hq (by simpa using hnd))
  have hcalls : callsOf (A ++ B) [] = (callsOf A [] ++ T1) ++ [.released] ++ T2 := by
    rw [callsOf_append, hheld, hc]; simp
  rw [hcalls] at hwt ⊢
  exact overlap_group_completes_partial tbl t hacc v ks hmem hks hne ps hperm hadj hearly mc e
    (callsOf A [] ++ T1) T2 (by rw [keysOfM_append, hk, hk1]; simp) (GroupPresses_append _ _ hg hg1) hk2
    ha hseq hovl hT hb
    (WellTimedAll_append_left _ _ [.released] _ (WellTimedAll_append_left _ _ T2 _ hwt))

/-- the table `(defseq v0 (O-(a b c)) v1 (a b x))` -/
def exGroupTable : List (Nat × List Item) :=
  [(0, [.held [251] [.key 30, .key 48, .key 46]]), (1, [.key 30, .key 48, .key 45])]

def exGroupTrie : Trie Nat :=
  ⟨[([30, 48, 45], 1), ([1070, 1072, 1054, 1024], 0), ([1072, 1070, 1054, 1024], 0), ([1054, 1070, 1072, 1024], 0),
    ([1070, 1054, 1072, 1024], 0), ([1072, 1054, 1070, 1024], 0), ([1054, 1072, 1070, 1024], 0)]⟩

theorem exGroupTable_accepted : parseSequences exGroupTable = .ok exGroupTrie := by rfl

example : parseSequences exGroupTable = .ok exGroupTrie := exGroupTable_accepted

/-- `c`, `a`, `b` pressed in this order (each while the previous ones are down), then released in the
order `a c b`: virtual key 0 is tapped once.  The order `a b c` works too although `a b` is the
beginning of the plain sequence `a b x` — nothing *defined* is a proper prefix. -/
example : ∃ e', engRunM exGroupTrie true (exFresh .hiddenSuppressed)
      (callsOf ([.press 46, .tick, .press 30, .press 48, .tick] ++ [.release 30, .tick, .release 46, .release 48, .tick]) [])
        = .ok e' ∧ e'.st.active = false ∧ e'.taps = [0] ∧ e'.out = [] := by
  obtain ⟨e', h1, h2, h3, h4⟩ := overlap_group_completes_typed_partial exGroupTable exGroupTrie exGroupTable_accepted 0
    [30, 48, 46] (by simp [exGroupTable, KC_OVERLAP]) (by decide) (by decide) [46, 30, 48] (by decide) (by decide)
    (by decide) (by decide) true (exFresh .hiddenSuppressed)
    [.press 46, .tick, .press 30, .press 48, .tick] [.release 30, .tick, .release 46, .release 48, .tick]
    [30, 46, 48] (by decide) (by decide) (by decide) rfl rfl rfl (by decide) rfl
    (by simp [WellTimedAll, callsOf, exFresh, SeqState.activate])
  exact ⟨e', h1, h2, h3, h4 (by decide)⟩

example : noEarly exGroupTrie.entries [30, 48, 46] = true ∧ ovlThenPlainFree exGroupTrie.entries [30, 48, 46] = true := by
  decide

/-- **overlap_group_subgroup_counterexample** (why `noEarly` is needed, group half).
`(defseq v0 (O-(a b)) v1 (O-(a b c)))` is accepted; pressing `a`, `b`, `c` (all held) taps `v0` at the
press of `b` and `c` is typed as an ordinary key: `v1` can only be typed in the orders that do not
begin with `a b` / `b a` (e.g. `c b a` taps `v1`).  Replayed on the real code:
`C12 R 0 50 0 1 0 50 2 0 1 h 1 251 2 k 30 k 48 1 1 h 1 251 3 k 30 k 48 k 46 H 16 p 59 t 2 r 59 t 2 p 30 t 2 p 48 t 2 p 46 t 2 r 30 t 1 r 48 t 1 r 46 t 10`. -/
theorem overlap_group_subgroup_counterexample :
    ∃ t, parseSequences [(0, [.held [251] [.key 30, .key 48]]), (1, [.held [251] [.key 30, .key 48, .key 46]])] = .ok t ∧
      (∃ e', engRunM t true (exFresh .hiddenSuppressed) [.key 30 0, .key 48 0, .key 46 0, .released] = .ok e' ∧
        e'.taps = [0] ∧ e'.out = [.down 46]) ∧
      (∃ e', engRunM t true (exFresh .hiddenSuppressed) [.key 46 0, .key 48 0, .key 30 0, .released] = .ok e' ∧
        e'.taps = [1]) :=
  by decide +kernel

/-- **overlap_group_plain_prefix_counterexample** (why `noEarly` is needed, plain half).
`(defseq v0 (a) v1 (O-(a b)))` is accepted; pressing `a` then `b` taps `v0` at once; only `b` then `a`
taps `v1`.  Replayed on the real code:
`C12 R 0 50 0 1 0 50 2 0 1 k 30 1 1 h 1 251 2 k 30 k 48 H 12 p 59 t 2 r 59 t 2 p 30 t 2 p 48 t 2 r 30 t 1 r 48 t 10`. -/
theorem overlap_group_plain_prefix_counterexample :
    ∃ t, parseSequences [(0, [.key 30]), (1, [.held [251] [.key 30, .key 48]])] = .ok t ∧
      (∃ e', engRunM t true (exFresh .hiddenSuppressed) [.key 30 0, .key 48 0, .released] = .ok e' ∧ e'.taps = [0]) ∧
      (∃ e', engRunM t true (exFresh .hiddenSuppressed) [.key 48 0, .key 30 0, .released] = .ok e' ∧ e'.taps = [1]) :=
  by decide +kernel

/-- **overlap_group_continued_counterexample** (why `ovlThenPlainFree` is needed).
`(defseq v0 (O-(a b) c) v1 (O-(a b c d)))` is accepted; pressing `a b c d` (all held) taps `v0` at the
press of `c`.  Replayed on the real code:
`C12 R 0 50 0 1 0 50 2 0 2 h 1 251 2 k 30 k 48 k 46 1 1 h 1 251 4 k 30 k 48 k 46 k 32 H 20 p 59 t 2 r 59 t 2 p 30 t 2 p 48 t 2 p 46 t 2 p 32 t 2 r 30 t 1 r 48 t 1 r 46 t 1 r 32 t 10`. -/
theorem overlap_group_continued_counterexample :
    ∃ t, parseSequences [(0, [.held [251] [.key 30, .key 48], .key 46]),
        (1, [.held [251] [.key 30, .key 48, .key 46, .key 32]])] = .ok t ∧
      noEarly t.entries [30, 48, 46, 32] = true ∧
      ∃ e', engRunM t true (exFresh .hiddenSuppressed) [.key 30 0, .key 48 0, .key 46 0, .key 32 0, .released] = .ok e' ∧
        e'.taps = [0] :=
  by decide +kernel

end KVerif.Seq
