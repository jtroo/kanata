/-
C14 (table level, chords v2) — the key-output table `create_key_outputs` builds lists, per layer and
physical key, also every key code of every `defchordsv2` chord the key takes part in and that is not
disabled on that layer - and nothing of a chord that is disabled there.

Model: Model/KeyOutputsV2.lean (`createKeyOutputs`: layers x key positions, the key's own action then
the chords registered for the key, override table passed down to `add_kc_output`; `registerChords`:
the registration loop of `parse_defchordv2`). Helper lemmas: Lemmas/KeyoutBase.lean (the walk over an
action as a fold of `add_kc_output`), Lemmas/KeyOutputsV2.lean.
All statements are unbounded in the number of layers, positions, chords, participants and in the
nesting of the actions.
-/
import KVerif.Lemmas.KeyOutputsV2
namespace KVerif.C14v2
open KVerif.L KVerif.K KVerif.KO KVerif.KO2

/-! ### concrete table used by the examples: keys j k l on two layers, three overlapping chords,
the first one disabled on layer 1, an override `lsft+x -> q` -/

def exOverrides : Override.Overrides :=
  Override.Overrides.new [{ inKey := 45, outKey := 16, inMods := [42], outMods := [] }]

/-- `(j k) x 50 all-released (l1)`, `(k l) (multi y (tap-hold 200 200 1 lctl)) …  ()`,
`(j l) (fork z S-w (lalt)) … ()` -/
def exChords : List ChordV2 :=
  [ { action := .keyCode 45, keys := [36, 37], pending := 50, disabledLayers := [1], release := .onLastRelease },
    { action := .multipleActions [.keyCode 21, .holdTap 200 (.keyCode 29) (.keyCode 2) (.keyCode 29) .default 200],
      keys := [37, 38], pending := 50, disabledLayers := [], release := .onLastRelease },
    { action := .fork (.keyCode 44) (.multipleKeyCodes [42, 17]) [56],
      keys := [36, 38], pending := 50, disabledLayers := [], release := .onFirstRelease } ]

def exLayers : List (List (Nat × Action)) :=
  [ [(36, .keyCode 36), (37, .keyCode 37), (38, .keyCode 38)],
    [(36, .keyCode 36), (37, .trans), (38, .multipleKeyCodes [42, 38])] ]

def exChv2 : Option ChV2Cfg := some { mapping := registerChords exChords, minIdle := 5 }

/-- the table of the example, as `create_key_outputs` builds it: on layer 0 `j` lists `x` (and the
override output `q`), on layer 1 - where the chord `(j k)` is disabled - neither `j` nor `k` does -/
def exTable : List Rows :=
  [ [(36, [36, 45, 16, 44, 42, 17]), (37, [37, 45, 16, 21, 2, 29]), (38, [38, 21, 2, 29, 44, 42, 17])],
    [(36, [36, 44, 42, 17]), (37, [21, 2, 29]), (38, [42, 38, 21, 2, 29, 44, 17])] ]

theorem exTable_eq : createKeyOutputs exOverrides [] (fun _ => true) exChv2 exLayers = .ok exTable := by rfl

/-! ### the table is built whenever the layer indices fit `u16` -/

/-- **create_key_outputs_ok** (full): with at most 65536 layers the assertion on the layer index holds
and the table has one row map per layer. -/
theorem create_key_outputs_ok (t : Override.Overrides) (customs : List (List CAct)) (valid : Nat → Bool)
    (chv2 : Option ChV2Cfg) (layers : List (List (Nat × Action))) (h : layers.length ≤ LAYER_IDX_MAX + 1) :
    ∃ tbl, createKeyOutputs t customs valid chv2 layers = .ok tbl ∧ tbl.length = layers.length := by
  obtain ⟨tbl, htbl⟩ := createFrom_ok t customs valid chv2 layers 0 (by omega)
  exact ⟨tbl, htbl, (createFrom_get t customs valid chv2 layers 0 tbl htbl).1⟩

example : ∃ tbl, createKeyOutputs exOverrides [] (fun _ => true) exChv2 exLayers = .ok tbl ∧ tbl.length = 2 :=
  create_key_outputs_ok _ _ _ _ exLayers (by decide)

/-- **create_key_outputs_layer_idx_assert** (full): a layer whose index exceeds `u16::MAX` and that has
a key position makes `add_chordsv2_output_for_key_pos` fail its assertion (the parser never builds
that many layers). -/
theorem create_key_outputs_layer_idx_assert (t : Override.Overrides) (customs : List (List CAct)) (valid : Nat → Bool)
    (chv2 : Option ChV2Cfg) (layerIdx : Nat) (hL : layerIdx > LAYER_IDX_MAX) (layer : List (Nat × Action))
    (m : Rows) (h : ∃ e ∈ layer, valid e.1 = true) :
    layerOutputs t customs valid chv2 layerIdx layer m = .error .layerIdxAssert :=
  layerOutputs_crash t customs valid chv2 layerIdx hL layer m h

example : layerOutputs exOverrides [] (fun _ => true) exChv2 65536 [(36, .keyCode 36)] [] = .error .layerIdxAssert :=
  create_key_outputs_layer_idx_assert _ _ _ _ 65536 (by decide) _ _ ⟨_, List.mem_cons_self, rfl⟩

/-! ### the row of a key, exactly -/

/-- **keyouts_v2_row** (full; this is also the ORDER statement): the row of key position `k` on layer
`L` is exactly: the outputs of the key's own action (in the order `keyouts_complete` speaks about),
then the outputs of the chords registered for `k` that are not disabled on `L`, in table order, each
key code at its first occurrence only, each followed by the output keys of its overrides.
`handle_repeat` scans the row backwards (`repeat_prefers_last_listed`), so an active output of a
later chord is preferred to one of an earlier chord, and any chord output to the key's own. -/
theorem keyouts_v2_row (t : Override.Overrides) (customs : List (List CAct)) (valid : Nat → Bool)
    (chv2 : Option ChV2Cfg) (layers : List (List (Nat × Action))) (tbl : List Rows)
    (h : createKeyOutputs t customs valid chv2 layers = .ok tbl)
    (L : Nat) (hL : L < layers.length) (hnd : (layers[L].map (·.1)).Nodup)
    (k : Nat) (a : Action) (hpos : (k, a) ∈ layers[L]) (hv : valid k = true) :
    tableRow tbl L k = rowV2 t customs k a L (chordsFor chv2 k) := by
  rw [tableRow_eq_rowFold h hL (layerIdx_le_of_ok h hL ⟨(k, a), hpos, hv⟩) k,
    rowFold_nodup t customs valid chv2 L k a hv layers[L] _ hnd hpos]
  -- the empty row is the override closure of `[]`; the walk and the chord loop keep that form
  have own : addOutputsOv t customs k a [] = withOverrides t (keyOutputs customs k a) :=
    addOutputsOv_withOverrides t customs k a []
  rw [own]
  exact addChordsRow_withOverrides ..

example : tableRow exTable 0 36 = rowV2 exOverrides [] 36 (.keyCode 36) 0 (chordsFor exChv2 36) :=
  keyouts_v2_row _ _ _ _ exLayers _ exTable_eq 0 (by decide) (by decide) 36 _ List.mem_cons_self rfl

example : tableRow exTable 0 36 = [36, 45, 16, 44, 42, 17] ∧ tableRow exTable 1 36 = [36, 44, 42, 17] := by decide

/-- **keyouts_v2_own_outputs_first** (full; order): the row the key would have without chords v2 - the
entry `keyouts_complete_with_overrides` speaks about - is a PREFIX of its row: chord outputs are only
appended. With the backward scan of `handle_repeat` (`repeat_prefers_last_listed`) an active chord
output therefore wins over the key's own outputs. -/
theorem keyouts_v2_own_outputs_first (t : Override.Overrides) (customs : List (List CAct)) (valid : Nat → Bool)
    (chv2 : Option ChV2Cfg) (layers : List (List (Nat × Action))) (tbl : List Rows)
    (h : createKeyOutputs t customs valid chv2 layers = .ok tbl)
    (L : Nat) (hL : L < layers.length) (hnd : (layers[L].map (·.1)).Nodup)
    (k : Nat) (a : Action) (hpos : (k, a) ∈ layers[L]) (hv : valid k = true) :
    withOverrides t (keyOutputs customs k a) <+: tableRow tbl L k := by
  rw [keyouts_v2_row t customs valid chv2 layers tbl h L hL hnd k a hpos hv]
  exact withOverrides_prefix t _ _ (foldChords_prefix customs k _ _)

example : withOverrides exOverrides (keyOutputs [] 38 (.multipleKeyCodes [42, 38])) <+: tableRow exTable 1 38 :=
  keyouts_v2_own_outputs_first exOverrides [] (fun _ => true) exChv2 exLayers exTable exTable_eq 1 (by decide) (by decide)
    38 (.multipleKeyCodes [42, 38]) (.tail _ (.tail _ (.head _))) rfl

/-- **holdtap_same_timeout_visit_is_noop** (full): the hold-tap arm of
`add_key_output_from_action_to_key_pos` skips the timeout action when it is the same nested hold-tap
object as the hold action; the model visits it always. On every row the builder ever holds (an
override closure) the two agree: visiting the hold action again adds nothing. -/
theorem holdtap_same_timeout_visit_is_noop (t : Override.Overrides) (customs : List (List CAct)) (slot : Nat)
    (timeout interval : Nat) (cfg : HTConfig) (hold tap : Action) (outs : List Nat) :
    addOutputsOv t customs slot (.holdTap timeout hold tap hold cfg interval) (withOverrides t outs) =
      addOutputsOv t customs slot hold (addOutputsOv t customs slot tap (withOverrides t outs)) := by
  simp only [addOutputsOv]
  exact addOutputsOv_self t customs slot hold _

example : addOutputsOv exOverrides [] 30 (.holdTap 200 (.holdTap 100 (.keyCode 45) (.keyCode 2) (.keyCode 45) .default 0) (.keyCode 21)
      (.holdTap 100 (.keyCode 45) (.keyCode 2) (.keyCode 45) .default 0) .default 0) [] = [21, 2, 45, 16] := by decide

/-! ### the row as a set -/

/-- a key code "comes from" an action: it is the code of a key-producing leaf, or the output key of
an override of one -/
def FromAction (t : Override.Overrides) (customs : List (List CAct)) (k : Nat) (a : Action) (x : Nat) : Prop :=
  x ∈ possibleOutputs customs k a ∨ ∃ y ∈ possibleOutputs customs k a, x ∈ overrideOuts t y

/-- the row holds exactly what comes from the key's own action or from a chord enabled on the layer -/
theorem mem_rowV2 {t : Override.Overrides} {customs : List (List CAct)} {k L : Nat} {a : Action}
    {chs : List ChordV2} {x : Nat} :
    x ∈ rowV2 t customs k a L chs ↔
      FromAction t customs k a x ∨ ∃ C ∈ chs, L ∉ C.disabledLayers ∧ FromAction t customs k C.action x := by
  simp only [rowV2, FromAction, mem_withOverrides, mem_foldChords, keyOutputs, mem_addOutputs, List.not_mem_nil,
    false_or, mem_enabledChords, and_assoc]
  constructor
  · rintro ((h | ⟨C, hC, hen, h⟩) | ⟨y, h | ⟨C, hC, hen, h⟩, ho⟩)
    · exact .inl (.inl h)
    · exact .inr ⟨C, hC, hen, .inl h⟩
    · exact .inl (.inr ⟨y, h, ho⟩)
    · exact .inr ⟨C, hC, hen, .inr ⟨y, h, ho⟩⟩
  · rintro ((h | ⟨y, h, ho⟩) | ⟨C, hC, hen, h | ⟨y, h, ho⟩⟩)
    · exact .inl (.inl h)
    · exact .inr ⟨y, .inl h, ho⟩
    · exact .inl (.inr ⟨C, hC, hen, h⟩)
    · exact .inr ⟨y, .inr ⟨C, hC, hen, h⟩, ho⟩

/-! ### completeness -/

/-- **keyouts_complete_chords_v2_mapping** (full), in terms of the table `ChordsForKeys.mapping`: for
every layer `L`, every key position `k`, every chord registered for `k` that is not disabled on `L`
and every key code `x` of a key-producing leaf of the chord's action (any nesting; the leaf notion of
`keyouts_complete`): `x` is in the row of `k` on layer `L`, and so is the output key of every
override of `x`. -/
theorem keyouts_complete_chords_v2_mapping (t : Override.Overrides) (customs : List (List CAct)) (valid : Nat → Bool)
    (chv2 : Option ChV2Cfg) (layers : List (List (Nat × Action))) (tbl : List Rows)
    (h : createKeyOutputs t customs valid chv2 layers = .ok tbl)
    (L : Nat) (hL : L < layers.length) (hnd : (layers[L].map (·.1)).Nodup)
    (k : Nat) (a : Action) (hpos : (k, a) ∈ layers[L]) (hv : valid k = true)
    (C : ChordV2) (hC : C ∈ chordsFor chv2 k) (hen : L ∉ C.disabledLayers)
    (x : Nat) (hx : x ∈ possibleOutputs customs k C.action) :
    x ∈ tableRow tbl L k ∧ ∀ o ∈ overrideOuts t x, o ∈ tableRow tbl L k := by
  rw [keyouts_v2_row t customs valid chv2 layers tbl h L hL hnd k a hpos hv]
  exact ⟨mem_rowV2.mpr (.inr ⟨C, hC, hen, .inl hx⟩),
    fun o ho => mem_rowV2.mpr (.inr ⟨C, hC, hen, .inr ⟨x, hx, ho⟩⟩)⟩

/-- **keyouts_complete_chords_v2** (full): the same with the mapping built by the registration loop of
`parse_defchordv2` from the list of chords: for every layer `L`, every chord `C` of the
configuration not disabled on `L`, every participating key `k` of `C` and every key code `x` that
`C`'s action can produce, `x` is in row `k` of layer `L` - and with overrides the override outputs too. -/
theorem keyouts_complete_chords_v2 (t : Override.Overrides) (customs : List (List CAct)) (valid : Nat → Bool)
    (chords : List ChordV2) (minIdle : Nat) (layers : List (List (Nat × Action))) (tbl : List Rows)
    (h : createKeyOutputs t customs valid (some { mapping := registerChords chords, minIdle }) layers = .ok tbl)
    (L : Nat) (hL : L < layers.length) (hnd : (layers[L].map (·.1)).Nodup)
    (C : ChordV2) (hC : C ∈ chords) (hen : L ∉ C.disabledLayers)
    (k : Nat) (hk : k ∈ C.keys) (a : Action) (hpos : (k, a) ∈ layers[L]) (hv : valid k = true)
    (x : Nat) (hx : x ∈ possibleOutputs customs k C.action) :
    x ∈ tableRow tbl L k ∧ ∀ o ∈ overrideOuts t x, o ∈ tableRow tbl L k := by
  apply keyouts_complete_chords_v2_mapping t customs valid _ layers tbl h L hL hnd k a hpos hv C _ hen x hx
  rw [chordsFor_eq_regGet]
  exact (mem_regGet_registerChords chords k C).mpr ⟨hC, hk⟩

/-- the chord `(j k) -> x` is enabled on layer 0: `x` and the override output `q` are in row `j` -/
example : 45 ∈ tableRow exTable 0 36 ∧ ∀ o ∈ overrideOuts exOverrides 45, o ∈ tableRow exTable 0 36 :=
  keyouts_complete_chords_v2 exOverrides [] (fun _ => true) exChords 5 exLayers exTable exTable_eq 0 (by decide) (by decide)
    (exChords[0]'(by decide)) (List.getElem_mem _) (by decide) 36 (by decide) (.keyCode 36) List.mem_cons_self rfl 45 (by decide)

/-- the tap-hold nested in a multi of chord `(k l)`: its tap key `1` is in row `l` of layer 1 -/
example : 2 ∈ tableRow exTable 1 38 :=
  (keyouts_complete_chords_v2 exOverrides [] (fun _ => true) exChords 5 exLayers exTable exTable_eq 1 (by decide) (by decide)
    (exChords[1]'(by decide)) (List.getElem_mem _) (by decide) 38 (by decide) (.multipleKeyCodes [42, 38]) (.tail _ (.tail _ (.head _))) rfl 2 (by decide)).1

/-- **keyouts_complete_own_with_chords_v2** (full): the chords do not push the key's own outputs out:
every key code of a key-producing leaf of the key's own action on layer `L` (and its override
outputs) is in the row as well. -/
theorem keyouts_complete_own_with_chords_v2 (t : Override.Overrides) (customs : List (List CAct)) (valid : Nat → Bool)
    (chv2 : Option ChV2Cfg) (layers : List (List (Nat × Action))) (tbl : List Rows)
    (h : createKeyOutputs t customs valid chv2 layers = .ok tbl)
    (L : Nat) (hL : L < layers.length) (hnd : (layers[L].map (·.1)).Nodup)
    (k : Nat) (a : Action) (hpos : (k, a) ∈ layers[L]) (hv : valid k = true)
    (x : Nat) (hx : x ∈ possibleOutputs customs k a) :
    x ∈ tableRow tbl L k ∧ ∀ o ∈ overrideOuts t x, o ∈ tableRow tbl L k := by
  rw [keyouts_v2_row t customs valid chv2 layers tbl h L hL hnd k a hpos hv]
  exact ⟨mem_rowV2.mpr (.inl (.inl hx)), fun o ho => mem_rowV2.mpr (.inl (.inr ⟨x, hx, ho⟩))⟩

example : 38 ∈ tableRow exTable 1 38 :=
  (keyouts_complete_own_with_chords_v2 exOverrides [] (fun _ => true) exChv2 exLayers exTable exTable_eq 1 (by decide) (by decide)
    38 (.multipleKeyCodes [42, 38]) (.tail _ (.tail _ (.head _))) rfl 38 (by decide)).1

/-! ### only enabled chords contribute -/

/-- **keyouts_v2_only_enabled** (full): every key code in row `k` of layer `L` comes from the key's own
action on `L` or from a chord registered for `k` that is NOT disabled on `L`. So a chord disabled on
`L` contributes nothing to `L`: a code that only it produces is in no row of `L`. -/
theorem keyouts_v2_only_enabled (t : Override.Overrides) (customs : List (List CAct)) (valid : Nat → Bool)
    (chv2 : Option ChV2Cfg) (layers : List (List (Nat × Action))) (tbl : List Rows)
    (h : createKeyOutputs t customs valid chv2 layers = .ok tbl)
    (L : Nat) (hL : L < layers.length) (hnd : (layers[L].map (·.1)).Nodup)
    (k : Nat) (a : Action) (hpos : (k, a) ∈ layers[L]) (hv : valid k = true)
    (x : Nat) (hx : x ∈ tableRow tbl L k) :
    FromAction t customs k a x ∨
    ∃ C ∈ chordsFor chv2 k, L ∉ C.disabledLayers ∧ FromAction t customs k C.action x := by
  rw [keyouts_v2_row t customs valid chv2 layers tbl h L hL hnd k a hpos hv] at hx
  exact mem_rowV2.mp hx

/-- **keyouts_v2_disabled_contributes_nothing** (full), the same read the other way: if on layer `L` the
key's own action does not produce `x` (nor an override of its outputs) and no chord of `k` that is
enabled on `L` does, then `x` is not in the row - whatever the chords disabled on `L` produce. -/
theorem keyouts_v2_disabled_contributes_nothing (t : Override.Overrides) (customs : List (List CAct)) (valid : Nat → Bool)
    (chv2 : Option ChV2Cfg) (layers : List (List (Nat × Action))) (tbl : List Rows)
    (h : createKeyOutputs t customs valid chv2 layers = .ok tbl)
    (L : Nat) (hL : L < layers.length) (hnd : (layers[L].map (·.1)).Nodup)
    (k : Nat) (a : Action) (hpos : (k, a) ∈ layers[L]) (hv : valid k = true)
    (x : Nat) (hown : ¬ FromAction t customs k a x)
    (hch : ∀ C ∈ chordsFor chv2 k, L ∉ C.disabledLayers → ¬ FromAction t customs k C.action x) :
    x ∉ tableRow tbl L k := by
  intro hx
  rcases keyouts_v2_only_enabled t customs valid chv2 layers tbl h L hL hnd k a hpos hv x hx with h1 | ⟨C, hC, hen, h1⟩
  · exact hown h1
  · exact hch C hC hen h1

/-- chord `(j k) -> x` is disabled on layer 1: `x` (and the override output `q`) is not in row `j` there -/
example : 45 ∉ tableRow exTable 1 36 ∧ 16 ∉ tableRow exTable 1 36 := by decide

example : 45 ∈ tableRow exTable 0 36 →
    FromAction exOverrides [] 36 (.keyCode 36) 45 ∨
    ∃ C ∈ chordsFor exChv2 36, 0 ∉ C.disabledLayers ∧ FromAction exOverrides [] 36 C.action 45 :=
  keyouts_v2_only_enabled exOverrides [] (fun _ => true) exChv2 exLayers exTable exTable_eq 0 (by decide) (by decide)
    36 (.keyCode 36) List.mem_cons_self rfl 45

/-- **keyouts_v2_unlisted_position** (full): a position that is no `OsCode` or that the layer does not
have gets no row. -/
theorem keyouts_v2_unlisted_position (t : Override.Overrides) (customs : List (List CAct)) (valid : Nat → Bool)
    (chv2 : Option ChV2Cfg) (layers : List (List (Nat × Action))) (tbl : List Rows)
    (h : createKeyOutputs t customs valid chv2 layers = .ok tbl)
    (L : Nat) (hL : L < layers.length) (hidx : L ≤ LAYER_IDX_MAX)
    (k : Nat) (hno : valid k = false ∨ k ∉ layers[L].map (·.1)) :
    tableRow tbl L k = [] := by
  rw [tableRow_eq_rowFold h hL hidx k]
  apply rowFold_absent
  intro e he hek
  rcases hno with h1 | h1
  · exact h1
  · exact absurd (hek ▸ List.mem_map_of_mem (f := (·.1)) he) h1

example : tableRow exTable 0 30 = [] :=
  keyouts_v2_unlisted_position exOverrides [] (fun _ => true) exChv2 exLayers exTable exTable_eq 0 (by decide) (by decide)
    30 (Or.inr (by decide))

/-! ### registration -/

/-- **chords_v2_registered_iff** (full): after the registration loop of `parse_defchordv2` a chord is in
the list of a key exactly when it is a chord of the configuration and the key takes part in it. -/
theorem chords_v2_registered_iff (chords : List ChordV2) (minIdle k : Nat) (C : ChordV2) :
    C ∈ chordsFor (some { mapping := registerChords chords, minIdle }) k ↔ C ∈ chords ∧ k ∈ C.keys := by
  rw [chordsFor_eq_regGet]
  exact mem_regGet_registerChords chords k C

example : (chordsFor exChv2 37).map (·.keys) = [[36, 37], [37, 38]] := by decide

end KVerif.C14v2
