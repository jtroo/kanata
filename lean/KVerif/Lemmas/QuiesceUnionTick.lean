/-
C01 helper lemmas: stage 1 of the combined fragment (`QuiesceUnion.lean`: one-shot keys and
tap-hold keys side by side, nothing nested) as a part of stage 3.  Its invariant `UInv` is that of
stage 3 (`QU3.UInv3`) together with what the flat configuration adds: every state is a plain key or a
held layer, and `handle_press` is never told to ignore events.  So quiescence on stage 1 is the
statement for stage 3; what is proved here is that the additions are kept, too, by every history.
-/
import KVerif.Lemmas.QuiesceUnion3Tick
namespace KVerif.QU
open KVerif.L KVerif.C06 KVerif.Quiesce KVerif.QU3

theorem uinv_iff {T I B d : Nat} {s : Layout} {down : List Coord} :
    UInv T I B d s down ↔ UInv3 T I B d s down ∧ (∀ st ∈ s.states, StOK st) ∧
      s.oneshot.ticksToIgnoreEvents = 0 ∧ Cfg1 s.cfg ∧ BoundU s.cfg T I B :=
  ⟨fun h => ⟨⟨h.extra, h.tde, h.aq, h.seqs, fun st hst => StOK4.of (h.states st hst), h.delay, h.pause, h.load,
      h.wok, cfg1_cfg3 h.cfg h.bound, h.qlen, h.qwf, h.idle, h.owned, h.lpt⟩, h.states, h.ignore, h.cfg, h.bound⟩,
   fun ⟨h, hs, hi, hc, hb⟩ => ⟨h.extra, h.tde, h.aq, h.seqs, hs, hi, h.delay, h.pause, h.load, h.wok, hc, hb,
      h.qlen, h.qwf, h.idle, h.owned, h.lpt⟩⟩

theorem UInv.to3 {T I B d : Nat} {s : Layout} {down : List Coord} (h : UInv T I B d s down) : UInv3 T I B d s down :=
  (uinv_iff.mp h).1

/-- no one-shot operation of a press starts ignoring events -/
theorem oshOpT_ignore {B : Nat} {o o' : OneShotState} {c : Coord} {ov : Option Coord} (op : OshOpT B o c o' ov) :
    o'.ticksToIgnoreEvents = o.ticksToIgnoreEvents := by
  cases op with
  | other => exact (handlePress_other_fields o c).2.2.2.1
  | activate T v hT => exact (activate_fields o c T v).2.2.2.1
  | skip => rfl

/-- the action a tap-hold key takes when it is decided adds plain keys and held layers only -/
theorem decided_plain {s base : Layout} {pz : Nat} (hb : Base s base pz) (c : Coord) {a : Action} (ha : Simple a) :
    (∀ st ∈ (simpleArm (prelude base c) a c false).states, st ∈ s.states ∨ StOK st) ∧
    (simpleArm (prelude base c) a c false).oneshot.ticksToIgnoreEvents = s.oneshot.ticksToIgnoreEvents := by
  have sp := simpleArm_spec (prelude base c) a ha c false
  refine ⟨fun st hst => ?_, ?_⟩
  · rcases ((prelude_adds base c).trans sp.adds).new st hst with g | g
    · exact Or.inl (hb.states ▸ g)
    · exact Or.inr g.2
  · rw [sp.osh, (prelude_spec base c).2.1, hb.osh]
    exact (handlePress_other_fields _ c).2.2.2.1

/-- **a tick keeps the invariant of stage 1** -/
theorem UInv.tick {T I B d : Nat} {s s' : Layout} {down : List Coord} {cu : CustomEv} (h : UInv T I B d s down)
    (ht : tick s = .ok (s', cu)) : UInv T I B d s' down := by
  obtain ⟨h3, hst, hig, hc, hb⟩ := uinv_iff.mp h
  obtain ⟨s1, i1, m, _, _, _, c1, _, _, st1, ig1⟩ := h3.stages ht
  obtain ⟨i2, c2, _⟩ := i1.main m
  have hst1 : ∀ st ∈ s1.states, StOK st := fun st hs => hst st (st1 st hs)
  have hig1 : s1.oneshot.ticksToIgnoreEvents = 0 := Nat.le_zero.mp (hig ▸ ig1)
  have hcfg : s'.cfg = s.cfg := c2.trans c1
  suffices (∀ st ∈ s'.states, StOK st) ∧ s'.oneshot.ticksToIgnoreEvents = 0 from
    uinv_iff.mpr ⟨i2, this.1, this.2, hcfg ▸ hc, hcfg ▸ hb⟩
  cases m with
  | undecided => exact ⟨hst1, hig1⟩
  | @decided w base pz a _ hw hb' _ ha hs =>
    obtain ⟨p1, p2⟩ := decided_plain hb' w.coord ha
    have p1' := fun st hs => (p1 st hs).elim (hst1 st) id
    rcases hs with rfl | rfl
    · exact ⟨p1', p2.trans hig1⟩
    · exact ⟨p1', p2.trans hig1⟩
  | paused => exact ⟨hst1, hig1⟩
  | idle => exact ⟨hst1, hig1⟩
  | release =>
    exact ⟨fun st hs => hst1 st (mem_afterRelease.mp hs).1, (handleRelease_deferred _ _).2.2.2.trans hig1⟩
  | @press c n rest _ c2 hw _ hq hd =>
    have hlen := i1.qlen
    rw [hq] at hlen
    obtain ⟨_, r⟩ := dequeue_press_U (T := T) (I := I) (B := B) (s := s1.setQueue rest) (c1 ▸ hc) (c1 ▸ hb) i1.tde hw
      hlen c n s' c2 hd
    obtain ⟨ov, op, _⟩ := r.osh
    exact ⟨fun st hs => (r.adds.new st hs).elim (hst1 st) fun g => g.2, (oshOpT_ignore op).trans hig1⟩

/-- **every history keeps the invariant of stage 1** (an event never arrives while 32 are pending) -/
theorem run_uinv {T I B d : Nat} (ins : List In) (s : Layout) (down : List Coord) (h : UInv T I B d s down)
    (s' : Layout) (down' : List Coord) (hr : run s down ins = some (.ok (s', down'))) : UInv T I B d s' down' :=
  run_preserves (fun s down e s' h hq he => by
      obtain ⟨h3, hst, hig, hc, hb⟩ := uinv_iff.mp h
      obtain ⟨s1, e1, i1, _, c1, t1, o1⟩ := h3.input e hq
      cases e1.symm.trans he
      exact uinv_iff.mpr ⟨i1, t1 ▸ hst, o1 ▸ hig, c1 ▸ hc, c1 ▸ hb⟩)
    (fun s down s' cu h ht => h.tick ht) ins s down h s' down' hr

end KVerif.QU
