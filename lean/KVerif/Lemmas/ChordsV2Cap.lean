/-
C09 helper lemmas for chords v2: sizes.  From the closed forms of the loops of one tick
(Lemmas/ChordsV2.lean, Lemmas/ChordsV2Release.lean): how long the kept queue, the hand-over queue
(`DrainQueue`) and the list of active chords can get in one tick, that the two assertions on the
hand-over queue cannot fail when the input queue and the active chords have their container sizes,
that these sizes are an invariant of `LayoutV2.event` / `tickV2Pre` / `LayoutV2.tick`, and what the
hand-over loop does to the layout queue.
-/
import KVerif.Props.C09V2
namespace KVerif.C09
open KVerif.L

/-! ## Containers -/

theorem pushBackWrap_length_le {α : Type} (cap : Nat) (l : List α) (x : α) (h : l.length ≤ cap) :
    (pushBackWrap cap l x).1.length ≤ cap := by
  unfold pushBackWrap
  split
  · simp only [List.length_append, List.length_cons, List.length_nil]; omega
  · cases l with
    | nil => exact Nat.zero_le _
    | cons a t =>
      simp only [List.length_cons, List.length_append, List.length_nil] at h ⊢
      exact h

theorem pushBackWrap_length_le_succ {α : Type} (cap : Nat) (l : List α) (x : α) :
    (pushBackWrap cap l x).1.length ≤ l.length + 1 := by
  unfold pushBackWrap
  split
  · simp only [List.length_append, List.length_cons, List.length_nil]; omega
  · cases l with
    | nil => exact Nat.zero_le _
    | cons a t => simp only [List.length_cons, List.length_append, List.length_nil]; omega

/-- the non-asserting push never makes the hand-over queue longer than one more -/
theorem drainPush_length_le (q : List Queued) (x : Queued) : (drainPush q x).length ≤ q.length + 1 :=
  pushBackWrap_length_le_succ _ _ _

theorem foldl_drainPush_length_le : ∀ (l dq : List Queued), (l.foldl drainPush dq).length ≤ dq.length + l.length
  | [], dq => Nat.le_refl _
  | x :: l, dq => by
    have := foldl_drainPush_length_le l (drainPush dq x)
    have := drainPush_length_le dq x
    simp only [List.foldl_cons, List.length_cons]; omega

theorem foldl_drainPush_fits : ∀ (l dq : List Queued), dq.length + l.length ≤ DRAIN_Q_LEN → l.foldl drainPush dq = dq ++ l
  | [], dq, _ => (List.append_nil _).symm
  | x :: l, dq, h => by
    simp only [List.length_cons] at h
    rw [List.foldl_cons, drainPush_fits dq x (by omega),
      foldl_drainPush_fits l _ (by simp only [List.length_append, List.length_cons, List.length_nil]; omega),
      List.append_assoc]; rfl

theorem drainExtend_length_le (dq q : List Queued) : (drainExtend dq q).length ≤ dq.length + q.length := by
  unfold drainExtend
  rw [List.length_append, List.length_take]
  omega

theorem filter_length_add {α : Type} (p : α → Bool) (l : List α) :
    (l.filter p).length + (l.filter (fun x => !p x)).length = l.length := by
  induction l with
  | nil => rfl
  | cons a l ih =>
    simp only [List.filter_cons]
    cases p a
    · exact congrArg (· + 1) ih
    · exact (Nat.succ_add _ _).trans (congrArg (· + 1) ih)

/-! ## `drain_virtual_keys`: the real-key events are kept, the others handed over -/

theorem drainVirtualKeys_split (q dq k dq' : List Queued) (h : drainVirtualKeys q dq = .ok (k, dq')) :
    k = q.filter row0 ∧ dq' = dq ++ q.filter (fun x => !row0 x) := by
  rw [drainVirtualKeys_eq] at h
  split at h
  · cases h
  · rename_i dq1 hp
    cases h
    exact ⟨rfl, drainPushAll_ok _ _ _ hp⟩

/-- without the size hypothesis: when it succeeds, nothing is lost or duplicated -/
theorem drainVirtualKeys_length : ∀ (q dq k dq' : List Queued), drainVirtualKeys q dq = .ok (k, dq') →
    k.length + dq'.length = q.length + dq.length := by
  intro q dq k dq' h
  obtain ⟨hk, hd⟩ := drainVirtualKeys_split q dq k dq' h
  have := filter_length_add row0 q
  rw [hk, hd, List.length_append]; omega

theorem length_takeWhile_add_dropWhile {α : Type} (p : α → Bool) (l : List α) :
    (l.takeWhile p).length + (l.dropWhile p).length = l.length := by
  rw [← List.length_append, List.takeWhile_append_dropWhile]

/-! ## `process_presses`: never fails, the queue only shrinks, at most one chord - not yet Released - is appended -/

theorem ppRetain_length_le (q : List Queued) (acc : List Nat) : (ppRetain q acc).length ≤ q.length :=
  List.length_filter_le _ _

theorem getActiveChord_not_released (cch : ChordV2) (since coord : Nat) (rf : Option Nat) :
    ((getActiveChord cch since coord rf).status == AchStatus.released) = false := by
  unfold getActiveChord
  simp only []
  split <;> rfl

/-- the number of active chords marked Released (what `clear_released_chords` will push) -/
def relCount (achs : List ActiveChord) : Nat := (achs.filter (fun a => a.status == .released)).length

theorem relCount_le (achs : List ActiveChord) : relCount achs ≤ achs.length := List.length_filter_le _ _

theorem relCount_append_new (achs : List ActiveChord) (cch : ChordV2) (since coord : Nat) (rf : Option Nat) :
    relCount (achs ++ [getActiveChord cch since coord rf]) = relCount achs := by
  unfold relCount
  rw [List.filter_append, List.length_append]
  simp only [List.filter_cons, getActiveChord_not_released, Bool.false_eq_true, if_false, List.filter_nil,
    List.length_nil, Nat.add_zero]

theorem processPresses_total (s : ChV2) (layer : Nat) :
    ∃ s', processPresses s layer = .ok s' ∧ s'.queue.length ≤ s.queue.length ∧
      s'.active.length ≤ s.active.length + 1 ∧
      relCount s'.active = relCount s.active := by
  cases h : processPresses s layer with
  | error c => exact absurd h (processPresses_no_err _ _ _)
  | ok s' =>
    refine ⟨s', rfl, ?_⟩
    rcases processPresses_spec s s' layer h with ⟨h1, h2⟩ | ⟨_, _, _, _, cch, coord, acc, _, _, _, _, _, _, _, h8, h9, h10⟩
    · rw [h1, h2]; exact ⟨Nat.le_refl _, Nat.le_succ _, rfl⟩
    · rw [h9, h10, relCount_append_new, List.length_append]
      exact ⟨ppRetain_length_le _ _, Nat.le_refl _, rfl⟩

/-! ## `drain_inputs` -/

/-- a scan splits the queue into the events of the other rows, the real-key releases in front of the
first press, and what `process_presses` sees -/
theorem scanParts_length (s : ChV2) (layer : Nat) :
    (s.queue.filter fun x => !row0 x).length + ((s.queue.filter row0).takeWhile isRel).length +
      (scanInput s layer).queue.length = s.queue.length := by
  have h1 := filter_length_add row0 s.queue
  have h2 := length_takeWhile_add_dropWhile isRel (s.queue.filter row0)
  show _ + _ + ((s.queue.filter row0).dropWhile isRel).length = _
  omega

/-- a scan with room in the hand-over queue: the first two parts are handed over, in this order -/
theorem drainInputs_scan_fits (s : ChV2) (dq : List Queued) (layer : Nat) (h0 : s.ticksToIgnore = 0)
    (hf : ¬ FastCond s layer) (hl : dq.length + s.queue.length ≤ DRAIN_Q_LEN) :
    drainInputs s dq layer =
      match processPresses (scanInput s layer) layer with
      | .error c => .error c
      | .ok s2 => .ok (afterScan s2,
          dq ++ (s.queue.filter fun x => !row0 x) ++ (s.queue.filter row0).takeWhile isRel) := by
  have hp := scanParts_length s layer
  rw [drainInputs_scan s dq layer h0 hf, drainPushAll_fits _ _ (by omega)]
  simp only []
  rw [foldl_drainPush_fits _ _ (by rw [List.length_append]; omega)]
  rfl

/-- `drain_inputs` with room in the hand-over queue for the whole input queue: it succeeds; every event
that leaves the input queue accounts for at most one event of the hand-over queue; the input queue
does not grow; at most one chord is appended and it is not marked Released (that the ten slots are not
exceeded is `chord_v2_active_bounded`) -/
theorem drainInputs_cap (s : ChV2) (dq : List Queued) (layer : Nat) (h : dq.length + s.queue.length ≤ DRAIN_Q_LEN) :
    ∃ s1 dq1, drainInputs s dq layer = .ok (s1, dq1) ∧
      s1.queue.length + dq1.length ≤ s.queue.length + dq.length ∧ s1.queue.length ≤ s.queue.length ∧
      s1.active.length ≤ s.active.length + 1 ∧
      relCount s1.active ≤ s.active.length := by
  rcases Nat.eq_zero_or_pos s.ticksToIgnore with h0 | h0
  · by_cases hf : FastCond s layer
    · exact ⟨_, _, drainInputs_fast s dq layer h0 hf, Nat.le_refl _, Nat.le_refl _, Nat.le_succ _, relCount_le _⟩
    · have hparts := scanParts_length s layer
      obtain ⟨s2, hp, hq2, ha2, hrel2⟩ := processPresses_total (scanInput s layer) layer
      have hal : (scanInput s layer).active.length = s.active.length := applyReleases_length _ _
      rw [hal] at ha2
      refine ⟨afterScan s2, _, by rw [drainInputs_scan_fits s dq layer h0 hf h, hp], ?_, ?_, ha2, ?_⟩
      · show s2.queue.length + _ ≤ _
        rw [List.length_append, List.length_append]; omega
      · exact Nat.le_trans hq2 (by omega)
      · show relCount s2.active ≤ _
        rw [hrel2]; exact Nat.le_trans (relCount_le _) (Nat.le_of_eq hal)
  · have hx := drainExtend_length_le dq s.queue
    have hal : (applyReleases (realInputs s.queue) s.active).length = s.active.length := applyReleases_length _ _
    refine ⟨_, _, drainInputs_cool s dq layer h0, ?_, Nat.zero_le _, ?_, ?_⟩
    · show 0 + _ ≤ _; omega
    · show (applyReleases _ _).length ≤ _; omega
    · exact Nat.le_trans (relCount_le _) (Nat.le_of_eq hal)

/-! ## `tick_chv2` -/

theorem tailReleases_length (achs : List ActiveChord) : (tailReleases achs).length = relCount achs :=
  List.length_map _

theorem tickTail_cap (prevLen : Nat) (s : ChV2) (dq : List Queued) (h : dq.length + 2 + relCount s.active ≤ DRAIN_Q_LEN) :
    ∃ s' dq', tickTail prevLen s dq = .ok (s', dq') ∧ s'.queue = s.queue ∧ s'.active.length ≤ s.active.length ∧
      dq'.length ≤ dq.length + 2 + relCount s.active := by
  have ht := tailTriggers_length_le prevLen s
  have hr := tailReleases_length s.active
  rw [tickTail_eq prevLen s dq (by omega), drainPushAll_fits _ _ (by rw [List.length_append]; omega)]
  refine ⟨_, _, rfl, rfl, List.length_filter_le _ _, ?_⟩
  rw [List.length_append, List.length_append]; omega

/-- **one tick of the v2 machine with room in the hand-over queue** (`queue + active + 2 ≤ 48`): it
succeeds; the events handed over plus the events kept are at most the events queued, one release per
chord that was active, and the two tap-hold trigger events -/
theorem tickChv2_cap (s : ChV2) (layer : Nat) (h : s.queue.length + s.active.length + 2 ≤ DRAIN_Q_LEN) :
    ∃ s' dq, tickChv2 s layer = .ok (s', dq) ∧
      s'.queue.length + dq.length ≤ s.queue.length + s.active.length + 2 ∧
      s'.queue.length ≤ s.queue.length ∧
      s'.active.length ≤ s.active.length + 1 := by
  rw [tickChv2_eq]
  have hq := agedV2_queue_length s
  have ha := agedV2_active_length s
  obtain ⟨s1, dq1, hd, hl, hq1, ha1, hrel⟩ := drainInputs_cap (agedV2 s) [] layer
    (by rw [hq]; simp only [List.length_nil]; omega)
  simp only [List.length_nil, Nat.add_zero] at hl
  rw [hd]
  simp only []
  obtain ⟨s', dq', ht, hq', ha', hl'⟩ := tickTail_cap (agedV2 s).active.length s1 dq1 (by omega)
  refine ⟨s', dq', ht, ?_⟩
  rw [hq']
  omega

/-! ## The sizes as an invariant of the whole machine -/

theorem getActionChv2_length : ∀ (achs : List ActiveChord), (getActionChv2 achs).1.length = achs.length
  | [] => rfl
  | a :: rest => by
    cases hc : unreadClass a.status with
    | true => rw [getActionChv2_cons_unread a rest hc]; rfl
    | false => rw [getActionChv2_cons_seen a rest hc]; exact congrArg (· + 1) (getActionChv2_length rest)

/-- the size bounds of the two containers of `ChordsV2` (`queue`: ArrayDeque of 32, `active_chords`:
heapless Vec of 10) -/
def SizesOK (ch : ChV2) : Prop := ch.queue.length ≤ QUEUE_SIZE ∧ ch.active.length ≤ ACTIVE_CHORDS_CAP

instance (ch : ChV2) : Decidable (SizesOK ch) := by unfold SizesOK; infer_instance

/-- the bounds for a layout with or without chords v2 -/
def SizesOKL (s : LayoutV2) : Prop := ∀ ch, s.chv2 = some ch → SizesOK ch

instance (s : LayoutV2) : Decidable (SizesOKL s) := by
  unfold SizesOKL
  cases h : s.chv2 with
  | none => exact isTrue (fun ch hc => by cases hc)
  | some ch0 =>
    by_cases hs : SizesOK ch0
    · exact isTrue (fun ch hc => by cases hc; exact hs)
    · exact isFalse (fun hh => hs (hh ch0 rfl))

/-- what `Layout::event` does to the chords-v2 state: the event enters the 32-slot queue, nothing else -/
theorem LayoutV2.event_chv2 (s s' : LayoutV2) (ev : Ev) (h : s.event ev = .ok s') :
    s'.chv2 = s.chv2.map fun ch => { ch with queue := (pushBackWrap QUEUE_SIZE ch.queue ⟨ev, 0⟩).1 } := by
  unfold LayoutV2.event at h
  split at h
  · rename_i hn
    split at h
    · cases h
    · cases h; simp only [hn, Option.map_none]
  · rename_i ch hs
    simp only [] at h
    generalize hp : pushBackWrap QUEUE_SIZE ch.queue ⟨ev, 0⟩ = r at h
    obtain ⟨q, ov⟩ := r
    simp only [] at h
    rw [hs, Option.map_some, hp]
    split at h
    · cases h; rfl
    · split at h
      · cases h
      · split at h
        · cases h
        · cases h; rfl

theorem LayoutV2.event_sizes (s s' : LayoutV2) (ev : Ev) (h : s.event ev = .ok s') (hs : SizesOKL s) : SizesOKL s' := by
  intro ch' hc'
  rw [LayoutV2.event_chv2 s s' ev h] at hc'
  cases hch : s.chv2 with
  | none => rw [hch] at hc'; cases hc'
  | some ch =>
    rw [hch, Option.map_some] at hc'
    cases hc'
    obtain ⟨h1, h2⟩ := hs ch hch
    exact ⟨pushBackWrap_length_le _ _ _ h1, h2⟩

theorem tickV2Pre_sizes (s s' : LayoutV2) (h : tickV2Pre s = .ok s') (hs : SizesOKL s) : SizesOKL s' := by
  intro ch' hc'
  rcases tickV2Pre_chv2 s s' h with ⟨_, hn⟩ | ⟨ch, ch1, dq, hch, hok, he⟩
  · rw [hn] at hc'; cases hc'
  · rw [he] at hc'
    cases hc'
    obtain ⟨h1, h2⟩ := hs ch hch
    have h1' : ch.queue.length ≤ 32 := h1
    have h2' : ch.active.length ≤ 10 := h2
    obtain ⟨s2, dq2, ht, _, hq, _⟩ := tickChv2_cap ch s.lay.currentLayer
      (by show ch.queue.length + ch.active.length + 2 ≤ 48; omega)
    rw [hok] at ht
    cases ht
    refine ⟨Nat.le_trans hq h1, ?_⟩
    show (getActionChv2 ch1.active).1.length ≤ ACTIVE_CHORDS_CAP
    rw [getActionChv2_length]
    exact chord_v2_active_bounded ch ch1 _ dq hok h2

theorem LayoutV2.tick_chv2 (s s' : LayoutV2) (cu : CustomEv) (h : s.tick = .ok (s', cu)) :
    ∃ s1, tickV2Pre s = .ok s1 ∧ s'.chv2 = s1.chv2 := by
  unfold LayoutV2.tick at h
  split at h
  · cases h
  · rename_i s1 h1
    split at h
    · cases h
    · cases h; exact ⟨s1, h1, rfl⟩

theorem LayoutV2.tick_sizes (s s' : LayoutV2) (cu : CustomEv) (h : s.tick = .ok (s', cu)) (hs : SizesOKL s) : SizesOKL s' := by
  obtain ⟨s1, h1, he⟩ := LayoutV2.tick_chv2 s s' cu h
  intro ch hc
  rw [he] at hc
  exact tickV2Pre_sizes s s1 h1 hs ch hc

/-! ## Reachability -/

/-- the states of the machine reachable from `s0` through key events and ticks that succeed -/
inductive ReachV2 (s0 : LayoutV2) : LayoutV2 → Prop
  | start : ReachV2 s0 s0
  | event (s s' : LayoutV2) (ev : Ev) : ReachV2 s0 s → s.event ev = .ok s' → ReachV2 s0 s'
  | tick (s s' : LayoutV2) (cu : CustomEv) : ReachV2 s0 s → s.tick = .ok (s', cu) → ReachV2 s0 s'

theorem ReachV2.sizes {s0 s : LayoutV2} (hr : ReachV2 s0 s) (h0 : SizesOKL s0) : SizesOKL s := by
  induction hr with
  | start => exact h0
  | event s s' ev _ he ih => exact LayoutV2.event_sizes s s' ev he ih
  | tick s s' cu _ ht ih => exact LayoutV2.tick_sizes s s' cu ht ih

/-- a layout whose chords-v2 state (if any) has just been built: nothing queued, no active chord -/
def FreshV2 (s : LayoutV2) : Prop := ∀ ch, s.chv2 = some ch → ch.queue = [] ∧ ch.active = []

theorem FreshV2.sizes {s : LayoutV2} (h : FreshV2 s) : SizesOKL s := by
  intro ch hc
  obtain ⟨h1, h2⟩ := h ch hc
  simp only [SizesOK, h1, h2, List.length_nil]
  exact ⟨Nat.zero_le _, Nat.zero_le _⟩

/-! ## The hand-over loop and the layout queue -/

/-- what `Layout::event` does with the event that falls out of the full layout queue: the waiting keys
are forced to hold, then the event is processed at once (`dequeue`) -/
def overflowStep (lay : Layout) (o : Queued) : Except Crash Layout :=
  match flushWaitings FUEL lay (none :: (List.range EXTRA_WAITING_LEN).map some) with
  | .error c => .error c
  | .ok lay =>
    match dequeue FUEL lay o with
    | .error c => .error c
    | .ok (lay, _) => .ok lay

theorem pushQueuedOv_eq (lay : Layout) (x : Queued) :
    pushQueuedOv lay x =
      match (pushBackWrap QUEUE_SIZE lay.queue x).2 with
      | none => .ok { lay with queue := (pushBackWrap QUEUE_SIZE lay.queue x).1 }
      | some o => overflowStep { lay with queue := (pushBackWrap QUEUE_SIZE lay.queue x).1 } o := by
  unfold pushQueuedOv overflowStep
  generalize pushBackWrap QUEUE_SIZE lay.queue x = r
  obtain ⟨q, ov⟩ := r
  cases ov <;> rfl

/-- `handOver` instrumented: besides the layout it returns the events `dequeue` was called on, in
order, and whether every overflow step left the layout queue as it found it (`do_action` can queue an
event itself: the release of a one-shot key evicted from the full one-shot list) -/
def handOverLog : Layout → List Queued → Except Crash (Layout × List Queued × Bool)
  | lay, [] => .ok (lay, [], true)
  | lay, x :: rest =>
    match (pushBackWrap QUEUE_SIZE lay.queue x).2 with
    | none => handOverLog { lay with queue := (pushBackWrap QUEUE_SIZE lay.queue x).1 } rest
    | some o =>
      match overflowStep { lay with queue := (pushBackWrap QUEUE_SIZE lay.queue x).1 } o with
      | .error c => .error c
      | .ok lay2 =>
        match handOverLog lay2 rest with
        | .error c => .error c
        | .ok (lay', log, st) =>
          .ok (lay', o :: log, st && decide (lay2.queue = (pushBackWrap QUEUE_SIZE lay.queue x).1))

/-- one step of the instrumented loop with room in the layout queue -/
theorem handOverLog_cons_fits (lay : Layout) (x : Queued) (rest : List Queued) (hl : lay.queue.length < QUEUE_SIZE) :
    handOverLog lay (x :: rest) = handOverLog { lay with queue := lay.queue ++ [x] } rest := by
  simp only [handOverLog, pushBackWrap_fits x hl]

/-- one step of the instrumented loop on a full layout queue: its oldest event is processed at once -/
theorem handOverLog_cons_full (lay : Layout) (x : Queued) (rest : List Queued) (o : Queued) (t : List Queued)
    (hq : lay.queue = o :: t) (hl : ¬ lay.queue.length < QUEUE_SIZE) :
    handOverLog lay (x :: rest) =
      match overflowStep { lay with queue := t ++ [x] } o with
      | .error c => .error c
      | .ok lay2 =>
        match handOverLog lay2 rest with
        | .error c => .error c
        | .ok (lay', log, st) => .ok (lay', o :: log, st && decide (lay2.queue = t ++ [x])) := by
  simp only [handOverLog, hq, pushBackWrap_full o t x (hq ▸ hl)]

/-- the instrumented loop is the loop: same failure, same layout -/
theorem handOverLog_fst : ∀ (dq : List Queued) (lay : Layout),
    handOver lay dq = match handOverLog lay dq with
      | .error c => .error c
      | .ok r => .ok r.1 := by
  intro dq
  induction dq with
  | nil => intro lay; rfl
  | cons x rest ih =>
    intro lay
    simp only [handOver, handOverLog, pushQueuedOv_eq]
    cases ho : (pushBackWrap QUEUE_SIZE lay.queue x).2 with
    | none => simp only []; exact ih _
    | some o =>
      simp only []
      cases hs : overflowStep { lay with queue := (pushBackWrap QUEUE_SIZE lay.queue x).1 } o with
      | error c => rfl
      | ok lay2 =>
        simp only []
        rw [ih lay2]
        cases handOverLog lay2 rest with
        | error c => rfl
        | ok r => rfl

/-- **nothing is lost in the hand-over** when every overflow step leaves the layout queue alone: the
old queue followed by the handed-over events is what was processed at once followed by the new queue -/
theorem handOverLog_conserve : ∀ (dq : List Queued) (lay lay' : Layout) (log : List Queued),
    handOverLog lay dq = .ok (lay', log, true) → lay.queue ++ dq = log ++ lay'.queue
  | [], lay, lay', log, h => by cases h; exact List.append_nil _
  | x :: rest, lay, lay', log, h => by
    by_cases hl : lay.queue.length < QUEUE_SIZE
    · rw [handOverLog_cons_fits lay x rest hl] at h
      rw [← handOverLog_conserve rest _ _ _ h]
      exact (List.append_assoc _ [x] rest).symm
    · cases hq : lay.queue with
      | nil => rw [hq] at hl; exact absurd (by decide) hl
      | cons o t =>
        rw [handOverLog_cons_full lay x rest o t hq hl] at h
        split at h
        · cases h
        · split at h
          · cases h
          · rename_i lay2 _ lay3 log3 st3 hr
            injection h with h
            injection h with h1 h
            injection h with h2 h3
            subst h1 h2
            simp only [Bool.and_eq_true, decide_eq_true_eq] at h3
            obtain ⟨hst, hq2⟩ := h3
            subst hst
            have := handOverLog_conserve rest _ _ _ hr
            rw [hq2, List.append_assoc] at this
            rw [List.cons_append, List.cons_append, ← this]; rfl

/-- with room in the layout queue the hand-over is a plain append: no failure, no overflow step -/
theorem handOver_fits : ∀ (dq : List Queued) (lay : Layout), lay.queue.length + dq.length ≤ QUEUE_SIZE →
    handOver lay dq = .ok { lay with queue := lay.queue ++ dq }
  | [], lay, _ => by rw [List.append_nil]; rfl
  | x :: rest, lay, h => by
    simp only [List.length_cons] at h
    simp only [handOver, pushQueuedOv_eq, pushBackWrap_fits x (show lay.queue.length < QUEUE_SIZE by omega)]
    rw [handOver_fits rest _ (by simp only [List.length_append, List.length_cons, List.length_nil]; omega),
      List.append_assoc]; rfl

/-! ## Overflow steps that provably leave the layout queue alone: a release, no waiting key -/

theorem flushWaitings_none : ∀ (l : List (Option Nat)) (fuel : Nat) (s : Layout),
    s.waiting = none → s.extraWaiting = [] → l.length + 2 ≤ fuel → flushWaitings fuel s l = .ok s := by
  intro l
  induction l with
  | nil =>
    intro fuel s _ _ hf
    cases fuel with
    | zero => omega
    | succ fuel => simp only [flushWaitings]
  | cons i rest ih =>
    intro fuel s hw he hf
    cases fuel with
    | zero => omega
    | succ fuel =>
      cases fuel with
      | zero => simp only [List.length_cons] at hf; omega
      | succ fuel =>
        have hwh : waitingIntoHold (fuel + 1) s i = .ok (s, .noEvent) := by
          cases i with
          | none => simp [waitingIntoHold, takeWaiting, hw]
          | some j => simp [waitingIntoHold, takeWaiting, he]
        simp only [flushWaitings, bind, Except.bind, hwh]
        exact ih (fuel + 1) s hw he (by simp only [List.length_cons] at hf; omega)

/-- `dequeue` of a release touches only the key states and the one-shot bookkeeping -/
theorem dequeue_release_frame (fuel : Nat) (s : Layout) (c : Coord) (since : Nat) :
    ∃ s' cu, dequeue (fuel + 1) s ⟨.release c, since⟩ = .ok (s', cu) ∧ s'.queue = s.queue ∧
      s'.waiting = s.waiting ∧ s'.extraWaiting = s.extraWaiting := by
  simp only [dequeue]
  generalize s.oneshot.handleRelease c = p
  obtain ⟨o, dr, ov⟩ := p
  simp only []
  generalize (if dr = true then releaseStates true c s.states .noEvent else (s.states, CustomEv.noEvent)) = p1
  obtain ⟨st1, cu1⟩ := p1
  simp only []
  cases ov with
  | none => exact ⟨_, _, rfl, rfl, rfl, rfl⟩
  | some c2 => exact ⟨_, _, rfl, rfl, rfl, rfl⟩

theorem overflowStep_release (lay : Layout) (o : Queued) (hw : lay.waiting = none) (he : lay.extraWaiting = [])
    (ho : o.ev.isPress = false) :
    ∃ lay', overflowStep lay o = .ok lay' ∧ lay'.queue = lay.queue ∧ lay'.waiting = none ∧ lay'.extraWaiting = [] := by
  obtain ⟨ev, since⟩ := o
  cases ev with
  | press c => cases ho
  | release c =>
    unfold overflowStep
    rw [FUEL_succ, flushWaitings_none _ _ _ hw he (by decide)]
    simp only []
    obtain ⟨s', cu, hd, h1, h2, h3⟩ := dequeue_release_frame 3999 lay c since
    rw [hd]
    exact ⟨s', rfl, h1, h2.trans hw, h3.trans he⟩

/-- **a hand-over whose overflow consists of releases, with no key waiting, cannot fail and loses
nothing**: the events that do not fit (all but the last 32 of the old queue followed by the handed-over
events) are all releases -/
theorem handOverLog_releases : ∀ (dq : List Queued) (lay : Layout), lay.waiting = none → lay.extraWaiting = [] →
    (∀ q ∈ (lay.queue ++ dq).take ((lay.queue ++ dq).length - QUEUE_SIZE), q.ev.isPress = false) →
    ∃ lay' log, handOverLog lay dq = .ok (lay', log, true) ∧ lay'.waiting = none ∧ lay'.extraWaiting = [] := by
  intro dq
  induction dq with
  | nil => intro lay hw he _; exact ⟨lay, [], rfl, hw, he⟩
  | cons x rest ih =>
    intro lay hw he hrel
    by_cases hl : lay.queue.length < QUEUE_SIZE
    · rw [handOverLog_cons_fits lay x rest hl]
      exact ih { lay with queue := lay.queue ++ [x] } hw he (by rw [List.append_assoc]; exact hrel)
    · cases hq : lay.queue with
      | nil => rw [hq] at hl; exact absurd (by decide) hl
      | cons o t =>
        rw [handOverLog_cons_full lay x rest o t hq hl]
        -- the oldest event does not fit: it is a release, and so are those that do not fit after it
        have hn : (o :: t ++ x :: rest).length - QUEUE_SIZE = (t ++ x :: rest).length - QUEUE_SIZE + 1 := by
          rw [hq] at hl
          simp only [List.length_append, List.length_cons] at hl ⊢
          omega
        rw [hq, hn, List.cons_append, List.take_succ_cons] at hrel
        obtain ⟨lay2, hs, hq2, hw2, he2⟩ := overflowStep_release { lay with queue := t ++ [x] } o hw he
          (hrel o (List.mem_cons_self ..))
        have hq2' : lay2.queue = t ++ [x] := hq2
        obtain ⟨lay', log, hr, hw', he'⟩ := ih lay2 hw2 he2 (by
          intro q hq'
          rw [hq2', List.append_assoc] at hq'
          exact hrel q (List.mem_cons_of_mem _ hq'))
        rw [hs]
        simp only [hr, hq2', decide_true, Bool.and_true]
        exact ⟨lay', o :: log, rfl, hw', he'⟩

/-! ## Histories (`stepsV2` of Props/C09V2.lean) reach only reachable states -/

theorem ticksV2_reach : ∀ (n : Nat) (s0 s s' : LayoutV2), ReachV2 s0 s → ticksV2 LayoutV2.tick n s = .ok s' → ReachV2 s0 s' := by
  intro n
  induction n with
  | zero => intro s0 s s' hr h; simp only [ticksV2] at h; cases h; exact hr
  | succ n ih =>
    intro s0 s s' hr h
    simp only [ticksV2] at h
    split at h
    · cases h
    · rename_i s1 cu ht
      exact ih s0 s1 s' (ReachV2.tick s s1 cu hr ht) h

theorem stepsV2_reach : ∀ (hist : List In) (s0 s s' : LayoutV2), ReachV2 s0 s → stepsV2 LayoutV2.tick hist s = .ok s' →
    ReachV2 s0 s' := by
  intro hist
  induction hist with
  | nil => intro s0 s s' hr h; simp only [stepsV2] at h; cases h; exact hr
  | cons i rest ih =>
    intro s0 s s' hr h
    cases i with
    | p y | r y =>
      simp only [stepsV2] at h
      split at h
      · cases h
      · rename_i s1 he
        exact ih s0 s1 s' (ReachV2.event s s1 _ hr he) h
    | t n =>
      simp only [stepsV2] at h
      split at h
      · cases h
      · rename_i s1 ht
        exact ih s0 s1 s' (ticksV2_reach n s0 s s1 hr ht) h

end KVerif.C09
