/-
C17 helper lemmas: tap-dance inside the layout (`tick`, `dequeue`, `do_action`):
the lazy waiting state resolved by `tickMain`, the plain actions a dance can choose, and the eager
form (`TapDanceEagerState`, its path in `dequeue`, its countdown in `tick`).
-/
import KVerif.Lemmas.TapDanceRun
namespace KVerif.C17
open KVerif.L

theorem FUEL_two : FUEL = 3998 + 2 := rfl

/-! ## Plain actions -/

theorem doAction_keyCode (f : Nat) (s : Layout) (kc : KeyCode) (c : Coord) (d : Nat) (os : Bool) (ls : List Nat) :
    doAction (f + 2) s (.keyCode kc) c d os ls = .ok (armKeyCode (prelude s c) (.keyCode kc) kc c os, .noEvent) :=
  rfl

theorem doAction_layer (f : Nat) (s : Layout) (l : Nat) (c : Coord) (d : Nat) (os : Bool) (ls : List Nat) :
    doAction (f + 2) s (.layer l) c d os ls = .ok (armLayer (prelude s c) l c os, .noEvent) :=
  rfl

theorem prelude_fields (s : Layout) (c : Coord) :
    (prelude s c).queue = s.queue ∧ (prelude s c).waiting = s.waiting ∧
    (prelude s c).extraWaiting = s.extraWaiting ∧ (prelude s c).tapDanceEager = s.tapDanceEager ∧
    (prelude s c).states = s.states.filter (fun st => !st.clearOnNextAction) ∧
    (prelude s c).oneshot = s.oneshot := by
  unfold prelude
  split <;> exact ⟨rfl, rfl, rfl, rfl, rfl, rfl⟩

theorem updateCoord_fields (s : Layout) (c : Coord) :
    (updateCoord s c).queue = s.queue ∧ (updateCoord s c).waiting = s.waiting ∧
    (updateCoord s c).extraWaiting = s.extraWaiting ∧ (updateCoord s c).tapDanceEager = s.tapDanceEager ∧
    (updateCoord s c).states = s.states ∧ (updateCoord s c).oneshot = s.oneshot ∧
    (updateCoord s c).histKeys = s.histKeys := by
  unfold updateCoord
  split <;> exact ⟨rfl, rfl, rfl, rfl, rfl, rfl, rfl⟩

theorem oshOther_fields (s : Layout) (os : Bool) (c : Coord) :
    (oshOther s os c).1.queue = s.queue ∧ (oshOther s os c).1.waiting = s.waiting ∧
    (oshOther s os c).1.extraWaiting = s.extraWaiting ∧ (oshOther s os c).1.tapDanceEager = s.tapDanceEager ∧
    (oshOther s os c).1.states = s.states := by
  unfold oshOther
  split
  · exact ⟨rfl, rfl, rfl, rfl, rfl⟩
  · exact ⟨rfl, rfl, rfl, rfl, rfl⟩

/-- a plain key as the chosen action: the key is pressed at the coordinate (if the state table has
room), nothing is queued or dequeued, no waiting state appears -/
theorem armKeyCode_fields (s : Layout) (a : Action) (kc : KeyCode) (c : Coord) (os : Bool) :
    (armKeyCode s a kc c os).queue = s.queue ∧ (armKeyCode s a kc c os).waiting = s.waiting ∧
    (armKeyCode s a kc c os).extraWaiting = s.extraWaiting ∧
    (armKeyCode s a kc c os).tapDanceEager = s.tapDanceEager ∧
    (armKeyCode s a kc c os).states = pushCap STATES_CAP s.states (.normalKey kc c 0) := by
  obtain ⟨u1, u2, u3, u4, u5, _, _⟩ := updateCoord_fields s c
  unfold armKeyCode
  simp only []
  split <;>
  · simp only [(oshOther_fields _ os c).1, (oshOther_fields _ os c).2.1, (oshOther_fields _ os c).2.2.1,
      (oshOther_fields _ os c).2.2.2.1, (oshOther_fields _ os c).2.2.2.2, Layout.pushState, u1, u2, u3, u4, u5]
    exact ⟨trivial, trivial, trivial, trivial, trivial⟩

theorem armLayer_fields (s : Layout) (l : Nat) (c : Coord) (os : Bool) :
    (armLayer s l c os).queue = s.queue ∧ (armLayer s l c os).waiting = s.waiting ∧
    (armLayer s l c os).extraWaiting = s.extraWaiting ∧
    (armLayer s l c os).tapDanceEager = s.tapDanceEager ∧
    (armLayer s l c os).states = pushCap STATES_CAP s.states (.layerModifier l c) := by
  obtain ⟨u1, u2, u3, u4, u5, _, _⟩ := updateCoord_fields s c
  unfold armLayer
  -- as a variable the updated state is not unfolded when the projections below are compared
  generalize updateCoord s c = u at *
  obtain ⟨o1, o2, o3, o4, o5⟩ := oshOther_fields (u.pushState (.layerModifier l c)) os c
  exact ⟨o1.trans u1, o2.trans u2, o3.trans u3, o4.trans u4, o5.trans (congrArg (pushCap STATES_CAP · _) u5)⟩

theorem tapPost_fields (s : Layout) :
    (tapPost s).queue = s.queue ∧ (tapPost s).waiting = s.waiting ∧ (tapPost s).extraWaiting = s.extraWaiting ∧
    (tapPost s).tapDanceEager = s.tapDanceEager ∧ (tapPost s).states = s.states := ⟨rfl, rfl, rfl, rfl, rfl⟩

/-! ## The lazy form in `tick` -/

/-- **one tick of the layout with a lazy tap-dance pending**: either nothing but the waiting state's
countdown / count / memo changes (no output, queue untouched), or the waiting state is consumed,
the first `n − 1` releases and all presses of the key leave the queue, and EXACTLY ONE `do_action`
runs: on the action listed for the decided count `n`, at the key's coordinate, with the layers
active when it was pressed; a panic only for an empty list. -/
theorem lazy_tick_cases (s : Layout) (w : Waiting) (acts : List Action) (T k : Nat)
    (hw : s.waiting = some w) (hc : w.config = .tapDance acts T k) :
    (decidesOn (cd w) acts.length k s.queue = none ∧
      ∃ w', tickMain s = .ok ({ s with waiting := some w' }, .noEvent) ∧ w'.coord = w.coord ∧
        w'.tap = w.tap ∧ w'.layerStack = w.layerStack ∧ ∃ n, w'.config = .tapDance acts T n) ∨
    (∃ n, decidesOn (cd w) acts.length k s.queue = some n ∧
      ((∃ a, tdPick acts n = some a ∧
          tickMain s =
            match doAction FUEL { s with waiting := none, queue := evictTaps w n s.queue }
                a w.coord 0 false w.layerStack with
            | .error e => .error e
            | .ok (s1, cu) => .ok (tapPost s1, cu)) ∨
       (acts = [] ∧ tickMain s = .error (.indexOOB "tap-dance actions")))) := by
  unfold tickMain
  simp only [hw, tickWt_td w acts T k hc]
  cases hd : decidesOn (cd w) acts.length k s.queue with
  | none =>
    rw [tickWtTd_of_none hd]
    exact .inl ⟨rfl, _, rfl, rfl, rfl, rfl, _, rfl⟩
  | some n =>
    rw [tickWtTd_of_some hd, tdDecide]
    refine .inr ⟨n, rfl, ?_⟩
    cases hp : tdPick acts n with
    | none => exact .inr ⟨(tdPick_none_iff acts n).mp hp, rfl⟩
    | some a =>
      rw [evictTaps_coord_congr (show (cd w).coord = w.coord from rfl)]
      exact .inl ⟨a, rfl, rfl⟩

theorem lazy_tick_plain {s : Layout} {w : Waiting} {acts : List Action} {T k n : Nat} {a : Action}
    (hw : s.waiting = some w) (hc : w.config = .tapDance acts T k)
    (hd : decidesOn (cd w) acts.length k s.queue = some n) (hp : tdPick acts n = some a)
    {arm : Layout → Layout} {st : St}
    (hdo : ∀ s0, doAction FUEL s0 a w.coord 0 false w.layerStack = .ok (arm (prelude s0 w.coord), .noEvent))
    (harm : ∀ s0, (arm s0).queue = s0.queue ∧ (arm s0).waiting = s0.waiting ∧
      (arm s0).states = pushCap STATES_CAP s0.states st) :
    ∃ s', tickMain s = .ok (s', .noEvent) ∧ s'.waiting = none ∧
      s'.queue = evictTaps w n s.queue ∧
      s'.queue.filter (otherCoord w) = s.queue.filter (otherCoord w) ∧
      s'.states = pushCap STATES_CAP (s.states.filter (fun st => !st.clearOnNextAction)) st := by
  rcases lazy_tick_cases s w acts T k hw hc with ⟨h, _⟩ | ⟨n', hn', h⟩
  · rw [hd] at h; cases h
  · cases hd.symm.trans hn'
    rcases h with ⟨a', ha', ht⟩ | ⟨he, _⟩
    · cases hp.symm.trans ha'
      rw [hdo] at ht
      obtain ⟨p1, p2, _, _, p5, _⟩ :=
        prelude_fields ({ s with waiting := none, queue := evictTaps w n s.queue } : Layout) w.coord
      obtain ⟨a1, a2, a5⟩ := harm (prelude ({ s with waiting := none, queue := evictTaps w n s.queue } : Layout) w.coord)
      have hq := a1.trans p1
      exact ⟨_, ht, a2.trans p2, hq, by rw [(tapPost_fields _).1, hq]; exact evictTaps_others_kept w _ _,
        a5.trans (congrArg (pushCap STATES_CAP · st) p5)⟩
    · subst he; cases hp

/-! ## The eager form -/

/-- a live eager state always has a next action: the index in `dequeue` cannot go out of bounds -/
theorem eager_live_index_ok {t : TDE} (h : t.isExpired = false) : ∃ a, t.actions[t.numTaps]? = some a := by
  unfold TDE.isExpired at h
  simp only [Bool.or_eq_false_iff, decide_eq_false_iff_not, Nat.not_le] at h
  exact ⟨t.actions[t.numTaps], List.getElem?_eq_getElem h.2⟩

/-- **each tap of a live eager dance performs its own action**: the press of the dance key while
the eager state is live runs `actions[num_taps]` (one `do_action`, at the key's coordinate), then
the count goes up by one and the countdown restarts -/
theorem eager_tap (f : Nat) (s : Layout) (t : TDE) (c : Coord) (since : Nat) (order : List Nat)
    (ht : s.tapDanceEager = some t) (hc : c = s.lptCoord) (hlive : t.isExpired = false)
    (ho : s.transOrder = .ok order) :
    ∃ a, t.actions[t.numTaps]? = some a ∧
      dequeue (f + 1) s ⟨.press c, since⟩ =
        match doAction f s a c since false (order.drop 1) with
        | .error e => .error e
        | .ok (s1, cu) => .ok ({ s1 with tapDanceEager := s1.tapDanceEager.map TDE.incrTaps }, cu) := by
  obtain ⟨a, ha⟩ := eager_live_index_ok hlive
  refine ⟨a, ha, ?_⟩
  have hcb : (c == s.lptCoord) = true := by rw [hc]; exact beq_self_eq_true _
  simp only [dequeue, bind, Except.bind, ho, ht, hcb, hlive, Bool.not_false, Bool.and_self, if_true, ha,
    pure, Except.pure]
  cases doAction f s a c since false (order.drop 1) with
  | error e => rfl
  | ok r => rfl

theorem incrTaps_fields (t : TDE) :
    t.incrTaps.numTaps = t.numTaps + 1 ∧ t.incrTaps.timeout = t.origTimeout ∧
    t.incrTaps.origTimeout = t.origTimeout ∧ t.incrTaps.actions = t.actions ∧ t.incrTaps.coord = t.coord :=
  ⟨rfl, rfl, rfl, rfl, rfl⟩

theorem tdeTick_eq (t : TDE) :
    tdeTick t = if t.timeout ≤ 1 ∨ t.actions.length ≤ t.numTaps then none
      else some { t with timeout := t.timeout - 1 } :=
  ite_congr (by simp [TDE.isExpired, TDE.tick, Nat.sub_eq_zero_iff_le]) (fun _ => rfl) (fun _ => rfl)

/-- **another real key ends the eager dance**: a press of any other real key (or of the dance key
once the state has expired) marks the state expired before its own action runs -/
theorem eager_other_key (f : Nat) (s : Layout) (t : TDE) (c : Coord) (since : Nat) (order : List Nat)
    (ht : s.tapDanceEager = some t) (hc : c ≠ s.lptCoord ∨ t.isExpired = true) (hreal : c.1 = 0)
    (ho : s.transOrder = .ok order) :
    dequeue (f + 1) s ⟨.press c, since⟩ =
      doAction f { s with tapDanceEager := some t.setExpired } .trans c since false order ∧
    t.setExpired.isExpired = true ∧ tdeTick t.setExpired = none := by
  have hcond : (c == s.lptCoord && !t.isExpired) = false := by
    rcases hc with h | h
    · have : (c == s.lptCoord) = false := by simpa using h
      simp [this]
    · simp [h]
  refine ⟨?_, ?_, ?_⟩
  · have hr : (c.1 == 0) = true := by simp [hreal]
    simp only [dequeue, bind, Except.bind, ho, ht, hcond, Bool.false_eq_true, if_false, hr, if_true]
  · rfl
  · rw [tdeTick_eq, if_pos (.inl (Nat.zero_le 1))]

/-- `armEager`: a fresh state (count 1, countdown `T`) unless one for the same coordinate exists -/
theorem armEager_fresh (s : Layout) (c : Coord) (acts : List Action) (T : Nat)
    (h : s.tapDanceEager = none ∨ ∃ t, s.tapDanceEager = some t ∧ t.coord ≠ c) :
    (armEager s c acts T).tapDanceEager =
      some { coord := c, actions := acts, timeout := T, origTimeout := T, numTaps := 1 } := by
  unfold armEager
  have hu := (updateCoord_fields s c).2.2.2.1
  rcases h with h | ⟨t, h, hne⟩
  · simp only [hu, h]
  · simp only [hu, h]
    have : (t.coord != c) = true := by simpa using hne
    simp only [this, if_true]

/-- **the first press of an eager dance** performs the first listed action (one `do_action`); it
panics exactly when the list is empty -/
theorem eager_first_press (f : Nat) (s : Layout) (acts : List Action) (T : Nat) (c : Coord) (d : Nat)
    (os : Bool) (ls : List Nat) :
    dispatch (f + 1) s (.tapDance acts T true) c d os ls =
      match acts[0]? with
      | none => .error (.indexOOB "td.actions[0]")
      | some a0 =>
        match doAction f (armEager s c acts T) a0 c d false ls with
        | .error e => .error e
        | .ok r => .ok (r.1, .noEvent) :=
  rfl

theorem eager_empty_list_crashes (f : Nat) (s : Layout) (T : Nat) (c : Coord) (d : Nat) (os : Bool) (ls : List Nat) :
    dispatch (f + 1) s (.tapDance [] T true) c d os ls = .error (.indexOOB "td.actions[0]") := by
  rw [eager_first_press]; rfl

/-- `n` ticks of the eager countdown -/
def tdeTicks : Nat → Option TDE → Option TDE
  | 0, o => o
  | n + 1, o => tdeTicks n (o.bind tdeTick)

theorem tdeTicks_none (n : Nat) : tdeTicks n none = none := by
  induction n with
  | zero => rfl
  | succ n ih => simpa [tdeTicks] using ih

/-- **the eager dance expires exactly `T` ticks after the last tap** (if the list is not exhausted):
still live, with `T − n` to go, after `n < T` ticks; forgotten on the `T`-th -/
theorem eager_expiry_exact (T : Nat) (t : TDE) (ht : t.timeout = T) (hT : 1 ≤ T) (hn : t.numTaps < t.actions.length) :
    (∀ n, n < T → tdeTicks n (some t) = some { t with timeout := T - n }) ∧
    (∀ n, T ≤ n → tdeTicks n (some t) = none) := by
  subst ht
  constructor
  · intro n
    induction n generalizing t with
    | zero => intro _; rfl
    | succ n ih =>
      intro h
      have h' : n + 1 ≤ t.timeout - 1 := Nat.le_sub_one_of_lt h
      rw [tdeTicks, Option.bind_some, tdeTick_eq,
        if_neg (not_or.mpr ⟨Nat.not_le_of_lt (Nat.lt_of_le_of_lt (Nat.succ_le_succ (Nat.zero_le n)) h), Nat.not_le_of_lt hn⟩),
        ih { t with timeout := t.timeout - 1 } hn (Nat.le_trans (Nat.succ_le_succ (Nat.zero_le n)) h') h', Nat.sub_sub, Nat.add_comm 1 n]
  · intro n
    induction n generalizing t with
    | zero => intro h; exact absurd (Nat.le_trans hT h) (Nat.lt_irrefl 0)
    | succ n ih =>
      intro h
      rw [tdeTicks, Option.bind_some, tdeTick_eq]
      by_cases h1 : t.timeout ≤ 1
      · rw [if_pos (.inl h1)]; exact tdeTicks_none n
      · rw [if_neg (not_or.mpr ⟨h1, Nat.not_le_of_lt hn⟩)]
        exact ih { t with timeout := t.timeout - 1 } hn (Nat.le_sub_one_of_lt (Nat.lt_of_not_le h1)) (Nat.sub_le_of_le_add h)

/-- **list exhausted**: once every listed action has been performed the state is forgotten on the
next tick, so the next press starts over with the first action -/
theorem eager_exhausted (t : TDE) (h : t.actions.length ≤ t.numTaps) : tdeTick t = none := by
  rw [tdeTick_eq, if_pos (.inr h)]

/-! ### The eager countdown inside `tick` -/

theorem oshPress_tde (s : Layout) (k : OshKey) : (s.oshPress k).1.tapDanceEager = s.tapDanceEager := rfl

theorem stepSequence_tde (s : Layout) (seq : SeqState) :
    (stepSequence s seq).1.tapDanceEager = s.tapDanceEager := by
  unfold stepSequence
  split
  · rfl
  · split
    · rfl
    · simp only []
      split <;> rfl

theorem processSequences_go_tde : ∀ (n : Nat) (s : Layout),
    (processSequences.go n s).tapDanceEager = s.tapDanceEager
  | 0, _ => rfl
  | n + 1, s => by
    unfold processSequences.go
    split
    · rfl
    · rename_i seq rest _
      simp only []
      rw [processSequences_go_tde n]
      split
      · exact stepSequence_tde _ seq
      · exact stepSequence_tde _ seq

theorem processSequences_tde (s : Layout) : (processSequences s).tapDanceEager = s.tapDanceEager := by
  unfold processSequences
  simp only []
  split
  · split
    · exact processSequences_go_tde _ s
    · exact processSequences_go_tde _ s
  · exact processSequences_go_tde _ s

/-- **in `tick` the eager state is counted down exactly once per tick**, before any event is
dequeued, whatever else the tick does (sequences, histories) -/
theorem tickPre_tde (s : Layout) : (tickPre s).tapDanceEager = s.tapDanceEager.bind tdeTick := by
  unfold tickPre
  simp only []
  rw [processSequences_tde]
  cases s.tapDanceEager <;> rfl

end KVerif.C17
