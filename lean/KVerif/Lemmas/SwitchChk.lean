/-
C10 helper lemmas: the checked compiler (`parse_switch_case_bool` with its length and depth
bails) produces `compileListAt 0 es`, and success implies the depth and end-index bounds.
Last, the list fact behind the characterisation of the cases that fire.
-/
import KVerif.Lemmas.SwitchCompile
namespace KVerif.Switch

theorem set_mid (ops body : List Nat) (a b : Nat) :
    (ops ++ [a] ++ body).set ops.length b = ops ++ [b] ++ body := by
  induction ops with
  | nil => simp
  | cons x xs ih => simp

mutual
  theorem compileChk_ok (d : Nat) (ops : List Nat) : (e : BExpr) → (ops' : List Nat) →
      compileChk d ops e = .ok ops' →
      ops' = ops ++ compileAt ops.length e ∧ d + e.depth ≤ MAX_BOOL_EXPR_DEPTH + 1 ∧ e.EndsOK ops.length
    | .leaf l, ops', h => by
      simp only [compileChk] at h
      split at h
      · cases h
      · split at h
        · cases h
        · injection h with h; subst h
          simp only [compileAt, BExpr.depth, BExpr.EndsOK, and_true, true_and]; omega
    | .node o cs, ops', h => by
      simp only [compileChk] at h
      split at h
      · cases h
      · split at h
        · cases h
        · split at h
          · cases h
          · rename_i hlen hdep opsB hB
            split at h
            · cases h
            · rename_i hlenB
              injection h with h
              have ih := compileChkList_ok (d + 1) (ops ++ [o.toVal + ops.length]) cs opsB hB
              obtain ⟨hB1, hB2, hB3⟩ := ih
              have hlen1 : (ops ++ [o.toVal + ops.length]).length = ops.length + 1 := by simp
              rw [hlen1] at hB1 hB3
              have hBl : opsB.length = ops.length + 1 + BExpr.sizeList cs := by
                rw [hB1]; simp [compileListAt_length]; omega
              refine ⟨?_, ?_, ?_⟩
              · rw [← h, hB1, set_mid]
                simp only [compileAt, List.append_assoc, List.cons_append, List.nil_append,
                  List.length_append, List.length_cons, compileListAt_length]
                congr 3; omega
              · simp only [BExpr.depth]; omega
              · simp only [BExpr.EndsOK]
                exact ⟨by omega, hB3⟩
  theorem compileChkList_ok (d : Nat) (ops : List Nat) : (es : List BExpr) → (ops' : List Nat) →
      compileChkList d ops es = .ok ops' →
      ops' = ops ++ compileListAt ops.length es ∧
        BExpr.depthList es ≤ MAX_BOOL_EXPR_DEPTH + 1 - d ∧ BExpr.EndsOKList ops.length es
    | [], ops', h => by
      simp only [compileChkList] at h
      injection h with h; subst h
      simp [compileListAt, BExpr.EndsOKList, BExpr.depthList]
    | e :: es, ops', h => by
      simp only [compileChkList] at h
      split at h
      · cases h
      · rename_i opsA hA
        obtain ⟨hA1, hA2, hA3⟩ := compileChk_ok d ops e opsA hA
        obtain ⟨hB1, hB2, hB3⟩ := compileChkList_ok d opsA es ops' h
        have hAl : opsA.length = ops.length + e.size := by rw [hA1]; simp [compileAt_length]
        rw [hAl] at hB1 hB3
        refine ⟨?_, ?_, ?_⟩
        · rw [hB1, hA1]; simp [compileListAt, compileAt_length]
        · simp only [BExpr.depthList]; omega
        · exact ⟨hA3, hB3⟩
end

theorem compileTop_ok (es : List BExpr) (ops : List Nat) (h : compileTop es = .ok ops) :
    ops = compileListAt 0 es ∧ BExpr.depthList es ≤ MAX_BOOL_EXPR_DEPTH ∧ BExpr.EndsOKList 0 es := by
  obtain ⟨h1, h2, h3⟩ := compileChkList_ok 1 [] es ops h
  exact ⟨by simpa using h1, h2, by simpa using h3⟩

/-- Splitting off the head of a list in "the first position `j` with `P`, every earlier position
having `Q`", positions counted from `i`. -/
theorem exists_index_cons {α : Type} (P Q : α → Prop) (x : α) (l : List α) (i k : Nat) :
    (∃ j, k = i + j ∧ ∃ c, (x :: l)[j]? = some c ∧ P c ∧
        ∀ j' < j, ∀ c', (x :: l)[j']? = some c' → Q c') ↔
      (k = i ∧ P x) ∨ (Q x ∧ ∃ j, k = i + 1 + j ∧ ∃ c, l[j]? = some c ∧ P c ∧
        ∀ j' < j, ∀ c', l[j']? = some c' → Q c') := by
  constructor
  · rintro ⟨j, hj, c, hc, hP, hall⟩
    cases j with
    | zero => cases hc; exact .inl ⟨hj, hP⟩
    | succ j =>
      exact .inr ⟨hall 0 (Nat.succ_pos _) x rfl, j, by omega, c, hc, hP,
        fun j' hj' c' hc' => hall (j' + 1) (by omega) c' hc'⟩
  · rintro (⟨hk, hP⟩ | ⟨hQ, j, hj, c, hc, hP, hall⟩)
    · exact ⟨0, hk, x, rfl, hP, fun _ h => absurd h (Nat.not_lt_zero _)⟩
    · refine ⟨j + 1, by omega, c, hc, hP, fun j' hj' c' hc' => ?_⟩
      cases j' with
      | zero => cases hc'; exact hQ
      | succ j' => exact hall j' (by omega) c' hc'

end KVerif.Switch
