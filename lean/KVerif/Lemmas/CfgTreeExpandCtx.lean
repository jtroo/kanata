/-
Lemmas for C16 (templates): the head-position discipline and contexts — replacing a template call
by its instantiated body inside a configuration keeps the discipline.
-/
import KVerif.Lemmas.CfgTreeExpandFull
namespace KVerif.CfgTree

variable {bad bH bT : Str → Bool}

theorem freeTop_fill (c : FCtx) (xs ys : List Tree)
    (h : freeTop bad (c.fill xs) = true) (hy : freeTop bad ys = true) :
    freeTop bad (c.fill ys) = true := by
  cases c with
  | here pre post =>
    simp only [FCtx.fill, freeTop_append, Bool.and_eq_true] at h ⊢
    exact ⟨⟨h.1.1, hy⟩, h.2⟩
  | under pre hd c post =>
    simp only [FCtx.fill, freeTop_append, freeTop, Bool.and_eq_true] at h ⊢
    exact h

theorem hoList_of_fill (c : FCtx) (xs : List Tree) (h : hoList bH bT (c.fill xs) = true) :
    hoList bH bT xs = true := by
  induction c with
  | here pre post =>
    simp only [FCtx.fill, hoList_append, Bool.and_eq_true] at h
    exact h.1.2
  | under pre hd c post ih =>
    simp only [FCtx.fill, hoList_append, hoList_cons, hoTree_list, Bool.and_eq_true] at h
    exact ih h.1.2.1.2.2

/-- what is spliced into the hole must itself keep the discipline and — it comes to stand in the
tail of a list — contain no keyword atom -/
theorem hoList_fill (c : FCtx) (xs ys : List Tree) (h : hoList bH bT (c.fill xs) = true)
    (hy : hoList bH bT ys = true) (hf : freeTop bT ys = true) : hoList bH bT (c.fill ys) = true := by
  induction c with
  | here pre post =>
    simp only [FCtx.fill, hoList_append, Bool.and_eq_true] at h ⊢
    exact ⟨⟨h.1.1, hy⟩, h.2⟩
  | under pre hd c post ih =>
    simp only [FCtx.fill, hoList_append, hoList_cons, hoTree_list, headOK_cons, Bool.and_eq_true,
      List.tail_cons] at h ⊢
    obtain ⟨⟨h1, ⟨⟨h2, h3⟩, h4, h5⟩, h7⟩, h6⟩ := h
    exact ⟨⟨h1, ⟨⟨h2, freeTop_fill c xs ys h3 hf⟩, h4, ih h5⟩, h7⟩, h6⟩

end KVerif.CfgTree
