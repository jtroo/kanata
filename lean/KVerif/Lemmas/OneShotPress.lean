/-
C06 helper lemmas: what a dequeued *press* does on the C06 fragment (plain keys, output
chords, layer-while-held, transparent / unmapped positions, and one-shot of the first three):
which `do_action` arm runs, what it does to the states, and which `OneShotState` operation it
performs (`handle_press(Other)` for every non-one-shot arm, the activation for the one-shot arm).
-/
import KVerif.Lemmas.OneShotTick
namespace KVerif.C06
open KVerif.L

/-- what may sit inside `one-shot` (the parser allows nothing else) -/
def Simple : Action → Prop
  | .keyCode _ | .multipleKeyCodes _ | .layer _ => True
  | _ => False

/-- the action fragment of C06 -/
def Frag : Action → Prop
  | .noOp | .trans | .keyCode _ | .multipleKeyCodes _ | .layer _ => True
  | .oneShot inner _ _ => Simple inner
  | _ => False

def CfgFrag (c : LCfg) : Prop :=
  (∀ tbl ∈ c.layers, ∀ e ∈ tbl, Frag e.2) ∧ (∀ e ∈ c.srcKeys, Frag e.2)

/-- everything a press on the fragment leaves alone -/
structure Frame (s s' : Layout) : Prop where
  waiting : s'.waiting = s.waiting
  extra : s'.extraWaiting = s.extraWaiting
  tde : s'.tapDanceEager = s.tapDanceEager
  aq : s'.actionQueue = s.actionQueue
  seqs : s'.activeSequences = s.activeSequences
  cfg : s'.cfg = s.cfg
  dl : s'.defaultLayer = s.defaultLayer
  tv2 : s'.transV2 = s.transV2
  dfl : s'.delegateToFirstLayer = s.delegateToFirstLayer

theorem Frame.refl (s : Layout) : Frame s s := ⟨rfl, rfl, rfl, rfl, rfl, rfl, rfl, rfl, rfl⟩
theorem Frame.trans {a b c : Layout} (h1 : Frame a b) (h2 : Frame b c) : Frame a c :=
  ⟨h2.waiting.trans h1.waiting, h2.extra.trans h1.extra, h2.tde.trans h1.tde, h2.aq.trans h1.aq,
   h2.seqs.trans h1.seqs, h2.cfg.trans h1.cfg, h2.dl.trans h1.dl, h2.tv2.trans h1.tv2, h2.dfl.trans h1.dfl⟩

theorem Frame.free {s : Layout} {st : List St} {q : List Queued} {o : OneShotState} {lc : Coord} {lt : Nat}
    {rp : Option Action} {hk : List (KeyCode × Nat)} {hi : List (Coord × Nat)} {qt : Bool} :
    Frame s { s with states := st, queue := q, oneshot := o, lptCoord := lc, lptTapHoldTimeout := lt,
                     rptAction := rp, histKeys := hk, histInputs := hi, quickTapHoldTimeout := qt } :=
  ⟨rfl, rfl, rfl, rfl, rfl, rfl, rfl, rfl, rfl⟩

theorem Calm.frame {s s' : Layout} (h : Calm s) (f : Frame s s') (hs : ∀ st ∈ s'.states, StOK st)
    (hi : s'.oneshot.ticksToIgnoreEvents = 0) : Calm s' :=
  h.of_eq f.waiting f.extra f.tde f.aq f.seqs hs hi

/-! ### small pieces -/

theorem prelude_spec (s : Layout) (c : Coord) :
    Frame s (prelude s c) ∧ (prelude s c).oneshot = s.oneshot ∧ (prelude s c).queue = s.queue ∧
    (prelude s c).states = s.states.filter (fun st => !st.clearOnNextAction) := by
  unfold prelude
  split <;> exact ⟨Frame.free, rfl, rfl, rfl⟩

theorem updateCoord_spec (s : Layout) (c : Coord) :
    Frame s (updateCoord s c) ∧ (updateCoord s c).oneshot = s.oneshot ∧ (updateCoord s c).queue = s.queue ∧
    (updateCoord s c).states = s.states := by
  unfold updateCoord
  split <;> exact ⟨Frame.free, rfl, rfl, rfl⟩

theorem mem_pushCap {α} {cap : Nat} {l : List α} {x y : α} (h : y ∈ pushCap cap l x) : y ∈ l ∨ y = x := by
  unfold pushCap at h
  split at h
  · rcases List.mem_append.mp h with h | h
    · exact Or.inl h
    · exact Or.inr (by simpa using h)
  · exact Or.inl h

theorem mem_pushCap_old {α} {cap : Nat} {l : List α} {x y : α} (h : y ∈ l) : y ∈ pushCap cap l x := by
  unfold pushCap
  split
  · exact List.mem_append_left _ h
  · exact h

/-- `oshOther`: the `handle_press(Other)` call every non-one-shot arm makes -/
theorem oshOther_spec (s : Layout) (os : Bool) (c : Coord) :
    (oshOther s os c).1 = { s with oneshot := if os then s.oneshot else (s.oneshot.handlePress (.other c)).1 } := by
  unfold oshOther Layout.oshPress
  cases os <;> rfl

/-! ### the arms -/

/-- how a press changes the states: nothing already there is lost (except output-chord keys, which
are flagged to go on the next action), and whatever is new belongs to the pressed coordinate -/
structure Adds (c : Coord) (s s' : Layout) : Prop where
  old : ∀ st ∈ s.states, st.clearOnNextAction = false → st ∈ s'.states
  new : ∀ st ∈ s'.states, st ∈ s.states ∨ (st.coord = some c ∧ StOK st)

theorem Adds.refl (c : Coord) (s : Layout) : Adds c s s := ⟨fun _ h _ => h, fun _ h => Or.inl h⟩
theorem Adds.trans {c : Coord} {s1 s2 s3 : Layout} (h1 : Adds c s1 s2) (h2 : Adds c s2 s3) : Adds c s1 s3 :=
  ⟨fun st h hf => h2.old st (h1.old st h hf) hf, fun st h => by
    rcases h2.new st h with h | h
    · exact h1.new st h
    · exact Or.inr h⟩
theorem Adds.of_states {c : Coord} {s s' : Layout} (h : s'.states = s.states) : Adds c s s' :=
  ⟨fun _ hst _ => h ▸ hst, fun _ hst => Or.inl (h ▸ hst)⟩

theorem prelude_adds (s : Layout) (c : Coord) : Adds c s (prelude s c) := by
  have h := (prelude_spec s c).2.2.2
  refine ⟨fun st hst hf => ?_, fun st hst => Or.inl ?_⟩
  · rw [h]; exact List.mem_filter.mpr ⟨hst, by simp [hf]⟩
  · rw [h] at hst; exact (List.mem_filter.mp hst).1

/-- the steps of an arm before its `handle_press` call -/
structure Pushes (c : Coord) (s s' : Layout) : Prop where
  frame : Frame s s'
  queue : s'.queue = s.queue
  adds : Adds c s s'
  oneshot : s'.oneshot = s.oneshot

theorem Pushes.refl (c : Coord) (s : Layout) : Pushes c s s := ⟨Frame.refl s, rfl, Adds.refl c s, rfl⟩
theorem Pushes.trans {c : Coord} {s1 s2 s3 : Layout} (h1 : Pushes c s1 s2) (h2 : Pushes c s2 s3) : Pushes c s1 s3 :=
  ⟨h1.frame.trans h2.frame, h2.queue.trans h1.queue, h1.adds.trans h2.adds, h2.oneshot.trans h1.oneshot⟩

theorem Pushes.updateCoord (s : Layout) (c : Coord) : Pushes c s (updateCoord s c) :=
  let ⟨f, o, q, st⟩ := updateCoord_spec s c
  ⟨f, q, Adds.of_states st, o⟩

theorem Pushes.prelude (s : Layout) (c : Coord) : Pushes c s (prelude s c) :=
  let ⟨f, o, q, _⟩ := prelude_spec s c
  ⟨f, q, prelude_adds s c, o⟩

theorem Pushes.hist (c : Coord) (s : Layout) (h : List (KeyCode × Nat)) : Pushes c s { s with histKeys := h } :=
  ⟨Frame.free, rfl, Adds.of_states rfl, rfl⟩

theorem Pushes.pushState (s : Layout) {st : St} {c : Coord} (h1 : st.coord = some c) (h2 : StOK st) :
    Pushes c s (s.pushState st) :=
  ⟨Frame.free, rfl,
   ⟨fun _ h _ => mem_pushCap_old h, fun _ h => (mem_pushCap h).elim Or.inl fun e => Or.inr (e ▸ ⟨h1, h2⟩)⟩, rfl⟩

theorem Pushes.pushKeyCodes (c : Coord) (f : Nat) (hf : f = 0 ∨ f = 1) :
    ∀ (kcs : List KeyCode) (s : Layout), Pushes c s (pushKeyCodes s kcs c f)
  | [], s => Pushes.refl c s
  | kc :: rest, s =>
    ((Pushes.hist c s _).trans (Pushes.pushState _ (st := .normalKey kc c f) rfl hf)).trans
      (Pushes.pushKeyCodes c f hf rest _)

/-- what the other fields do under the arms of the fragment -/
structure ArmSpec (c : Coord) (os : Bool) (s s' : Layout) : Prop where
  frame : Frame s s'
  queue : s'.queue = s.queue
  adds : Adds c s s'
  osh : s'.oneshot = if os then s.oneshot else (s.oneshot.handlePress (.other c)).1

theorem ArmSpec.rpt {c : Coord} {os : Bool} {s x : Layout} (h : ArmSpec c os s x) (r : Option Action) :
    ArmSpec c os s { x with rptAction := r } :=
  ⟨h.frame.trans Frame.free, h.queue, ⟨h.adds.old, h.adds.new⟩, h.osh⟩

/-- inside `one-shot` an arm makes no `handle_press` call -/
theorem ArmSpec.pushes {c : Coord} {s x : Layout} (h : ArmSpec c true s x) : Pushes c s x :=
  ⟨h.frame, h.queue, h.adds, h.osh⟩

/-- after the state push of an arm, the `handle_press(Other)` call -/
theorem Pushes.oshOther {c : Coord} {s x : Layout} (h : Pushes c s x) (os : Bool) :
    ArmSpec c os s (oshOther x os c).1 := by
  rw [oshOther_spec]
  exact ⟨h.frame.trans Frame.free, h.queue, ⟨h.adds.old, h.adds.new⟩, by simp only [h.oneshot]⟩

theorem armKeyCode_spec (s : Layout) (a : Action) (kc : KeyCode) (c : Coord) (os : Bool) :
    ArmSpec c os s (armKeyCode s a kc c os) := by
  have key := (((Pushes.updateCoord s c).trans (Pushes.hist c _ (histPush (updateCoord s c).histKeys kc))).trans
    (Pushes.pushState _ (st := .normalKey kc c 0) rfl (Or.inl rfl))).oshOther os
  unfold armKeyCode
  simp only []
  split <;> exact key.rpt _

theorem armMultipleKeyCodes_spec (s : Layout) (a : Action) (kcs : List KeyCode) (c : Coord) (os : Bool) :
    ArmSpec c os s (armMultipleKeyCodes s a kcs c os) := by
  have hf : (if os then 0 else NORMAL_KEY_FLAG_CLEAR_ON_NEXT_ACTION) = 0 ∨
      (if os then 0 else NORMAL_KEY_FLAG_CLEAR_ON_NEXT_ACTION) = 1 := by
    cases os
    · exact Or.inr rfl
    · exact Or.inl rfl
  unfold armMultipleKeyCodes
  simp only []
  generalize (if os then 0 else NORMAL_KEY_FLAG_CLEAR_ON_NEXT_ACTION) = f at hf ⊢
  have key := ((Pushes.updateCoord s c).trans (Pushes.pushKeyCodes c f hf kcs _)).oshOther os
  split <;> exact key.rpt _

theorem armLayer_spec (s : Layout) (v : Nat) (c : Coord) (os : Bool) :
    ArmSpec c os s (armLayer s v c os) :=
  ((Pushes.updateCoord s c).trans (Pushes.pushState _ (st := .layerModifier v c) rfl trivial)).oshOther os

/-- `NoOp` (an unmapped position): counts as another key, except at the coordinate (0,0) -/
theorem armNoOp_spec (s : Layout) (a : Action) (c : Coord) :
    Frame s (armNoOp s a c false) ∧ (armNoOp s a c false).queue = s.queue ∧
    (armNoOp s a c false).states = s.states ∧
    (armNoOp s a c false).oneshot = if c != (0, 0) then (s.oneshot.handlePress (.other c)).1 else s.oneshot := by
  unfold armNoOp Layout.oshPress
  cases c != (0, 0) <;> exact ⟨Frame.free, rfl, rfl, rfl⟩

/-- the arm a simple action runs -/
def simpleArm (s : Layout) (a : Action) (c : Coord) (os : Bool) : Layout :=
  match a with
  | .keyCode kc => armKeyCode s a kc c os
  | .multipleKeyCodes kcs => armMultipleKeyCodes s a kcs c os
  | .layer v => armLayer s v c os
  | _ => s

theorem simpleArm_spec (s : Layout) (a : Action) (hs : Simple a) (c : Coord) (os : Bool) :
    ArmSpec c os s (simpleArm s a c os) := by
  cases a <;> simp only [Simple] at hs
  · exact armKeyCode_spec s _ _ c os
  · exact armMultipleKeyCodes_spec s _ _ c os
  · exact armLayer_spec s _ c os

theorem dispatch_simple (fuel : Nat) (s : Layout) (a : Action) (hs : Simple a) (c : Coord) (d : Nat)
    (os : Bool) (ls : List Nat) :
    dispatch (fuel + 1) s a c d os ls = .ok (simpleArm s a c os, .noEvent) := by
  cases a <;> simp only [Simple] at hs <;> simp only [dispatch, simpleArm]

theorem doAction_simple (fuel : Nat) (s : Layout) (a : Action) (hs : Simple a) (c : Coord) (d : Nat)
    (os : Bool) (ls : List Nat) :
    doAction (fuel + 2) s a c d os ls = .ok (simpleArm (prelude s c) a c os, .noEvent) := by
  have hat : a ≠ .trans := fun h => by subst h; exact hs
  rw [C04.doAction_of_ne hat, dispatch_simple fuel _ a hs]

/-! ### the one-shot arm -/

/-- the `OneShotState` side of the `OneShot` arm: `handle_press(OneShotKey)`, then the timeout and
the end variant of *this* key are installed and its coordinate joins the active keys (the oldest
leaves when 16 are active already) -/
def activate (o : OneShotState) (c : Coord) (T : Nat) (v : OneShotEnd) : OneShotState :=
  let o1 := (o.handlePress (.oneShotKey c)).1
  { o1 with timeout := T, endConfig := v, keys := (pushBackWrap ONE_SHOT_MAX_ACTIVE o1.keys c).1 }

def activateOverflow (o : OneShotState) (c : Coord) : Option Coord :=
  (pushBackWrap ONE_SHOT_MAX_ACTIVE (o.handlePress (.oneShotKey c)).1.keys c).2

theorem armOneShotPost_spec (s : Layout) (a : Action) (c : Coord) (T : Nat) (v : OneShotEnd) :
    Frame s (armOneShotPost s a c T v).1 ∧ (armOneShotPost s a c T v).1.queue = s.queue ∧
    (armOneShotPost s a c T v).1.states = s.states ∧
    (armOneShotPost s a c T v).1.oneshot = activate s.oneshot c T v ∧
    (armOneShotPost s a c T v).2 = activateOverflow s.oneshot c := by
  unfold armOneShotPost Layout.oshPress activate activateOverflow
  exact ⟨Frame.free, rfl, rfl, rfl, rfl⟩

/-- an event arriving while fewer than 32 are pending is only appended to the queue -/
theorem event_room (fuel : Nat) (s : Layout) (e : Ev) (hq : s.queue.length < QUEUE_SIZE) :
    ∃ s', event (fuel + 1) s e = .ok s' ∧ s'.queue = s.queue ++ [⟨e, 0⟩] ∧ s'.states = s.states ∧
      s'.oneshot = s.oneshot ∧ Frame s s' := by
  cases e <;> simp only [event, pushBackWrap, hq, if_true] <;>
    exact ⟨_, rfl, rfl, rfl, rfl, Frame.free⟩

/-- the state after the inner action of a one-shot key at `c` and the one-shot bookkeeping -/
def oneShotArm (s : Layout) (inner : Action) (T : Nat) (v : OneShotEnd) (c : Coord) : Layout × Option Coord :=
  armOneShotPost (simpleArm (prelude (updateCoord s c) c) inner c true) (.oneShot inner T v) c T v

theorem dispatch_oneShot (fuel : Nat) (s : Layout) (inner : Action) (hs : Simple inner) (T : Nat)
    (v : OneShotEnd) (c : Coord) (d : Nat) (ls : List Nat) :
    dispatch (fuel + 3) s (.oneShot inner T v) c d false ls =
      match oneShotArm s inner T v c with
      | (s2, some ov) =>
        match event (fuel + 2) s2 (.release ov) with
        | .error e => .error e
        | .ok s3 => .ok (s3, .noEvent)
      | (s2, none) => .ok (s2, .noEvent) := by
  simp only [dispatch, doAction_simple fuel _ inner hs, oneShotArm]
  rfl

theorem oneShotArm_spec (s : Layout) (inner : Action) (hs : Simple inner) (T : Nat) (v : OneShotEnd) (c : Coord) :
    Frame s (oneShotArm s inner T v c).1 ∧ (oneShotArm s inner T v c).1.queue = s.queue ∧
    Adds c s (oneShotArm s inner T v c).1 ∧
    (oneShotArm s inner T v c).1.oneshot = activate s.oneshot c T v ∧
    (oneShotArm s inner T v c).2 = activateOverflow s.oneshot c := by
  have p : Pushes c s (simpleArm (prelude (updateCoord s c) c) inner c true) :=
    ((Pushes.updateCoord s c).trans (Pushes.prelude _ c)).trans (simpleArm_spec _ inner hs c true).pushes
  obtain ⟨o1, o2, o3, o4, o5⟩ := armOneShotPost_spec (simpleArm (prelude (updateCoord s c) c) inner c true)
    (.oneShot inner T v) c T v
  unfold oneShotArm
  exact ⟨p.frame.trans o1, o2.trans p.queue, p.adds.trans (Adds.of_states o3), by rw [o4, p.oneshot],
    by rw [o5, p.oneshot]⟩

/-- the release event `do_action` queues for the key that fell out -/
def ovq : Option Coord → List Queued
  | some k => [⟨.release k, 0⟩]
  | none => []

theorem dispatch_oneShot_spec (fuel : Nat) (s : Layout) (inner : Action) (hs : Simple inner) (T : Nat)
    (v : OneShotEnd) (c : Coord) (d : Nat) (ls : List Nat) (hq : s.queue.length < QUEUE_SIZE) :
    ∃ s', dispatch (fuel + 3) s (.oneShot inner T v) c d false ls = .ok (s', .noEvent) ∧ Frame s s' ∧
      Adds c s s' ∧ s'.oneshot = activate s.oneshot c T v ∧
      s'.queue = s.queue ++ ovq (activateOverflow s.oneshot c) := by
  rw [dispatch_oneShot fuel s inner hs]
  obtain ⟨o1, o2, o3, o4, o5⟩ := oneShotArm_spec s inner hs T v c
  generalize oneShotArm s inner T v c = r at o1 o2 o3 o4 o5
  obtain ⟨s2, ov⟩ := r
  simp only at o1 o2 o3 o4 o5
  subst o5
  cases hov : activateOverflow s.oneshot c with
  | none => exact ⟨s2, rfl, o1, o3, o4, by rw [o2]; exact (List.append_nil _).symm⟩
  | some k =>
    obtain ⟨s3, e1, e2, e3, e4, e5⟩ := event_room (fuel + 1) s2 (.release k) (o2 ▸ hq)
    simp only [e1]
    exact ⟨s3, rfl, o1.trans e5, o3.trans (Adds.of_states e3), e4.trans o4, by rw [e2, o2]; rfl⟩

/-- `ht`: the tables return `Trans` for an unmapped position -/
theorem resolveCoord_pred (P : Action → Prop) (h0 : P .noOp) (ht : P .trans) (s : Layout) (coord : Coord)
    (hl : ∀ tbl ∈ s.cfg.layers, ∀ e ∈ tbl, P e.2) (hs : ∀ e ∈ s.cfg.srcKeys, P e.2) :
    ∀ (ls : List Nat) (a : Action) (rest : List Nat), s.resolveCoord coord ls = .ok (a, rest) → P a := by
  have hsrc : P (s.cfg.srcKey coord.2) := by
    unfold LCfg.srcKey
    split
    · exact hs _ (List.mem_of_find?_eq_some ‹_›)
    · exact h0
  have hlay : ∀ l a, s.cfg.layerAction l coord = .ok a → P a := by
    intro l a h
    unfold LCfg.layerAction at h
    split at h; · cases h
    split at h; · cases h
    split at h; · cases h
    split at h <;> cases h
    · exact hl _ (List.mem_of_getElem? ‹_›) _ (List.mem_of_find?_eq_some ‹_›)
    · exact ht
  -- a coordinate outside the matrix is an error, not an action
  have guards : ∀ {X : Except Crash (Action × List Nat)} {r},
      (if coord.1 > s.cfg.rows then .error (.indexOOB "resolve_coord assert x")
       else if coord.2 > s.cfg.cols then .error (.indexOOB "resolve_coord assert y") else X) = .ok r → X = .ok r := by
    intro X r h
    by_cases h1 : coord.1 > s.cfg.rows
    · rw [if_pos h1] at h; cases h
    by_cases h2 : coord.2 > s.cfg.cols
    · rw [if_neg h1, if_pos h2] at h; cases h
    rwa [if_neg h1, if_neg h2] at h
  intro ls
  induction ls with
  | nil =>
    intro a rest h
    have h := guards (by simpa only [Layout.resolveCoord] using h)
    split at h
    · split at h <;> cases h
      exact hsrc
    · cases h; exact h0
  | cons l rest' ih =>
    intro a rest h
    have h := guards (by simpa only [Layout.resolveCoord] using h)
    split at h
    · cases h
    · exact ih a rest h
    · cases h
      exact hlay l _ ‹_›

theorem resolve_frag (s : Layout) (coord : Coord) (hc : CfgFrag s.cfg) :
    ∀ (ls : List Nat) (a : Action) (rest : List Nat), s.resolveCoord coord ls = .ok (a, rest) → Frag a :=
  resolveCoord_pred Frag trivial trivial s coord hc.1 hc.2

/-! ### a dequeued press on the fragment -/

/-- the `OneShotState` operation a dequeued press performs, and the key that falls out of the table
of active one-shot keys (only the activation of a 17th key has one) -/
inductive OshOp (o : OneShotState) (c : Coord) : OneShotState → Option Coord → Prop
  | other : OshOp o c (o.handlePress (.other c)).1 none
  | activate (T : Nat) (v : OneShotEnd) : OshOp o c (activate o c T v) (activateOverflow o c)
  | skip : OshOp o c o none

structure PressOut (c : Coord) (s s' : Layout) : Prop where
  frame : Frame s s'
  adds : Adds c s s'
  osh : ∃ ov, OshOp s.oneshot c s'.oneshot ov ∧ s'.queue = s.queue ++ ovq ov

theorem dispatch_frag (fuel : Nat) (s : Layout) (a : Action) (hf : Frag a) (c : Coord) (d : Nat)
    (ls : List Nat) (s' : Layout) (cu : CustomEv) (hq : s.queue.length < QUEUE_SIZE)
    (h : dispatch (fuel + 3) s a c d false ls = .ok (s', cu)) : cu = .noEvent ∧ PressOut c s s' := by
  have simple : Simple a → cu = .noEvent ∧ PressOut c s s' := fun hs => by
    rw [dispatch_simple _ s a hs] at h
    cases h
    have a := simpleArm_spec s a hs c false
    exact ⟨rfl, a.frame, a.adds, none, a.osh ▸ .other, by rw [a.queue]; exact (List.append_nil _).symm⟩
  cases a <;> simp only [Frag] at hf
  case noOp =>
    simp only [dispatch] at h
    cases h
    obtain ⟨n1, n2, n3, n4⟩ := armNoOp_spec s .noOp c
    refine ⟨rfl, n1, Adds.of_states n3, none, ?_, by rw [n2]; exact (List.append_nil _).symm⟩
    rw [n4]
    split
    · exact .other
    · exact .skip
  case trans => simp only [dispatch] at h; cases h
  case keyCode => exact simple trivial
  case multipleKeyCodes => exact simple trivial
  case layer => exact simple trivial
  case oneShot inner T v =>
    obtain ⟨s1, e, fr, ad, ho, hq'⟩ := dispatch_oneShot_spec fuel s inner hf T v c d ls hq
    rw [e] at h
    cases h
    exact ⟨rfl, fr, ad, _, ho ▸ .activate T v, hq'⟩

theorem FUEL_5 : FUEL = 3995 + 5 := rfl

theorem dequeue_press_calm {s : Layout} (h : Calm s) (c : Coord) (since : Nat) :
    dequeue FUEL s ⟨.press c, since⟩ = (do
      let order ← s.transOrder
      match s.resolveCoord c order with
      | .error e => .error e
      | .ok (a, ls) => dispatch (3995 + 3) (prelude s c) a c since false ls) := by
  rw [FUEL_5]
  simp only [dequeue, h.tde, doAction]
  rfl

/-- **a press taken from the queue, on the fragment**: no custom event; the static parts, the
waiting / sequence / action-queue components and the queue are untouched (except for the release
event queued for a one-shot key that falls out of the 16-entry table); states are only added, at the
pressed coordinate (output-chord keys flagged clear-on-next-action go); and the `OneShotState`
changes by exactly one of: `handle_press(Other)`, the activation of a one-shot key, nothing -/
theorem dequeue_press_frag {s : Layout} (hc : CfgFrag s.cfg) (h : Calm s)
    (hq : s.queue.length < QUEUE_SIZE) (c : Coord) (since : Nat) (s' : Layout) (cu : CustomEv)
    (hd : dequeue FUEL s ⟨.press c, since⟩ = .ok (s', cu)) : cu = .noEvent ∧ PressOut c s s' := by
  rw [dequeue_press_calm h] at hd
  cases ho : s.transOrder with
  | error e => rw [ho] at hd; cases hd
  | ok order =>
    cases hm : s.resolveCoord c order with
    | error e => rw [ho] at hd; simp only [bind, Except.bind, hm] at hd; cases hd
    | ok r =>
      rw [ho] at hd
      simp only [bind, Except.bind, hm] at hd
      obtain ⟨p1, p2, p3, _⟩ := prelude_spec s c
      obtain ⟨r1, r2⟩ := dispatch_frag 3995 (prelude s c) r.1 (resolve_frag s c hc _ _ _ hm) c since r.2 s' cu
        (p3 ▸ hq) hd
      obtain ⟨ov, q1, q2⟩ := r2.osh
      exact ⟨r1, p1.trans r2.frame, (prelude_adds s c).trans r2.adds, ov, p2 ▸ q1, by rw [q2, p3]⟩

/-- resolution looks at the configuration only -/
theorem resolveCoord_cfg (s s' : Layout) (h : s'.cfg = s.cfg) (c : Coord) :
    ∀ ls, s'.resolveCoord c ls = s.resolveCoord c ls := by
  intro ls
  induction ls with
  | nil => simp only [Layout.resolveCoord, h]
  | cons l r ih => simp only [Layout.resolveCoord, h, ih]

/-! ### a dequeued press whose resolution is known -/

theorem dequeue_press_resolved {s : Layout} (h : Calm s) (c : Coord) (n : Nat) {order : List Nat}
    (ho : s.transOrder = .ok order) {a : Action} {ls : List Nat} (hr : s.resolveCoord c order = .ok (a, ls)) :
    dequeue FUEL s ⟨.press c, n⟩ = dispatch (3995 + 3) (prelude s c) a c n false ls := by
  rw [dequeue_press_calm h, ho]
  simp only [bind, Except.bind, hr]

theorem dequeue_press_simple {s : Layout} (h : Calm s) (c : Coord) (n : Nat) (order : List Nat)
    (ho : s.transOrder = .ok order) (a : Action) (ls : List Nat)
    (hr : s.resolveCoord c order = .ok (a, ls)) (hs : Simple a) :
    ∃ s1, dequeue FUEL s ⟨.press c, n⟩ = .ok (s1, .noEvent) ∧ Adds c s s1 ∧ s1.queue = s.queue ∧
      s1.oneshot = (s.oneshot.handlePress (.other c)).1 := by
  have sp := simpleArm_spec (prelude s c) a hs c false
  obtain ⟨_, p2, p3, _⟩ := prelude_spec s c
  exact ⟨_, by rw [dequeue_press_resolved h c n ho hr, dispatch_simple _ _ a hs],
    (prelude_adds s c).trans sp.adds, sp.queue.trans p3, by rw [sp.osh, p2]; rfl⟩

/-- the key found for the press is a one-shot key -/
theorem dequeue_press_oneShot {s : Layout} (h : Calm s) (hq : s.queue.length < QUEUE_SIZE) (c : Coord) (n : Nat)
    (order : List Nat) (ho : s.transOrder = .ok order) (inner : Action) (T : Nat) (v : OneShotEnd) (ls : List Nat)
    (hr : s.resolveCoord c order = .ok (.oneShot inner T v, ls)) (hs : Simple inner) :
    ∃ s', dequeue FUEL s ⟨.press c, n⟩ = .ok (s', .noEvent) ∧ Frame s s' ∧ Adds c s s' ∧
      s'.oneshot = activate s.oneshot c T v ∧ s'.queue = s.queue ++ ovq (activateOverflow s.oneshot c) := by
  obtain ⟨p1, p2, p3, _⟩ := prelude_spec s c
  obtain ⟨s', e, fr, ad, ho', hq'⟩ := dispatch_oneShot_spec 3995 (prelude s c) inner hs T v c n ls (p3 ▸ hq)
  exact ⟨s', (dequeue_press_resolved h c n ho hr).trans e, p1.trans fr, (prelude_adds s c).trans ad,
    by rw [ho', p2], by rw [hq', p2, p3]⟩

end KVerif.C06
