/-
C02 helper lemmas: on the layered fragment of C04 the layout model never takes a crash branch.

`Lemmas/Layered.lean` / `Lemmas/LayeredTick.lean` show what `doAction`/`tick` compute *if* they return
`.ok`.  This file shows the missing half: they do return `.ok`, given
* the recursion budget suffices (`DepthOK`: a bound on the fuel cost of every configured action —
  nesting depth of `multi` plus position inside the `multi` lists, see `cost`),
* layer indices stay inside the layer table (`RangeOK` on the configuration, `InRange` on the state),
* the defsrc row holds nothing transparent (`RangeOK`),
* press coordinates stay inside the table (`evOK`).
-/
import KVerif.Lemmas.LayeredTick
namespace KVerif.C04
open KVerif.L KVerif.Spec.Layered

/-! ### fuel cost, references, layer targets of an action -/

mutual
  /-- Fuel that `doAction` needs for an action, not counting what a transparent / use-defsrc leaf
  resolves to: 2 for anything that is not a `multi` (one unit for `doAction`, one for `dispatch`);
  a `multi` adds one unit per member already run (the model's `doActions` loop is fuelled, Rust's
  is a `for` loop) on top of the cost of the member. -/
  def cost : Action → Nat
    | .multipleActions acs => 2 + costL acs
    | _ => 2
  def costL : List Action → Nat
    | [] => 1
    | a :: rest => 1 + max (cost a) (costL rest)
end

mutual
  /-- no transparent and no use-defsrc item anywhere inside -/
  def refFree : Action → Bool
    | .trans | .src => false
    | .multipleActions acs => refFreeL acs
    | _ => true
  def refFreeL : List Action → Bool
    | [] => true
    | a :: rest => refFree a && refFreeL rest
end

mutual
  /-- every `layer-while-held` target is a layer that exists -/
  def layersIn (n : Nat) : Action → Bool
    | .layer l => decide (l < n)
    | .multipleActions acs => layersInL n acs
    | _ => true
  def layersInL (n : Nat) : List Action → Bool
    | [] => true
    | a :: rest => layersIn n a && layersInL n rest
end

mutual
  /-- nesting depth of `multi` -/
  def depth : Action → Nat
    | .multipleActions acs => 1 + depthL acs
    | _ => 0
  def depthL : List Action → Nat
    | [] => 0
    | a :: rest => max (depth a) (depthL rest)
end

mutual
  /-- longest `multi` list anywhere inside -/
  def width : Action → Nat
    | .multipleActions acs => max acs.length (widthL acs)
    | _ => 0
  def widthL : List Action → Nat
    | [] => 0
    | a :: rest => max (width a) (widthL rest)
end

/-- the bound on `cost` of every configured action: `2 + (MAX_ACTIVE_LAYERS + 1) * COST_MAX ≤ 3999` -/
abbrev COST_MAX : Nat := 300

/-- **the recursion bound** (decidable): every configured action has fuel cost at most `COST_MAX` -/
def DepthOK (c : LCfg) : Prop := ((allActions c).all fun a => decide (cost a ≤ COST_MAX)) = true

/-- **indices in range** (decidable): there is a layer; every `layer-while-held` target exists; the
defsrc row holds no transparent / use-defsrc item (kanata fills it with plain key codes) -/
def RangeOK (c : LCfg) : Prop :=
  (decide (0 < c.layers.length) && ((allActions c).all (layersIn c.layers.length)) &&
    (c.srcKeys.all fun e => refFree e.2)) = true

instance (c : LCfg) : Decidable (DepthOK c) := by unfold DepthOK; exact inferInstance
instance (c : LCfg) : Decidable (RangeOK c) := by unfold RangeOK; exact inferInstance

/-- a press lies inside the layer table (`rows` × `cols`; 2 × 767 in kanata) -/
def coordOK (c : LCfg) (co : Coord) : Bool := decide (co.1 < c.rows) && decide (co.2 < c.cols)

def evOK (c : LCfg) : Ev → Bool
  | .press co => coordOK c co
  | .release _ => true

def contribOK (n : Nat) : Contrib → Bool
  | .layer l _ => decide (l < n)
  | .key _ _ _ => true

/-- the dynamic counterpart of `RangeOK`, on the abstraction of the state: the base layer and every
held layer exist, every pending press lies inside the table -/
def InRangeT (c : LCfg) (t : State) : Prop :=
  (decide (t.base < c.layers.length) && t.contribs.all (contribOK c.layers.length) &&
    t.pending.all (evOK c)) = true

instance (c : LCfg) (t : State) : Decidable (InRangeT c t) := by unfold InRangeT; exact inferInstance

def InRange (s : Layout) : Prop := InRangeT s.cfg (abs s)
instance (s : Layout) : Decidable (InRange s) := by unfold InRange; exact inferInstance

/-! ### unpacking the configuration predicates -/

theorem DepthOK.cost_le {c : LCfg} (h : DepthOK c) {a : Action} (ha : a ∈ (allActions c)) : cost a ≤ COST_MAX := by
  have := List.all_eq_true.mp h a ha
  simpa using this

structure RangeOK' (c : LCfg) : Prop where
  pos : 0 < c.layers.length
  layers : ∀ a ∈ (allActions c), layersIn c.layers.length a = true
  src : ∀ e ∈ c.srcKeys, refFree e.2 = true

theorem RangeOK.unpack {c : LCfg} (h : RangeOK c) : RangeOK' c := by
  unfold RangeOK at h
  simp only [Bool.and_eq_true, decide_eq_true_eq, List.all_eq_true] at h
  exact ⟨h.1.1, h.1.2, h.2⟩

theorem cost_ge (a : Action) : 2 ≤ cost a := by
  cases a <;> first | exact Nat.le_refl 2 | exact Nat.le_add_right 2 _

theorem costL_ge (acs : List Action) : 1 ≤ costL acs := by
  cases acs <;> simp only [costL] <;> omega

/-- the fuel cost in terms of nesting depth and list length: each nesting level costs at most the
longest `multi` list plus two -/
theorem cost_le_depth (w : Nat) : ∀ (n : Nat) (a : Action), cost a ≤ n → width a ≤ w →
    cost a ≤ 2 + depth a * (w + 2) := by
  -- the arithmetic of one more member: `A`, `B`, `M` stand for the depths times `w + 2`
  have step : ∀ cb cr A B M L : Nat, cb ≤ 2 + A → cr ≤ L + 2 + B → A ≤ M → B ≤ M →
      1 + max cb cr ≤ L + 1 + 2 + M := by omega
  intro n
  induction n with
  | zero => intro a h; exact absurd (Nat.le_trans (cost_ge a) h) (by decide)
  | succ n ih =>
    intro a hn hw
    cases a
    case multipleActions acs =>
      have hL : ∀ l : List Action, costL l ≤ n → widthL l ≤ w →
          costL l ≤ l.length + 2 + depthL l * (w + 2) := by
        intro l
        induction l with
        | nil => intro _ _; exact Nat.le_trans (Nat.le_succ 1) (Nat.le_add_right (0 + 2) _)
        | cons b r ihr =>
          intro h1 h2
          obtain ⟨hcb, hcr⟩ := Nat.max_le.mp (Nat.le_trans (Nat.le_add_left _ 1) h1)
          obtain ⟨hwb, hwr⟩ := Nat.max_le.mp h2
          exact step _ _ _ _ _ _ (ih b hcb hwb) (ihr hcr hwr)
            (Nat.mul_le_mul_right _ (Nat.le_max_left _ _)) (Nat.mul_le_mul_right _ (Nat.le_max_right _ _))
      obtain ⟨hlen, hwl⟩ := Nat.max_le.mp hw
      have hn : 2 + costL acs ≤ n + 1 := hn
      have := hL acs (by omega) hwl
      show 2 + costL acs ≤ 2 + (1 + depthL acs) * (w + 2)
      rw [Nat.add_mul, Nat.one_mul]
      omega
    all_goals exact Nat.le_add_right 2 _

/-- **a readable sufficient condition** (decidable): no `multi` nested deeper than `d`, none with
more than `w` members.  `nesting_bound_suffices` accepts any `d`, `w` with `d * (w + 2) + 2 ≤ COST_MAX`,
e.g. 16 levels of at most 16 members, or one level (what `parse_multi` produces on this fragment: it
splices a `multi` written directly inside a `multi` into its parent) of at most 296 members. -/
def NestingOK (d w : Nat) (c : LCfg) : Prop :=
  ((allActions c).all fun a => decide (depth a ≤ d) && decide (width a ≤ w)) = true

instance (d w : Nat) (c : LCfg) : Decidable (NestingOK d w c) := by unfold NestingOK; exact inferInstance

theorem nesting_bound_suffices {d w : Nat} (hdw : d * (w + 2) + 2 ≤ COST_MAX) {c : LCfg}
    (h : NestingOK d w c) : DepthOK c := by
  unfold DepthOK
  unfold NestingOK at h
  simp only [List.all_eq_true, Bool.and_eq_true, decide_eq_true_eq] at h ⊢
  intro a ha
  obtain ⟨h1, h2⟩ := h a ha
  have := cost_le_depth w (cost a) a (Nat.le_refl _) h2
  have hm : depth a * (w + 2) ≤ d * (w + 2) := Nat.mul_le_mul_right _ h1
  omega

/-! ### what the configuration predicates say of a found action -/

theorem cost_of_mem {c : LCfg} (hd : DepthOK c) {a : Action} (ha : a = .noOp ∨ a ∈ allActions c) :
    cost a ≤ COST_MAX :=
  ha.elim (fun h => h ▸ by decide) hd.cost_le

theorem layersIn_of_mem {c : LCfg} (hr : RangeOK c) {a : Action} (ha : a = .noOp ∨ a ∈ allActions c) :
    layersIn c.layers.length a = true :=
  ha.elim (fun h => h ▸ rfl) (hr.unpack.layers a)

theorem srcKey_refFree {c : LCfg} (hr : RangeOK c) (y : Nat) : refFree (c.srcKey y) = true := by
  unfold LCfg.srcKey
  split
  · exact hr.unpack.src _ (List.mem_of_find?_eq_some ‹_›)
  · rfl

/-- what `lookup` finds is not transparent; it is the defsrc key (free of references), or the layers
left to search are fewer; and these are among the ones given -/
theorem lookup_below (km : Keymap) (c : Coord) (hsrc : refFree (km.cfg.srcKey c.2) = true) (ls : List Nat) :
    (lookup km c ls).1 ≠ .trans ∧
      (refFree (lookup km c ls).1 = true ∨ (lookup km c ls).2.length < ls.length) ∧
      ∀ l ∈ (lookup km c ls).2, l ∈ ls := by
  induction ls with
  | nil =>
    have h : refFree (lookup km c []).1 = true := by
      unfold lookup
      split
      · exact hsrc
      · rfl
    exact ⟨fun e => (by rw [e] at h; cases h), .inl h, fun _ hl => hl⟩
  | cons l rest ih =>
    by_cases h : tableAction km l c = .trans
    · rw [lookup_cons_trans h]
      exact ⟨ih.1, ih.2.1.imp_right Nat.lt_succ_of_lt, fun x hx => List.mem_cons_of_mem _ (ih.2.2 x hx)⟩
    · rw [lookup_cons_found h]
      exact ⟨h, .inr (Nat.lt_succ_self _), fun x hx => List.mem_cons_of_mem _ hx⟩

/-! ### `resolve_coord` stays inside the table -/

theorem layerAction_ok {km : Keymap} {l : Nat} {co : Coord} (hl : l < km.cfg.layers.length)
    (hx : co.1 < km.cfg.rows) (hy : co.2 < km.cfg.cols) :
    km.cfg.layerAction l co = .ok (tableAction km l co) := by
  unfold tableAction
  fun_cases LCfg.layerAction km.cfg l co
  · rename_i h; rw [List.getElem?_eq_getElem hl] at h; cases h
  · omega
  · omega
  · simp only [*]
  · simp only [*]

/-- on coordinates inside the table and layers that exist, `resolve_coord` returns what `lookup` finds -/
theorem resolveCoord_ok (s : Layout) {co : Coord} (hco : coordOK s.cfg co = true) (ls : List Nat) :
    (∀ l ∈ ls, l < s.cfg.layers.length) → s.resolveCoord co ls = .ok (lookup (km s) co ls) := by
  simp only [coordOK, Bool.and_eq_true, decide_eq_true_eq] at hco
  have hla : ∀ l, l < s.cfg.layers.length → s.cfg.layerAction l co = .ok (tableAction (km s) l co) :=
    fun l hl => layerAction_ok (km := km s) hl hco.1 hco.2
  fun_induction Layout.resolveCoord s co ls <;> intro hls
  -- the branches that return an error: a bound is violated
  any_goals omega
  · rename_i hz _; unfold lookup; rw [if_pos hz]; rfl
  · rename_i hz; unfold lookup; rw [if_neg hz]
  · rename_i l _ _ _ _ hx
    rw [hla l (hls l List.mem_cons_self)] at hx; cases hx
  · rename_i l _ _ _ hx ih
    rw [hla l (hls l List.mem_cons_self)] at hx; injection hx with hx
    rw [lookup_cons_trans hx]
    exact ih fun x hx => hls x (List.mem_cons_of_mem _ hx)
  · rename_i l _ _ _ _ hne hx
    rw [hla l (hls l List.mem_cons_self)] at hx; injection hx with hx
    rw [lookup_cons_found (hx ▸ hne), hx]

/-! ### `do_action` on the fragment returns -/

/-- **no crash branch, no fuel exhaustion in `do_action`** on the fragment.  `x` is the part of the
budget reserved for what transparent / use-defsrc leaves resolve to: `COST_MAX` for each layer still
to search plus one for the defsrc row. -/
theorem total_all {cfg : LCfg} (hc : CfgFrag cfg) (hd : DepthOK cfg) (hr : RangeOK cfg) {coord : Coord}
    (hco : coordOK cfg coord = true) : ∀ fuel : Nat,
    (∀ s a delay ls x, s.cfg = cfg → Inert s → Frag a → (∀ l ∈ ls, l < cfg.layers.length) →
      (refFree a = true ∨ COST_MAX * (ls.length + 1) ≤ x) → cost a + x ≤ fuel →
      ∃ r, doAction fuel s a coord delay false ls = .ok r) ∧
    (∀ s a delay ls x, s.cfg = cfg → Inert s → Frag a → (∀ l ∈ ls, l < cfg.layers.length) → a ≠ .trans →
      (refFree a = true ∨ COST_MAX * (ls.length + 1) ≤ x) → cost a + x ≤ fuel + 1 →
      ∃ r, dispatch fuel s a coord delay false ls = .ok r) ∧
    (∀ s acs delay ls x cu, s.cfg = cfg → Inert s → FragL acs → (∀ l ∈ ls, l < cfg.layers.length) →
      (refFreeL acs = true ∨ COST_MAX * (ls.length + 1) ≤ x) → costL acs + x ≤ fuel →
      ∃ r, doActions fuel s acs coord delay false ls cu = .ok r) := by
  intro fuel
  induction fuel with
  | zero =>
    refine ⟨?_, ?_, ?_⟩
    · intro s a delay ls x _ _ _ _ _ h
      have := cost_ge a; omega
    · intro s a delay ls x _ _ _ _ _ _ h
      have := cost_ge a; omega
    · intro s acs delay ls x cu _ _ _ _ _ h
      have := costL_ge acs; omega
  | succ fuel ih =>
    obtain ⟨ih1, ih2, ih3⟩ := ih
    refine ⟨?_, ?_, ?_⟩
    · intro s a delay ls x hs hi hf hls hb hfuel
      have hp := prelude_spec coord hi
      have hps := hp.same.cfg.trans hs
      by_cases ha : a = .trans
      · subst ha hs
        rw [doAction_trans (resolveCoord_ok s hco ls hls)]
        -- the action found costs at most `COST_MAX`, taken from the reserve unless it is the defsrc key
        have hm := lookup_mem (km s) coord ls
        obtain ⟨hne, hbelow, hsub⟩ := lookup_below (km s) coord (srcKey_refFree hr _) ls
        have hcost := cost_of_mem hd hm
        have hx : COST_MAX * (ls.length + 1) ≤ x := hb.resolve_left nofun
        simp only [cost, COST_MAX] at hfuel hx hcost
        have hls' := fun l hl => hls l (hsub l hl)
        by_cases hrf : refFree (lookup (km s) coord ls).1 = true
        · exact ih2 _ _ delay _ 0 hps hp.inert (hc.frag hm) hls' hne (.inl hrf) (by omega)
        · have := hbelow.resolve_left hrf
          exact ih2 _ _ delay _ (x - COST_MAX) hps hp.inert (hc.frag hm) hls' hne
            (.inr (by simp only [COST_MAX]; omega)) (by simp only [COST_MAX]; omega)
      · rw [doAction_of_ne ha]
        exact ih2 _ a delay ls x hps hp.inert hf hls ha hb (by omega)
    · intro s a delay ls x hs hi hf hls hnt hb hfuel
      cases a <;> simp only [Frag] at hf <;> simp only [dispatch]
      case trans => exact absurd rfl hnt
      case src =>
        subst hs
        simp only [coordOK, Bool.and_eq_true, decide_eq_true_eq] at hco
        rw [if_neg (by omega)]
        have hx : COST_MAX * (ls.length + 1) ≤ x := hb.resolve_left nofun
        have hcost := cost_of_mem hd (srcKey_mem s.cfg coord.2)
        simp only [cost, COST_MAX] at hfuel hx hcost
        obtain ⟨r, h1⟩ := ih1 s (s.cfg.srcKey coord.2) delay [] 0 rfl hi (srcKey_frag hc _) nofun
          (.inl (srcKey_refFree hr _)) (by omega)
        rw [h1]
        exact ⟨_, rfl⟩
      case multipleActions acs =>
        have hu := updateCoord_spec coord hi
        simp only [cost] at hfuel
        obtain ⟨⟨s1, c1⟩, h1⟩ := ih3 (updateCoord s coord) acs delay ls x .noEvent (hu.same.cfg.trans hs) hu.inert hf
          hls hb (by omega)
        rw [h1]
        exact ⟨_, rfl⟩
      all_goals exact ⟨_, rfl⟩
    · intro s acs delay ls x cu hs hi hf hls hb hfuel
      cases acs with
      | nil => exact ⟨(s, cu), rfl⟩
      | cons a rest =>
        simp only [refFreeL, Bool.and_eq_true] at hb
        simp only [costL] at hfuel
        obtain ⟨⟨s1, c1⟩, h1⟩ := ih1 s a delay ls x hs hi hf.1 hls (hb.imp_left (·.1)) (by omega)
        have r := (refines_all fuel).1 s a coord delay ls s1 c1 (hs ▸ hc) hi hf.1 h1
        obtain ⟨r2, h2⟩ := ih3 s1 rest delay ls x (cu.update c1) (r.same.cfg.trans hs) r.inert hf.2 hls
          (hb.imp_left (·.2)) (by omega)
        exact ⟨r2, by simp only [doActions, h1, h2]⟩

/-! ### the layered machine keeps layer indices in range -/

/-- base layer and held layers exist -/
structure TOK (n : Nat) (t : State) : Prop where
  base : t.base < n
  contribs : ∀ x ∈ t.contribs, contribOK n x = true

theorem InRangeT.unpack {c : LCfg} {t : State} (h : InRangeT c t) :
    TOK c.layers.length t ∧ ∀ e ∈ t.pending, evOK c e = true := by
  unfold InRangeT at h
  simp only [Bool.and_eq_true, decide_eq_true_eq, List.all_eq_true] at h
  exact ⟨⟨h.1.1, h.1.2⟩, h.2⟩

theorem InRangeT.pack {c : LCfg} {t : State} (h1 : TOK c.layers.length t)
    (h2 : ∀ e ∈ t.pending, evOK c e = true) : InRangeT c t := by
  unfold InRangeT
  simp only [Bool.and_eq_true, decide_eq_true_eq, List.all_eq_true]
  exact ⟨⟨h1.base, h1.contribs⟩, h2⟩

theorem cok_add {n : Nat} {cs : List Contrib} {c : Contrib} (h : ∀ x ∈ cs, contribOK n x = true)
    (hc : contribOK n c = true) : ∀ x ∈ add cs c, contribOK n x = true :=
  fun x hx => (mem_pushCap (cap := 64) hx).elim (h x) (· ▸ hc)

theorem cok_foldl {n : Nat} (co : Coord) (kcs : List KeyCode) : ∀ {cs : List Contrib},
    (∀ x ∈ cs, contribOK n x = true) →
    ∀ x ∈ kcs.foldl (fun cs kc => add cs (.key kc co true)) cs, contribOK n x = true := by
  induction kcs with
  | nil => intro cs h; exact h
  | cons kc rest ih => intro cs h; exact ih (cok_add h rfl)

theorem cok_filter {n : Nat} {cs : List Contrib} (p : Contrib → Bool) (h : ∀ x ∈ cs, contribOK n x = true) :
    ∀ x ∈ cs.filter p, contribOK n x = true := fun x hx => h x (List.mem_filter.mp hx).1

/-- `perform` keeps the base layer and the held layers inside the table -/
theorem perform_tok (km : Keymap) (hr : RangeOK km.cfg) (c : Coord) : ∀ fuel : Nat,
    (∀ t a ls, TOK km.cfg.layers.length t → layersIn km.cfg.layers.length a = true →
      TOK km.cfg.layers.length (perform km c fuel t a ls)) ∧
    (∀ t a ls, TOK km.cfg.layers.length t → layersIn km.cfg.layers.length a = true →
      TOK km.cfg.layers.length (performFound km c fuel t a ls)) ∧
    (∀ t acs ls, TOK km.cfg.layers.length t → layersInL km.cfg.layers.length acs = true →
      TOK km.cfg.layers.length (performAll km c fuel t acs ls)) := by
  intro fuel
  induction fuel with
  | zero => exact ⟨fun _ _ _ ht _ => ht, fun _ _ _ ht _ => ht, fun _ _ _ ht _ => ht⟩
  | succ fuel ih =>
    obtain ⟨ih1, ih2, ih3⟩ := ih
    refine ⟨?_, ?_, ?_⟩
    · intro t a ls ht ha
      have ht' : TOK km.cfg.layers.length { t with contribs := dropUntilNextAction t.contribs } :=
        ⟨ht.base, cok_filter _ ht.contribs⟩
      by_cases h : a = .trans
      · rw [h, perform_trans]; exact ih2 _ _ _ ht' (layersIn_of_mem hr (lookup_mem km c ls))
      · rw [perform_of_ne h]; exact ih2 _ a ls ht' ha
    · intro t a ls ht ha
      cases a <;> simp only [performFound] <;> try exact ht
      case keyCode kc => exact ⟨ht.base, cok_add ht.contribs rfl⟩
      case multipleKeyCodes kcs => exact ⟨ht.base, cok_foldl c kcs ht.contribs⟩
      case multipleActions acs => exact ih3 t acs ls ht ha
      case layer l => exact ⟨ht.base, cok_add ht.contribs ha⟩
      case defaultLayer l =>
        split
        · exact ⟨‹_›, ht.contribs⟩
        · exact ht
      case releaseState rs => cases rs <;> exact ⟨ht.base, cok_filter _ ht.contribs⟩
      case src => exact ih1 t _ [] ht (layersIn_of_mem hr (srcKey_mem _ _))
    · intro t acs ls ht ha
      cases acs with
      | nil => exact ht
      | cons a rest =>
        simp only [layersInL, Bool.and_eq_true] at ha
        exact ih3 _ rest ls (ih1 t a ls ht ha.1) ha.2

theorem step_inRange (km : Keymap) (hr : RangeOK km.cfg) {t : State} (h : InRangeT km.cfg t) :
    InRangeT km.cfg (step km t) := by
  obtain ⟨h1, h2⟩ := h.unpack
  unfold step
  split
  · exact h
  · rename_i c rest hp
    refine InRangeT.pack ((perform_tok km hr c DEPTH).1 _ .trans _ ⟨h1.base, h1.contribs⟩ rfl) ?_
    rw [(perform_pending km c DEPTH).1]
    exact fun e he => h2 e (hp ▸ List.mem_cons_of_mem _ he)
  · rename_i c rest hp
    exact InRangeT.pack ⟨h1.base, cok_filter _ h1.contribs⟩ fun e he => h2 e (hp ▸ List.mem_cons_of_mem _ he)

theorem input_inRange {c : LCfg} {t : State} (h : InRangeT c t) {e : Ev} (he : evOK c e = true) :
    InRangeT c (input t e) := by
  obtain ⟨h1, h2⟩ := h.unpack
  refine InRangeT.pack ⟨h1.base, h1.contribs⟩ fun x hx => ?_
  rcases List.mem_append.mp hx with h3 | h3
  · exact h2 x h3
  · rw [List.mem_singleton.mp h3]; exact he

/-! ### the search order is short and inside the table -/

theorem heldLayers_lt {n : Nat} {t : State} (h : TOK n t) : ∀ l ∈ heldLayers t, l < n := by
  intro l hl
  obtain ⟨x, hx, hf⟩ := List.mem_filterMap.mp (List.mem_reverse.mp hl)
  have := h.contribs x hx
  cases x with
  | key => cases hf
  | layer v co => cases hf; exact of_decide_eq_true this

theorem currentLayer_lt {n : Nat} {t : State} (h : TOK n t) : Spec.Layered.currentLayer t < n := by
  unfold Spec.Layered.currentLayer
  split
  · rename_i l rest hh
    exact heldLayers_lt h l (hh ▸ List.mem_cons_self)
  · exact h.base

theorem searchOrder_lt (km : Keymap) {n : Nat} (hn : 0 < n) {t : State} (h : TOK n t) :
    ∀ l ∈ searchOrder km t, l < n := by
  have h0 : ∀ (b : Bool) l, l ∈ (if b = true then [0] else []) → l < n := by
    intro b l hb
    split at hb
    · rw [List.mem_singleton.mp hb]; exact hn
    · cases hb
  intro l hl
  unfold searchOrder at hl
  split at hl
  · rcases List.mem_append.mp hl with h1 | h1
    · rcases List.mem_append.mp h1 with h2 | h2
      · exact heldLayers_lt h l h2
      · rw [List.mem_singleton.mp h2]; exact h.base
    · exact h0 _ l h1
  · rcases List.mem_append.mp hl with h1 | h1
    · rw [List.mem_singleton.mp h1]; exact currentLayer_lt h
    · exact h0 _ l h1

theorem searchOrder_len (km : Keymap) (t : State) :
    (searchOrder km t).length ≤ (heldLayers t).length + 2 := by
  unfold searchOrder
  split <;> simp only [List.length_append, List.length_cons, List.length_nil] <;> split <;>
    simp only [List.length_cons, List.length_nil] <;> omega

/-! ### `tick` returns -/

theorem dequeue_press_total {s : Layout} (hc : CfgFrag s.cfg) (hd : DepthOK s.cfg) (hr : RangeOK s.cfg)
    (h : Inert s) (ht : TOK s.cfg.layers.length (abs s)) (c : Coord) (hco : coordOK s.cfg c = true)
    (since : Nat) (hl : (heldLayers (abs s)).length + 2 ≤ MAX_ACTIVE_LAYERS) :
    ∃ r, dequeue FUEL s ⟨.press c, since⟩ = .ok r := by
  rw [FUEL_succ]
  simp only [dequeue, h.tde, transOrder_eq h.states hl, bind, Except.bind]
  have hlen := searchOrder_len (km s) (abs s)
  -- the reserve: `COST_MAX` for each of the at most 12 layers of the search order and the defsrc row
  exact (total_all hc hd hr hco 3999).1 s .trans since _ 3900 rfl h trivial
    (searchOrder_lt (km s) hr.unpack.pos ht) (.inr (by simp only [COST_MAX, MAX_ACTIVE_LAYERS] at hl ⊢; omega))
    (by decide)

theorem tickMain_total {s : Layout} (hc : CfgFrag s.cfg) (hd : DepthOK s.cfg) (hr : RangeOK s.cfg)
    (h : Inert s) (hin : InRange s) (hl : (heldLayers (abs s)).length + 2 ≤ MAX_ACTIVE_LAYERS) :
    ∃ r, tickMain s = .ok r := by
  rw [tickMain_inert h]
  cases hq : s.queue with
  | nil => exact ⟨_, rfl⟩
  | cons q rest =>
    have hi : Inert (s.setQueue rest) := h.congr rfl h.states
    obtain ⟨ev, since⟩ := q
    cases ev with
    | release c => exact ⟨_, dequeue_release hi c since⟩
    | press c =>
      obtain ⟨i1, i2⟩ := InRangeT.unpack hin
      have hco : coordOK s.cfg c = true := i2 (.press c) (by simp [abs, hq])
      exact dequeue_press_total (s := s.setQueue rest) hc hd hr hi ⟨i1.base, i1.contribs⟩ c hco since hl

/-- **one tick of the layout on an inert state of the fragment returns** -/
theorem tick_total {s : Layout} (hc : CfgFrag s.cfg) (hd : DepthOK s.cfg) (hr : RangeOK s.cfg)
    (h : Inert s) (hin : InRange s) (hl : (heldLayers (abs s)).length + 2 ≤ MAX_ACTIVE_LAYERS) :
    ∃ r, tick s = .ok r := by
  obtain ⟨p1, p2, p3⟩ := tickPre_spec h
  have hin' : InRange (tickPre s) := by unfold InRange; rw [p2.cfg, p3]; exact hin
  obtain ⟨⟨s2, c2⟩, hm⟩ := tickMain_total (p2.cfg ▸ hc) (p2.cfg ▸ hd) (p2.cfg ▸ hr) p1 hin' (p3 ▸ hl)
  obtain ⟨m1, _, m3, _⟩ := tickMain_step (p2.cfg ▸ hc) p1 (p3 ▸ hl) s2 c2 hm
  cases m3
  exact ⟨_, tick_of_main h hm m1⟩

/-- along a simulation the conditions of `tick_total` are conditions on the machine's state -/
theorem Sim.tick_total {s : Layout} {km : Keymap} {t : State} (h : Sim s km t) (hd : DepthOK km.cfg)
    (hr : RangeOK km.cfg) (hin : InRangeT km.cfg t) (hl : (heldLayers t).length + 2 ≤ MAX_ACTIVE_LAYERS) :
    ∃ r, L.tick s = .ok r := by
  obtain ⟨hc, hi, rfl, rfl⟩ := h
  exact C04.tick_total hc hd hr hi hin hl

end KVerif.C04
