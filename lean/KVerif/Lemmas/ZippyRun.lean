/-
Whole chords.  What the lookups answer while the keys of a chord go down in any order; the run of
a chord from an idle state (possibly after the smart-space erasure by its first key) and of the
remaining keys of a longer chord after a shorter one has been activated in the same hold, both with
the state they end in (`RunResult`); chords from a fresh state (`zippy_net_text_basic`) and towers
of chords that extend eagerly activated ones (`zippy_net_text_tower_partial`).
-/
import KVerif.Lemmas.ZippyForm
namespace KVerif.Zippy
open KVerif.TextBuf

theorem zRun_then_press (cfg : Cfg) (s : Zchd) (h : List ZEv) (k : Nat) :
    zRun cfg s (h ++ [.press k]) =
      ((zchPressKey cfg (zRun cfg s h).1 k).1, (zRun cfg s h).2 ++ (zchPressKey cfg (zRun cfg s h).1 k).2) := by
  rw [zRun_append]; simp [zRun, zStep]

theorem zRun_ticks_append (cfg : Cfg) (s : Zchd) (g : Nat) (h : List ZEv) :
    zRun cfg s (List.replicate g .tick ++ h) = zRun cfg (ticksN s g) h := by
  rw [zRun_append, zRun_ticks]; simp

theorem run_zRun_append (cfg : Cfg) (s : Zchd) (b : Buf) (h1 h2 : List ZEv) :
    b.run (zRun cfg s (h1 ++ h2)).2 = (b.run (zRun cfg s h1).2).run (zRun cfg (zRun cfg s h1).1 h2).2 := by
  rw [zRun_append, run_append]

theorem chordHist_head (front : List (Nat × Nat)) (last : Nat) :
    chordHist front ++ [ZEv.press last] =
      ZEv.press ((front.map (·.1) ++ [last]).headD 0) :: (chordHist front ++ [ZEv.press last]).tail := by
  cases front with
  | nil => simp [chordHist]
  | cons kg r => simp [chordHist_cons, pressTicks]

theorem chordKey_of_mem {K : Key} {l : List Nat} (hs : StrictSorted K) (hall : ∀ x, x ∈ l ↔ x ∈ K) :
    chordKey l = K :=
  strictSorted_ext _ _ (strictSorted_chordKey _) hs (fun x => by rw [mem_chordKey]; exact hall x)

theorem pressed_part {K : Key} {pre front : List Nat} {last : Nat}
    (hall : ∀ x, x ∈ pre ++ (front ++ [last]) ↔ x ∈ K) (hlast : last ∉ pre ++ front)
    {ks : List Nat} (hpre : ks <+: front) :
    (∀ x ∈ chordKey (pre ++ ks), x ∈ K) ∧ chordKey (pre ++ ks) ≠ K := by
  have hsub : ∀ x ∈ chordKey (pre ++ ks), x ∈ pre ++ front := fun x hx =>
    (List.mem_append.mp ((mem_chordKey _ _).mp hx)).elim (List.mem_append_left _)
      (fun h => List.mem_append_right _ (hpre.subset h))
  refine ⟨fun x hx => (hall x).mp ?_, fun heq => hlast (hsub last ?_)⟩
  · rw [← List.append_assoc]; exact List.mem_append_left _ (hsub x hx)
  · rw [heq]; exact (hall last).mp (List.mem_append_right _ List.mem_concat_self)

theorem perm_presses {K : Key} {front : List Nat} {last : Nat} (hs : StrictSorted K)
    (hperm : (front ++ [last]).Perm K) :
    (∀ x, x ∈ front ++ [last] ↔ x ∈ K) ∧ last ∉ front := by
  refine ⟨fun x => hperm.mem_iff, fun h => ?_⟩
  have hnodup : (front ++ [last]).Nodup := hperm.nodup_iff.mpr (hs.imp (fun h => Nat.ne_of_lt h))
  exact (List.nodup_append.mp hnodup).2.2 last h last (List.mem_singleton_self _) rfl

structure Lookups (cfg : Cfg) (prio : Option Path) (pre front : List Nat) (last : Nat)
    (ctx : Path) (out : List ZchOut) (isPrio : Bool) : Prop where
  part : ∀ ks, ks ≠ [] → ks <+: front → findChordK cfg prio (chordKey (pre ++ ks)) = .subset
  full : (findChordK cfg prio (chordKey (pre ++ (front ++ [last])))).act = some (ctx, out, isPrio)

theorem BasicEntry.lookups {cfg : Cfg} {K : Key} {out : List ZchOut} {front : List Nat} {last : Nat}
    (h : BasicEntry cfg.dict K out) (hperm : (front ++ [last]).Perm K) :
    Lookups cfg none [] front last [] out false := by
  obtain ⟨hall, hlast⟩ := perm_presses h.sorted hperm
  constructor
  · intro ks _ hpre
    obtain ⟨hsub, hneq⟩ := pressed_part (pre := []) hall hlast hpre
    rw [findChordK_none, h.lookup_part _ hsub hneq]
  · rw [findChordK_none, chordKey_of_mem (l := [] ++ (front ++ [last])) h.sorted hall, h.lookup_full]; rfl

/-- `BasicEntry` from conditions that can be evaluated on a concrete dictionary. -/
theorem BasicEntry.of_level {d : Dict} {K : Key} {out : List ZchOut}
    (h : (K, out) ∈ level d [] ∧ K ≠ [] ∧ K.Pairwise (· < ·) ∧
      ∀ kv ∈ level d [], (kv.1 = K → kv.2 = out) ∧ (isSubsetOf kv.1 K = true → kv.1 = K)) :
    BasicEntry d K out :=
  ⟨h.1, h.2.1, h.2.2.1, fun out' hm => (h.2.2.2 (K, out') hm).1 rfl, fun kv hkv => (h.2.2.2 kv hkv).2⟩

/-- `K2 ↦ out2` is a top-level chord stored once, and every top-level chord whose keys all lie in
`K2` is `K2` itself or lies inside `K1` (so between `K1` and `K2` there is no other chord). -/
structure ExtEntry (d : Dict) (K1 K2 : Key) (out2 : List ZchOut) : Prop where
  mem : (K2, out2) ∈ level d []
  ne : K2 ≠ []
  sorted : StrictSorted K2
  uniq : ∀ out', (K2, out') ∈ level d [] → out' = out2
  inside : ∀ kv ∈ level d [], isSubsetOf kv.1 K2 = true → (∀ x ∈ kv.1, x ∈ K1) ∨ kv.1 = K2

theorem ExtEntry.lookup_full {d : Dict} {K1 K2 : Key} {out2 : List ZchOut} (h : ExtEntry d K1 K2 out2) :
    lookupLevel d [] K2 = .hasValue out2 :=
  lookupLevel_unique h.mem h.ne h.uniq

theorem ExtEntry.lookup_part {d : Dict} {K1 K2 : Key} {out2 : List ZchOut} (h : ExtEntry d K1 K2 out2)
    (S : Key) (hsub : ∀ x ∈ S, x ∈ K2) (hn1 : ∃ y ∈ S, y ∉ K1) (hn2 : S ≠ K2) :
    lookupLevel d [] S = .isSubset := by
  refine lookupLevel_inside h.mem h.ne hsub (fun kv hkv heq => ?_)
  rcases h.inside kv hkv (by rw [heq]; exact (isSubsetOf_iff S K2).mpr hsub) with h1 | h1
  · obtain ⟨y, hy, hny⟩ := hn1
    exact hny (h1 y (heq ▸ hy))
  · exact hn2 (heq ▸ h1)

/-- `ExtEntry` from conditions that can be evaluated on a concrete dictionary. -/
theorem ExtEntry.of_level {d : Dict} {K1 K2 : Key} {out2 : List ZchOut}
    (h : (K2, out2) ∈ level d [] ∧ K2 ≠ [] ∧ K2.Pairwise (· < ·) ∧
      ∀ kv ∈ level d [], (kv.1 = K2 → kv.2 = out2) ∧
        (isSubsetOf kv.1 K2 = true → (∀ x ∈ kv.1, x ∈ K1) ∨ kv.1 = K2)) :
    ExtEntry d K1 K2 out2 :=
  ⟨h.1, h.2.1, h.2.2.1, fun out' hm => (h.2.2.2 (K2, out') hm).1 rfl, fun kv hkv => (h.2.2.2 kv hkv).2⟩

theorem ExtEntry.lookups {cfg : Cfg} {K1 K2 : Key} {out2 : List ZchOut} {pre front : List Nat} {last : Nat}
    (h : ExtEntry cfg.dict K1 K2 out2) (hpre : ∀ x, x ∈ pre ↔ x ∈ K1) (hsub : ∀ x ∈ K1, x ∈ K2)
    (hperm : (front ++ [last]).Perm (K2.filter (fun x => !K1.contains x))) :
    Lookups cfg none pre front last [] out2 false ∧ (∀ x, x ∈ pre ++ (front ++ [last]) ↔ x ∈ K2) := by
  obtain ⟨hmem, hlastF⟩ := perm_presses (h.sorted.filter _) hperm
  have hnew : ∀ x, x ∈ front ++ [last] ↔ (x ∈ K2 ∧ x ∉ K1) := fun x => by
    rw [hmem]; simp [List.mem_filter]
  have hall : ∀ x, x ∈ pre ++ (front ++ [last]) ↔ x ∈ K2 := fun x => by
    rw [List.mem_append, hpre x, hnew x]
    exact ⟨fun h => h.elim (hsub x) (·.1), fun h => (Decidable.em (x ∈ K1)).imp_right (⟨h, ·⟩)⟩
  have hlast : last ∉ pre ++ front := fun hm =>
    (List.mem_append.mp hm).elim (fun hm => ((hnew last).mp List.mem_concat_self).2 ((hpre last).mp hm)) hlastF
  refine ⟨⟨fun ks hks hpre' => ?_, ?_⟩, hall⟩
  · obtain ⟨hin, hneq⟩ := pressed_part hall hlast hpre'
    obtain ⟨y, hy⟩ := List.exists_mem_of_ne_nil ks hks
    rw [findChordK_none, h.lookup_part _ hin
      ⟨y, (mem_chordKey _ _).mpr (List.mem_append_right _ hy),
        ((hnew y).mp (List.mem_append_left _ (hpre'.subset hy))).2⟩ hneq]
  · rw [findChordK_none, chordKey_of_mem h.sorted hall, h.lookup_full]; rfl

theorem idle_front (cfg : Cfg) (s : Zchd) (b : Buf) (front : List (Nat × Nat)) (last : Nat)
    (hidle : Idle s) (hne : ssmIsEmpty (levelSsm cfg.dict []) = false)
    (hign : ∀ k ∈ front.map (·.1), isZippyIgnored k = false)
    (hss : s.smartSpaceState = .inactive ∨
      cfg.punctuation.contains (puncOf s ((front.map (·.1) ++ [last]).headD 0)) = false)
    (hpart : ∀ ks, ks ≠ [] → ks <+: front.map (·.1) → findChordK cfg s.prioritized (chordKey ks) = .subset)
    (hgap : ∀ kg ∈ front, kg.2 ≤ TICKS_UNTIL_FORCE_STATE_RESET)
    (hdl : cfg.ticksChordDeadline = 0 ∨ (front.map (·.2)).sum < cfg.ticksChordDeadline) :
    Ready (idlePhase s) s (zRun cfg s (chordHist front)).1 (front.map (·.1)) ∧
    BufForming b (b.run (zRun cfg s (chordHist front)).2) (front.map (·.1)).length ∧
    ((zRun cfg s (chordHist front)).1.smartSpaceState = .inactive ∨
      cfg.punctuation.contains (puncOf (zRun cfg s (chordHist front)).1 last) = false) := by
  cases front with
  | nil => exact ⟨hidle.ready, ⟨⟨[], rfl, rfl⟩, rfl, rfl, rfl⟩, hss⟩
  | cons kg rest =>
    obtain ⟨k1, g1⟩ := kg
    simp only [List.map_cons, List.sum_cons] at hign hpart hdl
    obtain ⟨hf1, hb1⟩ := hidle.press (b := b) hne k1 (hign k1 (List.mem_cons_self ..)) hss
      (hpart [k1] (List.cons_ne_nil _ _) ⟨_, rfl⟩)
    have hg1 : g1 ≤ TICKS_UNTIL_FORCE_STATE_RESET := hgap (k1, g1) (List.mem_cons_self ..)
    have hf2 := hf1.ticks g1 (by rw [Nat.zero_add]; exact hg1)
      (hdl.imp_right fun h => by rw [Nat.zero_add]; exact Nat.lt_of_le_of_lt (Nat.le_add_right g1 _) h)
    obtain ⟨e', c', hf3, hb3⟩ := forming_rest (b0 := b) hne rest _ _ [k1] (0 + g1) (0 + g1) hf2 hb1
      (fun kg hkg => hign kg.1 (List.mem_cons_of_mem _ (List.mem_map.mpr ⟨kg, hkg, rfl⟩)))
      (fun hp => by simp at hp)
      (fun ks _ hpre => hpart (k1 :: ks) (List.cons_ne_nil _ _) (List.cons_prefix_cons.mpr ⟨rfl, hpre⟩))
      (fun kg hkg => hgap kg (List.mem_cons_of_mem _ hkg))
      (hdl.imp_right fun h => by rwa [Nat.zero_add])
    rw [chordHist_cons, zRun_append, zRun_pressTicks]
    simp only [run_append]
    exact ⟨hf3.toReady, hb3, Or.inl (hf3.ss (by simp))⟩

/-- the state a chord really starts from: after the punctuation erasure of a smart space, if the
first key triggers it -/
def afterPunct (cfg : Cfg) (s : Zchd) (first : Nat) : Zchd :=
  if punctFires cfg s first then { punctState s with smartSpaceState := .inactive } else s

def bufAfterPunct (cfg : Cfg) (s : Zchd) (first : Nat) (b : Buf) : Buf :=
  if punctFires cfg s first then { b with rtext := b.rtext.tail } else b

theorem zRun_first_punct (cfg : Cfg) (s : Zchd) (k : Nat) (rest : List ZEv)
    (hne : ssmIsEmpty (levelSsm cfg.dict []) = false) (hk : isZippyIgnored k = false) :
    zRun cfg s (.press k :: rest) =
      ((zRun cfg (afterPunct cfg s k) (.press k :: rest)).1,
       (if punctFires cfg s k then bspc else []) ++ (zRun cfg (afterPunct cfg s k) (.press k :: rest)).2) := by
  unfold afterPunct
  cases h : punctFires cfg s k
  · simp
  · simp only [if_true, zRun, zStep]
    rw [press_punct cfg s k hne hk h]
    simp [List.append_assoc]

theorem afterPunct_flags (cfg : Cfg) (s : Zchd) (k : Nat) : flagsOf (afterPunct cfg s k) = flagsOf s := by
  unfold afterPunct; split <;> rfl

theorem afterPunct_prio (cfg : Cfg) (s : Zchd) (k : Nat) : (afterPunct cfg s k).prioritized = s.prioritized := by
  unfold afterPunct; split <;> rfl

theorem Idle.punct {s : Zchd} (h : Idle s) (cfg : Cfg) (k : Nat) :
    Idle (afterPunct cfg s k) ∧
    idlePhase (afterPunct cfg s k) =
      { idlePhase s with pc0 := if punctFires cfg s k = true ∧ s.prioritized.isSome = true
                                then s.priorActivationOutputCount - 1 else s.priorActivationOutputCount } := by
  unfold afterPunct
  cases hf : punctFires cfg s k
  · exact ⟨h, by simp [idlePhase]⟩
  · refine ⟨⟨h.en, h.keys, by simp [punctState, h.keys, h.ctd], h.tud, h.caps⟩, ?_⟩
    simp [idlePhase, punctState]

theorem afterPunct_ss (cfg : Cfg) (s : Zchd) (k : Nat) :
    (afterPunct cfg s k).smartSpaceState = .inactive ∨
      cfg.punctuation.contains (puncOf (afterPunct cfg s k) k) = false := by
  unfold afterPunct
  cases hf : punctFires cfg s k
  · exact (punctFires_false_iff cfg s k).mp hf
  · exact Or.inl rfl

/-- a punctuation key pressed first after a smart space erases that space (one backspace) and the
chord then runs as usual -/
theorem idle_run_any (cfg : Cfg) (s0 s : Zchd) (b : Buf) (front : List (Nat × Nat)) (last : Nat)
    (out : List ZchOut) (ctx : Path) (isPrio : Bool)
    (hidle : Idle s) (hfl : flagsOf s = flagsOf s0) (hmods : ModsAgree s b)
    (hne : ssmIsEmpty (levelSsm cfg.dict []) = false)
    (hign : ∀ k ∈ front.map (·.1) ++ [last], isZippyIgnored k = false)
    (hlk : Lookups cfg s.prioritized [] (front.map (·.1)) last ctx out isPrio)
    (hout : out.isEmpty = false) (hko : ∀ o ∈ out, CharKey o.osc)
    (hgap : ∀ kg ∈ front, kg.2 ≤ TICKS_UNTIL_FORCE_STATE_RESET)
    (hdl : cfg.ticksChordDeadline = 0 ∨ (front.map (·.2)).sum < cfg.ticksChordDeadline) :
    let first := (front.map (·.1) ++ [last]).headD 0
    let r := zRun cfg s (chordHist front ++ [.press last])
    RunResult cfg (idlePhase (afterPunct cfg s first)) s0 (bufAfterPunct cfg s first b) front.length
      (front.map (·.1) ++ [last]) out ctx isPrio r.1 (b.run r.2) := by
  intro first r
  have hfirst : isZippyIgnored first = false := hign first (by
    cases front with
    | nil => exact List.mem_singleton_self _
    | cons _ _ => exact List.mem_cons_self ..)
  have hrun : r = ((zRun cfg (afterPunct cfg s first) (chordHist front ++ [.press last])).1,
      (if punctFires cfg s first then bspc else []) ++
        (zRun cfg (afterPunct cfg s first) (chordHist front ++ [.press last])).2) := by
    simp only [r]
    rw [chordHist_head front last]
    exact zRun_first_punct cfg s first _ hne hfirst
  have hbuf : b.run (if punctFires cfg s first then bspc else []) = bufAfterPunct cfg s first b := by
    unfold bufAfterPunct
    split
    · exact run_bspc b
    · rfl
  have hmods' : ModsAgree (afterPunct cfg s first) (bufAfterPunct cfg s first b) := by
    rw [modsAgree_iff, afterPunct_flags, ← (modsAgree_iff s b).mp hmods]
    unfold bufAfterPunct; split <;> rfl
  rw [hrun, run_append, hbuf]
  have hlk' : Lookups cfg (afterPunct cfg s first).prioritized [] (front.map (·.1)) last ctx out isPrio :=
    (afterPunct_prio cfg s first).symm ▸ hlk
  obtain ⟨hr, hb', hss⟩ := idle_front cfg _ (bufAfterPunct cfg s first b) front last (hidle.punct cfg first).1 hne
    (fun k hk => hign k (List.mem_append_left _ hk)) (afterPunct_ss cfg s first) hlk'.part hgap hdl
  rw [zRun_then_press, run_append]
  have := (hr.finish hb' hmods' hne last (hign last List.mem_concat_self) ctx isPrio
    hlk'.full hss hout hko).base_state ((afterPunct_flags cfg s first).trans hfl)
  rwa [List.length_map] at this

/-- the characters of an expansion, in typing order -/
def expansionChars (sh : Bool) : List ZchOut → List Ch
  | [] => []
  | o :: os => mkCh o.osc (o.shift || sh) o.ag :: expansionChars false os

theorem typeOuts_noBackspace (rt : List Ch) (sh : Bool) (out : List ZchOut)
    (h : ∀ o ∈ out, o.osc ≠ KEY_BACKSPACE) :
    typeOuts rt sh out = (expansionChars sh out).reverse ++ rt := by
  induction out generalizing rt sh with
  | nil => simp [typeOuts, expansionChars]
  | cons o os ih =>
    have ho : o.osc ≠ KEY_BACKSPACE := h o (List.mem_cons_self ..)
    rw [typeOuts, ih _ _ (fun o' h' => h o' (List.mem_cons_of_mem _ h'))]
    simp [expansionChars, stroke, ho]

/-- every output writes exactly one erasable character -/
def PlainOuts (outs : List ZchOut) : Prop := ∀ o ∈ outs, o.osc ≠ KEY_BACKSPACE ∧ o.noErase = false

theorem PlainOuts.noBs {outs : List ZchOut} (h : PlainOuts outs) : ∀ o ∈ outs, o.osc ≠ KEY_BACKSPACE :=
  fun o ho => (h o ho).1

theorem displayLen_plain (outs : List ZchOut) (h : PlainOuts outs) : displayLen outs = outs.length := by
  induction outs with
  | nil => rfl
  | cons o os ih =>
    have ho := h o (List.mem_cons_self ..)
    rw [← List.singleton_append, displayLen_append, ih (fun o' h' => h o' (List.mem_cons_of_mem _ h'))]
    simp only [displayLen, List.foldl_cons, List.foldl_nil, ZchOut.charCount, ho.1, ho.2, if_false,
      List.length_append, List.length_cons, List.length_nil, Bool.false_eq_true]
    omega

theorem expansionChars_length (sh : Bool) (outs : List ZchOut) : (expansionChars sh outs).length = outs.length := by
  induction outs generalizing sh with
  | nil => rfl
  | cons o os ih => simp [expansionChars, ih]

theorem expansionChars_append (a b : List ZchOut) :
    expansionChars false (a ++ b) = expansionChars false a ++ expansionChars false b := by
  induction a with
  | nil => rfl
  | cons o os ih => simp [expansionChars, ih]

theorem commonPrefixLen_le (p c : List ZchOut) :
    commonPrefixLen p c ≤ p.length ∧ commonPrefixLen p c ≤ c.length := by
  induction p generalizing c with
  | nil => simp [commonPrefixLen]
  | cons a as ih =>
    cases c with
    | nil => simp [commonPrefixLen]
    | cons b bs =>
      unfold commonPrefixLen
      split
      · simp
      · have := ih bs
        simp only [List.length_cons]; omega

theorem commonPrefixLen_take (p c : List ZchOut) :
    p.take (commonPrefixLen p c) = c.take (commonPrefixLen p c) := by
  induction p generalizing c with
  | nil => simp [commonPrefixLen]
  | cons a as ih =>
    cases c with
    | nil => simp [commonPrefixLen]
    | cons b bs =>
      unfold commonPrefixLen
      split
      · simp
      · rename_i h
        have hab : a = b := by
          simp only [Bool.or_eq_true, decide_eq_true_eq, not_or, ne_eq, Decidable.not_not] at h
          exact h.2
        simp [List.take_succ_cons, hab, ih bs]

theorem typeOuts_append_false (rt : List Ch) (a b : List ZchOut) :
    typeOuts rt false (a ++ b) = typeOuts (typeOuts rt false a) false b := by
  induction a generalizing rt with
  | nil => rfl
  | cons o os ih => simp only [List.cons_append, typeOuts, ih]

theorem typeOuts_append (rt : List Ch) (sh : Bool) (a b : List ZchOut) :
    typeOuts rt sh (a ++ b) = typeOuts (typeOuts rt sh a) (sh && a.isEmpty) b := by
  cases a with
  | nil => simp [typeOuts]
  | cons o os =>
    simp only [List.cons_append, typeOuts, List.isEmpty_cons, Bool.and_false, typeOuts_append_false]

theorem typeOuts_plain_length (rt : List Ch) (sh : Bool) (outs : List ZchOut) (h : PlainOuts outs) :
    (typeOuts rt sh outs).length = outs.length + rt.length := by
  rw [typeOuts_noBackspace _ _ _ h.noBs]
  simp [expansionChars_length]

theorem PlainOuts.take {outs : List ZchOut} (h : PlainOuts outs) (n : Nat) : PlainOuts (outs.take n) :=
  fun o ho => h o (List.mem_of_mem_take ho)

theorem PlainOuts.drop {outs : List ZchOut} (h : PlainOuts outs) (n : Nat) : PlainOuts (outs.drop n) :=
  fun o ho => h o (List.mem_of_mem_drop ho)

theorem expansionChars_take (sh : Bool) (outs : List ZchOut) (n : Nat) :
    (expansionChars sh outs).take n = expansionChars sh (outs.take n) := by
  induction outs generalizing sh n with
  | nil => simp [expansionChars]
  | cons o os ih => cases n <;> simp [expansionChars, ih]

theorem typeOuts_plain_drop (rt : List Ch) (sh : Bool) (outs : List ZchOut) (h : PlainOuts outs) (n : Nat) :
    (typeOuts rt sh outs).drop (outs.length - n) = typeOuts rt sh (outs.take n) := by
  rw [typeOuts_noBackspace _ _ _ h.noBs, typeOuts_noBackspace _ _ _ (h.take n).noBs, ← expansionChars_take,
    List.reverse_take, expansionChars_length, List.drop_append_of_le_length (by simp [expansionChars_length])]

/-- The text algebra of prefix re-use: on screen is `base ++ out1` (and the smart space if `sm`),
then `n` more characters `L`; erasing all but the first `cpl` characters of `out1` and typing the rest
of `out2` leaves `base ++ out2`. -/
theorem reuse_prefix_text (base : List Ch) (sh : Bool) (out1 out2 : List ZchOut) (hp1 : PlainOuts out1)
    (sm : Bool) (L : List Ch) :
    typeOuts
      ((L ++ (if sm then stroke (typeOuts base sh out1) KEY_SPACE false false else typeOuts base sh out1)).drop
        (L.length + ((if sm then 1 else 0) + (out1.length - commonPrefixLen out1 out2))))
      (sh && decide (commonPrefixLen out1 out2 = 0)) (out2.drop (commonPrefixLen out1 out2)) =
    typeOuts base sh out2 := by
  have hn := commonPrefixLen_le out1 out2
  rw [List.drop_append, List.drop_eq_nil_of_le (by omega), Nat.add_sub_cancel_left, List.nil_append]
  have hdrop : List.drop ((if sm = true then 1 else 0) + (out1.length - commonPrefixLen out1 out2))
      (if sm then stroke (typeOuts base sh out1) KEY_SPACE false false else typeOuts base sh out1) =
      typeOuts base sh (out1.take (commonPrefixLen out1 out2)) := by
    rw [← typeOuts_plain_drop base _ out1 hp1]
    cases sm
    · simp
    · simp only [if_true, stroke, KEY_SPACE, KEY_BACKSPACE]
      rw [Nat.add_comm 1]
      simp [List.drop_succ_cons]
  rw [hdrop]
  -- the user's shift applies to what is typed now only if nothing of the expansion is on screen
  have hemp : (decide (commonPrefixLen out1 out2 = 0)) = (out1.take (commonPrefixLen out1 out2)).isEmpty := by
    by_cases h0 : commonPrefixLen out1 out2 = 0
    · simp [h0]
    · cases out1 with
      | nil => simp at hn; omega
      | cons o os =>
        obtain ⟨m, hm'⟩ := Nat.exists_eq_succ_of_ne_zero h0
        simp [hm']
  rw [hemp, ← typeOuts_append, commonPrefixLen_take, List.take_append_drop]

theorem Fresh.idle {s : Zchd} (h : Fresh s) : Idle s := ⟨h.en, h.keys, h.ctd, h.tud, h.caps⟩

theorem phaseCpl_none {ph : Phase} (h : ph.prior0 = none) (out : List ZchOut) (isPrio : Bool) :
    phaseCpl ph out isPrio = 0 := by
  unfold phaseCpl; rw [h]; split <;> rfl

theorem phaseCpl_prior {ph : Phase} {p : List ZchOut} (h : ph.prior0 = some p) {isPrio : Bool}
    (hs : isPrio = true ∨ ph.sh0 ≠ 0) (out : List ZchOut) : phaseCpl ph out isPrio = commonPrefixLen p out := by
  unfold phaseCpl
  rw [h, if_neg (fun hc => hs.elim (fun h1 => by rw [h1] at hc; cases hc.1) (fun h2 => h2 hc.2))]

/-- The backspaces of a completing press when `n1` characters of an earlier expansion and `k` more
(its smart space) are on screen and counted, `cpl` of the `n1` are re-used, and `n` keys were typed on
the way. -/
theorem phaseBs_of_count {ph : Phase} {isPrio : Bool} {n n1 k cpl : Nat} {out : List ZchOut}
    (hcount : ph.ctd0 + (if isPrio then ph.pc0 else 0) = (n1 : Int) + k)
    (hcpl : phaseCpl ph out isPrio = cpl) (hle : cpl ≤ n1) :
    phaseBs ph n out isPrio = n + (k + (n1 - cpl)) := by
  have : ph.ctd0 + n + (if isPrio then ph.pc0 else 0) - cpl = ((n + (k + (n1 - cpl)) : Nat) : Int) := by
    rw [Int.add_right_comm, hcount]
    simp only [Int.natCast_add, Int.natCast_sub hle, Int.sub_eq_add_neg]
    ac_rfl
  unfold phaseBs
  rw [hcpl, this]
  rfl

theorem basic_run (cfg : Cfg) (K : Key) (out : List ZchOut) (s : Zchd) (b : Buf)
    (front : List (Nat × Nat)) (last : Nat)
    (hent : BasicEntry cfg.dict K out)
    (hkeys : ∀ x ∈ K, isZippyIgnored x = false)
    (hout : out.isEmpty = false) (hko : ∀ o ∈ out, CharKey o.osc)
    (hperm : (front.map (·.1) ++ [last]).Perm K)
    (hgap : ∀ kg ∈ front, kg.2 ≤ TICKS_UNTIL_FORCE_STATE_RESET)
    (hdl : cfg.ticksChordDeadline = 0 ∨ (front.map (·.2)).sum < cfg.ticksChordDeadline)
    (hfresh : Fresh s) (hmods : ModsAgree s b) :
    let first := (front.map (·.1) ++ [last]).headD 0
    let r := zRun cfg s (chordHist front ++ [.press last])
    (b.run r.2).rtext =
      withSmartSpace cfg out (typeOuts (bufAfterPunct cfg s first b).rtext (s.lsft || s.rsft) out) ∧
    ModsAgree s (b.run r.2) ∧ r.1.lastPress = .isChord ∧ r.1.inputKeys = K ∧
    Forming cfg (postPhase (idlePhase (afterPunct cfg s first)) cfg (front.map (·.1) ++ [last]) out [])
      s r.1 [] 0 0 ∧
    r.1.smartSpaceState = (if wantsSmartSpace cfg out = true ∧ cfg.smartSpace = .full then .sent else .inactive) := by
  intro first r
  have hall := (perm_presses hent.sorted hperm).1
  obtain ⟨⟨L, hL, ht⟩, hm, hc, hh, hp, hsss⟩ := idle_run_any cfg s s b front last out [] false hfresh.idle rfl
    hmods hent.root_nonempty (fun k hk => hkeys k ((hall k).mp hk)) (hfresh.prio ▸ hent.lookups hperm)
    hout hko hgap hdl
  -- nothing remembered: no prefix is re-used, exactly the typed keys are erased
  have hph := (hfresh.idle.punct cfg first).2
  have hcpl : phaseCpl (idlePhase (afterPunct cfg s first)) out false = 0 :=
    phaseCpl_none (by rw [hph]; exact hfresh.prior) out false
  have hbs : phaseBs (idlePhase (afterPunct cfg s first)) front.length out false = front.length := by
    unfold phaseBs
    rw [hcpl, hph]
    simp [idlePhase]
  refine ⟨?_, hm, hc, hh.trans (chordKey_of_mem hent.sorted hall), hp, hsss⟩
  rw [ht, hcpl, hbs, ← hL, List.drop_left]
  simp only [List.drop_zero, decide_true, Bool.and_true]
  rfl

/-- The chord `K ↦ out` has just been activated in this hold (possibly superseding shorter ones) and
is still held: the screen shows `base ++ out (++ smart space)`, and the counters say so. -/
def Eager (cfg : Cfg) (s0 : Zchd) (base : Buf) (K : Key) (out : List ZchOut) (s : Zchd) (b : Buf) : Prop :=
  ∃ ph : Phase, Forming cfg ph s0 s [] 0 0 ∧ (∀ x, x ∈ ph.pre ↔ x ∈ K) ∧ ph.prior0 = some out ∧
    ph.sh0 ≠ 0 ∧ ph.prio0 = none ∧ ph.ctd0 = out.length + (if wantsSmartSpace cfg out then 1 else 0) ∧
    b.rtext = withSmartSpace cfg out (typeOuts base.rtext (s0.lsft || s0.rsft) out) ∧
    ModsAgree s0 b ∧ PlainOuts out

theorem Eager.text {cfg : Cfg} {s0 s : Zchd} {base b : Buf} {K : Key} {out : List ZchOut}
    (h : Eager cfg s0 base K out s b) :
    b.rtext = withSmartSpace cfg out (typeOuts base.rtext (s0.lsft || s0.rsft) out) ∧ ModsAgree s0 b :=
  let ⟨_, _, _, _, _, _, _, ht, hm, _⟩ := h; ⟨ht, hm⟩

/-- One level of a tower of chords: the chord, the ticks before its first new key, the new keys. -/
structure Step where
  K : Key
  out : List ZchOut
  g : Nat
  front : List (Nat × Nat)
  last : Nat

/-- what `extends_step` needs of a level above `K1` -/
structure StepOK (cfg : Cfg) (s0 : Zchd) (K1 : Key) (st : Step) : Prop where
  ext : ExtEntry cfg.dict K1 st.K st.out
  nf : hasFollowups cfg.dict [st.K] = false
  sub : ∀ x ∈ K1, x ∈ st.K
  keys : ∀ x ∈ st.K, isZippyIgnored x = false
  out : st.out.isEmpty = false
  ko : ∀ o ∈ st.out, CharKey o.osc
  plain : PlainOuts st.out
  perm : (st.front.map (·.1) ++ [st.last]).Perm (st.K.filter (fun x => !K1.contains x))
  punc : ∀ x ∈ st.K, cfg.punctuation.contains (puncOf s0 x) = false
  gap : ∀ kg ∈ st.front, kg.2 ≤ TICKS_UNTIL_FORCE_STATE_RESET
  g : st.g ≤ TICKS_UNTIL_FORCE_STATE_RESET
  dl : cfg.ticksChordDeadline = 0 ∨ st.g + (st.front.map (·.2)).sum < cfg.ticksChordDeadline

theorem extends_step (cfg : Cfg) (s0 : Zchd) (base : Buf) (K1 : Key) (out1 : List ZchOut) (s : Zchd) (b : Buf)
    (st : Step) (he : Eager cfg s0 base K1 out1 s b) (hne : ssmIsEmpty (levelSsm cfg.dict []) = false)
    (hst : StepOK cfg s0 K1 st) :
    let r := zRun cfg s (List.replicate st.g .tick ++ (chordHist st.front ++ [.press st.last]))
    Eager cfg s0 base st.K st.out r.1 (b.run r.2) := by
  intro r
  obtain ⟨ph, hf, hpre, hprior, hsh, hprio, hctd, htext, hmods, hp1⟩ := he
  obtain ⟨hlk, hall⟩ := hst.ext.lookups hpre hst.sub hst.perm
  have hnew : ∀ k ∈ st.front.map (·.1) ++ [st.last], k ∈ st.K := fun k hk =>
    (hall k).mp (List.mem_append_right _ hk)
  have hmemf : ∀ kg ∈ st.front, kg.1 ∈ st.K := fun kg hkg =>
    hnew _ (List.mem_append_left _ (List.mem_map.mpr ⟨kg, hkg, rfl⟩))
  simp only [r]
  rw [zRun_ticks_append, zRun_then_press, run_append]
  obtain ⟨e', c', hf3, hb3⟩ := forming_rest (b0 := b) hne st.front (ticksN s st.g) b [] (0 + st.g) (0 + st.g)
    (hf.ticks st.g (by have := hst.g; omega) (hst.dl.imp_right (by omega))) ⟨⟨[], rfl, rfl⟩, rfl, rfl, rfl⟩
    (fun kg hkg => hst.keys _ (hmemf kg hkg)) (fun _ => Or.inr (fun kg hkg => hst.punc _ (hmemf kg hkg)))
    (hprio ▸ hlk.part) hst.gap (by simpa using hst.dl)
  obtain ⟨⟨L, hL, ht⟩, hm, _, _, hpost, _⟩ := hf3.toReady.finish hb3 hmods hne st.last (hst.keys _ (hnew _ List.mem_concat_self))
    [] false (hprio ▸ hlk.full) (Or.inr (hf3.punc_eq st.last ▸ hst.punc _ (hnew _ List.mem_concat_self))) hst.out hst.ko
  rw [List.nil_append, List.length_map] at hL ht
  have hfullK : chordKey (ph.pre ++ (st.front.map (·.1) ++ [st.last])) = st.K :=
    chordKey_of_mem hst.ext.sorted hall
  have hcpl : phaseCpl ph st.out false = commonPrefixLen out1 st.out := phaseCpl_prior hprior (Or.inr hsh) st.out
  refine ⟨postPhase ph cfg (ph.pre ++ (st.front.map (·.1) ++ [st.last])) st.out [], hpost, hall, rfl, ?_, ?_, ?_, ?_,
    hm, hst.plain⟩
  · simp [postPhase]
  · simp only [postPhase, List.nil_append, hfullK, hst.nf]; rfl
  · simp only [postPhase, displayLen_plain st.out hst.plain]
  · -- what is on screen: the characters just typed and part of the old expansion go, the rest of the new one comes
    rw [ht, phaseBs_of_count (n1 := out1.length) (k := if wantsSmartSpace cfg out1 then 1 else 0)
      (by rw [hctd]; cases wantsSmartSpace cfg out1 <;> rfl) hcpl (commonPrefixLen_le out1 st.out).1, hcpl, ← hL, htext]
    exact congrArg _ (reuse_prefix_text base.rtext _ out1 st.out hp1 (wantsSmartSpace cfg out1) L)

theorem basic_eager (cfg : Cfg) (K : Key) (out : List ZchOut) (s : Zchd) (b : Buf)
    (front : List (Nat × Nat)) (last : Nat)
    (hent : BasicEntry cfg.dict K out) (hnf : hasFollowups cfg.dict [K] = false)
    (hkeys : ∀ x ∈ K, isZippyIgnored x = false)
    (hout : out.isEmpty = false) (hko : ∀ o ∈ out, CharKey o.osc) (hp : PlainOuts out)
    (hperm : (front.map (·.1) ++ [last]).Perm K)
    (hgap : ∀ kg ∈ front, kg.2 ≤ TICKS_UNTIL_FORCE_STATE_RESET)
    (hdl : cfg.ticksChordDeadline = 0 ∨ (front.map (·.2)).sum < cfg.ticksChordDeadline)
    (hfresh : Fresh s) (hmods : ModsAgree s b) :
    let r := zRun cfg s (chordHist front ++ [.press last])
    Eager cfg s (bufAfterPunct cfg s ((front.map (·.1) ++ [last]).headD 0) b) K out r.1 (b.run r.2) := by
  intro r
  obtain ⟨ht, hm, _, _, hpost, _⟩ := basic_run cfg K out s b front last hent hkeys hout hko hperm hgap hdl hfresh hmods
  have hall := (perm_presses hent.sorted hperm).1
  refine ⟨_, hpost, hall, rfl, ?_, ?_, ?_, ht, hm, hp⟩
  · simp [postPhase]
  · simp only [postPhase, chordKey_of_mem hent.sorted hall, List.nil_append, hnf]; rfl
  · simp only [postPhase, displayLen_plain out hp]

def TowerOK (cfg : Cfg) (s0 : Zchd) : Key → List Step → Prop
  | _, [] => True
  | K1, st :: r => StepOK cfg s0 K1 st ∧ TowerOK cfg s0 st.K r

def towerHist : List Step → List ZEv
  | [] => []
  | st :: r => (List.replicate st.g .tick ++ (chordHist st.front ++ [.press st.last])) ++ towerHist r

def towerTop (K1 : Key) (out1 : List ZchOut) : List Step → Key × List ZchOut
  | [] => (K1, out1)
  | st :: r => towerTop st.K st.out r

/-- Any number of levels, by induction. -/
theorem tower_run (cfg : Cfg) (s0 : Zchd) (base : Buf) (steps : List Step) :
    ∀ (K1 : Key) (out1 : List ZchOut) (s : Zchd) (b : Buf),
      ssmIsEmpty (levelSsm cfg.dict []) = false →
      Eager cfg s0 base K1 out1 s b → TowerOK cfg s0 K1 steps →
      Eager cfg s0 base (towerTop K1 out1 steps).1 (towerTop K1 out1 steps).2
        (zRun cfg s (towerHist steps)).1 (b.run (zRun cfg s (towerHist steps)).2) := by
  induction steps with
  | nil => intro K1 out1 s b _ he _; simpa [towerHist, towerTop, zRun, run_nil] using he
  | cons st r ih =>
    intro K1 out1 s b hne he hok
    obtain ⟨h1, hrest⟩ := hok
    have hstep := extends_step cfg s0 base K1 out1 s b st he hne h1
    have := ih st.K st.out _ _ hne hstep hrest
    simp only [towerHist, towerTop]
    rw [zRun_append, run_append]
    exact this

end KVerif.Zippy
