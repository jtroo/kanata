/-
C08 helper lemmas about the macro parser model (Model/MacroExpand.lean) and the spelling
(Spec/Macro.lean):
  * `parseAll_spells`   the remainder-passing, fuelled parser model on `flattenAll body` returns
                        exactly `spellAll body` (and never runs out of the fuel `itemsFuel` grants);
  * `parseAll_sound`    conversely, whatever the parser model accepts is `flattenAll` of a body;
  * `spell_induction`   how a spelling is built; its three instances:
  * `spell_steps`       a spelling consists of presses, releases, delays and custom items only;
  * `closedB_spellAll`  every press is followed by a release of the same key;
  * `walk_spellAll`     per key, presses and releases form a well-nested (Dyck) word.
-/
import KVerif.Spec.Macro
namespace KVerif.Macro
open KVerif.L

theorem ok_of_guard {ε α : Type} {c : Prop} [Decidable c] {e : ε} {x : Except ε α} {v : α}
    (h : (if c then .error e else x) = .ok v) : ¬c ∧ x = .ok v := by
  split at h
  · cases h
  · exact ⟨‹_›, h⟩

/-! ### the parser model equals the spelling -/

theorem itemsFuel_pos (l : List Item) : 1 ≤ itemsFuel l := by
  cases l <;> simp only [itemsFuel] <;> omega

theorem itemFuel_pos (i : Item) : 1 ≤ itemFuel i := by
  cases i <;> simp only [itemFuel] <;> omega

theorem itemsFuel_append (a b : List Item) : itemsFuel (a ++ b) + 1 = itemsFuel a + itemsFuel b := by
  induction a with
  | nil => simp only [List.nil_append, itemsFuel]; omega
  | cons hd tl ih => simp only [List.cons_append, itemsFuel]; omega

theorem itemsFuel_of_ne_nil {l : List Item} (h : l ≠ []) : 3 ≤ itemsFuel l := by
  cases l with
  | nil => exact absurd rfl h
  | cons hd tl =>
    have := itemFuel_pos hd
    have := itemsFuel_pos tl
    simp only [itemsFuel]; omega

theorem flatten_ne_nil (b : Body) : flatten b ≠ [] := by
  cases b with
  | held viaVar _ _ _ => cases viaVar <;> simp [flatten]
  | _ => simp [flatten]

theorem flattenAll_isEmpty (bs : List Body) (h : bs ≠ []) : (flattenAll bs).isEmpty = false := by
  cases bs with
  | nil => exact absurd rfl h
  | cons b rest => simpa [flattenAll] using fun hb => absurd hb (flatten_ne_nil b)

theorem parseAll_of_item {f : Nat} {items rem : List Item} {evs rest : List SeqEv} (hne : items ≠ [])
    (h1 : parseItem f items = .ok (evs, rem)) (h2 : parseAll f rem = .ok rest) :
    parseAll (f + 1) items = .ok (evs ++ rest) := by
  cases items with
  | nil => exact absurd rfl hne
  | cons hd tl => simp only [parseAll, h1, h2]

/-- A flattened item is one or two list elements, so it costs 3 more fuel than the list inside it. -/
theorem parseItem_flatten {f : Nat}
    (ih : ∀ bs, allOk bs = true → itemsFuel (flattenAll bs) ≤ f → parseAll f (flattenAll bs) = .ok (spellAll bs))
    (b : Body) (hb : b.ok = true) (hf : itemsFuel (flatten b) ≤ f + 3) (rest : List Item) :
    parseItem (f + 1) (flatten b ++ rest) = .ok (spell b, rest) := by
  cases b with
  | delay n => exact if_pos (by simpa [Body.ok] using hb)
  | key kc => rfl
  | chord kcs => rfl
  | custom id => rfl
  | actList a raw => cases a <;> first | rfl | cases hb
  | group items =>
    have hi := ih items hb (by simp only [flatten, itemsFuel, itemFuel] at hf; omega)
    simp only [flatten, List.cons_append, List.nil_append, parseItem, hi, spell]
  | held viaVar act mods items =>
    have hb' : mods.isEmpty = false ∧ allOk items = true := by simpa [Body.ok] using hb
    have hi := ih items hb'.2 (by cases viaVar <;> simp only [flatten, itemsFuel, itemFuel] at hf <;> omega)
    cases viaVar <;>
      simp only [flatten, List.cons_append, List.nil_append, parseItem, hb'.1, hi, spell, Bool.false_eq_true, if_false]

/-- with the fuel `itemsFuel` grants, the parser model returns the spelling -/
theorem parseAll_spells : ∀ (fuel : Nat) (bs : List Body), allOk bs = true →
    itemsFuel (flattenAll bs) ≤ fuel → parseAll fuel (flattenAll bs) = .ok (spellAll bs) := by
  intro fuel
  induction fuel using Nat.strongRecOn with
  | _ fuel ih =>
    intro bs hok hf
    cases bs with
    | nil =>
      cases fuel with
      | zero => exact absurd (Nat.le_trans (itemsFuel_pos _) hf) (Nat.not_succ_le_zero _)
      | succ f => rfl
    | cons b rest =>
      simp only [allOk, Bool.and_eq_true] at hok
      simp only [flattenAll, spellAll] at hf ⊢
      have h1 := itemsFuel_append (flatten b) (flattenAll rest)
      have h2 := itemsFuel_of_ne_nil (flatten_ne_nil b)
      have h3 := itemsFuel_pos (flattenAll rest)
      have key : 2 ≤ fuel ∧ itemsFuel (flatten b) ≤ fuel + 1 ∧ itemsFuel (flattenAll rest) + 1 ≤ fuel := by omega
      obtain ⟨f, rfl⟩ := Nat.exists_eq_add_of_le' key.1
      exact parseAll_of_item (by simp [flatten_ne_nil])
        (parseItem_flatten (ih f (Nat.lt_add_of_pos_right (by decide))) b hok.1 key.2.1 _)
        (ih (f + 1) (Nat.lt_succ_self _) rest hok.2 (Nat.le_of_succ_le_succ key.2.2))

theorem actionEvents_ok {a : PA} {tl rem : List Item} {evs : List SeqEv}
    (h : actionEvents a tl = .ok (evs, rem)) : rem = tl ∧ a ≠ .other ∧ a.spell = some evs := by
  cases a <;> simp only [actionEvents, Except.ok.injEq, Prod.mk.injEq, reduceCtorEq] at h <;>
    simp [PA.spell, h]

theorem parseItem_sound {f : Nat}
    (ih : ∀ items evs, parseAll f items = .ok evs →
      ∃ bs, items = flattenAll bs ∧ allOk bs = true ∧ evs = spellAll bs)
    {items rem : List Item} {evs : List SeqEv} (h : parseItem (f + 1) items = .ok (evs, rem)) :
    ∃ b : Body, items = flatten b ++ rem ∧ b.ok = true ∧ evs = spell b := by
  cases items with
  | nil => simp [parseItem] at h
  | cons hd tl =>
    cases hd with
    | num n =>
      simp only [parseItem] at h
      split at h
      · rename_i hn
        cases h
        exact ⟨.delay n, rfl, by simpa [Body.ok] using hn, rfl⟩
      · cases h
    | act a =>
      obtain ⟨rfl, hne, hs⟩ := actionEvents_ok (by simpa only [parseItem] using h)
      cases a with
      | key kc => cases hs; exact ⟨.key kc, rfl, rfl, rfl⟩
      | chord kcs => cases hs; exact ⟨.chord kcs, rfl, rfl, rfl⟩
      | custom id => cases hs; exact ⟨.custom id, rfl, rfl, rfl⟩
      | other => exact absurd rfl hne
    | list a sub =>
      cases a with
      | some a =>
        obtain ⟨rfl, hne, hs⟩ := actionEvents_ok (by simpa only [parseItem] using h)
        exact ⟨.actList a sub, rfl, by simpa [Body.ok] using hne, by rw [spell, hs]; rfl⟩
      | none =>
        simp only [parseItem] at h
        split at h
        · cases h
        · rename_i subEvs hsub
          cases h
          obtain ⟨bs, rfl, hs2, rfl⟩ := ih sub _ hsub
          exact ⟨.group bs, rfl, hs2, rfl⟩
    | mods kcs =>
      replace h := ok_of_guard h
      obtain ⟨hne, h⟩ := h
      split at h
      · rename_i act sub tl'
        split at h
        · cases h
        · rename_i subEvs hsub
          cases h
          obtain ⟨bs, rfl, hs2, rfl⟩ := ih sub _ hsub
          exact ⟨.held false act kcs bs, rfl, by simpa [Body.ok, hs2] using hne, rfl⟩
      · cases h
    | modsList kcs sub =>
      replace h := ok_of_guard h
      obtain ⟨hne, h⟩ := h
      split at h
      · cases h
      · rename_i subEvs hsub
        cases h
        obtain ⟨bs, rfl, hs2, rfl⟩ := ih sub _ hsub
        exact ⟨.held true none kcs bs, rfl, by simpa [Body.ok, hs2] using hne, rfl⟩
    | bad => simp [parseItem] at h

/-- whatever the parser model accepts, with any fuel, is the flattening of a well-formed body, and
the result is its spelling -/
theorem parseAll_sound : ∀ (fuel : Nat) (items : List Item) (evs : List SeqEv),
    parseAll fuel items = .ok evs →
    ∃ bs, items = flattenAll bs ∧ allOk bs = true ∧ evs = spellAll bs := by
  intro fuel
  induction fuel using Nat.strongRecOn with
  | _ fuel ih =>
    intro items evs h
    cases fuel with
    | zero => simp [parseAll] at h
    | succ f =>
      cases items with
      | nil =>
        cases h
        exact ⟨[], rfl, rfl, rfl⟩
      | cons hd tl =>
        simp only [parseAll] at h
        split at h
        · cases h
        · rename_i e1 rem hpi
          split at h
          · cases h
          · rename_i restEvs hrest
            cases h
            obtain ⟨bsr, rfl, hr2, rfl⟩ := ih f (by omega) rem restEvs hrest
            cases f with
            | zero => simp [parseItem] at hpi
            | succ g =>
              obtain ⟨b, h1, h2, rfl⟩ := parseItem_sound (ih g (by omega)) hpi
              exact ⟨b :: bsr, by rw [flattenAll, h1], by rw [allOk, h2, hr2]; rfl, by rw [spellAll]⟩

/-- a key, an output chord and a custom item are spelled as `parse_action`'s answer on them is: a
key as itself pressed and released around nothing, a chord as its keys around nothing -/
theorem PA.spell_induction {P : List SeqEv → Prop} (nil : P []) (custom : ∀ id, P [.custom id])
    (wrap : ∀ {ks ks' : List KeyCode} {mid}, ks'.Perm ks → P mid → P (pressAll ks ++ mid ++ releaseAll ks'))
    (a : PA) : P (a.spell.getD []) := by
  cases a with
  | key kc => exact wrap (ks := [kc]) (.refl _) nil
  | chord kcs => simpa [PA.spell] using wrap (List.reverse_perm kcs) nil
  | custom id => exact custom id
  | other => exact nil

mutual
  /-- **every spelling** is built from the empty list, single delays and custom items by
  concatenation and by wrapping a spelling in presses of some keys before it and releases of the
  same keys, in any order, after it; what these five preserve holds of every spelling -/
  theorem spell_induction {P : List SeqEv → Prop} (nil : P []) (delay : ∀ n, P [.delay n])
      (custom : ∀ id, P [.custom id]) (append : ∀ {a b}, P a → P b → P (a ++ b))
      (wrap : ∀ {ks ks' : List KeyCode} {mid}, ks'.Perm ks → P mid → P (pressAll ks ++ mid ++ releaseAll ks')) :
      ∀ b : Body, P (spell b)
    | .delay n => by simpa [spell] using delay n
    | .key kc => PA.spell_induction nil custom wrap (.key kc)
    | .chord kcs => PA.spell_induction nil custom wrap (.chord kcs)
    | .custom id => PA.spell_induction nil custom wrap (.custom id)
    | .actList a _ => by simpa [spell] using PA.spell_induction nil custom wrap a
    | .group items => by simpa [spell] using spellAll_induction nil delay custom append wrap items
    | .held _ _ mods items => by
      simpa [spell] using wrap (.refl mods) (spellAll_induction nil delay custom append wrap items)
  theorem spellAll_induction {P : List SeqEv → Prop} (nil : P []) (delay : ∀ n, P [.delay n])
      (custom : ∀ id, P [.custom id]) (append : ∀ {a b}, P a → P b → P (a ++ b))
      (wrap : ∀ {ks ks' : List KeyCode} {mid}, ks'.Perm ks → P mid → P (pressAll ks ++ mid ++ releaseAll ks')) :
      ∀ bs : List Body, P (spellAll bs)
    | [] => by simpa [spellAll] using nil
    | b :: rest => by
      simpa [spellAll] using append (spell_induction nil delay custom append wrap b)
        (spellAll_induction nil delay custom append wrap rest)
end

/-! ### what a spelling looks like -/

theorem all_pressAll (ks : List KeyCode) : (pressAll ks).all isStep = true := by
  simp [pressAll, List.all_map, isStep]

theorem all_releaseAll (ks : List KeyCode) : (releaseAll ks).all isStep = true := by
  simp [releaseAll, List.all_map, isStep]

theorem steps_append {a b : List SeqEv} (ha : a.all isStep = true) (hb : b.all isStep = true) :
    (a ++ b).all isStep = true := by simp only [List.all_append, ha, hb, Bool.and_self]

theorem steps_wrap {ks ks' : List KeyCode} {mid : List SeqEv} (_ : ks'.Perm ks) (hm : mid.all isStep = true) :
    (pressAll ks ++ mid ++ releaseAll ks').all isStep = true :=
  steps_append (steps_append (all_pressAll ks) hm) (all_releaseAll ks')

theorem spell_steps : ∀ b : Body, (spell b).all isStep = true :=
  spell_induction (P := fun l => l.all isStep = true) rfl (fun _ => rfl) (fun _ => rfl) steps_append steps_wrap

theorem spellAll_steps : ∀ bs : List Body, (spellAll bs).all isStep = true :=
  spellAll_induction (P := fun l => l.all isStep = true) rfl (fun _ => rfl) (fun _ => rfl) steps_append steps_wrap

/-! ### balance: every press is followed by a release of the same key -/

/-- every press in the list is followed, later in the list, by a release of the same key -/
def closedB : List SeqEv → Bool
  | [] => true
  | .press k :: rest => rest.contains (.release k) && closedB rest
  | _ :: rest => closedB rest

theorem closedB_cons {e : SeqEv} {l : List SeqEv} :
    closedB (e :: l) = true ↔ (∀ k, e = .press k → SeqEv.release k ∈ l) ∧ closedB l = true := by
  cases e <;> simp [closedB]

theorem closedB_append {a b : List SeqEv} (ha : closedB a = true) (hb : closedB b = true) :
    closedB (a ++ b) = true := by
  induction a with
  | nil => exact hb
  | cons e a' ih =>
    rw [closedB_cons] at ha
    exact closedB_cons.mpr ⟨fun k hk => List.mem_append_left _ (ha.1 k hk), ih ha.2⟩

theorem closedB_releaseAll (ks : List KeyCode) : closedB (releaseAll ks) = true := by
  induction ks with
  | nil => rfl
  | cons k ks ih => exact ih

theorem closedB_wrap {ks ks' : List KeyCode} {mid : List SeqEv} (hsub : ∀ k ∈ ks, k ∈ ks')
    (hm : closedB mid = true) : closedB (pressAll ks ++ mid ++ releaseAll ks') = true := by
  induction ks with
  | nil => exact closedB_append hm (closedB_releaseAll _)
  | cons k ks ih =>
    refine closedB_cons.mpr ⟨?_, ih fun k' hk' => hsub k' (List.mem_cons_of_mem _ hk')⟩
    rintro _ ⟨rfl⟩
    simp [releaseAll, hsub k]

theorem closedB_spell : ∀ b : Body, closedB (spell b) = true :=
  spell_induction (P := fun l => closedB l = true) rfl (fun _ => rfl) (fun _ => rfl) closedB_append
    fun hp => closedB_wrap fun _ hk => hp.mem_iff.mpr hk

theorem closedB_spellAll : ∀ bs : List Body, closedB (spellAll bs) = true :=
  spellAll_induction (P := fun l => closedB l = true) rfl (fun _ => rfl) (fun _ => rfl) closedB_append
    fun hp => closedB_wrap fun _ hk => hp.mem_iff.mpr hk

/-- the Boolean check says what it should -/
theorem closedB_iff (l : List SeqEv) :
    closedB l = true ↔ ∀ pre k post, l = pre ++ .press k :: post → SeqEv.release k ∈ post := by
  induction l with
  | nil => simp [closedB]
  | cons e rest ih =>
    rw [closedB_cons, ih]
    constructor
    · rintro ⟨h1, h2⟩ pre k post hl
      cases pre with
      | nil => cases hl; exact h1 k rfl
      | cons p pre' => cases hl; exact h2 pre' k post rfl
    · intro h
      exact ⟨fun k hk => h [] k rest (by rw [hk]; rfl), fun pre k post hl => h (e :: pre) k post (by rw [hl]; rfl)⟩

/-! ### nesting: per key, presses and releases form a Dyck word -/

/-- depth of key `k` after the events, starting at depth `d`; `none` if a release of `k` comes
while no press of it is open -/
def walk (k : KeyCode) : Nat → List SeqEv → Option Nat
  | d, [] => some d
  | d, .press k' :: rest => walk k (if k' = k then d + 1 else d) rest
  | d, .release k' :: rest => if k' = k then (if d = 0 then none else walk k (d - 1) rest) else walk k d rest
  | d, _ :: rest => walk k d rest

theorem walk_append (k : KeyCode) (a b : List SeqEv) : ∀ d,
    walk k d (a ++ b) = (walk k d a).bind (fun d' => walk k d' b) := by
  induction a with
  | nil => intro d; rfl
  | cons e a' ih =>
    intro d
    cases e with
    | release k' =>
      simp only [List.cons_append, walk, ih]
      rw [apply_ite (Option.bind · _), apply_ite (Option.bind · _)]; rfl
    | _ => exact ih _

theorem walk_pressAll (k : KeyCode) (ks : List KeyCode) : ∀ d,
    walk k d (pressAll ks) = some (d + ks.count k) := by
  induction ks with
  | nil => intro d; rfl
  | cons k' ks ih =>
    intro d
    show walk k (if k' = k then d + 1 else d) (pressAll ks) = _
    rw [ih]
    by_cases hk : k' = k
    · rw [if_pos hk, hk, List.count_cons_self, Nat.add_right_comm]; rfl
    · rw [if_neg hk, List.count_cons_of_ne hk]

theorem walk_releaseAll (k : KeyCode) (ks : List KeyCode) : ∀ d, ks.count k ≤ d →
    walk k d (releaseAll ks) = some (d - ks.count k) := by
  induction ks with
  | nil => intro d _; rfl
  | cons k' ks ih =>
    intro d hd
    show (if k' = k then (if d = 0 then none else walk k (d - 1) (releaseAll ks))
      else walk k d (releaseAll ks)) = _
    by_cases hk : k' = k
    · subst hk
      rw [List.count_cons_self] at hd ⊢
      rw [if_pos rfl, if_neg (by omega), ih (d - 1) (by omega), Nat.sub_sub, Nat.add_comm]
    · rw [List.count_cons_of_ne hk] at hd ⊢
      rw [if_neg hk, ih d hd]

theorem walk_neutral_append {k : KeyCode} {a b : List SeqEv} (ha : ∀ d, walk k d a = some d)
    (hb : ∀ d, walk k d b = some d) (d : Nat) : walk k d (a ++ b) = some d := by
  rw [walk_append, ha, Option.bind_some, hb]

/-- the presses raise the depth by the multiplicity of `k` among the keys, the releases lower it by
as much -/
theorem walk_neutral_wrap {k : KeyCode} {ks ks' : List KeyCode} {mid : List SeqEv} (hp : ks'.Perm ks)
    (hm : ∀ d, walk k d mid = some d) (d : Nat) :
    walk k d (pressAll ks ++ mid ++ releaseAll ks') = some d := by
  rw [walk_append, walk_append, walk_pressAll, Option.bind_some, hm, Option.bind_some,
    walk_releaseAll k ks' _ (by rw [hp.count_eq]; omega), hp.count_eq, Nat.add_sub_cancel]

/-- a spelling is neutral for every key at every starting depth: it never releases below the
depth it started from and ends where it started -/
theorem walk_spell (k : KeyCode) : ∀ (b : Body) (d : Nat), walk k d (spell b) = some d :=
  spell_induction (P := fun l => ∀ d, walk k d l = some d) (fun _ => rfl) (fun _ _ => rfl) (fun _ _ => rfl)
    walk_neutral_append walk_neutral_wrap

theorem walk_spellAll (k : KeyCode) : ∀ (bs : List Body) (d : Nat), walk k d (spellAll bs) = some d :=
  spellAll_induction (P := fun l => ∀ d, walk k d l = some d) (fun _ => rfl) (fun _ _ => rfl) (fun _ _ => rfl)
    walk_neutral_append walk_neutral_wrap

end KVerif.Macro
