/-
C08 helper lemmas about playback: `stepSequence` / `processSequences` of Model/Layout.lean.

`stepSequence` is split into what happens to the sequence (`seqStep`, independent of the layout) and
what happens to the layout (`applyEff` of the effect `seqEffect` chosen by the sequence alone); the
loop of `processSequences` and its restart clause are named (`seqLoop`, `restartRepeating`), and
`seqLoop_spec` says what the loop leaves in the ring and in `states`. Over many ticks a sequence
performs its schedule (`effs_steps`), and so does a layout whose only sequence it is (`single_run`).
-/
import KVerif.Model.Layout
import KVerif.Spec.Macro
namespace KVerif.Macro
open KVerif.L

/-! ### one sequence, one tick -/

/-- the sequence's own part of `stepSequence` -/
def seqStep (q : SeqState) : SeqState :=
  if q.delay > 0 then { q with delay := q.delay - 1 }
  else match q.tapped with
    | some _ => { q with tapped := none }
    | none =>
      let q := match q.remaining with
        | e :: tail => { q with curEvent := some e, remaining := tail }
        | [] => q
      match q.curEvent with
      | some .complete => { q with remaining := [] }
      | some (.tap kc) => { q with tapped := some kc }
      | some (.delay d) => if d > 0 then { q with delay := d - 1 } else q
      | _ => q

/-- what a sequence does to the layout in one tick -/
inductive Eff
  | idle
  | untap (k : KeyCode)
  | perform (e : SeqEv)
  deriving Repr, DecidableEq

/-- the event that is processed when nothing is being counted down: the next remaining one, or
(`remaining` empty: only right after an empty sequence was started) the current one again -/
def nextEvent (q : SeqState) : Option SeqEv :=
  match q.remaining with
  | e :: _ => some e
  | [] => q.curEvent

def seqEffect (q : SeqState) : Eff :=
  if q.delay > 0 then .idle
  else match q.tapped with
    | some k => .untap k
    | none => match nextEvent q with
      | some e => .perform e
      | none => .idle

/-- a key press by a sequence: `states.push(FakeKey)`, `historical_keys.push_front`, `oneshot.handle_press(Other((0,0)))` -/
def fakePress (s : Layout) (kc : KeyCode) : Layout :=
  let s := s.pushState (.fakeKey kc)
  let s := { s with histKeys := histPush s.histKeys kc }
  (s.oshPress (.other (0, 0))).1

def applyEff (s : Layout) : Eff → Layout
  | .idle => s
  | .untap kc => { s with states := s.states.filter (·.seqRelease kc) }
  | .perform (.press kc) => fakePress s kc
  | .perform (.tap kc) => fakePress s kc
  | .perform (.release kc) =>
    let s := { s with oneshot := (s.oneshot.handleRelease (0, 0)).1 }
    { s with states := s.states.filter (·.seqRelease kc) }
  | .perform (.custom id) => s.pushState (.seqCustomPending id)
  | .perform _ => s

theorem stepSequence_eq (s : Layout) (q : SeqState) :
    stepSequence s q = (applyEff s (seqEffect q), seqStep q) := by
  obtain ⟨cur, delay, tapped, remaining⟩ := q
  cases delay with
  | succ d => rfl
  | zero =>
    cases tapped with
    | some kc => rfl
    | none =>
      cases remaining with
      | cons e tail => cases e <;> rfl
      | nil =>
        cases cur with
        | none => rfl
        | some e => cases e <;> rfl

/-- effect of one event on `states` -/
def stApply (states : List St) : SeqEv → List St
  | .press k | .tap k => pushCap STATES_CAP states (.fakeKey k)
  | .release k => states.filter (·.seqRelease k)
  | .custom id => pushCap STATES_CAP states (.seqCustomPending id)
  | _ => states

def effStates (states : List St) : Eff → List St
  | .idle => states
  | .untap k => states.filter (·.seqRelease k)
  | .perform e => stApply states e

theorem oshPress_states (s : Layout) (k : OshKey) : (s.oshPress k).1.states = s.states := rfl
theorem oshPress_seqs (s : Layout) (k : OshKey) : (s.oshPress k).1.activeSequences = s.activeSequences := rfl

theorem applyEff_states (s : Layout) (e : Eff) : (applyEff s e).states = effStates s.states e := by
  cases e with
  | perform ev => cases ev <;> rfl
  | _ => rfl

theorem applyEff_seqs (s : Layout) (e : Eff) : (applyEff s e).activeSequences = s.activeSequences := by
  cases e with
  | perform ev => cases ev <;> rfl
  | _ => rfl

/-! ### the loop and the restart clause of `process_sequences` -/

/-- `if !seq.remaining_events.is_empty() { self.active_sequences.push_back(seq) }` -/
def putBack (s : Layout) (q : SeqState) : Layout :=
  if !q.remaining.isEmpty then
    { s with activeSequences := (pushBackWrap ACTIVE_SEQ_CAP s.activeSequences q).1 }
  else s

/-- the `for _ in 0..len` loop -/
def seqLoop : Nat → Layout → Layout
  | 0, s => s
  | n + 1, s =>
    match s.activeSequences with
    | [] => s
    | q :: rest => seqLoop n (putBack (applyEff { s with activeSequences := rest } (seqEffect q)) (seqStep q))

/-- the latest pressed repeating macro -/
def lastRepeating (states : List St) : Option (List SeqEv) :=
  states.reverse.findSome? (fun st => match st with | .repeatingSequence evs _ => some evs | _ => none)

/-- the restart clause -/
def restartRepeating (s : Layout) : Layout :=
  if s.activeSequences.isEmpty then
    match lastRepeating s.states with
    | some evs => { s with activeSequences := [{ remaining := evs }] }
    | none => s
  else s

theorem go_eq_seqLoop : ∀ (n : Nat) (s : Layout), processSequences.go n s = seqLoop n s := by
  intro n
  induction n with
  | zero => intro s; rfl
  | succ n ih =>
    intro s
    unfold processSequences.go seqLoop
    cases h : s.activeSequences with
    | nil => rfl
    | cons q rest =>
      simp only [stepSequence_eq]
      rw [ih]
      rfl

theorem processSequences_eq (s : Layout) :
    processSequences s = restartRepeating (seqLoop s.activeSequences.length s) := by
  unfold processSequences restartRepeating lastRepeating
  rw [go_eq_seqLoop]
  rfl

/-- a sequence to keep after its step (`remaining` not empty) -/
def keep (q : SeqState) : List SeqState := if q.remaining.isEmpty then [] else [q]

theorem keep_length (q : SeqState) : (keep q).length ≤ 1 := by
  unfold keep; split <;> simp

theorem keep_of_ne_nil {q : SeqState} (h : q.remaining ≠ []) : keep q = [q] := by
  unfold keep
  rw [if_neg (by simpa using h)]

theorem putBack_states (s : Layout) (q : SeqState) : (putBack s q).states = s.states := by
  unfold putBack; split <;> rfl

theorem putBack_seqs (s : Layout) (q : SeqState) (h : s.activeSequences.length < ACTIVE_SEQ_CAP) :
    (putBack s q).activeSequences = s.activeSequences ++ keep q := by
  unfold putBack keep
  by_cases hr : q.remaining.isEmpty
  · simp [hr]
  · simp only [hr, Bool.not_false, if_true, pushBackWrap, h, Bool.false_eq_true, if_false]

/-- Needs the ring to hold at most 4 (it never evicts then: each round pops before it pushes). -/
theorem seqLoop_spec : ∀ (n : Nat) (s : Layout) (todo kept : List SeqState),
    s.activeSequences = todo ++ kept → n ≤ todo.length → todo.length + kept.length ≤ ACTIVE_SEQ_CAP →
    (seqLoop n s).activeSequences = todo.drop n ++ kept ++ (todo.take n).flatMap (fun q => keep (seqStep q)) ∧
    (seqLoop n s).states = ((todo.take n).map seqEffect).foldl effStates s.states := by
  intro n
  induction n with
  | zero => intro s todo kept h _ _; simp [seqLoop, h]
  | succ n ih =>
    intro s todo kept h hn hcap
    cases todo with
    | nil => simp at hn
    | cons q todo' =>
      simp only [List.cons_append] at h
      simp only [seqLoop, h]
      have hs := applyEff_states { s with activeSequences := todo' ++ kept } (seqEffect q)
      have ha := applyEff_seqs { s with activeSequences := todo' ++ kept } (seqEffect q)
      simp only at hs ha
      have hlen : (applyEff { s with activeSequences := todo' ++ kept } (seqEffect q)).activeSequences.length < ACTIVE_SEQ_CAP := by
        rw [ha]; simp only [List.length_append, List.length_cons] at hcap ⊢; omega
      have hpb := putBack_seqs _ (seqStep q) hlen
      rw [ha, List.append_assoc] at hpb
      have hkl := keep_length (seqStep q)
      obtain ⟨i1, i2⟩ := ih _ todo' (kept ++ keep (seqStep q)) hpb (by simpa using hn)
        (by simp only [List.length_append, List.length_cons] at hcap ⊢; omega)
      rw [i1, i2, putBack_states, hs]
      simp [List.append_assoc]

theorem seqLoop_all (s : Layout) (h : s.activeSequences.length ≤ ACTIVE_SEQ_CAP) :
    (seqLoop s.activeSequences.length s).activeSequences = s.activeSequences.flatMap (fun q => keep (seqStep q)) ∧
    (seqLoop s.activeSequences.length s).states = (s.activeSequences.map seqEffect).foldl effStates s.states := by
  simpa using seqLoop_spec s.activeSequences.length s s.activeSequences [] (by simp) (Nat.le_refl _) (by simpa using h)

/-- what `process_sequences` leaves in `active_sequences` when the loop has emptied it -/
def restartOf (states : List St) : List SeqState :=
  match lastRepeating states with
  | some evs => [{ remaining := evs }]
  | none => []

theorem restartRepeating_states (s : Layout) : (restartRepeating s).states = s.states := by
  unfold restartRepeating; split <;> (try split) <;> rfl

theorem restartRepeating_seqs (s : Layout) :
    (restartRepeating s).activeSequences =
      if s.activeSequences.isEmpty then restartOf s.states else s.activeSequences := by
  unfold restartRepeating restartOf
  split
  · split <;> simp_all
  · rfl

end KVerif.Macro

namespace KVerif.Macro
open KVerif.L

/-! ### one sequence over many ticks: the schedule -/

def seqRun : Nat → SeqState → SeqState
  | 0, q => q
  | n + 1, q => seqRun n (seqStep q)

/-- the effects of the next `n` ticks -/
def effs : Nat → SeqState → List Eff
  | 0, _ => []
  | n + 1, q => seqEffect q :: effs n (seqStep q)

def slotEff : Option SeqEv → Eff
  | some e => .perform e
  | none => .idle

theorem seqRun_add (a b : Nat) : ∀ q, seqRun (a + b) q = seqRun b (seqRun a q) := by
  induction a with
  | zero => intro q; simp [seqRun]
  | succ a ih => intro q; rw [Nat.succ_add]; simp only [seqRun]; exact ih _

theorem effs_add (a b : Nat) : ∀ q, effs (a + b) q = effs a q ++ effs b (seqRun a q) := by
  induction a with
  | zero => intro q; simp [effs, seqRun]
  | succ a ih => intro q; rw [Nat.succ_add]; simp only [effs, seqRun, List.cons_append]; rw [ih]

theorem effs_length (n : Nat) : ∀ q, (effs n q).length = n := by
  induction n with
  | zero => intro q; rfl
  | succ n ih => intro q; simp [effs, ih]

theorem seqStep_nil {q : SeqState} (h : q.remaining = []) : (seqStep q).remaining = [] := by
  obtain ⟨cur, delay, tapped, remaining⟩ := q
  subst h
  cases delay with
  | succ d => rfl
  | zero =>
    cases tapped with
    | some _ => rfl
    | none =>
      cases cur with
      | none => rfl
      | some e =>
        cases e with
        | delay d => cases d <;> rfl
        | _ => rfl

theorem seqRun_ne_nil_of_le {q : SeqState} {m n : Nat} (hmn : m ≤ n) (h : (seqRun n q).remaining ≠ []) :
    (seqRun m q).remaining ≠ [] := by
  obtain ⟨j, rfl⟩ := Nat.exists_eq_add_of_le hmn
  clear hmn
  rw [seqRun_add] at h
  generalize seqRun m q = q' at h
  induction j generalizing q' with
  | zero => exact h
  | succ j ih => exact fun hq => ih (seqStep q') h (seqStep_nil hq)

/-- counting a delay down: `j` idle ticks -/
theorem countdown (c : Option SeqEv) (r : List SeqEv) : ∀ j : Nat,
    effs j ⟨c, j, none, r⟩ = List.replicate j Eff.idle ∧
    seqRun j ⟨c, j, none, r⟩ = ⟨c, 0, none, r⟩ ∧
    ∀ m, m ≤ j → (seqRun m ⟨c, j, none, r⟩).remaining = r := by
  intro j
  induction j with
  | zero =>
    refine ⟨rfl, rfl, fun m hm => ?_⟩
    cases Nat.le_zero.mp hm; rfl
  | succ j ih =>
    refine ⟨congrArg (Eff.idle :: ·) ih.1, ih.2.1, fun m hm => ?_⟩
    cases m with
    | zero => rfl
    | succ m => exact ih.2.2 m (Nat.le_of_succ_le_succ hm)

/-- the first tick of a step event: it is performed, and the sequence is left counting down the
rest of its ticks -/
theorem first_tick (cur : Option SeqEv) (e : SeqEv) (he : isStep e = true) (r : List SeqEv) :
    seqEffect ⟨cur, 0, none, e :: r⟩ = .perform e ∧
    seqStep ⟨cur, 0, none, e :: r⟩ = ⟨some e, ticksOf e - 1, none, r⟩ := by
  cases e with
  | delay d => cases d <;> exact ⟨rfl, by simp [seqStep, ticksOf]⟩
  | tap _ | noOp | complete => cases he
  | _ => exact ⟨rfl, rfl⟩

theorem effs_steps : ∀ (evs : List SeqEv), evs.all isStep = true → ∀ (cur : Option SeqEv) (rest : List SeqEv),
    effs (slots evs).length ⟨cur, 0, none, evs ++ rest⟩ = (slots evs).map slotEff ∧
    ∃ cur', seqRun (slots evs).length ⟨cur, 0, none, evs ++ rest⟩ = ⟨cur', 0, none, rest⟩ := by
  intro evs
  induction evs with
  | nil => intro _ cur rest; exact ⟨rfl, cur, rfl⟩
  | cons e evs ih =>
    intro hall cur rest
    simp only [List.all_cons, Bool.and_eq_true] at hall
    obtain ⟨f1, f2⟩ := first_tick cur e hall.1 (evs ++ rest)
    obtain ⟨c1, c2, _⟩ := countdown (some e) (evs ++ rest) (ticksOf e - 1)
    obtain ⟨i1, cur', i2⟩ := ih hall.2 (some e) rest
    -- one tick for the event, `ticksOf e - 1` idle ones, then the other events
    have hl : (slots (e :: evs)).length = 1 + (ticksOf e - 1) + (slots evs).length := by
      simp only [slots, List.length_cons, List.length_append, List.length_replicate]; omega
    rw [hl]
    refine ⟨?_, cur', ?_⟩
    · simp only [effs_add, seqRun_add, List.cons_append, effs, seqRun, f1, f2, c1, c2, i1, slots, List.map_cons,
        List.map_append, List.map_replicate, slotEff, List.nil_append]
    · simp only [seqRun_add, List.cons_append, seqRun, f2, c2, i2]

/-- the last tick: `Complete` empties the sequence -/
theorem complete_tick (cur : Option SeqEv) :
    seqEffect ⟨cur, 0, none, [.complete]⟩ = .perform .complete ∧
    (seqStep ⟨cur, 0, none, [.complete]⟩).remaining = [] :=
  ⟨rfl, rfl⟩

end KVerif.Macro

namespace KVerif.Macro
open KVerif.L

/-! ### a single active sequence in the layout -/

/-- `n` ticks of `process_sequences` -/
def runSeq : Nat → Layout → Layout
  | 0, s => s
  | n + 1, s => runSeq n (processSequences s)

/-- one tick with exactly one active sequence -/
theorem single_step (s : Layout) (q : SeqState) (h : s.activeSequences = [q]) :
    (processSequences s).states = effStates s.states (seqEffect q) ∧
    (processSequences s).activeSequences =
      if (seqStep q).remaining.isEmpty then restartOf (effStates s.states (seqEffect q)) else [seqStep q] := by
  obtain ⟨l1, l2⟩ := seqLoop_all s (by rw [h]; exact Nat.le_of_ble_eq_true rfl)
  rw [processSequences_eq, restartRepeating_states, restartRepeating_seqs, l1, l2, h]
  refine ⟨rfl, ?_⟩
  simp only [List.flatMap_cons, List.flatMap_nil, List.append_nil, keep, List.map_cons, List.map_nil, List.foldl_cons,
    List.foldl_nil]
  split <;> rfl

theorem effs_take (N : Nat) (q : SeqState) (n : Nat) (hn : n ≤ N) : (effs N q).take n = effs n q := by
  obtain ⟨k, rfl⟩ : ∃ k, N = n + k := ⟨N - n, by omega⟩
  rw [effs_add, List.take_left' (effs_length n q)]

theorem effs_succ_last (n : Nat) : ∀ q, effs (n + 1) q = effs n q ++ [seqEffect (seqRun n q)] := by
  intro q
  rw [effs_add n 1 q]
  rfl

theorem seqRun_succ_last (n : Nat) (q : SeqState) : seqRun (n + 1) q = seqStep (seqRun n q) := by
  rw [seqRun_add n 1 q]; rfl

/-- **single-sequence playback** in terms of the sequence's own effects: while the sequence does
not run empty, after `n` ticks the layout's `states` are the initial ones with the first `n` effects
applied in order, and the sequence is the only active one -/
theorem single_run (s : Layout) (q0 : SeqState) (h : s.activeSequences = [q0]) : ∀ n : Nat,
    (seqRun n q0).remaining ≠ [] →
    (runSeq n s).states = (effs n q0).foldl effStates s.states ∧
    (runSeq n s).activeSequences = [seqRun n q0] := by
  intro n
  induction n generalizing s q0 with
  | zero => intro _; exact ⟨rfl, h⟩
  | succ n ih =>
    intro hne
    obtain ⟨s1, s2⟩ := single_step s q0 h
    have hk : ¬(seqStep q0).remaining.isEmpty = true := fun he =>
      seqRun_ne_nil_of_le (q := q0) (Nat.le_add_left 1 n) hne (List.isEmpty_iff.mp he)
    rw [if_neg hk] at s2
    have := ih (processSequences s) (seqStep q0) s2 hne
    simp only [runSeq, effs, List.foldl_cons, seqRun]
    rw [this.1, this.2, s1]
    exact ⟨rfl, rfl⟩

end KVerif.Macro

namespace KVerif.Macro
open KVerif.L

theorem runSeq_succ_last (n : Nat) : ∀ s, runSeq (n + 1) s = processSequences (runSeq n s) := by
  induction n with
  | zero => intro s; rfl
  | succ n ih => intro s; simp only [runSeq] at ih ⊢; rw [ih]

/-- the schedule applied to `states`: each slot's event performed once, idle slots change nothing -/
def playStates (states : List St) (sl : List (Option SeqEv)) : List St :=
  sl.foldl (fun st o => effStates st (slotEff o)) states

theorem playStates_eq (states : List St) (sl : List (Option SeqEv)) :
    playStates states sl = (sl.map slotEff).foldl effStates states := by
  unfold playStates; rw [List.foldl_map]

theorem playStates_append (states : List St) (a b : List (Option SeqEv)) :
    playStates states (a ++ b) = playStates (playStates states a) b := by
  unfold playStates; rw [List.foldl_append]

theorem playStates_idle (states : List St) (n : Nat) : playStates states (List.replicate n none) = states := by
  induction n with
  | zero => rfl
  | succ n ih => exact ih

/-- idle slots do nothing: playing the schedule is performing the events in order -/
theorem playStates_slots : ∀ (evs : List SeqEv) (states : List St),
    playStates states (slots evs) = evs.foldl stApply states := by
  intro evs
  induction evs with
  | nil => intro states; rfl
  | cons e rest ih =>
    intro states
    rw [slots, ← List.singleton_append, List.append_assoc, playStates_append, playStates_append, playStates_idle, ih]
    rfl

end KVerif.Macro
