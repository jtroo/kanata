/-
C09 helper lemmas for chords v2 (Model/ChordsV2.lean, the code after the three fixes): which crashes
the machine can still produce, the queue-walking functions in closed form, and `process_presses`: its
loop never fails and activates at most one chord, which matches the accumulated presses exactly.
-/
import KVerif.Model.ChordsV2
namespace KVerif.C09
open KVerif.L

def crashDQ : Crash := .indexOOB "oops overflowed drain queue"
def crashPR : Crash := .indexOOB "drain_releases: presses overflow"
def crashTM : Crash := .indexOOB "too many presses in queue"

theorem drainPushAssert_fits (q : List Queued) (x : Queued) (h : q.length < DRAIN_Q_LEN) :
    drainPushAssert q x = .ok (q ++ [x]) := by
  unfold drainPushAssert
  rw [if_pos h]

theorem drainPushAssert_err {q : List Queued} {x : Queued} {c : Crash} (h : drainPushAssert q x = .error c) : c = crashDQ := by
  unfold drainPushAssert at h
  split at h
  · cases h
  · cases h; rfl

theorem drainPushAssert_ok {q q' : List Queued} {x : Queued} (h : drainPushAssert q x = .ok q') : q' = q ++ [x] := by
  unfold drainPushAssert at h
  split at h
  · cases h; rfl
  · cases h

/-- `push_back` followed by `assert!(overflow.is_none(), …)`, for every event of a list in turn -/
def drainPushAll : List Queued → List Queued → Except Crash (List Queued)
  | dq, [] => .ok dq
  | dq, x :: l =>
    match drainPushAssert dq x with
    | .error c => .error c
    | .ok dq => drainPushAll dq l

theorem drainPushAll_ok : ∀ (l dq dq' : List Queued), drainPushAll dq l = .ok dq' → dq' = dq ++ l
  | [], dq, dq', h => by cases h; exact (List.append_nil _).symm
  | x :: l, dq, dq', h => by
    simp only [drainPushAll] at h
    split at h
    · cases h
    · rename_i dq1 hp
      rw [drainPushAll_ok l _ _ h, drainPushAssert_ok hp, List.append_assoc]; rfl

theorem drainPushAll_err : ∀ (l dq : List Queued) (c : Crash), drainPushAll dq l = .error c → c = crashDQ
  | [], _, _, h => nomatch h
  | x :: l, dq, c, h => by
    simp only [drainPushAll] at h
    split at h
    · rename_i c' he; cases h; exact drainPushAssert_err he
    · exact drainPushAll_err l _ c h

theorem drainPushAll_fits : ∀ (l dq : List Queued), dq.length + l.length ≤ DRAIN_Q_LEN →
    drainPushAll dq l = .ok (dq ++ l)
  | [], dq, _ => by rw [List.append_nil]; rfl
  | x :: l, dq, h => by
    simp only [List.length_cons] at h
    simp only [drainPushAll, drainPushAssert_fits dq x (by omega)]
    rw [drainPushAll_fits l _ (by simp only [List.length_append, List.length_cons, List.length_nil]; omega),
      List.append_assoc]; rfl

/-! ## The functions that walk the queue, in closed form

`drain_virtual_keys` and `clear_released_chords` are "partition, then push one part with the assertion";
`drain_releases` splits the queue at its first press. -/

def row0 (qd : Queued) : Bool := qd.ev.coord.1 == 0

theorem drainVirtualKeys_eq : ∀ (q dq : List Queued), drainVirtualKeys q dq =
    match drainPushAll dq (q.filter fun x => !row0 x) with
    | .error c => .error c
    | .ok dq' => .ok (q.filter row0, dq')
  | [], dq => rfl
  | qd :: rest, dq => by
    simp only [drainVirtualKeys, List.filter_cons]
    cases h0 : row0 qd
    · have : (qd.ev.coord.1 == 0) = false := h0
      simp only [this, Bool.false_eq_true, if_false, Bool.not_false, if_true, drainPushAll]
      cases drainPushAssert dq qd with
      | error c => rfl
      | ok dq1 => exact drainVirtualKeys_eq rest dq1
    · have : (qd.ev.coord.1 == 0) = true := h0
      simp only [this, if_true, Bool.not_true, Bool.false_eq_true, if_false, drainVirtualKeys_eq rest dq]
      cases drainPushAll dq (rest.filter fun x => !row0 x) <;> rfl

def isRel (qd : Queued) : Bool := !qd.ev.isPress

theorem applyReleases_cons (qd : Queued) (q : List Queued) (achs : List ActiveChord) :
    applyReleases (qd :: q) achs = applyReleases q (match qd.ev with
      | .release c => releaseKeyInActive achs c.2
      | .press _ => achs) := rfl

theorem drainReleases_pos : ∀ (q : List Queued) (np : Nat) (achs : List ActiveChord) (dq : List Queued), 0 < np →
    drainReleases q np achs dq = .ok (q, applyReleases q achs, dq)
  | [], _, _, _, _ => rfl
  | qd :: rest, np, achs, dq, h => by
    rw [applyReleases_cons]
    cases he : qd.ev with
    | press c => simp only [drainReleases, he, drainReleases_pos rest (np + 1) achs dq (Nat.succ_pos _)]
    | release c =>
      have hnp : (np == 0) = false := by rw [beq_eq_false_iff_ne]; omega
      simp only [drainReleases, he, hnp, Bool.false_eq_true, if_false, drainReleases_pos rest np _ dq h]

theorem drainReleases_zero : ∀ (q : List Queued) (achs : List ActiveChord) (dq : List Queued),
    drainReleases q 0 achs dq =
      .ok (q.dropWhile isRel, applyReleases q achs, (q.takeWhile isRel).foldl drainPush dq)
  | [], _, _ => rfl
  | qd :: rest, achs, dq => by
    rw [applyReleases_cons, List.dropWhile_cons, List.takeWhile_cons]
    cases he : qd.ev with
    | press c =>
      simp only [drainReleases, he, drainReleases_pos rest (0 + 1) achs dq (Nat.succ_pos _), isRel, Ev.isPress,
        Bool.not_true, Bool.false_eq_true, if_false, List.foldl_nil]
    | release c =>
      simp only [drainReleases, he, beq_self_eq_true, if_true, drainReleases_zero rest, isRel, Ev.isPress,
        Bool.not_false, List.foldl_cons]

def tailReleases (achs : List ActiveChord) : List Queued :=
  (achs.filter (fun a => a.status == .released)).map (fun a => ⟨.release (0, a.coordinate), 0⟩)

theorem clearReleased_eq : ∀ (achs : List ActiveChord) (dq : List Queued), clearReleased achs dq =
    match drainPushAll dq (tailReleases achs) with
    | .error c => .error c
    | .ok dq' => .ok (achs.filter fun a => !(a.status == .released), dq')
  | [], dq => rfl
  | a :: rest, dq => by
    simp only [clearReleased, tailReleases, List.filter_cons]
    cases hs : a.status == .released
    · simp only [Bool.false_eq_true, if_false, Bool.not_false, if_true, clearReleased_eq rest dq, tailReleases]
      cases drainPushAll dq _ <;> rfl
    · simp only [if_true, Bool.not_true, Bool.false_eq_true, if_false, List.map_cons, drainPushAll]
      cases drainPushAssert dq _ with
      | error c => rfl
      | ok dq1 => exact clearReleased_eq rest dq1

theorem collectPresses_total : ∀ (q : List Queued) (ps : List Nat), ∃ r, collectPresses q ps = .ok r := by
  intro q
  induction q with
  | nil => intro ps; exact ⟨_, rfl⟩
  | cons qd rest ih =>
    intro ps
    rw [collectPresses]
    split
    · split <;> exact ih _
    · split
      · exact ⟨_, rfl⟩
      · exact ih _

/-! ## The loop of `process_presses` -/

/-- candidate invariant: every stored candidate is an enabled chord of the first key's table entry that
contains all accumulated presses -/
def CandsOK (possible : List ChordV2) (layer : Nat) (acc : List Nat) (cands : List ChordV2) : Prop :=
  ∀ c ∈ cands, c ∈ possible ∧ enabledOn layer c = true ∧ acc.all (c.keys.contains ·) = true

theorem candsOK_nil (possible : List ChordV2) (layer : Nat) (acc : List Nat) : CandsOK possible layer acc [] :=
  fun _ h => nomatch h

theorem ppCands_ok (possible : List ChordV2) (layer : Nat) (st : PP) (press : Nat)
    (h : CandsOK possible layer st.acc st.cands) :
    CandsOK possible layer (st.acc ++ [press]) (ppCands possible layer st press).1 := by
  unfold ppCands
  split
  · intro c hc
    simp only [List.mem_filter] at hc
    obtain ⟨h1, h2, h3⟩ := h c hc.1
    refine ⟨h1, h2, ?_⟩
    simp only [List.all_append, h3, List.all_cons, hc.2, List.all_nil, Bool.and_self]
  · intro c hc
    have hc' := List.mem_of_mem_take hc
    simp only [List.mem_filter, Bool.and_eq_true] at hc'
    exact ⟨hc'.1, hc'.2.1, hc'.2.2⟩

/-- this is why the lookup `chord_candidates[0]` cannot miss -/
theorem ppCands_count_one (possible : List ChordV2) (layer : Nat) (st : PP) (press : Nat)
    (h : (ppCands possible layer st press).2.1 = 1) : ∃ x, (ppCands possible layer st press).1 = [x] := by
  unfold ppCands at h ⊢
  split
  · rename_i hc
    simp only [hc, if_true] at h
    exact List.length_eq_one_iff.mp h
  · rename_i hc
    simp only [hc] at h
    obtain ⟨x, hx⟩ := List.length_eq_one_iff.mp h
    exact ⟨x, by simp only [hx]; rfl⟩

theorem pushActive_ok {active a : List ActiveChord} {ach : ActiveChord} (h : pushActive active ach = .ok a) :
    active.length < ACTIVE_CHORDS_CAP ∧ a = active ++ [ach] := by
  unfold pushActive at h
  split at h
  · rename_i hl; cases h; exact ⟨hl, rfl⟩
  · cases h

theorem pushActive_room {active : List ActiveChord} (ach : ActiveChord) (h : active.length < ACTIVE_CHORDS_CAP) :
    pushActive active ach = .ok (active ++ [ach]) := by
  unfold pushActive
  rw [if_pos h]

def OneMore (possible : List ChordV2) (layer since : Nat) (relFound : Option Nat) (A0 : List ActiveChord)
    (acc : List Nat) (A : List ActiveChord) : Prop :=
  A = A0 ∨ ∃ cch coord, cch ∈ possible ∧ enabledOn layer cch = true ∧ exactMatch acc cch = true ∧
    A0.length < ACTIVE_CHORDS_CAP ∧ A = A0 ++ [getActiveChord cch since coord relFound]

theorem oneMore_push {possible : List ChordV2} {layer since : Nat} {relFound : Option Nat} {A0 a : List ActiveChord}
    {acc : List Nat} {cch : ChordV2} {coord : Nat} (h1 : cch ∈ possible) (h2 : enabledOn layer cch = true)
    (h3 : exactMatch acc cch = true) (hp : pushActive A0 (getActiveChord cch since coord relFound) = .ok a) :
    OneMore possible layer since relFound A0 acc a :=
  Or.inr ⟨cch, coord, h1, h2, h3, pushActive_ok hp⟩

/-- what the loop has done after the presses `pre`, relative to the active chords `A0` it started
with: it has accumulated a prefix of `pre` (all of it while it goes on) and activated nothing or
exactly one chord -/
structure LoopInv (possible : List ChordV2) (layer since : Nat) (relFound : Option Nat) (A0 : List ActiveChord)
    (pre : List Nat) (st : PP) : Prop where
  going : st.done = false → st.active = A0 ∧ st.acc = pre
  acc : st.acc <+: pre
  act : OneMore possible layer since relFound A0 st.acc st.active
  cands : CandsOK possible layer st.acc st.cands

theorem ppStep_inv (possible : List ChordV2) (layer since : Nat) (relFound : Option Nat) (minIdle : Nat)
    (A0 : List ActiveChord) (pre : List Nat) (st : PP) (press : Nat)
    (hi : LoopInv possible layer since relFound A0 pre st) :
    ∃ st', ppStep possible layer since relFound minIdle st press = .ok st' ∧
      LoopInv possible layer since relFound A0 (pre ++ [press]) st' := by
  unfold ppStep
  by_cases hd : st.done = true
  · exact ⟨st, if_pos hd, (fun h => by rw [hd] at h; cases h), hi.acc.trans (List.prefix_append _ _), hi.act, hi.cands⟩
  · rw [if_neg hd]
    obtain ⟨rfl, rfl⟩ := hi.going (by simpa using hd)
    have hco := ppCands_ok possible layer st press hi.cands
    have hone := ppCands_count_one possible layer st press
    generalize ppCands possible layer st press = r at hco hone
    obtain ⟨cands, count, mt⟩ := r
    simp only at hco hone ⊢
    have hback : (st.acc ++ [press]).dropLast <+: st.acc ++ [press] := by
      rw [List.dropLast_concat]; exact List.prefix_append _ _
    rcases count with _ | _ | n
    · -- no candidate left: the loop ends on the presses before this one
      simp only
      split
      · rename_i cch hf
        have hmem := List.mem_filter.mp (List.mem_of_find?_eq_some hf)
        cases hp : pushActive st.active (getActiveChord cch since (freeCoord st.active st.nextCoord) relFound) with
        | error e => exact ⟨_, rfl, nofun, hback, Or.inl rfl, candsOK_nil _ _ _⟩
        | ok a => exact ⟨_, rfl, nofun, hback, oneMore_push hmem.1 hmem.2 (List.find?_some hf) hp, candsOK_nil _ _ _⟩
      · exact ⟨_, rfl, nofun, hback, Or.inl rfl, candsOK_nil _ _ _⟩
    · -- one candidate: activated if complete
      obtain ⟨x, rfl⟩ := hone rfl
      simp only [Nat.zero_add, List.head?_cons]
      split
      · rename_i hcomp
        obtain ⟨m1, m2, m3⟩ := hco x (List.mem_singleton.mpr rfl)
        have hex : exactMatch (st.acc ++ [press]) x = true := by simp only [exactMatch, m3, hcomp, Bool.and_self]
        cases hp : pushActive st.active (getActiveChord x since (freeCoord st.active st.nextCoord) relFound) with
        | error e => exact ⟨_, rfl, nofun, List.prefix_refl _, Or.inl rfl, hco⟩
        | ok a => exact ⟨_, rfl, nofun, List.prefix_refl _, oneMore_push m1 m2 hex hp, hco⟩
      · exact ⟨_, rfl, fun _ => ⟨rfl, rfl⟩, List.prefix_refl _, Or.inl rfl, hco⟩
    · exact ⟨_, rfl, fun _ => ⟨rfl, rfl⟩, List.prefix_refl _, Or.inl rfl, hco⟩

theorem ppLoop_inv (possible : List ChordV2) (layer since : Nat) (relFound : Option Nat) (minIdle : Nat)
    (A0 : List ActiveChord) : ∀ (presses pre : List Nat) (st : PP),
    LoopInv possible layer since relFound A0 pre st →
    ∃ st', ppLoop possible layer since relFound minIdle presses st = .ok st' ∧
      LoopInv possible layer since relFound A0 (pre ++ presses) st' := by
  intro presses
  induction presses with
  | nil => intro pre st hi; exact ⟨st, rfl, by rw [List.append_nil]; exact hi⟩
  | cons p rest ih =>
    intro pre st hi
    obtain ⟨st1, hs, hi1⟩ := ppStep_inv possible layer since relFound minIdle A0 pre st p hi
    obtain ⟨st', hl, hi'⟩ := ih _ st1 hi1
    exact ⟨st', by simp only [ppLoop, hs, hl], by rw [List.append_cons]; exact hi'⟩

/-- the block after the loop activates only if the loop has not: still at most one activation -/
theorem ppFinal_act (possible : List ChordV2) (layer since : Nat) (relFound : Option Nat) (minIdle : Nat)
    (A0 : List ActiveChord) (pre : List Nat) (st : PP) (hi : LoopInv possible layer since relFound A0 pre st) :
    (ppFinal possible layer since relFound minIdle A0.length st).acc = st.acc ∧
    OneMore possible layer since relFound A0 st.acc (ppFinal possible layer since relFound minIdle A0.length st).active := by
  simp only [ppFinal]
  split
  · rename_i hc
    simp only [Bool.and_eq_true, beq_iff_eq] at hc
    have hA : st.active = A0 := by
      rcases hi.act with h | ⟨_, _, _, _, _, _, h⟩
      · exact h
      · rw [h] at hc; simp at hc
    split
    · rename_i cch hf
      have hmem := List.mem_filter.mp (List.mem_of_find?_eq_some hf)
      have hposs : cch ∈ possible := by
        by_cases hl : st.cands.length ≥ SMOL_Q_LEN
        · simpa [hl] using hmem.1
        · exact (hi.cands cch (by simpa [hl] using hmem.1)).1
      subst hA
      cases hp : pushActive st.active (getActiveChord cch since (freeCoord st.active st.nextCoord) relFound) with
      | error e => exact ⟨rfl, Or.inl rfl⟩
      | ok a => exact ⟨rfl, oneMore_push hposs hmem.2 (List.find?_some hf) hp⟩
    · exact ⟨rfl, Or.inl hA⟩
  · exact ⟨rfl, hi.act⟩

theorem ppFinal_grown (possible : List ChordV2) (layer since : Nat) (relFound : Option Nat) (minIdle prevLen : Nat) (st : PP)
    (h : st.active.length ≠ prevLen) : ppFinal possible layer since relFound minIdle prevLen st = st := by
  have : (st.active.length == prevLen) = false := beq_false_of_ne h
  simp only [ppFinal, this, Bool.false_and, Bool.false_eq_true, if_false]

theorem ppFinal_wait (possible : List ChordV2) (layer since : Nat) (minIdle prevLen : Nat) (st : PP)
    (h : st.ticksUntil ≠ 0) : ppFinal possible layer since none minIdle prevLen st = st := by
  have : (st.ticksUntil == 0) = false := beq_false_of_ne h
  simp only [ppFinal, this, Option.isSome_none, Bool.or_self, Bool.and_false, Bool.false_eq_true, if_false]

theorem ppFinal_closed (possible : List ChordV2) (layer since : Nat) (relFound : Option Nat) (minIdle : Nat) (st : PP)
    (cch : ChordV2) (hc : st.ticksUntil = 0 ∨ relFound.isSome = true)
    (hf : ((if st.cands.length ≥ SMOL_Q_LEN then possible else st.cands).filter (enabledOn layer)).find? (exactMatch st.acc) = some cch)
    (hroom : st.active.length < ACTIVE_CHORDS_CAP) :
    ppFinal possible layer since relFound minIdle st.active.length st =
      { st with active := st.active ++ [getActiveChord cch since (freeCoord st.active st.nextCoord) relFound],
                nextCoord := nextCoordAfter (freeCoord st.active st.nextCoord) } := by
  have h1 : (st.ticksUntil == 0 || relFound.isSome) = true := by
    rcases hc with h | h <;> simp only [h, beq_self_eq_true, Bool.true_or, Bool.or_true]
  simp only [ppFinal, beq_self_eq_true, h1, Bool.and_self, if_true, hf, pushActive_room _ hroom]

theorem ppFinal_closed_none (possible : List ChordV2) (layer since : Nat) (relFound : Option Nat) (minIdle : Nat) (st : PP)
    (hc : st.ticksUntil = 0 ∨ relFound.isSome = true)
    (hf : ((if st.cands.length ≥ SMOL_Q_LEN then possible else st.cands).filter (enabledOn layer)).find? (exactMatch st.acc) = none) :
    ppFinal possible layer since relFound minIdle st.active.length st = { st with ticksToIgnore := minIdle } := by
  have h1 : (st.ticksUntil == 0 || relFound.isSome) = true := by
    rcases hc with h | h <;> simp only [h, beq_self_eq_true, Bool.true_or, Bool.or_true]
  simp only [ppFinal, beq_self_eq_true, h1, Bool.and_self, if_true, hf]

/-- the first key's age when `process_presses` runs -/
def sinceOf (s : ChV2) : Nat := (s.queue.head?.map (·.since)).getD 0

/-- the loop state `process_presses` starts from -/
def ppInit (s : ChV2) : PP :=
  { ticksUntil := s.ticksUntilChange, nextCoord := s.nextCoord, active := s.active, ticksToIgnore := s.ticksToIgnore }

/-- what `process_presses` stores of the loop state `st` it ends with -/
def ppStore (s : ChV2) (st : PP) : ChV2 :=
  { s with queue := if st.active.length > s.active.length then ppRetain s.queue st.acc else s.queue,
           active := st.active, ticksToIgnore := st.ticksToIgnore,
           ticksUntilChange := if st.active.length > s.active.length then 0 else st.ticksUntil,
           nextCoord := st.nextCoord }

theorem ppStore_same {s : ChV2} {st : PP} (h : st.active = s.active) :
    ppStore s st = { s with ticksToIgnore := st.ticksToIgnore, ticksUntilChange := st.ticksUntil, nextCoord := st.nextCoord } := by
  simp only [ppStore, h, gt_iff_lt, Nat.lt_irrefl, if_false]

theorem ppStore_grown {s : ChV2} {st : PP} {x : ActiveChord} (h : st.active = s.active ++ [x]) :
    ppStore s st = { s with queue := ppRetain s.queue st.acc, active := s.active ++ [x], ticksToIgnore := st.ticksToIgnore,
                            ticksUntilChange := 0, nextCoord := st.nextCoord } := by
  simp only [ppStore, h, List.length_append, List.length_cons, List.length_nil, gt_iff_lt, Nat.lt_add_one, if_true]

theorem ppInit_inv (possible : List ChordV2) (layer since : Nat) (relFound : Option Nat) (s : ChV2) :
    LoopInv possible layer since relFound s.active [] (ppInit s) :=
  ⟨fun _ => ⟨rfl, rfl⟩, List.prefix_refl _, Or.inl rfl, candsOK_nil _ _ _⟩

theorem processPresses_loop {s : ChV2} {layer : Nat} {presses : List Nat} {relFound : Option Nat} {starting : Nat}
    {possible : List ChordV2} {st : PP} (hcp : collectPresses s.queue [] = .ok (presses, relFound))
    (hhead : presses.head? = some starting) (hget : s.cfg.get starting = some possible)
    (hl : ppLoop possible layer (sinceOf s) relFound s.cfg.minIdle presses (ppInit s) = .ok st) :
    processPresses s layer =
      .ok (ppStore s (ppFinal possible layer (sinceOf s) relFound s.cfg.minIdle s.active.length st)) := by
  unfold sinceOf ppInit at hl
  simp only [processPresses, hcp, hhead, hget, hl]
  rfl

theorem processPresses_cases (s : ChV2) (layer : Nat) :
    processPresses s layer = .ok s ∨ processPresses s layer = .ok { s with ticksToIgnore := s.cfg.minIdle } ∨
    ∃ presses relFound starting possible st,
      collectPresses s.queue [] = .ok (presses, relFound) ∧ presses.head? = some starting ∧
      s.cfg.get starting = some possible ∧
      LoopInv possible layer (sinceOf s) relFound s.active presses st ∧
      processPresses s layer =
        .ok (ppStore s (ppFinal possible layer (sinceOf s) relFound s.cfg.minIdle s.active.length st)) := by
  obtain ⟨⟨presses, relFound⟩, hcp⟩ := collectPresses_total s.queue []
  cases hhead : presses.head? with
  | none => exact Or.inl (by simp only [processPresses, hcp, hhead])
  | some starting =>
    cases hget : s.cfg.get starting with
    | none => exact Or.inr (Or.inl (by simp only [processPresses, hcp, hhead, hget]))
    | some possible =>
      obtain ⟨st, hl, hi⟩ := ppLoop_inv possible layer (sinceOf s) relFound s.cfg.minIdle s.active presses [] _
        (ppInit_inv possible layer (sinceOf s) relFound s)
      exact Or.inr (Or.inr ⟨presses, relFound, starting, possible, st, hcp, hhead, hget, hi,
        processPresses_loop hcp hhead hget hl⟩)

theorem processPresses_no_err (s : ChV2) (layer : Nat) (c : Crash) : processPresses s layer ≠ .error c := by
  rcases processPresses_cases s layer with h | h | ⟨_, _, _, _, _, _, _, _, _, h⟩ <;> rw [h] <;> nofun

/-- **at most one activation, and only of an exactly matching chord**: what `process_presses` does to
`active_chords` and to the queue -/
theorem processPresses_spec (s s' : ChV2) (layer : Nat) (h : processPresses s layer = .ok s') :
    (s'.active = s.active ∧ s'.queue = s.queue) ∨
    ∃ presses relFound starting possible cch coord acc,
      collectPresses s.queue [] = .ok (presses, relFound) ∧ presses.head? = some starting ∧
      s.cfg.get starting = some possible ∧
      cch ∈ possible ∧ enabledOn layer cch = true ∧ exactMatch acc cch = true ∧ acc <+: presses ∧
      s.active.length < ACTIVE_CHORDS_CAP ∧
      s'.active = s.active ++ [getActiveChord cch (sinceOf s) coord relFound] ∧
      s'.queue = ppRetain s.queue acc := by
  rcases processPresses_cases s layer with h1 | h1 | ⟨presses, relFound, starting, possible, st, hcp, hhead, hget, hi, h1⟩ <;>
    rw [h1] at h <;> cases h
  · exact Or.inl ⟨rfl, rfl⟩
  · exact Or.inl ⟨rfl, rfl⟩
  · obtain ⟨hacc, hact⟩ := ppFinal_act possible layer (sinceOf s) relFound s.cfg.minIdle s.active presses st hi
    rcases hact with hA | ⟨cch, coord, h1, h2, h3, h4, h5⟩
    · exact Or.inl (by rw [ppStore_same hA]; exact ⟨rfl, rfl⟩)
    · refine Or.inr ⟨presses, relFound, starting, possible, cch, coord, _, hcp, hhead, hget, h1, h2, h3, hi.acc, h4, ?_⟩
      rw [ppStore_grown h5, hacc]
      exact ⟨rfl, rfl⟩

end KVerif.C09
