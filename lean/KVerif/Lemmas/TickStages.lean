/-
`tick` with an empty action queue is `tickPre ; tickOneshot ; tickMain ; processExtraWaitings ;
processSequenceCustom`.  Each stage comes with the one condition under which it is the identity
(`SeqIdle`, no one-shot key, no extra waiting state, no `St.seqCustom` state), and `tick` with the
lemmas that take it apart into its stages and put it together again, so that a fragment's tick lemma
unfolds neither `tick` nor a stage.  The first stage without sequences is `Layout.aged`; what the
third stage can do is the relation `MainStep`.
-/
import KVerif.Lemmas.WaitingTick
namespace KVerif.L

/-! ## what each stage looks at -/

/-- a state from which `process_sequences` restarts a sequence once none is active -/
def St.repeats : St → Bool
  | .repeatingSequence .. => true
  | _ => false

/-- a state that `process_sequence_custom` moves on (pending → active → tombstone → gone) -/
def St.seqCustom : St → Bool
  | .seqCustomPending _ | .seqCustomActive _ | .tombstone => true
  | _ => false

/-- no sequence is playing and none would restart -/
structure SeqIdle (s : Layout) : Prop where
  seqs : s.activeSequences = []
  norep : ∀ st ∈ s.states, st.repeats = false

/-- `tickPre` without sequences: queue and histories age, the quick-tap window and the eager tap-dance
count down -/
def Layout.aged (s : Layout) : Layout :=
  { s with queue := s.queue.map fun (q : Queued) => { q with since := min (q.since + 1) U16_MAX },
           lptTapHoldTimeout := s.lptTapHoldTimeout - 1,
           tapDanceEager := s.tapDanceEager.bind tdeTick,
           histKeys := histTick s.histKeys, histInputs := histTick s.histInputs }

namespace Layout
variable (s : Layout)
@[simp] theorem aged_states : s.aged.states = s.states := rfl
@[simp] theorem aged_waiting : s.aged.waiting = s.waiting := rfl
@[simp] theorem aged_extraWaiting : s.aged.extraWaiting = s.extraWaiting := rfl
@[simp] theorem aged_oneshot : s.aged.oneshot = s.oneshot := rfl
@[simp] theorem aged_actionQueue : s.aged.actionQueue = s.actionQueue := rfl
@[simp] theorem aged_activeSequences : s.aged.activeSequences = s.activeSequences := rfl
@[simp] theorem aged_cfg : s.aged.cfg = s.cfg := rfl
@[simp] theorem aged_defaultLayer : s.aged.defaultLayer = s.defaultLayer := rfl
@[simp] theorem aged_tapDanceEager : s.aged.tapDanceEager = s.tapDanceEager.bind tdeTick := rfl
@[simp] theorem aged_lptTapHoldTimeout : s.aged.lptTapHoldTimeout = s.lptTapHoldTimeout - 1 := rfl
@[simp] theorem aged_queue :
    s.aged.queue = s.queue.map fun (q : Queued) => { q with since := min (q.since + 1) U16_MAX } := rfl
end Layout

/-! ## each stage where it is the identity -/

theorem processSequences_of_nil (s : Layout) (h1 : s.activeSequences = [])
    (h2 : ∀ st ∈ s.states, st.repeats = false) : processSequences s = s := by
  unfold processSequences
  simp only [h1, List.length_nil, processSequences.go, List.isEmpty_nil, if_true]
  split
  · rename_i evs heq
    obtain ⟨st, hst, hf⟩ := List.exists_of_findSome?_eq_some heq
    have := h2 st (List.mem_reverse.mp hst)
    cases st <;> simp only [St.repeats, reduceCtorEq] at this <;> cases hf
  · rfl

theorem processSequences_idle {s : Layout} (h : SeqIdle s) : processSequences s = s :=
  processSequences_of_nil s h.seqs h.norep

theorem tickPre_idle {s : Layout} (h : SeqIdle s) : tickPre s = s.aged := by
  unfold tickPre Layout.aged
  cases s.tapDanceEager <;>
    simp (disch := first | exact h.seqs | exact h.norep) only [processSequences_of_nil, Option.bind]

/-- the form of the aged state that fragments without eager tap-dance write out -/
theorem aged_of_tde_none {s : Layout} (h : s.tapDanceEager = none) :
    s.aged = { s with queue := s.queue.map fun (q : Queued) => { q with since := min (q.since + 1) U16_MAX },
                      lptTapHoldTimeout := s.lptTapHoldTimeout - 1,
                      histKeys := histTick s.histKeys, histInputs := histTick s.histInputs } := by
  unfold Layout.aged
  simp only [h, Option.bind]

theorem processSequenceCustom_fields (s : Layout) (cu : CustomEv) :
    (processSequenceCustom s cu).1 = { s with states := (processSequenceCustom s cu).1.states } := by
  unfold processSequenceCustom
  split <;> rfl

/-! ## the first stage when sequences are playing -/

/-- `tickPre` before sequences step and histories age -/
def tickPre0 (s : Layout) : Layout :=
  { s with queue := s.queue.map fun (q : Queued) => { q with since := min (q.since + 1) U16_MAX },
           lptTapHoldTimeout := s.lptTapHoldTimeout - 1, tapDanceEager := s.tapDanceEager.bind tdeTick }

theorem tickPre_eq (s : Layout) :
    tickPre s = { processSequences (tickPre0 s) with
      histKeys := histTick (processSequences (tickPre0 s)).histKeys,
      histInputs := histTick (processSequences (tickPre0 s)).histInputs } := by
  unfold tickPre tickPre0
  cases h : s.tapDanceEager with
  | some t => rfl
  | none => cases s; cases h; rfl

theorem tickOneshot_inactive {s : Layout} (hk : s.oneshot.keys = []) : tickOneshot s = .ok (s, .noEvent) := by
  unfold tickOneshot OneShotState.tick
  simp only [hk, List.isEmpty_nil, if_true]

theorem processExtraWaitings_nil {s : Layout} (h : s.extraWaiting = []) (cu : CustomEv) :
    processExtraWaitings s cu = .ok (s, cu) := by
  unfold processExtraWaitings
  split
  · rfl
  · simp only [h, tickExtraWaitings, List.reverse_nil]
    congr
    cases s; simp_all

/-- a tick that already has a custom event does not even count `extra_waiting` down -/
theorem processExtraWaitings_frozen (s : Layout) {cu : CustomEv} (h : cu ≠ .noEvent) :
    processExtraWaitings s cu = .ok (s, cu) := by
  unfold processExtraWaitings
  rw [if_pos (bne_iff_ne.mpr h)]

theorem processSequenceCustom_go_plain (cu : CustomEv) : ∀ l : List St, (∀ st ∈ l, st.seqCustom = false) →
    processSequenceCustom.go cu l = (l, cu)
  | [], _ => rfl
  | st :: rest, h => by
    have ih := processSequenceCustom_go_plain cu rest fun x hx => h x (List.mem_cons_of_mem _ hx)
    have := h st List.mem_cons_self
    cases st <;> simp only [St.seqCustom, reduceCtorEq] at this <;> simp only [processSequenceCustom.go, ih]

theorem processSequenceCustom_plain {s : Layout} (h : ∀ st ∈ s.states, st.seqCustom = false) (cu : CustomEv) :
    processSequenceCustom s cu = (s, cu) := by
  unfold processSequenceCustom
  split
  · rfl
  · have hf : s.states.filter (· != .tombstone) = s.states :=
      List.filter_eq_self.mpr fun st hst => by
        have := h st hst
        cases st <;> first | rfl | cases this
    simp only [hf, processSequenceCustom_go_plain cu s.states h]

/-! ## releases by coordinate -/

/-- a state that reports its release as a custom event -/
def St.isCustom : St → Bool
  | .custom .. => true
  | _ => false

theorem St.release_eq (st : St) (c : Coord) (cu : CustomEv) :
    ∃ cu', st.release c cu = (if st.coord != some c then some st else none, cu') ∧
      (st.isCustom = false → cu' = cu) := by
  cases st with
  | custom id co =>
    by_cases hco : co = c
    · exact ⟨cu.update (.release id), by simp [St.release, St.coord, hco], fun h => nomatch h⟩
    · exact ⟨cu, by simp [St.release, St.coord, hco], fun _ => rfl⟩
  | normalKey kc co f => by_cases hco : co = c <;> exact ⟨cu, by simp [St.release, St.coord, hco], fun _ => rfl⟩
  | layerModifier v co => by_cases hco : co = c <;> exact ⟨cu, by simp [St.release, St.coord, hco], fun _ => rfl⟩
  | repeatingSequence e co => by_cases hco : co = c <;> exact ⟨cu, by simp [St.release, St.coord, hco], fun _ => rfl⟩
  | _ => exact ⟨cu, by simp [St.release, St.coord], fun _ => rfl⟩

/-- **releasing by coordinate removes exactly the states of that coordinate**, whatever the states
are, as long as none is flagged clear-on-next-release; the custom event changes only if a custom
state goes -/
theorem releaseStates_filter (b : Bool) (c : Coord) : ∀ (states : List St) (cu : CustomEv),
    (∀ st ∈ states, st.clearOnNextRelease = false) →
    ∃ cu', releaseStates b c states cu = (states.filter (fun st => st.coord != some c), cu') ∧
      ((∀ st ∈ states, st.isCustom = false) → cu' = cu)
  | [], cu, _ => ⟨cu, rfl, fun _ => rfl⟩
  | st :: rest, cu, h => by
    obtain ⟨cu1, e1, n1⟩ := st.release_eq c cu
    obtain ⟨cu', e, n⟩ := releaseStates_filter b c rest cu1 fun x hx => h x (List.mem_cons_of_mem _ hx)
    refine ⟨cu', ?_, fun hc => (n fun x hx => hc x (List.mem_cons_of_mem _ hx)).trans (n1 (hc st List.mem_cons_self))⟩
    have hcl := h st List.mem_cons_self
    cases hb : st.coord != some c <;>
      simp only [releaseStates, hcl, Bool.and_false, Bool.false_eq_true, if_false, if_true, e1, e, List.filter_cons, hb]

/-! ## key states that only the main stage and a release by coordinate touch -/

/-- no state asks to be cleared on the next release: a release by coordinate is then a filter -/
def Unflagged (sts : List St) : Prop := ∀ st ∈ sts, st.clearOnNextRelease = false

/-- no state reports its release as a custom event -/
def Uncustom (sts : List St) : Prop := ∀ st ∈ sts, st.isCustom = false

/-- what the first, second and last stage of `tick` ask of the key states to leave them alone: the
one lemma a fragment proves about its own state predicate -/
def Still (sts : List St) : Prop :=
  ∀ st ∈ sts, st.repeats = false ∧ st.seqCustom = false ∧ st.clearOnNextRelease = false

theorem Unflagged.sub {a b : List St} (h : Unflagged b) (hs : ∀ st ∈ a, st ∈ b) : Unflagged a :=
  fun st hst => h st (hs st hst)
theorem Uncustom.sub {a b : List St} (h : Uncustom b) (hs : ∀ st ∈ a, st ∈ b) : Uncustom a :=
  fun st hst => h st (hs st hst)
theorem Still.sub {a b : List St} (h : Still b) (hs : ∀ st ∈ a, st ∈ b) : Still a :=
  fun st hst => h st (hs st hst)

theorem Unflagged.filter {sts : List St} (h : Unflagged sts) (p : St → Bool) : Unflagged (sts.filter p) :=
  h.sub fun _ hst => (List.mem_filter.mp hst).1
theorem Uncustom.filter {sts : List St} (h : Uncustom sts) (p : St → Bool) : Uncustom (sts.filter p) :=
  h.sub fun _ hst => (List.mem_filter.mp hst).1

theorem Still.unflagged {sts : List St} (h : Still sts) : Unflagged sts := fun st hst => (h st hst).2.2
theorem Still.norep {sts : List St} (h : Still sts) : ∀ st ∈ sts, st.repeats = false := fun st hst => (h st hst).1
theorem Still.noSeqCustom {sts : List St} (h : Still sts) : ∀ st ∈ sts, st.seqCustom = false :=
  fun st hst => (h st hst).2.1

theorem Still.seqIdle {s : Layout} (h : Still s.states) (h1 : s.activeSequences = []) : SeqIdle s := ⟨h1, h.norep⟩

/-! ## `tick` as the chain of its stages -/

/-- a queued action is all a tick does -/
theorem tick_queued {s : Layout} {coord : Coord} {delay : Nat} {action : Action} {rest : ActionQueue}
    (h : s.actionQueue = (coord, delay, action) :: rest) :
    tick s = match ({ s with actionQueue := rest } : Layout).transOrder with
      | .error c => .error c
      | .ok order => doAction FUEL { s with actionQueue := rest } action coord delay false (order.drop 1) := by
  unfold tick
  simp only [h]
  rfl

/-- a tick with no queued action that succeeds went through all five stages -/
theorem tick_stages {s s' : Layout} {cu : CustomEv} (ha : s.actionQueue = []) (ht : tick s = .ok (s', cu)) :
    ∃ s1 c1 s2 c2 s3 c3, tickOneshot (tickPre s) = .ok (s1, c1) ∧ tickMain s1 = .ok (s2, c2) ∧
      processExtraWaitings s2 (c1.update c2) = .ok (s3, c3) ∧ processSequenceCustom s3 c3 = (s', cu) := by
  unfold tick at ht
  simp only [ha] at ht
  cases e1 : tickOneshot (tickPre s) with
  | error c => simp only [e1] at ht; cases ht
  | ok r1 =>
    obtain ⟨s1, c1⟩ := r1
    simp only [e1] at ht
    cases e2 : tickMain s1 with
    | error c => simp only [e2] at ht; cases ht
    | ok r2 =>
      obtain ⟨s2, c2⟩ := r2
      simp only [e2] at ht
      cases e3 : processExtraWaitings s2 (c1.update c2) with
      | error c => simp only [e3] at ht; cases ht
      | ok r3 =>
        obtain ⟨s3, c3⟩ := r3
        simp only [e3] at ht
        exact ⟨s1, c1, s2, c2, s3, c3, rfl, e2, e3, Except.ok.inj ht⟩

theorem tick_of_stages {s s1 s2 s3 : Layout} {c1 c2 c3 : CustomEv} (ha : s.actionQueue = [])
    (e1 : tickOneshot (tickPre s) = .ok (s1, c1)) (e2 : tickMain s1 = .ok (s2, c2))
    (e3 : processExtraWaitings s2 (c1.update c2) = .ok (s3, c3)) :
    tick s = .ok (processSequenceCustom s3 c3) := by
  unfold tick
  simp only [ha, e1, e2, e3]

/-- the first three stages decide the tick when the third leaves no extra waiting state and no
sequence-custom state behind -/
theorem tick_eq {s s1 s2 : Layout} {c1 c2 : CustomEv} (ha : s.actionQueue = [])
    (e1 : tickOneshot (tickPre s) = .ok (s1, c1)) (e2 : tickMain s1 = .ok (s2, c2))
    (hx : s2.extraWaiting = []) (hp : ∀ st ∈ s2.states, st.seqCustom = false) :
    tick s = .ok (s2, c1.update c2) := by
  unfold tick
  simp only [ha, e1, e2, processExtraWaitings_nil hx, processSequenceCustom_plain hp]

theorem CustomEv.noEvent_update (c : CustomEv) : CustomEv.noEvent.update c = c := by
  cases c <;> rfl

/-- with no event from the one-shot stage the tick is its main stage, crash or not, provided the main
stage never leaves an extra waiting state or a sequence-custom state behind -/
theorem tick_eq_main {s s1 : Layout} (ha : s.actionQueue = [])
    (e1 : tickOneshot (tickPre s) = .ok (s1, .noEvent))
    (hm : ∀ s2 c2, tickMain s1 = .ok (s2, c2) → s2.extraWaiting = [] ∧ ∀ st ∈ s2.states, st.seqCustom = false) :
    tick s = tickMain s1 := by
  cases e2 : tickMain s1 with
  | error c =>
    unfold tick
    simp only [ha, e1, e2]
  | ok r =>
    rw [tick_eq ha e1 e2 (hm r.1 r.2 e2).1 (hm r.1 r.2 e2).2, CustomEv.noEvent_update]

/-- a crash of a tick with no queued action and no extra waiting state is a crash of the second or
third stage -/
theorem tick_error {s : Layout} {c : Crash} (ha : s.actionQueue = []) (ht : tick s = .error c) :
    tickOneshot (tickPre s) = .error c ∨
    ∃ s1 c1, tickOneshot (tickPre s) = .ok (s1, c1) ∧
      (tickMain s1 = .error c ∨
       ∃ s2 c2, tickMain s1 = .ok (s2, c2) ∧ processExtraWaitings s2 (c1.update c2) = .error c) := by
  unfold tick at ht
  simp only [ha] at ht
  cases e1 : tickOneshot (tickPre s) with
  | error c' => simp only [e1] at ht; exact .inl ht
  | ok r1 =>
    obtain ⟨s1, c1⟩ := r1
    simp only [e1] at ht
    refine .inr ⟨s1, c1, rfl, ?_⟩
    cases e2 : tickMain s1 with
    | error c' => simp only [e2] at ht; exact .inl ht
    | ok r2 =>
      obtain ⟨s2, c2⟩ := r2
      simp only [e2] at ht
      refine .inr ⟨s2, c2, rfl, ?_⟩
      cases e3 : processExtraWaitings s2 (c1.update c2) with
      | error c' => simp only [e3] at ht; exact ht
      | ok r3 => simp only [e3] at ht; cases ht

/-- **a tick of a state with no queued action and no sequence**: the aged state
goes through the one-shot and the main stage; the last two stages do nothing once the main stage's
result is known to hold no extra waiting state and no sequence-custom state -/
theorem tick_plain {s s' : Layout} {cu : CustomEv} (ha : s.actionQueue = []) (hs : SeqIdle s) (ht : tick s = .ok (s', cu)) :
    ∃ s1 c1 s2 c2, tickOneshot s.aged = .ok (s1, c1) ∧ tickMain s1 = .ok (s2, c2) ∧
      (s2.extraWaiting = [] → (∀ st ∈ s2.states, st.seqCustom = false) → s' = s2 ∧ cu = c1.update c2) := by
  obtain ⟨s1, c1, s2, c2, s3, c3, e1, e2, e3, e4⟩ := tick_stages ha ht
  refine ⟨s1, c1, s2, c2, tickPre_idle hs ▸ e1, e2, fun hx hp => ?_⟩
  rw [processExtraWaitings_nil hx] at e3
  cases e3
  rw [processSequenceCustom_plain hp] at e4
  cases e4
  exact ⟨rfl, rfl⟩

/-! ## the main stage, case by case -/

/-- nothing in `waiting` but something in `extra_waiting`: no event is dequeued -/
theorem tickMain_blocked {s : Layout} (h1 : s.waiting = none) (h2 : s.extraWaiting ≠ []) :
    tickMain s = .ok (s, .noEvent) := by
  unfold tickMain
  cases hx : s.extraWaiting with
  | nil => exact absurd hx h2
  | cons _ _ => simp only [h1, List.isEmpty_cons, Bool.false_eq_true, if_false]

theorem tickMain_paused {s : Layout} (h1 : s.waiting = none) (h2 : s.extraWaiting = [])
    (h3 : 0 < s.oneshot.pauseInputProcessingTicks) :
    tickMain s = .ok ({ s with oneshot := { s.oneshot with
        pauseInputProcessingTicks := s.oneshot.pauseInputProcessingTicks - 1 } }, .noEvent) := by
  unfold tickMain
  simp only [h1, h2, List.isEmpty_nil, if_true, h3]

theorem tickMain_pops {s : Layout} (h1 : s.waiting = none) (h2 : s.extraWaiting = [])
    (h3 : s.oneshot.pauseInputProcessingTicks = 0) (q : Queued) (rest : List Queued)
    (hq : s.queue = q :: rest) : tickMain s = dequeue FUEL (s.setQueue rest) q := by
  unfold tickMain
  simp only [h1, h2, List.isEmpty_nil, if_true, h3, Nat.lt_irrefl, if_false, hq]

theorem tickMain_empty {s : Layout} (h1 : s.waiting = none) (h2 : s.extraWaiting = [])
    (h3 : s.oneshot.pauseInputProcessingTicks = 0) (hq : s.queue = []) : tickMain s = .ok (s, .noEvent) := by
  unfold tickMain
  simp only [h1, h2, List.isEmpty_nil, if_true, h3, Nat.lt_irrefl, if_false, hq]

/-- what the third stage does while nothing is waiting: an input pause counts down, or nothing is
queued, or the oldest queued event is processed -/
inductive MainIdle (s : Layout) : Layout → CustomEv → Prop
  | paused (hp : 0 < s.oneshot.pauseInputProcessingTicks) :
      MainIdle s { s with oneshot := { s.oneshot with
        pauseInputProcessingTicks := s.oneshot.pauseInputProcessingTicks - 1 } } .noEvent
  | empty (hp : s.oneshot.pauseInputProcessingTicks = 0) (hq : s.queue = []) : MainIdle s s .noEvent
  | pops (hp : s.oneshot.pauseInputProcessingTicks = 0) {q : Queued} {rest : List Queued} {s2 : Layout}
      {c2 : CustomEv} (hq : s.queue = q :: rest) (hd : dequeue FUEL (s.setQueue rest) q = .ok (s2, c2)) :
      MainIdle s s2 c2

theorem mainIdle {s s2 : Layout} {c2 : CustomEv} (hw : s.waiting = none) (hx : s.extraWaiting = [])
    (hm : tickMain s = .ok (s2, c2)) : MainIdle s s2 c2 := by
  by_cases hp : 0 < s.oneshot.pauseInputProcessingTicks
  · rw [tickMain_paused hw hx hp] at hm
    cases hm
    exact .paused hp
  · have hp0 : s.oneshot.pauseInputProcessingTicks = 0 := Nat.eq_zero_of_not_pos hp
    cases hq : s.queue with
    | nil =>
      rw [tickMain_empty hw hx hp0 hq] at hm
      cases hm
      exact .empty hp0 hq
    | cons q rest => exact .pops hp0 hq (tickMain_pops hw hx hp0 q rest hq ▸ hm)

/-- **what the third stage does**: the waiting key's `tick_wt` leaves it undecided, or decides and the
decision is performed (`resolve`); with nothing waiting, `extra_waiting` blocks the queue or the stage is
idle in one of the three ways of `MainIdle` -/
inductive MainStep (s : Layout) : Layout → CustomEv → Prop
  | waits {w w' : Waiting} {q : List Queued} {aq : ActionQueue} (hw : s.waiting = some w)
      (e : tickWt w s.queue s.actionQueue = .ok (w', q, aq, none)) :
      MainStep s { s with waiting := some w', queue := q, actionQueue := aq } .noEvent
  | resolves {w w' : Waiting} {q : List Queued} {aq : ActionQueue} {a : WAct} {pq : Option (List Coord)}
      {s2 : Layout} {c2 : CustomEv} (hw : s.waiting = some w)
      (e : tickWt w s.queue s.actionQueue = .ok (w', q, aq, some (a, pq)))
      (hr : resolve { s with waiting := none, queue := q, actionQueue := aq } w' pq a = .ok (s2, c2)) :
      MainStep s s2 c2
  | blocked (hw : s.waiting = none) (hx : s.extraWaiting ≠ []) : MainStep s s .noEvent
  | idle {s2 : Layout} {c2 : CustomEv} (hw : s.waiting = none) (hx : s.extraWaiting = [])
      (h : MainIdle s s2 c2) : MainStep s s2 c2

theorem mainStep {s s2 : Layout} {c2 : CustomEv} (hm : tickMain s = .ok (s2, c2)) : MainStep s s2 c2 := by
  cases hw : s.waiting with
  | none =>
    by_cases hx : s.extraWaiting = []
    · exact .idle hw hx (mainIdle hw hx hm)
    · rw [tickMain_blocked hw hx] at hm
      cases hm
      exact .blocked hw hx
  | some w =>
    cases e : tickWt w s.queue s.actionQueue with
    | error c => rw [tickMain_waiting_error hw e] at hm; cases hm
    | ok r =>
      obtain ⟨w', q, aq, r⟩ := r
      rw [tickMain_waiting hw e] at hm
      cases r with
      | none => cases hm; exact .waits hw e
      | some r => exact .resolves hw e hm

end KVerif.L
