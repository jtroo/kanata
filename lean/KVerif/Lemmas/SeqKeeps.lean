/-
What sequences in progress can change.  A step of a sequence writes the key states, the key history and
the ring of sequences; it reaches the one-shot state through `handle_press(Other)` / `handle_release` only,
which never touch its key list and do nothing while no one-shot key is active.  `SeqKeeps s s'` says
that; it holds of `stepSequence`, of `process_sequences` (by the normal form of Lemmas/MacroPlay.lean) and
between `s.aged` and `tickPre s`, so whatever reads none of these fields sees the first stage of a tick
as plain ageing (`SeqKeeps.keeps`).
-/
import KVerif.Lemmas.MacroPlay
import KVerif.Lemmas.TickStages
namespace KVerif.L
open KVerif.Macro

structure SeqKeeps (s s' : Layout) : Prop where
  eq : s' = { s with states := s'.states, histKeys := s'.histKeys, oneshot := s'.oneshot,
                     activeSequences := s'.activeSequences }
  keys : s'.oneshot.keys = s.oneshot.keys
  osh : s.oneshot.keys = [] → s'.oneshot = s.oneshot

namespace SeqKeeps

theorem refl (s : Layout) : SeqKeeps s s := ⟨rfl, rfl, fun _ => rfl⟩

theorem trans {a b c : Layout} (h1 : SeqKeeps a b) (h2 : SeqKeeps b c) : SeqKeeps a c :=
  ⟨h2.eq.trans (by rw [h1.eq]), h2.keys.trans h1.keys,
   fun hk => (h2.osh (h1.keys.trans hk)).trans (h1.osh hk)⟩

/-- **a reading of the layout that ignores the four fields is unchanged** (`f` is a field, or any
function of the other fields) -/
theorem keeps {s s' : Layout} (h : SeqKeeps s s') {α} (f : Layout → α)
    (hf : ∀ (t : Layout) st hk os sq, f { t with states := st, histKeys := hk, oneshot := os, activeSequences := sq } = f t) :
    f s' = f s :=
  (congrArg f h.eq).trans (hf s _ _ _ _)

end SeqKeeps

theorem handlePress_keys (o : OneShotState) (k : OshKey) : (o.handlePress k).1.keys = o.keys := by
  unfold OneShotState.handlePress
  split
  · rfl
  · cases k <;> (simp only []; split <;> rfl)

theorem handleRelease_keys (o : OneShotState) (c : Coord) : (o.handleRelease c).1.keys = o.keys := by
  unfold OneShotState.handleRelease
  split
  · rfl
  · split
    · split <;> rfl
    · rfl

theorem fakePress_keeps (s : Layout) (kc : KeyCode) : SeqKeeps s (fakePress s kc) :=
  ⟨rfl, handlePress_keys s.oneshot (.other (0, 0)), fun h => by
    show (s.oneshot.handlePress (.other (0, 0))).1 = s.oneshot
    unfold OneShotState.handlePress
    rw [if_pos (by rw [h]; rfl)]⟩

theorem applyEff_keeps (s : Layout) (e : Eff) : SeqKeeps s (applyEff s e) := by
  cases e with
  | idle => exact .refl s
  | untap k => exact ⟨rfl, rfl, fun _ => rfl⟩
  | perform ev =>
    cases ev with
    | press kc | tap kc => exact fakePress_keeps s kc
    | release kc =>
      exact ⟨rfl, handleRelease_keys s.oneshot (0, 0), fun h => by
        show (s.oneshot.handleRelease (0, 0)).1 = s.oneshot
        unfold OneShotState.handleRelease
        rw [if_pos (by rw [h]; rfl)]⟩
    | custom id => exact ⟨rfl, rfl, fun _ => rfl⟩
    | noOp | delay _ | complete => exact .refl s

theorem stepSequence_keeps (s : Layout) (q : SeqState) : SeqKeeps s (stepSequence s q).1 := by
  rw [stepSequence_eq]; exact applyEff_keeps s _

theorem putBack_keeps (s : Layout) (q : SeqState) : SeqKeeps s (putBack s q) := by
  unfold putBack; split
  · exact ⟨rfl, rfl, fun _ => rfl⟩
  · exact .refl s

theorem seqLoop_keeps : ∀ (n : Nat) (s : Layout), SeqKeeps s (seqLoop n s)
  | 0, s => .refl s
  | n + 1, s => by
    unfold seqLoop
    split
    · exact .refl s
    · rename_i q rest _
      have h1 : SeqKeeps s { s with activeSequences := rest } := ⟨rfl, rfl, fun _ => rfl⟩
      exact ((h1.trans (applyEff_keeps _ _)).trans (putBack_keeps _ _)).trans (seqLoop_keeps n _)

theorem restartRepeating_keeps (s : Layout) : SeqKeeps s (restartRepeating s) := by
  unfold restartRepeating
  split
  · split
    · exact ⟨rfl, rfl, fun _ => rfl⟩
    · exact .refl s
  · exact .refl s

theorem processSequences_keeps (s : Layout) : SeqKeeps s (processSequences s) := by
  rw [processSequences_eq]
  exact (seqLoop_keeps _ s).trans (restartRepeating_keeps _)

/-- **the first stage of a tick is ageing, up to what sequences write** -/
theorem tickPre_keeps (s : Layout) : SeqKeeps s.aged (tickPre s) := by
  have h := processSequences_keeps (tickPre0 s)
  rw [tickPre_eq]
  have e := h.eq
  generalize processSequences (tickPre0 s) = p at h e ⊢
  refine ⟨?_, h.keys, h.osh⟩
  rw [e]
  rfl

end KVerif.L
