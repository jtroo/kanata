/-
Lemmas for C16 about template expansion: the loop of `expand` (deftemplate.rs) against the
substitution semantics `expandSpec`.
-/
import KVerif.Lemmas.CfgTreeCond
namespace KVerif.CfgTree

mutual
  /-- fully expanded: no `(template-expand …)` / `(t! …)` list anywhere -/
  def nfTree : Tree → Bool
    | .atom _ => true
    | .list l => !isExpandHead l && nfList l
  def nfList : List Tree → Bool
    | [] => true
    | t :: rest => nfTree t && nfList rest
end

mutual
  def depthTree : Tree → Nat
    | .atom _ => 0
    | .list l => 1 + depthList l
  def depthList : List Tree → Nat
    | [] => 0
    | t :: rest => max (depthTree t) (depthList rest)
end

theorem nfList_cons {t : Tree} {rest : List Tree} :
    nfList (t :: rest) = true ↔ nfTree t = true ∧ nfList rest = true := by
  rw [nfList, Bool.and_eq_true]

theorem nfTree_list {l : List Tree} :
    nfTree (.list l) = true ↔ isExpandHead l = false ∧ nfList l = true := by
  rw [nfTree, Bool.and_eq_true, Bool.not_eq_true']

theorem nfList_eq_all (l : List Tree) : nfList l = l.all nfTree := by
  induction l with
  | nil => rfl
  | cons t rest ih => rw [nfList, List.all_cons, ih]

theorem nfList_append (a b : List Tree) : nfList (a ++ b) = (nfList a && nfList b) := by
  simp only [nfList_eq_all, List.all_append]

theorem nfList_mem (ts : List Tree) (l : List Tree) (h : Tree.list l ∈ ts) (hn : nfList ts = true) :
    nfList l = true := by
  rw [nfList_eq_all, List.all_eq_true] at hn
  exact (nfTree_list.mp (hn _ h)).2

theorem depthList_append (a b : List Tree) : depthList (a ++ b) = max (depthList a) (depthList b) := by
  induction a with
  | nil => simp [depthList]
  | cons t rest ih => simp [depthList, ih, Nat.max_assoc]

/-! ### the pass -/

/-- `ExpandPass rec T ts ts1 c`: one iteration of the `for` loop of `expand` succeeds on `ts`,
leaves `ts1` and reports `c`.  A call is replaced by its instantiated body, any other list by what
`rec` makes of it; only a replaced call raises the flag. -/
inductive ExpandPass (rec : List Tree → Res (List Tree)) (T : List Template) :
    List Tree → List Tree → Bool → Prop
  | nil : ExpandPass rec T [] [] false
  | atom {a rest r c} : ExpandPass rec T rest r c → ExpandPass rec T (.atom a :: rest) (.atom a :: r) c
  | call {l repl rest r c} : isExpandHead l = true → instantiate T l = .ok repl →
      ExpandPass rec T rest r c → ExpandPass rec T (.list l :: rest) (repl ++ r) true
  | nested {l l' rest r c} : isExpandHead l = false → rec l = .ok l' →
      ExpandPass rec T rest r c → ExpandPass rec T (.list l :: rest) (.list l' :: r) c

variable {rec rec' : List Tree → Res (List Tree)} {T : List Template}

theorem ExpandPass.eq {ts ts1 : List Tree} {c : Bool} (h : ExpandPass rec T ts ts1 c) :
    expandPass rec T ts = .ok (ts1, c) := by
  induction h with
  | nil => rfl
  | atom _ ih => rw [expandPass, ih]
  | call hh hi _ ih => rw [expandPass, if_pos hh, hi, ih]
  | nested hh hl _ ih => rw [expandPass, hh, hl, ih]; rfl

theorem ExpandPass.of_eq : ∀ {ts ts1 : List Tree} {c : Bool}, expandPass rec T ts = .ok (ts1, c) →
    ExpandPass rec T ts ts1 c := by
  intro ts
  induction ts with
  | nil => intro _ _ h; cases h; exact .nil
  | cons t rest ih =>
    intro _ _ h
    cases t with
    | atom a =>
      rw [expandPass] at h
      split at h <;> cases h
      exact .atom (ih ‹_›)
    | list l =>
      rw [expandPass] at h
      split at h <;> split at h
      · cases h
      · split at h <;> cases h
        exact .call ‹_› ‹_› (ih ‹_›)
      · cases h
      · split at h <;> cases h
        exact .nested (Bool.eq_false_iff.mpr ‹_›) ‹_› (ih ‹_›)

/-- a pass only uses `rec` on the nested lists: a more defined `rec` gives the same result -/
theorem ExpandPass.mono (h : ∀ l x, rec l = .ok x → rec' l = .ok x) {ts ts1 : List Tree} {c : Bool}
    (p : ExpandPass rec T ts ts1 c) : ExpandPass rec' T ts ts1 c := by
  induction p with
  | nil => exact .nil
  | atom _ ih => exact .atom ih
  | call hh hi _ ih => exact .call hh hi ih
  | nested hh hl _ ih => exact .nested hh (h _ _ hl) ih

theorem ExpandPass.append {a a1 b b1 : List Tree} {ca cb : Bool} (pa : ExpandPass rec T a a1 ca)
    (pb : ExpandPass rec T b b1 cb) : ExpandPass rec T (a ++ b) (a1 ++ b1) (ca || cb) := by
  induction pa with
  | nil => exact pb
  | atom _ ih => exact .atom ih
  | call hh hi _ ih => rw [List.append_assoc]; exact .call hh hi ih
  | nested hh hl _ ih => exact .nested hh hl ih

theorem ExpandPass.of_nf : ∀ {ts : List Tree}, nfList ts = true →
    (∀ l, Tree.list l ∈ ts → rec l = .ok l) → ExpandPass rec T ts ts false := by
  intro ts
  induction ts with
  | nil => intro _ _; exact .nil
  | cons t rest ih =>
    intro hn hrec
    have ⟨ht, hn⟩ := nfList_cons.mp hn
    have hrest := ih hn (fun l hl => hrec l (List.mem_cons_of_mem _ hl))
    cases t with
    | atom s => exact .atom hrest
    | list l => exact .nested (nfTree_list.mp ht).1 (hrec l List.mem_cons_self) hrest

theorem expandLoop_step {G : Nat} {ts ts1 r : List Tree} {c : Bool}
    (p : ExpandPass (expandLoop G T) T ts ts1 c)
    (h : if c then expandLoop G T ts1 = .ok r else ts1 = r) : expandLoop (G + 1) T ts = .ok r := by
  rw [expandLoop, p.eq]
  cases c
  · rw [← h]; rfl
  · exact h

theorem expandLoop_succ_ok {F : Nat} {ts r : List Tree} (h : expandLoop (F + 1) T ts = .ok r) :
    ∃ ts1 c, ExpandPass (expandLoop F T) T ts ts1 c ∧
      if c then expandLoop F T ts1 = .ok r else ts1 = r := by
  rw [expandLoop] at h
  split at h
  · cases h
  · rename_i ts1 c hp
    refine ⟨ts1, c, .of_eq hp, ?_⟩
    cases c
    · cases h; rfl
    · exact h

theorem expandLoop_mono (T : List Template) : ∀ (f f' : Nat) (ts r : List Tree),
    expandLoop f T ts = .ok r → f ≤ f' → expandLoop f' T ts = .ok r := by
  intro f
  induction f with
  | zero => intro f' ts r h; cases h
  | succ f ih =>
    intro f' ts r h hle
    obtain ⟨g, rfl⟩ : ∃ g, f' = g + 1 := ⟨f' - 1, by omega⟩
    have hg : f ≤ g := by omega
    obtain ⟨ts1, c, p, hc⟩ := expandLoop_succ_ok h
    refine expandLoop_step (p.mono fun l x hx => ih g l x hx hg) ?_
    cases c
    · exact hc
    · exact ih g ts1 r hc hg

theorem ExpandPass.fuel {F G : Nat} {ts ts1 : List Tree} {c : Bool}
    (p : ExpandPass (expandLoop F T) T ts ts1 c) (h : F ≤ G) :
    ExpandPass (expandLoop G T) T ts ts1 c :=
  p.mono fun l x hx => expandLoop_mono T F G l x hx h

/-! ### fully expanded forests are left alone -/

theorem depthList_mem (ts : List Tree) (l : List Tree) (h : Tree.list l ∈ ts) :
    depthList l < depthList ts := by
  induction ts with
  | nil => simp at h
  | cons t rest ih =>
    simp only [List.mem_cons] at h
    simp only [depthList]
    cases h with
    | inl h => subst h; simp only [depthTree]; omega
    | inr h => have := ih h; omega

/-- `expand` on a forest that contains no expansion returns it unchanged (given stack for its depth) -/
theorem expandLoop_nf (T : List Template) : ∀ (f : Nat) (ts : List Tree), nfList ts = true →
    depthList ts < f → expandLoop f T ts = .ok ts := by
  intro f
  induction f with
  | zero => intro ts _ h; omega
  | succ f ih =>
    intro ts hn hd
    refine expandLoop_step (c := false) (.of_nf hn fun l hl => ?_) rfl
    exact ih l (nfList_mem ts l hl hn) (by have := depthList_mem ts l hl; omega)

theorem ExpandPass.of_nf_fuel {G : Nat} {b : List Tree} (hn : nfList b = true)
    (hG : depthList b ≤ G) : ExpandPass (expandLoop G T) T b b false :=
  .of_nf hn fun l hl =>
    expandLoop_nf T G l (nfList_mem b l hl hn) (by have := depthList_mem b l hl; omega)

/-! ### building blocks of the simulation -/

theorem expandLoop_list (T : List Template) (F : Nat) (l l' : List Tree)
    (hh : isExpandHead l = false) (h : expandLoop F T l = .ok l') :
    expandLoop (F + 1) T [.list l] = .ok [.list l'] :=
  expandLoop_step (c := false) (.nested hh h .nil) rfl

theorem expandLoop_head (T : List Template) (F : Nat) (l repl r : List Tree)
    (hh : isExpandHead l = true) (hi : instantiate T l = .ok repl)
    (h : expandLoop F T repl = .ok r) :
    expandLoop (F + 1) T [.list l] = .ok r :=
  expandLoop_step (c := true) (.call hh hi .nil) (by rwa [List.append_nil])

theorem expandLoop_atom (T : List Template) (a : Str) :
    expandLoop 1 T [.atom a] = .ok [.atom a] :=
  expandLoop_step (c := false) (.atom .nil) rfl

theorem expandLoop_of_pass {G0 : Nat} {ts ts1 r : List Tree} {c : Bool}
    (pass : ∀ G, G0 ≤ G → ExpandPass (expandLoop G T) T ts ts1 c)
    (rest : if c then ∃ F, expandLoop F T ts1 = .ok r else ts1 = r) :
    ∃ F, expandLoop F T ts = .ok r := by
  cases c with
  | false => exact ⟨G0 + 1, expandLoop_step (pass G0 (Nat.le_refl _)) rest⟩
  | true =>
    obtain ⟨F, hF⟩ := rest
    exact ⟨max F G0 + 1, expandLoop_step (pass _ (Nat.le_max_right ..))
      (expandLoop_mono T F _ _ _ hF (Nat.le_max_left ..))⟩

theorem expandLoop_append_nf_left (T : List Template) : ∀ (Fb : Nat) (a b rb : List Tree),
    nfList a = true → expandLoop Fb T b = .ok rb →
    ∃ F, expandLoop F T (a ++ b) = .ok (a ++ rb) := by
  intro Fb
  induction Fb with
  | zero => intro a b rb _ h; cases h
  | succ Fb ih =>
    intro a b rb ha h
    obtain ⟨b1, cb, pb, hb⟩ := expandLoop_succ_ok h
    -- one combined pass, with enough fuel for the nested lists of both parts
    refine expandLoop_of_pass (G0 := max (depthList a) Fb) (ts1 := a ++ b1) (c := cb)
      (fun G hG => (ExpandPass.of_nf_fuel ha (by omega)).append (pb.fuel (by omega))) ?_
    cases cb with
    | false => exact congrArg (a ++ ·) hb
    | true => exact ih a b1 rb ha hb

/-- `expand` works on the parts of a forest independently: if both parts expand to fully expanded
results, the concatenation expands to the concatenation of the results. -/
theorem expandLoop_append (T : List Template) : ∀ (Fa Fb : Nat) (a ra b rb : List Tree),
    expandLoop Fa T a = .ok ra → expandLoop Fb T b = .ok rb →
    nfList ra = true → nfList rb = true →
    ∃ F, expandLoop F T (a ++ b) = .ok (ra ++ rb) := by
  intro Fa
  induction Fa with
  | zero => intro Fb a ra b rb h; cases h
  | succ Fa ih =>
    intro Fb a ra b rb ha hb hna hnb
    cases Fb with
    | zero => cases hb
    | succ Fb =>
      obtain ⟨a1, ca, pa, ha⟩ := expandLoop_succ_ok ha
      obtain ⟨b1, cb, pb, hb⟩ := expandLoop_succ_ok hb
      refine expandLoop_of_pass (G0 := max Fa Fb)
        (fun G hG => (pa.fuel (by omega)).append (pb.fuel (by omega))) ?_
      cases ca with
      | false =>
        subst ha
        cases cb with
        | false => subst hb; rfl
        | true => exact expandLoop_append_nf_left T Fb a1 b1 rb hna hb
      | true =>
        cases cb with
        | false =>
          -- the right part is finished: it runs on with the fuel its depth asks for
          subst hb
          exact ih _ a1 ra b1 b1 ha
            (expandLoop_nf T (depthList b1 + 1) b1 hnb (Nat.lt_succ_self _)) hna hnb
        | true => exact ih Fb a1 ra b1 rb ha hb hna hnb

/-! ### the substitution semantics -/

theorem flatMapR_singleton (g : Tree → Res (List Tree)) (t : Tree) : flatMapR g [t] = g t := by
  rw [flatMapR_cons]
  cases g t with
  | error e => rfl
  | ok r => exact congrArg Except.ok (List.append_nil r)

/-- one element of the forest under `expandSpec (f+1)` -/
def specStep (f : Nat) (T : List Template) (t : Tree) : Res (List Tree) :=
  match t with
  | .atom a => .ok [.atom a]
  | .list l =>
    if isExpandHead l then
      match instantiate T l with
      | .error e => .error e
      | .ok repl => expandSpec f T repl
    else
      match expandSpec f T l with
      | .error e => .error e
      | .ok l' => .ok [.list l']

theorem expandSpec_succ (f : Nat) (T : List Template) (ts : List Tree) :
    expandSpec (f + 1) T ts = flatMapR (specStep f T) ts := rfl

theorem expandSpec_call (f : Nat) {l repl : List Tree} (hh : isExpandHead l = true)
    (hi : instantiate T l = .ok repl) : expandSpec (f + 1) T [.list l] = expandSpec f T repl := by
  rw [expandSpec_succ, flatMapR_singleton, specStep, if_pos hh, hi]

theorem expandSpec_nested (f : Nat) {l : List Tree} (hh : isExpandHead l = false) :
    expandSpec (f + 1) T [.list l] =
      match expandSpec f T l with
      | .error e => .error e
      | .ok l' => .ok [.list l'] := by
  rw [expandSpec_succ, flatMapR_singleton, specStep, hh]
  rfl

/-- the fuel-free reading of the substitution semantics -/
def Expands (T : List Template) (ts r : List Tree) : Prop := ∃ f, expandSpec f T ts = .ok r

theorem expandSpec_induct {P : List Tree → List Tree → Prop} (nil : P [] [])
    (atom : ∀ {a rest r}, Expands T rest r → P rest r → P (.atom a :: rest) (.atom a :: r))
    (call : ∀ {l repl r1 rest r}, isExpandHead l = true → instantiate T l = .ok repl →
      Expands T repl r1 → P repl r1 → Expands T rest r → P rest r → P (.list l :: rest) (r1 ++ r))
    (nested : ∀ {l l' rest r}, isExpandHead l = false → Expands T l l' → P l l' →
      Expands T rest r → P rest r → P (.list l :: rest) (.list l' :: r)) :
    ∀ (f : Nat) (ts r : List Tree), expandSpec f T ts = .ok r → P ts r := by
  intro f
  induction f with
  | zero => intro ts r h; cases h
  | succ f ih =>
    intro ts
    induction ts with
    | nil => intro r h; cases h; exact nil
    | cons t rest ihr =>
      intro r h
      obtain ⟨r1, r2, h1, h2, rfl⟩ := flatMapR_cons_ok (g := specStep f T) h
      have hrest : Expands T rest r2 := ⟨f + 1, h2⟩
      cases t with
      | atom a => cases h1; exact atom hrest (ihr r2 h2)
      | list l =>
        rw [specStep] at h1
        split at h1 <;> split at h1
        · cases h1
        · exact call ‹_› ‹_› ⟨f, h1⟩ (ih _ _ h1) hrest (ihr r2 h2)
        · cases h1
        · cases h1
          exact nested (Bool.eq_false_iff.mpr ‹_›) ⟨f, ‹_›⟩ (ih _ _ ‹_›) hrest (ihr r2 h2)

/-- **completeness of `expand` for the substitution semantics.** If substituting template bodies
for their calls (with conditional evaluation), everywhere and recursively, yields the fully expanded
forest `r`, then the loop of `expand` terminates with exactly `r`. -/
theorem expandLoop_complete (T : List Template) (f : Nat) (ts r : List Tree)
    (h : expandSpec f T ts = .ok r) : nfList r = true → ∃ F, expandLoop F T ts = .ok r := by
  -- each element on its own, then `expandLoop_append`
  refine expandSpec_induct (P := fun ts r => nfList r = true → ∃ F, expandLoop F T ts = .ok r)
    (fun _ => ⟨1, rfl⟩) ?_ ?_ ?_ f ts r h
  · intro a rest r _ ih hn
    obtain ⟨F, hF⟩ := ih hn
    exact expandLoop_append T 1 F [.atom a] _ rest r (expandLoop_atom T a) hF rfl hn
  · intro l repl r1 rest r hh hi _ ih1 _ ih2 hn
    rw [nfList_append, Bool.and_eq_true] at hn
    obtain ⟨F1, h1⟩ := ih1 hn.1
    obtain ⟨F2, h2⟩ := ih2 hn.2
    exact expandLoop_append T _ F2 [.list l] r1 rest r (expandLoop_head T F1 l repl r1 hh hi h1)
      h2 hn.1 hn.2
  · intro l l' rest r hh _ ih1 _ ih2 hn
    have ⟨ht, hn⟩ := nfList_cons.mp hn
    obtain ⟨F1, h1⟩ := ih1 (nfTree_list.mp ht).2
    obtain ⟨F2, h2⟩ := ih2 hn
    exact expandLoop_append T _ F2 [.list l] [.list l'] rest r (expandLoop_list T F1 l l' hh h1)
      h2 (nfList_cons.mpr ⟨ht, rfl⟩) hn

/-! ### the substitution semantics is compositional -/

theorem flatMapR_imp (g g' : Tree → Res (List Tree)) (h : ∀ t x, g t = .ok x → g' t = .ok x) :
    ∀ (ts r : List Tree), flatMapR g ts = .ok r → flatMapR g' ts = .ok r := by
  intro ts
  induction ts with
  | nil => exact fun r hr => hr
  | cons t rest ih =>
    intro r hr
    obtain ⟨r1, r2, h1, h2, rfl⟩ := flatMapR_cons_ok hr
    rw [flatMapR_cons, h t r1 h1, ih r2 h2]

theorem expandSpec_mono (T : List Template) : ∀ (f f' : Nat) (ts r : List Tree),
    expandSpec f T ts = .ok r → f ≤ f' → expandSpec f' T ts = .ok r := by
  intro f
  induction f with
  | zero => intro f' ts r h; cases h
  | succ f ih =>
    intro f' ts r h hle
    obtain ⟨g, rfl⟩ : ∃ g, f' = g + 1 := ⟨f' - 1, by omega⟩
    have hg : f ≤ g := by omega
    rw [expandSpec_succ] at h ⊢
    refine flatMapR_imp _ _ ?_ ts r h
    intro t x hx
    cases t with
    | atom a => exact hx
    | list l =>
      rw [specStep] at hx ⊢
      split at hx <;> rename_i hh
      · rw [if_pos hh]
        split at hx
        · cases hx
        · exact ih g _ x hx hg
      · rw [if_neg hh]
        split at hx <;> cases hx
        rename_i l' hl
        rw [ih g l l' hl hg]

theorem Expands.append {T : List Template} {a ra b rb : List Tree} (ha : Expands T a ra)
    (hb : Expands T b rb) : Expands T (a ++ b) (ra ++ rb) := by
  obtain ⟨fa, ha⟩ := ha
  obtain ⟨fb, hb⟩ := hb
  refine ⟨max fa fb + 1, ?_⟩
  have ha' := expandSpec_mono T fa (max fa fb + 1) a ra ha (by omega)
  have hb' := expandSpec_mono T fb (max fa fb + 1) b rb hb (by omega)
  rw [expandSpec_succ] at ha' hb' ⊢
  rw [flatMapR_append, ha', hb']

theorem Expands.split {T : List Template} {a b r : List Tree} (h : Expands T (a ++ b) r) :
    ∃ ra rb, r = ra ++ rb ∧ Expands T a ra ∧ Expands T b rb := by
  obtain ⟨f, h⟩ := h
  cases f with
  | zero => cases h
  | succ f =>
    rw [expandSpec_succ, flatMapR_append] at h
    split at h
    · cases h
    · split at h <;> cases h
      exact ⟨_, _, rfl, ⟨f + 1, ‹_›⟩, ⟨f + 1, ‹_›⟩⟩

/-- a template call expands to what its instantiated body expands to -/
theorem Expands.call {T : List Template} {l repl r : List Tree} (hh : isExpandHead l = true)
    (hi : instantiate T l = .ok repl) : Expands T [.list l] r ↔ Expands T repl r := by
  constructor
  · rintro ⟨f, h⟩
    cases f with
    | zero => cases h
    | succ f => exact ⟨f, (expandSpec_call f hh hi).symm.trans h⟩
  · rintro ⟨f, h⟩
    exact ⟨f + 1, (expandSpec_call f hh hi).trans h⟩

/-- a list that is not a call expands inside -/
theorem Expands.nested {T : List Template} {l : List Tree} {r : List Tree}
    (hh : isExpandHead l = false) :
    Expands T [.list l] r ↔ ∃ l', r = [.list l'] ∧ Expands T l l' := by
  constructor
  · rintro ⟨f, h⟩
    cases f with
    | zero => cases h
    | succ f =>
      rw [expandSpec_nested f hh] at h
      split at h <;> cases h
      exact ⟨_, rfl, f, ‹_›⟩
  · rintro ⟨l', rfl, f, h⟩
    exact ⟨f + 1, by rw [expandSpec_nested f hh, h]⟩

theorem isExpandHead_cons (hd : Tree) (a b : List Tree) :
    isExpandHead (hd :: a) = isExpandHead (hd :: b) := by
  cases hd <;> rfl

theorem Expands.append_imp {T : List Template} {a a' b b' : List Tree}
    (ha : ∀ x, Expands T a x → Expands T a' x) (hb : ∀ x, Expands T b x → Expands T b' x)
    (r : List Tree) (h : Expands T (a ++ b) r) : Expands T (a' ++ b') r := by
  obtain ⟨ra, rb, rfl, h1, h2⟩ := Expands.split h
  exact (ha ra h1).append (hb rb h2)

theorem Expands.congr_append {T : List Template} {a a' b b' : List Tree}
    (ha : ∀ x, Expands T a x ↔ Expands T a' x) (hb : ∀ x, Expands T b x ↔ Expands T b' x)
    (r : List Tree) : Expands T (a ++ b) r ↔ Expands T (a' ++ b') r :=
  ⟨append_imp (fun x => (ha x).mp) (fun x => (hb x).mp) r,
    append_imp (fun x => (ha x).mpr) (fun x => (hb x).mpr) r⟩

/-- **template call = substituted body, anywhere.**  In any context, a forest with the call
`(template-expand name args…)` and the same forest with the instantiated body spliced in its place
expand to the same result. -/
theorem Expands.fill_call {T : List Template} {l repl : List Tree} (hh : isExpandHead l = true)
    (hi : instantiate T l = .ok repl) (c : FCtx) (hc : c.Plain) (r : List Tree) :
    Expands T (c.fill [.list l]) r ↔ Expands T (c.fill repl) r := by
  induction c generalizing r with
  | here pre post =>
    exact congr_append (congr_append (fun _ => .rfl) fun _ => Expands.call hh hi) (fun _ => .rfl) r
  | under pre hd c post ih =>
    refine congr_append (congr_append (fun _ => .rfl) fun x => ?_) (fun _ => .rfl) r
    -- whether the enclosing list is a call is decided by its head `hd` alone
    rw [Expands.nested ((isExpandHead_cons hd _ []).trans hc.1),
      Expands.nested ((isExpandHead_cons hd _ []).trans hc.1)]
    exact exists_congr fun l' => and_congr_right fun _ =>
      congr_append (a := [hd]) (fun _ => .rfl) (ih hc.2) l'

end KVerif.CfgTree
