/-
Helper lemmas for C12, permutation part: Heap's algorithm as modelled (`heaps`, `genPermutations`)
yields exactly the permutations of its input for the sizes the parser admits (2..=6).

Sound for every size: the algorithm only ever swaps two elements of its array.
Complete for 2..=6: (1) naturality — `heaps` commutes with `List.map`, so running it on any list is
running it on the index list `[0, …, n-1]` and reading the elements off; proved for every size by
induction.  (2) `perms` (insertion everywhere) enumerates exactly the lists `List.Perm`-equivalent to
its input; proved for every list by induction.  (3) on the index lists of length 2..6 every member of
`perms` is produced by Heap's algorithm: checked by complete evaluation in the kernel
(`decide +kernel`; at most 720 permutations), using a bitmap of base-8 codes so that the check is
linear.
Completeness of Heap's algorithm for every size is NOT proved (the array it leaves behind for even
sizes has no simple closed form in this variant); sizes outside 2..=6 never reach `gen_permutations`.
-/
import KVerif.Model.SeqSpec
namespace KVerif.Seq

/-! ### naturality of `swap`, `heaps` -/

theorem swap_map {α β : Type} (f : α → β) (a : List α) (i j : Nat) :
    swap (a.map f) i j = (swap a i j).map f := by
  unfold swap
  simp only [List.getElem?_map]
  cases a[i]? <;> cases a[j]? <;> simp [List.map_set]

theorem heaps_map {α β : Type} (f : α → β) :
    ∀ (k : Nat) (a : List α),
      heaps k (a.map f) = ((heaps k a).1.map (List.map f), (heaps k a).2.map f)
  | 0, a => by simp [heaps]
  | 1, a => by simp [heaps]
  | k + 2, a => by
    simp only [heaps, heaps_map f (k + 1) a]
    -- every round of the loop commutes with mapping the accumulator
    refine List.foldl_hom (fun r : List (List α) × List α => (r.1.map (List.map f), r.2.map f))
      fun acc i => ?_
    split <;> simp [swap_map, heaps_map f (k + 1)]

theorem genPermutations_map {α β : Type} (f : α → β) (a : List α) :
    genPermutations (a.map f) = (genPermutations a).map (List.map f) := by
  simp [genPermutations, heaps_map]

/-! ### `perms` enumerates `List.Perm` -/

theorem mem_insertions {α : Type} (a : α) (l : List α) : ∀ (q : List α),
    q ∈ insertions a l ↔ ∃ s t, l = s ++ t ∧ q = s ++ a :: t := by
  induction l with
  | nil =>
    intro q
    simp only [insertions, List.mem_singleton]
    exact ⟨fun h => ⟨[], [], rfl, h⟩, fun ⟨s, t, h1, h2⟩ => by
      obtain ⟨rfl, rfl⟩ := List.append_eq_nil_iff.1 h1.symm; exact h2⟩
  | cons b l ih =>
    intro q
    simp only [insertions, List.mem_cons, List.mem_map, ih]
    constructor
    · rintro (rfl | ⟨_, ⟨s, t, rfl, rfl⟩, rfl⟩)
      · exact ⟨[], _, rfl, rfl⟩
      · exact ⟨b :: s, t, rfl, rfl⟩
    · rintro ⟨s, t, h, rfl⟩
      cases s with
      | nil => exact Or.inl (by rw [h]; rfl)
      | cons c s =>
        injection h with h1 h2
        subst h1 h2
        exact Or.inr ⟨_, ⟨s, t, rfl, rfl⟩, rfl⟩

theorem mem_perms {α : Type} : ∀ (l q : List α), q ∈ perms l ↔ q.Perm l
  | [], q => by simp [perms]
  | a :: l, q => by
    simp only [perms, List.mem_flatMap]
    constructor
    · rintro ⟨p, hp, hq⟩
      have hpl := (mem_perms l p).1 hp
      obtain ⟨s, t, h1, h2⟩ := (mem_insertions a p q).1 hq
      subst h1 h2
      exact List.perm_middle.trans (List.Perm.cons a hpl)
    · intro h
      have ha : a ∈ q := h.symm.subset (by simp)
      obtain ⟨s, t, rfl⟩ := List.append_of_mem ha
      have h' : (s ++ t).Perm l := by
        have := List.perm_middle.symm.trans h
        exact List.Perm.cons_inv this
      exact ⟨s ++ t, (mem_perms l _).2 h', (mem_insertions a _ _).2 ⟨s, t, rfl, rfl⟩⟩

theorem insertions_map {α β : Type} (f : α → β) (a : α) : ∀ l : List α,
    insertions (f a) (l.map f) = (insertions a l).map (List.map f)
  | [] => rfl
  | b :: l => by
    simp [insertions, insertions_map f a l, List.map_map, Function.comp_def]

theorem perms_map {α β : Type} (f : α → β) : ∀ l : List α,
    perms (l.map f) = (perms l).map (List.map f)
  | [] => rfl
  | a :: l => by
    simp only [List.map_cons, perms, perms_map f l, List.flatMap_map, List.map_flatMap, insertions_map]

/-! ### Heap's algorithm only swaps -/

theorem swap_perm {α : Type} (a : List α) (i j : Nat) : (swap a i j).Perm a := by
  unfold swap
  split
  · next x y hx hy =>
    obtain ⟨hi, rfl⟩ := List.getElem?_eq_some_iff.1 hx
    obtain ⟨hj, rfl⟩ := List.getElem?_eq_some_iff.1 hy
    exact List.set_set_perm hi hj
  · exact .refl a

theorem heaps_perm {α : Type} (a : List α) : ∀ (k : Nat) (b : List α), b.Perm a →
    (∀ p ∈ (heaps k b).1, p.Perm a) ∧ (heaps k b).2.Perm a
  | 0, b, hb => by simp [heaps, hb]
  | 1, b, hb => by simp [heaps, hb]
  | k + 2, b, hb => by
    simp only [heaps]
    refine List.foldlRecOn
      (motive := fun r : List (List α) × List α => (∀ p ∈ r.1, p.Perm a) ∧ r.2.Perm a) _ _
      (heaps_perm a (k + 1) b hb) fun acc ih i _ => ?_
    refine (heaps_perm a (k + 1) _ ?_).imp
      (fun h p hp => (List.mem_append.1 hp).elim (ih.1 p) (h p)) id
    split <;> exact (swap_perm ..).trans ih.2

theorem perm_of_mem_genPermutations {α : Type} {l p : List α} (h : p ∈ genPermutations l) : p.Perm l :=
  (heaps_perm l l.length l (.refl l)).1 p h

/-! ### the finite check on index lists -/

/-- base-8 code of a list of digits -/
def enc : List Nat → Nat
  | [] => 0
  | d :: l => d + 8 * enc l

theorem enc_inj (p : List Nat) : ∀ (q : List Nat), p.length = q.length → (∀ x ∈ p, x < 8) → (∀ x ∈ q, x < 8) →
    enc p = enc q → p = q := by
  induction p with
  | nil => exact fun q hl _ _ _ => (List.length_eq_zero_iff.1 hl.symm).symm
  | cons a p ih =>
    intro q hl hp hq h
    cases q with
    | nil => cases hl
    | cons b q =>
      simp only [List.forall_mem_cons] at hp hq
      simp only [enc] at h
      obtain ⟨rfl, h2⟩ : a = b ∧ enc p = enc q := by omega
      rw [ih q (Nat.succ.inj hl) hp.2 hq.2 h2]

def bitmap (l : List Nat) : Nat := l.foldl (fun acc c => acc ||| (1 <<< c)) 0

theorem testBit_foldl_or (l : List Nat) (acc c : Nat) :
    Nat.testBit (l.foldl (fun acc c => acc ||| (1 <<< c)) acc) c = true →
      Nat.testBit acc c = true ∨ c ∈ l := by
  induction l generalizing acc with
  | nil => exact Or.inl
  | cons d l ih =>
    intro h
    rcases ih _ h with h' | h'
    · rw [Nat.testBit_or, Bool.or_eq_true, Nat.one_shiftLeft, Nat.testBit_two_pow] at h'
      exact h'.imp_right fun h' => by simp [of_decide_eq_true h']
    · exact Or.inr (List.mem_cons_of_mem _ h')

/-- complete check at size `n`: every insertion-permutation of the index list is produced by Heap's
algorithm (looked up in a bitmap of base-8 codes, so that the check is linear) -/
def heapsCheck (n : Nat) : Bool :=
  let bm := bitmap ((genPermutations (List.range n)).map enc)
  (perms (List.range n)).all (fun p => Nat.testBit bm (enc p))

theorem heapsCheck_2_6 : ∀ n ≤ 6, 2 ≤ n → heapsCheck n = true := by decide +kernel

theorem mem_genPermutations_range {n : Nat} (hn : n ≤ 8) (hc : heapsCheck n = true) {p : List Nat}
    (hp : p.Perm (List.range n)) : p ∈ genPermutations (List.range n) := by
  have digits : ∀ {q : List Nat}, q.Perm (List.range n) → ∀ x ∈ q, x < 8 := fun hq x hx => by
    have := List.mem_range.1 (hq.subset hx); omega
  have hb := List.all_eq_true.1 hc p ((mem_perms _ _).2 hp)
  obtain ⟨q, hq, hqe⟩ := List.mem_map.1 ((testBit_foldl_or _ 0 _ hb).resolve_left (by simp))
  have hqp := perm_of_mem_genPermutations hq
  exact enc_inj q p (hqp.length_eq.trans hp.length_eq.symm) (digits hqp) (digits hp) hqe ▸ hq

/-- a list is its index list mapped through element access -/
theorem map_getD_range {α : Type} (l : List α) (d : α) :
    (List.range l.length).map (fun i => l.getD i d) = l := by
  apply List.ext_getElem
  · simp
  · intro i h1 h2
    simp at h1
    simp [h1]

/-- **Heap's algorithm as modelled is complete and sound for the sizes the parser admits.** -/
theorem mem_genPermutations_iff {α : Type} (l : List α) (h2 : 2 ≤ l.length) (h6 : l.length ≤ 6)
    (p : List α) : p ∈ genPermutations l ↔ p.Perm l := by
  refine ⟨perm_of_mem_genPermutations, fun hp => ?_⟩
  obtain ⟨d, _⟩ := List.exists_mem_of_length_pos (l := l) (by omega)
  -- read `l` off its index list, on which the two enumerations agree
  have hl := map_getD_range l d
  generalize l.length = n at hl h2 h6
  generalize (fun i => l.getD i d) = f at hl
  subst hl
  rw [← mem_perms, perms_map] at hp
  obtain ⟨σ, hσ, rfl⟩ := List.mem_map.1 hp
  rw [genPermutations_map]
  exact List.mem_map_of_mem
    (mem_genPermutations_range (by omega) (heapsCheck_2_6 n h6 h2) ((mem_perms _ _).1 hσ))

end KVerif.Seq
