/-
Helper lemmas for C15 (live reload): state update algebra, the enumeration of the fields, what one
statement and a list of statements of the interpreted `do_live_reload` do to a field, and the closed
form of blocks of statements of one kind.
-/
import KVerif.Model.Reload
namespace KVerif.Reload
open KVerif.Gen.Reload

variable {W : World}

/-! ### states -/

theorem St.ext' {T : Types} {a b : St T} (h : ∀ f, a f = b f) : a = b := by
  cases a; cases b; congr; funext f; exact h f

@[simp] theorem St.set_same {T : Types} (s : St T) (f : Field) (v : Val T f) : (s.set f v) f = v := by
  simp [St.set]

theorem St.set_other {T : Types} (s : St T) (f g : Field) (v : Val T f) (h : g ≠ f) :
    (s.set f v) g = s g := by
  simp [St.set, h]

theorem St.set_fam {T : Types} (s : St T) (v : (f : Field) → Val T f) (f g : Field) :
    (s.set f (v f)) g = if g = f then v g else s g := by
  by_cases h : g = f
  · subst h; rw [if_pos rfl, St.set_same]
  · rw [if_neg h, St.set_other _ _ _ _ h]

theorem St.set_self {T : Types} (s : St T) (f : Field) : s.set f (s f) = s :=
  St.ext' fun g => by rw [St.set_fam s s.get, ite_self]

theorem frame_in (old new : KSt W) (f : Field) (h : f ∈ framed) : (frame old new) f = old f :=
  if_pos h

theorem frame_out (old new : KSt W) (f : Field) (h : f ∉ framed) : (frame old new) f = new f :=
  if_neg h

theorem frameK_in (old new : KSt W) (f : Field) (h : f ∈ framedK) : (frameK old new) f = old f :=
  if_pos h

theorem frameK_out (old new : KSt W) (f : Field) (h : f ∉ framedK) : (frameK old new) f = new f :=
  if_neg h

/-- the two states agree on every field outside `op` -/
def Eqv (op : List Field) (a b : KSt W) : Prop := ∀ f, f ∉ op → a f = b f

variable {op : List Field}

theorem eqv_refl (a : KSt W) : Eqv op a a := fun _ _ => rfl

theorem eqv_set {a b : KSt W} (h : Eqv op a b) (f : Field) (v : Val W.toTypes f) :
    Eqv op (a.set f v) (b.set f v) := by
  intro g hg
  by_cases e : g = f
  · subst e; rw [St.set_same, St.set_same]
  · rw [St.set_other _ _ _ _ e, St.set_other _ _ _ _ e]; exact h g hg

theorem eqv_frameBy {a b na nb : KSt W} (F : List Field) (h : Eqv op a b)
    (hn : ∀ f, f ∉ F → f ∉ op → na f = nb f) :
    Eqv op (⟨fun f => if f ∈ F then a f else na f⟩ : KSt W) ⟨fun f => if f ∈ F then b f else nb f⟩ := by
  intro f hf
  show (if f ∈ F then a f else na f) = (if f ∈ F then b f else nb f)
  by_cases hk : f ∈ F
  · rw [if_pos hk, if_pos hk]; exact h f hf
  · rw [if_neg hk, if_neg hk]; exact hn f hk hf

theorem eqv_frame {a b na nb : KSt W} (h : Eqv op a b)
    (hn : ∀ f, f ∉ framed → f ∉ op → na f = nb f) : Eqv op (frame a na) (frame b nb) :=
  eqv_frameBy framed h hn

theorem eqv_frameK {a b na nb : KSt W} (h : Eqv op a b)
    (hn : ∀ f, f ∉ framedK → f ∉ op → na f = nb f) : Eqv op (frameK a na) (frameK b nb) :=
  eqv_frameBy framedK h hn

theorem allFields_ctorIdx : allFields.map Field.ctorIdx = List.range allFields.length := by
  decide +kernel

theorem mem_allFields (f : Field) : f ∈ allFields := by
  have hf : f.ctorIdx ∈ allFields.map Field.ctorIdx := by
    rw [allFields_ctorIdx, List.mem_range]; cases f <;> decide
  obtain ⟨g, hg, e⟩ := List.mem_map.1 hf
  rwa [← Field.ofNat_ctorIdx f, ← e, Field.ofNat_ctorIdx]

theorem allFields_nodup : allFields.Nodup :=
  List.Pairwise.of_map Field.ctorIdx (fun _ _ h e => h (e ▸ rfl)) (allFields_ctorIdx ▸ List.nodup_range)

theorem mem_fieldsOf (c : FClass) (f : Field) : f ∈ fieldsOf c ↔ classify f = c := by
  simp only [fieldsOf, List.mem_filter, mem_allFields, true_and, beq_iff_eq]

/-- a decidable property of fields holds of every field if it holds along `allFields`: one
evaluation instead of one per constructor -/
theorem forall_fields {P : Field → Prop} [DecidablePred P]
    (h : allFields.all (fun f => decide (P f)) = true) (f : Field) : P f :=
  of_decide_eq_true (List.all_eq_true.1 h f (mem_allFields f))

theorem mem_assigned (steps : List RStep) (g : Field) :
    g ∈ assigned steps ↔ ∃ b, RStep.assign g b ∈ steps := by
  simp only [assigned, List.mem_filterMap]
  exact ⟨fun ⟨a, ha, hm⟩ => by cases a <;> cases hm; exact ⟨_, ha⟩, fun ⟨_, hb⟩ => ⟨_, hb, rfl⟩⟩

theorem mem_assignedFromCfg (steps : List RStep) (g : Field) :
    g ∈ assignedFromCfg steps ↔ RStep.assign g true ∈ steps := by
  simp only [assignedFromCfg, List.mem_filterMap]
  refine ⟨fun ⟨a, ha, hm⟩ => ?_, fun hb => ⟨_, hb, rfl⟩⟩
  cases a with
  | assign f b => cases b <;> cases hm; exact ha
  | _ => cases hm

theorem mem_assignedReset (steps : List RStep) (g : Field) :
    g ∈ assignedReset steps ↔ RStep.assign g false ∈ steps := by
  simp only [assignedReset, List.mem_filterMap]
  refine ⟨fun ⟨a, ha, hm⟩ => ?_, fun hb => ⟨_, hb, rfl⟩⟩
  cases a with
  | assign f b => cases b <;> cases hm; exact ha
  | _ => cases hm

theorem mem_falliblesOf (steps : List RStep) (callee : String) :
    callee ∈ falliblesOf steps ↔ RStep.fallible callee ∈ steps := by
  simp only [falliblesOf, List.mem_filterMap]
  exact ⟨fun ⟨a, ha, hm⟩ => by cases a <;> cases hm; exact ha, fun hb => ⟨_, hb, rfl⟩⟩

theorem assigned_cons (st : RStep) (rest : List RStep) (g : Field) :
    g ∉ assigned (st :: rest) ↔ (∀ b, st ≠ .assign g b) ∧ g ∉ assigned rest := by
  simp only [mem_assigned, List.mem_cons, not_exists, not_or]
  constructor
  · intro h
    exact ⟨fun b e => (h b).1 e.symm, fun b => (h b).2⟩
  · rintro ⟨h1, h2⟩ b
    exact ⟨fun e => h1 b e.symm, h2 b⟩

theorem assignedFromCfg_cons (st : RStep) (rest : List RStep) (g : Field) :
    g ∈ assignedFromCfg (st :: rest) ↔ st = .assign g true ∨ g ∈ assignedFromCfg rest := by
  simp only [mem_assignedFromCfg, List.mem_cons, eq_comm]

theorem assignedReset_cons (st : RStep) (rest : List RStep) (g : Field) :
    g ∈ assignedReset (st :: rest) ↔ st = .assign g false ∨ g ∈ assignedReset rest := by
  simp only [mem_assignedReset, List.mem_cons, eq_comm]

theorem falliblesOf_cons (st : RStep) (rest : List RStep) (callee : String) :
    callee ∈ falliblesOf (st :: rest) ↔ st = .fallible callee ∨ callee ∈ falliblesOf rest := by
  simp only [mem_falliblesOf, List.mem_cons, eq_comm]

section
variable {env : Env W.toTypes} {c : W.Cfg} {cur cur' : Option Nat} {s s' : KSt W} {log log' : List Msg}
  {st : RStep} {steps : List RStep} {r : RRes W.toTypes} {g : Field}

theorem stepOne_notify {m : String} {o : StepOut W.toTypes}
    (h : stepOne env c cur s log (.notify m) = .ok o) : ∃ log', o = .cont cur s log' := by
  simp only [stepOne] at h
  repeat' split at h
  all_goals cases h
  all_goals exact ⟨_, rfl⟩

theorem stepOne_stop (h : stepOne env c cur s log st = .ok (.stop r)) :
    (∃ callee, st = .fallible callee ∧ env.callFails callee c = true) ∧ r = ⟨s, log, false⟩ := by
  cases st with
  | fallible callee =>
    simp only [stepOne] at h
    split at h
    · rename_i hc; cases h; exact ⟨⟨callee, rfl, hc⟩, rfl⟩
    · cases h
  | assign f b => cases b <;> simp only [stepOne] at h <;> (try split at h) <;> cases h
  | notify m => obtain ⟨_, e⟩ := stepOne_notify h; cases e
  | _ => cases h

theorem stepOne_fallible {callee : String}
    (h : stepOne env c cur s log (.fallible callee) = .ok (.cont cur' s' log')) :
    env.callFails callee c = false ∧ cur' = cur ∧ s' = s ∧ log' = log := by
  simp only [stepOne] at h
  split at h
  · cases h
  · rename_i hc; cases h; exact ⟨by simpa using hc, rfl, rfl, rfl⟩

theorem stepOne_frame (h : stepOne env c cur s log st = .ok (.cont cur' s' log'))
    (hg : ∀ b, st ≠ .assign g b) : s' g = s g := by
  cases st with
  | fallible callee => rw [(stepOne_fallible h).2.2.1]
  | assign f b =>
    have hne : g ≠ f := fun e => hg b (e ▸ rfl)
    cases b <;> simp only [stepOne] at h <;> (try split at h) <;> cases h <;> exact St.set_other _ _ _ _ hne
  | notify m => obtain ⟨_, e⟩ := stepOne_notify h; cases e; rfl
  | _ => cases h <;> rfl

theorem stepOne_cfg_set
    (h : stepOne env c cur s log (.assign g true) = .ok (.cont cur' s' log')) : s' g = W.cfgVal g c := by
  cases h; exact St.set_same _ _ _

theorem runSteps_cons_ok {rest : List RStep} (h : runSteps env c (st :: rest) cur s log = .ok r) :
    stepOne env c cur s log st = .ok (.stop r) ∨
    ∃ cur' s' log', stepOne env c cur s log st = .ok (.cont cur' s' log') ∧
      runSteps env c rest cur' s' log' = .ok r := by
  simp only [runSteps] at h
  split at h
  · cases h
  · rename_i h1; cases h; exact .inl h1
  · rename_i h1; exact .inr ⟨_, _, _, h1, h⟩

/-- **frame**: whatever `do_live_reload` does after parsing, a field it never assigns keeps its value
— on success and on an early return alike -/
theorem runSteps_frame (env : Env W.toTypes) (c : W.Cfg) (steps : List RStep) (cur : Option Nat) (s : KSt W)
    (log : List Msg) (r : RRes W.toTypes) (g : Field)
    (h : runSteps env c steps cur s log = .ok r) (hg : g ∉ assigned steps) : r.st g = s g := by
  induction steps generalizing cur s log with
  | nil => cases h; rfl
  | cons st rest ih =>
    rw [assigned_cons] at hg
    rcases runSteps_cons_ok h with h1 | ⟨cur', s', log', h1, h2⟩
    · rw [(stepOne_stop h1).2]
    · rw [ih _ _ _ h2 hg.2]; exact stepOne_frame h1 hg.1

theorem runSteps_fail_iff (h : runSteps env c steps cur s log = .ok r) :
    r.ok = false ↔ ∃ callee ∈ falliblesOf steps, env.callFails callee c = true := by
  induction steps generalizing cur s log with
  | nil => cases h; simp [falliblesOf]
  | cons st rest ih =>
    rcases runSteps_cons_ok h with h1 | ⟨cur', s', log', h1, h2⟩
    · obtain ⟨⟨callee, rfl, hc⟩, rfl⟩ := stepOne_stop h1
      exact ⟨fun _ => ⟨callee, (falliblesOf_cons ..).2 (.inl rfl), hc⟩, fun _ => rfl⟩
    · rw [ih h2]
      constructor
      · rintro ⟨callee, hm, hc⟩
        exact ⟨callee, (falliblesOf_cons ..).2 (.inr hm), hc⟩
      · rintro ⟨callee, hm, hc⟩
        rcases (falliblesOf_cons ..).1 hm with rfl | hm
        · rw [(stepOne_fallible h1).1] at hc; cases hc
        · exact ⟨callee, hm, hc⟩

/-- an early return leaves the channel as it was at that point and reports failure -/
theorem runSteps_early (env : Env W.toTypes) (c : W.Cfg) (steps : List RStep) (cur : Option Nat) (s : KSt W)
    (log : List Msg) (r : RRes W.toTypes)
    (h : runSteps env c steps cur s log = .ok r) (hr : r.ok = false) :
    ∃ callee ∈ falliblesOf steps, env.callFails callee c = true :=
  (runSteps_fail_iff h).1 hr

/-- a run that reports success met no failing call -/
theorem runSteps_ok_fallibles (h : runSteps env c steps cur s log = .ok r) (hok : r.ok = true) (callee : String)
    (hm : callee ∈ falliblesOf steps) : env.callFails callee c = false :=
  Bool.eq_false_iff.2 fun hc => by
    rw [(runSteps_fail_iff h).2 ⟨callee, hm, hc⟩] at hok; cases hok

/-! ### configuration-derived fields -/

/-- `g` is assigned from `cfg`, never from anything else -/
def cfgOnly (steps : List RStep) (g : Field) : Bool :=
  g ∈ assignedFromCfg steps && !(g ∈ assignedReset steps)

theorem runSteps_cfg_of (h : runSteps env c steps cur s log = .ok r) (hok : r.ok = true) (hr : g ∉ assignedReset steps)
    (hs : g ∈ assignedFromCfg steps ∨ s g = W.cfgVal g c) : r.st g = W.cfgVal g c := by
  induction steps generalizing cur s log with
  | nil =>
    cases h
    exact hs.resolve_left (by simp [assignedFromCfg])
  | cons st rest ih =>
    rw [assignedReset_cons, not_or] at hr
    rcases runSteps_cons_ok h with h1 | ⟨cur', s', log', h1, h2⟩
    · rw [(stepOne_stop h1).2] at hok; cases hok
    · refine ih h2 hr.2 ?_
      by_cases hst : st = .assign g true
      · subst hst; exact .inr (stepOne_cfg_set h1)
      · refine hs.imp (fun hm => ((assignedFromCfg_cons ..).1 hm).resolve_left hst) fun hs => ?_
        rw [stepOne_frame h1 (fun b => by cases b; exact hr.1; exact hst), hs]

/-- **a field assigned from `cfg` (and from nothing else) holds the new configuration's value after
a reload that ran to the end** -/
theorem runSteps_cfg (env : Env W.toTypes) (c : W.Cfg) (steps : List RStep) (cur : Option Nat) (s : KSt W)
    (log : List Msg) (r : RRes W.toTypes) (g : Field)
    (h : runSteps env c steps cur s log = .ok r) (hok : r.ok = true)
    (hg : cfgOnly steps g = true) : r.st g = W.cfgVal g c := by
  simp only [cfgOnly, Bool.and_eq_true, Bool.not_eq_true', decide_eq_true_eq, decide_eq_false_iff_not] at hg
  exact runSteps_cfg_of h hok hg.2 (.inl hg.1)

end

theorem St.foldl_set_get {T : Types} (v : (f : Field) → Val T f) (fs : List Field) (s : St T) (g : Field) :
    (fs.foldl (fun s f => s.set f (v f)) s) g = if g ∈ fs then v g else s g := by
  induction fs generalizing s with
  | nil => rfl
  | cons f fs ih =>
    rw [List.foldl_cons, ih, St.set_fam]
    by_cases h1 : g ∈ fs <;> by_cases h2 : g = f <;> simp [h1, h2]

/-- statements that neither send anything nor bind `cur_layer`: `self.f = <cfg …>`, `callee(..)?`
and `self.helper();` -/
def isSilent : RStep → Bool
  | .assign _ true => true
  | .fallible _ => true
  | .effect _ => true
  | _ => false

/-- all the `self.f = <cfg …>` assignments of a statement list, applied in order -/
def applyCfg (c : W.Cfg) : List RStep → KSt W → KSt W
  | [], s => s
  | .assign f true :: rest, s => applyCfg c rest (s.set f (W.cfgVal f c))
  | _ :: rest, s => applyCfg c rest s

theorem applyCfg_eq (c : W.Cfg) (A : List RStep) (s : KSt W) :
    applyCfg c A s = (assignedFromCfg A).foldl (fun s f => s.set f (W.cfgVal f c)) s := by
  induction A generalizing s with
  | nil => rfl
  | cons st rest ih =>
    cases st with
    | assign f b => cases b <;> exact ih _
    | _ => exact ih _

theorem applyCfg_get (c : W.Cfg) (A : List RStep) (s : KSt W) (g : Field) :
    (applyCfg c A s) g = if g ∈ assignedFromCfg A then W.cfgVal g c else s g := by
  rw [applyCfg_eq, St.foldl_set_get (W.cfgVal · c)]

theorem runSteps_silent (env : Env W.toTypes) (c : W.Cfg) (A B : List RStep) (cur : Option Nat) (s : KSt W)
    (log : List Msg) (hA : A.all isSilent = true)
    (hf : ∀ callee ∈ falliblesOf A, env.callFails callee c = false) :
    runSteps env c (A ++ B) cur s log = runSteps env c B cur (applyCfg c A s) log := by
  induction A generalizing s with
  | nil => rfl
  | cons st rest ih =>
    rw [List.all_cons, Bool.and_eq_true] at hA
    have ih := fun s => ih s hA.2 fun callee hm => hf callee ((falliblesOf_cons ..).2 (.inr hm))
    cases st with
    | assign f b => cases b; cases hA.1; exact ih _
    | fallible callee =>
      simp only [List.cons_append, runSteps, stepOne, hf callee ((falliblesOf_cons ..).2 (.inl rfl))]
      exact ih _
    | effect m => exact ih _
    | _ => cases hA.1

/-- `self.f = <constant>` / `self.prev_layer = cur_layer` -/
def isReset : RStep → Bool
  | .assign _ false => true
  | _ => false

/-- all the `self.f = <not cfg>` assignments of a statement list, applied in order, with
`cur_layer = l` -/
def applyReset (l : Nat) : List RStep → KSt W → KSt W
  | [], s => s
  | .assign f false :: rest, s => applyReset l rest (s.set f (resetVal (W := W) l f))
  | _ :: rest, s => applyReset l rest s

theorem applyReset_eq (l : Nat) (R : List RStep) (s : KSt W) :
    applyReset l R s = (assignedReset R).foldl (fun s f => s.set f (resetVal (W := W) l f)) s := by
  induction R generalizing s with
  | nil => rfl
  | cons st rest ih =>
    cases st with
    | assign f b => cases b <;> exact ih _
    | _ => exact ih _

theorem applyReset_get (l : Nat) (R : List RStep) (s : KSt W) (g : Field) :
    (applyReset l R s) g = if g ∈ assignedReset R then resetVal (W := W) l g else s g := by
  rw [applyReset_eq, St.foldl_set_get (resetVal (W := W) l)]

/-- a block of resets after `let cur_layer` just performs its assignments -/
theorem runSteps_resets (env : Env W.toTypes) (c : W.Cfg) (R B : List RStep) (l : Nat) (s : KSt W)
    (log : List Msg) (hR : R.all isReset = true) :
    runSteps env c (R ++ B) (some l) s log = runSteps env c B (some l) (applyReset l R s) log := by
  induction R generalizing s with
  | nil => rfl
  | cons st rest ih =>
    rw [List.all_cons, Bool.and_eq_true] at hR
    cases st with
    | assign f b =>
      cases b with
      | true => cases hR.1
      | false =>
        simp only [List.cons_append, runSteps, stepOne, reduceCtorEq, and_false, if_false]
        exact ih _ hR.2
    | _ => cases hR.1

def isFallible : RStep → Bool
  | .fallible _ => true
  | _ => false

theorem runSteps_fallibles_fail (env : Env W.toTypes) (c : W.Cfg) (F B : List RStep) (cur : Option Nat)
    (s : KSt W) (log : List Msg) (hF : F.all isFallible = true)
    (hf : ∃ callee ∈ falliblesOf F, env.callFails callee c = true) :
    runSteps env c (F ++ B) cur s log = .ok ⟨s, log, false⟩ := by
  induction F with
  | nil => obtain ⟨_, hm, _⟩ := hf; cases hm
  | cons st rest ih =>
    rw [List.all_cons, Bool.and_eq_true] at hF
    cases st with
    | fallible callee =>
      by_cases hc : env.callFails callee c = true
      · simp only [List.cons_append, runSteps, stepOne, hc, if_true]
      · obtain ⟨callee', hm, hc'⟩ := hf
        simp only [List.cons_append, runSteps, stepOne, hc]
        rcases (falliblesOf_cons ..).1 hm with e | hm
        · cases e; exact absurd hc' hc
        · exact ih hF.2 ⟨callee', hm, hc'⟩
    | _ => cases hF.1

end KVerif.Reload
