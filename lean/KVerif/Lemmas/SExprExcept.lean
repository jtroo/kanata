/-
`Except` computations in `do` notation: a sequence returns if each step does, and if a sequence
returned so did each step.
-/
namespace KVerif.SExpr

theorem ok_bind {ε α β} {x : Except ε α} {f : α → Except ε β} (hx : ∃ a, x = .ok a)
    (hf : ∀ a, ∃ b, f a = .ok b) : ∃ b, x >>= f = .ok b := by
  obtain ⟨a, rfl⟩ := hx; exact hf a

theorem bind_ok {ε α β} {x : Except ε α} {f : α → Except ε β} {b : β} (h : x >>= f = .ok b) :
    ∃ a, x = .ok a ∧ f a = .ok b := by
  cases x with
  | error e => cases h
  | ok a => exact ⟨a, rfl, h⟩

/-- for a cascade of `if`s whose branches all lead to `Q` -/
theorem of_ite_eq {α} {c : Prop} [Decidable c] {a b v : α} {Q : Prop} (h : (if c then a else b) = v)
    (ha : a = v → Q) (hb : b = v → Q) : Q := by
  split at h
  · exact ha h
  · exact hb h

end KVerif.SExpr
