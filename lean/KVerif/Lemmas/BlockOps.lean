/-
The operations layer (Lemmas/LayoutOps.lean) meets the block (Lemmas/Block.lean): the arms that return
at once are `plainArm`, whose result is `run (armOps …)`; the writes of `dequeue` and `event` outside
`do_action` are operations too; and a press on nested actions is a run of operations
(`Runs.traced`, a rule induction: a recursive arm is its bookkeeping operations around the induction
hypothesis, an arm outside the set `A` contradicts `Nest.arm`).
-/
import KVerif.Lemmas.Block
import KVerif.Lemmas.LayoutOps
namespace KVerif.L

/-! ## the rules that do not recurse -/

theorem plainArm_ops {a : Action} (h : isLeaf a = true) (s : Layout) (c : Coord) (os : Bool) :
    plainArm s c os a = some (run (armOps s c os a) s, armEv s a) := by
  cases a <;> first | cases h | skip
  case noOp => exact congrArg (fun x => some (x, CustomEv.noEvent)) (armNoOp_ops s .noOp c os)
  case keyCode kc => exact congrArg (fun x => some (x, CustomEv.noEvent)) (armKeyCode_ops s _ kc c os)
  case multipleKeyCodes kcs => exact congrArg (fun x => some (x, CustomEv.noEvent)) (armMultipleKeyCodes_ops s _ kcs c os)
  case bufKeyCodes kcs => exact congrArg (fun x => some (x, CustomEv.noEvent)) (armBufKeyCodes_ops s _ kcs c os)
  case layer v =>
    show some (armLayer s v c os, CustomEv.noEvent) = some (run (_ ++ oshOps os c ++ []) s, .noEvent)
    rw [List.append_nil]; exact congrArg (fun x => some (x, CustomEv.noEvent)) (armLayer_ops s v c os)
  case defaultLayer v =>
    show some (armDefaultLayer s v c os, CustomEv.noEvent) = some (run (_ ++ oshOps os c ++ []) s, .noEvent)
    rw [List.append_nil]; exact congrArg (fun x => some (x, CustomEv.noEvent)) (armDefaultLayer_ops s v c os)
  case releaseState rs => exact congrArg (fun x => some (x, CustomEv.noEvent)) (armReleaseState_ops s _ rs c os)
  case sequence evs => exact congrArg (fun x => some (x, CustomEv.noEvent)) (armSequence_ops s _ evs c os false)
  case repeatableSequence evs => exact congrArg (fun x => some (x, CustomEv.noEvent)) (armSequence_ops s _ evs c os true)
  case cancelSequences => exact congrArg (fun x => some (x, CustomEv.noEvent)) (armCancelSequences_ops s _ c os)
  case oneShotIgnoreEventsTicks t => rfl
  case custom id =>
    show some (armCustom s (.custom id) id c os) = _
    rw [armCustom_ops]
    simp only [armOps, armPre, armOsh, armPost, armEv]
    split <;> rfl

theorem plainArm_leaf {s : Layout} {c : Coord} {os : Bool} {a : Action} {r : Layout × CustomEv}
    (h : plainArm s c os a = some r) : isLeaf a = true := by
  cases a <;> first | rfl | cases h

/-- a leaf arm cannot fail -/
theorem dispatch_leaf {a : Action} (h : isLeaf a = true) (n : Nat) (s : Layout) (c : Coord) (d : Nat) (os : Bool)
    (ls : List Nat) : dispatch (n + 1) s a c d os ls = .ok (run (armOps s c os a) s, armEv s a) :=
  (Runs.plain (plainArm_ops h s c os)).dispatch_eq

theorem doAction_leaf {a : Action} (h : isLeaf a = true) (n : Nat) (s : Layout) (c : Coord) (d : Nat) (os : Bool)
    (ls : List Nat) :
    doAction (n + 2) s a c d os ls =
      .ok (run (preludeOps c ++ armOps (prelude s c) c os a) s, armEv (prelude s c) a) := by
  rw [doAction_of_ne (by rintro rfl; cases h), dispatch_leaf h, run_append, ← prelude_ops]

theorem releaseQueued_ops (s : Layout) (c : Coord) :
    (releaseQueued s c).1 =
      run [.releaseAt (s.oneshot.handleRelease c).2.1 c (s.oneshot.handleRelease c).2.2, .oshRelease c] s := rfl

theorem releaseQueued_ev (s : Layout) (c : Coord) :
    (releaseQueued s c).2 =
      (releasedAt (s.oneshot.handleRelease c).2.1 c (s.oneshot.handleRelease c).2.2 s.states).2 := rfl

def inputOps : Ev → List Op
  | .press c => [.input c]
  | .release _ => []

theorem noteInput_ops (s : Layout) (ev : Ev) : noteInput s ev = run (inputOps ev) s := by
  cases ev <;> rfl

/-- `event` with room in the queue -/
theorem queued_ops {s : Layout} {ev : Ev} {q : List Queued}
    (h : pushBackWrap QUEUE_SIZE (noteInput s ev).queue ⟨ev, 0⟩ = (q, none)) :
    { noteInput s ev with queue := q } = run (inputOps ev ++ [.enqueue ⟨ev, 0⟩]) s := by
  have : q = (noteInput s ev).queue ++ [⟨ev, 0⟩] := by
    unfold pushBackWrap at h
    split at h
    · exact (congrArg Prod.fst h).symm
    · split at h <;> cases h
  subst this
  rw [run_append, ← noteInput_ops]; rfl

/-! ## a press on nested actions -/

/-- the operations a press at `c` may perform on actions of `A` -/
abbrev Perm (A : Action → Prop) (c : Coord) (o : Op) : Prop := ∃ a, A a ∧ Emits c a o

/-- the arms `Runs.traced` follows -/
def traced : Action → Bool
  | .multipleActions _ | .fork _ _ _ | .holdTap _ _ _ _ _ _ => true
  | a => isLeaf a

/-- a set `A` of actions closed under what `do_action` recurses into (`multi`, `fork`, the tap action
of a tap-hold key inside its quick-tap window), with a bound `cnt` on the special operations one press
performs -/
structure Nest (A : Action → Prop) (cnt : Action → Nat) : Prop where
  arm : ∀ a, A a → traced a = true
  multi : ∀ acs, A (.multipleActions acs) → (∀ x ∈ acs, A x) ∧ (acs.map cnt).sum ≤ cnt (.multipleActions acs)
  fork : ∀ l r ks, A (.fork l r ks) → (A l ∧ cnt l ≤ cnt (.fork l r ks)) ∧ (A r ∧ cnt r ≤ cnt (.fork l r ks))
  holdTap : ∀ T h t to cfg iv, A (.holdTap T h t to cfg iv) →
    A t ∧ cnt t ≤ cnt (.holdTap T h t to cfg iv) ∧ 1 ≤ cnt (.holdTap T h t to cfg iv)

/-- what `Runs.traced` says of a call and its result: a run of permitted operations, at most `cnt` of
them special; no custom event unless `A` has a `Custom` action.  Nothing of the calls a press on `A`
never makes. -/
def Traced (A : Action → Prop) (cnt : Action → Nat) : Call → Layout × CustomEv → Prop
  | .doAction s a c _ _ _, r => A a → Trace (Perm A c) (cnt a) s r.1 ∧ ((∀ id, ¬A (.custom id)) → r.2 = .noEvent)
  | .dispatch s a c _ _ _, r => A a → Trace (Perm A c) (cnt a) s r.1 ∧ ((∀ id, ¬A (.custom id)) → r.2 = .noEvent)
  | .doActions s acs c _ _ _ cu, r => (∀ x ∈ acs, A x) →
      Trace (Perm A c) (acs.map cnt).sum s r.1 ∧ ((∀ id, ¬A (.custom id)) → r.2 = cu)
  | _, _ => True

theorem CustomEv.update_noEvent (cu : CustomEv) : cu.update .noEvent = cu := by
  cases cu <;> rfl

theorem Runs.traced {A : Action → Prop} {cnt : Action → Nat} (hN : Nest A cnt) {n : Nat} {k : Call}
    {r : Layout × CustomEv} (h : Runs n k r) : Traced A cnt k r := by
  induction h with
  | trans _ _ _ => exact fun hA => nomatch hN.arm _ hA
  | @act _ s a c _ _ _ _ _ _ ih =>
    intro hA
    have tp : Trace (Perm A c) 0 s (prelude s c) :=
      ((plain_preludeOps c a).trace s).mono (fun _ ho => ⟨a, hA, ho⟩) (Nat.le_refl 0)
    exact ⟨(tp.trans (ih hA).1).mono (fun _ h => h) (by omega), (ih hA).2⟩
  | @plain _ s a c _ os _ r hp =>
    intro hA
    obtain ⟨rfl⟩ := Option.some.inj (hp.symm.trans (plainArm_ops (plainArm_leaf hp) s c os))
    refine ⟨((plain_armOps s c os a).trace s).mono (fun o ho => ⟨a, hA, ho⟩) (Nat.zero_le _), fun hc => ?_⟩
    cases a <;> first | rfl | exact absurd hA (hc _)
  | src _ _ _ => exact fun hA => nomatch hN.arm _ hA
  | repeatNone _ => exact fun hA => nomatch hN.arm _ hA
  | repeatPinned _ _ _ _ => exact fun hA => nomatch hN.arm _ hA
  | «repeat» _ _ _ _ => exact fun hA => nomatch hN.arm _ hA
  | @holdTapWait _ s c d _ ls T hd t to cfg iv _ _ =>
    intro hA
    refine ⟨?_, fun _ => rfl⟩
    show Trace _ _ s (armHoldTapWait s c d T hd t to cfg iv ls)
    rw [armHoldTapWait_ops]
    refine ⟨_, rfl, fun o ho => ⟨_, hA, ?_⟩, (hN.holdTap T hd t to cfg iv hA).2.2⟩
    simp only [List.mem_cons, List.not_mem_nil, or_false] at ho
    rcases ho with rfl | rfl
    · exact ⟨rfl, T, hd, t, to, cfg, rfl, holdTapWaiting_timeout .., rfl, rfl, rfl, rfl⟩
    · rfl
  | @holdTapQuick _ s c _ _ _ T hd t to cfg iv r _ _ ih =>
    intro hA
    obtain ⟨ht, ct, _⟩ := hN.holdTap T hd t to cfg iv hA
    refine ⟨(((Trace.op ⟨_, hA, trivial⟩ rfl s (o := .lptZero)).trans (ih ht).1).trans
      (Trace.op ⟨_, hA, rfl⟩ rfl r.1 (o := .lptCoord c))).mono (fun _ h => h) (by omega), fun hc => ?_⟩
    show CustomEv.noEvent.update r.2 = .noEvent
    rw [(ih ht).2 hc]; rfl
  | oneShot _ _ _ => exact fun hA => nomatch hN.arm _ hA
  | oneShotOverflow _ _ _ _ _ => exact fun hA => nomatch hN.arm _ hA
  | tapDanceLazy _ => exact fun hA => nomatch hN.arm _ hA
  | tapDanceEager _ _ _ => exact fun hA => nomatch hN.arm _ hA
  | chords _ => exact fun hA => nomatch hN.arm _ hA
  | @multi _ s c _ _ _ acs r _ ih =>
    intro hA
    obtain ⟨hm1, hm2⟩ := hN.multi acs hA
    exact ⟨(((Trace.op ⟨_, hA, rfl⟩ rfl s (o := .lptCoord c)).trans (ih hm1).1).trans
      (Trace.op ⟨_, hA, trivial⟩ rfl r.1 (o := .rpt (some (.multipleActions acs))))).mono (fun _ h => h) (by omega),
      (ih hm1).2⟩
  | @fork _ s _ _ _ _ l r ks res _ ih =>
    intro hA
    obtain ⟨⟨hl, cl⟩, ⟨hr, cr⟩⟩ := hN.fork l r ks hA
    have hb : A (if forkHit s ks = true then r else l) ∧
        cnt (if forkHit s ks = true then r else l) ≤ cnt (.fork l r ks) := by
      split
      · exact ⟨hr, cr⟩
      · exact ⟨hl, cl⟩
    exact ⟨((ih hb.1).1.trans (Trace.op ⟨_, hA, trivial⟩ rfl res.1 (o := .rpt (some (.fork l r ks))))).mono
      (fun _ h => h) (by omega), (ih hb.1).2⟩
  | switch _ _ => exact fun hA => nomatch hN.arm _ hA
  | nil => exact fun _ => ⟨Trace.refl _ _ _, fun _ => rfl⟩
  | cons _ _ ih1 ih2 =>
    intro hA
    have h1 := ih1 (hA _ List.mem_cons_self)
    have h2 := ih2 fun x hx => hA x (List.mem_cons_of_mem _ hx)
    refine ⟨by simpa only [List.map_cons, List.sum_cons] using h1.1.trans h2.1, fun hc => ?_⟩
    rw [h2.2 hc, h1.2 hc, CustomEv.update_noEvent]
  | _ => trivial

end KVerif.L
