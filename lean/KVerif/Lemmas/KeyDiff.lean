/-
The key diff of `handle_keystate_changes` in closed form.  `release_key` / `press_key` read nothing but the
static output tables and write nothing but `out`, so the release loop followed by the press loop is the
state with `osDiff` appended to the output, `prev_keys` extended by the new keys and `last_pressed_key` set
to the last of them (`keyDiff_eq`).  What the diff leaves alone, what it writes when nothing changed, and
that it does not look at the layout are read off this one equation.
-/
import KVerif.Model.Kanata
namespace KVerif.K
open KVerif KVerif.L

/-- what `release_key` writes for one key code -/
def keyUp (k : KState) (kc : KeyCode) : List Os :=
  if k.ignoreMin ≤ kc ∧ kc ≤ k.ignoreMax then []
  else match k.btnCodes.find? (·.1 == kc) with
    | some (_, b) => [.btnUp b]
    | none => match k.wheelCodes.find? (·.1 == kc) with
      | some _ => []
      | none => [.up kc]

/-- what `press_key` writes for one key code -/
def keyDown (k : KState) (kc : KeyCode) : List Os :=
  if k.ignoreMin ≤ kc ∧ kc ≤ k.ignoreMax then []
  else match k.btnCodes.find? (·.1 == kc) with
    | some (_, b) => [.btnDown b]
    | none => match k.wheelCodes.find? (·.1 == kc) with
      | some (_, d) => [.scroll d 120]
      | none => [.down kc]

theorem out_append_nil (k : KState) : ({ k with out := k.out ++ [] } : KState) = k := by
  cases k; simp

theorem releaseKey_eq (k : KState) (kc : KeyCode) :
    releaseKey k kc = { k with out := k.out ++ keyUp k kc } := by
  unfold releaseKey keyUp KState.emit
  by_cases h : (k.ignoreMin ≤ kc ∧ kc ≤ k.ignoreMax)
  · rw [if_pos h, if_pos h]; exact (out_append_nil k).symm
  · rw [if_neg h, if_neg h]
    cases hb : k.btnCodes.find? (·.1 == kc) with
    | some p => rfl
    | none =>
      simp only []
      cases hw : k.wheelCodes.find? (·.1 == kc) with
      | some p => exact (out_append_nil k).symm
      | none => rfl

theorem pressKey_eq (k : KState) (kc : KeyCode) :
    pressKey k kc = { k with out := k.out ++ keyDown k kc } := by
  unfold pressKey keyDown KState.emit
  by_cases h : (k.ignoreMin ≤ kc ∧ kc ≤ k.ignoreMax)
  · rw [if_pos h, if_pos h]; exact (out_append_nil k).symm
  · rw [if_neg h, if_neg h]
    cases hb : k.btnCodes.find? (·.1 == kc) with
    | some p => rfl
    | none =>
      simp only []
      cases hw : k.wheelCodes.find? (·.1 == kc) with
      | some p => rfl
      | none => rfl

/-- the keys of `cur` that are not in `prev`, each once, in order (the press loop extends
`prev_keys` as it goes) -/
def newKeys (prev : List KeyCode) : List KeyCode → List KeyCode
  | [] => []
  | x :: r => if prev.contains x then newKeys prev r else x :: newKeys (prev ++ [x]) r

/-- the OS events of one key diff -/
def osDiff (k : KState) (prev cur : List KeyCode) : List Os :=
  (prev.filter (fun x => !cur.contains x)).flatMap (keyUp k) ++ (newKeys prev cur).flatMap (keyDown k)

/-- the last key the press loop presses, `lp` if it presses none -/
def lastNew (prev cur : List KeyCode) (lp : KeyCode) : KeyCode := ((newKeys prev cur).getLast?).getD lp

theorem releaseFold_eq (cur : List KeyCode) : ∀ (olds : List KeyCode) (k : KState),
    olds.foldl (fun k x => if cur.contains x then k else releaseKey k x) k
      = { k with out := k.out ++ (olds.filter (fun x => !cur.contains x)).flatMap (keyUp k) } := by
  intro olds
  induction olds with
  | nil => intro k; exact (out_append_nil k).symm
  | cons x r ih =>
    intro k
    cases hc : cur.contains x
    · -- the tables `keyUp` reads are those of `k` all along
      simp only [List.foldl_cons, List.filter_cons, hc, Bool.false_eq_true, if_false, Bool.not_false,
        if_true, List.flatMap_cons]
      rw [ih, releaseKey_eq, ← List.append_assoc]
      rfl
    · simp only [List.foldl_cons, List.filter_cons, hc, if_true, Bool.not_true, Bool.false_eq_true,
        if_false]
      exact ih k

theorem releaseOld_eq (k : KState) (cur : List KeyCode) :
    releaseOld k cur false = { k with out := k.out ++ (k.prevKeys.filter (fun x => !cur.contains x)).flatMap (keyUp k) } :=
  releaseFold_eq cur k.prevKeys k

theorem pressNew_cons (k : KState) (x : KeyCode) (r : List KeyCode) :
    pressNew k (x :: r) = pressNew (if k.prevKeys.contains x then k
      else { k with prevKeys := k.prevKeys ++ [x], lastPressedKey := x, out := k.out ++ keyDown k x }) r := by
  show pressNew (if k.prevKeys.contains x then k
    else pressKey { k with prevKeys := k.prevKeys ++ [x], lastPressedKey := x } x) r = _
  rw [pressKey_eq]; rfl

theorem pressNew_eq (cur : List KeyCode) : ∀ (k : KState),
    pressNew k cur = { k with prevKeys := k.prevKeys ++ newKeys k.prevKeys cur,
                              lastPressedKey := lastNew k.prevKeys cur k.lastPressedKey,
                              out := k.out ++ (newKeys k.prevKeys cur).flatMap (keyDown k) } := by
  induction cur with
  | nil => intro k; cases k; simp [pressNew, newKeys, lastNew]
  | cons x r ih =>
    intro k
    rw [pressNew_cons, newKeys, lastNew, newKeys]
    cases hc : k.prevKeys.contains x
    · simp only [Bool.false_eq_true, if_false]
      rw [ih]
      simp only [lastNew, List.getLast?_cons, List.flatMap_cons, List.append_assoc, List.cons_append,
        List.nil_append]
      cases h : (newKeys (k.prevKeys ++ [x]) r).getLast? <;> rfl
    · simp only [if_true]
      exact ih k

/-- **the key diff in closed form**: releases of the keys no longer wanted, then presses of the new ones -/
theorem keyDiff_eq (k : KState) (cur : List KeyCode) :
    pressNew (releaseOld k cur false) cur =
      { k with out := k.out ++ osDiff k k.prevKeys cur,
               prevKeys := k.prevKeys ++ newKeys k.prevKeys cur,
               lastPressedKey := lastNew k.prevKeys cur k.lastPressedKey } := by
  rw [releaseOld_eq, pressNew_eq]
  simp only [osDiff, List.append_assoc]
  rfl

end KVerif.K
