/-
C17 helper lemmas: a lazy tap-dance over many ticks.
An abstract machine on NUMBERS (taps counted so far, ticks left to the deadline; per tick: did the
queue grow, how many presses of the key arrived before any other key's press, did another key's
press arrive) — `specStep` / `specRun` — and the proof that the `TapDance` arm of `tick_wt`, which
recounts the whole QUEUE whenever its length changed, refines it (`tickWtTd_refines`,
`tdDrive_refines`).  Closed forms are then proved on the abstract machine.
-/
import KVerif.Lemmas.TapDance
namespace KVerif.C17
open KVerif.L

/-! ## The abstract machine -/

/-- what the events arriving before one tick mean for a pending dance -/
structure Arrival where
  grew : Bool      -- the queue grew (or: first tick after the key was pressed, when the queue is always read)
  taps : Nat       -- presses of the dance key among them, before the first press of another key
  other : Bool     -- a press of another key is among them
  deriving Repr, DecidableEq

inductive Verdict
  | pending (k rem : Nat)    -- `k` taps counted, deadline in `rem` ticks
  | decided (n : Nat)        -- the dance ends on `n` taps
  deriving Repr, DecidableEq

/-- one tick: the deadline wins over everything that arrives on its tick; otherwise another key's
press or reaching the list length ends the dance on the new count, which never exceeds the list
length (taps queued beyond it are not part of this dance); otherwise a grown count moves
the deadline to `T` ticks from now -/
def specStep (T len k rem : Nat) (a : Arrival) : Verdict :=
  if rem ≤ 1 then .decided k
  else if !a.grew then .pending k (rem - 1)
  else if a.other || decide (k + a.taps ≥ len) then .decided (inThisDance (k + a.taps) len)
  else .pending (k + a.taps) (if a.taps > 0 then T else rem - 1)

/-- ticks consumed (stops at the decision) and the verdict -/
def specRun (T len : Nat) : Nat → Nat → List Arrival → Nat × Verdict
  | k, rem, [] => (0, .pending k rem)
  | k, rem, a :: rest =>
    match specStep T len k rem a with
    | .decided n => (1, .decided n)
    | .pending k' rem' => ((specRun T len k' rem' rest).1 + 1, (specRun T len k' rem' rest).2)

/-! ## The queue view of an arrival -/

/-- the arrival a batch of new events amounts to -/
def arrivalOf (w : Waiting) (first : Bool) (b : List Queued) : Arrival :=
  { grew := first || !b.isEmpty, taps := nPr w (b.takeWhile (fun s => !otherPress w s)), other := interrupted w b }

theorem arrivalOf_grew {b : List Queued} (h : b ≠ []) (w : Waiting) (first : Bool) :
    (arrivalOf w first b).grew = true := by
  cases b with
  | nil => exact absurd rfl h
  | cons _ _ => exact Bool.or_true _

theorem nPr_append (w : Waiting) (a b : List Queued) : nPr w (a ++ b) = nPr w a + nPr w b := by
  simp [nPr, List.filter_append]

theorem seen_append {w : Waiting} {q : List Queued} (hq : interrupted w q = false) (first : Bool) (b : List Queued) :
    seenTaps w (q ++ b) = seenTaps w q + (arrivalOf w first b).taps ∧
    interrupted w (q ++ b) = (arrivalOf w first b).other := by
  constructor
  · show _ = _ + nPr w (b.takeWhile _)
    unfold seenTaps
    rw [List.takeWhile_append_of_pos (not_otherPress_of_clean hq), nPr_append, takeWhile_clean hq, Nat.add_assoc]
  · show _ = interrupted w b
    unfold interrupted at *
    rw [List.any_append, hq, Bool.false_or]

/-! ## One tick refines one abstract step -/

/-- the queue read so far shows `k` taps and no other key -/
structure Inv (w : Waiting) (acts : List Action) (T k : Nat) (q : List Queued) : Prop where
  cfg : w.config = .tapDance acts T k
  clean : interrupted w q = false
  seen : seenTaps w q = k
  memo : w.prevQueueLen = q.length % 256 ∨ w.prevQueueLen = 255

/-- the arithmetic of `Inv.fast_iff`, on plain numbers: `omega` is dear in a context full of other facts -/
theorem length_eq_memo_iff {m ql bl : Nat} (hm : m = ql ∨ m = 255) (h : ql + bl < 255) :
    ql + bl = m ↔ m ≠ 255 ∧ bl = 0 := by omega

/-- the memo is the length at the last reading, or 255 on the first tick, which no queue length is -/
theorem Inv.fast_iff {w : Waiting} {acts : List Action} {T k : Nat} {q : List Queued} (hI : Inv w acts T k q)
    (b : List Queued) (hlen : (q ++ b).length < 255) :
    (q ++ b).length % 256 = w.prevQueueLen ↔ (arrivalOf w (w.prevQueueLen == 255) b).grew = false := by
  rw [List.length_append] at hlen
  have hm := hI.memo
  rw [Nat.mod_eq_of_lt (Nat.lt_of_le_of_lt (Nat.le_add_right _ _) (Nat.lt_trans hlen (by decide)))] at hm
  rw [List.length_append, Nat.mod_eq_of_lt (Nat.lt_trans hlen (by decide)), length_eq_memo_iff hm hlen]
  show _ ↔ (w.prevQueueLen == 255 || !b.isEmpty) = false
  rw [Bool.or_eq_false_iff, beq_eq_false_iff_ne, Bool.not_eq_false', List.isEmpty_iff, List.length_eq_zero_iff]

theorem specStep_eq {w : Waiting} {acts : List Action} {T k : Nat} {q : List Queued} (hI : Inv w acts T k q)
    (b : List Queued) (hlen : (q ++ b).length < 255) :
    specStep T acts.length k w.timeout (arrivalOf w (w.prevQueueLen == 255) b) =
      (match decidesOn (cd w) acts.length k (q ++ b) with
      | some n => .decided n
      | none => .pending (tdCount (cd w) k (q ++ b))
          (if tdCount (cd w) k (q ++ b) > k then T else w.timeout - 1)) ∧
    (decidesOn (cd w) acts.length k (q ++ b) = none →
      seenTaps w (q ++ b) = tdCount (cd w) k (q ++ b) ∧ interrupted w (q ++ b) = false) := by
  have hcd : (cd w).coord = w.coord := rfl
  obtain ⟨hs1, hs2⟩ := seen_append hI.clean (w.prevQueueLen == 255) b
  rw [hI.seen] at hs1
  have hf := hI.fast_iff b hlen
  have hnil : (arrivalOf w (w.prevQueueLen == 255) b).grew = false → b = [] :=
    fun hg => Classical.byContradiction fun hne => by rw [arrivalOf_grew hne] at hg; cases hg
  generalize arrivalOf w (w.prevQueueLen == 255) b = a at *
  unfold specStep
  by_cases hd : w.timeout ≤ 1
  · rw [if_pos hd, decidesOn_deadline (Nat.sub_eq_zero_of_le hd)]
    exact ⟨rfl, nofun⟩
  · rw [if_neg hd]
    have hpos : 0 < (cd w).timeout := Nat.sub_pos_of_lt (Nat.lt_of_not_le hd)
    cases hg : a.grew with
    | false =>
      -- nothing arrived and this is not the first tick: the queue is not read
      obtain ⟨h1, h2⟩ := decidesOn_fast hpos (hf.mpr hg) acts.length k
      rw [Bool.not_false, if_pos rfl, h1, h2, if_neg (Nat.lt_irrefl k), hnil hg, List.append_nil]
      exact ⟨rfl, fun _ => ⟨hI.seen, hI.clean⟩⟩
    | true =>
      obtain ⟨h1, h2⟩ := decidesOn_slow hpos (fun h => by rw [hf.mp h] at hg; cases hg) acts.length k
      rw [seenTaps_congr hcd, hs1] at h1 h2
      rw [interrupted_congr hcd, hs2] at h1
      rw [Bool.not_true, if_neg Bool.false_ne_true, h1, h2]
      by_cases hc : (a.other || decide (k + a.taps ≥ acts.length)) = true
      · rw [if_pos hc, if_pos hc]
        exact ⟨rfl, nofun⟩
      · rw [if_neg hc, if_neg hc]
        rw [Bool.or_eq_true, not_or, Bool.not_eq_true] at hc
        refine ⟨?_, fun _ => ⟨hs1, hs2.trans hc.1⟩⟩
        simp only [gt_iff_lt, Nat.lt_add_right_iff_pos]

/-- **one tick of the waiting state refines one step of the abstract machine.**  `q` is the queue as
last read (showing `k` taps, no other key), `b` what arrived since; the queue never holds 255 events
(its capacity is 32). -/
theorem tickWtTd_refines {w : Waiting} {acts : List Action} {T k : Nat} {q : List Queued}
    (hI : Inv w acts T k q) (hne : acts ≠ []) (b : List Queued) (hlen : (q ++ b).length < 255) :
    match specStep T acts.length k w.timeout (arrivalOf w (w.prevQueueLen == 255) b) with
    | .decided n =>
      ∃ a, tdPick acts n = some a ∧ ∃ w', tickWtTd (cd w) acts T k (q ++ b) =
        .ok (w', evictTaps w n (q ++ b), some .tap) ∧ w'.tap = a ∧ w'.coord = w.coord
    | .pending k' rem' =>
      ∃ w', tickWtTd (cd w) acts T k (q ++ b) = .ok (w', q ++ b, none) ∧ w'.timeout = rem' ∧
        Inv w' acts T k' (q ++ b) ∧ w'.prevQueueLen ≠ 255 ∧ w'.coord = w.coord ∧ w'.tap = w.tap ∧
        w'.layerStack = w.layerStack := by
  obtain ⟨hspec, hnone⟩ := specStep_eq hI b hlen
  rw [hspec, tickWtTd_eq]
  cases hd : decidesOn (cd w) acts.length k (q ++ b) with
  | some n =>
    obtain ⟨a, ha, w', h1, h2, h3, _⟩ := tdDecide_ok hne (cd w) T n k (q ++ b)
    rw [evictTaps_coord_congr (show (cd w).coord = w.coord from rfl)] at h1
    exact ⟨a, ha, w', h1, h2, h3⟩
  | none =>
    obtain ⟨hs, hi⟩ := hnone hd
    generalize tdCount (cd w) k (q ++ b) = m at hs ⊢
    have hco : (tdNext (cd w) acts T m k (q ++ b).length).coord = w.coord := rfl
    refine ⟨_, rfl, rfl, ⟨rfl, (interrupted_congr hco _).trans hi, (seenTaps_congr hco _).trans hs, .inl rfl⟩,
      ?_, rfl, rfl, rfl⟩
    show (q ++ b).length % 256 ≠ 255
    rw [Nat.mod_eq_of_lt (Nat.lt_trans hlen (by decide))]
    exact Nat.ne_of_lt hlen

/-! ## Many ticks -/

/-- the waiting state alone, driven tick by tick through the real `tick_wt`: `batches[i]` are the
events that arrive before tick `i + 1`; stops at the first decision.  Result: ticks consumed, the
waiting state, the queue, the decision.  (The queue's `since` counters, which `tick` advances, are
never read by the tap-dance arm: `tickWtTd_ignores_since`.) -/
def tdDrive (w : Waiting) (q : List Queued) : List (List Queued) →
    Except Crash (Nat × Waiting × List Queued × Option WAct)
  | [] => .ok (0, w, q, none)
  | b :: rest =>
    match tickWt w (q ++ b) [] with
    | .error c => .error c
    | .ok (w', q', _, some r) => .ok (1, w', q', some r.1)
    | .ok (w', q', _, none) =>
      match tdDrive w' q' rest with
      | .error c => .error c
      | .ok (t, r) => .ok (t + 1, r)

theorem tdDrive_cons_decided {w w' : Waiting} {acts : List Action} {T k : Nat} {q b q' : List Queued} {r : WAct}
    (hc : w.config = .tapDance acts T k) (h : tickWtTd (cd w) acts T k (q ++ b) = .ok (w', q', some r))
    (rest : List (List Queued)) : tdDrive w q (b :: rest) = .ok (1, w', q', some r) := by
  rw [tdDrive, tickWt_td w acts T k hc, h]
  rfl

theorem tdDrive_cons_pending {w w' : Waiting} {acts : List Action} {T k t : Nat} {q b q' : List Queued}
    {rest : List (List Queued)} {res : Waiting × List Queued × Option WAct}
    (hc : w.config = .tapDance acts T k) (h : tickWtTd (cd w) acts T k (q ++ b) = .ok (w', q', none))
    (h' : tdDrive w' q' rest = .ok (t, res)) : tdDrive w q (b :: rest) = .ok (t + 1, res) := by
  rw [tdDrive, tickWt_td w acts T k hc, h]
  simp only [Option.map_none, h']

/-- the arrivals a list of batches amounts to (`first`: the first tick reads the queue regardless) -/
def arrivals (w : Waiting) : Bool → List (List Queued) → List Arrival
  | _, [] => []
  | first, b :: rest => arrivalOf w first b :: arrivals w false rest

theorem arrivals_congr {w w' : Waiting} (h : w'.coord = w.coord) (first : Bool) (bs : List (List Queued)) :
    arrivals w' first bs = arrivals w first bs := by
  induction bs generalizing first with
  | nil => rfl
  | cons b rest ih => simp only [arrivals, arrivalOf, otherPress_congr h, nPr_congr h, interrupted_congr h, ih]

/-- **the waiting state driven over any number of ticks refines the abstract machine**: same tick
of decision, same count; the chosen action is the one for that count, and the queue left behind is
the eviction of everything that had arrived by then. -/
theorem tdDrive_refines {acts : List Action} {T : Nat} (hne : acts ≠ []) (bs : List (List Queued)) :
    ∀ (w : Waiting) (q : List Queued) (k : Nat), Inv w acts T k q → (q ++ bs.flatten).length < 255 →
      ∀ t v, specRun T acts.length k w.timeout (arrivals w (w.prevQueueLen == 255) bs) = (t, v) →
      match v with
      | .decided n =>
        ∃ a, tdPick acts n = some a ∧ ∃ w', tdDrive w q bs =
          .ok (t, w', evictTaps w n (q ++ (bs.take t).flatten), some .tap) ∧ w'.tap = a ∧
          w'.coord = w.coord
      | .pending k' rem' =>
        ∃ w', tdDrive w q bs = .ok (t, w', q ++ bs.flatten, none) ∧ w'.timeout = rem' ∧
          Inv w' acts T k' (q ++ bs.flatten) ∧ t = bs.length ∧ w'.coord = w.coord := by
  induction bs with
  | nil =>
    rintro w q k hI _ _ _ ⟨⟩
    rw [List.flatten_nil, List.append_nil]
    exact ⟨w, rfl, rfl, hI, rfl, rfl⟩
  | cons b rest ih =>
    intro w q k hI hlen t v hs
    rw [List.flatten_cons, ← List.append_assoc] at hlen ⊢
    have hstep := tickWtTd_refines hI hne b (Nat.lt_of_le_of_lt (List.sublist_append_left _ _).length_le hlen)
    rw [arrivals, specRun] at hs
    cases hst : specStep T acts.length k w.timeout (arrivalOf w (w.prevQueueLen == 255) b) with
    | decided n =>
      rw [hst] at hstep hs
      cases hs
      obtain ⟨a, ha, w', hw', hta, hco⟩ := hstep
      refine ⟨a, ha, w', ?_, hta, hco⟩
      rw [tdDrive_cons_decided hI.cfg hw', List.take_succ_cons, List.take_zero, List.flatten_cons, List.flatten_nil,
        List.append_nil]
    | pending k' rem' =>
      rw [hst] at hstep hs
      cases hs
      obtain ⟨w', hw', hto, hI', hnf, hco, _, _⟩ := hstep
      have ih := ih w' (q ++ b) k' hI' hlen _ _ rfl
      rw [beq_false_of_ne hnf, arrivals_congr hco, hto] at ih
      generalize specRun T acts.length k' rem' (arrivals w false rest) = res at ih
      obtain ⟨t, v⟩ := res
      cases v with
      | decided n =>
        obtain ⟨a, ha, w'', hw'', hta, hco'⟩ := ih
        refine ⟨a, ha, w'', ?_, hta, hco'.trans hco⟩
        rw [tdDrive_cons_pending hI.cfg hw' hw'', evictTaps_coord_congr hco, List.take_succ_cons, List.flatten_cons,
          List.append_assoc]
      | pending k'' rem'' =>
        obtain ⟨w'', hw'', hto', hI'', ht, hco'⟩ := ih
        exact ⟨w'', tdDrive_cons_pending hI.cfg hw' hw'', hto', hI'', congrArg (· + 1) ht, hco'.trans hco⟩

/-- the 1: the press that opened the dance -/
theorem Inv.count {w : Waiting} {acts : List Action} {T k : Nat} {q : List Queued} (hI : Inv w acts T k q) :
    k = 1 + nPr w q := by
  rw [← hI.seen, seenTaps_not_interrupted hI.clean]

/-! The countdown is written additively (`rem + 1` ticks left before a tick that is not the deadline,
`l.length + (r + 1)` before `l.length` quiet ticks), so that no step needs a subtraction. -/

/-- nothing that matters arrived (nothing at all, or releases only) -/
def Arrival.quiet (a : Arrival) : Prop := a.taps = 0 ∧ a.other = false
/-- exactly one more tap arrived -/
def Arrival.oneTap (a : Arrival) : Prop := a.grew = true ∧ a.taps = 1 ∧ a.other = false

theorem specStep_deadline (T len k rem : Nat) (a : Arrival) (h : rem ≤ 1) :
    specStep T len k rem a = .decided k := by
  rw [specStep, if_pos h]

theorem not_deadline {rem : Nat} (hr : 0 < rem) : ¬ rem + 1 ≤ 1 :=
  fun h => Nat.not_lt_of_le (Nat.le_of_succ_le_succ h) hr

theorem specStep_quiet {T len k rem : Nat} {a : Arrival} (ha : a.quiet) (hk : k < len) (hr : 0 < rem) :
    specStep T len k (rem + 1) a = .pending k rem := by
  have : ¬ (false || decide (k + 0 ≥ len)) = true := by simpa using hk
  rw [specStep, if_neg (not_deadline hr), ha.1, ha.2, if_neg this, if_neg (Nat.lt_irrefl 0)]
  cases a.grew <;> rfl

theorem specStep_tap {T len k rem : Nat} {a : Arrival} (ha : a.oneTap) (hr : 0 < rem) :
    specStep T len k (rem + 1) a =
      if k + 1 ≥ len then .decided (inThisDance (k + 1) len) else .pending (k + 1) T := by
  rw [specStep, if_neg (not_deadline hr), ha.1, ha.2.1, ha.2.2]
  simp only [Bool.not_true, Bool.false_eq_true, if_false, Bool.false_or, decide_eq_true_eq, Nat.lt_add_one, if_true]

theorem specStep_other {T len k rem : Nat} {a : Arrival} (hg : a.grew = true) (ho : a.other = true) (hr : 0 < rem) :
    specStep T len k (rem + 1) a = .decided (inThisDance (k + a.taps) len) := by
  rw [specStep, if_neg (not_deadline hr), hg, ho]
  rfl

theorem specRun_cons_pending {T len k rem k' rem' : Nat} {a : Arrival} (rest : List Arrival)
    (h : specStep T len k rem a = .pending k' rem') :
    specRun T len k rem (a :: rest) = ((specRun T len k' rem' rest).1 + 1, (specRun T len k' rem' rest).2) := by
  rw [specRun, h]

theorem specRun_cons_decided {T len k rem n : Nat} {a : Arrival} (rest : List Arrival)
    (h : specStep T len k rem a = .decided n) : specRun T len k rem (a :: rest) = (1, .decided n) := by
  rw [specRun, h]

theorem exists_eq_add_two {a b : Nat} (h : a + 1 < b) : ∃ r, b = a + (r + 1 + 1) := by
  obtain ⟨r, hr⟩ := Nat.exists_eq_add_of_lt h
  exact ⟨r, by rw [hr, Nat.add_right_comm a 1 r, Nat.add_assoc a r 1, Nat.add_assoc a (r + 1) 1]⟩

/-- quiet ticks short of the deadline only move the countdown -/
theorem specRun_quiet_prefix {T len k : Nat} (hk : k < len) (l : List Arrival) {rem r : Nat}
    (h : rem = l.length + (r + 1)) (rest : List Arrival) (hq : ∀ a ∈ l, a.quiet) :
    specRun T len k rem (l ++ rest) =
      ((specRun T len k (r + 1) rest).1 + l.length, (specRun T len k (r + 1) rest).2) := by
  subst h
  induction l with
  | nil => rw [List.length_nil, Nat.zero_add]; rfl
  | cons a l ih =>
    rw [List.length_cons, Nat.add_right_comm l.length 1, List.cons_append,
      specRun_cons_pending _ (specStep_quiet (hq a List.mem_cons_self) hk (Nat.add_pos_right _ (Nat.succ_pos r))),
      ih fun x hx => hq x (List.mem_cons_of_mem _ hx)]
    rfl

/-- **an arrival on the deadline tick is not looked at**: after `rem − 1` quiet ticks the dance is
decided on the old count whatever arrives with the `rem`-th tick — also a further tap -/
theorem spec_deadline_wins {T len k : Nat} (hk : k < len) (l : List Arrival) (hq : ∀ a ∈ l, a.quiet)
    (rem : Nat) (hl : l.length + 1 = rem) (a : Arrival) (rest : List Arrival) :
    specRun T len k rem (l ++ a :: rest) = (rem, .decided k) := by
  rw [specRun_quiet_prefix hk l hl.symm _ hq, specRun_cons_decided _ (specStep_deadline T len k _ a (Nat.le_refl 1)),
    ← hl, Nat.add_comm]

/-- **the deadline is exact**: with nothing but quiet ticks the dance stays pending for `rem − 1`
ticks and is decided, on the count so far, on exactly the `rem`-th -/
theorem spec_timeout_exact {T len k : Nat} (hk : k < len) (l : List Arrival) (hq : ∀ a ∈ l, a.quiet)
    (rem : Nat) (hr : 1 ≤ rem) :
    (l.length < rem → specRun T len k rem l = (l.length, .pending k (rem - l.length))) ∧
    (rem ≤ l.length → specRun T len k rem l = (rem, .decided k)) := by
  constructor
  · intro h
    obtain ⟨r, rfl⟩ := Nat.exists_eq_add_of_lt h
    have := specRun_quiet_prefix (T := T) hk l (Nat.add_assoc l.length r 1) [] hq
    rw [List.append_nil] at this
    rw [this, Nat.add_assoc, Nat.add_sub_cancel_left, specRun, Nat.zero_add]
  · intro h
    -- the tick after the first `rem − 1` is the deadline
    obtain ⟨n, rfl⟩ := Nat.exists_eq_add_of_lt hr
    rw [Nat.zero_add] at h ⊢
    have hsplit := List.take_append_drop n l
    rw [List.drop_eq_getElem_cons h] at hsplit
    rw [← hsplit]
    exact spec_deadline_wins hk _ (fun a ha => hq a (List.mem_of_mem_take ha)) _
      (by rw [List.length_take, Nat.min_eq_left (Nat.le_of_succ_le h)]) _ _

/-- another key's press seen before the deadline ends the dance on that tick, on the count
including the taps that arrived before it - but never on more taps than the list is long -/
theorem spec_interrupt {T len k : Nat} (hk : k < len) (l : List Arrival) (hq : ∀ a ∈ l, a.quiet)
    (rem : Nat) (hl : l.length + 1 < rem) (a : Arrival) (hg : a.grew = true) (ho : a.other = true)
    (rest : List Arrival) :
    specRun T len k rem (l ++ a :: rest) = (l.length + 1, .decided (inThisDance (k + a.taps) len)) := by
  obtain ⟨r, hr⟩ := exists_eq_add_two hl
  rw [specRun_quiet_prefix hk l hr _ hq, specRun_cons_decided _ (specStep_other hg ho (Nat.succ_pos r)), Nat.add_comm]

/-- `Taps T m g l`: the arrivals `l` are `m` taps, each seen fewer than `T` ticks after the previous
one (quiet ticks in between), `g` ticks in total -/
inductive Taps (T : Nat) : Nat → Nat → List Arrival → Prop
  | nil : Taps T 0 0 []
  | cons {quiets : List Arrival} {a : Arrival} {rest : List Arrival} {m g : Nat} :
      (∀ x ∈ quiets, x.quiet) → a.oneTap → quiets.length + 1 < T → Taps T m g rest →
      Taps T (m + 1) (quiets.length + 1 + g) (quiets ++ a :: rest)

theorem specRun_quiets_tap {T len k : Nat} (hk : k + 1 < len) {quiets : List Arrival} (hq : ∀ x ∈ quiets, x.quiet)
    {a : Arrival} (ha : a.oneTap) (hl : quiets.length + 1 < T) (rest : List Arrival) :
    specRun T len k T (quiets ++ a :: rest) =
      ((specRun T len (k + 1) T rest).1 + 1 + quiets.length, (specRun T len (k + 1) T rest).2) := by
  obtain ⟨r, hr⟩ := exists_eq_add_two hl
  rw [specRun_quiet_prefix (Nat.lt_of_succ_lt hk) quiets hr _ hq,
    specRun_cons_pending _ ((specStep_tap ha (Nat.succ_pos r)).trans (if_neg (Nat.not_le_of_lt hk)))]

/-- taps in time, list not exhausted: each one moves the deadline to `T` ticks after it was seen -/
theorem spec_taps_in_time {T len : Nat} {m g : Nat} {l : List Arrival} (h : Taps T m g l) :
    ∀ (k : Nat) (tail : List Arrival), k + m < len →
      specRun T len k T (l ++ tail) = ((specRun T len (k + m) T tail).1 + g, (specRun T len (k + m) T tail).2) := by
  induction h with
  | nil => intro k tail _; rfl
  | @cons quiets a rest m g hq ha hl _ ih =>
    intro k tail hk
    rw [← Nat.add_assoc, Nat.add_right_comm k m 1] at hk
    rw [List.append_assoc, List.cons_append, specRun_quiets_tap (Nat.lt_of_le_of_lt (Nat.le_add_right _ m) hk) hq ha hl,
      ih (k + 1) tail hk, Nat.add_right_comm k 1 m, ← Nat.add_assoc k m 1]
    exact congrArg (·, _) (by omega)

/-- **N taps, each within T of the previous, then silence**: decided exactly `T` ticks after the
last tap was seen, on `k + m` taps -/
theorem spec_nth {T len : Nat} {m g : Nat} {l : List Arrival} (h : Taps T m g l) (k : Nat)
    (hk : k + m < len) (hT : 1 ≤ T) (tail : List Arrival) (hq : ∀ a ∈ tail, a.quiet) (hl : T ≤ tail.length) :
    specRun T len k T (l ++ tail) = (g + T, .decided (k + m)) := by
  rw [spec_taps_in_time h k tail hk, (spec_timeout_exact hk tail hq T hT).2 hl, Nat.add_comm]

/-- **the list is exhausted**: the tap that brings the count to the list length ends the dance on
the tick it is seen -/
theorem spec_exhausted {T len : Nat} {m g : Nat} {l : List Arrival} (h : Taps T m g l) (k : Nat)
    (hk : k + m + 1 = len) (quiets : List Arrival) (hq : ∀ x ∈ quiets, x.quiet) (hl : quiets.length + 1 < T)
    (a : Arrival) (ha : a.oneTap) (rest : List Arrival) :
    specRun T len k T (l ++ (quiets ++ a :: rest)) = (g + quiets.length + 1, .decided len) := by
  obtain ⟨r, hr⟩ := exists_eq_add_two hl
  have hlt : k + m < len := hk ▸ Nat.lt_succ_self _
  have hst : specStep T len (k + m) (r + 1 + 1) a = .decided len := by
    rw [specStep_tap ha (Nat.succ_pos r), hk, if_pos (Nat.le_refl len)]
    exact congrArg Verdict.decided (Nat.min_self len)
  rw [spec_taps_in_time h k _ hlt, specRun_quiet_prefix hlt quiets hr _ hq, specRun_cons_decided _ hst,
    Nat.add_comm 1, Nat.add_comm _ g, Nat.add_assoc]

/-! ## Batches of queued events as arrivals -/

/-- releases only (of any key), possibly nothing -/
def QuietBatch (b : List Queued) : Prop := ∀ s ∈ b, s.ev.isPress = false
/-- exactly one press of the dance key, no press of another key, any releases -/
def TapBatch (w : Waiting) (b : List Queued) : Prop := nPr w b = 1 ∧ interrupted w b = false

theorem QuietBatch.clean {b : List Queued} (h : QuietBatch b) (w : Waiting) : interrupted w b = false :=
  List.any_eq_false.mpr fun s hs => by simp [otherPress, h s hs]

theorem quiet_no_press {b : List Queued} (h : QuietBatch b) (w : Waiting) : b.filter (isPr w) = [] :=
  List.filter_eq_nil_iff.mpr fun s hs hp => Bool.false_ne_true ((h s hs).symm.trans (isPr_isPress hp))

theorem quietBatch_arrival {b : List Queued} (h : QuietBatch b) (w : Waiting) (first : Bool) :
    (arrivalOf w first b).quiet :=
  ⟨by show nPr w (b.takeWhile _) = 0; rw [takeWhile_clean (h.clean w), nPr, quiet_no_press h w]; rfl, h.clean w⟩

theorem tapBatch_arrival {w : Waiting} {b : List Queued} (h : TapBatch w b) (first : Bool) :
    (arrivalOf w first b).oneTap :=
  ⟨arrivalOf_grew (by rintro rfl; exact absurd h.1 (by simp [nPr])) w first,
    by show nPr w (b.takeWhile _) = 1; rw [takeWhile_clean h.2]; exact h.1, h.2⟩

theorem arrivals_length (w : Waiting) (first : Bool) (bs : List (List Queued)) :
    (arrivals w first bs).length = bs.length := by
  induction bs generalizing first with
  | nil => rfl
  | cons b rest ih => simp [arrivals, ih]

theorem arrivals_quiet {bs : List (List Queued)} (h : ∀ b ∈ bs, QuietBatch b) (w : Waiting) (first : Bool) :
    ∀ a ∈ arrivals w first bs, a.quiet := by
  induction bs generalizing first with
  | nil => intro a ha; cases ha
  | cons b rest ih =>
    intro a ha
    simp only [arrivals, List.mem_cons] at ha
    rcases ha with rfl | ha
    · exact quietBatch_arrival (h b (by simp)) w first
    · exact ih (fun x hx => h x (by simp [hx])) false a ha

theorem arrivals_append (w : Waiting) (first : Bool) (l1 l2 : List (List Queued)) :
    arrivals w first (l1 ++ l2) = arrivals w first l1 ++ arrivals w (first && l1.isEmpty) l2 := by
  induction l1 generalizing first with
  | nil => simp [arrivals]
  | cons b rest ih => simp [arrivals, ih]

theorem arrivals_append_cons (w : Waiting) (first : Bool) (l : List (List Queued)) (b : List Queued)
    (rest : List (List Queued)) :
    arrivals w first (l ++ b :: rest) =
      arrivals w first l ++ arrivalOf w (first && l.isEmpty) b :: arrivals w false rest := by
  rw [arrivals_append, arrivals]

/-- `TapBatches w T m g bs`: the batches `bs` bring `m` taps of the key, each seen fewer than `T`
ticks after the previous one (only releases in between), over `g` ticks -/
inductive TapBatches (w : Waiting) (T : Nat) : Nat → Nat → List (List Queued) → Prop
  | nil : TapBatches w T 0 0 []
  | cons {quiets : List (List Queued)} {b : List Queued} {rest : List (List Queued)} {m g : Nat} :
      (∀ x ∈ quiets, QuietBatch x) → TapBatch w b → quiets.length + 1 < T → TapBatches w T m g rest →
      TapBatches w T (m + 1) (quiets.length + 1 + g) (quiets ++ b :: rest)

theorem tapBatches_arrivals {w : Waiting} {T m g : Nat} {bs : List (List Queued)} (h : TapBatches w T m g bs) :
    ∀ first, Taps T m g (arrivals w first bs) := by
  induction h with
  | nil => intro _; exact Taps.nil
  | @cons quiets b rest m g hq hb hl _ ih =>
    intro first
    rw [arrivals_append_cons]
    have := Taps.cons (T := T) (arrivals_quiet hq w first) (tapBatch_arrival hb (first && quiets.isEmpty))
      (by rw [arrivals_length]; exact hl) (ih false)
    rw [arrivals_length] at this
    exact this

theorem tapBatches_length {w : Waiting} {T m g : Nat} {bs : List (List Queued)} (h : TapBatches w T m g bs) :
    bs.length = g := by
  induction h with
  | nil => rfl
  | cons _ _ _ _ ih => simp [ih]; omega

theorem quiets_no_press {bs : List (List Queued)} (h : ∀ b ∈ bs, QuietBatch b) (w : Waiting) :
    bs.flatten.filter (isPr w) = [] := by
  induction bs with
  | nil => rfl
  | cons b rest ih =>
    rw [List.flatten_cons, List.filter_append, quiet_no_press (h b List.mem_cons_self) w,
      ih fun x hx => h x (List.mem_cons_of_mem _ hx)]
    rfl

end KVerif.C17
