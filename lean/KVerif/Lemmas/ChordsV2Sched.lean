/-
C09 helper lemmas for chords v2: histories.  The keys of a chord arrive one by one with any number of
ticks in between; the tick on which the chord is activated; the countdown while an enabled superset
is still possible.
-/
import KVerif.Lemmas.ChordsV2Ticks
namespace KVerif.C09
open KVerif.L

/-- `n` ticks of the v2 machine; what they hand to the layout, in order -/
def ticksV2c (layer : Nat) : Nat → ChV2 → Except Crash (ChV2 × List Queued)
  | 0, s => .ok (s, [])
  | n + 1, s =>
    match tickChv2 s layer with
    | .error c => .error c
    | .ok (s, dq) =>
      match ticksV2c layer n s with
      | .error c => .error c
      | .ok (s', dq') => .ok (s', dq ++ dq')

/-- a schedule `(key, gap)`: each key is pressed and then `gap` ticks pass -/
def enterV2 (layer : Nat) : List (Nat × Nat) → ChV2 → Except Crash (ChV2 × List Queued)
  | [], s => .ok (s, [])
  | (k, g) :: rest, s =>
    match ticksV2c layer g (pushV2 s (pressEv k)) with
    | .error c => .error c
    | .ok (s, dq) =>
      match enterV2 layer rest s with
      | .error c => .error c
      | .ok (s', dq') => .ok (s', dq ++ dq')

def gapSum (sched : List (Nat × Nat)) : Nat := (sched.map (·.2)).sum

/-- `g` ticks while the keys `pre` are queued and the window is open -/
theorem entry_ticks {cfg : ChV2Cfg} {layer : Nat} {pre : List Nat} {k1 : Nat} {possible : List ChordV2}
    (hhead : pre.head? = some k1) (hget : cfg.get k1 = some possible)
    (hu : ∀ r, r <+: pre → r ≠ [] → Undecided possible layer r) (hlen : pre.length ≤ SMOL_Q_LEN) :
    ∀ (g : Nat) {t : Nat} {s : ChV2}, Entry cfg pre [] t s → Sync s → t + g < minPending (Fk possible layer pre) →
      ∃ s', ticksV2c layer g s = .ok (s', []) ∧ Entry cfg pre [] (t + g) s' ∧ Sync s' := by
  intro g
  induction g with
  | zero => intro t s he hs _; exact ⟨s, rfl, he, hs⟩
  | succ g ih =>
    intro t s he hs ht
    rw [← Nat.add_assoc, Nat.add_right_comm] at ht ⊢
    have ht1 : t + 1 < minPending (Fk possible layer pre) := Nat.lt_of_le_of_lt (Nat.le_add_right _ g) ht
    obtain ⟨s1, h1, he1, hl1, hfast, hscan⟩ := entry_tick he hhead hget hu hlen
      (Nat.le_trans (Nat.le_of_lt ht1) (minPending_le _)) (fun _ => ht1)
    have hs1 : Sync s1 := by
      by_cases hf : FastCond s layer
      · obtain ⟨_, _, e3⟩ := hfast hf
        right; rw [e3, hl1, hf.2.2]; exact Nat.le_refl _
      · obtain ⟨_, _, e3⟩ := hscan hf
        right; rw [e3, hl1]; exact Nat.mod_le _ _
    obtain ⟨s', h2, he2, hs2⟩ := ih he1 hs1 ht
    exact ⟨s', by simp only [ticksV2c, h1, h2, List.append_nil], he2, hs2⟩

theorem gapSum_cons (k g : Nat) (sched : List (Nat × Nat)) : gapSum ((k, g) :: sched) = g + gapSum sched := rfl

theorem prefix_of_head? {l : List Nat} {a : Nat} (h : l.head? = some a) : [a] <+: l := by
  cases l with
  | nil => cases h
  | cons b t => cases h; exact ⟨t, rfl⟩

/-- a schedule: the keys are undecided at every prefix and all gaps together stay below the shortest
timeout of the candidates of the first key -/
theorem enter_rest {cfg : ChV2Cfg} {layer : Nat} {k1 : Nat} {possible : List ChordV2}
    (hget : cfg.get k1 = some possible) :
    ∀ (sched : List (Nat × Nat)) {pre : List Nat} {t : Nat} {s : ChV2}, Entry cfg pre [] t s → Sync s →
      (pre = [] → t = 0) →
      (∀ k ∈ (pre ++ sched.map (·.1)).head?, k = k1) →
      (∀ r, r <+: pre ++ sched.map (·.1) → r ≠ [] → Undecided possible layer r) →
      (pre ++ sched.map (·.1)).length ≤ SMOL_Q_LEN →
      t + gapSum sched < minPending (Fk possible layer [k1]) →
      ∃ s', enterV2 layer sched s = .ok (s', []) ∧ Entry cfg (pre ++ sched.map (·.1)) [] (t + gapSum sched) s' ∧ Sync s' := by
  intro sched
  induction sched with
  | nil =>
    intro pre t s he hs _ _ _ _ _
    exact ⟨s, rfl, by rw [List.map_nil, List.append_nil]; exact he, hs⟩
  | cons kg sched ih =>
    obtain ⟨k, g⟩ := kg
    intro pre t s he hs ht0 hhead hu hlen ht
    have e1 : pre ++ List.map (·.1) ((k, g) :: sched) = pre ++ [k] ++ sched.map (·.1) := by
      rw [List.map_cons, List.append_assoc]; rfl
    rw [e1] at hhead hu hlen ⊢
    rw [gapSum_cons, ← Nat.add_assoc] at ht ⊢
    have hlen' : pre.length + 1 + sched.length ≤ 16 := by
      simpa only [List.length_append, List.length_cons, List.length_nil, List.length_map] using hlen
    have hhead1 : (pre ++ [k]).head? = some k1 := by
      cases hp : pre ++ [k] with
      | nil => exact absurd hp (by simp)
      | cons a l => rw [hhead a (by rw [hp]; rfl)]; rfl
    have hu1 : ∀ r, r <+: pre ++ [k] → r ≠ [] → Undecided possible layer r :=
      fun r hr => hu r (hr.trans (List.prefix_append _ _))
    obtain ⟨hp1, hp2⟩ := he.push ht0 (by show pre.length < 32; omega) (pressEv k)
    obtain ⟨s2, h2, he2, hs2⟩ := entry_ticks hhead1 hget hu1
      (by rw [List.length_append]; show pre.length + 1 ≤ 16; omega) g hp1.snoc (hp2 hs).sync
      (by have := minPending_mono _ _ (Fk_prefix_subset possible layer [k1] _ (prefix_of_head? hhead1)); omega)
    obtain ⟨s', h3, he3, hs3⟩ := ih he2 hs2 (fun h => absurd h (by simp))
      hhead hu hlen ht
    exact ⟨s', by simp only [enterV2, h2, h3, List.append_nil], he3, hs3⟩

theorem ppRetain_presses (ps : List Nat) : ∀ (ks : List Nat) (q1 q2 : List Queued),
    q1.map (·.ev) = ks.map pressEv → (∀ k ∈ ks, k ∈ ps) → ppRetain (q1 ++ q2) ps = ppRetain q2 ps := by
  intro ks q1 q2 h hk
  have happ : ppRetain (q1 ++ q2) ps = ppRetain q1 ps ++ ppRetain q2 ps := by
    unfold ppRetain; exact List.filter_append _ _
  have : ppRetain q1 ps = [] := by
    unfold ppRetain
    rw [List.filter_eq_nil_iff]
    intro qd hqd
    have hm : qd.ev ∈ ks.map pressEv := by rw [← h]; exact List.mem_map_of_mem hqd
    obtain ⟨k, hk1, e⟩ := List.mem_map.mp hm
    rw [← e]
    simp [pressEv, hk k hk1]
  rw [happ, this, List.nil_append]

/-- the v2 state while a complete key set waits for a possible superset: the countdown `d` runs, the
fast path is taken -/
structure Waiting (cfg : ChV2Cfg) (layer : Nat) (ps : List Nat) (a d : Nat) (s : ChV2) : Prop where
  entry : Entry cfg ps [] a s
  tuc : s.ticksUntilChange = d
  lay : s.prevActiveLayer = layer
  len : s.prevQueueLen = s.queue.length

/-- **the tick that decides**: all keys `ps` of the enabled chord `C` are queued, the tick is a scan -/
theorem activation_tick {cfg : ChV2Cfg} {layer : Nat} {ps : List Nat} {t : Nat} {s : ChV2} {k1 : Nat}
    {possible : List ChordV2} {C : ChordV2}
    (he : Entry cfg ps [] t s) (hscan : ¬ FastCond s layer) (hhead : ps.head? = some k1)
    (hget : cfg.get k1 = some possible) (hnd : ps.Nodup) (hC : C ∈ possible) (hen : enabledOn layer C = true)
    (hex : exactMatch ps C = true) (hlen : ps.length ≤ SMOL_Q_LEN) (ht16 : t + 1 ≤ U16_MAX) :
    ∃ s' dq, tickChv2 s layer = .ok (s', dq) ∧ s'.cfg = cfg ∧ s'.ticksToIgnore = 0 ∧
      (((Fk possible layer ps = [C] ∨ minPending (Fk possible layer ps) ≤ t + 1) ∧
        ∃ cch coord, cch ∈ possible ∧ enabledOn layer cch = true ∧ exactMatch ps cch = true ∧
          (Fk possible layer ps = [C] → cch = C) ∧
          s'.active = [getActiveChord cch (t + 1) coord none] ∧ s'.queue = [] ∧
          dq = [⟨.press (0, 0), 0⟩]) ∨
       (2 ≤ (Fk possible layer ps).length ∧ t + 1 < minPending (Fk possible layer ps) ∧ dq = [] ∧
        Waiting cfg layer ps (t + 1) (minPending (Fk possible layer ps) - (t + 1)) s')) := by
  by_cases hw : 2 ≤ (Fk possible layer ps).length ∧ t + 1 < minPending (Fk possible layer ps)
  · obtain ⟨s', h1, he', hql, _, hsc'⟩ := entry_tick he hhead hget
      (undecided_prefixes_of_chord possible layer ps C hnd hC hen hex hw.1) hlen ht16 (fun _ => hw.2)
    obtain ⟨e1, e2, e3⟩ := hsc' hscan
    refine ⟨s', [], h1, he'.cfg, he'.tti, Or.inr ⟨hw.1, hw.2, rfl, he', e1, e2, ?_⟩⟩
    rw [e3, hql, he.queue_length]
    exact Nat.mod_eq_of_lt (Nat.lt_of_le_of_lt hlen (by decide))
  have hne : ps ≠ [] := by intro h; rw [h] at hhead; cases hhead
  have hsc := he.scan hne ht16 layer
  obtain ⟨rest, hq⟩ := he.head_press k1 hhead
  rw [tick_scan s layer he.tti he.active hscan (he.row0 (by intro e h; cases h)) (0, k1) t rest hq]
  obtain ⟨s1, hp, htti, hres⟩ := chord_v2_exact_set_partial (scanState s layer) layer ps k1 possible C none
    (hsc.collect hlen) hhead (by rw [hsc.cfg]; exact hget) hnd hC hen hex
    (by rw [hsc.active]; show 0 < 10; omega)
  obtain ⟨hc1, hl1, hql1⟩ := processPresses_frame _ _ _ hp
  rw [hp]
  simp only []
  rw [hsc.since] at hres
  rcases hres with ⟨hwhy, cch, coord, h1, h2, h3, h4, hact, hqq⟩ | ⟨h2, hlt, _⟩
  · rw [hsc.active, List.nil_append] at hact
    have hst : (getActiveChord cch (t + 1) coord none).status = .unread := by
      simp [getActiveChord, relHits]
    rw [tickTail_one (afterScan s1) _ hact (Or.inl hst)]
    refine ⟨_, _, rfl, by show s1.cfg = cfg; rw [hc1]; exact hsc.cfg,
      by show s1.ticksToIgnore - 1 = 0; rw [htti, hsc.tti], Or.inl ⟨?_, cch, coord, h1, h2, h3, h4, rfl, ?_, ?_⟩⟩
    · rcases hwhy with h | h | h
      · exact Or.inl h
      · exact Or.inr h
      · simp at h
    · show s1.queue = []
      rw [hqq]
      have := ppRetain_presses ps ps (scanState s layer).queue [] (by rw [hsc.evs]; simp) (fun k hk => hk)
      rw [List.append_nil] at this
      rw [this]; rfl
    · rw [hst]; simp
  · exact absurd ⟨h2, hlt⟩ hw

/-- **the countdown**: `j` ticks on the fast path, while the countdown lasts, hand nothing over and
change nothing but the ages -/
theorem wait_ticks {cfg : ChV2Cfg} {layer : Nat} {ps : List Nat} {k1 : Nat} {possible : List ChordV2}
    (hhead : ps.head? = some k1) (hget : cfg.get k1 = some possible)
    (hu : ∀ r, r <+: ps → r ≠ [] → Undecided possible layer r) (hlen : ps.length ≤ SMOL_Q_LEN) :
    ∀ (j a d : Nat) (s : ChV2), Waiting cfg layer ps a (d + j) s → a + (d + j) ≤ U16_MAX →
      ∃ s', ticksV2c layer j s = .ok (s', []) ∧ Waiting cfg layer ps (a + j) d s' := by
  intro j
  induction j with
  | zero => intro a d s hw _; exact ⟨s, rfl, hw⟩
  | succ j ih =>
    intro a d s hw hU
    have hf : FastCond s layer := ⟨by rw [hw.tuc]; exact Nat.succ_pos _, hw.lay, hw.len⟩
    obtain ⟨s1, h1, he1, hl1, hfast, _⟩ := entry_tick hw.entry hhead hget hu hlen
      (Nat.le_trans (Nat.add_le_add_left (Nat.le_add_left 1 (d + j)) a) hU) (fun h => absurd hf h)
    obtain ⟨e1, e2, e3⟩ := hfast hf
    have hw1 : Waiting cfg layer ps (a + 1) (d + j) s1 :=
      ⟨he1, by rw [e1, hw.tuc]; rfl, by rw [e2, hw.lay], by rw [e3, hl1, hw.len]⟩
    obtain ⟨s', h2, hw2⟩ := ih (a + 1) d s1 hw1 (by rw [Nat.add_right_comm]; exact hU)
    exact ⟨s', by simp only [ticksV2c, h1, h2, List.append_nil], Nat.add_right_comm a 1 j ▸ hw2⟩

end KVerif.C09
