/-
UTF-8 facts used by the lexer proofs: in a well-formed text a continuation byte never follows an
ASCII byte, the first byte is not a continuation byte, and removing a leading BOM leaves a
well-formed text.
-/
import KVerif.Model.SExpr
namespace KVerif.SExpr

/-- "no continuation byte after an ASCII byte": the only consequence of UTF-8 well-formedness the
lexer needs, because it only ever stops after an ASCII byte, before an ASCII byte, or at the end. -/
def NCA : List Nat → Prop
  | [] => True
  | [_] => True
  | a :: b :: r => (a < 128 → isCont b = false) ∧ NCA (b :: r)

theorem NCA.tail {a : Nat} {l : List Nat} (h : NCA (a :: l)) : NCA l := by
  cases l with
  | nil => trivial
  | cons b r => exact h.2

theorem NCA.suffix {pre l : List Nat} (h : NCA (pre ++ l)) : NCA l := by
  induction pre with
  | nil => exact h
  | cons a r ih => exact ih h.tail

theorem NCA.cons_hi {a : Nat} {l : List Nat} (ha : 128 ≤ a) (h : NCA l) : NCA (a :: l) := by
  cases l with
  | nil => trivial
  | cons b r => exact ⟨fun h' => absurd h' (Nat.not_lt.mpr ha), h⟩

theorem NCA.append_hi {k l : List Nat} (hk : ∀ b ∈ k, 128 ≤ b) (h : NCA l) : NCA (k ++ l) := by
  induction k with
  | nil => exact h
  | cons a k ih => exact .cons_hi (hk a (.head _)) (ih fun b hb => hk b (.tail _ hb))

theorem isCont_ge {b : Nat} (h : isCont b = true) : 128 ≤ b := by
  rw [isCont, Bool.and_eq_true, decide_eq_true_eq] at h; exact h.1

/-- whichever range the second byte of a 3- or 4-byte character is checked against, it is ≥ 0x80 -/
theorem second_ge {c d : Prop} [Decidable c] [Decidable d] {b lo hi lo' hi' : Nat} (hlo : 128 ≤ lo)
    (hlo' : 128 ≤ lo')
    (h : (if c then decide (lo ≤ b) && decide (b ≤ hi) else if d then decide (lo' ≤ b) && decide (b ≤ hi')
      else isCont b) = true) : 128 ≤ b := by
  by_cases hc : c
  · rw [if_pos hc, Bool.and_eq_true, decide_eq_true_eq] at h; omega
  rw [if_neg hc] at h
  by_cases hd : d
  · rw [if_pos hd, Bool.and_eq_true, decide_eq_true_eq] at h; omega
  · rw [if_neg hd] at h; exact isCont_ge h

/-- one decoding step of `validUtf8`, with only what the proofs need of each byte: an ASCII byte, or
a leading byte followed by its continuation bytes `k` -/
theorem valid_cases {a : Nat} {r : List Nat} (h : validUtf8 (a :: r) = true) :
    (a < 128 ∧ validUtf8 r = true) ∨
    (192 ≤ a ∧ ∃ k t, r = k ++ t ∧ (∀ b ∈ k, 128 ≤ b) ∧ validUtf8 t = true) := by
  unfold validUtf8 at h
  by_cases h1 : a < 128
  · rw [if_pos h1] at h; exact .inl ⟨h1, h⟩
  rw [if_neg h1] at h
  by_cases h2 : (194 ≤ a && a ≤ 223) = true
  · rw [if_pos h2] at h
    rw [Bool.and_eq_true, decide_eq_true_eq] at h2
    match r, h with
    | b1 :: t, h =>
      simp only [Bool.and_eq_true] at h
      exact .inr ⟨by omega, [b1], t, rfl, by simp [isCont_ge h.1], h.2⟩
  rw [if_neg h2] at h
  by_cases h3 : (224 ≤ a && a ≤ 239) = true
  · rw [if_pos h3] at h
    rw [Bool.and_eq_true, decide_eq_true_eq] at h3
    match r, h with
    | b1 :: b2 :: t, h =>
      simp only [Bool.and_eq_true] at h
      exact .inr ⟨by omega, [b1, b2], t, rfl,
        by simp [second_ge (by decide) (by decide) h.1.1, isCont_ge h.1.2], h.2⟩
  rw [if_neg h3] at h
  by_cases h4 : (240 ≤ a && a ≤ 244) = true
  · rw [if_pos h4] at h
    rw [Bool.and_eq_true, decide_eq_true_eq] at h4
    match r, h with
    | b1 :: b2 :: b3 :: t, h =>
      simp only [Bool.and_eq_true] at h
      exact .inr ⟨by omega, [b1, b2, b3], t, rfl,
        by simp [second_ge (by decide) (by decide) h.1.1.1, isCont_ge h.1.1.2, isCont_ge h.1.2], h.2⟩
  · rw [if_neg h4] at h; cases h

theorem head_not_cont_of_valid {b : Nat} {r : List Nat} (h : validUtf8 (b :: r) = true) : isCont b = false := by
  rcases valid_cases h with h | h <;> simp [isCont] <;> omega

theorem nca_of_valid_aux : ∀ (n : Nat) (s : List Nat), s.length ≤ n → validUtf8 s = true → NCA s
  | _, [], _, _ => trivial
  | n + 1, a :: r, hn, h => by
    rcases valid_cases h with ⟨_, hr⟩ | ⟨ha, k, t, rfl, hk, ht⟩
    · have ih := nca_of_valid_aux n r (Nat.le_of_succ_le_succ hn) hr
      cases r with
      | nil => trivial
      | cons b r' => exact ⟨fun _ => head_not_cont_of_valid hr, ih⟩
    · exact .cons_hi (by omega) (.append_hi hk (nca_of_valid_aux n t (by simp at hn; omega) ht))

theorem nca_of_valid {s : List Nat} (h : validUtf8 s = true) : NCA s :=
  nca_of_valid_aux s.length s (Nat.le_refl _) h

/-- `strip_utf8_bom`'s `expect("valid input")` cannot fire: what follows a BOM in a `&str` is a `&str`. -/
theorem valid_after_bom {r : List Nat} (h : validUtf8 (0xEF :: 0xBB :: 0xBF :: r) = true) : validUtf8 r = true := by
  unfold validUtf8 at h
  simpa [isCont] using h

end KVerif.SExpr
