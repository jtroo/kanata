/-
Lemmas for C16 (templates): abstracting any number of subexpression occurrences of an item into
template parameters (several parameters, several occurrences each), and the sequential
substitution of the seeded change C16d for comparison.
-/
import KVerif.Lemmas.CfgTreeCond
namespace KVerif.CfgTree

mutual
  /-- `absTree params args pat item`: the pattern `pat` is the item `item` in which some
  occurrences of the subexpressions `args[i]` were replaced by the parameter atom `$params[i]`,
  and every atom that was kept is not a parameter reference (the parameter names are fresh). -/
  def absTree (params : List Str) (args : List Tree) : Tree → Tree → Prop
    | .atom a, e =>
      (paramIndex a params = none ∧ e = .atom a) ∨
      (∃ (i : Nat) (p : Str), params[i]? = some p ∧ a = '$' :: p ∧ args[i]? = some e)
    | .list ps, .list is => absList params args ps is
    | .list _, .atom _ => False
  def absList (params : List Str) (args : List Tree) : List Tree → List Tree → Prop
    | [], [] => True
    | p :: ps, i :: is => absTree params args p i ∧ absList params args ps is
    | [], _ :: _ => False
    | _ :: _, [] => False
end

theorem absList_refl (params : List Str) (args : List Tree) (l : List Tree)
    (h : ∀ a ∈ atomsOfList l, paramIndex a params = none) : absList params args l l := by
  induction l using forest_induction with
  | nil => trivial
  | atom a rest ih =>
    rw [atomsOfList, atomsOfTree] at h
    rw [absList, absTree]
    exact ⟨.inl ⟨h a List.mem_cons_self, rfl⟩, ih fun b hb => h b (List.mem_cons_of_mem _ hb)⟩
  | list l rest ihl ihr =>
    rw [atomsOfList, atomsOfTree] at h
    rw [absList, absTree]
    exact ⟨ihl fun b hb => h b (List.mem_append_left _ hb),
      ihr fun b hb => h b (List.mem_append_right _ hb)⟩

theorem absList_append {params : List Str} {args ps is qs js : List Tree}
    (h1 : absList params args ps is) (h2 : absList params args qs js) :
    absList params args (ps ++ qs) (is ++ js) := by
  induction ps generalizing is with
  | nil => cases is with
    | nil => exact h2
    | cons _ _ => exact h1.elim
  | cons p ps ih => cases is with
    | nil => exact h1.elim
    | cons i is => exact ⟨h1.1, ih h1.2⟩

theorem paramIndex_of_getElem (params : List Str) (i : Nat) (p : Str) (hnd : params.Nodup)
    (h : params[i]? = some p) : paramIndex ('$' :: p) params = some i := by
  induction params generalizing i with
  | nil => cases h
  | cons q qs ih =>
    rw [paramIndex]
    cases i with
    | zero => cases h; rw [if_pos rfl]
    | succ i =>
      have ⟨hq, hnd⟩ := List.nodup_cons.mp hnd
      have hne : ¬ '$' :: q = '$' :: p := fun e => hq ((List.cons.inj e).2 ▸ List.mem_of_getElem? h)
      rw [if_neg hne, ih i hnd h]
      rfl

mutual
  /-- instantiating the pattern gives the item back — all parameters at once -/
  theorem substTree_abs (params : List Str) (args : List Tree) (hnd : params.Nodup) :
      ∀ (pat item : Tree), absTree params args pat item → substTree params args pat = item
    | .atom a, e, h => by
      simp only [absTree] at h
      rcases h with ⟨h1, rfl⟩ | ⟨i, p, hp, rfl, ha⟩
      · simp [substTree, h1]
      · simp [substTree, paramIndex_of_getElem params i p hnd hp, ha]
    | .list ps, .list is, h => by
      simp only [absTree] at h
      simp only [substTree, substList_abs params args hnd ps is h]
    | .list _, .atom _, h => by simp [absTree] at h
  theorem substList_abs (params : List Str) (args : List Tree) (hnd : params.Nodup) :
      ∀ (pats items : List Tree), absList params args pats items →
        substList params args pats = items
    | [], [], _ => rfl
    | p :: ps, i :: is, h => by
      simp only [absList] at h
      simp only [substList, substTree_abs params args hnd p i h.1, substList_abs params args hnd ps is h.2]
    | [], _ :: _, h => by simp [absList] at h
    | _ :: _, [], h => by simp [absList] at h
end

theorem instantiate_call (T : List Template) (hd : Tree) (name : Str) (args : List Tree)
    (tpl : Template) (hT : findTemplate name T = some tpl) (hlen : args.length = tpl.params.length) :
    instantiate T (hd :: .atom name :: args) =
      condLoop (sizeList (concatList (substList tpl.params args tpl.content)) + 1)
        (concatList (substList tpl.params args tpl.content)) := by
  simp only [instantiate, hT, hlen, ne_eq, not_true_eq_false, if_false]

theorem instantiate_abs (T : List Template) (hd : Tree) (name : Str) (params : List Str)
    (args pats items : List Tree)
    (hT : findTemplate name T = some { name := name, params := params, content := pats })
    (hnd : params.Nodup) (hlen : args.length = params.length)
    (habs : absList params args pats items) :
    instantiate T (hd :: .atom name :: args) =
      condLoop (sizeList (concatList items) + 1) (concatList items) := by
  rw [instantiate_call T hd name args _ hT hlen, substList_abs params args hnd pats items habs]

/-- The substitution of the seeded change C16d: one `visit_mut_all_atoms` pass per parameter, each
on the result of the previous one (NOT what the code does; for the counterexample only). -/
def substSeq : List Str → List Tree → List Tree → List Tree
  | p :: ps, a :: as, l => substSeq ps as (substList [p] [a] l)
  | _, _, l => l

end KVerif.CfgTree
