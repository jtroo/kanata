/-
`Kanata::tick_ms` of the composed kanata-level model (Model/KanataDynTick.lean) against `tick_ms` of
the stand-alone glue model (Model/DynMacro.lean).  Everything is proved over a *frame*: a set `S` of
kanata states that is closed under `tick_states`, in which `tick_states` leaves the dynamic-macro
state alone, and that does not care about the layout or the replay state.  `dynFrame_rest`: the
states with the other kanata-level components at rest (`C07.KRest`: no custom actions, overrides,
caps-word, pointer movement, …; any layout) form such a frame.
In a frame the replay side of the kanata-level loops - replay state, `fed`, `lost`, `extra_ticks` -
is, step for step, the glue model run over the layout that does nothing (`unitI`): `tickMs_sim`.
What Props/C19.lean proves for every layout about `rep`, `fed` and `lost` therefore holds of the
composed model, for every `ms_elapsed`.
-/
import KVerif.Lemmas.KanataDynOut
import KVerif.Lemmas.DynMacroRun
import KVerif.Model.KanataDynTick
namespace KVerif.K
open KVerif KVerif.L KVerif.DynMacro

structure DynFrame (S : KState → Prop) : Prop where
  tick : ∀ k k', S k → tickStates k = .ok k' → S k' ∧ k'.dyn = k.dyn
  put : ∀ k l d, S k → d.rcd = k.dyn.rcd → S { k with layout := l, dyn := d }

/-- the rest states are a frame -/
theorem dynFrame_rest : DynFrame C07.KRest where
  tick := fun k k' hr ht => by
    obtain ⟨l', _, rfl, hr'⟩ := tickStates_rest_eq hr ht
    exact ⟨hr', afterTick_dyn k l'⟩
  put := fun _ _ _ hr hd => hr.of_eq (by simp only [C07.restFields, hd]) hr.cur hr.mcd

/-- with no replay running `tick_replay_state` returns the state as it is, which is the same thing -/
theorem tickReplayK_step (k : KState) :
    tickReplayK k = ({ k with dyn := { k.dyn with rep := (tickReplay k.dyn.beh k.dyn.rep).1 } },
      (tickReplay k.dyn.beh k.dyn.rep).2) := by
  unfold tickReplayK
  cases h : k.dyn.rep with
  | none => simp only [tickReplay]; rw [← h]
  | some r => rfl

theorem tickReplayK_eq (k : KState) :
    tickReplayK k = ({ k with dyn := { k.dyn with rep := (tickReplay k.dyn.beh k.dyn.rep).1 } },
      (tickReplay k.dyn.beh k.dyn.rep).2) ∨ (k.dyn.rep = none ∧ tickReplayK k = (k, none)) :=
  .inl (tickReplayK_step k)

/-! ### the simulation -/

/-- the options `tick_ms` reads -/
def Dyn.cfg (d : Dyn) : Cfg := { fix := d.fix, beh := d.beh, maxPresses := d.maxPresses }

/-- the glue-model state `a` carries the replay side of `k`; everything else of `k.dyn` is `d0`'s -/
def Shadow (d0 : Dyn) (k : KState) (a : DynMacro.K Unit) : Prop :=
  k.dyn = { d0 with rep := a.rep, fed := a.fed, lost := a.lost }

theorem Shadow.tickReplayK {d0 : Dyn} {k : KState} {a : DynMacro.K Unit} (hs : Shadow d0 k a) :
    tickReplayK k =
      ({ k with dyn := { d0 with rep := (tickReplay d0.cfg.beh a.rep).1, fed := a.fed, lost := a.lost } },
        (tickReplay d0.cfg.beh a.rep).2) := by
  rw [tickReplayK_step, hs]; rfl

section
variable {S : KState → Prop} (hS : DynFrame S) {d0 : Dyn}
include hS

/-- `tick_states` on both sides leaves the replay side as it is (over `unitI` it does nothing else
than count) -/
theorem tickStates_sim {k k1 : KState} {a : DynMacro.K Unit} (hk : S k) (hs : Shadow d0 k a)
    (ht : tickStates k = .ok k1) :
    ∃ a1, DynMacro.tickStates unitI d0.cfg a = .ok a1 ∧ S k1 ∧ Shadow d0 k1 a1 :=
  let ⟨hk1, hd⟩ := hS.tick k k1 hk ht
  ⟨_, rfl, hk1, hd.trans hs⟩

/- Both loops are unfolded on both sides and compared case by case on what `tick_replay_state`
returns.  The one difference: in a round without an event the composed model adds a delay of 0 to
`extra_ticks` (saturating) where the glue model adds nothing; the same as long as `extra_ticks` is a u16. -/
theorem msMainLoop_sim {n : Nat} {k k' : KState} {a : DynMacro.K Unit} {e e' : Nat}
    (h : msMainLoop n k e = .ok (k', e')) (hk : S k) (hs : Shadow d0 k a) (he : e ≤ DynMacro.U16_MAX) :
    ∃ a', mainLoop unitI d0.cfg n a e = .ok (a', e') ∧ S k' ∧ Shadow d0 k' a' := by
  induction n generalizing k a e with
  | zero => cases h; exact ⟨a, rfl, hk, hs⟩
  | succ n ih =>
    simp only [msMainLoop] at h
    split at h
    · cases h
    · rename_i k1 ht
      obtain ⟨a1, ha1, hk1, hs1⟩ := tickStates_sim hS hk hs ht
      have hr1 : d0.rcd = k1.dyn.rcd := by rw [hs1]
      simp only [mainLoop, ha1]
      simp only [replayFeed, hs1.tickReplayK] at h
      generalize tickReplay d0.cfg.beh a1.rep = r at h ⊢
      obtain ⟨r', _ | ⟨ev, d⟩⟩ := r <;> simp only [] at h ⊢
      · rw [show satAdd e 0 = e from Nat.min_eq_left he] at h
        exact ih h (hS.put k1 k1.layout _ hk1 hr1) (Eq.refl _) he
      · cases hl : k1.layout.event (replayEvent ev) with
        | error c => simp only [hl] at h; cases h
        | ok l =>
          simp only [hl] at h
          exact ih h (hS.put k1 l _ hk1 hr1) (Eq.refl _) (satAdd_le_max _ _)

theorem msExtraLoop_sim {n : Nat} {k k' : KState} {a : DynMacro.K Unit}
    (h : msExtraLoop n k = .ok k') (hk : S k) (hs : Shadow d0 k a) :
    ∃ a', extraLoop unitI d0.cfg n a = .ok a' ∧ S k' ∧ Shadow d0 k' a' := by
  induction n generalizing k a with
  | zero => cases h; exact ⟨a, rfl, hk, hs⟩
  | succ n ih =>
    simp only [msExtraLoop] at h
    split at h
    · cases h
    · rename_i k1 ht
      obtain ⟨a1, ha1, hk1, hs1⟩ := tickStates_sim hS hk hs ht
      have hr1 : d0.rcd = k1.dyn.rcd := by rw [hs1]
      simp only [extraLoop, ha1]
      simp only [hs1.tickReplayK] at h
      generalize tickReplay d0.cfg.beh a1.rep = r at h ⊢
      obtain ⟨r', _ | ⟨ev, d⟩⟩ := r <;> simp only [] at h ⊢
      · exact ih h (hS.put k1 k1.layout _ hk1 hr1) (Eq.refl _)
      · cases h
        exact ⟨_, rfl, hS.put k1 k1.layout _ hk1 hr1, rfl⟩

/-- **`tick_ms` of the composed model in a frame is `tick_ms` of the glue model over `unitI`** -/
theorem tickMs_sim {ms : Nat} {k k' : KState} {a : DynMacro.K Unit} (hk : S k) (hs : Shadow d0 k a)
    (h : tickMs ms k = .ok k') :
    ∃ a', DynMacro.tickMs unitI d0.cfg ms a = .ok a' ∧ S k' ∧ Shadow d0 k' a' := by
  simp only [tickMs] at h
  split at h
  · cases h
  · rename_i k1 extra hm
    obtain ⟨a1, ha1, hk1, hs1⟩ := msMainLoop_sim hS hm hk hs (Nat.zero_le _)
    rw [show k1.dyn.fix = d0.cfg.fix by rw [hs1]; rfl] at h
    simp only [DynMacro.tickMs, ha1]
    exact msExtraLoop_sim hS h hk1 hs1

end

/-- `n` calls of `tick_ms(1)` -/
def ticksMs : Nat → KState → Except Crash KState
  | 0, k => .ok k
  | n + 1, k => match tickMs 1 k with
    | .error c => .error c
    | .ok k' => ticksMs n k'

/-- `n` calls of `tick_ms(1)` are the history `[tick 1, .., tick 1]` of the glue model -/
theorem ticksMs_sim {S : KState → Prop} (hS : DynFrame S) {d0 : Dyn} {n : Nat} {k k' : KState}
    {a : DynMacro.K Unit} (h : ticksMs n k = .ok k') (hk : S k) (hs : Shadow d0 k a) :
    ∃ a', run unitI d0.cfg a ((List.replicate n 1).map .tick) = .ok a' ∧ S k' ∧ Shadow d0 k' a' := by
  induction n generalizing k a with
  | zero => cases h; exact ⟨a, rfl, hk, hs⟩
  | succ n ih =>
    simp only [ticksMs] at h
    split at h
    · cases h
    · rename_i k1 h1
      obtain ⟨a1, ha1, hk1, hs1⟩ := tickMs_sim hS hk hs h1
      obtain ⟨a', ha', r⟩ := ih h hk1 hs1
      exact ⟨a', by simp only [List.replicate_succ, List.map_cons, run, step, ha1, ha'], r⟩

end KVerif.K
