/-
Invariants of `parse_with` (Model/SExpr.lean `parseLoop`, `finish`, `parse`): the explicit stack
always has its placeholder, every span it holds is a span of the text (in bounds, ordered, on
character boundaries, line counters consistent), and no `assert!`/`expect`/slice panic is reachable.
-/
import KVerif.Lemmas.SExprLex
namespace KVerif.SExpr

/-- a position that the byte iterator can report in text `s` -/
structure PosOK (s : List Nat) (p : Pos) : Prop where
  le : p.abs ≤ s.length
  line : p.line = nl (s.take p.abs)
  lb : p.lineBeg ≤ p.abs

/-- a span of text `s`: in bounds, ordered, both ends on character boundaries -/
structure SpanOK (s : List Nat) (sp : Span) : Prop where
  file : sp.file = 1
  start : PosOK s sp.start
  stop : PosOK s sp.stop
  le : sp.start.abs ≤ sp.stop.abs
  bs : isCharBoundary s sp.start.abs = true
  be : isCharBoundary s sp.stop.abs = true

mutual
/-- every node of the expression satisfies `P` (given the atom's text, if it is an atom, and the span) -/
def SExpr.All (P : Option (List Nat) → Span → Prop) : SExpr → Prop
  | .atom t sp => P (some t) sp
  | .list xs sp => P none sp ∧ SExpr.AllL P xs
def SExpr.AllL (P : Option (List Nat) → Span → Prop) : List SExpr → Prop
  | [] => True
  | x :: r => x.All P ∧ SExpr.AllL P r
end

/-- a node of a tree parsed from `s`: its span is a span of `s`, and an atom's text is `&s[span]` -/
def NodeOK (s : List Nat) (t : Option (List Nat)) (sp : Span) : Prop :=
  SpanOK s sp ∧ ∀ txt, t = some txt → slice s sp.start.abs sp.stop.abs = .ok txt

theorem SExpr.AllL_append {P : Option (List Nat) → Span → Prop} {a b : List SExpr} :
    SExpr.AllL P (a ++ b) ↔ SExpr.AllL P a ∧ SExpr.AllL P b := by
  induction a with
  | nil => simp [SExpr.AllL]
  | cons x r ih => simp [SExpr.AllL, ih, and_assoc]

theorem Good.posOK {s pre it} (g : Good s pre it) : PosOK s ⟨pre.length, nl pre, it.lineBeg⟩ :=
  ⟨by simp [g.split], by simp [g.split], g.lb⟩

theorem Good.boundary {s pre it} (g : Good s pre it) (hb : Bnd it) : isCharBoundary s pre.length = true := by
  unfold isCharBoundary
  split
  · rfl
  · cases hi : it.inp with
    | nil => simp [g.split, hi]
    | cons c r => simp [g.split, hi, bnd_iff.mp hb c r hi]

theorem nl_take_mono (s : List Nat) {i j : Nat} (h : i ≤ j) : nl (s.take i) ≤ nl (s.take j) :=
  List.Sublist.count_le _ (List.take_sublist_take_left h)

/-- `Span::new` between two positions of the text, in order: its asserts hold -/
theorem span_new_eq {s p q} (hp : PosOK s p) (hq : PosOK s q) (h : p.abs ≤ q.abs) :
    Span.new p q 1 = .ok ⟨p, q, 1⟩ := by
  have : p.line ≤ q.line := by rw [hp.line, hq.line]; exact nl_take_mono s h
  simp [Span.new, h, this]

theorem span_new_ok {s p q} (hp : PosOK s p) (hq : PosOK s q) (h : p.abs ≤ q.abs)
    (bp : isCharBoundary s p.abs = true) (bq : isCharBoundary s q.abs = true) :
    ∃ c, Span.new p q 1 = .ok c ∧ SpanOK s c :=
  ⟨_, span_new_eq hp hq h, rfl, hp, hq, h, bp, bq⟩

/-- `Span::cover` of two spans of the same text neither panics nor leaves the text -/
theorem cover_ok {s a b} (ha : SpanOK s a) (hb : SpanOK s b) : ∃ c, a.cover b = .ok c ∧ SpanOK s c := by
  have hae := ha.le
  have hbe := hb.le
  unfold Span.cover
  simp only [ha.file, hb.file, ne_eq, not_true_eq_false, if_false]
  split <;> split
  · exact span_new_ok ha.start ha.stop hae ha.bs ha.be
  · exact span_new_ok ha.start hb.stop (by omega) ha.bs hb.be
  · exact span_new_ok hb.start ha.stop (by omega) hb.bs ha.be
  · exact span_new_ok hb.start hb.stop hbe hb.bs hb.be

/-- the stack of `parse_with`: frames opened by `(` above the placeholder -/
inductive StackInv (s : List Nat) : List Frame → Prop
  | bottom (items : List SExpr) : SExpr.AllL (NodeOK s) items → StackInv s [⟨items, Span.default⟩]
  | push (items : List SExpr) (sp : Span) (st : List Frame) :
      SpanOK s sp → SExpr.AllL (NodeOK s) items → StackInv s st → StackInv s (⟨items, sp⟩ :: st)

theorem StackInv.ne_nil {s st} (h : StackInv s st) : st ≠ [] := by cases h <;> simp

theorem StackInv.addItem {s parent rest e} (h : StackInv s (parent :: rest)) (he : SExpr.All (NodeOK s) e) :
    StackInv s (⟨parent.items ++ [e], parent.span⟩ :: rest) := by
  cases h with
  | bottom items hi => exact .bottom _ (SExpr.AllL_append.mpr ⟨hi, he, trivial⟩)
  | push items sp st hsp hi hst => exact .push _ _ _ hsp (SExpr.AllL_append.mpr ⟨hi, he, trivial⟩) hst

/-- what the front end guarantees about a diagnostic it returns -/
structure ErrOK (fx : Fixes) (s : List Nat) (e : PErr) : Prop where
  file : e.span.file = 1
  start : PosOK s e.span.start
  stop : PosOK s e.span.stop
  le : e.span.start.abs ≤ e.span.stop.abs
  bs : isCharBoundary s e.span.start.abs = true
  be : e.msg ≠ .lex .untermMlComment → (e.msg = .lex .untermMlString → fx.rawEnd = true) →
    isCharBoundary s e.span.stop.abs = true
  cm : e.msg = .lex .untermMlComment →
    e.span.start.abs + 2 ≤ s.length ∧ isCharBoundary s (e.span.start.abs + 2) = true

def MetaOK (s : List Nat) (md : List Meta) : Prop := ∀ m ∈ md, SpanOK s m.span

theorem MetaOK.snoc {s md m} (h : MetaOK s md) (hm : SpanOK s m.span) : MetaOK s (md ++ [m]) := by
  intro m' hm'
  rcases List.mem_append.mp hm' with hm' | hm'
  · exact h m' hm'
  · rw [List.mem_singleton.mp hm']; exact hm

theorem sliceIt_ok {s p1 tok : List Nat} {its it' : It} (g1 : Good s p1 its) (g2 : Good s (p1 ++ tok) it')
    (b1 : Bnd its) (b2 : Bnd it') : sliceIt its it' = .ok tok := by
  have hinp : its.inp = tok ++ it'.inp := by
    have h := g1.split.symm.trans g2.split
    rw [List.append_assoc] at h
    exact List.append_cancel_left h
  have hb : ∀ {it : It}, Bnd it → it.atBoundary = true := by
    intro it hb
    unfold It.atBoundary
    cases h : it.inp with
    | nil => simp
    | cons c r => simp [bnd_iff.mp hb c r h]
  have h3 := congrArg List.length g2.split
  simp only [List.length_append] at h3
  unfold sliceIt
  rw [if_neg (by simp [g1.abs, g2.abs, g2.len]; omega)]
  simp [hb b1, hb b2, g1.abs, g2.abs, hinp]

/-- the literal `&s[start..end]` of a token is the text between its two iterator positions -/
theorem slice_tok {s p1 tok : List Nat} {its it' : It} (g1 : Good s p1 its) (g2 : Good s (p1 ++ tok) it')
    (b1 : Bnd its) (b2 : Bnd it') : slice s p1.length (p1 ++ tok).length = .ok tok := by
  have hl := congrArg List.length g2.split
  simp only [List.length_append] at hl
  unfold slice
  rw [if_neg (by simp; omega)]
  simp only [g1.boundary b1, g2.boundary b2, Bool.and_self, Bool.not_true]
  rw [g2.split]
  simp

/-- the two opening bytes of a block comment end on a character boundary inside the text -/
theorem comment_start {s p r : List Nat} {its : It} (g : Good s p its) (h : its.inp = 35 :: 124 :: r) (hn : NCA s) :
    p.length + 2 ≤ s.length ∧ isCharBoundary s (p.length + 2) = true := by
  have g2 := (g.adv h).adv (It.adv_inp ..)
  have h1 := g2.posOK.le
  have h2 := g2.boundary (g2.bnd_last hn (by decide))
  simp only [List.length_append, List.length_singleton] at h1 h2
  exact ⟨h1, h2⟩


/-- postcondition of the token loop -/
def LoopPost (fx : Fixes) (s : List Nat) (r : Except PErr (List Frame × List Meta)) : Prop :=
  match r with
  | .ok (stack, md) => StackInv s stack ∧ MetaOK s md
  | .error e => ErrOK fx s e

theorem parseLoop_spec (fx : Fixes) (ignore : Bool) (s : List Nat) (hn : NCA s) :
    ∀ (fuel : Nat) (it : It) (pre : List Nat) (stack : List Frame) (md : List Meta),
      Good s pre it → Bnd it → it.rem + 1 ≤ fuel → StackInv s stack → MetaOK s md →
      ∃ r, parseLoop fx ignore fuel it stack md = .ok r ∧ LoopPost fx s r := by
  intro fuel
  induction fuel with
  | zero => intro it pre stack md g hb hf; omega
  | succ fuel ih =>
    intro it pre stack md g hb hf hst hmd
    obtain ⟨res, hres, hpost⟩ := nextToken_spec fx ignore s (it.rem + 1) it pre g (Nat.le_refl _)
    unfold parseLoop
    simp only [hres, bind, Except.bind, pure, Except.pure]
    obtain _ | ⟨⟨start, its⟩, t, it'⟩ := res
    · exact ⟨_, rfl, hst, hmd⟩
    obtain ⟨sk, tok, g1, g2, htok, rfl, hcm, hbnd⟩ := hpost
    obtain ⟨b1, b2⟩ := hbnd hn hb
    have hle : (pre ++ sk).length ≤ (pre ++ sk ++ tok).length := by simp
    simp only [g2.pos, span_new_eq g1.posOK g2.posOK hle]
    have g2' : Good s (pre ++ (sk ++ tok)) it' := by simpa using g2
    have hrem : it'.rem + 1 ≤ fuel := by have := g.rem_lt g2' (by simp [htok]); omega
    obtain e | tk := t
    · refine ⟨_, rfl, rfl, g1.posOK, g2.posOK, hle, g1.boundary b1, fun h1 h2 => ?_, fun h => ?_⟩
      · exact g2.boundary (b2 (by intro h; apply h1; cases h; rfl) (by intro h; apply h2; cases h; rfl))
      · obtain ⟨r, hr⟩ := hcm (by cases h; rfl)
        exact comment_start g1 hr hn
    have be : Bnd it' := b2 nofun nofun
    have hspan : SpanOK s ⟨_, _, 1⟩ := ⟨rfl, g1.posOK, g2.posOK, hle, g1.boundary b1, g2.boundary be⟩
    cases tk with
    | openP => exact ih it' _ _ md g2' be hrem (.push _ _ _ hspan trivial hst) hmd
    | closeP =>
      cases hst with
      | bottom items hi =>
        exact ⟨_, rfl, rfl, g1.posOK, g2.posOK, hle, g1.boundary b1, fun _ _ => g2.boundary be, nofun⟩
      | push items sp st hsp hi hst' =>
        match st, hst' with
        | parent :: rest', hst' =>
          obtain ⟨c, hc, hcok⟩ := cover_ok hsp hspan
          simp only [hc]
          exact ih it' _ _ md g2' be hrem (hst'.addItem ⟨⟨hcok, nofun⟩, hi⟩) hmd
    | str =>
      match stack, hst with
      | top :: rest, hst =>
        simp only [sliceIt_ok g1 g2 b1 be]
        exact ih it' _ _ md g2' be hrem
          (hst.addItem ⟨hspan, fun txt h => by cases h; exact slice_tok g1 g2 b1 be⟩) hmd
    | blockComment | lineComment | whitespace =>
      simp only [sliceIt_ok g1 g2 b1 be]
      exact ih it' _ _ _ g2' be hrem hst (hmd.snoc hspan)

/-- what `parse` guarantees about the diagnostic it returns -/
structure DiagOK (fx : Fixes) (s : List Nat) (e : PErr) : Prop where
  file : e.span.file = 1
  le : e.span.start.abs ≤ e.span.stop.abs
  inb : e.span.stop.abs ≤ s.length
  bs : isCharBoundary s e.span.start.abs = true
  be : (e.msg = .lex .untermMlString → fx.rawEnd = true) → isCharBoundary s e.span.stop.abs = true

def TopsOK (s : List Nat) (tops : List TopLevel) : Prop :=
  ∀ t ∈ tops, SpanOK s t.sp ∧ SExpr.AllL (NodeOK s) t.xs

def ParsePost (fx : Fixes) (s : List Nat) (r : Except PErr (List TopLevel × List Meta)) : Prop :=
  match r with
  | .ok (tops, md) => TopsOK s tops ∧ MetaOK s md
  | .error e => DiagOK fx s e

theorem finish_tops_spec {s : List Nat} : ∀ (items : List SExpr), SExpr.AllL (NodeOK s) items →
    match finish.tops items with
    | .ok tops => TopsOK s tops
    | .error e => SpanOK s e.span ∧ e.msg = .notInList := by
  intro items
  induction items with
  | nil => intro _; simp [finish.tops, TopsOK]
  | cons x r ih =>
    intro h
    cases x with
    | atom t sp => exact ⟨h.1.1, rfl⟩
    | list xs sp =>
      have := ih h.2
      simp only [finish.tops]
      cases hr : finish.tops r with
      | error e => simp only [hr] at this; simpa [Except.map] using this
      | ok tops =>
        simp only [hr] at this
        simp only [Except.map, TopsOK]
        intro t ht
        simp at ht
        rcases ht with rfl | ht
        · exact ⟨h.1.1.1, h.1.2⟩
        · exact this t ht

theorem finish_spec (fx : Fixes) (s : List Nat) (r : Except PErr (List Frame × List Meta)) (h : LoopPost fx s r) :
    ∃ r', finish r = .ok r' ∧ ParsePost fx s r' := by
  unfold finish
  match r, h with
  | .error e, he =>
    by_cases hc : e.msg = .lex .untermMlComment
    · simp only [hc]
      obtain ⟨h1, h2⟩ := he.cm hc
      exact ⟨_, rfl, ⟨he.file, by simp, by simpa using h1, he.bs, fun _ => by simpa using h2⟩⟩
    · simp only
      exact ⟨_, rfl, ⟨he.file, he.le, he.stop.le, he.bs, fun h => he.be hc h⟩⟩
  | .ok (stack, md), ⟨hst, hmd⟩ =>
    cases hst with
    | bottom items hi =>
      simp only [List.isEmpty_nil, Bool.not_true, Bool.false_eq_true, if_false]
      have := finish_tops_spec items hi
      cases hr : finish.tops items with
      | error e =>
        simp only [hr] at this
        exact ⟨_, rfl, ⟨this.1.file, this.1.le, this.1.stop.le, this.1.bs, fun _ => this.1.be⟩⟩
      | ok tops =>
        simp only [hr] at this
        exact ⟨_, rfl, this, hmd⟩
    | push items sp st hsp hi hst' =>
      have : st ≠ [] := hst'.ne_nil
      cases st with
      | nil => exact absurd rfl this
      | cons a b =>
        exact ⟨_, rfl, ⟨hsp.file, hsp.le, hsp.stop.le, hsp.bs, fun _ => hsp.be⟩⟩

theorem bnd_ofText {s : List Nat} (h : validUtf8 s = true) : Bnd (It.ofText s) := by
  unfold Bnd It.ofText
  cases s with
  | nil => trivial
  | cons b r => exact head_not_cont_of_valid h

theorem stripBom_spec {s : List Nat} (h : validUtf8 s = true) :
    ∃ s', stripBom s = .ok s' ∧ validUtf8 s' = true ∧ (s' = s ∨ s = 0xEF :: 0xBB :: 0xBF :: s') := by
  unfold stripBom
  split
  · rename_i r
    have := valid_after_bom h
    exact ⟨r, by simp [this], this, .inr rfl⟩
  · exact ⟨s, rfl, h, .inl rfl⟩

/-- **the front end is total on UTF-8 texts**, with everything the later theorems need -/
theorem parse_spec (fx : Fixes) (ignore : Bool) (s : List Nat) (h : validUtf8 s = true) :
    ∃ s' r, stripBom s = .ok s' ∧ parse fx ignore s = .ok r ∧ ParsePost fx s' r := by
  obtain ⟨s', hs', hv, _⟩ := stripBom_spec h
  have hn := nca_of_valid hv
  obtain ⟨r, hr, hpost⟩ := parseLoop_spec fx ignore s' hn (s'.length + 1) (It.ofText s') [] [⟨[], Span.default⟩] []
    (Good.ofText s') (bnd_ofText hv) (by simp [It.ofText]) (.bottom [] trivial) (by intro m hm; simp at hm)
  obtain ⟨r', hr', hpost'⟩ := finish_spec fx s' r hpost
  refine ⟨s', r', hs', ?_, hpost'⟩
  unfold parse
  simp only [hs', bind, Except.bind, hr, hr']

theorem parse_post {fx : Fixes} {ignore : Bool} {s s' : List Nat} {r} (h : validUtf8 s = true)
    (hs : stripBom s = .ok s') (hr : parse fx ignore s = .ok r) : ParsePost fx s' r := by
  obtain ⟨_, _, hs', hr', hpost⟩ := parse_spec fx ignore s h
  cases hs.symm.trans hs'
  cases hr.symm.trans hr'
  exact hpost

end KVerif.SExpr
