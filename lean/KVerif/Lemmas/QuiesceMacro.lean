/-
C01 helper lemmas: quiescence on the macro fragment of C08 (`CfgM`: plain keys, no-op and
transparent keys, custom actions, `CancelSequences`, macros alone or inside a `multi`).

Beyond `SeqInv` / `Quiet` of C08 the invariant `MInv` says: every state that carries a coordinate (a
held key, a custom action, a held `macro-repeat`) belongs to a key that is physically down or whose
release is still queued; every active sequence and every remembered repeating macro plays for at
most `M` ticks (the longest macro of the configuration); the one-shot state is untouched.
-/
import KVerif.Lemmas.MacroTick
import KVerif.Lemmas.Quiesce
namespace KVerif.Quiesce
open KVerif.L KVerif.Macro

/-! ## how long a macro plays -/

/-- ticks an event list occupies (`ticksOf`: a delay of `d` lasts `d` ticks, anything else one) -/
def evLen (evs : List SeqEv) : Nat := (evs.map ticksOf).sum

/-- ticks until a sequence has used up its events -/
def playLen (q : SeqState) : Nat := q.delay + (if q.tapped.isSome then 1 else 0) + evLen q.remaining

mutual
  /-- the longest macro an action can start -/
  def actLen : Action → Nat
    | .sequence evs | .repeatableSequence evs => evLen evs
    | .multipleActions acs => actLenL acs
    | _ => 0
  def actLenL : List Action → Nat
    | [] => 0
    | a :: rest => max (actLen a) (actLenL rest)
end

/-- playback length of the longest macro of the configuration -/
def maxMacro (c : LCfg) : Nat :=
  max (listMax (c.layers.map fun tbl => listMax (tbl.map fun e => actLen e.2)))
      (listMax (c.srcKeys.map fun e => actLen e.2))

def MacroBound (c : LCfg) (M : Nat) : Prop :=
  (∀ tbl ∈ c.layers, ∀ e ∈ tbl, actLen e.2 ≤ M) ∧ (∀ e ∈ c.srcKeys, actLen e.2 ≤ M)

theorem macroBound_max (c : LCfg) : MacroBound c (maxMacro c) := le_max_actions actLen c

theorem evLen_cons (e : SeqEv) (r : List SeqEv) : evLen (e :: r) = ticksOf e + evLen r := by
  simp [evLen]

theorem ticksOf_pos (e : SeqEv) : 1 ≤ ticksOf e := by
  cases e <;> simp [ticksOf]
  omega

theorem mem_keep {x q : SeqState} (h : x ∈ keep q) : x = q := by
  unfold keep at h
  split at h
  · cases h
  · exact List.mem_singleton.mp h

/-- **one tick of a well-formed sequence**: it ends, or its remaining playback time goes down -/
theorem playLen_step (q : SeqState) (h : SeqOK q) : ∀ x ∈ keep (seqStep q), playLen x + 1 ≤ playLen q := by
  obtain ⟨cur, delay, tapped, remaining⟩ := q
  obtain ⟨ht, hev⟩ := h
  simp only at ht hev
  subst ht
  intro x hx
  by_cases hd : delay > 0
  · have e2 : seqStep ⟨cur, delay, none, remaining⟩ = ⟨cur, delay - 1, none, remaining⟩ := by simp [seqStep, hd]
    cases mem_keep (e2 ▸ hx)
    exact Nat.add_lt_add_right (Nat.add_lt_add_right (Nat.pred_lt (Nat.ne_of_gt hd)) 0) _
  · obtain rfl : delay = 0 := Nat.eq_zero_of_not_pos hd
    rcases EvsOK_cases hev with rfl | ⟨e, tail, rfl, hstep, -, -⟩
    · simp [keep, (complete_tick cur).2] at hx
    · cases mem_keep ((first_tick cur e hstep tail).2 ▸ hx)
      show ticksOf e - 1 + 0 + evLen tail + 1 ≤ 0 + 0 + evLen (e :: tail)
      rw [evLen_cons, Nat.zero_add]
      exact Nat.add_lt_add_right (Nat.pred_lt (Nat.ne_of_gt (ticksOf_pos e))) _

/-! ## what an action of the fragment does, beyond `SeqInv` -/

/-- a state pushed by a key press at `c`: it carries that coordinate; a remembered repeating macro
plays for at most `M` ticks -/
def NewAt (M : Nat) (c : Coord) (st : St) : Prop :=
  st.coord = some c ∧ st.getLayer = none ∧ ∀ evs c', st = .repeatingSequence evs c' → evLen evs ≤ M

/-- a sequence just started -/
def Fresh (M : Nat) (q : SeqState) : Prop := q.delay = 0 ∧ q.tapped = none ∧ evLen q.remaining ≤ M

structure Out (M : Nat) (c : Coord) (s s' : Layout) : Prop where
  osh : s'.oneshot = s.oneshot
  queue : s'.queue = s.queue
  dl : s'.defaultLayer = s.defaultLayer
  lpt : s'.lptTapHoldTimeout ≤ s.lptTapHoldTimeout
  new : ∀ st ∈ s'.states, st ∈ s.states ∨ NewAt M c st
  cap : s.states.length ≤ STATES_CAP → s'.states.length ≤ STATES_CAP
  seqs : ∀ q ∈ s'.activeSequences, q ∈ s.activeSequences ∨ Fresh M q

theorem Out.refl (M : Nat) (c : Coord) (s : Layout) : Out M c s s :=
  ⟨rfl, rfl, rfl, Nat.le_refl _, fun _ h => Or.inl h, fun h => h, fun _ h => Or.inl h⟩

theorem Out.trans {M : Nat} {c : Coord} {s1 s2 s3 : Layout} (h1 : Out M c s1 s2) (h2 : Out M c s2 s3) :
    Out M c s1 s3 :=
  ⟨h2.osh.trans h1.osh, h2.queue.trans h1.queue, h2.dl.trans h1.dl, Nat.le_trans h2.lpt h1.lpt,
   fun st h => by
     rcases h2.new st h with h | h
     · exact h1.new st h
     · exact Or.inr h,
   fun h => h2.cap (h1.cap h),
   fun q h => by
     rcases h2.seqs q h with h | h
     · exact h1.seqs q h
     · exact Or.inr h⟩

/-- a step that changes none of the fields `Out` looks at (or only lowers the quick-tap tracker) -/
theorem Out.of_eq {M : Nat} {c : Coord} {s s' : Layout} (h1 : s'.oneshot = s.oneshot) (h2 : s'.queue = s.queue)
    (h3 : s'.lptTapHoldTimeout ≤ s.lptTapHoldTimeout) (h4 : s'.states = s.states)
    (h5 : s'.activeSequences = s.activeSequences) (h0 : s'.defaultLayer = s.defaultLayer := by rfl) : Out M c s s' :=
  ⟨h1, h2, h0, h3, fun _ h => Or.inl (h4 ▸ h), fun h => h4 ▸ h, fun _ h => Or.inl (h5 ▸ h)⟩

theorem pushCap_length_le {α} (cap : Nat) (l : List α) (x : α) (h : l.length ≤ cap) :
    (pushCap cap l x).length ≤ cap := by
  unfold pushCap
  split
  · simp only [List.length_append, List.length_cons, List.length_nil]; omega
  · exact h

theorem out_pushState (M : Nat) (c : Coord) (s : Layout) (st : St) (h : NewAt M c st) :
    Out M c s (s.pushState st) :=
  ⟨rfl, rfl, rfl, Nat.le_refl _,
   fun x hx => by
     rcases C06.mem_pushCap hx with h1 | h1
     · exact Or.inl h1
     · exact Or.inr (h1 ▸ h),
   fun hl => pushCap_length_le _ _ _ hl, fun _ h => Or.inl h⟩

theorem oshPress_inactive (s : Layout) (k : OshKey) (hk : s.oneshot.keys = []) : (s.oshPress k).1 = s := by
  unfold Layout.oshPress
  rw [C06.handlePress_inactive _ _ hk]

theorem out_oshOther (M : Nat) (c : Coord) (s : Layout) (b : Bool) (c' : Coord) (hk : s.oneshot.keys = []) :
    Out M c s (oshOther s b c').1 := by
  unfold oshOther
  split
  · rw [oshPress_inactive s _ hk]; exact Out.refl M c s
  · exact Out.refl M c s

theorem out_updateCoord (M : Nat) (c : Coord) (s : Layout) (c' : Coord) : Out M c s (updateCoord s c') := by
  unfold updateCoord
  split
  · exact Out.of_eq rfl rfl (Nat.le_refl _) rfl rfl
  · exact Out.refl M c s

theorem out_prelude (M : Nat) (c : Coord) (s : Layout) (c' : Coord) : Out M c s (prelude s c') := by
  obtain ⟨p1, p2, p3, p4⟩ := C06.prelude_spec s c'
  refine ⟨p2, p3, p1.dl, prelude_lpt s c', ?_, ?_, fun q h => Or.inl (p1.seqs ▸ h)⟩
  · intro st hst
    rw [p4] at hst
    exact Or.inl (List.mem_filter.mp hst).1
  · intro hl
    rw [p4]
    exact Nat.le_trans (List.length_filter_le _ _) hl

theorem out_armNoOp (M : Nat) (c : Coord) (s : Layout) (a : Action) (c' : Coord) (o : Bool)
    (hk : s.oneshot.keys = []) : Out M c s (armNoOp s a c' o) := by
  unfold armNoOp
  split
  · rw [oshPress_inactive s _ hk]; exact Out.of_eq rfl rfl (Nat.le_refl _) rfl rfl
  · exact Out.of_eq rfl rfl (Nat.le_refl _) rfl rfl

theorem out_armKeyCode (M : Nat) (s : Layout) (a : Action) (kc : KeyCode) (c : Coord) (o : Bool)
    (hk : s.oneshot.keys = []) : Out M c s (armKeyCode s a kc c o) := by
  unfold armKeyCode
  have f1 := out_updateCoord M c s c
  have f2 : Out M c (updateCoord s c) { updateCoord s c with histKeys := histPush (updateCoord s c).histKeys kc } :=
    Out.of_eq rfl rfl (Nat.le_refl _) rfl rfl
  have f3 := out_pushState M c { updateCoord s c with histKeys := histPush (updateCoord s c).histKeys kc }
    (.normalKey kc c 0) ⟨rfl, rfl, fun _ _ h => by cases h⟩
  have hk3 : (({ updateCoord s c with histKeys := histPush (updateCoord s c).histKeys kc } : Layout).pushState
      (.normalKey kc c 0)).oneshot.keys = [] := by
    rw [((f1.trans f2).trans f3).osh]; exact hk
  have f4 := out_oshOther M c _ o c hk3
  have f := ((f1.trans f2).trans f3).trans f4
  simp only []
  split
  · exact f.trans (Out.of_eq rfl rfl (Nat.le_refl _) rfl rfl)
  · exact f.trans (Out.of_eq rfl rfl (Nat.le_refl _) rfl rfl)

theorem out_armCustom (M : Nat) (s : Layout) (a : Action) (id : Nat) (c : Coord) (o : Bool)
    (hk : s.oneshot.keys = []) : Out M c s (armCustom s a id c o).1 := by
  unfold armCustom
  have f1 := out_updateCoord M c s c
  have hk1 : (updateCoord s c).oneshot.keys = [] := by rw [f1.osh]; exact hk
  have f2 := out_oshOther M c (updateCoord s c) o c hk1
  have f3 : Out M c (oshOther (updateCoord s c) o c).1 { (oshOther (updateCoord s c) o c).1 with rptAction := some a } :=
    Out.of_eq rfl rfl (Nat.le_refl _) rfl rfl
  have f := (f1.trans f2).trans f3
  simp only []
  split
  · exact f.trans (out_pushState M c _ (.custom id c) ⟨rfl, rfl, fun _ _ h => by cases h⟩)
  · exact f

theorem mem_pushBackWrap_fst {α} (cap : Nat) (l : List α) (x y : α) (h : y ∈ (pushBackWrap cap l x).1) :
    y ∈ l ∨ y = x := by
  unfold pushBackWrap at h
  split at h
  · rcases List.mem_append.mp h with h | h
    · exact Or.inl h
    · exact Or.inr (by simpa using h)
  · cases l with
    | nil => cases h
    | cons a t =>
      simp only at h
      rcases List.mem_append.mp h with h | h
      · exact Or.inl (List.mem_cons_of_mem _ h)
      · exact Or.inr (by simpa using h)

theorem releaseEvicted_length (q : SeqState) (states : List St) :
    (releaseEvicted states q).length ≤ states.length := by
  unfold releaseEvicted
  generalize seqOwedKeys q = ks
  induction ks generalizing states with
  | nil => exact Nat.le_refl _
  | cons k ks ih =>
    simp only [List.foldl_cons]
    exact Nat.le_trans (ih _) (List.length_filter_le _ _)

theorem out_startSequence (M : Nat) (c : Coord) (s : Layout) (evs : List SeqEv) (h : evLen evs ≤ M) :
    Out M c s (startSequence s evs) := by
  unfold startSequence
  refine ⟨rfl, rfl, rfl, Nat.le_refl _, ?_, ?_, ?_⟩
  · intro st hst
    simp only at hst
    split at hst
    · exact Or.inl (releaseEvicted_sub _ _ _ hst)
    · exact Or.inl hst
  · intro hl
    simp only
    split
    · exact Nat.le_trans (releaseEvicted_length _ _) hl
    · exact hl
  · intro q hq
    simp only at hq
    rcases mem_pushBackWrap_fst _ _ _ _ hq with h1 | h1
    · exact Or.inl h1
    · exact Or.inr (h1 ▸ ⟨rfl, rfl, h⟩)

theorem out_armSequence (M : Nat) (s : Layout) (a : Action) (evs : List SeqEv) (c : Coord) (o rep : Bool)
    (hk : s.oneshot.keys = []) (h : evLen evs ≤ M) : Out M c s (armSequence s a evs c o rep) := by
  unfold armSequence
  have f1 := out_startSequence M c s evs h
  have f2 : Out M c (startSequence s evs)
      (if rep then (startSequence s evs).pushState (.repeatingSequence evs c) else startSequence s evs) := by
    cases rep
    · exact Out.refl M c _
    · exact out_pushState M c _ _ ⟨rfl, rfl, fun e c' he => by injection he with h1 _; exact h1 ▸ h⟩
  have hk2 : (if rep then (startSequence s evs).pushState (.repeatingSequence evs c) else startSequence s evs).oneshot.keys = [] := by
    rw [(f1.trans f2).osh]; exact hk
  have f3 := out_oshOther M c _ o c hk2
  exact ((f1.trans f2).trans f3).trans (Out.of_eq rfl rfl (Nat.le_refl _) rfl rfl)

theorem out_armCancelSequences (M : Nat) (s : Layout) (a : Action) (c : Coord) (o : Bool)
    (hk : s.oneshot.keys = []) : Out M c s (armCancelSequences s a c o) := by
  unfold armCancelSequences
  have f1 : Out M c s { s with activeSequences := [], states := s.states.filter (fun st => !(match st with | .fakeKey _ => true | _ => false)) } :=
    ⟨rfl, rfl, rfl, Nat.le_refl _, fun st hst => Or.inl (List.mem_filter.mp hst).1,
     fun hl => Nat.le_trans (List.length_filter_le _ _) hl, fun q hq => by cases hq⟩
  have f2 := out_oshOther M c _ o c (show ({ s with activeSequences := [], states := s.states.filter (fun st => !(match st with | .fakeKey _ => true | _ => false)) } : Layout).oneshot.keys = [] from hk)
  exact (f1.trans f2).trans (Out.of_eq rfl rfl (Nat.le_refl _) rfl rfl)

/-- **every action of the fragment**, performed for a key at `coord` while no one-shot key is active -/
theorem out_all (M : Nat) : ∀ fuel : Nat,
    (∀ s a coord delay o ls s' cu, s.oneshot.keys = [] → MFrag a → a ≠ .trans → actLen a ≤ M →
      doAction fuel s a coord delay o ls = .ok (s', cu) → Out M coord s s') ∧
    (∀ s a coord delay o ls s' cu, s.oneshot.keys = [] → MFrag a → actLen a ≤ M →
      dispatch fuel s a coord delay o ls = .ok (s', cu) → Out M coord s s') ∧
    (∀ s acs coord delay o ls cu0 s' cu, s.oneshot.keys = [] → MFragL acs → actLenL acs ≤ M →
      doActions fuel s acs coord delay o ls cu0 = .ok (s', cu) → Out M coord s s') := by
  intro fuel
  induction fuel with
  | zero =>
    refine ⟨?_, ?_, ?_⟩
    · intro s a coord delay o ls s' cu _ _ _ _ h; simp [doAction] at h
    · intro s a coord delay o ls s' cu _ _ _ h; simp [dispatch] at h
    · intro s acs coord delay o ls cu0 s' cu _ _ _ h; simp [doActions] at h
  | succ fuel ih =>
    obtain ⟨ih1, ih2, ih3⟩ := ih
    refine ⟨?_, ?_, ?_⟩
    · intro s a coord delay o ls s' cu hk hf hnt hl h
      have hp := out_prelude M coord s coord
      rw [C04.doAction_of_ne hnt] at h
      exact hp.trans (ih2 (prelude s coord) a coord delay o ls s' cu (by rw [hp.osh]; exact hk) hf hl h)
    · intro s a coord delay o ls s' cu hk hf hl h
      cases a <;> simp only [MFrag] at hf <;> simp only [dispatch] at h
      case noOp =>
        injection h with h; injection h with h1 h2; subst h1
        exact out_armNoOp M coord s _ coord o hk
      case trans => cases h
      case keyCode kc =>
        injection h with h; injection h with h1 h2; subst h1
        exact out_armKeyCode M s _ kc coord o hk
      case cancelSequences =>
        injection h with h; injection h with h1 h2; subst h1
        exact out_armCancelSequences M s _ coord o hk
      case custom id =>
        have hfr := out_armCustom M s (.custom id) id coord o hk
        cases hc : armCustom s (.custom id) id coord o with
        | mk s1 c1 =>
          rw [hc] at h hfr
          injection h with h; injection h with h1 h2; subst h1
          exact hfr
      case sequence evs =>
        injection h with h; injection h with h1 h2; subst h1
        exact out_armSequence M s _ evs coord o false hk (by simpa [actLen] using hl)
      case repeatableSequence evs =>
        injection h with h; injection h with h1 h2; subst h1
        exact out_armSequence M s _ evs coord o true hk (by simpa [actLen] using hl)
      case multipleActions acs =>
        split at h
        · cases h
        · rename_i s1 c1 hr
          injection h with h; injection h with h1 h2; subst h1
          have hu := out_updateCoord M coord s coord
          have := ih3 (updateCoord s coord) acs coord delay o ls .noEvent s1 c1 (by rw [hu.osh]; exact hk) hf
            (by simpa [actLen] using hl) hr
          exact (hu.trans this).trans (Out.of_eq rfl rfl (Nat.le_refl _) rfl rfl)
    · intro s acs coord delay o ls cu0 s' cu hk hf hl h
      cases acs with
      | nil =>
        simp only [doActions] at h
        injection h with h; injection h with h1 h2; subst h1
        exact Out.refl M coord s
      | cons a rest =>
        simp only [MFragL] at hf
        simp only [actLenL] at hl
        simp only [doActions] at h
        split at h
        · cases h
        · rename_i s1 c1 hr
          have r1 := ih1 s a coord delay o ls s1 c1 hk hf.1 hf.2.1 (Nat.le_trans (Nat.le_max_left _ _) hl) hr
          have r2 := ih3 s1 rest coord delay o ls (cu0.update c1) s' cu (by rw [r1.osh]; exact hk) hf.2.2
            (Nat.le_trans (Nat.le_max_right _ _) hl) h
          exact r1.trans r2

/-! ## `process_sequences` beyond `SeqInv` -/

theorem effStates_mem {states : List St} {e : Eff} {st : St} (h : st ∈ effStates states e) :
    st ∈ states ∨ (∃ k, st = .fakeKey k) ∨ (∃ id, st = .seqCustomPending id) := by
  cases e with
  | idle => exact Or.inl h
  | untap k => exact Or.inl (List.mem_filter.mp h).1
  | perform ev =>
    cases ev with
    | press kc | tap kc =>
      rcases C06.mem_pushCap h with h | h
      · exact Or.inl h
      · exact Or.inr (Or.inl ⟨_, h⟩)
    | release kc => exact Or.inl (List.mem_filter.mp h).1
    | custom id =>
      rcases C06.mem_pushCap h with h | h
      · exact Or.inl h
      · exact Or.inr (Or.inr ⟨_, h⟩)
    | noOp | delay _ | complete => exact Or.inl h

theorem effStates_length {states : List St} (e : Eff) (h : states.length ≤ STATES_CAP) :
    (effStates states e).length ≤ STATES_CAP := by
  cases e with
  | idle => exact h
  | untap k => exact Nat.le_trans (List.length_filter_le _ _) h
  | perform ev =>
    cases ev with
    | press kc | tap kc | custom id => exact pushCap_length_le _ _ _ h
    | release kc => exact Nat.le_trans (List.length_filter_le _ _) h
    | noOp | delay _ | complete => exact h

theorem effStates_fold_mem {st : St} : ∀ (effs : List Eff) (states : List St),
    st ∈ effs.foldl effStates states →
    st ∈ states ∨ (∃ k, st = .fakeKey k) ∨ (∃ id, st = .seqCustomPending id) := by
  intro effs
  induction effs with
  | nil => intro states h; exact Or.inl h
  | cons e rest ih =>
    intro states h
    rcases ih _ h with h | h
    · exact effStates_mem h
    · exact Or.inr h

theorem effStates_fold_length : ∀ (effs : List Eff) (states : List St), states.length ≤ STATES_CAP →
    (effs.foldl effStates states).length ≤ STATES_CAP := by
  intro effs
  induction effs with
  | nil => intro states h; exact h
  | cons e rest ih => intro states h; exact ih _ (effStates_length e h)

/-- with no one-shot key active an effect leaves the one-shot state, the queue and the quick-tap
tracker alone -/
theorem applyEff_same (s : Layout) (e : Eff) (hk : s.oneshot.keys = []) :
    (applyEff s e).oneshot = s.oneshot ∧ (applyEff s e).queue = s.queue ∧
    (applyEff s e).lptTapHoldTimeout = s.lptTapHoldTimeout ∧ (applyEff s e).defaultLayer = s.defaultLayer := by
  have hfp : ∀ kc, (fakePress s kc).oneshot = s.oneshot ∧ (fakePress s kc).queue = s.queue ∧
      (fakePress s kc).lptTapHoldTimeout = s.lptTapHoldTimeout ∧ (fakePress s kc).defaultLayer = s.defaultLayer := by
    intro kc
    unfold fakePress
    simp only []
    rw [oshPress_inactive _ _ (show ({ s.pushState (.fakeKey kc) with histKeys := histPush (s.pushState (.fakeKey kc)).histKeys kc } : Layout).oneshot.keys = [] from hk)]
    exact ⟨rfl, rfl, rfl, rfl⟩
  cases e with
  | idle => exact ⟨rfl, rfl, rfl, rfl⟩
  | untap k => exact ⟨rfl, rfl, rfl, rfl⟩
  | perform ev =>
    cases ev with
    | press kc | tap kc => exact hfp kc
    | release kc =>
      refine ⟨?_, rfl, rfl, rfl⟩
      show (s.oneshot.handleRelease (0, 0)).1 = s.oneshot
      rw [C06.handleRelease_inactive _ _ hk]
    | custom id => exact ⟨rfl, rfl, rfl, rfl⟩
    | noOp | delay _ | complete => exact ⟨rfl, rfl, rfl, rfl⟩

theorem seqLoop_same : ∀ (n : Nat) (s : Layout), s.oneshot.keys = [] →
    (seqLoop n s).oneshot = s.oneshot ∧ (seqLoop n s).queue = s.queue ∧
    (seqLoop n s).lptTapHoldTimeout = s.lptTapHoldTimeout ∧ (seqLoop n s).defaultLayer = s.defaultLayer := by
  intro n
  induction n with
  | zero => intro s _; exact ⟨rfl, rfl, rfl, rfl⟩
  | succ n ih =>
    intro s hk
    unfold seqLoop
    split
    · exact ⟨rfl, rfl, rfl, rfl⟩
    · rename_i q rest _
      obtain ⟨a1, a2, a3, a4⟩ := applyEff_same { s with activeSequences := rest } (seqEffect q) hk
      have hpb : ∀ (t : Layout) (x : SeqState), (putBack t x).oneshot = t.oneshot ∧ (putBack t x).queue = t.queue ∧
          (putBack t x).lptTapHoldTimeout = t.lptTapHoldTimeout ∧ (putBack t x).defaultLayer = t.defaultLayer := by
        intro t x; unfold putBack; split <;> exact ⟨rfl, rfl, rfl, rfl⟩
      obtain ⟨b1, b2, b3, b4⟩ := hpb (applyEff { s with activeSequences := rest } (seqEffect q)) (seqStep q)
      obtain ⟨i1, i2, i3, i4⟩ := ih (putBack (applyEff { s with activeSequences := rest } (seqEffect q)) (seqStep q))
        (by rw [b1, a1]; exact hk)
      exact ⟨i1.trans (b1.trans a1), i2.trans (b2.trans a2), i3.trans (b3.trans a3), i4.trans (b4.trans a4)⟩

theorem restartRepeating_same (s : Layout) :
    (restartRepeating s).oneshot = s.oneshot ∧ (restartRepeating s).queue = s.queue ∧
    (restartRepeating s).lptTapHoldTimeout = s.lptTapHoldTimeout ∧
    (restartRepeating s).defaultLayer = s.defaultLayer := by
  unfold restartRepeating
  split
  · split <;> exact ⟨rfl, rfl, rfl, rfl⟩
  · exact ⟨rfl, rfl, rfl, rfl⟩

/-- **`process_sequences`**, with the ring within its capacity, every sequence well-formed and no
one-shot key active: nothing but `states` and the ring changes; `states` gains only `FakeKey`s and
pending custom items; every sequence that is still active has less playback time left than before,
except a fresh copy of a held repeating macro -/
theorem processSequences_spec (s : Layout) (hi : SeqInv s) (hk : s.oneshot.keys = []) :
    (processSequences s).oneshot = s.oneshot ∧ (processSequences s).queue = s.queue ∧
    (processSequences s).lptTapHoldTimeout = s.lptTapHoldTimeout ∧
    (processSequences s).defaultLayer = s.defaultLayer ∧
    (∀ st ∈ (processSequences s).states,
      st ∈ s.states ∨ (∃ k, st = .fakeKey k) ∨ (∃ id, st = .seqCustomPending id)) ∧
    (s.states.length ≤ STATES_CAP → (processSequences s).states.length ≤ STATES_CAP) ∧
    (∀ q' ∈ (processSequences s).activeSequences,
      (∃ q ∈ s.activeSequences, playLen q' + 1 ≤ playLen q) ∨
      (∃ evs c, St.repeatingSequence evs c ∈ s.states ∧ q' = { remaining := evs })) := by
  rw [processSequences_eq]
  obtain ⟨l1, l2⟩ := seqLoop_spec s.activeSequences.length s s.activeSequences [] (by simp) (Nat.le_refl _)
    (by simpa using hi.cap)
  simp only [List.drop_length, List.take_length, List.nil_append] at l1 l2
  obtain ⟨a1, a2, a3, a4⟩ := seqLoop_same s.activeSequences.length s hk
  obtain ⟨r1, r2, r3, r4⟩ := restartRepeating_same (seqLoop s.activeSequences.length s)
  refine ⟨r1.trans a1, r2.trans a2, r3.trans a3, r4.trans a4, ?_, ?_, ?_⟩
  · intro st hst
    rw [restartRepeating_states, l2] at hst
    exact effStates_fold_mem _ _ hst
  · intro hl
    rw [restartRepeating_states, l2]
    exact effStates_fold_length _ _ hl
  · intro q' hq'
    rw [restartRepeating_seqs] at hq'
    split at hq'
    · right
      unfold restartOf at hq'
      split at hq'
      · rename_i evs hl
        simp only [List.mem_singleton] at hq'
        obtain ⟨c, hc⟩ := lastRepeating_mem hl
        rw [l2] at hc
        exact ⟨evs, c, effStates_fold_rep _ _ hc, hq'⟩
      · cases hq'
    · left
      rw [l1] at hq'
      obtain ⟨q, hq, hx⟩ := List.mem_flatMap.mp hq'
      exact ⟨q, hq, playLen_step q (hi.ok q hq) q' hx⟩

/-! ## the invariant -/

structure MInv (M : Nat) (s : Layout) (down : List Coord) : Prop where
  quiet : Quiet s
  seq : SeqInv s
  cfg : CfgM s.cfg
  bound : MacroBound s.cfg M
  qlen : s.queue.length ≤ QUEUE_SIZE
  qwf : C06.QWF down s.queue
  /-- every state with a coordinate belongs to a key that is down or whose release is queued -/
  owned : ∀ st ∈ s.states, ∀ c, st.coord = some c → c ∈ down ∨ ∃ x ∈ s.queue, x.ev = .release c
  play : ∀ q ∈ s.activeSequences, playLen q ≤ M
  rep : ∀ evs c, St.repeatingSequence evs c ∈ s.states → evLen evs ≤ M
  cap : s.states.length ≤ STATES_CAP
  lpt : s.lptTapHoldTimeout = 0
  /-- no layer is ever held on this fragment -/
  nolayer : ∀ st ∈ s.states, st.getLayer = none

/-- a freshly created layout satisfies the invariant -/
theorem init_minv (cfg : LCfg) (hc : CfgM cfg) (M : Nat) (hb : MacroBound cfg M) (tv2 dfl qth : Bool) (osd : Nat) :
    MInv M ({ cfg := cfg, transV2 := tv2, delegateToFirstLayer := dfl, quickTapHoldTimeout := qth,
              oneshot := { pauseInputProcessingDelay := osd } } : Layout) [] :=
  ⟨⟨rfl, rfl, rfl, rfl, rfl⟩,
   ⟨fun _ h => (by cases h), fun _ h => (by cases h), fun _ _ h => (by cases h), Nat.zero_le _⟩,
   hc, hb, Nat.zero_le _, trivial, fun _ h => (by cases h), fun _ h => (by cases h), fun _ _ h => (by cases h),
   Nat.zero_le _, rfl, fun _ h => (by cases h)⟩

/-! ### events -/

theorem MInv.input {M : Nat} {s : Layout} {down : List Coord} (h : MInv M s down) (e : Ev)
    (hq : s.queue.length < QUEUE_SIZE) :
    ∃ s', s.event e = .ok s' ∧ MInv M s' (C06.downAfter down (.ev e)) ∧ s'.queue = s.queue ++ [⟨e, 0⟩] ∧
      s'.oneshot = s.oneshot ∧ s'.defaultLayer = s.defaultLayer ∧ s'.cfg = s.cfg := by
  unfold Layout.event
  rw [FUEL_succ]
  obtain ⟨s', e1, e2, e3, e4, e5⟩ := C06.event_room 3999 s e hq
  have e6 := event_room_lpt 3999 s e hq s' e1
  refine ⟨s', e1, ?_, e2, e4, e5.dl, e5.cfg⟩
  have hst : Static s s' := ⟨e5.cfg, e5.waiting, e5.extra, e5.tde, e5.aq, by rw [e4], e5.tv2, e5.dfl⟩
  refine ⟨h.quiet.of_static hst, h.seq.frame e5.seqs (fun k hk => e3 ▸ hk) (fun _ _ hm => e3 ▸ hm),
    e5.cfg ▸ h.cfg, e5.cfg ▸ h.bound,
    by rw [e2]; simp only [List.length_append, List.length_cons, List.length_nil]; omega, ?_, ?_,
    by rw [e5.seqs]; exact h.play, by rw [e3]; exact h.rep, by rw [e3]; exact h.cap, e6.trans h.lpt,
    by rw [e3]; exact h.nolayer⟩
  · rw [e2]
    cases e with
    | press c =>
      exact C06.QWF_append _ _ (C06.QWF_mono (fun x hx => List.mem_cons_of_mem _ hx) _ h.qwf) (by simp [C06.downAfter])
    | release c => exact C06.QWF_release c 0 _ h.qwf
  · intro st hst' c hc
    rw [e3] at hst'
    rw [e2]
    rcases h.owned st hst' c hc with h1 | ⟨x, hx, hxe⟩
    · cases e with
      | press c' => exact Or.inl (List.mem_cons_of_mem _ h1)
      | release c' =>
        by_cases hcc : c = c'
        · subst hcc; exact Or.inr ⟨⟨.release c, 0⟩, by simp, rfl⟩
        · exact Or.inl (List.mem_filter.mpr ⟨h1, by simpa using hcc⟩)
    · exact Or.inr ⟨x, List.mem_append_left _ hx, hxe⟩

/-! ### first stage of a tick -/

theorem tickPre_quiet_eq {s : Layout} (h : s.tapDanceEager = none) :
    tickPre s =
      { processSequences { s with queue := C06.age s.queue, lptTapHoldTimeout := s.lptTapHoldTimeout - 1 } with
        histKeys := histTick (processSequences { s with queue := C06.age s.queue, lptTapHoldTimeout := s.lptTapHoldTimeout - 1 }).histKeys,
        histInputs := histTick (processSequences { s with queue := C06.age s.queue, lptTapHoldTimeout := s.lptTapHoldTimeout - 1 }).histInputs } := by
  unfold tickPre
  simp only [h]
  rfl

theorem playLen_fresh (evs : List SeqEv) : playLen { remaining := evs } = evLen evs := by
  simp [playLen]

theorem MInv.pre {M : Nat} {s : Layout} {down : List Coord} (h : MInv M s down) :
    MInv M (tickPre s) down ∧ (tickPre s).oneshot = s.oneshot ∧ (tickPre s).queue = C06.age s.queue ∧
    (tickPre s).defaultLayer = s.defaultLayer ∧
    (∀ st ∈ (tickPre s).states, st ∈ s.states ∨ (∃ k, st = .fakeKey k) ∨ (∃ id, st = .seqCustomPending id)) ∧
    (∀ q' ∈ (tickPre s).activeSequences, (∃ q ∈ s.activeSequences, playLen q' + 1 ≤ playLen q) ∨
       (∃ evs c, St.repeatingSequence evs c ∈ s.states ∧ q' = { remaining := evs })) := by
  obtain ⟨p1, p2, _⟩ := tickPre_spec h.quiet h.seq
  obtain ⟨a1, a2, a3, a7, a4, a5, a6⟩ := processSequences_spec
    ({ s with queue := C06.age s.queue, lptTapHoldTimeout := s.lptTapHoldTimeout - 1 } : Layout)
    (h.seq.frame rfl (fun _ h => h) (fun _ _ h => h)) h.quiet.osh
  -- `tickPre s` differs from what `processSequences` returns in the history buffers only
  rw [tickPre_quiet_eq h.quiet.tde] at p1 p2 ⊢
  have hqu : (processSequences _).queue = C06.age s.queue := a2
  refine ⟨⟨h.quiet.of_static p1, p2, by rw [p1.cfg]; exact h.cfg, by rw [p1.cfg]; exact h.bound,
    Nat.le_trans (Nat.le_of_eq ((congrArg _ hqu).trans (List.length_map _))) h.qlen,
    (by rw [hqu]; exact C06.QWF_age _ h.qwf : C06.QWF down (processSequences _).queue), ?_, ?_, ?_, a5 h.cap,
    a3.trans (show s.lptTapHoldTimeout - 1 = 0 by rw [h.lpt]), ?_⟩, a1, a2, a7, a4, a6⟩
  · intro st hst' c hc
    show _ ∨ ∃ x ∈ (processSequences _).queue, _
    rw [hqu]
    rcases a4 st hst' with h1 | ⟨k, rfl⟩ | ⟨id, rfl⟩
    · exact (h.owned st h1 c hc).imp_right C06.mem_age_release
    · cases hc
    · cases hc
  · intro q' hq'
    rcases a6 q' hq' with ⟨q, hq, hl⟩ | ⟨evs, c, hm, rfl⟩
    · exact Nat.le_trans (Nat.le_of_succ_le hl) (h.play q hq)
    · rw [playLen_fresh]; exact h.rep evs c hm
  · intro evs c hm
    rcases a4 _ hm with h1 | ⟨k, h1⟩ | ⟨id, h1⟩
    · exact h.rep evs c h1
    · cases h1
    · cases h1
  · intro st hst'
    rcases a4 st hst' with h1 | ⟨k, rfl⟩ | ⟨id, rfl⟩
    · exact h.nolayer st h1
    · rfl
    · rfl

/-! ### third stage of a tick -/

theorem release_fst (st : St) (c : Coord) (cu : CustomEv) :
    (st.release c cu).1 = if st.coord = some c then none else some st := by
  cases st with
  | normalKey _ c' _ | layerModifier _ c' | custom _ c' | repeatingSequence _ c' =>
    simp only [St.release, St.coord, beq_iff_eq, Option.some.injEq]
    split <;> rfl
  | _ => rfl

theorem releaseStates_fst (f : Bool) (c : Coord) : ∀ (l : List St) (cu : CustomEv),
    (releaseStates f c l cu).1 =
      (l.filter fun st => !(f && st.clearOnNextRelease)).filter fun st => st.coord != some c
  | [], _ => rfl
  | st :: rest, cu => by
    have ih := releaseStates_fst f c rest
    unfold releaseStates
    split
    · rename_i hflag
      rw [ih, List.filter_cons_of_neg (by simp [hflag])]
    · rename_i hflag
      rw [List.filter_cons_of_pos (by rw [Bool.eq_false_iff.mpr hflag]; rfl)]
      simp only []
      rw [release_fst st c cu, ih]
      by_cases hc : st.coord = some c
      · rw [if_pos hc, List.filter_cons_of_neg (by simp [hc])]
      · rw [if_neg hc, List.filter_cons_of_pos (by simpa using hc)]

/-- a release taken from the queue while no one-shot key is active -/
theorem dequeue_release_quiet {s : Layout} (hk : s.oneshot.keys = []) (c : Coord) (n : Nat) :
    dequeue FUEL s ⟨.release c, n⟩ =
      .ok ({ s with states := (releaseStates true c s.states .noEvent).1 },
           (releaseStates true c s.states .noEvent).2) := by
  rw [FUEL_succ]
  simp only [dequeue, C06.handleRelease_inactive _ c hk, if_true]

/-- a press taken from the queue on the fragment -/
theorem dequeue_press_out {M : Nat} (fuel : Nat) {s : Layout} (hc : CfgM s.cfg) (hb : MacroBound s.cfg M)
    (hq : Quiet s) (c : Coord) (n : Nat) (s' : Layout) (cu : CustomEv)
    (h : dequeue fuel s ⟨.press c, n⟩ = .ok (s', cu)) : Out M c s s' := by
  cases fuel with
  | zero => simp [dequeue] at h
  | succ fuel =>
  simp only [dequeue, bind, Except.bind] at h
  cases hto : s.transOrder with
  | error e => rw [hto] at h; cases h
  | ok order =>
    rw [hto] at h
    simp only [hq.tde] at h
    cases fuel with
    | zero => simp [doAction] at h
    | succ fuel =>
    simp only [doAction] at h
    split at h
    · cases h
    · rename_i a ls hres
      have hp := out_prelude M c s c
      have hf := resolve_mfrag s c hc order a ls hres
      have hl : actLen a ≤ M := resolve_pred (fun a => actLen a ≤ M) (Nat.zero_le _) (Nat.zero_le _) s c
        hb.1 hb.2 order a ls hres
      exact hp.trans ((out_all M fuel).2.1 (prelude s c) a c n false ls s' cu (by rw [hp.osh]; exact hq.osh) hf hl h)

theorem MInv.main {M : Nat} {s : Layout} {down : List Coord} (h : MInv M s down) (s2 : Layout) (c2 : CustomEv)
    (hm : tickMain s = .ok (s2, c2)) :
    MInv M s2 down ∧
    (s2.oneshot.pauseInputProcessingTicks + s2.queue.length ≤
      s.oneshot.pauseInputProcessingTicks + s.queue.length - 1 ∧
     s2.oneshot.pauseInputProcessingTicks ≤ s.oneshot.pauseInputProcessingTicks) ∧
    (s2.defaultLayer = s.defaultLayer ∧ s2.cfg = s.cfg ∧ (∀ x ∈ s2.queue, x ∈ s.queue) ∧
      s2.queue.length ≤ s.queue.length) ∧
    (s.queue = [] → s2.activeSequences = s.activeSequences ∧ s2.states = s.states ∧ s2.queue = [] ∧
      (s.oneshot.pauseInputProcessingTicks = 0 → c2 = .noEvent ∧ s2.oneshot.pauseInputProcessingTicks = 0)) := by
  by_cases hp : 0 < s.oneshot.pauseInputProcessingTicks
  · rw [C06.tickMain_paused h.quiet.waiting h.quiet.extra hp] at hm
    cases hm
    exact ⟨⟨⟨h.quiet.waiting, h.quiet.extra, h.quiet.tde, h.quiet.aq, h.quiet.osh⟩,
      h.seq.frame rfl (fun _ h => h) (fun _ _ h => h), h.cfg, h.bound, h.qlen, h.qwf, h.owned, h.play, h.rep, h.cap,
      h.lpt, h.nolayer⟩, ⟨Nat.le_of_eq (Nat.sub_add_comm hp).symm, Nat.sub_le _ _⟩, ⟨rfl, rfl, fun _ hx => hx, Nat.le_refl _⟩,
      fun hq => ⟨rfl, rfl, hq, fun h0 => absurd h0 (Nat.ne_of_gt hp)⟩⟩
  · have hp0 : s.oneshot.pauseInputProcessingTicks = 0 := Nat.eq_zero_of_not_pos hp
    cases hq : s.queue with
    | nil =>
      rw [C06.tickMain_empty h.quiet.waiting h.quiet.extra hp0 hq] at hm
      cases hm
      exact ⟨h, ⟨by rw [hq, hp0]; exact Nat.le_refl _, Nat.le_refl _⟩, ⟨rfl, rfl, fun _ hx => hq ▸ hx, Nat.le_of_eq (congrArg _ hq)⟩,
        fun _ => ⟨rfl, rfl, hq, fun h0 => ⟨rfl, h0⟩⟩⟩
    | cons q rest =>
      rw [C06.tickMain_pops h.quiet.waiting h.quiet.extra hp0 q rest hq] at hm
      have hwf := hq ▸ h.qwf
      have hlen : rest.length ≤ QUEUE_SIZE := Nat.le_of_succ_le (hq ▸ h.qlen : (q :: rest).length ≤ QUEUE_SIZE)
      have hquiet : Quiet (s.setQueue rest) := ⟨h.quiet.waiting, h.quiet.extra, h.quiet.tde, h.quiet.aq, h.quiet.osh⟩
      have hseq : SeqInv (s.setQueue rest) := h.seq.frame rfl (fun _ h => h) (fun _ _ h => h)
      -- either event leaves the one-shot state alone, and no action of the fragment queues anything
      suffices hs : MInv M s2 down ∧ s2.oneshot = s.oneshot ∧ s2.queue = rest ∧ s2.defaultLayer = s.defaultLayer ∧
          s2.cfg = s.cfg by
        obtain ⟨i, o, q2, d2, cf2⟩ := hs
        rw [o, q2, hp0]
        exact ⟨i, ⟨Nat.le_refl _, Nat.le_refl _⟩, ⟨d2, cf2, fun x hx => List.mem_cons_of_mem _ hx,
          Nat.le_succ _⟩, nofun⟩
      obtain ⟨ev, n⟩ := q
      cases ev with
      | release c =>
        rw [dequeue_release_quiet (s := s.setQueue rest) h.quiet.osh c n] at hm
        cases hm
        have e := releaseStates_fst true c s.states .noEvent
        have hsub : ∀ x, x ∈ (releaseStates true c s.states .noEvent).1 → x ∈ s.states :=
          fun x hx => releaseStates_sub _ _ _ _ _ hx
        refine ⟨⟨⟨hquiet.waiting, hquiet.extra, hquiet.tde, hquiet.aq, hquiet.osh⟩,
          hseq.frame rfl (fun k hk => hsub _ hk) (fun _ _ hm' => hsub _ hm'), h.cfg, h.bound, hlen,
          hwf.2, ?_, h.play, fun evs c' hm' => h.rep evs c' (hsub _ hm'),
          Nat.le_trans (e ▸ Nat.le_trans (List.length_filter_le _ _) (List.length_filter_le _ _)) h.cap, h.lpt,
          fun st hst => h.nolayer st (hsub _ hst)⟩, rfl, rfl, rfl, rfl⟩
        intro st hst c' hc'
        have hne : c' ≠ c := fun hcc => by
          have := (List.mem_filter.mp (e ▸ (hst : st ∈ (releaseStates true c s.states .noEvent).1))).2
          simp [hc', hcc] at this
        rcases h.owned st (hsub _ hst) c' hc' with g | ⟨x, hx, hxe⟩
        · exact Or.inl g
        · rcases List.mem_cons.mp (hq ▸ hx) with rfl | hx
          · cases hxe; exact absurd rfl hne
          · exact Or.inr ⟨x, hx, hxe⟩
      | press c =>
        have o := dequeue_press_out (M := M) FUEL (s := s.setQueue rest) h.cfg h.bound hquiet c n s2 c2 hm
        obtain ⟨d1, d2⟩ := dequeue_spec FUEL (s := s.setQueue rest) h.cfg hquiet hseq ⟨.press c, n⟩ s2 c2 hm
        have hq2 : s2.queue = rest := o.queue
        refine ⟨⟨hquiet.of_static d1, d2, d1.cfg ▸ h.cfg, d1.cfg ▸ h.bound, hq2 ▸ hlen, hq2 ▸ hwf.2, ?_, ?_, ?_,
          o.cap h.cap, Nat.le_zero.mp (h.lpt ▸ o.lpt), ?_⟩, o.osh, hq2, o.dl, d1.cfg⟩
        · intro st hst c' hc'
          rw [hq2]
          rcases o.new st hst with g | g
          · rcases h.owned st g c' hc' with g1 | ⟨x, hx, hxe⟩
            · exact Or.inl g1
            · rcases List.mem_cons.mp (hq ▸ hx) with rfl | hx
              · cases hxe
              · exact Or.inr ⟨x, hx, hxe⟩
          · cases g.1.symm.trans hc'
            exact hwf.1
        · intro q' hq'
          rcases o.seqs q' hq' with g | ⟨g1, g2, g3⟩
          · exact h.play q' g
          · unfold playLen; rw [g1, g2]; simpa using g3
        · intro evs c' hm'
          rcases o.new _ hm' with g | g
          · exact h.rep evs c' g
          · exact g.2.2 evs c' rfl
        · intro st hst
          rcases o.new st hst with g | g
          · exact h.nolayer st g
          · exact g.2.1

/-! ### last stage of a tick: custom items of sequences -/

theorem psc_go_mem (cu : CustomEv) : ∀ (l : List St) (x : St), x ∈ (processSequenceCustom.go cu l).1 →
    x ∈ l ∨ (∃ id, x = .seqCustomActive id) ∨ x = .tombstone := by
  intro l
  induction l with
  | nil => intro x h; simp [processSequenceCustom.go] at h
  | cons st rest ih =>
    intro x h
    cases st <;> simp only [processSequenceCustom.go, List.mem_cons] at h ⊢ <;>
      first
      | (rcases h with h | h
         · exact Or.inl (Or.inl h)
         · rcases ih x h with h | h
           · exact Or.inl (Or.inr h)
           · exact Or.inr h)
      | (rcases h with h | h
         · first | exact Or.inr (Or.inl ⟨_, h⟩) | exact Or.inr (Or.inr h)
         · exact Or.inl (Or.inr h))

theorem psc_go_length (cu : CustomEv) : ∀ (l : List St), (processSequenceCustom.go cu l).1.length = l.length := by
  intro l
  induction l with
  | nil => rfl
  | cons st rest ih =>
    cases st <;> simp only [processSequenceCustom.go, List.length_cons, ih]

/-- `process_sequence_custom` touches `states` only: old states, or a custom item advanced -/
theorem psc_spec (s : Layout) (cu : CustomEv) :
    (processSequenceCustom s cu).1.oneshot = s.oneshot ∧ (processSequenceCustom s cu).1.queue = s.queue ∧
    (processSequenceCustom s cu).1.lptTapHoldTimeout = s.lptTapHoldTimeout ∧
    (processSequenceCustom s cu).1.defaultLayer = s.defaultLayer ∧
    (∀ st ∈ (processSequenceCustom s cu).1.states,
      st ∈ s.states ∨ (∃ id, st = .seqCustomActive id) ∨ st = .tombstone) ∧
    (processSequenceCustom s cu).1.states.length ≤ s.states.length := by
  unfold processSequenceCustom
  split
  · exact ⟨rfl, rfl, rfl, rfl, fun _ h => Or.inl h, Nat.le_refl _⟩
  · simp only []
    refine ⟨trivial, trivial, trivial, trivial, ?_, ?_⟩
    · intro st hst
      rcases psc_go_mem cu _ _ hst with h | h
      · exact Or.inl (List.mem_filter.mp h).1
      · exact Or.inr h
    · show (processSequenceCustom.go cu _).1.length ≤ _
      rw [psc_go_length]
      exact List.length_filter_le _ _

theorem MInv.psc {M : Nat} {s : Layout} {down : List Coord} (h : MInv M s down) (cu : CustomEv) :
    MInv M (processSequenceCustom s cu).1 down := by
  obtain ⟨p1, p2, p3, _, p4, p5⟩ := psc_spec s cu
  have f := processSequenceCustom_frame s cu
  refine ⟨h.quiet.of_static f.st, f.inv h.seq, f.st.cfg ▸ h.cfg, f.st.cfg ▸ h.bound, p2 ▸ h.qlen, p2 ▸ h.qwf, ?_,
    by rw [f.seqs]; exact h.play, fun evs c hm => h.rep evs c (f.rep evs c hm), Nat.le_trans p5 h.cap, p3.trans h.lpt, ?_⟩
  · intro st hst c hc
    rw [p2]
    rcases p4 st hst with g | ⟨id, g⟩ | g
    · exact h.owned st g c hc
    · subst g; cases hc
    · subst g; cases hc
  · intro st hst
    rcases p4 st hst with g | ⟨id, g⟩ | g
    · exact h.nolayer st g
    · subst g; rfl
    · subst g; rfl

/-- weight of what `process_sequence_custom` still has to do -/
def cw : St → Nat
  | .seqCustomPending _ => 2
  | .seqCustomActive _ => 1
  | _ => 0

def cmeasure (l : List St) : Nat := (l.map cw).sum + (if l = [] then 0 else 1)

/-- only custom items of finished macros are left -/
def CustomOnly (l : List St) : Prop :=
  ∀ st ∈ l, (∃ id, st = .seqCustomPending id) ∨ (∃ id, st = .seqCustomActive id) ∨ st = .tombstone

theorem cw_filter_tombstone : ∀ l : List St, ((l.filter (· != .tombstone)).map cw).sum = (l.map cw).sum := by
  intro l
  induction l with
  | nil => rfl
  | cons st rest ih =>
    cases st <;> simp [ih, cw]

/-- **with nothing else going on, one custom item advances per tick** -/
theorem psc_measure (s : Layout) (h : CustomOnly s.states) :
    CustomOnly (processSequenceCustom s .noEvent).1.states ∧
    cmeasure (processSequenceCustom s .noEvent).1.states ≤ cmeasure s.states - 1 := by
  unfold processSequenceCustom
  by_cases he : s.states.isEmpty = true
  · simp only [he, Bool.true_or, if_true]
    have : s.states = [] := List.isEmpty_iff.mp he
    exact ⟨h, by rw [this]; simp [cmeasure]⟩
  · have hne : s.states ≠ [] := fun h0 => he (by rw [h0]; rfl)
    have hcond : (s.states.isEmpty || (CustomEv.noEvent != CustomEv.noEvent)) = false := by
      simp only [bne_self_eq_false, Bool.or_false]
      simpa using he
    simp only [hcond, Bool.false_eq_true, if_false]
    have hsum := cw_filter_tombstone s.states
    have hf : ∀ st ∈ s.states.filter (· != .tombstone),
        (∃ id, st = .seqCustomPending id) ∨ (∃ id, st = .seqCustomActive id) := by
      intro st hst
      obtain ⟨m1, m2⟩ := List.mem_filter.mp hst
      rcases h st m1 with g | g | g
      · exact Or.inl g
      · exact Or.inr g
      · subst g; simp at m2
    have hm0 : cmeasure s.states = (s.states.map cw).sum + 1 := by
      unfold cmeasure; rw [if_neg hne]
    generalize s.states.filter (· != .tombstone) = f at hsum hf
    show CustomOnly (processSequenceCustom.go .noEvent f).1 ∧ cmeasure (processSequenceCustom.go .noEvent f).1 ≤ _
    cases f with
    | nil => exact ⟨fun _ hx => (by cases hx), (by simp [processSequenceCustom.go, cmeasure])⟩
    | cons x rest =>
      have hrest : ∀ st ∈ rest, (∃ id, st = .seqCustomPending id) ∨ (∃ id, st = .seqCustomActive id) :=
        fun st hst => hf st (List.mem_cons_of_mem _ hst)
      rcases hf x List.mem_cons_self with ⟨id, rfl⟩ | ⟨id, rfl⟩
      · simp only [processSequenceCustom.go]
        refine ⟨?_, ?_⟩
        · intro st hst
          rcases List.mem_cons.mp hst with g | g
          · exact Or.inr (Or.inl ⟨id, g⟩)
          · rcases hrest st g with g | g
            · exact Or.inl g
            · exact Or.inr (Or.inl g)
        · rw [hm0, ← hsum]
          simp [cmeasure, cw]
          omega
      · simp only [processSequenceCustom.go]
        refine ⟨?_, ?_⟩
        · intro st hst
          rcases List.mem_cons.mp hst with g | g
          · exact Or.inr (Or.inr g)
          · rcases hrest st g with g | g
            · exact Or.inl g
            · exact Or.inr (Or.inl g)
        · rw [hm0, ← hsum]
          simp [cmeasure, cw]
          omega

theorem cmeasure_le (l : List St) : cmeasure l ≤ 2 * l.length + 1 := by
  unfold cmeasure
  have : (l.map cw).sum ≤ 2 * l.length := by
    induction l with
    | nil => simp
    | cons st rest ih =>
      have : cw st ≤ 2 := by cases st <;> simp [cw]
      simp only [List.map_cons, List.sum_cons, List.length_cons]; omega
  split <;> omega

theorem cmeasure_zero {l : List St} (h : cmeasure l = 0) : l = [] := by
  unfold cmeasure at h
  by_cases hl : l = []
  · exact hl
  · rw [if_neg hl] at h; omega

theorem processSequences_idle (s : Layout) (h1 : s.activeSequences = [])
    (h2 : ∀ evs c, St.repeatingSequence evs c ∉ s.states) : processSequences s = s := by
  rw [processSequences_eq, h1]
  simp only [List.length_nil, seqLoop]
  unfold restartRepeating
  simp only [h1, List.isEmpty_nil, if_true]
  split
  · rename_i evs hl
    obtain ⟨c, hc⟩ := lastRepeating_mem hl
    exact absurd hc (h2 evs c)
  · rfl

/-! ## a whole tick -/

theorem MInv.tick {M : Nat} {s : Layout} {down : List Coord} (h : MInv M s down) (s' : Layout) (cu : CustomEv)
    (ht : tick s = .ok (s', cu)) :
    MInv M s' down ∧
    (s'.oneshot.pauseInputProcessingTicks + s'.queue.length ≤
      s.oneshot.pauseInputProcessingTicks + s.queue.length - 1 ∧
     s'.oneshot.pauseInputProcessingTicks ≤ s.oneshot.pauseInputProcessingTicks) ∧
    (s'.defaultLayer = s.defaultLayer ∧ s'.cfg = s.cfg ∧ s'.queue.length ≤ s.queue.length) ∧
    (s.queue = [] →
      s'.queue = [] ∧ (s.oneshot.pauseInputProcessingTicks = 0 → s'.oneshot.pauseInputProcessingTicks = 0) ∧
      (∀ q' ∈ s'.activeSequences, (∃ q ∈ s.activeSequences, playLen q' + 1 ≤ playLen q) ∨
         (∃ evs c, St.repeatingSequence evs c ∈ s.states ∧ q' = { remaining := evs }))) ∧
    (s.queue = [] → s.oneshot.pauseInputProcessingTicks = 0 → s.activeSequences = [] → CustomOnly s.states →
      s'.activeSequences = [] ∧ CustomOnly s'.states ∧ cmeasure s'.states ≤ cmeasure s.states - 1) := by
  obtain ⟨i0, o0, q0, d0, st0, sq0⟩ := h.pre
  have cf0 := (tickPre_spec h.quiet h.seq).1.cfg
  unfold KVerif.L.tick at ht
  simp only [h.quiet.aq, tickOneshot_quiet i0.quiet] at ht
  split at ht
  · cases ht
  · rename_i s2 c2 hm
    obtain ⟨i2, m2, ⟨d2, cf2, _, ql2⟩, e2⟩ := i0.main s2 c2 hm
    rw [C04.processExtraWaitings_inert i2.quiet.extra] at ht
    simp only at ht
    injection ht with ht
    obtain rfl : (processSequenceCustom s2 (CustomEv.noEvent.update c2)).1 = s' := congrArg Prod.fst ht
    obtain ⟨p1, p2, p3, p6, p4, p5⟩ := psc_spec s2 (CustomEv.noEvent.update c2)
    have fr := processSequenceCustom_frame s2 (CustomEv.noEvent.update c2)
    have hlen : (C06.age s.queue).length = s.queue.length := List.length_map _
    rw [o0, q0, hlen] at m2
    refine ⟨i2.psc _, by rw [p1, p2]; exact m2, ⟨by rw [p6, d2, d0], by rw [fr.st.cfg, cf2, cf0],
      by rw [p2]; exact hlen ▸ q0 ▸ ql2⟩, ?_, ?_⟩
    · intro hq
      obtain ⟨e21, e22, e23, e24⟩ := e2 (by rw [q0, hq]; rfl)
      refine ⟨by rw [p2]; exact e23, fun h0 => by rw [p1]; exact (e24 (by rw [o0]; exact h0)).2, fun q' hq' => ?_⟩
      rw [fr.seqs, e21] at hq'
      exact sq0 q' hq'
    · intro hq hp ha hc
      -- with no macro active and none held to repeat, the first stage leaves states and sequences alone
      have hnr : ∀ evs c, St.repeatingSequence evs c ∉ s.states := by
        intro evs c hm'
        rcases hc _ hm' with ⟨id, g⟩ | ⟨id, g⟩ | g <;> cases g
      have e := tickPre_quiet_eq h.quiet.tde
      rw [processSequences_idle _ (show ({ s with queue := C06.age s.queue, lptTapHoldTimeout := s.lptTapHoldTimeout - 1 } : Layout).activeSequences = [] from ha)
        (show ∀ evs c, St.repeatingSequence evs c ∉ ({ s with queue := C06.age s.queue, lptTapHoldTimeout := s.lptTapHoldTimeout - 1 } : Layout).states from hnr)] at e
      have es : (tickPre s).states = s.states := by rw [e]
      have ea : (tickPre s).activeSequences = [] := by rw [e]; exact ha
      obtain ⟨e21, e22, _, e24⟩ := e2 (by rw [q0, hq]; rfl)
      obtain rfl : c2 = .noEvent := (e24 (by rw [o0]; exact hp)).1
      obtain ⟨k1, k2⟩ := psc_measure s2 (by rw [e22, es]; exact hc)
      rw [e22, es] at k2
      exact ⟨by rw [fr.seqs, e21, ea], k1, k2⟩

/-! ## runs -/

/-- every history keeps the invariant; the input pause never grows -/
theorem run_minv {M : Nat} (ins : List C06.In) (s : Layout) (down : List Coord) (h : MInv M s down) :
    ∀ s' down', C06.run s down ins = some (.ok (s', down')) →
    MInv M s' down' ∧ s'.oneshot.pauseInputProcessingTicks ≤ s.oneshot.pauseInputProcessingTicks :=
  run_preserves
    (P := fun s' down' => MInv M s' down' ∧ s'.oneshot.pauseInputProcessingTicks ≤ s.oneshot.pauseInputProcessingTicks)
    (fun _ _ e s2 ⟨h1, p1⟩ hq he => by
      obtain ⟨s3, e3, i3, _, o3, _⟩ := h1.input e hq
      cases he.symm.trans e3
      exact ⟨i3, o3 ▸ p1⟩)
    (fun _ _ s2 cu ⟨h1, p1⟩ ht => ⟨(h1.tick s2 cu ht).1, Nat.le_trans (h1.tick s2 cu ht).2.1.2 p1⟩)
    ins s down ⟨h, Nat.le_refl _⟩

/-- with no key down and nothing queued, no state carries a coordinate -/
theorem MInv.noCoord {M : Nat} {s : Layout} (h : MInv M s []) (hq : s.queue = []) :
    ∀ st ∈ s.states, st.coord = none := by
  intro st hst
  cases hc : st.coord with
  | none => rfl
  | some c =>
    rcases h.owned st hst c hc with g | ⟨x, hx, _⟩
    · cases g
    · rw [hq] at hx; cases hx

theorem playLen_pos {q : SeqState} (h : SeqOK q) : 1 ≤ playLen q := by
  obtain ⟨_, steps, hrem, _, _⟩ := h
  unfold playLen
  rw [hrem]
  have : evLen (steps ++ [SeqEv.complete]) = evLen steps + 1 := by
    simp [evLen, ticksOf]
  omega

def seqPot (s : Layout) : Nat := listMax (s.activeSequences.map playLen)

structure Drained (M : Nat) (s : Layout) : Prop where
  inv : MInv M s []
  queue : s.queue = []
  pause : s.oneshot.pauseInputProcessingTicks = 0

theorem Drained.tick {M : Nat} {s s' : Layout} {cu : CustomEv} (h : Drained M s) (ht : tick s = .ok (s', cu)) :
    Drained M s' :=
  let ⟨i1, _, _, m2, _⟩ := h.inv.tick s' cu ht
  ⟨i1, (m2 h.queue).1, (m2 h.queue).2.1 h.pause⟩

/-- **the three phases of settling**: the queue drains, one event per tick once the input pause is
over; then every tick brings every active macro one tick closer to its end, and none is started; then
the custom items the macros left are worked off, one step per tick -/
theorem macro_settles {M : Nat} (s1 : Layout) (h : MInv M s1 []) (N : Nat)
    (hN : s1.oneshot.pauseInputProcessingTicks + s1.queue.length + M + (2 * STATES_CAP + 1) ≤ N)
    (s2 : Layout) (dn : List Coord)
    (hq : C06.run s1 [] (List.replicate N .tick) = some (.ok (s2, dn))) :
    dn = [] ∧ LayoutAtRest s2 := by
  obtain ⟨r, rfl⟩ := Nat.le.dest hN
  rw [Nat.add_assoc, Nat.add_assoc, ← List.replicate_append_replicate,
    ← List.replicate_append_replicate (n := M)] at hq
  obtain ⟨sa, da, ra, hq⟩ := run_append _ _ _ _ _ hq
  obtain ⟨sb, db, rb, hq⟩ := run_append _ _ _ _ _ hq
  obtain ⟨rfl, a2, a3⟩ := quiet_preserves (Q := fun s => MInv M s [])
    (pot := fun s => s.oneshot.pauseInputProcessingTicks + s.queue.length) []
    (fun s s' cu i ht => ⟨(i.tick s' cu ht).1, (i.tick s' cu ht).2.1.1⟩) _ s1 h sa da ra
  obtain ⟨ap, aq⟩ := Nat.add_eq_zero_iff.mp (Nat.le_zero.mp (Nat.sub_self _ ▸ a3))
  obtain ⟨rfl, hb, b3⟩ := quiet_preserves (Q := Drained M) (pot := seqPot) []
    (fun s s' cu i ht => ⟨i.tick ht, listMax_le fun x hx => by
      obtain ⟨q', hq', rfl⟩ := List.mem_map.mp hx
      rcases ((i.inv.tick s' cu ht).2.2.2.1 i.queue).2.2 q' hq' with ⟨q, hqm, hl⟩ | ⟨evs, c, hm, _⟩
      · exact Nat.le_sub_one_of_lt (Nat.lt_of_lt_of_le hl (le_listMax (List.mem_map.mpr ⟨q, hqm, rfl⟩)))
      · cases i.inv.noCoord i.queue _ hm⟩) M sa ⟨a2, List.length_eq_zero_iff.mp aq, ap⟩ sb db rb
  have ba : sb.activeSequences = [] := by
    cases hs : sb.activeSequences with
    | nil => rfl
    | cons q rest =>
      have hm : q ∈ sb.activeSequences := hs ▸ List.mem_cons_self
      have h2 : seqPot sa ≤ M := listMax_le fun x hx => by
        obtain ⟨q', hq', rfl⟩ := List.mem_map.mp hx
        exact a2.play q' hq'
      exact absurd (Nat.le_trans (playLen_pos (hb.inv.seq.ok q hm)) (Nat.le_trans
        (le_listMax (List.mem_map.mpr ⟨q, hm, rfl⟩)) (Nat.sub_eq_zero_of_le h2 ▸ b3))) (Nat.not_succ_le_zero 0)
  have bc : CustomOnly sb.states := by
    intro st hst
    have hnc := hb.inv.noCoord hb.queue st hst
    cases st with
    | fakeKey k => exact absurd hst (hb.inv.seq.released ba k)
    | seqCustomPending id => exact Or.inl ⟨id, rfl⟩
    | seqCustomActive id => exact Or.inr (Or.inl ⟨id, rfl⟩)
    | tombstone => exact Or.inr (Or.inr rfl)
    | normalKey _ _ _ | layerModifier _ _ | custom _ _ | repeatingSequence _ _ => cases hnc
  obtain ⟨c1, ⟨hc, c5, _⟩, c7⟩ := quiet_preserves
    (Q := fun s => Drained M s ∧ s.activeSequences = [] ∧ CustomOnly s.states) (pot := fun s => cmeasure s.states) []
    (fun s s' cu ⟨i, ha, hc⟩ ht => by
      obtain ⟨a1, c1, k1⟩ := (i.inv.tick s' cu ht).2.2.2.2 i.queue i.pause ha hc
      exact ⟨⟨i.tick ht, a1, c1⟩, k1⟩) _ sb ⟨hb, ba, bc⟩ s2 dn hq
  have hm : cmeasure sb.states ≤ 2 * STATES_CAP + 1 + r :=
    Nat.le_trans (cmeasure_le sb.states) (Nat.le_add_right_of_le (Nat.succ_le_succ (Nat.mul_le_mul_left 2 hb.inv.cap)))
  have hz : s2.states = [] := cmeasure_zero (Nat.le_zero.mp (Nat.sub_eq_zero_of_le hm ▸ c7))
  exact ⟨c1, hz, hc.queue, hc.inv.quiet.waiting, hc.inv.quiet.extra, hc.inv.lpt, hc.inv.quiet.osh, hc.pause, c5,
    hc.inv.quiet.tde, hc.inv.quiet.aq⟩

/-! ## the fragment never crashes -/

mutual
  /-- how deep `do_action` recurses for an action of the fragment -/
  def depthA : Action → Nat
    | .multipleActions acs => 2 + depthL acs
    | _ => 2
  def depthL : List Action → Nat
    | [] => 1
    | a :: rest => 1 + max (depthA a) (depthL rest)
end

theorem depthA_ge (a : Action) : 2 ≤ depthA a := by
  cases a <;> simp [depthA]

theorem depthL_ge (acs : List Action) : 1 ≤ depthL acs := by
  cases acs <;> simp [depthL] <;> omega

/-- **enough fuel, no `fuelOut`**: an action of the fragment returns a state -/
theorem frag_total : ∀ fuel : Nat,
    (∀ s a coord delay o ls, MFrag a → a ≠ .trans → depthA a ≤ fuel →
      ∃ r, doAction fuel s a coord delay o ls = .ok r) ∧
    (∀ s a coord delay o ls, MFrag a → a ≠ .trans → depthA a ≤ fuel + 1 →
      ∃ r, dispatch fuel s a coord delay o ls = .ok r) ∧
    (∀ s acs coord delay o ls cu0, MFragL acs → depthL acs ≤ fuel →
      ∃ r, doActions fuel s acs coord delay o ls cu0 = .ok r) := by
  intro fuel
  induction fuel with
  | zero =>
    refine ⟨?_, ?_, ?_⟩
    · intro s a _ _ _ _ _ _ h; have := depthA_ge a; omega
    · intro s a _ _ _ _ _ _ h; have := depthA_ge a; omega
    · intro s acs _ _ _ _ _ _ h; have := depthL_ge acs; omega
  | succ fuel ih =>
    obtain ⟨ih1, ih2, ih3⟩ := ih
    refine ⟨?_, ?_, ?_⟩
    · intro s a coord delay o ls hf hnt hd
      rw [C04.doAction_of_ne hnt]
      exact ih2 (prelude s coord) a coord delay o ls hf hnt hd
    · intro s a coord delay o ls hf hnt hd
      cases a <;> simp only [MFrag] at hf <;> simp only [dispatch]
      case noOp => exact ⟨_, rfl⟩
      case trans => exact absurd rfl hnt
      case keyCode kc => exact ⟨_, rfl⟩
      case cancelSequences => exact ⟨_, rfl⟩
      case custom id => exact ⟨_, rfl⟩
      case sequence evs => exact ⟨_, rfl⟩
      case repeatableSequence evs => exact ⟨_, rfl⟩
      case multipleActions acs =>
        simp only [depthA] at hd
        obtain ⟨r, hr⟩ := ih3 (updateCoord s coord) acs coord delay o ls .noEvent hf (by omega)
        rw [hr]
        exact ⟨_, rfl⟩
    · intro s acs coord delay o ls cu0 hf hd
      cases acs with
      | nil => exact ⟨(s, cu0), by simp only [doActions]⟩
      | cons a rest =>
        simp only [MFragL] at hf
        simp only [depthL] at hd
        obtain ⟨r1, hr1⟩ := ih1 s a coord delay o ls hf.1 hf.2.1 (by omega)
        obtain ⟨s1, c1⟩ := r1
        obtain ⟨r2, hr2⟩ := ih3 s1 rest coord delay o ls (cu0.update c1) hf.2.2 (by omega)
        exact ⟨r2, by simp only [doActions, hr1, hr2]⟩

structure CfgSafeM (c : LCfg) : Prop where
  pinned : c.pinnedLayerStack = false
  layers : 0 < c.layers.length
  depthL : ∀ tbl ∈ c.layers, ∀ e ∈ tbl, depthA e.2 ≤ 3998
  depthS : ∀ e ∈ c.srcKeys, depthA e.2 ≤ 3998 ∧ e.2 ≠ .trans

structure SafeM (s : Layout) : Prop where
  cfg : CfgSafeM s.cfg
  dl : s.defaultLayer < s.cfg.layers.length
  queue : ∀ q ∈ s.queue, ∀ c, q.ev = .press c → CoordOK s.cfg c

theorem FUEL_2 : FUEL = 3998 + 2 := rfl

theorem dequeue_press_total_M {s : Layout} (hc : CfgM s.cfg) (hq : Quiet s) (hS : SafeM s)
    (hnl : ∀ st ∈ s.states, st.getLayer = none) (c : Coord) (hco : CoordOK s.cfg c) (n : Nat) :
    ∃ r, dequeue FUEL s ⟨.press c, n⟩ = .ok r := by
  obtain ⟨order, ho, hol⟩ := transOrder_total s s.cfg.layers.length hS.cfg.pinned hS.dl hS.cfg.layers
    (fun st hst v hv => by rw [hnl st hst] at hv; cases hv)
  obtain ⟨a, ls, hr⟩ := resolve_total s c hco order hol
  have hf := resolve_mfrag s c hc order a ls hr
  have hnt := resolve_ne_trans s c (fun e he => (hS.cfg.depthS e he).2) _ _ _ hr
  have hd : depthA a ≤ 3998 := resolve_pred (fun a => depthA a ≤ 3998) (by decide) (by decide) s c
    hS.cfg.depthL (fun e he => (hS.cfg.depthS e he).1) order a ls hr
  obtain ⟨r, hr'⟩ := (frag_total 3998).2.1 (prelude s c) a c n false ls hf hnt (by omega)
  refine ⟨r, ?_⟩
  rw [FUEL_2]
  simp only [dequeue, hq.tde, bind, Except.bind, ho, doAction, hr]
  exact hr'

theorem main_total_M {M : Nat} {s : Layout} {down : List Coord} (h : MInv M s down) (hS : SafeM s) :
    ∃ r, tickMain s = .ok r := by
  by_cases hp : 0 < s.oneshot.pauseInputProcessingTicks
  · rw [C06.tickMain_paused h.quiet.waiting h.quiet.extra hp]; exact ⟨_, rfl⟩
  · have hp0 : s.oneshot.pauseInputProcessingTicks = 0 := by omega
    cases hq : s.queue with
    | nil => rw [C06.tickMain_empty h.quiet.waiting h.quiet.extra hp0 hq]; exact ⟨_, rfl⟩
    | cons q rest =>
      rw [C06.tickMain_pops h.quiet.waiting h.quiet.extra hp0 q rest hq]
      obtain ⟨ev, n⟩ := q
      cases ev with
      | release c => rw [dequeue_release_quiet (s := s.setQueue rest) h.quiet.osh c n]; exact ⟨_, rfl⟩
      | press c =>
        have hco : CoordOK s.cfg c := hS.queue ⟨.press c, n⟩ (by rw [hq]; exact List.mem_cons_self) c rfl
        exact dequeue_press_total_M (s := s.setQueue rest) h.cfg
          ⟨h.quiet.waiting, h.quiet.extra, h.quiet.tde, h.quiet.aq, h.quiet.osh⟩
          ⟨hS.cfg, hS.dl, fun x hx => hS.queue x (by rw [hq]; exact List.mem_cons_of_mem _ hx)⟩ h.nolayer c hco n

/-- **a tick on the macro fragment never crashes** -/
theorem tick_total_M {M : Nat} {s : Layout} {down : List Coord} (h : MInv M s down) (hS : SafeM s) :
    ∃ s' cu, tick s = .ok (s', cu) ∧ SafeM s' := by
  obtain ⟨i0, o0, q0, d0, _, _⟩ := h.pre
  have cf0 := (tickPre_spec h.quiet h.seq).1.cfg
  have S0 : SafeM (tickPre s) := by
    refine ⟨cf0 ▸ hS.cfg, by rw [cf0, d0]; exact hS.dl, ?_⟩
    intro q hq c hc
    rw [q0] at hq
    obtain ⟨y, hy, hyq⟩ := List.mem_map.mp hq
    rw [cf0]
    exact hS.queue y hy c (by rw [← hc, ← hyq])
  obtain ⟨r, hm⟩ := main_total_M i0 S0
  obtain ⟨s2, c2⟩ := r
  obtain ⟨i2, _, ⟨d2, cf2, qs2, _⟩, _⟩ := i0.main s2 c2 hm
  obtain ⟨_, p2, _, p6, _, _⟩ := psc_spec s2 (CustomEv.noEvent.update c2)
  have fr := processSequenceCustom_frame s2 (CustomEv.noEvent.update c2)
  refine ⟨(processSequenceCustom s2 (CustomEv.noEvent.update c2)).1, (processSequenceCustom s2 (CustomEv.noEvent.update c2)).2, ?_, ?_⟩
  · unfold KVerif.L.tick
    simp only [h.quiet.aq, tickOneshot_quiet i0.quiet, hm, C04.processExtraWaitings_inert i2.quiet.extra]
  · refine ⟨by rw [fr.st.cfg, cf2]; exact S0.cfg, by rw [p6, d2, fr.st.cfg, cf2]; exact S0.dl, ?_⟩
    intro q hq c hc
    rw [p2] at hq
    rw [fr.st.cfg, cf2]
    exact S0.queue q (qs2 q hq) c hc

theorem input_safe_M {M : Nat} {s : Layout} {down : List Coord} (h : MInv M s down) (hS : SafeM s) (e : Ev)
    (hq : s.queue.length < QUEUE_SIZE) (hco : ∀ c, e = .press c → CoordOK s.cfg c) :
    ∃ s', s.event e = .ok s' ∧ MInv M s' (C06.downAfter down (.ev e)) ∧ SafeM s' ∧
      s'.queue.length = s.queue.length + 1 ∧ s'.cfg = s.cfg := by
  obtain ⟨s', e1, i1, q1, _, d1, c1⟩ := h.input e hq
  refine ⟨s', e1, i1, ⟨c1 ▸ hS.cfg, by rw [c1, d1]; exact hS.dl, ?_⟩, by rw [q1]; simp, c1⟩
  intro q hq' c hc
  rw [c1]
  rw [q1] at hq'
  rcases List.mem_append.mp hq' with hq' | hq'
  · exact hS.queue q hq' c hc
  · simp only [List.mem_cons, List.mem_nil_iff, or_false] at hq'
    subst hq'
    exact hco c hc

theorem stepInv_M (M : Nat) (cfg : LCfg) :
    StepInv (fun s down => MInv M s down ∧ SafeM s ∧ s.cfg = cfg) (pressOK cfg) where
  ev := by
    intro s down e ⟨h, hS, hc⟩ hq hA
    obtain ⟨s1, e1, i1, S1, q1, c1⟩ := input_safe_M h hS e hq (fun c hc' => hc ▸ hA c (by rw [hc']))
    exact ⟨s1, e1, ⟨i1, S1, c1.trans hc⟩, q1⟩
  tick := by
    intro s down ⟨h, hS, hc⟩
    obtain ⟨s1, cu, e1, S1⟩ := tick_total_M h hS
    obtain ⟨i1, _, ⟨_, c1, l1⟩, _⟩ := h.tick s1 cu e1
    exact ⟨s1, cu, e1, ⟨i1, S1, c1.trans hc⟩, l1⟩

theorem quiet_total_M {M : Nat} (N : Nat) (s : Layout) (down : List Coord) (h : MInv M s down) (hS : SafeM s) :
    ∃ s', C06.run s down (List.replicate N .tick) = some (.ok (s', down)) :=
  let ⟨s', hr, _⟩ := (stepInv_M M s.cfg).quiet N (show _ ∧ _ ∧ _ from ⟨h, hS, rfl⟩)
  ⟨s', hr⟩

/-- **a history of at most 32 events in all** (counting those already queued) on the macro fragment,
presses inside the layer tables: the run returns a state -/
theorem run_defined_M {M : Nat} : ∀ (ins : List C06.In) (s : Layout) (down : List Coord), MInv M s down → SafeM s →
    PressesOK s.cfg ins → evCount ins + s.queue.length ≤ QUEUE_SIZE →
    ∃ s', C06.run s down ins = some (.ok (s', downs down ins)) ∧ SafeM s' := by
  intro ins s down h hS hP hn
  obtain ⟨s', hr, _, hS', _⟩ := (stepInv_M M s.cfg).run_defined ins s down ⟨h, hS, rfl⟩ (hP.admitted down) hn
  exact ⟨s', hr, hS'⟩

/-- the run of a history on the macro fragment never ends in a crash -/
theorem run_never_crashes_M {M : Nat} (ins : List C06.In) (s : Layout) (down : List Coord) (h : MInv M s down)
    (hS : SafeM s) (hP : PressesOK s.cfg ins) :
    C06.run s down ins = none ∨ ∃ s', C06.run s down ins = some (.ok (s', downs down ins)) ∧ SafeM s' :=
  ((stepInv_M M s.cfg).run_never_crashes ins s down ⟨h, hS, rfl⟩ (hP.admitted down)).imp_right
    fun ⟨s', hr, _, hS', _⟩ => ⟨s', hr, hS'⟩

theorem init_safe_M (cfg : LCfg) (hc : CfgSafeM cfg) (tv2 dfl qth : Bool) (osd : Nat) :
    SafeM ({ cfg := cfg, transV2 := tv2, delegateToFirstLayer := dfl, quickTapHoldTimeout := qth,
             oneshot := { pauseInputProcessingDelay := osd } } : Layout) :=
  ⟨hc, hc.layers, fun _ h => (by cases h)⟩

end KVerif.Quiesce
