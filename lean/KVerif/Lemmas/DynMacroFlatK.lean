/-
Helper lemmas for C19: a replay running on the one-layer layout `Flat` (no other input arriving)
writes exactly the OS trace of its queued key events.
-/
import KVerif.Lemmas.DynMacroFlat
namespace KVerif.DynMacro

/-- the OS key events of the log, without the tick numbers -/
def osKeys (os : List (Nat × OsEv)) : List OsEv := os.map (·.2)

theorem osKeys_append_map (os : List (Nat × OsEv)) (n : Nat) (l : List OsEv) :
    osKeys (os ++ l.map (fun e => (n, e))) = osKeys os ++ l := by
  simp only [osKeys, List.map_append, List.map_map, Function.comp_def, List.map_id']

/-- The invariant of a replay on the one-layer layout: at most one event is queued in the layout,
`prev_keys` is up to date, and the OS events written so far followed by what the queued and the
still-to-be-fed events will write is the constant `T`. -/
def FlatJ (keys : List KeyDef) (T : List OsEv) (k : K Flat) : Prop :=
  k.lay.prev = keycodes k.lay.states ∧
  (k.lay.queue = [] ∨ ∃ e, k.lay.queue = [e]) ∧
  (k.rep = none → k.lay.queue = []) ∧
  osKeys k.os ++ flatTrace keys k.lay.states (k.lay.queue ++ planOf k.rep) = T

/-- one round of either loop of `tick_ms`: `tick_states` processes the event the round before has
queued (if any) and leaves the queue empty; the replay step queues at most one -/
theorem flatJ_step (keys : List KeyDef) (c : Cfg) (hn : NoPlay (flatI keys)) (T : List OsEv)
    {k k1 : K Flat} (hj : FlatJ keys T k) (h : tickStates (flatI keys) c k = .ok k1) :
    FlatJ keys T (feed (flatI keys) c.beh k1) := by
  obtain ⟨j1, j2, _, j4⟩ := hj
  have hrep := tickStates_rep_noPlay hn h
  obtain ⟨t1, t2, t3⟩ := flatTick_trace keys k.lay j2 j1 (planOf k.rep)
  obtain ⟨r, s, p, rfl⟩ := tickStates_fields h
  have hos : osKeys (k.os ++ (flatTick keys k.lay).2.2.map fun e => (k.nticks, e)) ++
      flatTrace keys (flatTick keys k.lay).1.states (planOf k.rep) = T := by
    rw [osKeys_append_map, List.append_assoc, t3]; exact j4
  rw [tickReplay_plan c.beh k.rep] at hos
  cases hrep
  cases ho : (tickReplay c.beh k.rep).2 with
  | none =>
    simp only [feed, ho, outEv, List.foldl_nil] at hos ⊢
    refine ⟨t2, .inl t1, fun _ => t1, ?_⟩
    show _ ++ flatTrace keys _ ((flatTick keys k.lay).1.queue ++ _) = T
    rw [t1]; exact hos
  | some ed =>
    have hne := tickReplay_some_of_ev c.beh k.rep ed ho
    simp only [feed, ho, outEv, List.foldl_cons, List.foldl_nil, flatI, flatEvent_empty keys _ ed.1 t1]
      at hos ⊢
    exact ⟨t2, .inr ⟨ed.1, rfl⟩, fun hc => absurd hc hne, hos⟩

theorem runTicks_flatJ (keys : List KeyDef) (c : Cfg) (hn : NoPlay (flatI keys)) (T : List OsEv)
    (ticks : List Nat) (k k' : K Flat) (hms : ∀ ms ∈ ticks, c.fix = true ∨ ms < 65536)
    (hj : FlatJ keys T k) (h : run (flatI keys) c k (ticks.map .tick) = .ok k') : FlatJ keys T k' :=
  (run_rounds (fun _ => FlatJ keys T) (fun _ _ _ hx h1 => flatJ_step keys c hn T hx h1) _
    (fun _ _ _ he => by simp at he) (fun _ _ _ he => by simp at he) 0 k k' (msOK_ticks c ticks hms) hj h).elim
    fun _ hn => hn.2

end KVerif.DynMacro
