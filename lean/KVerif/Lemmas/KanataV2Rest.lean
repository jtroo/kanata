/-
Helper lemmas for Props/C09kan.lean: the chords-v2 machine at rest (empty queue, no active chord, no
cool-down), the chords-v2 prologue of `Layout::tick` when the machine's tick hands nothing to the layout
(`silentTick?`; at rest it does), and the kanata tick stages of Model/KanataV2.lean when the layout tick
returns no custom event.
-/
import KVerif.Model.KanataV2
import KVerif.Props.C07
import KVerif.Props.C09V2
namespace KVerif.C09
open KVerif.L KVerif.K

/-- what one tick does to a chords-v2 machine at rest: only the three fields of the "skip the scan"
optimisation move (`ticks_until_next_state_change`, `prev_active_layer`, `prev_queue_len`) -/
def restSkip (ch : ChV2) (layer : Nat) : Bool :=
  decide (ch.ticksUntilChange > 0) && ch.prevActiveLayer == layer && ch.prevQueueLen == 0

def restTick (ch : ChV2) (layer : Nat) : ChV2 :=
  { ch with ticksUntilChange := if restSkip ch layer then ch.ticksUntilChange - 1 else 0,
            prevActiveLayer := if restSkip ch layer then ch.prevActiveLayer else layer,
            prevQueueLen := if restSkip ch layer then ch.prevQueueLen else 0 }

/-- the conditions `is_idle_chv2` and `accepts_chords_chv2` check -/
structure Chv2Rest (ch : ChV2) : Prop where
  queue : ch.queue = []
  active : ch.active = []
  cool : ch.ticksToIgnore = 0

theorem restTick_rest (ch : ChV2) (layer : Nat) (h : Chv2Rest ch) : Chv2Rest (restTick ch layer) :=
  ⟨h.queue, h.active, h.cool⟩

theorem drainInputs_rest (ch : ChV2) (layer : Nat) (h : Chv2Rest ch) :
    drainInputs ch [] layer = .ok (restTick ch layer, []) := by
  obtain ⟨cfg, queue, active, ti, tu, pl, pq, nc⟩ := ch
  obtain ⟨rfl, rfl, rfl⟩ := h
  unfold drainInputs restTick
  simp only [Nat.lt_irrefl, gt_iff_lt, ↓reduceIte, List.length_nil]
  -- the condition of the fast path is `restSkip`; when it fails the scan of an empty queue finds nothing
  cases hcnd : restSkip { cfg, queue := [], active := [], ticksToIgnore := 0, ticksUntilChange := tu,
                          prevActiveLayer := pl, prevQueueLen := pq, nextCoord := nc } layer <;>
    simp only [restSkip, gt_iff_lt] at hcnd <;> simp only [hcnd, Bool.false_eq_true, ↓reduceIte] <;> rfl

theorem tickChv2_rest (ch : ChV2) (layer : Nat) (h : Chv2Rest ch) :
    tickChv2 ch layer = .ok (restTick ch layer, []) := by
  have hd := drainInputs_rest ch layer h
  obtain ⟨cfg, queue, active, ti, tu, pl, pq, nc⟩ := ch
  obtain ⟨rfl, rfl, rfl⟩ := h
  unfold tickChv2
  simp only [List.map_nil, hd]
  rfl

/-- `restTick` on the optional chords-v2 state -/
def restTickO (c : Option ChV2) (layer : Nat) : Option ChV2 := c.map (restTick · layer)

def Chv2RestO (c : Option ChV2) : Prop := ∀ ch, c = some ch → Chv2Rest ch

theorem restTickO_rest (c : Option ChV2) (layer : Nat) (h : Chv2RestO c) : Chv2RestO (restTickO c layer) := by
  intro ch hch
  cases c with
  | none => cases hch
  | some c0 =>
    simp only [restTickO, Option.map_some, Option.some.injEq] at hch
    rw [← hch]; exact restTick_rest c0 layer (h c0 rfl)

/-- the chords-v2 state after a tick of the machine that hands nothing to the layout - no event, no
chord action -, and `none` when the tick is not of that kind.  A machine at rest ticks like this, and
so does one that waits for further keys or holds a chord whose keys are still down. -/
def silentTick? (c : Option ChV2) (layer : Nat) : Option (Option ChV2) :=
  match c with
  | none => some none
  | some ch =>
    match tickChv2 ch layer with
    | .ok (ch', []) => if (getActionChv2 ch'.active).2.isNone then some (some ch') else none
    | _ => none

theorem silentTick?_rest (c : Option ChV2) (layer : Nat) (h : Chv2RestO c) :
    silentTick? c layer = some (restTickO c layer) := by
  cases c with
  | none => rfl
  | some ch =>
    have ha : (restTick ch layer).active = [] := (h ch rfl).active
    simp only [silentTick?, tickChv2_rest ch layer (h ch rfl), ha, getActionChv2, Option.isNone_none, if_true]
    rfl

theorem getActionChv2_none (l : List ActiveChord) (h : (getActionChv2 l).2 = none) : getActionChv2 l = (l, none) := by
  rcases chord_v2_pending_is_delivered l with ⟨_, e⟩ | ⟨_, _, _, _, _, _, e⟩
  · exact e
  · rw [e] at h; cases h

theorem tickV2Pre_silent (lay : Layout) (c c' : Option ChV2) (h : silentTick? c lay.currentLayer = some c') :
    tickV2Pre { lay, chv2 := c } = .ok { lay, chv2 := c' } := by
  cases c with
  | none => cases h; rfl
  | some ch =>
    simp only [silentTick?] at h
    split at h
    · rename_i ch' ht
      split at h
      · rename_i hn
        cases h
        simp only [tickV2Pre, ht, getActionChv2_none _ (Option.isNone_iff_eq_none.mp hn), handOver]
      · cases h
    · cases h

/-- the chords-v2 prologue of `Layout::tick` on a machine at rest hands nothing to the layout -/
theorem tickV2Pre_rest (lay : Layout) (c : Option ChV2) (h : Chv2RestO c) :
    tickV2Pre { lay, chv2 := c } = .ok { lay, chv2 := restTickO c lay.currentLayer } :=
  tickV2Pre_silent lay c _ (silentTick?_rest c _ h)

theorem layoutV2_tick_silent (lay : Layout) (c c' : Option ChV2) (h : silentTick? c lay.currentLayer = some c')
    (l' : Layout) (ce : CustomEv) (ht : tick lay = .ok (l', ce)) :
    LayoutV2.tick { lay, chv2 := c } = .ok ({ lay := l', chv2 := c' }, ce) := by
  simp only [LayoutV2.tick, tickV2Pre_silent lay c c' h, ht]

/-! [seq] the sequence hooks of the twins when sequence mode is off / the key lists are in sync -/

theorem eraseOverridden_seq (k : KState) (r : List Nat) : (eraseOverridden k r).seq = k.seq := by
  unfold eraseOverridden
  simp only []
  split <;> rfl

theorem applyCapsWord_seq (k : KState) (cur : List KeyCode) : (applyCapsWord k cur).2.seq = k.seq := by
  unfold applyCapsWord
  split
  · rfl
  · rfl

theorem seqReleasedHookV2_inactive (s : KV2) (cur : List KeyCode) (h : s.k.seq.st.active = false) :
    seqReleasedHookV2 s cur = .ok s := by
  unfold seqReleasedHookV2
  simp only [h, Bool.not_false, if_true]
  split <;> rfl

theorem seqReleasedHookV2_synced (s : KV2) (cur : List KeyCode) (h : ∀ x ∈ s.k.prevKeys, x ∈ cur) :
    seqReleasedHookV2 s cur = .ok s := by
  unfold seqReleasedHookV2
  cases cur with
  | cons c cs => simp
  | nil =>
    have : s.k.prevKeys = [] := by
      cases hp : s.k.prevKeys with
      | nil => rfl
      | cons y ys => exact absurd (h y (by simp [hp])) (by simp)
    simp [this]

theorem pressLoopV2_synced (cur xs : List KeyCode) (s : KV2) (h : ∀ x ∈ xs, x ∈ s.k.prevKeys) :
    pressLoopV2 cur xs s = .ok s := by
  induction xs with
  | nil => rfl
  | cons x xs ih =>
    have hc : s.k.prevKeys.contains x = true := by simpa using h x (by simp)
    unfold pressLoopV2
    simp only [hc, if_true]
    exact ih (fun y hy => h y (by simp [hy]))

theorem pressLoopV2_off (cur xs : List KeyCode) (s : KV2) (h : s.k.seq.off = true) :
    pressLoopV2 cur xs s = .ok { s with k := pressNew s.k xs } := by
  induction xs generalizing s with
  | nil => rfl
  | cons x xs ih =>
    rw [pressLoopV2]
    split
    · rw [ih s h, pressNew, pressNew, List.foldl_cons, if_pos ‹_›]
    · simp only [off_alwaysOnStep s.k.seq h, off_inactive s.k.seq h, Bool.false_eq_true, if_false]
      rw [ih _ (by show (pressKey _ x).seq.off = true; rw [pressKey_seq]; exact h),
        pressNew, pressNew, List.foldl_cons, if_neg ‹_›]

/-- `handle_keystate_changes` after a layout tick that returned no custom event -/
def hkcNoEv (k : KState) : Except K.Crash KState :=
  match k.overrides.overrideKeys (adjustKeys k (k.curKeys ++ k.layout.keycodes)) k.overrideStates with
  | .error c => .error (.override c)
  | .ok (cur, ost) =>
    let k := eraseOverridden { k with overrideStates := ost } ost.toRemove
    let (cur, k) := applyCapsWord k cur
    let k := pressNew (releaseOld k cur false) cur
    .ok { k with curKeys := cur }

/-- [seq] the state the key diff starts from has sequence mode off when `k` has -/
theorem diffStart_off (k : KState) (ost : Override.OverrideStates) (cur : List KeyCode) (rev : Bool)
    (h : k.seq.off = true) :
    (releaseOld (applyCapsWord (eraseOverridden { k with overrideStates := ost } ost.toRemove) cur).2
      (applyCapsWord (eraseOverridden { k with overrideStates := ost } ost.toRemove) cur).1 rev).seq.off = true := by
  rw [releaseOld_seq, applyCapsWord_seq, eraseOverridden_seq]; exact h

theorem hkcRestV2_noEvent (s : KV2) (hoff : s.k.seq.off = true) :
    hkcRestV2 s .noEvent = (match hkcNoEv s.k with | .error c => .error c | .ok k => .ok { s with k }) := by
  unfold hkcRestV2 hkcNoEv
  simp only [applyUnmodEvent, hkcCustomV2]
  cases s.k.overrides.overrideKeys (adjustKeys s.k (s.k.curKeys ++ s.k.layout.keycodes)) s.k.overrideStates with
  | error c => rfl
  | ok r =>
    obtain ⟨cur, ost⟩ := r
    have h1 := diffStart_off s.k ost cur false hoff
    -- the state is spelled out: left to unification, `s` is searched for through `releaseOld`
    simp only [seqReleasedHookV2_inactive { s with k := releaseOld _ _ false } _ (off_inactive _ h1),
      pressLoopV2_off _ _ { s with k := releaseOld _ _ false } h1]

theorem handleKeystateChanges_noEvent (k : KState) (l' : Layout) (ht : tick k.layout = .ok (l', .noEvent))
    (hoff : k.seq.off = true) :
    handleKeystateChanges k = hkcNoEv { k with layout := l' } := by
  unfold handleKeystateChanges hkcNoEv
  simp only [ht, applyUnmodEvent, hkcCustom]
  cases ({ k with layout := l' } : KState).overrides.overrideKeys
      (adjustKeys { k with layout := l' } (({ k with layout := l' } : KState).curKeys ++ l'.keycodes))
      ({ k with layout := l' } : KState).overrideStates with
  | error c => rfl
  | ok r =>
    obtain ⟨cur, ost⟩ := r
    have h1 := diffStart_off ({ k with layout := l' } : KState) ost cur false hoff
    simp only []
    rw [seqReleasedHook_inactive _ _ (off_inactive _ h1)]
    simp only []
    rw [pressLoop_off _ _ _ h1]

theorem handleKeystateChangesV2_silent (s : KV2) (c' : Option ChV2)
    (h : silentTick? s.chv2 s.k.layout.currentLayer = some c') (l' : Layout) (ce : CustomEv)
    (ht : tick s.k.layout = .ok (l', ce)) :
    handleKeystateChangesV2 s = hkcRestV2 { k := { s.k with layout := l' }, chv2 := c' } ce := by
  simp only [handleKeystateChangesV2, KV2.lv, layoutV2_tick_silent s.k.layout s.chv2 c' h l' ce ht, KV2.setLv]

/-- [seq] `handle_keystate_changes` of the twin after a layout tick without custom event, when the OS key
state and the wanted list coincide (C07's `Synced`): nothing moves, whatever the sequence state (no
key is new, the all-released hook does not run) -/
theorem hkcRestV2_quiet (s : KV2) (cur' : List KeyCode) (ost : Override.OverrideStates)
    (hov : s.k.overrides.overrideKeys (adjustKeys s.k (s.k.curKeys ++ s.k.layout.keycodes)) s.k.overrideStates = .ok (cur', ost))
    (hrm : ost.toRemove = []) (hcw : s.k.capsWord = none) (hsync : C07.Synced s.k cur') :
    hkcRestV2 s .noEvent = .ok { s with k := { s.k with overrideStates := ost, curKeys := cur' } } := by
  have hsync' : C07.Synced ({ s.k with overrideStates := ost } : KState) cur' := hsync
  have hcw' : applyCapsWord ({ s.k with overrideStates := ost } : KState) cur'
      = (cur', { s.k with overrideStates := ost }) := by
    unfold applyCapsWord; simp only [hcw]
  have hro := C07.releaseOld_synced ({ s.k with overrideStates := ost } : KState) cur' false hsync'.1
  have hh : seqReleasedHookV2 { s with k := { s.k with overrideStates := ost } } cur'
      = .ok { s with k := { s.k with overrideStates := ost } } := seqReleasedHookV2_synced _ _ hsync'.1
  have hp : pressLoopV2 cur' cur' { s with k := { s.k with overrideStates := ost } }
      = .ok { s with k := { s.k with overrideStates := ost } } := pressLoopV2_synced _ _ _ hsync'.2
  unfold hkcRestV2
  simp only [applyUnmodEvent, hov, hrm, C07.eraseOverridden_nil, hcw', hro, hh, hp, hkcCustomV2]

theorem tickIdleTimeoutV2_nil (s : KV2) (h : s.k.waitingForIdle = []) : tickIdleTimeoutV2 s = .ok s := by
  unfold tickIdleTimeoutV2
  -- what is written back is the empty list the state already holds
  rw [h, tickIdleTimeoutV2Go, List.reverse_nil, ← h]

theorem tickHeldVkeysV2_nil (s : KV2) (h : s.k.vkeysPendingRelease = []) : tickHeldVkeysV2 s = .ok s := by
  unfold tickHeldVkeysV2
  rw [h, tickHeldVkeysV2Go, List.reverse_nil, ← h]

theorem handleKeystateChangesV2_restO (k : KState) (c : Option ChV2) (h : Chv2RestO c) (l' : Layout)
    (ht : tick k.layout = .ok (l', .noEvent)) (k' : KState) (hk : handleKeystateChanges k = .ok k')
    (hoff : k.seq.off = true) :
    handleKeystateChangesV2 { k, chv2 := c } = .ok { k := k', chv2 := restTickO c k.layout.currentLayer } := by
  rw [handleKeystateChanges_noEvent k l' ht hoff] at hk
  rw [handleKeystateChangesV2_silent { k, chv2 := c } _ (silentTick?_rest c _ h) l' .noEvent ht, hkcRestV2_noEvent _ hoff]
  simp only [hk]

theorem handleKeystateChangesV2_quiet (s : KV2) (c' : Option ChV2)
    (hs : silentTick? s.chv2 s.k.layout.currentLayer = some c') (hq : C07.QuietLayout s.k.layout)
    (hcw : s.k.capsWord = none) (hcur : s.k.curKeys = []) (cur' : List KeyCode) (ost : Override.OverrideStates)
    (hov : s.k.overrides.overrideKeys (adjustKeys s.k s.k.layout.keycodes) s.k.overrideStates = .ok (cur', ost))
    (hrm : ost.toRemove = []) (hsync : C07.Synced s.k cur') :
    handleKeystateChangesV2 s =
      .ok { k := { s.k with layout := tickPre s.k.layout, overrideStates := ost, curKeys := cur' }, chv2 := c' } := by
  have hkc : (tickPre s.k.layout).keycodes = s.k.layout.keycodes := by
    unfold Layout.keycodes; rw [(C07.tickPre_quiet s.k.layout hq).1]
  rw [handleKeystateChangesV2_silent s c' hs _ .noEvent (C07.tick_quiet_eq s.k.layout hq)]
  refine hkcRestV2_quiet _ cur' ost ?_ hrm hcw hsync
  -- the wanted keys are computed from the same list: nothing is held over, the key codes did not age
  rw [← hov]
  simp only [hcur, List.nil_append, hkc]
  rfl

end KVerif.C09
