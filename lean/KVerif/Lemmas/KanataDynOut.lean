/-
The OS events of `tick_states` (stage (a) of `replay_same_os_output_kan`): with the other
kanata-level components at rest a tick writes the key diff `osDiff` (Lemmas/KeyDiff.lean) between the
OS key list before (`prev_keys`) and the layout's key-code list after, and nothing else.  `osDiff`
reads the state through its output tables only (`SameTables`).
-/
import KVerif.Lemmas.C07BisimK
import KVerif.Lemmas.KeyDiff
namespace KVerif.K
open KVerif KVerif.L

/-- the same output tables (`ignoreMin/Max`, mouse-button and wheel key codes) -/
def SameTables (a b : KState) : Prop :=
  a.ignoreMin = b.ignoreMin ∧ a.ignoreMax = b.ignoreMax ∧ a.btnCodes = b.btnCodes ∧ a.wheelCodes = b.wheelCodes

theorem keyUp_congr {a b : KState} (h : SameTables a b) (kc : KeyCode) : keyUp a kc = keyUp b kc := by
  unfold keyUp; rw [h.1, h.2.1, h.2.2.1, h.2.2.2]

theorem keyDown_congr {a b : KState} (h : SameTables a b) (kc : KeyCode) : keyDown a kc = keyDown b kc := by
  unfold keyDown; rw [h.1, h.2.1, h.2.2.1, h.2.2.2]

theorem SameTables.trans {a b c : KState} (h1 : SameTables a b) (h2 : SameTables b c) : SameTables a c :=
  ⟨h1.1.trans h2.1, h1.2.1.trans h2.2.1, h1.2.2.1.trans h2.2.2.1, h1.2.2.2.trans h2.2.2.2⟩

/-- `tick_states` with the other kanata-level components at rest is `afterTick` of the layout's tick -/
theorem tickStates_rest_eq {k k' : KState} (hr : C07.KRest k) (h : tickStates k = .ok k') :
    ∃ l', tick k.layout = .ok (l', .noEvent) ∧ k' = C07.afterTick k l' ∧ C07.KRest k' := by
  obtain ⟨l', hl, _, _, hr'⟩ := C07.tickStates_rest k k' hr h
  cases h.symm.trans (C07.tickStates_rest_ok k hr l' hl)
  exact ⟨l', hl, rfl, hr'⟩

theorem afterTick_dyn (k : KState) (l' : Layout) : (C07.afterTick k l').dyn = k.dyn := by
  obtain ⟨o, lp, e⟩ := C07.afterTick_eq k l'
  rw [e]

/-- **(a) the OS events of one `tick_states`, exactly**: with the other kanata-level components at
rest, a tick whose layout tick yields `l'` writes `osDiff k k.prevKeys l'.keycodes` and nothing else,
and leaves `l'.keycodes` as the OS key state. -/
theorem afterTick_out (k : KState) (l' : Layout) :
    (C07.afterTick k l').out = k.out ++ osDiff k k.prevKeys l'.keycodes ∧
    (C07.afterTick k l').prevKeys = l'.keycodes ∧ SameTables (C07.afterTick k l') k := by
  refine ⟨?_, rfl, ?_⟩
  · unfold C07.afterTick
    rw [keyDiff_eq]
    rfl
  · obtain ⟨o, lp, e⟩ := C07.afterTick_eq k l'
    rw [e]; exact ⟨rfl, rfl, rfl, rfl⟩

end KVerif.K
