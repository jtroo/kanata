/-
Lemmas for C16 about the conditional forms of templates: the pass/loop of `evaluate_conditionals`
against the one-traversal specification `condSpec`.  A successful pass is described once, as the
relation `CondPass`, a failing one as `CondFail` (`condPass_outcome`); what the pass does to the size
of a forest and to its specification is proved by induction on these relations.  The loop is
compared with the specification once (`condLoop_spec_of`), for any class of forests on which a
pass leaves the specification alone: here the forests whose specification is free of conditional
forms, in `CfgTreeCondFull.lean` those with the keywords in head position.
-/
import KVerif.Model.CfgTree
namespace KVerif.CfgTree

/-- Induction over forests: an atom in front, or a list in front (with the hypothesis for its
members as well).  `Tree.rec_1` is the recursor of `List Tree` as it occurs inside `Tree`; the
motive for a single tree is "`P` passes from `rest` to `t :: rest`". -/
theorem forest_induction {P : List Tree → Prop} (nil : P [])
    (atom : ∀ a rest, P rest → P (.atom a :: rest))
    (list : ∀ l rest, P l → P rest → P (.list l :: rest)) (ts : List Tree) : P ts :=
  Tree.rec_1 (motive_1 := fun t => ∀ rest, P rest → P (t :: rest)) (motive_2 := P)
    atom (fun l hl rest => list l rest hl) nil (fun _ rest ht => ht rest) ts

mutual
  /-- no conditional form anywhere -/
  def nfcTree : Tree → Bool
    | .atom _ => true
    | .list l => (condTest l).isNone && nfcList l
  def nfcList : List Tree → Bool
    | [] => true
    | t :: rest => nfcTree t && nfcList rest
end

theorem nfcList_append (a b : List Tree) : nfcList (a ++ b) = (nfcList a && nfcList b) := by
  induction a with
  | nil => simp [nfcList]
  | cons t rest ih => simp [nfcList, ih, Bool.and_assoc]

theorem condKind?_keywords : condKind? sIfEqual = some .eq ∧ condKind? sIfNotEqual = some .ne ∧
    condKind? sIfInList = some .inl ∧ condKind? sIfNotInList = some .nin := by
  decide +kernel

theorem condTest_cons_atom (a : Str) (r1 r2 : List Tree) :
    (condTest (.atom a :: r1)).isNone = (condTest (.atom a :: r2)).isNone := by
  simp only [condTest]
  cases condKind? a <;> rfl

theorem condTest_list_head (l0 : List Tree) (r : List Tree) : condTest (.list l0 :: r) = none := rfl

theorem condTest_nil : condTest [] = none := rfl

/-- what `condReplacement` returns, from `condTest` -/
theorem condReplacement_eq (l : List Tree) :
    condReplacement l = match condTest l with
      | none => none
      | some (.error e) => some (.error e)
      | some (.ok b) => some (.ok (if b then l.drop 3 else [])) := rfl

theorem condReplacement_none_iff (l : List Tree) : condReplacement l = none ↔ condTest l = none := by
  rw [condReplacement_eq]
  split <;> simp_all

theorem flatMapR_cons (g : Tree → Res (List Tree)) (t : Tree) (rest : List Tree) :
    flatMapR g (t :: rest) =
      match g t with
      | .error e => .error e
      | .ok r1 => match flatMapR g rest with
        | .error e => .error e
        | .ok r2 => .ok (r1 ++ r2) := rfl

theorem flatMapR_cons_ok {g : Tree → Res (List Tree)} {t : Tree} {rest r : List Tree}
    (h : flatMapR g (t :: rest) = .ok r) :
    ∃ r1 r2, g t = .ok r1 ∧ flatMapR g rest = .ok r2 ∧ r = r1 ++ r2 := by
  rw [flatMapR_cons] at h
  split at h
  · cases h
  · split at h <;> cases h
    exact ⟨_, _, ‹_›, ‹_›, rfl⟩

theorem flatMapR_append (g : Tree → Res (List Tree)) (a b : List Tree) :
    flatMapR g (a ++ b) =
      match flatMapR g a with
      | .error e => .error e
      | .ok ra => match flatMapR g b with
        | .error e => .error e
        | .ok rb => .ok (ra ++ rb) := by
  induction a with
  | nil => simp only [List.nil_append, flatMapR]; cases flatMapR g b <;> rfl
  | cons t rest ih =>
    simp only [List.cons_append, flatMapR, ih]
    cases g t with
    | error e => rfl
    | ok r1 =>
      cases flatMapR g rest with
      | error e => rfl
      | ok ra => cases flatMapR g b <;> simp

theorem condSpec_eq_flatMapR (ts : List Tree) : condSpec ts = flatMapR condSpecTree ts := by
  induction ts with
  | nil => rw [condSpec, flatMapR]
  | cons t rest ih => rw [condSpec, flatMapR_cons, ih]; rfl

theorem condSpec_append (a b : List Tree) :
    condSpec (a ++ b) =
      match condSpec a with
      | .error e => .error e
      | .ok ra => match condSpec b with
        | .error e => .error e
        | .ok rb => .ok (ra ++ rb) := by
  simp only [condSpec_eq_flatMapR]
  exact flatMapR_append condSpecTree a b

theorem condSpec_cons_ok {t : Tree} {rest r : List Tree} (h : condSpec (t :: rest) = .ok r) :
    ∃ r1 r2, condSpecTree t = .ok r1 ∧ condSpec rest = .ok r2 ∧ r = r1 ++ r2 := by
  rw [condSpec_eq_flatMapR] at h ⊢
  exact flatMapR_cons_ok h

theorem condSpec_body_drop (l : List Tree) :
    (match l with
      | _ :: _ :: _ :: body => condSpec body
      | _ => .ok []) = condSpec (l.drop 3) := by
  match l with
  | [] => rfl
  | [_] => rfl
  | [_, _] => rfl
  | _ :: _ :: _ :: body => rfl

theorem condSpecTree_unfold (l : List Tree) : condSpecTree (.list l) =
   match condTest l with
   | some (.error e) => .error e
   | some (.ok b) => if b then condSpec (l.drop 3) else .ok []
   | none => match condSpec l with
     | .error e => .error e
     | .ok l' => .ok [.list l'] := by
  rw [← condSpec_body_drop, condSpecTree.eq_def]
  rfl

theorem condSpecTree_none (l : List Tree) (h : condTest l = none) :
    condSpecTree (.list l) = match condSpec l with
      | .error e => .error e
      | .ok l' => .ok [.list l'] := by
  rw [condSpecTree_unfold, h]

theorem condSpecTree_err (l : List Tree) (e : Fail) (h : condTest l = some (.error e)) :
    condSpecTree (.list l) = .error e := by
  rw [condSpecTree_unfold, h]

theorem condSpecTree_ok (l : List Tree) (b : Bool) (h : condTest l = some (.ok b)) :
    condSpecTree (.list l) = if b then condSpec (l.drop 3) else .ok [] := by
  rw [condSpecTree_unfold, h]

/-- the specification keeps a leading atom in place -/
theorem condTest_of_spec (l' l'' : List Tree) (h : condSpec l' = .ok l'')
    (hn : condTest l'' = none) : condTest l' = none := by
  match l' with
  | [] => rfl
  | .list _ :: _ => rfl
  | .atom a :: rest =>
    obtain ⟨_, r, h1, -, rfl⟩ := condSpec_cons_ok h
    cases h1
    exact Option.isNone_iff_eq_none.mp
      ((condTest_cons_atom a rest r).trans (Option.isNone_iff_eq_none.mpr hn))

theorem condPass_nil : condPass [] = .ok ([], false) := by simp [condPass]

theorem condPass_atom (a : Str) (rest : List Tree) :
    condPass (.atom a :: rest) =
      match condPass rest with
      | .error e => .error e
      | .ok (r, c) => .ok (.atom a :: r, c) := by
  simp only [condPass, condPassTree]
  cases condPass rest with
  | error e => rfl
  | ok p => obtain ⟨r, c⟩ := p; simp

theorem condPass_list (l rest : List Tree) :
    condPass (.list l :: rest) =
      match condReplacement l with
      | some (.error e) => .error e
      | some (.ok repl) =>
        match condPass rest with
        | .error e => .error e
        | .ok (r, _) => .ok (repl ++ r, true)
      | none =>
        match condPass l with
        | .error e => .error e
        | .ok (l', c1) =>
          match condPass rest with
          | .error e => .error e
          | .ok (r, c2) => .ok (.list l' :: r, c1 || c2) := by
  simp only [condPass, condPassTree]
  cases condReplacement l with
  | some res =>
    cases res with
    | error e => rfl
    | ok repl =>
      simp only
      cases condPass rest with
      | error e => rfl
      | ok p => obtain ⟨r, c⟩ := p; simp
  | none =>
    simp only
    cases condPass l with
    | error e => rfl
    | ok pl =>
      obtain ⟨l', c1⟩ := pl
      simp only
      cases condPass rest with
      | error e => rfl
      | ok p => obtain ⟨r, c⟩ := p; simp

/-- `CondPass ts ts1 c`: one call of `evaluate_conditionals` succeeds on `ts`, leaves `ts1` and
reports `c`.  A conditional form is replaced by its unevaluated body (or by nothing), any other
list is swept inside. -/
inductive CondPass : List Tree → List Tree → Bool → Prop
  | nil : CondPass [] [] false
  | atom {a rest r c} : CondPass rest r c → CondPass (.atom a :: rest) (.atom a :: r) c
  | form {l b rest r c} : condTest l = some (.ok b) → CondPass rest r c →
      CondPass (.list l :: rest) ((if b then l.drop 3 else []) ++ r) true
  | inside {l l' c1 rest r c2} : condTest l = none → CondPass l l' c1 → CondPass rest r c2 →
      CondPass (.list l :: rest) (.list l' :: r) (c1 || c2)

theorem CondPass.eq {ts ts1 : List Tree} {c : Bool} (h : CondPass ts ts1 c) :
    condPass ts = .ok (ts1, c) := by
  induction h with
  | nil => exact condPass_nil
  | atom _ ih => rw [condPass_atom, ih]
  | form ht _ ih => rw [condPass_list, condReplacement_eq, ht, ih]
  | inside ht _ _ ih1 ih2 => rw [condPass_list, (condReplacement_none_iff _).mpr ht, ih1, ih2]

inductive CondFail : List Tree → Fail → Prop
  | test {l rest e} : condTest l = some (.error e) → CondFail (.list l :: rest) e
  | inside {l rest e} : condTest l = none → CondFail l e → CondFail (.list l :: rest) e
  | tail {t rest e} : CondFail rest e → CondFail (t :: rest) e

theorem condPass_outcome (ts : List Tree) :
    match condPass ts with
    | .ok (ts1, c) => CondPass ts ts1 c
    | .error e => CondFail ts e := by
  induction ts using forest_induction with
  | nil => rw [condPass_nil]; exact .nil
  | atom a rest ih =>
    rw [condPass_atom]
    revert ih
    cases condPass rest with
    | error e => exact .tail
    | ok p => exact .atom
  | list l rest ihl ihr =>
    rw [condPass_list, condReplacement_eq]
    revert ihl ihr
    cases ht : condTest l with
    | some res =>
      cases res with
      | error e => exact fun _ _ => .test ht
      | ok b =>
        cases condPass rest with
        | error e => exact fun _ => .tail
        | ok p => exact fun _ => .form ht
    | none =>
      cases condPass l with
      | error e => exact fun ihl _ => .inside ht ihl
      | ok pl =>
        cases condPass rest with
        | error e => exact fun _ => .tail
        | ok p => exact .inside ht

theorem CondPass.of_eq {ts ts1 : List Tree} {c : Bool} (h : condPass ts = .ok (ts1, c)) :
    CondPass ts ts1 c := by
  have := condPass_outcome ts
  rwa [h] at this

theorem CondFail.of_eq {ts : List Tree} {e : Fail} (h : condPass ts = .error e) : CondFail ts e := by
  have := condPass_outcome ts
  rwa [h] at this

theorem CondPass.of_nfc : ∀ {ts : List Tree}, nfcList ts = true → CondPass ts ts false := by
  intro ts
  induction ts using forest_induction with
  | nil => exact fun _ => .nil
  | atom a rest ih => exact fun h => .atom (ih h)
  | list l rest ihl ihr =>
    intro h
    rw [nfcList, nfcTree, Bool.and_eq_true, Bool.and_eq_true, Option.isNone_iff_eq_none] at h
    exact .inside h.1.1 (ihl h.1.2) (ihr h.2)

theorem condPass_nfc (ts : List Tree) (h : nfcList ts = true) : condPass ts = .ok (ts, false) :=
  (CondPass.of_nfc h).eq

theorem condLoop_nfc (n : Nat) (ts : List Tree) (h : nfcList ts = true) :
    condLoop (n + 1) ts = .ok ts := by
  rw [condLoop, condPass_nfc ts h]
  rfl

theorem sizeList_append (a b : List Tree) : sizeList (a ++ b) = sizeList a + sizeList b := by
  induction a with
  | nil => simp [sizeList]
  | cons t rest ih => simp [sizeList, ih, Nat.add_assoc]

theorem sizeList_drop_le (n : Nat) (l : List Tree) : sizeList (l.drop n) ≤ sizeList l := by
  induction n generalizing l with
  | zero => simp
  | succ n ih =>
    cases l with
    | nil => simp
    | cons t rest =>
      simp only [List.drop_succ_cons, sizeList]
      have := ih rest
      omega

theorem CondPass.size {ts ts1 : List Tree} {c : Bool} (h : CondPass ts ts1 c) :
    (c = false → ts1 = ts) ∧ sizeList ts1 + c.toNat ≤ sizeList ts := by
  induction h with
  | nil => exact ⟨fun _ => rfl, Nat.le_refl _⟩
  | atom _ ih =>
    have := ih.2
    simp only [sizeList]
    exact ⟨fun hc => by rw [ih.1 hc], by omega⟩
  | @form l b _ _ _ _ _ ih =>
    have : sizeList (if b then l.drop 3 else []) ≤ sizeList l := by
      cases b
      · exact Nat.zero_le _
      · exact sizeList_drop_le 3 l
    have := ih.2
    simp only [sizeList_append, sizeList, sizeTree, Bool.toNat_true]
    exact ⟨nofun, by omega⟩
  | @inside _ _ c1 _ _ c2 _ _ _ ih1 ih2 =>
    have := ih1.2
    have := ih2.2
    have : (c1 || c2).toNat ≤ c1.toNat + c2.toNat := by cases c1 <;> cases c2 <;> decide
    simp only [sizeList, sizeTree, Bool.or_eq_false_iff]
    exact ⟨fun hc => by rw [ih1.1 hc.1, ih2.1 hc.2], by omega⟩

theorem condTest_rej (l : List Tree) (e : Fail) (h : condTest l = some (.error e)) :
    ∃ w, e = .rej w := by
  unfold condTest at h
  split at h
  · split at h
    · cases h
    · simp only [Option.some.injEq] at h
      split at h
      · exact ⟨_, by simpa [rej] using h.symm⟩
      · exact ⟨_, by simpa [rej] using h.symm⟩
      · split at h <;> first | (cases h; done) | (cases h; exact ⟨_, rfl⟩)
  · cases h

theorem CondFail.rej {ts : List Tree} {e : Fail} (h : CondFail ts e) : ∃ w, e = .rej w := by
  induction h with
  | test ht => exact condTest_rej _ _ ht
  | inside _ _ ih => exact ih
  | tail _ ih => exact ih

/-- a sweep that fails found a malformed conditional form that the specification also reaches, or
the specification fails before it -/
theorem CondFail.spec {ts : List Tree} {e : Fail} (h : CondFail ts e) :
    ∃ e', condSpec ts = .error e' := by
  induction h with
  | @test l _ e ht => exact ⟨e, by rw [condSpec, condSpecTree_err l e ht]⟩
  | @inside l _ _ ht _ ih =>
    obtain ⟨e2, h2⟩ := ih
    exact ⟨e2, by rw [condSpec, condSpecTree_none l ht, h2]⟩
  | @tail t _ _ _ ih =>
    obtain ⟨e2, h2⟩ := ih
    rw [condSpec, h2]
    cases condSpecTree t with
    | error e3 => exact ⟨e3, rfl⟩
    | ok r1 => exact ⟨e2, rfl⟩

/-- a pass that reports no change ran over a forest without conditional forms: the specification
leaves such a forest as it is -/
theorem CondPass.spec_of_false {ts ts1 : List Tree} {c : Bool} (h : CondPass ts ts1 c)
    (hc : c = false) : condSpec ts = .ok ts := by
  induction h with
  | nil => rfl
  | atom _ ih => rw [condSpec, condSpecTree, ih hc]; rfl
  | form => cases hc
  | inside ht _ _ ih1 ih2 =>
    rw [Bool.or_eq_false_iff] at hc
    rw [condSpec, condSpecTree_none _ ht, ih1 hc.1, ih2 hc.2]; rfl

/-- One pass does not change what the specification computes, as long as that result is free of
conditional forms (i.e. no conditional produced the keyword of another one). -/
theorem CondPass.spec_of_nfc {ts ts1 r : List Tree} {c : Bool} (p : CondPass ts ts1 c)
    (h : condSpec ts = .ok r) (hn : nfcList r = true) : condSpec ts1 = .ok r := by
  induction p generalizing r with
  | nil => exact h
  | atom _ ih =>
    obtain ⟨_, r2, h1, h2, rfl⟩ := condSpec_cons_ok h
    cases h1
    rw [condSpec, condSpecTree, ih h2 hn]
  | @form l b _ _ _ ht _ ih =>
    obtain ⟨r1, r2, h1, h2, rfl⟩ := condSpec_cons_ok h
    rw [nfcList_append, Bool.and_eq_true] at hn
    rw [condSpecTree_ok l b ht] at h1
    rw [condSpec_append, ih h2 hn.2]
    cases b
    · cases h1; rfl
    · rw [if_pos rfl] at h1 ⊢; rw [h1]
  | @inside l l' _ _ _ _ ht _ _ ihl ihr =>
    obtain ⟨r1, r2, h1, h2, rfl⟩ := condSpec_cons_ok h
    rw [condSpecTree_none l ht] at h1
    split at h1 <;> cases h1
    rename_i l'' hl
    simp only [List.cons_append, List.nil_append, nfcList, nfcTree, Bool.and_eq_true,
      Option.isNone_iff_eq_none] at hn
    -- the member list was swept inside; its head stays what it was, so it is still no form
    have s1 := ihl hl hn.1.2
    rw [condSpec, condSpecTree_none l' (condTest_of_spec l' l'' s1 hn.1.1), s1, ihr h2 hn.2]

/-- `I`: any class of forests that a successful sweep stays inside without changing the
specification.  Each sweep that reports a change removes a node, so more iterations than the forest
has nodes never run out. -/
theorem condLoop_spec_of {I : List Tree → Prop}
    (step : ∀ {ts ts1 c}, CondPass ts ts1 c → I ts → I ts1 ∧ condSpec ts1 = condSpec ts) :
    ∀ (n : Nat) (ts : List Tree), sizeList ts < n → I ts →
      (∀ r, condLoop n ts = .ok r ↔ condSpec ts = .ok r) ∧
      (∀ e, condLoop n ts = .error e → (∃ w, e = .rej w) ∧ ∃ e', condSpec ts = .error e')
  | 0, _, h, _ => nomatch h
  | n + 1, ts, hsz, hI => by
    rw [condLoop]
    cases hp : condPass ts with
    | error e =>
      have hf := CondFail.of_eq hp
      obtain ⟨e', he'⟩ := hf.spec
      rw [he']
      exact ⟨fun _ => ⟨nofun, nofun⟩, fun _ h => by cases h; exact ⟨hf.rej, e', rfl⟩⟩
    | ok p =>
      obtain ⟨ts1, c⟩ := p
      have p := CondPass.of_eq hp
      cases c with
      | false =>
        cases p.size.1 rfl
        rw [p.spec_of_false rfl]
        exact ⟨fun _ => Iff.rfl, nofun⟩
      | true =>
        have ⟨hI1, hs⟩ := step p hI
        rw [← hs]
        exact condLoop_spec_of step n ts1 (Nat.lt_of_lt_of_le p.size.2 (Nat.le_of_lt_succ hsz)) hI1

/-- **the loop computes the specification**, within `size + 1` iterations -/
theorem condLoop_complete (n : Nat) (ts r : List Tree) (hsz : sizeList ts < n)
    (hs : condSpec ts = .ok r) (hn : nfcList r = true) : condLoop n ts = .ok r :=
  ((condLoop_spec_of (I := fun ts => condSpec ts = .ok r)
    (fun p h => have h1 := p.spec_of_nfc h hn; ⟨h1, h1.trans h.symm⟩) n ts hsz hs).1 r).mpr hs

end KVerif.CfgTree
