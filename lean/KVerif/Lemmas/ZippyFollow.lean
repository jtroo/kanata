/-
Follow-up chords: the lookups for a follow-up chord whose partial presses are in no top-level chord
(the situation `fix-class-1` repairs), the release of a chord that has follow-ups, the completing
press of a chord with empty output (whose prior output count `fix-class-7-8` repairs), and the run
"release everything, wait, press the follow-up chord" behind both follow-up theorems.
-/
import KVerif.Lemmas.ZippyRun
namespace KVerif.Zippy
open KVerif.TextBuf

/-! ### Lookups for a follow-up chord -/

/-- `K2 ↦ out2` is a follow-up chord in the map reached through the chord path `P`, stored once; no
other follow-up of `P` lies inside `K2`, and no top-level chord lies properly inside `K2`. -/
structure FollowEntry (d : Dict) (P : Path) (K2 : Key) (out2 : List ZchOut) : Prop where
  mem : (K2, out2) ∈ level d P
  ne : K2 ≠ []
  sorted : StrictSorted K2
  uniq : ∀ out', (K2, out') ∈ level d P → out' = out2
  noOther : ∀ kv ∈ level d P, isSubsetOf kv.1 K2 = true → kv.1 = K2
  noTop : ∀ kv ∈ level d [], kv.1 ≠ [] → isSubsetOf kv.1 K2 = true → kv.1 = K2

/-- `FollowEntry` from conditions that can be evaluated on a concrete dictionary. -/
theorem FollowEntry.of_level {d : Dict} {P : Path} {K2 : Key} {out2 : List ZchOut}
    (h : (K2, out2) ∈ level d P ∧ K2 ≠ [] ∧ K2.Pairwise (· < ·) ∧
      (∀ kv ∈ level d P, (kv.1 = K2 → kv.2 = out2) ∧ (isSubsetOf kv.1 K2 = true → kv.1 = K2)) ∧
      ∀ kv ∈ level d [], kv.1 ≠ [] → isSubsetOf kv.1 K2 = true → kv.1 = K2) :
    FollowEntry d P K2 out2 :=
  ⟨h.1, h.2.1, h.2.2.1, fun out' hm => (h.2.2.2.1 (K2, out') hm).1 rfl, fun kv hkv => (h.2.2.2.1 kv hkv).2,
    h.2.2.2.2⟩

theorem FollowEntry.find_full {cfg : Cfg} {P : Path} {K2 : Key} {out2 : List ZchOut}
    (h : FollowEntry cfg.dict P K2 out2) : (findChordK cfg (some P) K2).act = some (P, out2, true) := by
  unfold findChordK
  simp [lookupLevel_unique h.mem h.ne h.uniq, Found.act]

/-- A partial press of the follow-up chord is "subset" — whether or not some top-level chord contains
it (this is what `fix-class-1` establishes). -/
theorem FollowEntry.find_part {cfg : Cfg} {P : Path} {K2 : Key} {out2 : List ZchOut}
    (h : FollowEntry cfg.dict P K2 out2) (S : Key) (hS : S ≠ []) (hsub : ∀ x ∈ S, x ∈ K2) (hneq : S ≠ K2) :
    findChordK cfg (some P) S = .subset := by
  have hin : isSubsetOf S K2 = true := (isSubsetOf_iff S K2).mpr hsub
  have hl : lookupLevel cfg.dict P S = .isSubset :=
    lookupLevel_inside h.mem h.ne hsub (fun kv hkv heq => hneq (heq ▸ h.noOther kv hkv (heq ▸ hin)))
  unfold findChordK
  simp only [hl]
  cases hr : lookupLevel cfg.dict [] S with
  | hasValue a => exact absurd (h.noTop _ (lookupLevel_hasValue hr).1 hS hin) hneq
  | isSubset => rfl
  | neither => rfl

/-- The keys of the follow-up chord pressed in any order while the map of `P` is in force. -/
theorem FollowEntry.lookups {cfg : Cfg} {P : Path} {K2 : Key} {out2 : List ZchOut} {front : List Nat} {last : Nat}
    (h : FollowEntry cfg.dict P K2 out2) (hperm : (front ++ [last]).Perm K2) :
    Lookups cfg (some P) [] front last P out2 true := by
  obtain ⟨hall, hlast⟩ := perm_presses h.sorted hperm
  constructor
  · intro ks hks hpre
    obtain ⟨hsub, hneq⟩ := pressed_part (pre := []) hall hlast hpre
    obtain ⟨y, hy⟩ := List.exists_mem_of_ne_nil ks hks
    exact h.find_part _ (List.ne_nil_of_mem ((mem_chordKey ([] ++ ks) y).mpr hy)) hsub hneq
  · rw [chordKey_of_mem (l := [] ++ (front ++ [last])) h.sorted hall]; exact h.find_full

/-! ### Releasing a chord -/

/-- After an activation, while keys of the chord are still held: `d` ticks are left of the deadline
(0: none is running), `c` ticks have passed since the last key event. -/
structure Held (ph : Phase) (s0 s : Zchd) (keys : List Nat) (d c : Nat) : Prop where
  en : s.enabledState = .enabled
  chord : s.lastPress = .isChord
  prio : s.prioritized = ph.prio0
  pc : s.priorActivationOutputCount = ph.pc0
  prior : s.priorActivation = ph.prior0
  keys : s.inputKeys = keys
  flags : flagsOf s = flagsOf s0
  caps : s.capsWord = false
  tssc : s.ticksSinceStateChange = c
  tud : s.ticksUntilDisable = d

theorem Held.ticks {ph : Phase} {s0 s : Zchd} {keys : List Nat} {d c : Nat} (g : Nat)
    (h : Held ph s0 s keys d c) (hc : c + g ≤ TICKS_UNTIL_FORCE_STATE_RESET) (hd : d = 0 ∨ g < d) :
    Held ph s0 (ticksN s g) keys (d - g) (c + g) ∧
    (ticksN s g).smartSpaceState = s.smartSpaceState := by
  rw [ticks_enabled s g h.en h.caps (h.tssc ▸ hc) (h.tud ▸ hd)]
  exact ⟨⟨h.en, h.chord, h.prio, h.pc, h.prior, h.keys, h.flags, h.caps, congrArg (· + g) h.tssc,
    congrArg (· - g) h.tud⟩, rfl⟩

/-- Right after the activation the deadline has restarted. -/
theorem Forming.held {cfg : Cfg} {ph : Phase} {s0 s : Zchd} {c : Nat}
    (h : Forming cfg ph s0 s [] 0 c) (hc : s.lastPress = .isChord) :
    Held ph s0 s (chordKey ph.pre) cfg.ticksChordDeadline c :=
  ⟨h.en, hc, h.prio, h.pc, h.prior, by simpa using h.keys, by simp [flagsOf, h.lsft, h.rsft, h.altgr], h.caps,
    h.tssc, by rcases h.tud with ⟨h0, ht⟩ | ⟨_, ht⟩ <;> omega⟩

theorem releaseKey_some (s : Zchd) (k : Nat) (hc : s.lastPress = .isChord)
    (hrem : s.inputKeys.filter (fun x => x ≠ k) ≠ []) :
    s.releaseKey k = { s with inputKeys := s.inputKeys.filter (fun x => x ≠ k), ticksUntilDisable := 0 } := by
  have : (s.inputKeys.filter (fun x => x ≠ k)).isEmpty = false := List.isEmpty_eq_false_iff.mpr hrem
  simp only [Zchd.releaseKey, hc, this]

/-- The last key of a chord with follow-ups goes up: the follow-up map, the prior activation and its
output count stay. -/
theorem releaseKey_last (s : Zchd) (k : Nat) (hc : s.lastPress = .isChord)
    (hrem : s.inputKeys.filter (fun x => x ≠ k) = []) {P : Path} (hp : s.prioritized = some P) :
    s.releaseKey k = { s with inputKeys := [], charsToDelete := 0, ticksUntilDisable := 0,
                              enabledState := .enabled, sameHoldActivationCount := 0 } := by
  simp only [Zchd.releaseKey, hc, hrem, List.isEmpty_nil, hp, Option.isNone_some, Bool.false_eq_true, if_false]

/-- Releasing one of several held keys of an activated chord. -/
theorem Held.release_some {cfg : Cfg} {ph : Phase} {s0 s : Zchd} {keys : List Nat} {d c : Nat}
    (h : Held ph s0 s keys d c) (hne : ssmIsEmpty (levelSsm cfg.dict []) = false)
    (k : Nat) (hign : isZippyIgnored k = false) (hrem : keys.filter (fun x => x ≠ k) ≠ []) :
    (zchReleaseKey cfg s k).2 = [.up k] ∧
    Held ph s0 (zchReleaseKey cfg s k).1 (keys.filter (fun x => x ≠ k)) 0 0 ∧
    (zchReleaseKey cfg s k).1.smartSpaceState = s.smartSpaceState := by
  rw [release_not_ignored cfg s k hne hign,
    releaseKey_some (s.stateChange cfg) k h.chord (by rw [← h.keys] at hrem; exact hrem)]
  exact ⟨rfl, ⟨h.en, h.chord, h.prio, h.pc, h.prior, by simp [Zchd.stateChange, h.keys], h.flags, h.caps, rfl, rfl⟩,
    rfl⟩

/-- what is kept after the complete release of a chord that has follow-ups -/
structure Followed (ph : Phase) (s0 s : Zchd) (P : Path) : Prop where
  idle : Idle s
  prio : s.prioritized = some P
  pc : s.priorActivationOutputCount = ph.pc0
  prior : s.priorActivation = ph.prior0
  sh : s.sameHoldActivationCount = 0
  flags : flagsOf s = flagsOf s0

/-- Releasing the last held key of an activated chord that has follow-ups: idle again, with the
follow-up map and the prior output count kept. -/
theorem Held.release_last {cfg : Cfg} {ph : Phase} {s0 s : Zchd} {keys : List Nat} {d c : Nat}
    (h : Held ph s0 s keys d c) (hne : ssmIsEmpty (levelSsm cfg.dict []) = false)
    (k : Nat) (hign : isZippyIgnored k = false) (hrem : keys.filter (fun x => x ≠ k) = [])
    (P : Path) (hP : ph.prio0 = some P) :
    (zchReleaseKey cfg s k).2 = [.up k] ∧ Followed ph s0 (zchReleaseKey cfg s k).1 P ∧
    (zchReleaseKey cfg s k).1.smartSpaceState = s.smartSpaceState ∧
    (zchReleaseKey cfg s k).1.ticksSinceStateChange = 0 := by
  rw [release_not_ignored cfg s k hne hign,
    releaseKey_last (s.stateChange cfg) k h.chord (by rw [← h.keys] at hrem; exact hrem) (h.prio.trans hP)]
  exact ⟨rfl, ⟨⟨rfl, rfl, rfl, rfl, h.caps⟩, h.prio.trans hP, h.pc, h.prior, rfl, h.flags⟩, rfl, rfl⟩

/-- keys going up one after the other: (ticks before the release, key) -/
def relHist (rels : List (Nat × Nat)) : List ZEv :=
  rels.flatMap (fun gk => List.replicate gk.1 .tick ++ [.release gk.2])

theorem run_ups (b : Buf) (ks : List Nat) (h : ∀ k ∈ ks, CharKey k) :
    b.run (ks.map OsEv.up) = b := by
  induction ks generalizing b with
  | nil => rfl
  | cons k r ih =>
    simp only [List.map_cons, run_cons]
    rw [step_up_char b k (h k (List.mem_cons_self ..))]
    exact ih b (fun x hx => h x (List.mem_cons_of_mem _ hx))

/-- Releasing all keys of an activated chord that has follow-ups, in any order, the first release
inside the (restarted) deadline: only key-ups are written, and zippychord is idle with the follow-up
map in force. -/
theorem release_run (cfg : Cfg) (ph : Phase) (s0 : Zchd) (P : Path) (hP : ph.prio0 = some P)
    (hne : ssmIsEmpty (levelSsm cfg.dict []) = false) (rels : List (Nat × Nat)) :
    ∀ (s : Zchd) (keys : List Nat) (d c : Nat),
      rels ≠ [] → Held ph s0 s keys d c →
      (∀ x, x ∈ rels.map (·.2) ↔ x ∈ keys) → (rels.map (·.2)).Nodup →
      (∀ gk ∈ rels, isZippyIgnored gk.2 = false) →
      (∀ gk ∈ rels, gk.1 ≤ TICKS_UNTIL_FORCE_STATE_RESET) → c + (rels.headD (0, 0)).1 ≤ TICKS_UNTIL_FORCE_STATE_RESET →
      (d = 0 ∨ (rels.headD (0, 0)).1 < d) →
      (zRun cfg s (relHist rels)).2 = (rels.map (·.2)).map OsEv.up ∧
      Followed ph s0 (zRun cfg s (relHist rels)).1 P ∧
      (zRun cfg s (relHist rels)).1.smartSpaceState = s.smartSpaceState ∧
      (zRun cfg s (relHist rels)).1.ticksSinceStateChange = 0 := by
  induction rels with
  | nil => intro s keys d c h; exact absurd rfl h
  | cons gk rest ih =>
    intro s keys d c _ hh hmem hnd hign hgap hc0 hdl
    obtain ⟨g, k⟩ := gk
    obtain ⟨hh1, hs1⟩ := hh.ticks g hc0 hdl
    have hkI : isZippyIgnored k = false := hign (g, k) (List.mem_cons_self ..)
    obtain ⟨hk, hnd'⟩ : k ∉ rest.map (·.2) ∧ (rest.map (·.2)).Nodup := List.nodup_cons.mp hnd
    -- the keys still to go up are the keys still held
    have hmem' : ∀ x, x ∈ rest.map (·.2) ↔ x ∈ keys.filter (fun x => x ≠ k) := by
      intro x
      have := hmem x
      simp only [List.map_cons, List.mem_cons] at this
      simp only [List.mem_filter, decide_eq_true_eq, ← this]
      exact ⟨fun hx => ⟨Or.inr hx, fun e => hk (e ▸ hx)⟩, fun ⟨hx, hxk⟩ => hx.resolve_left hxk⟩
    have hstep : zRun cfg s (relHist ((g, k) :: rest)) =
        ((zRun cfg (zchReleaseKey cfg (ticksN s g) k).1 (relHist rest)).1,
         (zchReleaseKey cfg (ticksN s g) k).2 ++ (zRun cfg (zchReleaseKey cfg (ticksN s g) k).1 (relHist rest)).2) := by
      simp only [relHist, List.flatMap_cons]
      rw [List.append_assoc, zRun_ticks_append]
      rfl
    rw [hstep]
    cases rest with
    | nil =>
      have hrem : keys.filter (fun x => x ≠ k) = [] :=
        List.eq_nil_iff_forall_not_mem.mpr (fun x hx => by simpa using (hmem' x).mpr hx)
      obtain ⟨hev, hfol, hss, htz⟩ := hh1.release_last hne k hkI hrem P hP
      simp only [relHist, List.flatMap_nil, zRun, List.append_nil, List.map_cons, List.map_nil]
      exact ⟨hev, hfol, hss.trans hs1, htz⟩
    | cons gk2 rest2 =>
      have hrem : keys.filter (fun x => x ≠ k) ≠ [] :=
        List.ne_nil_of_mem ((hmem' gk2.2).mp (by simp))
      obtain ⟨hev, hheld, hss⟩ := hh1.release_some hne k hkI hrem
      obtain ⟨i1, i2, i3, i4⟩ := ih _ _ 0 0 (by simp) hheld hmem' hnd'
        (fun gk hgk => hign gk (List.mem_cons_of_mem _ hgk))
        (fun gk hgk => hgap gk (List.mem_cons_of_mem _ hgk))
        (by simpa using hgap gk2 (by simp)) (Or.inl rfl)
      exact ⟨by rw [hev, i1]; rfl, i2, i3.trans (hss.trans hs1), i4⟩

/-- Waiting while idle (no key held, no deadline running) keeps everything but the state-change timer. -/
theorem Followed.ticks {ph : Phase} {s0 s : Zchd} {P : Path} (h : Followed ph s0 s P) (g : Nat)
    (hg : s.ticksSinceStateChange + g ≤ TICKS_UNTIL_FORCE_STATE_RESET) :
    Followed ph s0 (ticksN s g) P ∧ (ticksN s g).smartSpaceState = s.smartSpaceState := by
  rw [idle_ticks s g h.idle.en h.idle.tud h.idle.caps hg]
  exact ⟨⟨⟨h.idle.en, h.idle.keys, h.idle.ctd, h.idle.tud, h.idle.caps⟩, h.prio, h.pc, h.prior, h.sh, h.flags⟩, rfl⟩

/-- The data a follow-up chord starts from once the chord that left `ph` has been released: nothing
held, the follow-up map of `P` in force, the prior output count less the smart space if the first key
of the follow-up chord erases it (`fire`). -/
def followPhase (ph : Phase) (P : Path) (fire : Bool) : Phase :=
  ⟨[], 0, ph.prior0, 0, some P, if fire then ph.pc0 - 1 else ph.pc0⟩

theorem Followed.phase {ph : Phase} {s0 s : Zchd} {P : Path} (h : Followed ph s0 s P) (cfg : Cfg) (k : Nat) :
    idlePhase (afterPunct cfg s k) = followPhase ph P (punctFires cfg s k) := by
  rw [(h.idle.punct cfg k).2]
  simp [idlePhase, followPhase, h.prior, h.sh, h.prio, h.pc]

/-! ### Release, pause, follow-up chord -/

/-- A chord with follow-ups has just been activated and is held; all its keys are released in any
order (the first release inside the restarted deadline), `g` ticks pass, and the keys of the follow-up
chord `K2 ↦ out2` go down in any order: the run result of the follow-up chord, in terms of what the
activation left (`ph`) and of whether the first key of `K2` erases the smart space. -/
theorem release_followup_run (cfg : Cfg) (ph : Phase) (s0 s : Zchd) (b : Buf) (P : Path) (K1 K2 : Key)
    (out2 : List ZchOut) (rels : List (Nat × Nat)) (g : Nat) (front2 : List (Nat × Nat)) (last2 : Nat)
    (hheld : Held ph s0 s K1 cfg.ticksChordDeadline 0) (hP : ph.prio0 = some P) (hmods : ModsAgree s0 b)
    (hne : ssmIsEmpty (levelSsm cfg.dict []) = false) (hent : FollowEntry cfg.dict P K2 out2)
    (hK1 : K1 ≠ []) (hnd : K1.Nodup)
    (hkeys1 : ∀ x ∈ K1, isZippyIgnored x = false) (hkeys2 : ∀ x ∈ K2, isZippyIgnored x = false)
    (hout : out2.isEmpty = false) (hko : ∀ o ∈ out2, CharKey o.osc)
    (hrel : (rels.map (·.2)).Perm K1)
    (hperm2 : (front2.map (·.1) ++ [last2]).Perm K2)
    (hgapr : ∀ gk ∈ rels, gk.1 ≤ TICKS_UNTIL_FORCE_STATE_RESET)
    (hg : g ≤ TICKS_UNTIL_FORCE_STATE_RESET)
    (hgap2 : ∀ kg ∈ front2, kg.2 ≤ TICKS_UNTIL_FORCE_STATE_RESET)
    (hdlr : cfg.ticksChordDeadline = 0 ∨ (rels.headD (0, 0)).1 < cfg.ticksChordDeadline)
    (hdl2 : cfg.ticksChordDeadline = 0 ∨ (front2.map (·.2)).sum < cfg.ticksChordDeadline) :
    let fk := (front2.map (·.1) ++ [last2]).headD 0
    let r := zRun cfg s (relHist rels ++ (List.replicate g .tick ++ (chordHist front2 ++ [.press last2])))
    RunResult cfg (followPhase ph P (punctFires cfg s fk)) s0 (bufAfterPunct cfg s fk b) front2.length
      (front2.map (·.1) ++ [last2]) out2 P true r.1 (b.run r.2) := by
  intro fk r
  have hrelne : rels ≠ [] := fun h => hK1 (by simpa [h] using hrel.symm)
  obtain ⟨hrev, hfol, hss3, htz⟩ := release_run cfg ph s0 P hP hne rels s K1 _ 0 hrelne hheld
    (fun x => hrel.mem_iff) (hrel.nodup_iff.mpr hnd)
    (fun gk hgk => hkeys1 gk.2 (hrel.mem_iff.mp (List.mem_map.mpr ⟨gk, hgk, rfl⟩))) hgapr
    (by cases rels with
      | nil => exact absurd rfl hrelne
      | cons gk _ => simpa using hgapr gk (List.mem_cons_self ..))
    hdlr
  obtain ⟨hfol4, hss4⟩ := hfol.ticks g (by rw [htz]; omega)
  simp only [r]
  rw [zRun_append, run_append, zRun_ticks_append]
  generalize zRun cfg s (relHist rels) = r3 at hrev hfol hss3 htz hfol4 hss4
  -- the releases write nothing
  have hb3 : b.run r3.2 = b := by
    rw [hrev, run_ups _ _ (fun k hk => (not_ignored_ne (hkeys1 k (hrel.mem_iff.mp hk))).2.2.2.2)]
  -- the smart-space state and the modifier flags are those of the held state
  have hfire : ∀ k, punctFires cfg (ticksN r3.1 g) k = punctFires cfg s k := by
    intro k
    have hfl := hfol4.flags.trans hheld.flags.symm
    simp only [flagsOf, Prod.mk.injEq] at hfl
    simp [punctFires, puncOf, hss4, hss3, hfl]
  have hall2 := (perm_presses hent.sorted hperm2).1
  have := idle_run_any cfg s0 (ticksN r3.1 g) b front2 last2 out2 P true hfol4.idle hfol4.flags
    (by rw [modsAgree_iff, hfol4.flags, ← modsAgree_iff]; exact hmods) hne
    (fun k hk => hkeys2 k ((hall2 k).mp hk)) (hfol4.prio ▸ hent.lookups hperm2) hout hko hgap2 hdl2
  rw [hb3]
  simpa only [hfol4.phase, bufAfterPunct, hfire] using this

/-! ### A chord with empty output (the first chord of a longer line) -/

/-- The phase data after a chord with empty output has been completed: what it typed is counted for
its follow-ups, on top of what earlier chords of the chain left only if it was itself a follow-up. -/
def emptyPhase (ph : Phase) (cfg : Cfg) (n : Nat) (keys : List Nat) (ctx : Path) (isPrio : Bool) : Phase :=
  ⟨keys, ph.ctd0 + n + 1, some [], ph.sh0 + 1,
   if hasFollowups cfg.dict (ctx ++ [chordKey keys]) then some (ctx ++ [chordKey keys]) else none,
   (if isPrio then ph.pc0 else 0) + (ph.ctd0 + n + 1)⟩

/-- The completing press of a chord with empty output: the key is typed like the others (nothing is
erased), and the chord counts as activated. -/
theorem final_press_empty {cfg : Cfg} {ph : Phase} {s0 s : Zchd} {b0 b : Buf}
    {pressed : List Nat} (hr : Ready ph s0 s pressed) (hb : BufForming b0 b pressed.length)
    (hm0 : ModsAgree s0 b0) (hne' : ssmIsEmpty (levelSsm cfg.dict []) = false) (last : Nat)
    (hign : isZippyIgnored last = false) (ctx : Path) (isPrio : Bool)
    (hfc : (findChordK cfg ph.prio0 (chordKey (ph.pre ++ (pressed ++ [last])))).act = some (ctx, [], isPrio))
    (hss : s.smartSpaceState = .inactive ∨ cfg.punctuation.contains (puncOf s last) = false) :
    BufForming b0 (b.run (zchPressKey cfg s last).2) (pressed.length + 1) ∧
    Held (emptyPhase ph cfg pressed.length (ph.pre ++ (pressed ++ [last])) ctx isPrio) s0
      (zchPressKey cfg s last).1 (chordKey (ph.pre ++ (pressed ++ [last]))) cfg.ticksChordDeadline 0 ∧
    (zchPressKey cfg s last).1.smartSpaceState = .inactive := by
  have hkey := hr.keys_insert last
  rw [press_found cfg s last [] ctx isPrio hne' hign hr.en hss (by rw [hkey, hr.prio]; exact hfc)]
  have hb' := hb.type hign
  refine ⟨?_, ?_⟩
  · rw [run_activate_nil cfg (preLookup cfg s last) last ctx isPrio b (hb'.lsft.trans (hm0.1.trans hr.lsft.symm))
      (hb'.rsft.trans (hm0.2.1.trans hr.rsft.symm))]
    exact hb'
  rw [activate_nil]
  refine ⟨⟨hr.en, rfl, ?_, ?_, rfl, hkey, ?_, hr.caps, rfl, rfl⟩, rfl⟩
  · simp only [preLookup, hkey, hr.prio]; rfl
  · simp [preLookup, hr.pc, hr.ctd, emptyPhase]
  · simp [flagsOf, preLookup, hr.lsft, hr.rsft, hr.altgr]

theorem FollowEntry.hasFollowups {d : Dict} {P : Path} {K2 : Key} {out2 : List ZchOut}
    (h : FollowEntry d P K2 out2) : hasFollowups d P = true := by
  have := h.mem
  simp only [level, List.mem_map, List.mem_filter, decide_eq_true_eq] at this
  obtain ⟨n, ⟨hn, hpar⟩, _⟩ := this
  simp only [Zippy.hasFollowups, List.any_eq_true, decide_eq_true_eq]
  exact ⟨n, hn, hpar⟩

/-- `K1` is a top-level chord with empty output (it only leads to follow-ups), stored once, with no
top-level chord properly inside it. -/
abbrev LeadEntry (d : Dict) (K1 : Key) : Prop := BasicEntry d K1 []

end KVerif.Zippy
