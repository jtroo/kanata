/-
Helper lemmas for Props/C14v2.lean: the key-output table with the chords-v2 contribution.
The walk that carries the override table is the fold of `addKcOv` over the leaves
(`addOutputsOv_eq_foldl`), as the plain walk is the fold of `addKc` (Lemmas/KeyoutBase.lean); on an
override closure one step of the former is one step of the latter (`addKcOv_withOverrides`).
-/
import KVerif.Model.KeyOutputsV2
import KVerif.Lemmas.KeyoutBase
namespace KVerif.KO2
open KVerif.L KVerif.K KVerif.KO

/-! ### `add_kc_output` with the override table = the walk without it, overrides applied afterwards -/

theorem withOverrides_eq_foldl (t : Override.Overrides) (base : List Nat) :
    withOverrides t base = base.foldl (addKcOv t) [] := rfl

/-- a key already listed is in the closure together with its override outputs, so the call changes
nothing; a new key is the next step of the fold that `withOverrides` is -/
theorem addKcOv_withOverrides (t : Override.Overrides) (outs : List Nat) (kc : Nat) :
    addKcOv t (withOverrides t outs) kc = withOverrides t (addKc outs kc) := by
  by_cases h : kc ∈ outs
  · obtain ⟨h1, h2⟩ := withOverrides_closed (t := t) h
    rw [addKc_of_mem outs kc h, addKcOv, addKc_of_mem _ _ h1, foldl_addKc_of_subset _ _ h2]
  · rw [addKc, if_neg (mt List.contains_iff_mem.mp h)]
    simp only [withOverrides_eq_foldl, List.foldl_append, List.foldl_cons, List.foldl_nil]

theorem foldl_addKcOv_withOverrides (t : Override.Overrides) (kcs : List Nat) : ∀ (outs : List Nat),
    kcs.foldl (addKcOv t) (withOverrides t outs) = withOverrides t (kcs.foldl addKc outs) := by
  induction kcs with
  | nil => intro outs; rfl
  | cons k rest ih => intro outs; rw [List.foldl_cons, addKcOv_withOverrides, ih, List.foldl_cons]

mutual
  theorem addOutputsOv_eq_foldl (t : Override.Overrides) (customs : List (List CAct)) (slot : Nat) :
      (a : Action) → (outs : List Nat) →
      addOutputsOv t customs slot a outs = (possibleOutputs customs slot a).foldl (addKcOv t) outs
    | .holdTap _ hold tap ta _ _, outs => by
      simp only [addOutputsOv, possibleOutputs, List.foldl_append, addOutputsOv_eq_foldl t customs slot tap,
        addOutputsOv_eq_foldl t customs slot hold, addOutputsOv_eq_foldl t customs slot ta]
    | .oneShot a _ _, outs => by simp only [addOutputsOv, possibleOutputs, addOutputsOv_eq_foldl t customs slot a]
    | .multipleActions acs, outs => by simp only [addOutputsOv, possibleOutputs, addOutputsOvL_eq_foldl t customs slot acs]
    | .tapDance acs _ _, outs => by simp only [addOutputsOv, possibleOutputs, addOutputsOvL_eq_foldl t customs slot acs]
    | .fork l r _, outs => by
      simp only [addOutputsOv, possibleOutputs, List.foldl_append, addOutputsOv_eq_foldl t customs slot l,
        addOutputsOv_eq_foldl t customs slot r]
    | .chords _ chs _, outs => by simp only [addOutputsOv, possibleOutputs, addOutputsOvC_eq_foldl t customs slot chs]
    | .switch cases, outs => by simp only [addOutputsOv, possibleOutputs, addOutputsOvS_eq_foldl t customs slot cases]
    | .keyCode _, _ | .multipleKeyCodes _, _ | .custom _, _ | .src, _
    | .noOp, _ | .trans, _ | .layer _, _ | .defaultLayer _, _ | .bufKeyCodes _, _
    | .sequence _, _ | .repeatableSequence _, _ | .cancelSequences, _
    | .releaseState _, _ | .oneShotIgnoreEventsTicks _, _ | .repeat, _ => rfl
  theorem addOutputsOvL_eq_foldl (t : Override.Overrides) (customs : List (List CAct)) (slot : Nat) :
      (acs : List Action) → (outs : List Nat) →
      addOutputsOvL t customs slot acs outs = (possibleOutputsL customs slot acs).foldl (addKcOv t) outs
    | [], _ => rfl
    | a :: rest, outs => by
      simp only [addOutputsOvL, possibleOutputsL, List.foldl_append, addOutputsOv_eq_foldl t customs slot a,
        addOutputsOvL_eq_foldl t customs slot rest]
  theorem addOutputsOvC_eq_foldl (t : Override.Overrides) (customs : List (List CAct)) (slot : Nat) :
      (chs : List (Nat × Action)) → (outs : List Nat) →
      addOutputsOvC t customs slot chs outs = (possibleOutputsC customs slot chs).foldl (addKcOv t) outs
    | [], _ => rfl
    | (_, a) :: rest, outs => by
      simp only [addOutputsOvC, possibleOutputsC, List.foldl_append, addOutputsOv_eq_foldl t customs slot a,
        addOutputsOvC_eq_foldl t customs slot rest]
  theorem addOutputsOvS_eq_foldl (t : Override.Overrides) (customs : List (List CAct)) (slot : Nat) :
      (cs : List (List Nat × Action × Bool)) → (outs : List Nat) →
      addOutputsOvS t customs slot cs outs = (possibleOutputsS customs slot cs).foldl (addKcOv t) outs
    | [], _ => rfl
    | (_, a, _) :: rest, outs => by
      simp only [addOutputsOvS, possibleOutputsS, List.foldl_append, addOutputsOv_eq_foldl t customs slot a,
        addOutputsOvS_eq_foldl t customs slot rest]
end

/-- **the override table can be applied after the walk** (`add_key_output_from_action_to_key_pos`
with the table passed down) -/
theorem addOutputsOv_withOverrides (t : Override.Overrides) (customs : List (List CAct)) (slot : Nat) :
      (a : Action) → (outs : List Nat) →
      addOutputsOv t customs slot a (withOverrides t outs) = withOverrides t (addOutputs customs slot a outs) := by
  intro a outs; rw [addOutputsOv_eq_foldl, foldl_addKcOv_withOverrides, addOutputs_eq_foldl]

theorem addOutputsOvL_withOverrides (t : Override.Overrides) (customs : List (List CAct)) (slot : Nat) :
      (acs : List Action) → (outs : List Nat) →
      addOutputsOvL t customs slot acs (withOverrides t outs) = withOverrides t (addOutputsL customs slot acs outs) := by
  intro acs outs; rw [addOutputsOvL_eq_foldl, foldl_addKcOv_withOverrides, addOutputsL_eq_foldl]

theorem addOutputsOvC_withOverrides (t : Override.Overrides) (customs : List (List CAct)) (slot : Nat) :
      (chs : List (Nat × Action)) → (outs : List Nat) →
      addOutputsOvC t customs slot chs (withOverrides t outs) = withOverrides t (addOutputsC customs slot chs outs) := by
  intro chs outs; rw [addOutputsOvC_eq_foldl, foldl_addKcOv_withOverrides, addOutputsC_eq_foldl]

theorem addOutputsOvS_withOverrides (t : Override.Overrides) (customs : List (List CAct)) (slot : Nat) :
      (cs : List (List Nat × Action × Bool)) → (outs : List Nat) →
      addOutputsOvS t customs slot cs (withOverrides t outs) = withOverrides t (addOutputsS customs slot cs outs) := by
  intro cs outs; rw [addOutputsOvS_eq_foldl, foldl_addKcOv_withOverrides, addOutputsS_eq_foldl]

/-! ### nothing but the leaves of the action gets into the row -/

theorem add_sound (customs : List (List CAct)) (slot : Nat) : (a : Action) → (outs : List Nat) → (x : Nat) →
      x ∈ addOutputs customs slot a outs → x ∈ outs ∨ x ∈ possibleOutputs customs slot a :=
  fun _ _ _ => mem_addOutputs.mp

theorem addL_sound (customs : List (List CAct)) (slot : Nat) : (acs : List Action) → (outs : List Nat) → (x : Nat) →
      x ∈ addOutputsL customs slot acs outs → x ∈ outs ∨ x ∈ possibleOutputsL customs slot acs := by
  intro acs outs x h; rw [addOutputsL_eq_foldl] at h; exact mem_foldl_addKc.mp h

theorem addC_sound (customs : List (List CAct)) (slot : Nat) : (chs : List (Nat × Action)) → (outs : List Nat) → (x : Nat) →
      x ∈ addOutputsC customs slot chs outs → x ∈ outs ∨ x ∈ possibleOutputsC customs slot chs := by
  intro chs outs x h; rw [addOutputsC_eq_foldl] at h; exact mem_foldl_addKc.mp h

theorem addS_sound (customs : List (List CAct)) (slot : Nat) : (cs : List (List Nat × Action × Bool)) → (outs : List Nat) → (x : Nat) →
      x ∈ addOutputsS customs slot cs outs → x ∈ outs ∨ x ∈ possibleOutputsS customs slot cs := by
  intro cs outs x h; rw [addOutputsS_eq_foldl] at h; exact mem_foldl_addKc.mp h

theorem withOverrides_sound (t : Override.Overrides) (base : List Nat) (x : Nat) (h : x ∈ withOverrides t base) :
    x ∈ base ∨ ∃ c ∈ base, x ∈ overrideOuts t c :=
  mem_withOverrides.mp h

/-! ### visiting an action whose leaves are all listed already changes nothing (why the hold-tap arm
may skip a timeout action that is the hold action) -/

theorem add_noop (customs : List (List CAct)) (slot : Nat) (a : Action) (outs : List Nat)
    (h : ∀ x ∈ possibleOutputs customs slot a, x ∈ outs) : addOutputs customs slot a outs = outs := by
  rw [addOutputs_eq_foldl]; exact foldl_addKc_of_subset _ _ h

theorem addL_noop (customs : List (List CAct)) (slot : Nat) : (acs : List Action) → (outs : List Nat) →
      (∀ x ∈ possibleOutputsL customs slot acs, x ∈ outs) → addOutputsL customs slot acs outs = outs := by
  intro acs outs h; rw [addOutputsL_eq_foldl]; exact foldl_addKc_of_subset _ _ h

theorem addC_noop (customs : List (List CAct)) (slot : Nat) : (chs : List (Nat × Action)) → (outs : List Nat) →
      (∀ x ∈ possibleOutputsC customs slot chs, x ∈ outs) → addOutputsC customs slot chs outs = outs := by
  intro chs outs h; rw [addOutputsC_eq_foldl]; exact foldl_addKc_of_subset _ _ h

theorem addS_noop (customs : List (List CAct)) (slot : Nat) : (cs : List (List Nat × Action × Bool)) → (outs : List Nat) →
      (∀ x ∈ possibleOutputsS customs slot cs, x ∈ outs) → addOutputsS customs slot cs outs = outs := by
  intro cs outs h; rw [addOutputsS_eq_foldl]; exact foldl_addKc_of_subset _ _ h

/-- after the first visit every leaf and every override output of a leaf is listed -/
theorem addOutputsOv_self (t : Override.Overrides) (customs : List (List CAct)) (slot : Nat) (a : Action) (r : List Nat) :
    addOutputsOv t customs slot a (addOutputsOv t customs slot a r) = addOutputsOv t customs slot a r := by
  have e (outs : List Nat) : addOutputsOv t customs slot a outs =
      ((possibleOutputs customs slot a).flatMap fun c => c :: overrideOuts t c).foldl addKc outs :=
    (addOutputsOv_eq_foldl t customs slot a outs).trans (foldl_overrides_eq t _ outs)
  rw [e, e]
  exact foldl_addKc_of_subset _ _ fun x hx => mem_foldl_addKc.mpr (Or.inr hx)

theorem addOutputsOv_idem (t : Override.Overrides) (customs : List (List CAct)) (slot : Nat) (a : Action) (outs : List Nat) :
    addOutputsOv t customs slot a (addOutputsOv t customs slot a (withOverrides t outs)) =
      addOutputsOv t customs slot a (withOverrides t outs) :=
  addOutputsOv_self t customs slot a _

/-! ### the walk only appends -/

theorem add_prefix (customs : List (List CAct)) (slot : Nat) (a : Action) (outs : List Nat) :
    outs <+: addOutputs customs slot a outs := by
  rw [addOutputs_eq_foldl]; exact foldl_addKc_prefix _ _

theorem addL_prefix (customs : List (List CAct)) (slot : Nat) : (acs : List Action) → (outs : List Nat) →
      outs <+: addOutputsL customs slot acs outs := by
  intro acs outs; rw [addOutputsL_eq_foldl]; exact foldl_addKc_prefix _ _

theorem addC_prefix (customs : List (List CAct)) (slot : Nat) : (chs : List (Nat × Action)) → (outs : List Nat) →
      outs <+: addOutputsC customs slot chs outs := by
  intro chs outs; rw [addOutputsC_eq_foldl]; exact foldl_addKc_prefix _ _

theorem addS_prefix (customs : List (List CAct)) (slot : Nat) : (cs : List (List Nat × Action × Bool)) → (outs : List Nat) →
      outs <+: addOutputsS customs slot cs outs := by
  intro cs outs; rw [addOutputsS_eq_foldl]; exact foldl_addKc_prefix _ _

theorem withOverrides_prefix (t : Override.Overrides) (A B : List Nat) (h : A <+: B) :
    withOverrides t A <+: withOverrides t B := by
  obtain ⟨C, rfl⟩ := h
  simp only [withOverrides_eq_foldl_addKc, List.flatMap_append, List.foldl_append]
  exact foldl_addKc_prefix _ _

/-! ### the loop over the chords of a key -/

theorem foldChords_eq_foldl (customs : List (List CAct)) (slot : Nat) (E : List ChordV2) (outs : List Nat) :
    E.foldl (fun o c => addOutputs customs slot c.action o) outs =
      (E.flatMap fun c => possibleOutputs customs slot c.action).foldl addKc outs := by
  simp only [addOutputs_eq_foldl, List.foldl_flatMap]

theorem foldChords_prefix (customs : List (List CAct)) (slot : Nat) (E : List ChordV2) (outs : List Nat) :
    outs <+: E.foldl (fun o c => addOutputs customs slot c.action o) outs := by
  rw [foldChords_eq_foldl]; exact foldl_addKc_prefix _ _

theorem mem_foldChords {customs : List (List CAct)} {slot : Nat} {E : List ChordV2} {outs : List Nat} {x : Nat} :
    x ∈ E.foldl (fun o c => addOutputs customs slot c.action o) outs ↔
      x ∈ outs ∨ ∃ C ∈ E, x ∈ possibleOutputs customs slot C.action := by
  rw [foldChords_eq_foldl, mem_foldl_addKc, List.mem_flatMap]

theorem foldChords_mono (customs : List (List CAct)) (slot : Nat) (E : List ChordV2) : ∀ (outs : List Nat) (x : Nat),
    x ∈ outs → x ∈ E.foldl (fun o c => addOutputs customs slot c.action o) outs :=
  fun _ _ h => mem_foldChords.mpr (Or.inl h)

theorem foldChords_complete (customs : List (List CAct)) (slot : Nat) (E : List ChordV2) : ∀ (outs : List Nat) (C : ChordV2) (x : Nat),
    C ∈ E → x ∈ possibleOutputs customs slot C.action → x ∈ E.foldl (fun o c => addOutputs customs slot c.action o) outs :=
  fun _ C _ hC hx => mem_foldChords.mpr (Or.inr ⟨C, hC, hx⟩)

theorem foldChords_sound (customs : List (List CAct)) (slot : Nat) (E : List ChordV2) : ∀ (outs : List Nat) (x : Nat),
    x ∈ E.foldl (fun o c => addOutputs customs slot c.action o) outs →
    x ∈ outs ∨ ∃ C ∈ E, x ∈ possibleOutputs customs slot C.action :=
  fun _ _ => mem_foldChords.mp

theorem mem_enabledChords (layerIdx : Nat) (chs : List ChordV2) (C : ChordV2) :
    C ∈ enabledChords layerIdx chs ↔ C ∈ chs ∧ layerIdx ∉ C.disabledLayers := by
  unfold enabledChords
  simp [List.mem_filter]

theorem addChordsRow_eq_foldl (t : Override.Overrides) (customs : List (List CAct)) (slot layerIdx : Nat)
    (chs : List ChordV2) (outs : List Nat) :
    addChordsRow t customs slot layerIdx chs outs =
      ((enabledChords layerIdx chs).flatMap fun c => possibleOutputs customs slot c.action).foldl (addKcOv t) outs := by
  rw [List.foldl_flatMap, enabledChords, List.foldl_filter, addChordsRow]
  congr; funext o c
  rw [addOutputsOv_eq_foldl]
  cases c.disabledLayers.contains layerIdx <;> rfl

/-- the chords-v2 loop with the override table, on an override closure, is the plain walk over the
chords NOT disabled on the layer -/
theorem addChordsRow_withOverrides (t : Override.Overrides) (customs : List (List CAct)) (slot layerIdx : Nat)
    (chs : List ChordV2) (outs : List Nat) :
    addChordsRow t customs slot layerIdx chs (withOverrides t outs) =
      withOverrides t ((enabledChords layerIdx chs).foldl (fun o c => addOutputs customs slot c.action o) outs) := by
  rw [addChordsRow_eq_foldl, foldl_addKcOv_withOverrides, foldChords_eq_foldl]

/-! ### rows -/

theorem rows_get_put (m : Rows) (k k' : Nat) (v : List Nat) :
    (Rows.put m k v).get k' = if k = k' then v else m.get k' := by
  induction m with
  | nil => cases v <;> simp [Rows.put, Rows.get]
  | cons e rest ih =>
    by_cases he : e.1 = k <;> by_cases hk : k = k' <;> simp_all [Rows.put, Rows.get]

theorem addOutputsAt_get (t : Override.Overrides) (customs : List (List CAct)) (i : Nat) (a : Action) (m : Rows) (k : Nat) :
    (addOutputsAt t customs i a m).get k = if i = k then addOutputsOv t customs i a (m.get i) else m.get k :=
  rows_get_put ..

theorem addChordsV2At_get (t : Override.Overrides) (customs : List (List CAct)) (i layerIdx : Nat)
    (chv2 : Option ChV2Cfg) (m : Rows) (hL : layerIdx ≤ LAYER_IDX_MAX) :
    ∃ m2, addChordsV2At t customs i layerIdx chv2 m = .ok m2 ∧
      ∀ k, m2.get k = if i = k then addChordsRow t customs i layerIdx (chordsFor chv2 i) (m.get i) else m.get k := by
  -- a key without registered chords keeps its map: the loop over no chords leaves the row as it is
  have same : ∀ k, m.get k = if i = k then addChordsRow t customs i layerIdx [] (m.get i) else m.get k :=
    fun k => (ite_eq_right_iff.mpr fun h => h ▸ rfl).symm
  unfold addChordsV2At
  rw [if_neg (Nat.not_lt.mpr hL)]
  cases chv2 with
  | none => exact ⟨m, rfl, same⟩
  | some c =>
    simp only [chordsFor]
    cases c.get i with
    | none => exact ⟨m, rfl, same⟩
    | some chords => exact ⟨_, rfl, fun k => rows_get_put ..⟩

/-- the row of key `k` after the loop over the positions, as a fold over the positions equal to `k` -/
def rowFold (t : Override.Overrides) (customs : List (List CAct)) (valid : Nat → Bool) (chv2 : Option ChV2Cfg)
    (layerIdx k : Nat) : List (Nat × Action) → List Nat → List Nat
  | [], r => r
  | (i, a) :: rest, r =>
    if valid i = true ∧ i = k then
      rowFold t customs valid chv2 layerIdx k rest (addChordsRow t customs k layerIdx (chordsFor chv2 k) (addOutputsOv t customs k a r))
    else rowFold t customs valid chv2 layerIdx k rest r

theorem layerOutputs_get (t : Override.Overrides) (customs : List (List CAct)) (valid : Nat → Bool)
    (chv2 : Option ChV2Cfg) (layerIdx : Nat) (hL : layerIdx ≤ LAYER_IDX_MAX) (layer : List (Nat × Action)) :
    ∀ (m : Rows), ∃ m', layerOutputs t customs valid chv2 layerIdx layer m = .ok m' ∧
      ∀ k, m'.get k = rowFold t customs valid chv2 layerIdx k layer (m.get k) := by
  induction layer with
  | nil => intro m; exact ⟨m, rfl, fun _ => rfl⟩
  | cons e rest ih =>
    intro m
    obtain ⟨i, a⟩ := e
    unfold layerOutputs
    cases hv : valid i with
    | false =>
      obtain ⟨m', h', g'⟩ := ih m
      exact ⟨m', h', fun k => by rw [g' k, rowFold, hv, if_neg (by simp)]⟩
    | true =>
      obtain ⟨m2, h2, g2⟩ := addChordsV2At_get t customs i layerIdx chv2 (addOutputsAt t customs i a m) hL
      obtain ⟨m', h', g'⟩ := ih m2
      refine ⟨m', by rw [h2]; exact h', fun k => ?_⟩
      rw [g' k, g2 k, rowFold, hv, addOutputsAt_get, if_pos rfl]
      split
      · next hk => subst hk; rw [if_pos ⟨rfl, rfl⟩]
      · next hk => rw [if_neg (hk ·.2), addOutputsAt_get, if_neg hk]

theorem rowFold_absent (t : Override.Overrides) (customs : List (List CAct)) (valid : Nat → Bool) (chv2 : Option ChV2Cfg)
    (layerIdx k : Nat) (layer : List (Nat × Action)) : ∀ (r : List Nat),
    (∀ e ∈ layer, e.1 = k → valid k = false) → rowFold t customs valid chv2 layerIdx k layer r = r := by
  induction layer with
  | nil => intro r _; rfl
  | cons e rest ih =>
    intro r h
    have : ¬ (valid e.1 = true ∧ e.1 = k) := fun ⟨hv, hk⟩ => by
      rw [hk, h e List.mem_cons_self hk] at hv; cases hv
    rw [rowFold, if_neg this]
    exact ih r fun e he => h e (List.mem_cons_of_mem _ he)

/-- with distinct positions, the row of a valid position `k` carrying action `a` is: the action's
outputs, then the chords' -/
theorem rowFold_nodup (t : Override.Overrides) (customs : List (List CAct)) (valid : Nat → Bool) (chv2 : Option ChV2Cfg)
    (layerIdx k : Nat) (a : Action) (hv : valid k = true) (layer : List (Nat × Action)) : ∀ (r : List Nat),
    (layer.map (·.1)).Nodup → (k, a) ∈ layer →
    rowFold t customs valid chv2 layerIdx k layer r =
      addChordsRow t customs k layerIdx (chordsFor chv2 k) (addOutputsOv t customs k a r) := by
  induction layer with
  | nil => intro _ _ h; cases h
  | cons e rest ih =>
    intro r hnd hmem
    rw [List.map_cons, List.nodup_cons] at hnd
    rcases List.mem_cons.mp hmem with rfl | h
    · rw [rowFold, if_pos ⟨hv, rfl⟩]
      exact rowFold_absent _ _ _ _ _ _ _ _ fun e he hek =>
        absurd (hek ▸ List.mem_map_of_mem (f := (·.1)) he) hnd.1
    · have hne : ¬ (valid e.1 = true ∧ e.1 = k) := fun ⟨_, hk⟩ =>
        hnd.1 (hk ▸ List.mem_map_of_mem (f := (·.1)) h)
      rw [rowFold, if_neg hne]
      exact ih r hnd.2 h

/-! ### layers -/

theorem createFrom_get? (t : Override.Overrides) (customs : List (List CAct)) (valid : Nat → Bool)
    (chv2 : Option ChV2Cfg) (layers : List (List (Nat × Action))) : ∀ (li : Nat) (tbl : List Rows),
    createFrom t customs valid chv2 li layers = .ok tbl →
    tbl.length = layers.length ∧
    ∀ j (hj : j < layers.length), ∃ r, tbl[j]? = some r ∧
      layerOutputs t customs valid chv2 (li + j) layers[j] [] = .ok r := by
  induction layers with
  | nil => intro li tbl h; cases h; exact ⟨rfl, fun j hj => absurd hj (Nat.not_lt_zero j)⟩
  | cons layer rest ih =>
    intro li tbl h
    simp only [createFrom] at h
    split at h
    · cases h
    · next r hr =>
      split at h
      · cases h
      · next rs hrs =>
        cases h
        obtain ⟨hlen, hget⟩ := ih (li + 1) rs hrs
        refine ⟨congrArg (· + 1) hlen, fun j hj => ?_⟩
        cases j with
        | zero => exact ⟨r, rfl, hr⟩
        | succ j =>
          obtain ⟨r', h1, h2⟩ := hget j (Nat.lt_of_succ_lt_succ hj)
          exact ⟨r', h1, by rwa [Nat.add_assoc, Nat.add_comm 1 j] at h2⟩

theorem createFrom_get (t : Override.Overrides) (customs : List (List CAct)) (valid : Nat → Bool)
    (chv2 : Option ChV2Cfg) (layers : List (List (Nat × Action))) : ∀ (li : Nat) (tbl : List Rows),
    createFrom t customs valid chv2 li layers = .ok tbl →
    tbl.length = layers.length ∧
    ∀ j (hj : j < layers.length) (hj' : j < tbl.length),
      layerOutputs t customs valid chv2 (li + j) layers[j] [] = .ok tbl[j] := by
  intro li tbl h
  obtain ⟨hlen, hget⟩ := createFrom_get? t customs valid chv2 layers li tbl h
  refine ⟨hlen, fun j hj hj' => ?_⟩
  obtain ⟨r, hr, hlay⟩ := hget j hj
  rw [List.getElem?_eq_getElem hj'] at hr
  cases hr; exact hlay

theorem createFrom_ok (t : Override.Overrides) (customs : List (List CAct)) (valid : Nat → Bool)
    (chv2 : Option ChV2Cfg) (layers : List (List (Nat × Action))) : ∀ (li : Nat),
    li + layers.length ≤ LAYER_IDX_MAX + 1 → ∃ tbl, createFrom t customs valid chv2 li layers = .ok tbl := by
  induction layers with
  | nil => intro li _; exact ⟨[], rfl⟩
  | cons layer rest ih =>
    intro li h
    rw [List.length_cons] at h
    obtain ⟨r, hr, _⟩ := layerOutputs_get t customs valid chv2 li (by omega) layer []
    obtain ⟨rs, hrs⟩ := ih (li + 1) (by omega)
    exact ⟨r :: rs, by simp only [createFrom, hr, hrs]⟩

/-- a layer index beyond `u16::MAX` with at least one key position: the assertion fails -/
theorem layerOutputs_crash (t : Override.Overrides) (customs : List (List CAct)) (valid : Nat → Bool)
    (chv2 : Option ChV2Cfg) (layerIdx : Nat) (hL : layerIdx > LAYER_IDX_MAX) (layer : List (Nat × Action)) :
    ∀ (m : Rows), (∃ e ∈ layer, valid e.1 = true) →
      layerOutputs t customs valid chv2 layerIdx layer m = .error .layerIdxAssert := by
  induction layer with
  | nil => intro _ ⟨e, he, _⟩; cases he
  | cons e rest ih =>
    intro m ⟨e', he', hv'⟩
    obtain ⟨i, a⟩ := e
    unfold layerOutputs
    cases hv : valid i with
    | true => simp only [addChordsV2At, if_pos hL, Bool.not_true, Bool.false_eq_true, if_false]
    | false =>
      rcases List.mem_cons.mp he' with rfl | h
      · rw [hv] at hv'; cases hv'
      · exact ih m ⟨e', h, hv'⟩

theorem tableRow_eq_rowFold {t : Override.Overrides} {customs : List (List CAct)} {valid : Nat → Bool}
    {chv2 : Option ChV2Cfg} {layers : List (List (Nat × Action))} {tbl : List Rows}
    (h : createKeyOutputs t customs valid chv2 layers = .ok tbl) {L : Nat} (hL : L < layers.length)
    (hidx : L ≤ LAYER_IDX_MAX) (k : Nat) :
    tableRow tbl L k = rowFold t customs valid chv2 L k layers[L] [] := by
  obtain ⟨r, hr, hlay⟩ := (createFrom_get? t customs valid chv2 layers 0 tbl h).2 L hL
  obtain ⟨m', hm', g⟩ := layerOutputs_get t customs valid chv2 L hidx layers[L] []
  rw [Nat.zero_add, hm'] at hlay
  cases hlay
  rw [tableRow, hr]
  exact g k

/-- a table was built, so no layer with a key position has an index beyond `u16::MAX` -/
theorem layerIdx_le_of_ok {t : Override.Overrides} {customs : List (List CAct)} {valid : Nat → Bool}
    {chv2 : Option ChV2Cfg} {layers : List (List (Nat × Action))} {tbl : List Rows}
    (h : createKeyOutputs t customs valid chv2 layers = .ok tbl) {L : Nat} (hL : L < layers.length)
    (hv : ∃ e ∈ layers[L], valid e.1 = true) : L ≤ LAYER_IDX_MAX := by
  obtain ⟨r, _, hlay⟩ := (createFrom_get? t customs valid chv2 layers 0 tbl h).2 L hL
  refine Nat.le_of_not_gt fun hgt => ?_
  rw [Nat.zero_add, layerOutputs_crash t customs valid chv2 L hgt layers[L] [] hv] at hlay
  cases hlay

/-! ### registration -/

/-- `mapping.get(&k)` as the list of chords (none = empty) -/
def regGet : List (Nat × List ChordV2) → Nat → List ChordV2
  | [], _ => []
  | e :: rest, k => if e.1 == k then e.2 else regGet rest k

theorem regGet_pushChord (m : List (Nat × List ChordV2)) (k k' : Nat) (ch : ChordV2) :
    regGet (pushChord m k ch) k' = if k = k' then regGet m k' ++ [ch] else regGet m k' := by
  induction m with
  | nil => by_cases hk : k = k' <;> simp [pushChord, regGet, hk]
  | cons e rest ih =>
    by_cases he : e.1 = k <;> by_cases hk : k = k' <;> simp_all [pushChord, regGet]

theorem mem_regGet_foldl_pushChord (k' : Nat) (C : ChordV2) : ∀ (ps : List (Nat × ChordV2)) (m : List (Nat × List ChordV2)),
    C ∈ regGet (ps.foldl (fun m p => pushChord m p.1 p.2) m) k' ↔ C ∈ regGet m k' ∨ (k', C) ∈ ps := by
  intro ps
  induction ps with
  | nil => intro m; simp
  | cons p rest ih =>
    intro m
    rw [List.foldl_cons, ih, regGet_pushChord]
    split
    · next hk => subst hk; simp [or_assoc, Prod.ext_iff, eq_comm]
    · next hk => simp [Prod.ext_iff, Ne.symm hk]

/-- **a chord is registered for a key exactly when the key takes part in it** -/
theorem mem_regGet_registerChords (chords : List ChordV2) (k : Nat) (C : ChordV2) :
    C ∈ regGet (registerChords chords) k ↔ C ∈ chords ∧ k ∈ C.keys := by
  -- the two registration loops are one loop over the (key, chord) pairs
  have : registerChords chords =
      (chords.flatMap fun ch => ch.keys.map fun k => (k, ch)).foldl (fun m p => pushChord m p.1 p.2) [] := by
    rw [List.foldl_flatMap]; simp only [List.foldl_map]; rfl
  simp only [this, mem_regGet_foldl_pushChord, regGet, List.not_mem_nil, false_or, List.mem_flatMap, List.mem_map,
    Prod.mk.injEq]
  exact ⟨fun ⟨_, h1, _, h2, hk, hC⟩ => hC ▸ hk ▸ ⟨h1, h2⟩, fun ⟨h1, h2⟩ => ⟨C, h1, k, h2, rfl, rfl⟩⟩

theorem chordsFor_eq_regGet (mapping : List (Nat × List ChordV2)) (minIdle k : Nat) :
    chordsFor (some { mapping, minIdle }) k = regGet mapping k := by
  simp only [chordsFor, ChV2Cfg.get]
  induction mapping with
  | nil => rfl
  | cons e rest ih =>
    simp only [List.find?_cons, regGet]
    cases h : (e.1 == k) with
    | true => simp
    | false => simpa using ih

end KVerif.KO2
