/-
C09 helper lemmas: a chord-v1 waiting state over ticks (`tick_wt`): ageing of the queue leaves the
classification of its events unchanged; the outcomes of one tick; the waiting tick and the deciding tick.
-/
import KVerif.Lemmas.ChordDecomp
namespace KVerif.C09
open KVerif.L

/-- the waiting state as `tick_wt` hands it to `handle_chord` -/
def ticked (w : Waiting) : Waiting := { w with timeout := w.timeout - 1, ticks := min (w.ticks + 1) U16_MAX }

theorem tickWt_chord (w : Waiting) (g : ChordsGroup) (hc : w.config = .chord g) (q : List Queued) (aq : ActionQueue) :
    tickWt w q aq =
      match handleChord (ticked w) g q aq with
      | (w, q, aq, some (r, a, pq)) => .ok ({ w with tap := a }, q, aq, some (r, some pq))
      | (w, q, aq, none) => .ok (w, q, aq, none) := by
  obtain ⟨c, t, d, tk, h, tp, ta, cfg, ls, pql⟩ := w
  simp only at hc
  subst hc
  rfl

/-- the queue as `tick` ages it before the waiting state looks at it -/
def ageQ (q : List Queued) : List Queued := q.map fun (x : Queued) => { x with since := min (x.since + 1) U16_MAX }

/-- ageing by one tick together with the countdown leaves the window rule unchanged while time is left -/
theorem skipped_age (w : Waiting) (x : Queued) (hd : w.delay ≤ U16_MAX) (ht : 1 ≤ w.timeout) :
    skipped (ticked w) { x with since := min (x.since + 1) U16_MAX } = skipped w x := by
  refine decide_eq_decide.mpr ?_
  show w.timeout - 1 < w.delay - min (x.since + 1) U16_MAX ↔ w.timeout < w.delay - x.since
  -- below the cap both sides lose one; at the cap `since ≥ delay`, and nothing is skipped on either side
  rcases Nat.lt_or_ge x.since U16_MAX with h | h
  · rw [Nat.min_eq_left h, Nat.sub_succ]
    exact Nat.sub_lt_sub_iff_right ht
  · rw [Nat.min_eq_right (Nat.le_succ_of_le h), Nat.sub_eq_zero_of_le hd, Nat.sub_eq_zero_of_le (Nat.le_trans hd h)]
    exact ⟨fun h => absurd h (Nat.not_lt_zero _), fun h => absurd h (Nat.not_lt_zero _)⟩

theorem stops_age (w : Waiting) (g : ChordsGroup) (x : Queued) (hd : w.delay ≤ U16_MAX) (ht : 1 ≤ w.timeout) :
    stops (ticked w) g { x with since := min (x.since + 1) U16_MAX } = stops w g x := by
  simp only [stops, skipped_age w x hd ht]

theorem chordPress_age (w : Waiting) (g : ChordsGroup) (x : Queued) (hd : w.delay ≤ U16_MAX) (ht : 1 ≤ w.timeout) :
    chordPress (ticked w) g { x with since := min (x.since + 1) U16_MAX } = chordPress w g x := by
  simp only [chordPress, skipped_age w x hd ht]

theorem maskOf_age (g : ChordsGroup) (x : Queued) :
    maskOf g { x with since := min (x.since + 1) U16_MAX } = maskOf g x := rfl

/-- a queue without stop events -/
def Benign (w : Waiting) (g : ChordsGroup) (q : List Queued) : Prop := ∀ s ∈ q, stops w g s = false

theorem benign_scan {w : Waiting} {g : ChordsGroup} {q : List Queued} (h : Benign w g q) :
    scanPre w g q = q ∧ scanRest w g q = [] := by
  unfold scanPre scanRest
  induction q with
  | nil => exact ⟨rfl, rfl⟩
  | cons x q ih =>
    have hx := h x (by simp)
    have := ih (fun s hs => h s (by simp [hs]))
    simp only [List.takeWhile_cons, List.dropWhile_cons, hx, Bool.not_false, if_true, this.1, this.2]
    trivial

theorem benign_participants {w : Waiting} {g : ChordsGroup} {q : List Queued} (h : Benign w g q) :
    participants w g q = q.filter (chordPress w g) ∧
    keptQueue w g q = q.filter (fun s => !chordPress w g s) := by
  unfold participants keptQueue
  rw [(benign_scan h).1, (benign_scan h).2, List.append_nil]
  exact ⟨rfl, rfl⟩

theorem benign_age {w : Waiting} {g : ChordsGroup} {q : List Queued} (h : Benign w g q)
    (hd : w.delay ≤ U16_MAX) (ht : 1 ≤ w.timeout) : Benign (ticked w) g (ageQ q) := by
  intro s hs
  obtain ⟨x, hx, rfl⟩ := List.mem_map.mp hs
  exact (stops_age w g x hd ht).trans (h x hx)

theorem participants_age (w : Waiting) (g : ChordsGroup) (q : List Queued) (hd : w.delay ≤ U16_MAX) (ht : 1 ≤ w.timeout) :
    participants (ticked w) g (ageQ q) = ageQ (participants w g q) := by
  induction q with
  | nil => rfl
  | cons x q ih =>
    show participants (ticked w) g (_ :: ageQ q) = _
    rw [participants_cons, participants_cons, stops_age w g x hd ht, chordPress_age w g x hd ht, ih]
    cases stops w g x
    · cases chordPress w g x <;> rfl
    · rfl

theorem chordActive_age (w : Waiting) (g : ChordsGroup) (q : List Queued) (hd : w.delay ≤ U16_MAX) (ht : 1 ≤ w.timeout) :
    chordActive (ticked w) g (ageQ q) = chordActive w g q := by
  unfold chordActive
  rw [participants_age w g q hd ht]
  exact List.foldl_map ..

/-- the five outcomes of `tick_wt` for a pending chord -/
theorem tickWt_chord_cases (w : Waiting) (g : ChordsGroup) (hc : w.config = .chord g) (q : List Queued) (aq : ActionQueue) :
    (∃ p, tickWt w q aq = .ok ({ ticked w with prevQueueLen := p }, q, aq, none)) ∨
    (∃ a, g.getChordIfUnambiguous (chordActive (ticked w) g q) = some a ∧
      tickWt w q aq = .ok ({ ticked w with prevQueueLen := q.length % 256, tap := a }, keptQueue (ticked w) g q, aq,
        some (.tap, some (pressedQueue (ticked w) g q)))) ∨
    (∃ a, g.getChord (chordActive (ticked w) g q) = some a ∧ releasedBy g (scanRest (ticked w) g q) = none ∧
      tickWt w q aq = .ok ({ ticked w with prevQueueLen := q.length % 256, tap := a }, keptQueue (ticked w) g q, aq,
        some (.tap, some (pressedQueue (ticked w) g q)))) ∨
    (∃ a c, g.getChord (chordActive (ticked w) g q) = some a ∧ releasedBy g (scanRest (ticked w) g q) = some c ∧
      tickWt w q aq = .ok ({ ticked w with prevQueueLen := q.length % 256, coord := c, tap := a }, keptQueue (ticked w) g q, aq,
        some (.tap, some (pressedQueue (ticked w) g q)))) ∨
    (g.getChord (chordActive (ticked w) g q) = none ∧
      tickWt w q aq = .ok ({ ticked w with prevQueueLen := q.length % 256, tap := .noOp }, keptQueue (ticked w) g q,
        decomposeChord { ticked w with prevQueueLen := q.length % 256 } g q aq,
        some (.noOp, some (pressedQueue (ticked w) g q)))) := by
  rw [tickWt_chord w g hc, handleChord_closed]
  by_cases hf : fastPath (ticked w) q = true
  · rw [if_pos hf]; exact Or.inl ⟨w.prevQueueLen, rfl⟩
  · rw [if_neg hf]
    by_cases hopen : ((scanRest (ticked w) g q).isEmpty && !((ticked w).timeout - (ticked w).delay == 0)) = true
    · rw [if_pos hopen]
      cases hg : g.getChordIfUnambiguous (chordActive (ticked w) g q) with
      | none => exact Or.inl ⟨_, rfl⟩
      | some a => exact Or.inr (Or.inl ⟨a, rfl, rfl⟩)
    · rw [if_neg hopen]
      cases hg : g.getChord (chordActive (ticked w) g q) with
      | none => exact Or.inr (Or.inr (Or.inr (Or.inr ⟨rfl, rfl⟩)))
      | some a =>
        cases hr : releasedBy g (scanRest (ticked w) g q) with
        | none => exact Or.inr (Or.inr (Or.inl ⟨a, rfl, rfl, rfl⟩))
        | some c => exact Or.inr (Or.inr (Or.inr (Or.inl ⟨a, c, rfl, rfl, rfl⟩)))

/-- every queued event is a participating press (the other keys of the chord, nothing else) -/
def AllPress (w : Waiting) (g : ChordsGroup) (q : List Queued) : Prop := ∀ s ∈ q, chordPress w g s = true

theorem allPress_benign {w : Waiting} {g : ChordsGroup} {q : List Queued} (h : AllPress w g q) : Benign w g q :=
  fun s hs => chordPress_not_stops (h s hs)

theorem allPress_age {w : Waiting} {g : ChordsGroup} {q : List Queued} (h : AllPress w g q)
    (hd : w.delay ≤ U16_MAX) (ht : 1 ≤ w.timeout) : AllPress (ticked w) g (ageQ q) := by
  intro s hs
  obtain ⟨x, hx, rfl⟩ := List.mem_map.mp hs
  exact (chordPress_age w g x hd ht).trans (h x hx)

theorem allPress_participants {w : Waiting} {g : ChordsGroup} {q : List Queued} (h : AllPress w g q) :
    participants w g q = q ∧ keptQueue w g q = [] := by
  have hb := benign_participants (allPress_benign h)
  rw [hb.1, hb.2]
  constructor
  · rw [List.filter_eq_self]; exact h
  · rw [List.filter_eq_nil_iff]; intro s hs; simp [h s hs]

theorem ageQ_coords (q : List Queued) : (ageQ q).map (·.ev.coord) = q.map (·.ev.coord) := by
  unfold ageQ; rw [List.map_map]; rfl

/-- one tick of a pending chord that is still ambiguous and has time left: nothing happens but the
countdown, and the new waiting state sees the aged queue as the old one saw the queue -/
theorem chord_wait_step (w : Waiting) (g : ChordsGroup) (hc : w.config = .chord g) (q : List Queued) (aq : ActionQueue)
    (hb : AllPress w g q) (hd : w.delay ≤ U16_MAX) (ht : w.timeout - 1 - w.delay > 0)
    (hs : hasSuperset g.chords (chordActive w g q)) :
    ∃ w', tickWt w (ageQ q) aq = .ok (w', ageQ q, aq, none) ∧
      w'.config = w.config ∧ w'.delay = w.delay ∧ w'.coord = w.coord ∧ w'.timeout = w.timeout - 1 ∧
      AllPress w' g (ageQ q) ∧ chordActive w' g (ageQ q) = chordActive w g q := by
  have h1 : 1 ≤ w.timeout := Nat.le_of_lt (Nat.lt_of_sub_pos (Nat.zero_lt_of_lt (Nat.lt_of_sub_pos ht)))
  have hb' := allPress_age hb hd h1
  -- whichever path is taken, only `prevQueueLen` differs from `ticked w`
  suffices h : ∃ p, tickWt w (ageQ q) aq = .ok ({ ticked w with prevQueueLen := p }, ageQ q, aq, none) from
    h.elim fun _ e => ⟨_, e, rfl, rfl, rfl, rfl, hb', chordActive_age w g q hd h1⟩
  rw [tickWt_chord w g hc, handleChord_closed]
  by_cases hf : fastPath (ticked w) (ageQ q) = true
  · rw [if_pos hf]; exact ⟨w.prevQueueLen, rfl⟩
  · have hopen : ((scanRest (ticked w) g (ageQ q)).isEmpty && !((ticked w).timeout - (ticked w).delay == 0)) = true := by
      rw [(benign_scan (allPress_benign hb')).2,
        show ((ticked w).timeout - (ticked w).delay == 0) = false from beq_false_of_ne (Nat.ne_of_gt ht)]
      rfl
    rw [if_neg hf, if_pos hopen, chordActive_age w g q hd h1, unambiguous_none_of_superset g _ hs]
    exact ⟨_, rfl⟩

/-- the tick on which the countdown reaches the first key's queueing delay: the chord is decided,
whatever is (still) ambiguous -/
theorem chord_decide_step (w : Waiting) (g : ChordsGroup) (hc : w.config = .chord g) (q : List Queued) (aq : ActionQueue)
    (hb : AllPress w g q) (hd : w.delay ≤ U16_MAX) (h1 : 1 ≤ w.timeout) (ht : w.timeout - 1 - w.delay = 0) :
    tickWt w (ageQ q) aq =
      match g.getChord (chordActive w g q) with
      | some a => .ok ({ ticked w with prevQueueLen := q.length % 256, tap := a }, [], aq,
                       some (.tap, some ((w.coord :: q.map (·.ev.coord)).take QUEUE_SIZE)))
      | none => .ok ({ ticked w with prevQueueLen := q.length % 256, tap := .noOp }, [],
                     decomposeChord { ticked w with prevQueueLen := q.length % 256 } g (ageQ q) aq,
                     some (.noOp, some ((w.coord :: q.map (·.ev.coord)).take QUEUE_SIZE))) := by
  have hf : fastPath (ticked w) (ageQ q) = false :=
    (Bool.and_eq_false_iff).mpr (Or.inr (decide_eq_false (Nat.not_lt.mpr (Nat.le_of_eq ht))))
  have hclosed : ((scanRest (ticked w) g (ageQ q)).isEmpty && !((ticked w).timeout - (ticked w).delay == 0)) = false := by
    rw [show ((ticked w).timeout - (ticked w).delay == 0) = true from beq_of_eq ht]; exact Bool.and_false _
  have hb' := allPress_age hb hd h1
  rw [tickWt_chord w g hc, handleChord_closed, hf, if_neg Bool.false_ne_true, hclosed, if_neg Bool.false_ne_true,
    chordActive_age w g q hd h1, (allPress_participants hb').2, pressedQueue, (allPress_participants hb').1, ageQ_coords,
    (benign_scan (allPress_benign hb')).2, show (ageQ q).length = q.length from List.length_map ..]
  cases g.getChord (chordActive w g q) <;> rfl

end KVerif.C09
