/-
The seven mutually recursive functions of `Layout::do_action` (Model/Layout.lean) as ONE relation.

`Runs n k r`: the call `k` (one of the seven functions with its arguments), run with fuel `n`,
returns `r`.  One constructor per branch that returns; the premises of a constructor are the guards
of the branch and the recursive calls it makes, each with fuel `n` under a conclusion with fuel
`n + 1`.  `runs_iff` says this is the model, so that
* a property of whatever the block returns (an invariant, a frame, a simulation) is an `induction`
  on `Runs` — the fuel is an index nobody looks at;
* a proof that the block returns builds a derivation, constructor by constructor, and the only
  arithmetic left is the caller's own budget.
-/
import KVerif.Model.Layout
namespace KVerif.L

/-- a call of one of the seven functions -/
inductive Call
  | doAction (s : Layout) (a : Action) (c : Coord) (d : Nat) (os : Bool) (ls : List Nat)
  | dispatch (s : Layout) (a : Action) (c : Coord) (d : Nat) (os : Bool) (ls : List Nat)
  | doActions (s : Layout) (acs : List Action) (c : Coord) (d : Nat) (os : Bool) (ls : List Nat) (cu : CustomEv)
  | waitingIntoHold (s : Layout) (idx : Option Nat)
  | flushWaitings (s : Layout) (l : List (Option Nat))
  | dequeue (s : Layout) (q : Queued)
  | event (s : Layout) (ev : Ev)

/-- `flushWaitings` and `event` return no custom event -/
def quiet (r : Except Crash Layout) : Except Crash (Layout × CustomEv) := r.map fun s => (s, .noEvent)

def Call.run (n : Nat) : Call → Except Crash (Layout × CustomEv)
  | .doAction s a c d os ls => L.doAction n s a c d os ls
  | .dispatch s a c d os ls => L.dispatch n s a c d os ls
  | .doActions s acs c d os ls cu => L.doActions n s acs c d os ls cu
  | .waitingIntoHold s idx => L.waitingIntoHold n s idx
  | .flushWaitings s l => quiet (L.flushWaitings n s l)
  | .dequeue s q => L.dequeue n s q
  | .event s ev => quiet (L.event n s ev)

/-- the arms of `dispatch` that neither recurse nor can fail -/
def plainArm (s : Layout) (c : Coord) (os : Bool) : Action → Option (Layout × CustomEv)
  | .noOp => some (armNoOp s .noOp c os, .noEvent)
  | .keyCode kc => some (armKeyCode s (.keyCode kc) kc c os, .noEvent)
  | .multipleKeyCodes kcs => some (armMultipleKeyCodes s (.multipleKeyCodes kcs) kcs c os, .noEvent)
  | .bufKeyCodes kcs => some (armBufKeyCodes s (.bufKeyCodes kcs) kcs c os, .noEvent)
  | .sequence evs => some (armSequence s (.sequence evs) evs c os false, .noEvent)
  | .repeatableSequence evs => some (armSequence s (.repeatableSequence evs) evs c os true, .noEvent)
  | .cancelSequences => some (armCancelSequences s .cancelSequences c os, .noEvent)
  | .layer v => some (armLayer s v c os, .noEvent)
  | .defaultLayer v => some (armDefaultLayer s v c os, .noEvent)
  | .custom id => some (armCustom s (.custom id) id c os)
  | .releaseState rs => some (armReleaseState s (.releaseState rs) rs c os, .noEvent)
  | .oneShotIgnoreEventsTicks t =>
    some ({ updateCoord s c with rptAction := some (.oneShotIgnoreEventsTicks t),
                                 oneshot := (updateCoord s c).oneshot.armIgnore t }, .noEvent)
  | _ => none

/-- `dequeue` of a release -/
def releaseQueued (s : Layout) (c : Coord) : Layout × CustomEv :=
  let (o, doRelease, overflow) := s.oneshot.handleRelease c
  let s := { s with oneshot := o }
  let (states, cu) := if doRelease then releaseStates true c s.states .noEvent else (s.states, .noEvent)
  let (states, cu) := match overflow with
    | some c2 => releaseStates false c2 states cu
    | none => (states, cu)
  ({ s with states := states }, cu)

/-- `event` up to the queue: a press enters the input history -/
def noteInput (s : Layout) : Ev → Layout
  | .press c => { s with histInputs := histPush s.histInputs c }
  | .release _ => s

/-- the quick-tap test of the `HoldTap` arm: a new waiting state unless the same key is pressed again
inside its tap-hold interval -/
def holdTapWaits (s : Layout) (c : Coord) (iv : Nat) : Bool :=
  iv == 0 || c != s.lptCoord || s.lptTapHoldTimeout == 0

inductive Runs : Nat → Call → Layout × CustomEv → Prop
  /- `do_action`: `Trans` is resolved down the layer stack; then the prelude and the arm -/
  | trans {n s c d os ls a ls' r} : s.resolveCoord c ls = .ok (a, ls') →
      Runs n (.dispatch (prelude s c) a c d os ls') r → Runs (n + 1) (.doAction s .trans c d os ls) r
  | act {n s a c d os ls r} : a ≠ .trans →
      Runs n (.dispatch (prelude s c) a c d os ls) r → Runs (n + 1) (.doAction s a c d os ls) r
  /- the arms -/
  | plain {n s a c d os ls r} : plainArm s c os a = some r → Runs (n + 1) (.dispatch s a c d os ls) r
  | src {n s c d os ls r} : c.2 < s.cfg.cols → Runs n (.doAction s (s.cfg.srcKey c.2) c d os []) r →
      Runs (n + 1) (.dispatch s .src c d os ls) (r.1, .noEvent)
  | repeatNone {n s c d os ls} : s.rptAction = none → Runs (n + 1) (.dispatch s .repeat c d os ls) (s, .noEvent)
  | repeatPinned {n s c d os ls ac r} : s.rptAction = some ac → s.cfg.pinnedRepeat = true →
      Runs n (.doAction s ac c d os []) r → Runs (n + 1) (.dispatch s .repeat c d os ls) (r.1, .noEvent)
  | «repeat» {n s c d os ls ac r} : s.rptAction = some ac → s.cfg.pinnedRepeat = false →
      Runs n (.doAction { s with rptAction := none } ac c d os []) r →
      Runs (n + 1) (.dispatch s .repeat c d os ls)
        (if r.1.rptAction.isNone then { r.1 with rptAction := some ac } else r.1, .noEvent)
  | holdTapWait {n s c d os ls T hold tap to cfg iv} : holdTapWaits s c iv = true →
      ls.length ≤ MAX_ACTIVE_LAYERS →
      Runs (n + 1) (.dispatch s (.holdTap T hold tap to cfg iv) c d os ls)
        (armHoldTapWait s c d T hold tap to cfg iv ls, .noEvent)
  | holdTapQuick {n s c d os ls T hold tap to cfg iv r} : holdTapWaits s c iv = false →
      Runs n (.doAction { s with lptTapHoldTimeout := 0 } tap c d os ls) r →
      Runs (n + 1) (.dispatch s (.holdTap T hold tap to cfg iv) c d os ls)
        (updateCoord r.1 c, CustomEv.noEvent.update r.2)
  | oneShot {n s c d os ls inner T ec r} :
      Runs n (.doAction (updateCoord s c) inner c d true []) r →
      (armOneShotPost r.1 (.oneShot inner T ec) c T ec).2 = none →
      Runs (n + 1) (.dispatch s (.oneShot inner T ec) c d os ls) ((armOneShotPost r.1 (.oneShot inner T ec) c T ec).1, r.2)
  /- the 17th active one-shot key pushes the oldest out, which is released through `event` -/
  | oneShotOverflow {n s c d os ls inner T ec r k r3} :
      Runs n (.doAction (updateCoord s c) inner c d true []) r →
      (armOneShotPost r.1 (.oneShot inner T ec) c T ec).2 = some k →
      Runs n (.event (armOneShotPost r.1 (.oneShot inner T ec) c T ec).1 (.release k)) r3 →
      Runs (n + 1) (.dispatch s (.oneShot inner T ec) c d os ls) (r3.1, r.2)
  | tapDanceLazy {n s c d os ls acs T} : ls.length ≤ MAX_ACTIVE_LAYERS →
      Runs (n + 1) (.dispatch s (.tapDance acs T false) c d os ls)
        (armWait s c d T (.tapDance acs T 1) ls, .noEvent)
  | tapDanceEager {n s c d os ls acs T a0 r} : acs[0]? = some a0 →
      Runs n (.doAction (armEager s c acs T) a0 c d false ls) r →
      Runs (n + 1) (.dispatch s (.tapDance acs T true) c d os ls) (r.1, .noEvent)
  | chords {n s c d os ls coords chs T} : ls.length ≤ MAX_ACTIVE_LAYERS →
      Runs (n + 1) (.dispatch s (.chords coords chs T) c d os ls)
        (armWait s c d T (.chord ⟨coords, chs, T⟩) ls, .noEvent)
  | multi {n s c d os ls acs r} : Runs n (.doActions (updateCoord s c) acs c d os ls .noEvent) r →
      Runs (n + 1) (.dispatch s (.multipleActions acs) c d os ls)
        ({ r.1 with rptAction := some (.multipleActions acs) }, r.2)
  | fork {n s c d os ls l r ks res} :
      Runs n (.doAction s (if forkHit s ks then r else l) c d false ls) res →
      Runs (n + 1) (.dispatch s (.fork l r ks) c d os ls) ({ res.1 with rptAction := some (.fork l r ks) }, res.2)
  | switch {n s c d os ls cases order acs} : s.transOrder = .ok order →
      switchActions (fun ops => Switch.evalOps ops (switchEnv s order)) cases = .ok acs →
      Runs (n + 1) (.dispatch s (.switch cases) c d os ls)
        ({ s with actionQueue :=
            acs.foldl (fun aq a => (pushBackWrap ACTION_QUEUE_LEN aq (c, 0, a)).1) s.actionQueue }, .noEvent)
  /- the loop of `MultipleActions` -/
  | nil {n s c d os ls cu} : Runs (n + 1) (.doActions s [] c d os ls cu) (s, cu)
  | cons {n s a rest c d os ls cu r1 r} : Runs n (.doAction s a c d os ls) r1 →
      Runs n (.doActions r1.1 rest c d os ls (cu.update r1.2)) r →
      Runs (n + 1) (.doActions s (a :: rest) c d os ls cu) r
  /- `waiting_into_hold` and the flush of all waiting states on queue overflow -/
  | holdNone {n s idx} : takeWaiting s idx = none → Runs (n + 1) (.waitingIntoHold s idx) (s, .noEvent)
  | hold {n s idx w s1 r} : takeWaiting s idx = some (w, s1) →
      Runs n (.doAction (holdPrep s1 w) w.hold w.coord (waitingDelay w) false w.layerStack) r →
      Runs (n + 1) (.waitingIntoHold s idx) r
  | flushNil {n s} : Runs (n + 1) (.flushWaitings s []) (s, .noEvent)
  | flushCons {n s i rest r1 r} : Runs n (.waitingIntoHold s i) r1 → Runs n (.flushWaitings r1.1 rest) r →
      Runs (n + 1) (.flushWaitings s (i :: rest)) r
  /- `dequeue` -/
  | release {n s c since} : Runs (n + 1) (.dequeue s ⟨.release c, since⟩) (releaseQueued s c)
  | press {n s c since order r} : s.transOrder = .ok order → s.tapDanceEager = none →
      Runs n (.doAction s .trans c since false order) r → Runs (n + 1) (.dequeue s ⟨.press c, since⟩) r
  | pressEagerNext {n s c since order tde a r} : s.transOrder = .ok order → s.tapDanceEager = some tde →
      (c == s.lptCoord && !tde.isExpired) = true → tde.actions[tde.numTaps]? = some a →
      Runs n (.doAction s a c since false (order.drop 1)) r →
      Runs (n + 1) (.dequeue s ⟨.press c, since⟩)
        ({ r.1 with tapDanceEager := r.1.tapDanceEager.map TDE.incrTaps }, r.2)
  | pressEagerOther {n s c since order tde r} : s.transOrder = .ok order → s.tapDanceEager = some tde →
      (c == s.lptCoord && !tde.isExpired) = false →
      Runs n (.doAction (if c.1 == 0 then { s with tapDanceEager := some tde.setExpired } else s) .trans c since
        false order) r →
      Runs (n + 1) (.dequeue s ⟨.press c, since⟩) r
  /- `event`: the event joins the queue; an event pushed out of the full queue is processed at once,
  after every waiting state has been flushed into its hold action -/
  | queued {n s ev q} : pushBackWrap QUEUE_SIZE (noteInput s ev).queue ⟨ev, 0⟩ = (q, none) →
      Runs (n + 1) (.event s ev) ({ noteInput s ev with queue := q }, .noEvent)
  | overflow {n s ev q old r1 r} : pushBackWrap QUEUE_SIZE (noteInput s ev).queue ⟨ev, 0⟩ = (q, some old) →
      Runs n (.flushWaitings { noteInput s ev with queue := q } (none :: (List.range EXTRA_WAITING_LEN).map some)) r1 →
      Runs n (.dequeue r1.1 old) r → Runs (n + 1) (.event s ev) (r.1, .noEvent)

theorem releaseQueued_eq (s : Layout) (c : Coord) :
    (releaseQueued s c).1 =
      { s with oneshot := (s.oneshot.handleRelease c).1, states := (releaseQueued s c).1.states } := rfl

theorem releaseQueued_states_sub (s : Layout) (c : Coord) : (releaseQueued s c).1.states ⊆ s.states := by
  -- a state that `release` keeps is kept as it is
  have rel : ∀ (st st' : St) (c : Coord) (cu : CustomEv), (st.release c cu).1 = some st' → st' = st := by
    intro st st' c cu
    fun_cases St.release st c cu <;> intro h <;> cases h <;> rfl
  have sub : ∀ (b : Bool) (c : Coord) (l : List St) (cu : CustomEv), (releaseStates b c l cu).1 ⊆ l := by
    intro b c l cu
    fun_induction releaseStates b c l cu with
    | case1 => exact fun _ h => h
    | case2 _ _ _ _ ih => exact List.subset_cons_of_subset _ ih
    | case3 _ _ _ _ _ _ _ e _ hr ih =>
      rw [e] at ih; rw [← rel _ _ _ _ (congrArg (·.1) hr)]; exact List.cons_subset_cons _ ih
    | case4 _ _ _ _ _ _ _ e _ ih => rw [e] at ih; exact List.subset_cons_of_subset _ ih
  unfold releaseQueued
  generalize s.oneshot.handleRelease c = p
  obtain ⟨o, dr, ov⟩ := p
  cases dr <;> cases ov
  · exact fun _ h => h
  · exact sub _ _ _ _
  · exact sub _ _ _ _
  · exact fun _ h => sub _ _ _ _ (sub _ _ _ _ h)

theorem noteInput_eq (s : Layout) (ev : Ev) : noteInput s ev = { s with histInputs := (noteInput s ev).histInputs } := by
  cases ev <;> rfl

theorem dequeue_release (n : Nat) (s : Layout) (c : Coord) (since : Nat) :
    dequeue (n + 1) s ⟨.release c, since⟩ = .ok (releaseQueued s c) := by
  simp only [dequeue]; rfl

theorem event_succ (n : Nat) (s : Layout) (ev : Ev) :
    event (n + 1) s ev =
      match pushBackWrap QUEUE_SIZE (noteInput s ev).queue ⟨ev, 0⟩ with
      | (q, none) => .ok { noteInput s ev with queue := q }
      | (q, some old) =>
        match flushWaitings n { noteInput s ev with queue := q } (none :: (List.range EXTRA_WAITING_LEN).map some) with
        | .error e => .error e
        | .ok s1 =>
          match dequeue n s1 old with
          | .error e => .error e
          | .ok r => .ok r.1 := by
  cases ev <;> simp only [event, noteInput, bind, Except.bind, pure, Except.pure] <;>
    generalize pushBackWrap QUEUE_SIZE _ _ = p <;> obtain ⟨q, ov⟩ := p <;> cases ov <;> try rfl
  all_goals
    simp only []
    cases flushWaitings n _ _ <;> simp only []
    cases dequeue n _ _ <;> rfl

theorem Runs.run {n : Nat} {k : Call} {r : Layout × CustomEv} (h : Runs n k r) : k.run n = .ok r := by
  induction h with
  | trans hr _ ih => simpa only [Call.run, doAction, hr] using ih
  | act ha _ ih => simpa only [Call.run, doAction] using ih
  | @plain _ _ a _ _ _ _ _ hp => cases a <;> cases hp <;> rfl
  | src hc _ ih => simp only [Call.run] at ih; simp only [Call.run, dispatch, if_neg (Nat.not_le.mpr hc), ih]
  | repeatNone h => simp only [Call.run, dispatch, h]
  | repeatPinned h hp _ ih => simp only [Call.run] at ih; simp only [Call.run, dispatch, h, hp, if_true, ih]
  | «repeat» h hp _ ih =>
    simp only [Call.run] at ih; simp only [Call.run, dispatch, h, hp, ih]; rfl
  | holdTapWait hw hl =>
    simp only [Call.run, dispatch]; rw [if_pos (by exact hw), if_neg (Nat.not_lt.mpr hl)]
  | holdTapQuick hw _ ih =>
    simp only [Call.run] at ih
    simp only [Call.run, dispatch]; rw [if_neg (by exact ne_true_of_eq_false hw), ih]
  | oneShot _ hp ih =>
    simp only [Call.run] at ih
    simp only [Call.run, dispatch, ih]
    generalize armOneShotPost _ _ _ _ _ = p at hp
    obtain ⟨s2, o⟩ := p
    cases hp; rfl
  | oneShotOverflow _ hp _ ih1 ih2 =>
    simp only [Call.run, quiet] at ih1 ih2
    simp only [Call.run, dispatch, ih1]
    generalize armOneShotPost _ _ _ _ _ = p at hp ih2
    obtain ⟨s2, o⟩ := p
    cases hp
    simp only []
    cases he : event _ _ _ <;> rw [he] at ih2 <;> cases ih2; rfl
  | tapDanceLazy hl => simp only [Call.run, dispatch, Bool.not_false, if_true]; rw [if_neg (Nat.not_lt.mpr hl)]
  | tapDanceEager h0 _ ih =>
    simp only [Call.run] at ih
    simp only [Call.run, dispatch, Bool.not_true, Bool.false_eq_true, if_false, h0, ih]
  | chords hl => simp only [Call.run, dispatch]; rw [if_neg (Nat.not_lt.mpr hl)]
  | multi _ ih => simp only [Call.run] at ih; simp only [Call.run, dispatch, ih]
  | fork _ ih => simp only [Call.run] at ih; simp only [Call.run, dispatch, ih]
  | switch ho ha => simp only [Call.run, dispatch, ho, ha]
  | nil => simp only [Call.run, doActions]
  | cons _ _ ih1 ih2 => simp only [Call.run] at ih1 ih2; simp only [Call.run, doActions, ih1, ih2]
  | holdNone h => simp only [Call.run, waitingIntoHold, h]
  | hold h _ ih => simp only [Call.run] at ih; simp only [Call.run, waitingIntoHold, h, ih]
  | flushNil => simp only [Call.run, quiet, flushWaitings, Except.map]
  | flushCons _ _ ih1 ih2 =>
    simp only [Call.run] at ih1 ih2
    simp only [Call.run, flushWaitings, bind, Except.bind, ih1]; exact ih2
  | release => simp only [Call.run, dequeue_release]
  | press ho ht _ ih => simp only [Call.run] at ih; simp only [Call.run, dequeue, bind, Except.bind, ho, ht, ih]
  | pressEagerNext ho ht hc ha _ ih =>
    simp only [Call.run] at ih
    simp only [Call.run, dequeue, bind, Except.bind, ho, ht, hc, if_true, ha, ih, pure, Except.pure]
  | pressEagerOther ho ht hc _ ih =>
    simp only [Call.run] at ih
    simp only [Call.run, dequeue, bind, Except.bind, ho, ht, hc, Bool.false_eq_true, if_false, ih]
  | queued hq => simp only [Call.run, quiet, event_succ, hq, Except.map]
  | overflow hq _ _ ih1 ih2 =>
    simp only [Call.run, quiet] at ih1 ih2
    simp only [Call.run, quiet, event_succ, hq]
    cases hf : flushWaitings _ _ _ <;> rw [hf] at ih1 <;> cases ih1
    simp only [ih2, Except.map]

theorem doAction_of_ne {a : Action} (h : a ≠ .trans) (n : Nat) (s : Layout) (c : Coord) (d : Nat)
    (os : Bool) (ls : List Nat) :
    doAction (n + 1) s a c d os ls = dispatch n (prelude s c) a c d os ls := by
  simp only [doAction]

theorem Runs.of_run : ∀ {n : Nat} {k : Call} {r : Layout × CustomEv}, k.run n = .ok r → Runs n k r := by
  intro n
  induction n with
  | zero => intro k r h; cases k <;> cases h
  | succ n ih =>
    intro k r h
    cases k with
    | doAction s a c d os ls =>
      by_cases ha : a = .trans
      · subst ha
        simp only [Call.run, doAction] at h
        split at h
        · cases h
        · next a' ls' hr => exact .trans hr (ih (k := .dispatch ..) h)
      · rw [Call.run, doAction_of_ne ha] at h
        exact .act ha (ih (k := .dispatch ..) h)
    | dispatch s a c d os ls =>
      cases a <;> simp only [Call.run, dispatch] at h
      case trans => cases h
      case src =>
        split at h; · cases h
        next hc =>
        split at h; · cases h
        next hr => cases h; exact .src (Nat.not_le.mp hc) (ih (k := .doAction ..) hr)
      case «repeat» =>
        split at h
        · next ac hac =>
          split at h
          · next hp =>
            split at h; · cases h
            next hr => cases h; exact .repeatPinned hac hp (ih (k := .doAction ..) hr)
          · next hp =>
            split at h; · cases h
            next hr => cases h; exact .repeat hac (Bool.eq_false_iff.mpr hp) (ih (k := .doAction ..) hr)
        · next hac => cases h; exact .repeatNone hac
      case holdTap T hold tap to cfg iv =>
        split at h
        · next hw =>
          split at h; · cases h
          next hl => cases h; exact .holdTapWait hw (Nat.not_lt.mp hl)
        · next hw =>
          split at h; · cases h
          next hr => cases h; exact .holdTapQuick (Bool.eq_false_iff.mpr hw) (ih (k := .doAction ..) hr)
      case oneShot inner T ec =>
        split at h; · cases h
        next s1 cu hr =>
        split at h
        · next s2 k hp =>
          split at h; · cases h
          next s3 he =>
          cases h
          have hk := congrArg Prod.snd hp
          have h1 := congrArg Prod.fst hp
          exact .oneShotOverflow (r := (s1, cu)) (ih (k := .doAction ..) hr) hk
            (ih (k := .event ..) (r := (s3, .noEvent)) (by simp only [Call.run, quiet, h1, he, Except.map]))
        · next s2 hp =>
          cases h
          have := Runs.oneShot (os := os) (ls := ls) (T := T) (ec := ec) (ih (k := .doAction ..) hr) (congrArg Prod.snd hp)
          rwa [show (armOneShotPost s1 (.oneShot inner T ec) c T ec).1 = s2 from congrArg Prod.fst hp] at this
      case tapDance acs T eager =>
        cases eager
        · simp only [Bool.not_false, if_true] at h
          split at h; · cases h
          next hl => cases h; exact .tapDanceLazy (Nat.not_lt.mp hl)
        · simp only [Bool.not_true, Bool.false_eq_true, if_false] at h
          split at h; · cases h
          next a0 h0 =>
          split at h; · cases h
          next hr => cases h; exact .tapDanceEager h0 (ih (k := .doAction ..) hr)
      case chords coords chs T =>
        split at h; · cases h
        next hl => cases h; exact .chords (Nat.not_lt.mp hl)
      case multipleActions acs =>
        split at h; · cases h
        next hr => cases h; exact .multi (ih (k := .doActions ..) hr)
      case fork l r' ks =>
        split at h; · cases h
        next hr => cases h; exact .fork (ih (k := .doAction ..) hr)
      case switch cases =>
        split at h; · cases h
        next order ho =>
        split at h; · cases h
        next acs ha => cases h; exact .switch ho ha
      all_goals (cases h; exact .plain rfl)
    | doActions s acs c d os ls cu =>
      cases acs with
      | nil => simp only [Call.run, doActions] at h; cases h; exact .nil
      | cons a rest =>
        simp only [Call.run, doActions] at h
        split at h; · cases h
        next hr => exact .cons (ih (k := .doAction ..) hr) (ih (k := .doActions ..) h)
    | waitingIntoHold s idx =>
      simp only [Call.run, waitingIntoHold] at h
      split at h
      · next ht => cases h; exact .holdNone ht
      · next ht => exact .hold ht (ih (k := .doAction ..) h)
    | flushWaitings s l =>
      cases l with
      | nil => simp only [Call.run, quiet, flushWaitings, Except.map] at h; cases h; exact .flushNil
      | cons i rest =>
        simp only [Call.run, flushWaitings, bind, Except.bind] at h
        split at h; · cases h
        next r1 hr => exact .flushCons (ih (k := .waitingIntoHold ..) hr) (ih (k := .flushWaitings ..) h)
    | dequeue s q =>
      obtain ⟨ev, since⟩ := q
      cases ev with
      | release c => rw [Call.run, dequeue_release] at h; cases h; exact .release
      | press c =>
        simp only [Call.run, dequeue, bind, Except.bind] at h
        split at h; · cases h
        next order ho =>
        split at h
        · next tde ht =>
          split at h
          · next hc =>
            split at h; · cases h
            next a ha =>
            split at h; · cases h
            next hr => cases h; exact .pressEagerNext ho ht hc ha (ih (k := .doAction ..) hr)
          · next hc => exact .pressEagerOther ho ht (Bool.eq_false_iff.mpr hc) (ih (k := .doAction ..) h)
        · next ht => exact .press ho ht (ih (k := .doAction ..) h)
    | event s ev =>
      simp only [Call.run, quiet, event_succ] at h
      split at h
      · next q hq => cases h; exact .queued hq
      · next q old hq =>
        split at h; · cases h
        next s1 hf =>
        split at h; · cases h
        next r2 hd =>
        cases h
        exact .overflow hq (ih (k := .flushWaitings ..) (r := (s1, .noEvent)) (by simp only [Call.run, quiet, hf, Except.map]))
          (ih (k := .dequeue ..) hd)

theorem runs_iff {n : Nat} {k : Call} {r : Layout × CustomEv} : Runs n k r ↔ k.run n = .ok r :=
  ⟨Runs.run, Runs.of_run⟩

/-! the two directions of `runs_iff` for each of the seven functions, so that no client unfolds `Call.run` -/
section
variable {n : Nat} {s s' : Layout} {a : Action} {acs : List Action} {c : Coord} {d : Nat} {os : Bool} {ls : List Nat}
  {cu : CustomEv} {idx : Option Nat} {l : List (Option Nat)} {q : Queued} {ev : Ev} {r : Layout × CustomEv}

theorem quiet_ok {x : Except Crash Layout} (h : x = .ok s') : quiet x = .ok (s', .noEvent) := by
  rw [h]; rfl

theorem of_quiet_ok {x : Except Crash Layout} (h : quiet x = .ok r) : x = .ok r.1 ∧ r.2 = .noEvent := by
  cases x <;> cases h; exact ⟨rfl, rfl⟩

theorem Runs.of_doAction (h : doAction n s a c d os ls = .ok r) : Runs n (.doAction s a c d os ls) r := .of_run h
theorem Runs.of_dispatch (h : dispatch n s a c d os ls = .ok r) : Runs n (.dispatch s a c d os ls) r := .of_run h
theorem Runs.of_doActions (h : doActions n s acs c d os ls cu = .ok r) : Runs n (.doActions s acs c d os ls cu) r :=
  .of_run h
theorem Runs.of_waitingIntoHold (h : waitingIntoHold n s idx = .ok r) : Runs n (.waitingIntoHold s idx) r := .of_run h
theorem Runs.of_flushWaitings (h : flushWaitings n s l = .ok s') : Runs n (.flushWaitings s l) (s', .noEvent) :=
  .of_run (quiet_ok h)
theorem Runs.of_dequeue (h : dequeue n s q = .ok r) : Runs n (.dequeue s q) r := .of_run h
theorem Runs.of_event (h : event n s ev = .ok s') : Runs n (.event s ev) (s', .noEvent) := .of_run (quiet_ok h)

theorem Runs.doAction_eq (h : Runs n (.doAction s a c d os ls) r) : doAction n s a c d os ls = .ok r := h.run
theorem Runs.dispatch_eq (h : Runs n (.dispatch s a c d os ls) r) : dispatch n s a c d os ls = .ok r := h.run
theorem Runs.doActions_eq (h : Runs n (.doActions s acs c d os ls cu) r) : doActions n s acs c d os ls cu = .ok r :=
  h.run
theorem Runs.waitingIntoHold_eq (h : Runs n (.waitingIntoHold s idx) r) : waitingIntoHold n s idx = .ok r := h.run
theorem Runs.flushWaitings_eq (h : Runs n (.flushWaitings s l) r) : flushWaitings n s l = .ok r.1 :=
  (of_quiet_ok h.run).1
theorem Runs.dequeue_eq (h : Runs n (.dequeue s q) r) : dequeue n s q = .ok r := h.run
theorem Runs.event_eq (h : Runs n (.event s ev) r) : event n s ev = .ok r.1 := (of_quiet_ok h.run).1

/-! inversions: what a derivation for an entry point consists of, with the fuel as `m + 1` (so that they
apply at a numeral such as `FUEL`) -/

theorem Runs.doAction_trans_inv (h : Runs n (.doAction s .trans c d os ls) r) :
    ∃ m a ls', n = m + 1 ∧ s.resolveCoord c ls = .ok (a, ls') ∧ Runs m (.dispatch (prelude s c) a c d os ls') r := by
  cases h with
  | trans hr h => exact ⟨_, _, _, rfl, hr, h⟩
  | act ha => exact absurd rfl ha

theorem Runs.doAction_inv (ha : a ≠ .trans) (h : Runs n (.doAction s a c d os ls) r) :
    ∃ m, n = m + 1 ∧ Runs m (.dispatch (prelude s c) a c d os ls) r := by
  cases h with
  | trans => exact absurd rfl ha
  | act _ h => exact ⟨_, rfl, h⟩

/-- a press taken from the queue is the action found from the top of the layer order; while an eager
tap-dance is live, its next action for the same key, and for another key the dance is over -/
theorem Runs.dequeue_press_inv {c : Coord} {since : Nat} (h : Runs n (.dequeue s ⟨.press c, since⟩) r) :
    ∃ m order, n = m + 1 ∧ s.transOrder = .ok order ∧
      match s.tapDanceEager with
      | none => Runs m (.doAction s .trans c since false order) r
      | some tde =>
        if (c == s.lptCoord && !tde.isExpired) = true then
          ∃ a r', tde.actions[tde.numTaps]? = some a ∧ Runs m (.doAction s a c since false (order.drop 1)) r' ∧
            r = ({ r'.1 with tapDanceEager := r'.1.tapDanceEager.map TDE.incrTaps }, r'.2)
        else
          Runs m (.doAction (if c.1 == 0 then { s with tapDanceEager := some tde.setExpired } else s) .trans c since
            false order) r := by
  cases h with
  | press ho ht h => exact ⟨_, _, rfl, ho, by rw [ht]; exact h⟩
  | pressEagerNext ho ht hc ha h => exact ⟨_, _, rfl, ho, by rw [ht]; simp only [hc, if_true]; exact ⟨_, _, ha, h, rfl⟩⟩
  | pressEagerOther ho ht hc h =>
    exact ⟨_, _, rfl, ho, by rw [ht]; simp only [hc, Bool.false_eq_true, if_false]; exact h⟩

/-- the usual case: no eager tap-dance is live -/
theorem Runs.dequeue_press_plain {c : Coord} {since : Nat} (ht : s.tapDanceEager = none)
    (h : Runs n (.dequeue s ⟨.press c, since⟩) r) :
    ∃ m order a ls, n = m + 2 ∧ s.transOrder = .ok order ∧ s.resolveCoord c order = .ok (a, ls) ∧
      Runs m (.dispatch (prelude s c) a c since false ls) r := by
  obtain ⟨_, order, rfl, ho, h⟩ := h.dequeue_press_inv
  rw [ht] at h
  obtain ⟨m, a, ls, rfl, hr, h⟩ := Runs.doAction_trans_inv h
  exact ⟨m, order, a, ls, rfl, ho, hr, h⟩

theorem Runs.waitingIntoHold_inv (h : Runs n (.waitingIntoHold s idx) r) :
    ∃ m, n = m + 1 ∧
      match takeWaiting s idx with
      | none => r = (s, .noEvent)
      | some (w, s1) => Runs m (.doAction (holdPrep s1 w) w.hold w.coord (waitingDelay w) false w.layerStack) r := by
  cases h with
  | holdNone ht => exact ⟨_, rfl, by rw [ht]⟩
  | hold ht h => exact ⟨_, rfl, by rw [ht]; exact h⟩

/-- `event`: the event joins the queue; the one it pushes out of a full queue is processed at once, after
the waiting states have been flushed -/
theorem Runs.event_inv (h : Runs n (.event s ev) r) :
    ∃ m, n = m + 1 ∧
      match pushBackWrap QUEUE_SIZE (noteInput s ev).queue ⟨ev, 0⟩ with
      | (q, none) => r = ({ noteInput s ev with queue := q }, .noEvent)
      | (q, some old) =>
        ∃ r1 r2, Runs m (.flushWaitings { noteInput s ev with queue := q }
            (none :: (List.range EXTRA_WAITING_LEN).map some)) r1 ∧
          Runs m (.dequeue r1.1 old) r2 ∧ r = (r2.1, .noEvent) := by
  cases h with
  | queued hq => exact ⟨_, rfl, by rw [hq]⟩
  | overflow hq h1 h2 => exact ⟨_, rfl, by rw [hq]; exact ⟨_, _, h1, h2, rfl⟩⟩
end

end KVerif.L
