/-
C07 helper lemmas, bisimulation (layout level): the ages of the key / input history
(`ticks_since_occurrence`) are the only thing a silent tick of a quiet layout changes, and on the
layered fragment nothing ever reads them.

`core l` is `l` with every history age set to 0; `AgeEq l l'` ("equal except history ages") is
`core l = core l'`.  Every function of the layout that does not tick is *equivariant*
(`f (core s) = core (f s)`), `tickPre` is equivariant up to `core`.
-/
import KVerif.Lemmas.BlockReach
namespace KVerif.C07
open KVerif.L KVerif.K

/-- forget the ages of a history -/
def zeroAges {α} (h : List (α × Nat)) : List (α × Nat) := h.map fun e => (e.1, 0)

/-- the layout with every history age forgotten -/
def core (l : Layout) : Layout :=
  { l with histKeys := zeroAges l.histKeys, histInputs := zeroAges l.histInputs }

/-- equal except for the ages of the key / input history -/
def AgeEq (l l' : Layout) : Prop := core l = core l'

theorem zeroAges_idem {α} (h : List (α × Nat)) : zeroAges (zeroAges h) = zeroAges h := by
  simp [zeroAges, List.map_map, Function.comp_def]

theorem zeroAges_histPush {α} (h : List (α × Nat)) (x : α) :
    zeroAges (histPush h x) = histPush (zeroAges h) x := by
  simp [zeroAges, histPush, pushFrontWrap, List.map_take]

theorem zeroAges_histTick {α} (h : List (α × Nat)) : zeroAges (histTick h) = zeroAges h := by
  simp [zeroAges, histTick, List.map_map, Function.comp_def]

theorem core_idem (l : Layout) : core (core l) = core l := by
  simp [core, zeroAges_idem]

theorem AgeEq.refl (l : Layout) : AgeEq l l := rfl
theorem AgeEq.symm {a b : Layout} (h : AgeEq a b) : AgeEq b a := Eq.symm h
theorem AgeEq.trans {a b c : Layout} (h1 : AgeEq a b) (h2 : AgeEq b c) : AgeEq a c := Eq.trans h1 h2
theorem ageEq_core (l : Layout) : AgeEq l (core l) := (core_idem l).symm

/-- outcome of a layout function, ages forgotten -/
def coreR (r : Except L.Crash (Layout × CustomEv)) : Except L.Crash (Layout × CustomEv) :=
  match r with
  | .ok (s, cu) => .ok (core s, cu)
  | .error c => .error c

def coreL (r : Except L.Crash Layout) : Except L.Crash Layout :=
  match r with
  | .ok s => .ok (core s)
  | .error c => .error c

/-! ### what `AgeEq` keeps -/

/-- whatever does not look at the history ages takes the same value on both layouts -/
theorem AgeEq.congr {α} {a b : Layout} (h : AgeEq a b) (f : Layout → α) (hf : ∀ l, f (core l) = f l) :
    f a = f b := by
  rw [← hf a, ← hf b, show core a = core b from h]

theorem zeroAges_names {α} (h : List (α × Nat)) : (zeroAges h).map (·.1) = h.map (·.1) := by
  simp only [zeroAges, List.map_map, Function.comp_def]

theorem AgeEq.states {a b : Layout} (h : AgeEq a b) : a.states = b.states :=
  h.congr Layout.states fun _ => rfl
theorem AgeEq.queue {a b : Layout} (h : AgeEq a b) : a.queue = b.queue :=
  h.congr Layout.queue fun _ => rfl
theorem AgeEq.cfg {a b : Layout} (h : AgeEq a b) : a.cfg = b.cfg :=
  h.congr Layout.cfg fun _ => rfl
theorem AgeEq.waiting {a b : Layout} (h : AgeEq a b) : a.waiting = b.waiting :=
  h.congr Layout.waiting fun _ => rfl
theorem AgeEq.extraWaiting {a b : Layout} (h : AgeEq a b) : a.extraWaiting = b.extraWaiting :=
  h.congr Layout.extraWaiting fun _ => rfl
theorem AgeEq.tapDanceEager {a b : Layout} (h : AgeEq a b) : a.tapDanceEager = b.tapDanceEager :=
  h.congr Layout.tapDanceEager fun _ => rfl
theorem AgeEq.actionQueue {a b : Layout} (h : AgeEq a b) : a.actionQueue = b.actionQueue :=
  h.congr Layout.actionQueue fun _ => rfl
theorem AgeEq.activeSequences {a b : Layout} (h : AgeEq a b) : a.activeSequences = b.activeSequences :=
  h.congr Layout.activeSequences fun _ => rfl
theorem AgeEq.oneshot {a b : Layout} (h : AgeEq a b) : a.oneshot = b.oneshot :=
  h.congr Layout.oneshot fun _ => rfl
theorem AgeEq.defaultLayer {a b : Layout} (h : AgeEq a b) : a.defaultLayer = b.defaultLayer :=
  h.congr Layout.defaultLayer fun _ => rfl
theorem AgeEq.lpt {a b : Layout} (h : AgeEq a b) : a.lptTapHoldTimeout = b.lptTapHoldTimeout :=
  h.congr Layout.lptTapHoldTimeout fun _ => rfl
theorem AgeEq.transV2 {a b : Layout} (h : AgeEq a b) : a.transV2 = b.transV2 :=
  h.congr Layout.transV2 fun _ => rfl
theorem AgeEq.dfl {a b : Layout} (h : AgeEq a b) : a.delegateToFirstLayer = b.delegateToFirstLayer :=
  h.congr Layout.delegateToFirstLayer fun _ => rfl
theorem AgeEq.histKeyNames {a b : Layout} (h : AgeEq a b) :
    a.histKeys.map (·.1) = b.histKeys.map (·.1) :=
  h.congr (fun l => l.histKeys.map (·.1)) fun l => zeroAges_names l.histKeys
theorem AgeEq.histInputNames {a b : Layout} (h : AgeEq a b) :
    a.histInputs.map (·.1) = b.histInputs.map (·.1) :=
  h.congr (fun l => l.histInputs.map (·.1)) fun l => zeroAges_names l.histInputs

theorem AgeEq.keycodes {a b : Layout} (h : AgeEq a b) : a.keycodes = b.keycodes :=
  h.congr Layout.keycodes fun _ => rfl

theorem AgeEq.transOrder {a b : Layout} (h : AgeEq a b) : a.transOrder = b.transOrder :=
  h.congr Layout.transOrder fun _ => rfl

theorem inert_core {s : Layout} (h : C04.Inert s) : C04.Inert (core s) :=
  h.of_eq rfl rfl rfl rfl rfl rfl rfl

theorem inert_ageEq {a b : Layout} (h : AgeEq a b) (hi : C04.Inert a) : C04.Inert b :=
  hi.of_eq h.waiting.symm h.extraWaiting.symm h.tapDanceEager.symm h.actionQueue.symm
    h.activeSequences.symm h.oneshot.symm h.states.symm

/-! ### equivariance of the non-recursive pieces of `do_action` -/

theorem resolveCoord_core (s : Layout) (c : Coord) : ∀ ls, (core s).resolveCoord c ls = s.resolveCoord c ls := by
  intro ls
  induction ls with
  | nil => rfl
  | cons l rest ih =>
    simp only [Layout.resolveCoord]
    rw [ih]
    rfl

theorem prelude_core (s : Layout) (c : Coord) : prelude (core s) c = core (prelude s c) := by
  unfold prelude core
  simp only []
  split <;> rfl

theorem updateCoord_core (s : Layout) (c : Coord) : updateCoord (core s) c = core (updateCoord s c) := by
  unfold updateCoord core
  split <;> rfl

theorem oshOther_core (s : Layout) (b : Bool) (c : Coord) :
    oshOther (core s) b c = (core (oshOther s b c).1, (oshOther s b c).2) := by
  unfold oshOther Layout.oshPress
  split <;> rfl

theorem pushState_core (s : Layout) (st : St) : (core s).pushState st = core (s.pushState st) := rfl

theorem armNoOp_core (s : Layout) (a : Action) (c : Coord) (o : Bool) :
    armNoOp (core s) a c o = core (armNoOp s a c o) := by
  unfold armNoOp Layout.oshPress
  simp only []
  split <;> rfl

theorem histKeysPush_core (s : Layout) (kc : KeyCode) :
    ({ core s with histKeys := histPush (core s).histKeys kc } : Layout)
      = core { s with histKeys := histPush s.histKeys kc } := by
  simp only [core, zeroAges_histPush]

theorem armKeyCode_core (s : Layout) (a : Action) (kc : KeyCode) (c : Coord) (o : Bool) :
    armKeyCode (core s) a kc c o = core (armKeyCode s a kc c o) := by
  unfold armKeyCode
  simp only [updateCoord_core, histKeysPush_core, pushState_core, oshOther_core]
  generalize oshOther _ o c = r
  obtain ⟨s1, oc⟩ := r
  cases oc.isEmpty <;> rfl

theorem pushKeyCodes_core (kcs : List KeyCode) (c : Coord) (f : Nat) : ∀ (s : Layout),
    pushKeyCodes (core s) kcs c f = core (pushKeyCodes s kcs c f) := by
  induction kcs with
  | nil => intro s; rfl
  | cons kc rest ih =>
    intro s
    simp only [pushKeyCodes, List.foldl_cons] at ih ⊢
    rw [histKeysPush_core, pushState_core, ih]

theorem armMultipleKeyCodes_core (s : Layout) (a : Action) (kcs : List KeyCode) (c : Coord) (o : Bool) :
    armMultipleKeyCodes (core s) a kcs c o = core (armMultipleKeyCodes s a kcs c o) := by
  unfold armMultipleKeyCodes
  simp only [updateCoord_core, pushKeyCodes_core, oshOther_core]
  generalize oshOther _ o c = r
  obtain ⟨s1, oc⟩ := r
  cases oc.isEmpty <;> rfl

theorem armLayer_core (s : Layout) (v : Nat) (c : Coord) (o : Bool) :
    armLayer (core s) v c o = core (armLayer s v c o) := by
  unfold armLayer
  simp only [updateCoord_core, pushState_core, oshOther_core]

theorem armDefaultLayer_core (s : Layout) (v : Nat) (c : Coord) (o : Bool) :
    armDefaultLayer (core s) v c o = core (armDefaultLayer s v c o) := by
  unfold armDefaultLayer
  simp only [updateCoord_core]
  have : ∀ t : Layout, (if v < (core t).cfg.layers.length then { core t with defaultLayer := v } else core t)
      = core (if v < t.cfg.layers.length then { t with defaultLayer := v } else t) := by
    intro t
    by_cases hv : v < t.cfg.layers.length
    · rw [if_pos hv, if_pos (show v < (core t).cfg.layers.length from hv)]; rfl
    · rw [if_neg hv, if_neg (show ¬ v < (core t).cfg.layers.length from hv)]
  rw [this, oshOther_core]

theorem armReleaseState_core (s : Layout) (a : Action) (rs : RelState) (c : Coord) (o : Bool) :
    armReleaseState (core s) a rs c o = core (armReleaseState s a rs c o) := by
  unfold armReleaseState
  have : ({ core s with states := (core s).states.filter (fun st => st.releaseState rs) } : Layout)
      = core { s with states := s.states.filter (fun st => st.releaseState rs) } := rfl
  simp only [this, oshOther_core]
  rfl

/-! ### `do_action` on the layered fragment never reads a history age -/

/-- the `Trans` resolution at the top of `do_action` -/
def resolveFirst (s : Layout) (a : Action) (c : Coord) (ls : List Nat) : Except L.Crash (Action × List Nat) :=
  match a with
  | .trans => s.resolveCoord c ls
  | a => .ok (a, ls)

theorem doAction_succ (fuel : Nat) (s : Layout) (a : Action) (c : Coord) (d : Nat) (o : Bool) (ls : List Nat) :
    doAction (fuel + 1) s a c d o ls =
      match resolveFirst s a c ls with
      | .error e => .error e
      | .ok (a, ls) => dispatch fuel (prelude s c) a c d o ls := by
  cases a <;> rfl

theorem resolveFirst_core (s : Layout) (a : Action) (c : Coord) (ls : List Nat) :
    resolveFirst (core s) a c ls = resolveFirst s a c ls := by
  cases a <;> simp only [resolveFirst, resolveCoord_core]

theorem resolveFirst_frag {s : Layout} {a a' : Action} {c : Coord} {ls ls' : List Nat}
    (hc : C04.CfgFrag s.cfg) (hf : C04.Frag a) (h : resolveFirst s a c ls = .ok (a', ls')) : C04.Frag a' := by
  cases a
  case trans => exact (C04.resolve_lookup s c hc ls a' ls' h).2
  all_goals (cases h; exact hf)

theorem coreR_map_fst (r : Except L.Crash (Layout × CustomEv)) :
    (match coreR r with
      | .error c => Except.error c
      | .ok r => Except.ok (r.1, CustomEv.noEvent)) =
    coreR (match r with
      | .error c => Except.error c
      | .ok r => Except.ok (r.1, CustomEv.noEvent)) := by
  cases r with
  | error c => rfl
  | ok r => rfl

theorem equiv_all : ∀ fuel : Nat,
    (∀ s a coord delay ls, C04.CfgFrag s.cfg → C04.Inert s → C04.Frag a →
      doAction fuel (core s) a coord delay false ls = coreR (doAction fuel s a coord delay false ls)) ∧
    (∀ s a coord delay ls, C04.CfgFrag s.cfg → C04.Inert s → C04.Frag a →
      dispatch fuel (core s) a coord delay false ls = coreR (dispatch fuel s a coord delay false ls)) ∧
    (∀ s acs coord delay ls, C04.CfgFrag s.cfg → C04.Inert s → C04.FragL acs →
      doActions fuel (core s) acs coord delay false ls .noEvent
        = coreR (doActions fuel s acs coord delay false ls .noEvent)) := by
  intro fuel
  induction fuel with
  | zero =>
    refine ⟨?_, ?_, ?_⟩ <;> intros <;> simp only [doAction, dispatch, doActions] <;> rfl
  | succ fuel ih =>
    obtain ⟨ih1, ih2, ih3⟩ := ih
    refine ⟨?_, ?_, ?_⟩
    · intro s a coord delay ls hc hi hf
      rw [doAction_succ, doAction_succ, resolveFirst_core]
      cases hm : resolveFirst s a coord ls with
      | error e => rfl
      | ok r =>
        obtain ⟨a', ls'⟩ := r
        simp only []
        rw [prelude_core]
        exact ih2 (prelude s coord) a' coord delay ls' ((C04.prelude_same s coord).cfg ▸ hc)
          (C04.prelude_inert coord hi) (resolveFirst_frag hc hf hm)
    · intro s a coord delay ls hc hi hf
      cases a <;> simp only [C04.Frag] at hf <;> simp only [dispatch]
      case noOp => rw [armNoOp_core]; rfl
      case trans => rfl
      case keyCode kc => rw [armKeyCode_core]; rfl
      case multipleKeyCodes kcs => rw [armMultipleKeyCodes_core]; rfl
      case layer v => rw [armLayer_core]; rfl
      case defaultLayer v => rw [armDefaultLayer_core]; rfl
      case releaseState rs => rw [armReleaseState_core]; rfl
      case src =>
        show (if coord.2 ≥ s.cfg.cols then _ else
          match doAction fuel (core s) (s.cfg.srcKey coord.2) coord delay false [] with
          | .error c => Except.error c
          | .ok r => Except.ok (r.1, CustomEv.noEvent)) = _
        rw [ih1 s _ coord delay [] hc hi (C04.srcKey_frag hc _)]
        split
        · rfl
        · exact coreR_map_fst _
      case multipleActions acs =>
        rw [updateCoord_core, ih3 (updateCoord s coord) acs coord delay ls
          ((C04.updateCoord_same s coord).cfg ▸ hc) (C04.updateCoord_inert coord hi) hf]
        cases doActions fuel (updateCoord s coord) acs coord delay false ls .noEvent with
        | error c => rfl
        | ok r => rfl
    · intro s acs coord delay ls hc hi hf
      cases acs with
      | nil => simp only [doActions]; rfl
      | cons a rest =>
        simp only [C04.FragL] at hf
        simp only [doActions]
        rw [ih1 s a coord delay ls hc hi hf.1]
        cases hd : doAction fuel s a coord delay false ls with
        | error c => rfl
        | ok r =>
          obtain ⟨s1, c1⟩ := r
          obtain ⟨r1, r2, r3, _⟩ := (C04.refines_all fuel).1 s a coord delay ls s1 c1 hc hi hf.1 hd
          subst r3
          simp only [coreR]
          exact ih3 s1 rest coord delay ls (r2.cfg ▸ hc) r1 hf.2

/-! ### `dequeue`, `event`, `tick` on the layered fragment -/

theorem dequeue_core (fuel : Nat) {s : Layout} (hc : C04.CfgFrag s.cfg) (hi : C04.Inert s) (q : Queued) :
    dequeue (fuel + 1) (core s) q = coreR (dequeue (fuel + 1) s q) := by
  obtain ⟨ev, since⟩ := q
  cases ev with
  | release c =>
    simp only [dequeue]
    rfl
  | press c =>
    have ht : (core s).transOrder = s.transOrder := rfl
    have htde : (core s).tapDanceEager = none := hi.tde
    simp only [dequeue, ht, hi.tde, htde, bind, Except.bind]
    cases s.transOrder with
    | error e => rfl
    | ok order => exact (equiv_all fuel).1 s .trans c since order hc hi trivial

/-- the head of the queue is processed alike on layouts equal except history ages -/
theorem dequeue_head_ageEq {s t : Layout} (h : AgeEq s t) (hc : C04.CfgFrag s.cfg) (hi : C04.Inert s)
    (q : Queued) (rest : List Queued) :
    coreR (dequeue FUEL (s.setQueue rest) q) = coreR (dequeue FUEL (t.setQueue rest) q) := by
  have e : core (s.setQueue rest) = core (t.setQueue rest) := congrArg (fun l : Layout => l.setQueue rest) h
  rw [FUEL_succ, ← dequeue_core 3999 (s := s.setQueue rest) hc (inert_setQueue hi rest),
    ← dequeue_core 3999 (s := t.setQueue rest) (h.cfg ▸ hc) (inert_setQueue (inert_ageEq h hi) rest), e]

theorem evPush_core (s : Layout) (e : Ev) : evPush (core s) e = (core (evPush s e).1, (evPush s e).2) := by
  cases e with
  | press c => simp only [evPush, evPre, core, zeroAges_histPush]
  | release c => rfl

/-- **an input event does not read a history age** (layered fragment, also when the queue of 32
overflows) -/
theorem event_core {s : Layout} (hc : C04.CfgFrag s.cfg) (hi : C04.Inert s) (e : Ev) :
    (core s).event e = coreL (s.event e) := by
  rw [event_inert_eq hi, event_inert_eq (inert_core hi), evPush_core]
  cases (evPush s e).2 with
  | none => rfl
  | some ov =>
    simp only []
    rw [dequeue_core 3998 ((evPush_cfg s e).symm ▸ hc) (evPush_inert hi e)]
    cases dequeue (3998 + 1) (evPush s e).1 ov <;> rfl

theorem tickPreI_core (s : Layout) : core (tickPreI (core s)) = core (tickPreI s) := by
  simp only [core, tickPreI, zeroAges_histTick, zeroAges_idem]

/-- the first stage of a tick of a quiet layout whose quick-tap window is over moves history ages only
(any configuration) -/
theorem ageEq_tickPre {l : Layout} (h : QuietLayout l) (hl : l.lptTapHoldTimeout = 0) : AgeEq l (tickPre l) := by
  show core l = core (tickPre l)
  rw [tickPre_plain_eq h.tde h.seqs h.plain]
  simp only [core, tickPreI, zeroAges_histTick, h.queue, hl, List.map_nil]

/-- what two results of a layout function with the ages forgotten being equal means -/
theorem coreR_eq_iff {r1 r2 : Except L.Crash (Layout × CustomEv)} (h : coreR r1 = coreR r2) :
    (∃ c, r1 = .error c ∧ r2 = .error c) ∨
    (∃ s1 s2 cu, r1 = .ok (s1, cu) ∧ r2 = .ok (s2, cu) ∧ AgeEq s1 s2) := by
  obtain c1 | ⟨s1, c1⟩ := r1 <;> obtain c2 | ⟨s2, c2⟩ := r2 <;>
    simp only [coreR, Except.ok.injEq, Except.error.injEq, Prod.mk.injEq, reduceCtorEq] at h
  · exact .inl ⟨c1, rfl, h ▸ rfl⟩
  · exact .inr ⟨s1, s2, c1, rfl, h.2 ▸ rfl, h.1⟩

theorem coreL_eq_iff {r1 r2 : Except L.Crash Layout} (h : coreL r1 = coreL r2) :
    (∃ c, r1 = .error c ∧ r2 = .error c) ∨ (∃ s1 s2, r1 = .ok s1 ∧ r2 = .ok s2 ∧ AgeEq s1 s2) := by
  obtain c1 | s1 := r1 <;> obtain c2 | s2 := r2 <;>
    simp only [coreL, Except.ok.injEq, Except.error.injEq, reduceCtorEq] at h
  · exact .inl ⟨c1, rfl, h ▸ rfl⟩
  · exact .inr ⟨s1, s2, rfl, rfl, h⟩

/-- **layout tick, layered fragment: layouts equal except history ages tick to layouts equal except
history ages, with the same custom event and the same crash** -/
theorem tick_ageEq {a b : Layout} (h : AgeEq a b) (hc : C04.CfgFrag a.cfg) (hi : C04.Inert a) :
    coreR (tick a) = coreR (tick b) := by
  have hib := inert_ageEq h hi
  have hcb : C04.CfgFrag b.cfg := h.cfg ▸ hc
  rw [tick_inert_eq hc hi, tick_inert_eq hcb hib]
  have hpre : AgeEq (tickPre a) (tickPre b) := by
    show core (tickPre a) = core (tickPre b)
    rw [tickPre_inert_eq hi, tickPre_inert_eq hib, ← tickPreI_core a, ← tickPreI_core b, h]
  obtain ⟨p1, p2, _⟩ := C04.tickPre_spec hi
  obtain ⟨q1, q2, _⟩ := C04.tickPre_spec hib
  rw [← hpre.queue]
  cases (tickPre a).queue with
  | nil => exact congrArg (fun l => Except.ok (l, CustomEv.noEvent)) hpre
  | cons q rest => exact dequeue_head_ageEq hpre (p2.cfg.symm ▸ hc) p1 q rest

/-- **input event, layered fragment** -/
theorem event_ageEq {a b : Layout} (h : AgeEq a b) (hc : C04.CfgFrag a.cfg) (hi : C04.Inert a) (e : Ev) :
    coreL (a.event e) = coreL (b.event e) := by
  rw [← event_core hc hi, ← event_core (h.cfg ▸ hc) (inert_ageEq h hi), h]

end KVerif.C07
