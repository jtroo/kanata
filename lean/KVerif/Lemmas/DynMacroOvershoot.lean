/-
Helper lemmas for the C19 counterexample on the pinned `tick_ms`: with `ms_elapsed ≥ 65536` the
`extra_ticks` loop pops a replay event and drops it.  The 65 534 iterations of the first loop that
only count down are done symbolically over a layout that does nothing (`unitI`), because they are
too many to evaluate in the kernel; the few iterations that pop an event are evaluated.
-/
import KVerif.Lemmas.DynMacroRun
namespace KVerif.DynMacro

theorem mainLoop_add {L} (I : LayoutI L) (c : Cfg) (a b : Nat) (k : K L) (e : Nat) :
    mainLoop I c (a + b) k e =
      match mainLoop I c a k e with
      | .error x => .error x
      | .ok (k1, e1) => mainLoop I c b k1 e1 := by
  induction a generalizing k e with
  | zero => rw [Nat.zero_add]; rfl
  | succ a ih =>
    rw [Nat.add_right_comm, mainLoop_succ, mainLoop_succ]
    cases tickStates I c k with
    | error x => rfl
    | ok k1 => exact ih _ _

/-- `tick_ms` once the outcome of its first loop is known.  (Used by rewriting: a proof that unfolds
`tickMs` on concrete arguments makes the kernel run the first loop to reduce the `match`.) -/
theorem tickMs_of_mainLoop {L} {I : LayoutI L} {c : Cfg} {ms : Nat} {k k1 : K L} {e : Nat}
    (h : mainLoop I c ms k 0 = .ok (k1, e)) :
    tickMs I c ms k = extraLoop I c (e - msAsU16 c.fix ms) k1 := by
  simp only [tickMs, h]

/-- while the countdown stays above 1 and nothing is being recorded, the first loop over `unitI`
only counts down -/
theorem mainLoop_idle (c : Cfg) (n : Nat) (k : K Unit) (e : Nat) (st : Replay) (hr : k.rep = some st)
    (hn : k.rcd = none) (hd : n + 1 ≤ st.delay) :
    mainLoop unitI c n k e =
      .ok ({ k with rep := some { st with delay := st.delay - n }, nticks := k.nticks + n }, e) := by
  induction n generalizing k st with
  | zero => obtain ⟨⟩ := k; cases hr; rfl
  | succ n ih =>
    have h0 : st.delay - 1 ≠ 0 := by omega
    have h1 : tickStates unitI c k = .ok { k with rcd := none, nticks := k.nticks + 1 } := by
      simp only [tickStates, unitI, doActs, List.map_nil, List.append_nil, hn, tickRecord]
    rw [mainLoop_succ, h1]
    simp only [feed, hr, tickReplay_wait c.beh h0, outEv, List.append_nil, List.foldl_nil, bump]
    rw [ih _ _ rfl rfl (by simp only; omega)]
    simp only [Nat.sub_sub, Nat.add_assoc, Nat.add_comm 1 n, hn]

end KVerif.DynMacro
