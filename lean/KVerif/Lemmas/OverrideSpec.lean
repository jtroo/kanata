/-
C13 helper lemmas: the order-free specification (`specHeld`) and the pass agree whenever no
modifier of a contained combination comes after its key.
-/
import KVerif.Lemmas.OverridePipe
namespace KVerif.Override

theorem mem_insertSorted {x y : Nat} {l : List Nat} : x ∈ insertSorted y l ↔ x = y ∨ x ∈ l := by
  induction l with
  | nil => simp [insertSorted]
  | cons z rest ih =>
    rw [insertSorted]
    split
    · simp
    · split
      · subst y; simp
      · simp only [List.mem_cons, ih, or_left_comm]

theorem mem_sortDedup {x : Nat} {l : List Nat} : x ∈ sortDedup l ↔ x ∈ l := by
  induction l with
  | nil => simp [sortDedup]
  | cons y rest ih => rw [sortDedup, List.foldr_cons, ← sortDedup, mem_insertSorted, ih, List.mem_cons]

/-! ### `maxLen` -/

theorem foldl_max_le_iff (cs : List Override) (a b : Nat) :
    cs.foldl (fun m o => max m o.inMods.length) a ≤ b ↔ a ≤ b ∧ ∀ o ∈ cs, o.inMods.length ≤ b := by
  induction cs generalizing a with
  | nil => simp
  | cons c rest ih => rw [List.foldl_cons, ih, List.forall_mem_cons, Nat.max_le, and_assoc]

theorem maxLen_eq {cs : List Override} {w : Override} (hw : w ∈ cs)
    (h : ∀ o ∈ cs, o.inMods.length ≤ w.inMods.length) : maxLen cs = w.inMods.length :=
  Nat.le_antisymm ((foldl_max_le_iff cs 0 _).mpr ⟨Nat.zero_le _, h⟩)
    (((foldl_max_le_iff cs 0 _).mp (Nat.le_refl _)).2 w hw)

theorem FirstLongest.filter_longest {pre : List Nat} {l : List Override} {w : Override}
    (h : FirstLongest pre l w) :
    ∃ rest, (l.filter (·.modsIn pre)).filter
      (fun o => o.inMods.length == maxLen (l.filter (·.modsIn pre))) = w :: rest := by
  obtain ⟨l1, l2, rfl, hw, hb, ha⟩ := h
  have hmax : maxLen ((l1 ++ w :: l2).filter (·.modsIn pre)) = w.inMods.length := by
    apply maxLen_eq (by simp [hw])
    intro o ho
    obtain ⟨ho, hm⟩ := List.mem_filter.mp ho
    rcases List.mem_append.mp ho with h1 | h2
    · exact Nat.le_of_lt (hb o h1 hm)
    · rcases List.mem_cons.mp h2 with rfl | h2
      · exact Nat.le_refl _
      · exact ha o h2 hm
  have h1 : (l1.filter (·.modsIn pre)).filter (fun o => o.inMods.length == w.inMods.length) = [] := by
    rw [List.filter_filter, List.filter_eq_nil_iff]
    intro o ho hc
    have := hb o ho (Bool.and_eq_true _ _ ▸ hc).2
    have := (Bool.and_eq_true _ _ ▸ hc).1
    simp at this; omega
  rw [hmax, List.filter_append, List.filter_append, h1, List.filter_cons, hw]
  simp

/-! ### no late modifier ⇒ "all modifiers before the key" = "combination contained" -/

theorem containedIn_iff (o : Override) (ks : List Nat) :
    o.containedIn ks = true ↔ o.inKey ∈ ks ∧ ∀ m ∈ o.inMods, m ∈ ks := by
  simp [Override.containedIn, Override.combo, and_comm]

theorem containedIn_of_modsIn {o : Override} {ks l1 l2 : List Nat} (hks : ks = l1 ++ o.inKey :: l2)
    (hm : o.modsIn l1 = true) : o.containedIn ks = true := by
  rw [containedIn_iff, hks]
  exact ⟨by simp, fun m hmem => List.mem_append_left _ ((o.modsIn_iff l1).mp hm m hmem)⟩

theorem lateAt_false {o : Override} {pre ks : List Nat} (h : lateAt o pre ks = false) :
    ∀ l1 l2, ks = l1 ++ o.inKey :: l2 → o.modsIn (pre ++ l1) = true := by
  induction ks generalizing pre with
  | nil => intro l1 l2 h'; simp at h'
  | cons k rest ih =>
    intro l1 l2 hks
    rw [lateAt, Bool.or_eq_false_iff] at h
    rcases List.cons_eq_append_iff.mp hks with ⟨rfl, hk⟩ | ⟨l1', rfl, hrest⟩
    · obtain ⟨rfl, _⟩ := List.cons.inj hk
      simpa [Override.modsIn] using h.1
    · simpa using ih h.2 l1' l2 hrest

theorem modsIn_eq_containedIn {tbl : List Override} {ks l1 l2 : List Nat} {k : Nat}
    (hks : ks = l1 ++ k :: l2) (hlate : lateMod tbl ks = false) {o : Override} (ho : o ∈ tbl)
    (hk : o.inKey = k) : o.modsIn l1 = o.containedIn ks := by
  subst hk
  cases hc : o.containedIn ks with
  | true =>
    have hl : lateAt o [] ks = false := by
      simp only [lateMod, List.any_eq_false, Bool.and_eq_true, not_and, Bool.not_eq_true] at hlate
      exact hlate o ho hc
    simpa using lateAt_false hl l1 l2 hks
  | false =>
    rw [← Bool.not_eq_true] at hc ⊢
    exact fun hm => hc (containedIn_of_modsIn hks hm)

theorem candidates_eq (tbl : List Override) (ks : List Nat) (k : Nat) :
    candidates tbl ks k =
      (tbl.filter (fun o => o.inKey == k)).filter (fun o => o.containedIn ks) := by
  rw [List.filter_filter, candidates]
  exact List.filter_congr fun o _ => Bool.and_comm _ _

/-- At an occurrence of the non-modifier key `k`, without late modifiers, whatever the statement
determines is what `update_keys` selects: the candidates are the overrides of `k` that match at
this occurrence, and `FirstLongest.filter_longest` names the head of the longest ones. -/
theorem winner_agrees {tbl : List Override} {ks l1 l2 : List Nat} {k : Nat}
    (hks : ks = l1 ++ k :: l2) (hlate : lateMod tbl ks = false)
    {r : Option Override} (hs : specWinner tbl ks k = some r) : winnerAt tbl l1 k = r := by
  have hcs : candidates tbl ks k = (tbl.filter (fun o => o.inKey == k)).filter (·.modsIn l1) := by
    rw [candidates_eq]
    exact (List.filter_congr fun o ho =>
      have ⟨ho, hk⟩ := List.mem_filter.mp ho
      modsIn_eq_containedIn hks hlate ho (beq_iff_eq.mp hk)).symm
  simp only [specWinner, hcs] at hs
  cases hw : winnerAt tbl l1 k with
  | none =>
    have hnil : (tbl.filter (fun o => o.inKey == k)).filter (·.modsIn l1) = [] :=
      List.filter_eq_nil_iff.mpr fun o ho => by simp [(selectPure_none_iff l1 _).mp hw o ho]
    rw [hnil] at hs
    exact Option.some.inj hs
  | some w =>
    obtain ⟨rest, hh⟩ := ((selectPure_some_iff l1 _ w).mp hw).filter_longest
    rw [hh] at hs
    dsimp only at hs
    split at hs
    · exact Option.some.inj hs
    · cases hs

/-- a modifier key has no candidates in a well-formed table -/
theorem specWinner_mod {tbl : List Override} (hwf : ∀ o ∈ tbl, o.WF) {ks : List Nat} {k : Nat}
    (hk : isMod k = true) : specWinner tbl ks k = some none := by
  have : candidates tbl ks k = [] := by
    rw [candidates, List.filter_eq_nil_iff]
    intro o ho hc
    have hik : o.inKey = k := beq_iff_eq.mp (Bool.and_eq_true _ _ ▸ hc).1
    exact Bool.false_ne_true ((hwf o ho).2.symm.trans (hik ▸ hk))
  simp [specWinner, this]

/-- the overrides the statement lets fire, key occurrence by key occurrence -/
theorem spec_winners_eq_applied {tbl : List Override} (hwf : ∀ o ∈ tbl, o.WF) {ks : List Nat}
    (hlate : lateMod tbl ks = false) (pre rest : List Nat) (hks : ks = pre ++ rest)
    (hall : ∀ k ∈ rest, (specWinner tbl ks k).isSome = true) :
    (rest.map (specWinner tbl ks)).filterMap (fun w => w.join) = applied tbl pre rest := by
  induction rest generalizing pre with
  | nil => rfl
  | cons k rest' ih =>
    have ⟨hk, hall⟩ := List.forall_mem_cons.mp hall
    obtain ⟨r, hr⟩ := Option.isSome_iff_exists.mp hk
    rw [List.map_cons, List.filterMap_cons, hr, applied, ih (pre ++ [k]) (by simp [hks]) hall]
    cases hm : isMod k
    · rw [winner_agrees hks hlate hr]
      cases r <;> rfl
    · cases (specWinner_mod hwf (ks := ks) hm).symm.trans hr
      rfl

/-- a firing override's combination is among the keys -/
theorem Fires.contained {tbl : List Override} {ks : List Nat} {o : Override} (h : Fires tbl ks o) :
    o ∈ tbl ∧ o.containedIn ks = true := by
  obtain ⟨ho, l1, l2, hks, hm⟩ := h.modsBefore
  exact ⟨ho, containedIn_of_modsIn hks hm⟩

end KVerif.Override
