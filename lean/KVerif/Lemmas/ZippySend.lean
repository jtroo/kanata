/-
How the events of an activation act on the text buffer: the modifier bookkeeping of the key loop
(`sendKeys`) for every state, the text it writes when caps-word is off, and `activate` itself as
one explicit state and event list.
-/
import KVerif.Lemmas.ZippyBuf
namespace KVerif.Zippy
open KVerif.TextBuf

theorem step_down_lsft (b : Buf) : b.step (.down KEY_LEFTSHIFT) = { b with lsft := true } := rfl
theorem step_up_lsft (b : Buf) : b.step (.up KEY_LEFTSHIFT) = { b with lsft := false } := rfl
theorem step_down_rsft (b : Buf) : b.step (.down KEY_RIGHTSHIFT) = { b with rsft := true } := rfl
theorem step_up_rsft (b : Buf) : b.step (.up KEY_RIGHTSHIFT) = { b with rsft := false } := rfl
theorem step_down_ralt (b : Buf) : b.step (.down KEY_RIGHTALT) = { b with ralt := true } := rfl
theorem step_up_ralt (b : Buf) : b.step (.up KEY_RIGHTALT) = { b with ralt := false } := rfl

/-! Zippychord presses and releases modifiers conditionally.  Written with the condition first,
both cases of each equation hold by computation, and a sequence of such events turns into Boolean
expressions for the three flags without any case split. -/

theorem run_if_down_lsft (b : Buf) (c : Bool) :
    b.run (if c then [.down KEY_LEFTSHIFT] else []) = { b with lsft := c || b.lsft } := by
  cases c <;> rfl
theorem run_if_up_lsft (b : Buf) (c : Bool) :
    b.run (if c then [.up KEY_LEFTSHIFT] else []) = { b with lsft := !c && b.lsft } := by
  cases c <;> rfl
theorem run_if_down_rsft (b : Buf) (c : Bool) :
    b.run (if c then [.down KEY_RIGHTSHIFT] else []) = { b with rsft := c || b.rsft } := by
  cases c <;> rfl
theorem run_if_up_rsft (b : Buf) (c : Bool) :
    b.run (if c then [.up KEY_RIGHTSHIFT] else []) = { b with rsft := !c && b.rsft } := by
  cases c <;> rfl
theorem run_if_down_ralt (b : Buf) (c : Bool) :
    b.run (if c then [.down KEY_RIGHTALT] else []) = { b with ralt := c || b.ralt } := by
  cases c <;> rfl
theorem run_if_up_ralt (b : Buf) (c : Bool) :
    b.run (if c then [.up KEY_RIGHTALT] else []) = { b with ralt := !c && b.ralt } := by
  cases c <;> rfl

theorem run_sftUp (b : Buf) (c l r : Bool) :
    b.run (if c then
        (if l then [OsEv.up KEY_LEFTSHIFT] else []) ++ (if r then [OsEv.up KEY_RIGHTSHIFT] else [])
       else []) = { b with lsft := !(c && l) && b.lsft, rsft := !(c && r) && b.rsft } := by
  cases c
  · rfl
  · rw [if_pos rfl, run_append, run_if_up_lsft, run_if_up_rsft]; rfl

theorem run_sftDown (b : Buf) (c l r : Bool) :
    b.run (if c then
        (if l then [OsEv.down KEY_LEFTSHIFT] else []) ++ (if r then [OsEv.down KEY_RIGHTSHIFT] else [])
       else []) = { b with lsft := c && l || b.lsft, rsft := c && r || b.rsft } := by
  cases c
  · rfl
  · rw [if_pos rfl, run_append, run_if_down_lsft, run_if_down_rsft]; rfl

theorem sendOne_eq (s : Zchd) (released : Bool) (o : ZchOut) :
    sendOne s released o =
      (if o.ag then [.down KEY_RIGHTALT] else []) ++
      (if o.shift && sftDuring s released then [.down KEY_LEFTSHIFT] else []) ++
      typeOsc s.inputKeys o.osc ++
      (if o.shift && sftDuring s released then [.up KEY_LEFTSHIFT] else []) ++
      (if o.ag then [.up KEY_RIGHTALT] else []) ++
      (if !released && !s.capsWord then
        (if s.lsft then [.up KEY_LEFTSHIFT] else []) ++ (if s.rsft then [.up KEY_RIGHTSHIFT] else [])
       else []) := by
  obtain ⟨kind, ne, osc⟩ := o
  unfold sendOne
  cases kind <;> simp [ZchOut.shift, ZchOut.ag]

/-- The loop invariant on the buffer's modifiers: the user's shifts are down until `released`
(which happens only without caps-word), AltGr is up. -/
structure LoopInv (s : Zchd) (released : Bool) (b : Buf) : Prop where
  lsft : b.lsft = (s.lsft && !released)
  rsft : b.rsft = (s.rsft && !released)
  ralt : b.ralt = false
  rel : (released && s.capsWord) = false

theorem run_sendOne (s : Zchd) (released : Bool) (o : ZchOut) (b : Buf)
    (hk : CharKey o.osc) (hi : LoopInv s released b) :
    LoopInv s (released || !s.capsWord) (b.run (sendOne s released o)) ∧
    (b.run (sendOne s released o)).rtext =
      stroke b.rtext o.osc
        (if s.capsWord then (s.lsft || s.rsft || o.shift) else (o.shift || (!released && (s.lsft || s.rsft)))) o.ag := by
  obtain ⟨rt, bl, br, ba⟩ := b
  obtain ⟨h1, h2, h3, h4⟩ := hi
  simp only at h1 h2 h3
  subst h1 h2 h3
  simp only [sendOne_eq, run_append, run_typeOsc _ _ _ hk, run_if_down_lsft, run_if_up_lsft,
    run_sftUp, run_if_down_ralt, run_if_up_ralt]
  unfold sftDuring
  -- what is left are identities between the flags: a truth table
  refine ⟨⟨?_, ?_, ?_, ?_⟩, congr (congrArg _ ?_) ?_⟩
  all_goals
    try dsimp only
    revert h4
    generalize s.lsft = l, s.rsft = r, s.capsWord = cw, o.shift = sh, o.ag = ag
    revert released l r cw sh ag
    decide

/-- The whole key loop. -/
theorem run_sendKeys (s : Zchd) (outs : List ZchOut) (released : Bool) (b : Buf)
    (hk : ∀ o ∈ outs, CharKey o.osc) (hi : LoopInv s released b) :
    LoopInv s (released || (!s.capsWord && !outs.isEmpty)) (b.run (sendKeys s released outs)) ∧
    (s.capsWord = false →
      (b.run (sendKeys s released outs)).rtext =
        typeOuts b.rtext (!released && (s.lsft || s.rsft)) outs) := by
  induction outs generalizing released b with
  | nil => exact ⟨by simpa [sendKeys, run_nil] using hi, fun _ => rfl⟩
  | cons o os ih =>
    obtain ⟨hi1, ht1⟩ := run_sendOne s released o b (hk o (List.mem_cons_self ..)) hi
    obtain ⟨hi2, ht2⟩ := ih (released || !s.capsWord) _ (fun o' h => hk o' (List.mem_cons_of_mem _ h)) hi1
    simp only [sendKeys, run_append]
    constructor
    · have : (released || !s.capsWord || (!s.capsWord && !os.isEmpty)) =
          (released || (!s.capsWord && !(o :: os).isEmpty)) := by
        cases released <;> cases s.capsWord <;> cases os.isEmpty <;> rfl
      rw [← this]; exact hi2
    · intro hc
      rw [ht2 hc, ht1, hc]
      simp [typeOuts]

def actCpl (s : Zchd) (outs : List ZchOut) (isPrio : Bool) : Nat :=
  if !isPrio && s.sameHoldActivationCount = 0 then 0
  else match s.priorActivation with
    | some prior => commonPrefixLen prior outs
    | none => 0

/-- the number of backspaces an activation with non-empty output sends -/
def actBs (s : Zchd) (outs : List ZchOut) (isPrio : Bool) : Nat :=
  (s.charsToDelete + (if isPrio then s.priorActivationOutputCount else 0) - (actCpl s outs isPrio : Int)).toNat

/-- whether the user's shifts are released before the key loop (a prefix is re-used, no caps-word) -/
def actRel0 (s : Zchd) (outs : List ZchOut) (isPrio : Bool) : Bool :=
  decide (actCpl s outs isPrio > 0) && !s.capsWord

theorem displayLen_append (a b : List ZchOut) : displayLen (a ++ b) = displayLen a + displayLen b := by
  have h : ∀ (l : List ZchOut) (n : Int), l.foldl (fun n o => n + o.charCount) n = n + displayLen l := by
    intro l
    induction l with
    | nil => intro n; simp [displayLen]
    | cons o os ih => intro n; rw [displayLen, List.foldl_cons, List.foldl_cons, ih, ih (0 + _)]; omega
  rw [displayLen, List.foldl_append, h, h, Int.zero_add]

theorem displayLen_take_drop (outs : List ZchOut) (n : Nat) :
    displayLen (outs.take n) + displayLen (outs.drop n) = displayLen outs := by
  rw [← displayLen_append, List.take_append_drop]

theorem sendKeys_congr (s : Zchd) {s' : Zchd} (h1 : s'.inputKeys = s.inputKeys) (h2 : s'.capsWord = s.capsWord)
    (h3 : s'.lsft = s.lsft) (h4 : s'.rsft = s.rsft) (released : Bool) (outs : List ZchOut) :
    sendKeys s' released outs = sendKeys s released outs := by
  induction outs generalizing released with
  | nil => rfl
  | cons o os ih =>
    have : sendOne s' released o = sendOne s released o := by
      unfold sendOne sftDuring; rw [h1, h2, h3, h4]
    rw [sendKeys, sendKeys, this, ih, h2]

theorem ite_smartSpaceState (c : Prop) [Decidable c] (s : Zchd) (v : SmartSpaceState) :
    (if c then { s with smartSpaceState := v } else s) =
      { s with smartSpaceState := if c then v else s.smartSpaceState } := by
  split <;> rfl

/-- The erase count afterwards is the whole expansion on screen (re-used prefix included) plus the
smart space. -/
theorem activate_of_ne (cfg : Cfg) (s : Zchd) (k : Nat) (outs : List ZchOut) (ctx : Path)
    (isPrio : Bool) (hne : outs.isEmpty = false) :
    activate cfg s k outs ctx isPrio =
     ({ s with
          priorActivation := some outs
          sameHoldActivationCount := s.sameHoldActivationCount + 1
          ticksUntilDisable := cfg.ticksChordDeadline
          charsToDelete := displayLen outs + (if wantsSmartSpace cfg outs then 1 else 0)
          priorActivationOutputCount := displayLen outs + (if wantsSmartSpace cfg outs then 1 else 0)
          prioritized := if hasFollowups cfg.dict (ctx ++ [s.inputKeys]) then some (ctx ++ [s.inputKeys]) else none
          smartSpaceState :=
            if wantsSmartSpace cfg outs = true ∧ cfg.smartSpace = .full then .sent else s.smartSpaceState
          lastPress := .isChord },
      bspcs (actBs s outs isPrio) ++ (if s.altgr then [OsEv.up KEY_RIGHTALT] else []) ++
      (if actRel0 s outs isPrio then
        (if s.lsft then [OsEv.up KEY_LEFTSHIFT] else []) ++ (if s.rsft then [OsEv.up KEY_RIGHTSHIFT] else [])
       else []) ++
      sendKeys s (actRel0 s outs isPrio) (outs.drop (actCpl s outs isPrio)) ++
      (if wantsSmartSpace cfg outs then [OsEv.down KEY_SPACE, OsEv.up KEY_SPACE] else []) ++
      (if !s.capsWord then
        (if s.lsft then [OsEv.down KEY_LEFTSHIFT] else []) ++ (if s.rsft then [OsEv.down KEY_RIGHTSHIFT] else [])
       else []) ++
      (if s.altgr then [OsEv.down KEY_RIGHTALT] else [])) := by
  unfold activate
  -- `↓ite_smartSpaceState` fires before `simp` flattens the records: no case split on `smartSpace = full`
  by_cases hw : wantsSmartSpace cfg outs = true <;>
    simp [hne, actBs, actCpl, actRel0, hw, displayLen_take_drop, ↓ite_smartSpaceState, sendKeys_congr s] <;> rfl

/-- An activation with empty output (a chord that only leads to follow-ups): the key is typed as
it is and counted for a later erasure. -/
theorem activate_nil (cfg : Cfg) (s : Zchd) (k : Nat) (ctx : Path) (isPrio : Bool) :
    activate cfg s k [] ctx isPrio =
     ({ s with
          priorActivation := some []
          sameHoldActivationCount := s.sameHoldActivationCount + 1
          ticksUntilDisable := cfg.ticksChordDeadline
          charsToDelete := s.charsToDelete + 1
          priorActivationOutputCount := (if isPrio then s.priorActivationOutputCount else 0) + (s.charsToDelete + 1)
          prioritized := if hasFollowups cfg.dict (ctx ++ [s.inputKeys]) then some (ctx ++ [s.inputKeys]) else none
          lastPress := .isChord },
      OsEv.down k ::
      (if !s.capsWord then
        (if s.lsft then [OsEv.down KEY_LEFTSHIFT] else []) ++ (if s.rsft then [OsEv.down KEY_RIGHTSHIFT] else [])
       else [])) := by
  have hc0 : ∀ p : List ZchOut, commonPrefixLen p [] = 0 := fun p => by cases p <;> rfl
  unfold activate
  cases s.priorActivation <;> simp [wantsSmartSpace, sendKeys, displayLen, hc0]

theorem activate_flags (cfg : Cfg) (s : Zchd) (k : Nat) (outs : List ZchOut) (ctx : Path)
    (isPrio : Bool) :
    (activate cfg s k outs ctx isPrio).1.lsft = s.lsft ∧ (activate cfg s k outs ctx isPrio).1.rsft = s.rsft ∧
    (activate cfg s k outs ctx isPrio).1.altgr = s.altgr ∧
    (activate cfg s k outs ctx isPrio).1.capsWord = s.capsWord ∧
    (activate cfg s k outs ctx isPrio).1.inputKeys = s.inputKeys ∧
    (activate cfg s k outs ctx isPrio).1.enabledState = s.enabledState ∧
    (activate cfg s k outs ctx isPrio).1.lastPress = .isChord := by
  cases outs with
  | nil => rw [activate_nil]; exact ⟨rfl, rfl, rfl, rfl, rfl, rfl, rfl⟩
  | cons o os => rw [activate_of_ne _ _ _ _ _ _ rfl]; exact ⟨rfl, rfl, rfl, rfl, rfl, rfl, rfl⟩

/-! ### An activation on the buffer -/

/-- The buffer's modifiers are the ones zippychord believes the user holds. -/
def ModsAgree (s : Zchd) (b : Buf) : Prop := b.lsft = s.lsft ∧ b.rsft = s.rsft ∧ b.ralt = s.altgr

theorem run_smartSpace (b : Buf) (c : Bool) :
    b.run (if c then [OsEv.down KEY_SPACE, OsEv.up KEY_SPACE] else []) =
      { b with rtext := if c then stroke b.rtext KEY_SPACE false false else b.rtext } := by
  cases c
  · rfl
  · exact run_space b

theorem run_sftBack (b : Buf) (cw l r : Bool)
    (hl : b.lsft = l ∨ (cw = false ∧ b.lsft = false)) (hr : b.rsft = r ∨ (cw = false ∧ b.rsft = false)) :
    b.run (if !cw then
        (if l then [OsEv.down KEY_LEFTSHIFT] else []) ++ (if r then [OsEv.down KEY_RIGHTSHIFT] else [])
       else []) = { b with lsft := l, rsft := r } := by
  have key : ∀ x y : Bool, x = y ∨ (cw = false ∧ x = false) → (!cw && y || x) = y := by
    rintro x y (rfl | ⟨rfl, rfl⟩)
    · cases cw <;> cases x <;> rfl
    · cases y <;> rfl
  rw [run_sftDown, key _ _ hl, key _ _ hr]

/-- just the key-down: pressing the held shifts again changes nothing -/
theorem run_activate_nil (cfg : Cfg) (s : Zchd) (k : Nat) (ctx : Path) (isPrio : Bool) (b : Buf)
    (hl : (b.step (.down k)).lsft = s.lsft) (hr : (b.step (.down k)).rsft = s.rsft) :
    b.run (activate cfg s k [] ctx isPrio).2 = b.step (.down k) := by
  rw [activate_nil, run_cons, run_sftBack _ _ _ _ (Or.inl hl) (Or.inl hr), ← hl, ← hr]

/-- Pressing the user's shift again (unless caps-word holds it) after a loop that released it at
most without caps-word. -/
theorem shift_restored (cw l x : Bool) (h : (x && cw) = false) : (!cw && l || l && !x) = l := by
  revert cw l x; decide

/-- The events of an activation with non-empty output, run on a buffer whose modifiers agree with
zippychord's flags: the backspaces, then the (non-shared part of the) expansion — typed under the
user's shift for its first keystroke only, and only when that is the first character of the whole
expansion — then the smart space; modifiers as before.  In caps-word mode the modifiers are
preserved as well (the text is then all shifted and not described here). -/
theorem run_activate (cfg : Cfg) (s : Zchd) (k : Nat) (outs : List ZchOut) (ctx : Path) (isPrio : Bool)
    (b : Buf) (hne : outs.isEmpty = false) (hk : ∀ o ∈ outs, CharKey o.osc) (hm : ModsAgree s b) :
    ModsAgree s (b.run (activate cfg s k outs ctx isPrio).2) ∧
    (s.capsWord = false →
      (b.run (activate cfg s k outs ctx isPrio).2).rtext =
        (let t := typeOuts (b.rtext.drop (actBs s outs isPrio))
                    ((s.lsft || s.rsft) && decide (actCpl s outs isPrio = 0))
                    (outs.drop (actCpl s outs isPrio))
         if wantsSmartSpace cfg outs then stroke t KEY_SPACE false false else t)) := by
  obtain ⟨rt, bl, br, ba⟩ := b
  obtain ⟨rfl, rfl, rfl⟩ := hm
  rw [activate_of_ne cfg s k outs ctx isPrio hne]
  simp only [run_append, run_bspcs, run_if_up_ralt, run_sftUp]
  -- AltGr and (with a re-used prefix) the shifts have been released: the loop invariant holds
  have hrel : (actRel0 s outs isPrio && s.capsWord) = false := by
    unfold actRel0; cases s.capsWord <;> simp
  obtain ⟨hi, ht⟩ := run_sendKeys s (outs.drop (actCpl s outs isPrio)) (actRel0 s outs isPrio)
    ⟨rt.drop (actBs s outs isPrio), !(actRel0 s outs isPrio && s.lsft) && s.lsft,
      !(actRel0 s outs isPrio && s.rsft) && s.rsft, !s.altgr && s.altgr⟩
    (fun o ho => hk o (List.mem_of_mem_drop ho))
    ⟨by cases actRel0 s outs isPrio <;> cases s.lsft <;> rfl,
     by cases actRel0 s outs isPrio <;> cases s.rsft <;> rfl, by cases s.altgr <;> rfl, hrel⟩
  generalize Buf.run _ (sendKeys s _ _) = b2 at hi ht ⊢
  obtain ⟨rt2, l2, r2, a2⟩ := b2
  obtain ⟨rfl, rfl, rfl, hrel2⟩ := hi
  simp only [run_smartSpace, run_sftDown, run_if_down_ralt]
  refine ⟨⟨?_, ?_, Bool.or_false _⟩, fun hc => ?_⟩
  · exact shift_restored _ _ _ hrel2
  · exact shift_restored _ _ _ hrel2
  · have : (!actRel0 s outs isPrio && (s.lsft || s.rsft)) =
        ((s.lsft || s.rsft) && decide (actCpl s outs isPrio = 0)) := by
      unfold actRel0
      rw [hc]
      cases actCpl s outs isPrio <;> simp
    rw [← this, ← (ht hc : rt2 = _)]

end KVerif.Zippy
