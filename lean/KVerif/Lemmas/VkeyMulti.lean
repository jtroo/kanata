/-
Helpers for C18multi: several simultaneous hold-for-duration / on-idle entries.

The real code keeps `vkeys_pending_release : HashMap<Coord, u16>` and `waiting_for_idle :
HashSet<FakeKeyOnIdle>` (rustc_hash Fx maps: the iteration order of `retain` is a function of the
hashes, unspecified); the model (`K.tickHeldVkeys`, `K.tickIdleTimeout`) iterates a list.  Here the
two loops are split into what they compute as a *set* (the entries kept, the entries that expire)
and the one thing that depends on the order (the order in which the events are handed to
`Layout::event`), and the dynamics of the pending entries over whole histories is shown to factor
through the finite-map view (`look`), so that an adversarial re-ordering of the container at any
moment changes nothing.
-/
import KVerif.Model.Kanata
import KVerif.Lemmas.ReleaseStates
namespace KVerif.VkeyMulti
open KVerif.L KVerif.K

/-! ## A. `tick_held_vkeys` in one tick -/

/-- the content of `vkeys_pending_release`, in iteration order -/
abbrev Pending := List (Coord × Nat)

/-- the coordinates (keys of the hash map), in iteration order -/
def keys (p : Pending) : List Coord := p.map (·.1)

/-- `*deadline = deadline.saturating_sub(1); match deadline { 0 => … }` -/
def expires (e : Coord × Nat) : Bool := e.2 - 1 == 0

/-- the entries `retain` keeps, with their countdown decremented -/
def heldKept (p : Pending) : Pending := (p.filter (fun e => !expires e)).map (fun e => (e.1, e.2 - 1))

/-- the coordinates whose release is handed to the layout in this tick, in iteration order -/
def heldReleased (p : Pending) : List Coord := (p.filter expires).map (·.1)

/-- `layout.event(Event::Release(x, y))` for each coordinate, in order -/
def releaseAll : List Coord → Layout → Except L.Crash Layout
  | [], l => .ok l
  | c :: cs, l =>
    match l.event (.release c) with
    | .error e => .error e
    | .ok l' => releaseAll cs l'

/-- the queue item of a release event that has just arrived -/
def relEv (c : Coord) : Queued := ⟨.release c, 0⟩

theorem go_eq : ∀ (rest : Pending) (k : KState) (kept : Pending),
    tickHeldVkeys.go rest k kept =
      match releaseAll (heldReleased rest) k.layout with
      | .error e => .error (.layout e)
      | .ok l => .ok { k with layout := l, vkeysPendingRelease := kept.reverse ++ heldKept rest } := by
  intro rest
  induction rest with
  | nil =>
    intro k kept
    exact congrArg (fun x => Except.ok { k with vkeysPendingRelease := x }) (List.append_nil _).symm
  | cons e rest ih =>
    intro k kept
    obtain ⟨c, d⟩ := e
    rw [tickHeldVkeys.go, heldReleased, heldKept, List.filter_cons, List.filter_cons, expires]
    cases d - 1 == 0 with
    | true =>
      simp only [Bool.not_true, Bool.false_eq_true, if_true, if_false, List.map_cons, releaseAll]
      cases k.layout.event (.release c) with
      | error e => rfl
      | ok l => exact ih _ _
    | false =>
      simp only [Bool.not_false, Bool.false_eq_true, if_true, if_false, List.map_cons]
      rw [ih, List.reverse_cons, List.append_assoc]
      rfl

/-- one `tick_held_vkeys` = hand the releases of the expiring entries to the layout (in iteration
order), keep the others with their countdown decremented (in iteration order) -/
theorem tickHeldVkeys_eq (k : KState) :
    tickHeldVkeys k =
      match releaseAll (heldReleased k.vkeysPendingRelease) k.layout with
      | .error e => .error (.layout e)
      | .ok l => .ok { k with layout := l, vkeysPendingRelease := heldKept k.vkeysPendingRelease } :=
  go_eq k.vkeysPendingRelease k []

theorem heldKept_perm {p p' : Pending} (h : p'.Perm p) : (heldKept p').Perm (heldKept p) :=
  (h.filter _).map _

theorem heldReleased_perm {p p' : Pending} (h : p'.Perm p) : (heldReleased p').Perm (heldReleased p) :=
  (h.filter _).map _

theorem nodup_snoc {α : Type} {l : List α} {a : α} (hn : l.Nodup) (h : a ∉ l) : (l ++ [a]).Nodup :=
  List.nodup_append.mpr ⟨hn, List.pairwise_singleton _ _, fun _ hx _ hy e => h (List.mem_singleton.mp hy ▸ e ▸ hx)⟩

/-- a change of the entries that leaves their coordinates alone leaves the keys alone -/
theorem keys_map {g : Coord × Nat → Coord × Nat} (hg : ∀ e, (g e).1 = e.1) (p : Pending) :
    keys (p.map g) = keys p := by
  rw [keys, List.map_map]
  exact List.map_congr_left fun e _ => hg e

theorem keys_heldKept_sublist (p : Pending) : (keys (heldKept p)).Sublist (keys p) := by
  rw [heldKept, keys_map (g := fun e => (e.1, e.2 - 1)) fun _ => rfl]
  exact List.filter_sublist.map _

theorem heldReleased_sublist (p : Pending) : (heldReleased p).Sublist (keys p) :=
  List.filter_sublist.map _

/-! ### the layout side, while the queue has room -/

/-- `Layout::event` while the queue has room -/
def pushEv (l : Layout) (e : Ev) : Layout :=
  match e with
  | .press c => { l with histInputs := histPush l.histInputs c, queue := l.queue ++ [⟨.press c, 0⟩] }
  | .release c => { l with queue := l.queue ++ [⟨.release c, 0⟩] }

/-- an event is only appended to the layout's queue while fewer than 32 are pending (a press also
enters the input history) -/
theorem event_room (l : Layout) (e : Ev) (h : l.queue.length < QUEUE_SIZE) : l.event e = .ok (pushEv l e) := by
  unfold Layout.event
  rw [FUEL_succ]
  cases e <;> simp only [event, pushBackWrap, h, if_true] <;> rfl

theorem event_release_room (s : Layout) (c : Coord) (h : s.queue.length < QUEUE_SIZE) :
    s.event (.release c) = .ok { s with queue := s.queue ++ [relEv c] } :=
  event_room s (.release c) h

theorem event_press_room (s : Layout) (c : Coord) (h : s.queue.length < QUEUE_SIZE) :
    s.event (.press c) =
      .ok { s with histInputs := histPush s.histInputs c, queue := s.queue ++ [⟨.press c, 0⟩] } :=
  event_room s (.press c) h

theorem releaseAll_room : ∀ (cs : List Coord) (l : Layout), l.queue.length + cs.length ≤ QUEUE_SIZE →
    releaseAll cs l = .ok { l with queue := l.queue ++ cs.map relEv } := by
  intro cs
  induction cs with
  | nil => intro l _; simp [releaseAll]
  | cons c cs ih =>
    intro l h
    simp only [List.length_cons] at h
    rw [releaseAll, event_release_room l c (by omega)]
    simp only []
    rw [ih _ (by simp only [List.length_append, List.length_cons, List.length_nil]; omega)]
    simp [List.append_assoc]

/-! ## B. the finite-map view and whole histories -/

/-- the countdown of coordinate `c` (the hash map lookup) -/
def look : Pending → Coord → Option Nat
  | [], _ => none
  | (c', d) :: rest, c => if c' = c then some d else look rest c

/-- `vkeys_pending_release.entry(coord).and_modify(|d| *d = duration).or_insert_with(..)`: the
pending entries after a hold-for-duration activation (the list form of `customPress`'s
`fakeKeyHold` arm) -/
def heldActivate (p : Pending) (c : Coord) (dur : Nat) : Pending :=
  if p.any (·.1 == c) then p.map (fun e => if e.1 == c then (c, dur) else e) else p ++ [(c, dur)]

theorem look_cons (c' : Coord) (d : Nat) (p : Pending) (c : Coord) :
    look ((c', d) :: p) c = if c' = c then some d else look p c := rfl

theorem look_eq_none {p : Pending} {c : Coord} : look p c = none ↔ c ∉ keys p := by
  induction p with
  | nil => exact ⟨fun _ h => (nomatch h), fun _ => rfl⟩
  | cons e rest ih =>
    obtain ⟨c', d⟩ := e
    rw [look_cons, keys, List.map_cons, List.mem_cons]
    by_cases h : c' = c
    · simp [h]
    · rw [if_neg h, ih]
      exact ⟨fun h2 => not_or.mpr ⟨Ne.symm h, h2⟩, fun h2 => (not_or.mp h2).2⟩

theorem any_key_eq {p : Pending} {c : Coord} : p.any (·.1 == c) = true ↔ c ∈ keys p := by
  simp only [keys, List.any_eq_true, List.mem_map, beq_iff_eq]

theorem look_eq_some {p : Pending} (hn : (keys p).Nodup) {c : Coord} {d : Nat} :
    look p c = some d ↔ (c, d) ∈ p := by
  induction p with
  | nil => exact ⟨fun h => (nomatch h), fun h => (nomatch h)⟩
  | cons e rest ih =>
    obtain ⟨c', d'⟩ := e
    have hn' := List.nodup_cons.mp hn
    rw [look_cons, List.mem_cons]
    by_cases h : c' = c
    · subst h
      have : (c', d) ∉ rest := fun hm => hn'.1 (List.mem_map.mpr ⟨_, hm, rfl⟩)
      simp [this, eq_comm]
    · rw [if_neg h, ih hn'.2]
      simp [Ne.symm h]

theorem keys_perm {p p' : Pending} (h : p'.Perm p) : (keys p').Perm (keys p) := h.map _

/-- the lookup does not depend on the iteration order -/
theorem look_perm {p p' : Pending} (hn : (keys p).Nodup) (h : p'.Perm p) (c : Coord) :
    look p' c = look p c := by
  have hn' : (keys p').Nodup := (keys_perm h).nodup_iff.mpr hn
  cases hl : look p c with
  | none =>
    rw [look_eq_none] at hl ⊢
    exact fun hm => hl ((keys_perm h).mem_iff.mp hm)
  | some d =>
    rw [look_eq_some hn] at hl
    rw [look_eq_some hn']
    exact h.mem_iff.mpr hl

theorem look_append (p q : Pending) (c : Coord) :
    look (p ++ q) c = match look p c with | some d => some d | none => look q c := by
  induction p with
  | nil => rfl
  | cons e rest ih =>
    obtain ⟨c', d⟩ := e
    rw [List.cons_append, look_cons, look_cons]
    split
    · rfl
    · exact ih

/-- changing the entries one by one, coordinates left alone, changes each lookup on its own -/
theorem look_map {g : Coord × Nat → Coord × Nat} (hg : ∀ e, (g e).1 = e.1) (p : Pending) (c : Coord) :
    look (p.map g) c = (look p c).map fun d => (g (c, d)).2 := by
  induction p with
  | nil => rfl
  | cons e rest ih =>
    obtain ⟨c', d⟩ := e
    rw [List.map_cons, show g (c', d) = (c', (g (c', d)).2) from Prod.ext (hg _) rfl, look_cons, look_cons, ih]
    split
    · rename_i h; subst h; rfl
    · rfl

/-- a table has one entry per coordinate, so filtering the entries filters each lookup on its own -/
theorem look_filter (q : Coord × Nat → Bool) {p : Pending} (hn : (keys p).Nodup) (c : Coord) :
    look (p.filter q) c = (look p c).filter fun d => q (c, d) := by
  induction p with
  | nil => rfl
  | cons e rest ih =>
    obtain ⟨c', d⟩ := e
    have hn' := List.nodup_cons.mp hn
    rw [List.filter_cons, look_cons]
    by_cases h : c' = c
    · subst h
      have : look (rest.filter q) c' = none :=
        look_eq_none.mpr fun hm => hn'.1 ((List.filter_sublist.map _).subset hm)
      rw [if_pos rfl, Option.filter_some]
      by_cases hq : q (c', d) = true
      · rw [if_pos hq, if_pos hq, look_cons, if_pos rfl]
      · rw [if_neg hq, if_neg hq, this]
    · rw [if_neg h, ← ih hn'.2]
      by_cases hq : q (c', d) = true
      · rw [if_pos hq, look_cons, if_neg h]
      · rw [if_neg hq]

/-- each coordinate is listed once if it has an entry, and not at all otherwise -/
theorem count_keys {p : Pending} (hn : (keys p).Nodup) (c : Coord) :
    (keys p).count c = if (look p c).isSome then 1 else 0 := by
  rw [hn.count]
  by_cases h : c ∈ keys p
  · rw [if_pos h]
    cases hl : look p c with
    | none => exact absurd h (look_eq_none.mp hl)
    | some d => rfl
  · rw [if_neg h, look_eq_none.mpr h]; rfl

/-- one `tick_held_vkeys` seen from one coordinate: its countdown afterwards -/
def decr : Option Nat → Option Nat
  | some d => if d - 1 == 0 then none else some (d - 1)
  | none => none

/-- how many releases that tick hands to the layout for the coordinate -/
def due : Option Nat → Nat
  | some d => if d - 1 == 0 then 1 else 0
  | none => 0

theorem decr_of_due {o : Option Nat} (h : due o ≠ 0) : decr o = none := by
  cases o with
  | none => rfl
  | some d =>
    by_cases hd : (d - 1 == 0) = true
    · exact if_pos hd
    · exact absurd (if_neg hd) h

/-- the map view of one `tick_held_vkeys`: each countdown drops by one on its own, an entry at
(saturated) zero is gone -/
theorem look_heldKept {p : Pending} (hn : (keys p).Nodup) (c : Coord) :
    look (heldKept p) c = decr (look p c) := by
  rw [heldKept, look_map (g := fun e => (e.1, e.2 - 1)) (fun _ => rfl), look_filter _ hn]
  cases look p c with
  | none => rfl
  | some d => rw [Option.filter_some, expires, decr]; cases d - 1 == 0 <;> rfl

/-- the release list of one `tick_held_vkeys`, as a multiset: coordinate `c` is in it once if its
countdown reaches zero now, and not at all otherwise -/
theorem count_heldReleased {p : Pending} (hn : (keys p).Nodup) (c : Coord) :
    (heldReleased p).count c = due (look p c) := by
  show (keys (p.filter expires)).count c = _
  rw [count_keys (hn.sublist (List.filter_sublist.map _)), look_filter _ hn]
  cases look p c with
  | none => rfl
  | some d => rw [Option.filter_some, expires, due]; cases d - 1 == 0 <;> rfl

theorem nodup_heldKept {p : Pending} (hn : (keys p).Nodup) : (keys (heldKept p)).Nodup :=
  hn.sublist (keys_heldKept_sublist p)

theorem nodup_heldReleased {p : Pending} (hn : (keys p).Nodup) : (heldReleased p).Nodup :=
  hn.sublist (heldReleased_sublist p)

/-- an entry is either released or kept, never both -/
theorem released_not_kept {p : Pending} (hn : (keys p).Nodup) {c : Coord} (h : c ∈ heldReleased p) :
    c ∉ keys (heldKept p) := by
  rw [← look_eq_none, look_heldKept hn]
  apply decr_of_due
  rw [← count_heldReleased hn]
  exact Nat.ne_of_gt (List.count_pos_iff.mpr h)

theorem rearm_fst (c : Coord) (dur : Nat) (e : Coord × Nat) : (if e.1 == c then (c, dur) else e).1 = e.1 := by
  split
  · rename_i h; exact (eq_of_beq h).symm
  · rfl

theorem keys_activate (p : Pending) (c : Coord) (dur : Nat) :
    keys (heldActivate p c dur) = if c ∈ keys p then keys p else keys p ++ [c] := by
  unfold heldActivate
  by_cases h : c ∈ keys p
  · rw [if_pos (any_key_eq.mpr h), if_pos h, keys_map (rearm_fst c dur)]
  · rw [if_neg (mt any_key_eq.mp h), if_neg h]
    exact List.map_append

theorem nodup_activate {p : Pending} (hn : (keys p).Nodup) (c : Coord) (dur : Nat) :
    (keys (heldActivate p c dur)).Nodup := by
  rw [keys_activate]
  split
  · exact hn
  · exact nodup_snoc hn ‹_›

/-- the map view of an activation: coordinate `c` now counts down from `dur`, every other
coordinate is untouched -/
theorem look_activate (p : Pending) (c c' : Coord) (dur : Nat) :
    look (heldActivate p c dur) c' = if c' = c then some dur else look p c' := by
  unfold heldActivate
  by_cases h : c ∈ keys p
  · rw [if_pos (any_key_eq.mpr h), look_map (rearm_fst c dur)]
    by_cases h2 : c' = c
    · subst h2
      rw [if_pos rfl]
      cases hl : look p c' with
      | none => exact absurd h (look_eq_none.mp hl)
      | some d => exact congrArg (fun x : Coord × Nat => some x.2) (if_pos (beq_self_eq_true c'))
    · rw [if_neg h2]
      cases look p c' with
      | none => rfl
      | some d => exact congrArg (fun x : Coord × Nat => some x.2) (if_neg (mt eq_of_beq h2))
  · rw [if_neg (mt any_key_eq.mp h), look_append]
    by_cases h2 : c' = c
    · subst h2
      rw [look_eq_none.mpr h, if_pos rfl]
      exact if_pos rfl
    · rw [if_neg h2]
      cases look p c' with
      | some d => rfl
      | none => exact if_neg (Ne.symm h2)

/-! ### histories of the pending entries -/

/-- what can happen to `vkeys_pending_release` -/
inductive HStep
  /-- a `hold-for-duration` activation of coordinate `c` (`customPress`, arm `fakeKeyHold`) -/
  | act (c : Coord) (dur : Nat)
  /-- one `tick_held_vkeys` -/
  | tick
  /-- the hash map presents its entries in another order from now on (ignored unless `p'` is a
  permutation of the present entries) -/
  | reorder (p' : Pending)
  deriving DecidableEq, Repr

/-- one step: the pending entries afterwards, and (for a tick) the releases handed to the layout -/
def heldStep (p : Pending) : HStep → Pending × List (List Coord)
  | .act c dur => (heldActivate p c dur, [])
  | .tick => (heldKept p, [heldReleased p])
  | .reorder p' => (if p'.Perm p then p' else p, [])

/-- a history: the pending entries at the end and the release list of every tick, oldest first -/
def heldRun : List HStep → Pending → Pending × List (List Coord)
  | [], p => (p, [])
  | s :: rest, p =>
    ((heldRun rest (heldStep p s).1).1, (heldStep p s).2 ++ (heldRun rest (heldStep p s).1).2)

/-- number of ticks in a history -/
def ticks : List HStep → Nat
  | [] => 0
  | .tick :: rest => ticks rest + 1
  | _ :: rest => ticks rest

/-- no activation of coordinate `c` in the history -/
def noAct (c : Coord) (h : List HStep) : Bool :=
  h.all fun s => match s with | .act c' _ => c' != c | _ => true

theorem heldRun_act (c : Coord) (dur : Nat) (rest : List HStep) (p : Pending) :
    heldRun (.act c dur :: rest) p = heldRun rest (heldActivate p c dur) := by
  simp [heldRun, heldStep]

theorem heldRun_tick (rest : List HStep) (p : Pending) :
    heldRun (.tick :: rest) p =
      ((heldRun rest (heldKept p)).1, heldReleased p :: (heldRun rest (heldKept p)).2) := by
  simp [heldRun, heldStep]

theorem heldRun_reorder (p' : Pending) (rest : List HStep) (p : Pending) :
    heldRun (.reorder p' :: rest) p = heldRun rest (if p'.Perm p then p' else p) := by
  simp [heldRun, heldStep]

theorem noAct_act (c c' : Coord) (dur : Nat) (rest : List HStep) :
    noAct c (.act c' dur :: rest) = (c' != c && noAct c rest) := rfl
theorem noAct_tick (c : Coord) (rest : List HStep) : noAct c (.tick :: rest) = noAct c rest := rfl
theorem noAct_reorder (c : Coord) (p' : Pending) (rest : List HStep) :
    noAct c (.reorder p' :: rest) = noAct c rest := rfl

theorem heldRun_append (h1 h2 : List HStep) (p : Pending) :
    heldRun (h1 ++ h2) p =
      ((heldRun h2 (heldRun h1 p).1).1, (heldRun h1 p).2 ++ (heldRun h2 (heldRun h1 p).1).2) := by
  induction h1 generalizing p with
  | nil => simp [heldRun]
  | cons s rest ih => simp only [List.cons_append, heldRun, ih, List.append_assoc]

/-- a re-ordering step leaves a permutation of the container, whatever it is handed -/
theorem reorder_perm {α : Type} [DecidableEq α] (l' l : List α) : (if l'.Perm l then l' else l).Perm l := by
  split
  · assumption
  · exact .refl l

theorem nodup_step {p : Pending} (hn : (keys p).Nodup) (s : HStep) : (keys (heldStep p s).1).Nodup := by
  cases s with
  | act c dur => exact nodup_activate hn c dur
  | tick => exact nodup_heldKept hn
  | reorder p' => exact (keys_perm (reorder_perm p' p)).nodup_iff.mpr hn

theorem nodup_run (h : List HStep) {p : Pending} (hn : (keys p).Nodup) : (keys (heldRun h p).1).Nodup := by
  induction h generalizing p with
  | nil => exact hn
  | cons s rest ih => exact ih (nodup_step hn s)

theorem length_run (h : List HStep) (p : Pending) : (heldRun h p).2.length = ticks h := by
  induction h generalizing p with
  | nil => rfl
  | cons s rest ih =>
    cases s with
    | act c dur => rw [heldRun_act]; exact ih _
    | tick => rw [heldRun_tick]; simp only [List.length_cons, ticks, ih]
    | reorder p' => rw [heldRun_reorder]; exact ih _

/-- the countdown of a coordinate `n` ticks later, given its lookup now: an entry at `d` is released by
the `max d 1`-th tick (0 saturates and behaves as 1) -/
def viewAfter (n : Nat) : Option Nat → Option Nat
  | some d => if n < max d 1 then some (d - n) else none
  | none => none

theorem viewAfter_zero (o : Option Nat) : viewAfter 0 o = o := by
  cases o with
  | none => rfl
  | some d => exact if_pos (Nat.lt_of_lt_of_le Nat.one_pos (Nat.le_max_right d 1))

theorem viewAfter_tick (n : Nat) (o : Option Nat) : viewAfter n (decr o) = viewAfter (n + 1) o := by
  cases o with
  | none => rfl
  | some d =>
    show viewAfter n (if d - 1 == 0 then none else some (d - 1)) =
      if n + 1 < max d 1 then some (d - (n + 1)) else none
    by_cases hd : d ≤ 1
    · rw [Nat.max_eq_right hd, if_pos (beq_iff_eq.mpr (Nat.sub_eq_zero_of_le hd)),
        if_neg (Nat.not_lt.mpr (Nat.le_add_left 1 n))]
      rfl
    · have hd := Nat.lt_of_not_le hd
      rw [Nat.max_eq_left (Nat.le_of_lt hd), if_neg (mt beq_iff_eq.mp (Nat.sub_ne_zero_of_lt hd)),
        viewAfter, Nat.max_eq_left (Nat.le_sub_one_of_lt hd), Nat.sub_sub, Nat.add_comm 1 n]
      simp only [Nat.lt_sub_iff_add_lt]

/-- an entry at `D` is released by the tick after `i` others iff that is the `max D 1`-th -/
theorem due_viewAfter (i D : Nat) : due (viewAfter i (some D)) = if i + 1 = max D 1 then 1 else 0 := by
  show due (if i < max D 1 then some (D - i) else none) = _
  by_cases hd : D ≤ 1
  · rw [Nat.max_eq_right hd]
    cases i with
    | zero => exact if_pos (beq_iff_eq.mpr (Nat.sub_eq_zero_of_le hd))
    | succ i => rw [if_neg (Nat.not_lt.mpr (Nat.le_add_left 1 i)), if_neg (Nat.succ_ne_zero i ∘ Nat.succ.inj)]; rfl
  · have hd := Nat.lt_of_not_le hd
    rw [Nat.max_eq_left (Nat.le_of_lt hd)]
    by_cases h : i < D
    · rw [if_pos h]
      show (if D - i - 1 == 0 then 1 else 0) = _
      rw [Nat.sub_sub]
      by_cases h2 : i + 1 = D
      · rw [if_pos h2, h2, Nat.sub_self]; rfl
      · rw [if_neg h2, if_neg (mt beq_iff_eq.mp (Nat.sub_ne_zero_of_lt (Nat.lt_of_le_of_ne h h2)))]
    · rw [if_neg h, if_neg fun e : i + 1 = D => h (e ▸ Nat.lt_succ_self i)]; rfl

/-- the dynamics factors through the map view: inside any history that does not activate `c`, the
countdown of `c` and the ticks that release it are those of an entry that is alone — functions of its
lookup at the start and of the number of ticks, whatever the other entries and the re-orderings do -/
theorem run_view (c : Coord) : ∀ (h : List HStep) (p : Pending), (keys p).Nodup → noAct c h = true →
    look (heldRun h p).1 c = viewAfter (ticks h) (look p c) ∧
    (heldRun h p).2.map (·.count c) = (List.range (ticks h)).map fun i => due (viewAfter i (look p c)) := by
  intro h
  induction h with
  | nil => intro p _ _; exact ⟨(viewAfter_zero _).symm, rfl⟩
  | cons s rest ih =>
    intro p hn hno
    cases s with
    | act c' dur =>
      rw [noAct_act, Bool.and_eq_true, bne_iff_ne] at hno
      have := ih _ (nodup_activate hn c' dur) hno.2
      rwa [look_activate, if_neg (Ne.symm hno.1)] at this
    | reorder p' =>
      have := ih (if p'.Perm p then p' else p) (nodup_step hn (.reorder p')) hno
      rwa [look_perm hn (reorder_perm p' p)] at this
    | tick =>
      have := ih _ (nodup_heldKept hn) hno
      rw [look_heldKept hn] at this
      rw [heldRun_tick, ticks, List.range_succ_eq_map, List.map_cons, List.map_cons, List.map_map]
      exact ⟨this.1.trans (viewAfter_tick _ _),
        List.cons_eq_cons.mpr ⟨(count_heldReleased hn c).trans (congrArg due (viewAfter_zero _).symm),
          this.2.trans (List.map_congr_left fun i _ => congrArg due (viewAfter_tick i _))⟩⟩
/-! ### the same history on the model's state -/

/-- the `fakeKey` arm of `customPress`: the layout receives the result of `fakeKeyAction`, nothing else
changes -/
theorem customPress_fakeKey_eq (k : KState) (c : Coord) (a : FkAction) (cur : List KeyCode) :
    customPress k [.fakeKey c a] cur =
      match fakeKeyAction k.layout a c with
      | .error e => .error (.layout e)
      | .ok l => .ok ({ k with layout := l }, cur) := by
  show (match fakeKeyAction k.layout a c with | .error e => _ | .ok l => _) = _
  cases fakeKeyAction k.layout a c <;> rfl

/-- the `fakeKeyOnRelease` arm of `customRelease`, likewise -/
theorem customRelease_fakeKey_eq (k : KState) (c : Coord) (a : FkAction) :
    customRelease k [.fakeKeyOnRelease c a] =
      match fakeKeyAction k.layout a c with
      | .error e => .error (.layout e)
      | .ok l => .ok { k with layout := l } := by
  show (match fakeKeyAction k.layout a c with | .error e => _ | .ok l => _) = _
  cases fakeKeyAction k.layout a c <;> rfl

/-- the `fakeKeyHold` arm of `customPress`: re-arm if the coordinate is pending (no second press),
otherwise press the key and start the countdown -/
theorem customPress_hold_eq (k : KState) (c : Coord) (dur : Nat) (cur : List KeyCode) :
    customPress k [.fakeKeyHold c dur] cur =
      if c ∈ keys k.vkeysPendingRelease then
        .ok ({ k with vkeysPendingRelease := heldActivate k.vkeysPendingRelease c dur }, cur)
      else match k.layout.event (.press c) with
        | .error e => .error (.layout e)
        | .ok l => .ok ({ k with layout := l,
                                 vkeysPendingRelease := heldActivate k.vkeysPendingRelease c dur }, cur) := by
  show (if k.vkeysPendingRelease.any (·.1 == c) = true then _ else _) = _
  rw [heldActivate]
  by_cases h : c ∈ keys k.vkeysPendingRelease
  · rw [if_pos h, if_pos (any_key_eq.mpr h), if_pos (any_key_eq.mpr h)]
    rfl
  · rw [if_neg h, if_neg (mt any_key_eq.mp h), if_neg (mt any_key_eq.mp h)]
    cases k.layout.event (.press c) <;> rfl

/-- one step of a history on the model's state: the real `customPress` / `tickHeldVkeys` -/
def kStep (cur : List KeyCode) (k : KState) : HStep → Except K.Crash KState
  | .act c dur =>
    match customPress k [.fakeKeyHold c dur] cur with
    | .error e => .error e
    | .ok r => .ok r.1
  | .tick => tickHeldVkeys k
  | .reorder p' =>
    .ok { k with vkeysPendingRelease := if p'.Perm k.vkeysPendingRelease then p' else k.vkeysPendingRelease }

def kRun (cur : List KeyCode) : List HStep → KState → Except K.Crash KState
  | [], k => .ok k
  | s :: rest, k =>
    match kStep cur k s with
    | .error e => .error e
    | .ok k' => kRun cur rest k'

theorem kStep_pending {cur : List KeyCode} {k k' : KState} {s : HStep} (h : kStep cur k s = .ok k') :
    k'.vkeysPendingRelease = (heldStep k.vkeysPendingRelease s).1 := by
  cases s with
  | act c dur =>
    rw [kStep, customPress_hold_eq] at h
    by_cases hc : c ∈ keys k.vkeysPendingRelease
    · rw [if_pos hc] at h; cases h; rfl
    · rw [if_neg hc] at h
      revert h
      cases k.layout.event (.press c) <;> intro h <;> cases h
      rfl
  | tick =>
    rw [kStep, tickHeldVkeys_eq] at h
    revert h
    cases releaseAll (heldReleased k.vkeysPendingRelease) k.layout <;> intro h <;> cases h
    rfl
  | reorder p' => cases h; rfl

theorem kRun_pending {cur : List KeyCode} : ∀ (h : List HStep) {k k' : KState}, kRun cur h k = .ok k' →
    k'.vkeysPendingRelease = (heldRun h k.vkeysPendingRelease).1 := by
  intro h
  induction h with
  | nil => intro k k' hk; cases hk; rfl
  | cons s rest ih =>
    intro k k' hk
    rw [kRun] at hk
    cases hs : kStep cur k s with
    | error e => rw [hs] at hk; cases hk
    | ok k1 =>
      rw [hs] at hk
      rw [ih hk, kStep_pending hs]
      rfl

/-! ## C. `tick_idle_timeout` -/

/-- `self.ticks_since_idle >= wfd.idle_duration` -/
def idleFires (clk : Nat) (w : OnIdle) : Bool := decide (clk ≥ w.idle)

/-- the registrations `retain` keeps -/
def idleKept (clk : Nat) (ws : List OnIdle) : List OnIdle := ws.filter (fun w => !idleFires clk w)

/-- the registrations that fire in this call, in iteration order -/
def idleFired (clk : Nat) (ws : List OnIdle) : List OnIdle := ws.filter (idleFires clk)

/-- `handle_fakekey_action` for each, in order -/
def fireAll : List OnIdle → Layout → Except L.Crash Layout
  | [], l => .ok l
  | w :: ws, l =>
    match fakeKeyAction l w.action w.coord with
    | .error e => .error e
    | .ok l' => fireAll ws l'

theorem idle_go_eq : ∀ (rest : List OnIdle) (k : KState) (kept : List OnIdle),
    tickIdleTimeout.go rest k kept =
      match fireAll (idleFired k.ticksSinceIdle rest) k.layout with
      | .error e => .error (.layout e)
      | .ok l => .ok { k with layout := l,
                              waitingForIdle := kept.reverse ++ idleKept k.ticksSinceIdle rest } := by
  intro rest
  induction rest with
  | nil =>
    intro k kept
    exact congrArg (fun x => Except.ok { k with waitingForIdle := x }) (List.append_nil _).symm
  | cons w rest ih =>
    intro k kept
    rw [tickIdleTimeout.go, idleFired, idleKept, List.filter_cons, List.filter_cons, idleFires]
    by_cases h : k.ticksSinceIdle ≥ w.idle
    · simp only [h, decide_true, Bool.not_true, Bool.false_eq_true, if_true, if_false, fireAll]
      cases fakeKeyAction k.layout w.action w.coord with
      | error e => rfl
      | ok l => exact ih _ _
    · simp only [h, decide_false, Bool.not_false, Bool.false_eq_true, if_true, if_false]
      rw [ih, List.reverse_cons, List.append_assoc]
      rfl

/-- one `tick_idle_timeout` = perform the registrations whose duration has been reached (in
iteration order), keep the others (in iteration order); the clock is not touched -/
theorem tickIdleTimeout_eq (k : KState) :
    tickIdleTimeout k =
      match fireAll (idleFired k.ticksSinceIdle k.waitingForIdle) k.layout with
      | .error e => .error (.layout e)
      | .ok l => .ok { k with layout := l, waitingForIdle := idleKept k.ticksSinceIdle k.waitingForIdle } :=
  idle_go_eq k.waitingForIdle k []

theorem idleKept_perm (clk : Nat) {ws ws' : List OnIdle} (h : ws'.Perm ws) :
    (idleKept clk ws').Perm (idleKept clk ws) := h.filter _

theorem idleFired_perm (clk : Nat) {ws ws' : List OnIdle} (h : ws'.Perm ws) :
    (idleFired clk ws').Perm (idleFired clk ws) := h.filter _

theorem mem_idleKept {clk : Nat} {ws : List OnIdle} {w : OnIdle} :
    w ∈ idleKept clk ws ↔ w ∈ ws ∧ clk < w.idle := by
  simp only [idleKept, List.mem_filter, idleFires, Bool.not_eq_true', decide_eq_false_iff_not, ge_iff_le,
    Nat.not_le]

theorem mem_idleFired {clk : Nat} {ws : List OnIdle} {w : OnIdle} :
    w ∈ idleFired clk ws ↔ w ∈ ws ∧ w.idle ≤ clk := by
  simp only [idleFired, List.mem_filter, idleFires, decide_eq_true_eq, ge_iff_le]

theorem nodup_idleKept {clk : Nat} {ws : List OnIdle} (h : ws.Nodup) : (idleKept clk ws).Nodup :=
  h.sublist List.filter_sublist

theorem nodup_idleFired {clk : Nat} {ws : List OnIdle} (h : ws.Nodup) : (idleFired clk ws).Nodup :=
  h.sublist List.filter_sublist

theorem count_idleFired {clk : Nat} {ws : List OnIdle} (h : ws.Nodup) (w : OnIdle) :
    (idleFired clk ws).count w = if w ∈ ws ∧ w.idle ≤ clk then 1 else 0 := by
  rw [(nodup_idleFired h).count]
  simp only [mem_idleFired]

/-- `waiting_for_idle.insert(fkd)` on the list: a registration already present is not duplicated -/
def idleReg (ws : List OnIdle) (w : OnIdle) : List OnIdle := if ws.contains w then ws else ws ++ [w]

theorem mem_idleReg {ws : List OnIdle} {w w' : OnIdle} : w' ∈ idleReg ws w ↔ w' ∈ ws ∨ w' = w := by
  unfold idleReg
  by_cases h : ws.contains w = true
  · simp only [h, if_true]
    constructor
    · exact Or.inl
    · rintro (h1 | h1)
      · exact h1
      · subst h1; exact List.contains_iff_mem.mp h
  · have h' : w ∉ ws := fun hm => h (List.contains_iff_mem.mpr hm)
    simp [h']

theorem nodup_idleReg {ws : List OnIdle} (hn : ws.Nodup) (w : OnIdle) : (idleReg ws w).Nodup := by
  unfold idleReg
  split
  · exact hn
  · exact nodup_snoc hn (mt List.contains_iff_mem.mpr ‹_›)

/-- the `fakeKeyOnIdle` arm of `customPress`: the idle clock restarts and the registration is
inserted into the set -/
theorem customPress_onIdle_eq (k : KState) (c : Coord) (a : FkAction) (idle : Nat) (cur : List KeyCode) :
    customPress k [.fakeKeyOnIdle c a idle] cur =
      .ok ({ k with ticksSinceIdle := 0,
                    waitingForIdle := idleReg k.waitingForIdle { coord := c, action := a, idle := idle } }, cur) :=
  rfl

/-! ### histories of the on-idle registrations -/

/-- what can happen to `(ticks_since_idle, waiting_for_idle)` -/
inductive IStep
  /-- an `on-idle` action is performed by a key: registration, the idle clock restarts -/
  | reg (w : OnIdle)
  /-- the idle clock is set (by `handle_input_event`: 0; by `can_block_update_idle_waiting`: 0 when
  not idle, `min (clock + ms) 65535` when idle) — any value: the theorems hold however it moves -/
  | clock (n : Nat)
  /-- one `tick_idle_timeout` -/
  | tick
  /-- the hash set presents its entries in another order from now on (ignored unless `ws'` is a
  permutation of the present entries) -/
  | reorder (ws' : List OnIdle)
  deriving DecidableEq, Repr

abbrev IState := Nat × List OnIdle

/-- one step: the state afterwards and (for a tick) the clock value it saw and what it fired -/
def idleStep (s : IState) : IStep → IState × List (Nat × List OnIdle)
  | .reg w => ((0, idleReg s.2 w), [])
  | .clock n => ((n, s.2), [])
  | .tick => ((s.1, idleKept s.1 s.2), [(s.1, idleFired s.1 s.2)])
  | .reorder ws' => ((s.1, if ws'.Perm s.2 then ws' else s.2), [])

def idleRun : List IStep → IState → IState × List (Nat × List OnIdle)
  | [], s => (s, [])
  | x :: rest, s =>
    ((idleRun rest (idleStep s x).1).1, (idleStep s x).2 ++ (idleRun rest (idleStep s x).1).2)

def iticks : List IStep → Nat
  | [] => 0
  | .tick :: rest => iticks rest + 1
  | _ :: rest => iticks rest

/-- registration `w` is not (re-)registered in the history -/
def noReg (w : OnIdle) (h : List IStep) : Bool :=
  h.all fun s => match s with | .reg w' => w' != w | _ => true

/-- 1 at the first clock value that has reached `D`, 0 everywhere else -/
def firstHit (D : Nat) : List Nat → List Nat
  | [] => []
  | c :: cs => if D ≤ c then 1 :: cs.map (fun _ => 0) else 0 :: firstHit D cs

theorem idleRun_reg (w : OnIdle) (rest : List IStep) (s : IState) :
    idleRun (.reg w :: rest) s = idleRun rest (0, idleReg s.2 w) := by
  simp [idleRun, idleStep]
theorem idleRun_clock (n : Nat) (rest : List IStep) (s : IState) :
    idleRun (.clock n :: rest) s = idleRun rest (n, s.2) := by
  simp [idleRun, idleStep]
theorem idleRun_tick (rest : List IStep) (s : IState) :
    idleRun (.tick :: rest) s =
      ((idleRun rest (s.1, idleKept s.1 s.2)).1,
        (s.1, idleFired s.1 s.2) :: (idleRun rest (s.1, idleKept s.1 s.2)).2) := by
  simp [idleRun, idleStep]
theorem idleRun_reorder (ws' : List OnIdle) (rest : List IStep) (s : IState) :
    idleRun (.reorder ws' :: rest) s = idleRun rest (s.1, if ws'.Perm s.2 then ws' else s.2) := by
  simp [idleRun, idleStep]

theorem noReg_reg (w w' : OnIdle) (rest : List IStep) :
    noReg w (.reg w' :: rest) = (w' != w && noReg w rest) := rfl
theorem noReg_clock (w : OnIdle) (n : Nat) (rest : List IStep) : noReg w (.clock n :: rest) = noReg w rest := rfl
theorem noReg_tick (w : OnIdle) (rest : List IStep) : noReg w (.tick :: rest) = noReg w rest := rfl
theorem noReg_reorder (w : OnIdle) (ws' : List OnIdle) (rest : List IStep) :
    noReg w (.reorder ws' :: rest) = noReg w rest := rfl

theorem idleRun_append (h1 h2 : List IStep) (s : IState) :
    idleRun (h1 ++ h2) s =
      ((idleRun h2 (idleRun h1 s).1).1, (idleRun h1 s).2 ++ (idleRun h2 (idleRun h1 s).1).2) := by
  induction h1 generalizing s with
  | nil => simp [idleRun]
  | cons x rest ih => simp only [List.cons_append, idleRun, ih, List.append_assoc]

theorem nodup_istep {s : IState} (hn : s.2.Nodup) (x : IStep) : (idleStep s x).1.2.Nodup := by
  cases x with
  | reg w => exact nodup_idleReg hn w
  | clock n => exact hn
  | tick => exact nodup_idleKept hn
  | reorder ws' => exact (reorder_perm ws' s.2).nodup_iff.mpr hn

theorem nodup_irun (h : List IStep) {s : IState} (hn : s.2.Nodup) : (idleRun h s).1.2.Nodup := by
  induction h generalizing s with
  | nil => exact hn
  | cons x rest ih => exact ih (nodup_istep hn x)

theorem length_irun (h : List IStep) (s : IState) : (idleRun h s).2.length = iticks h := by
  induction h generalizing s with
  | nil => rfl
  | cons x rest ih =>
    cases x with
    | reg w => rw [idleRun_reg]; exact ih _
    | clock n => rw [idleRun_clock]; exact ih _
    | tick => rw [idleRun_tick]; simp only [List.length_cons, iticks, ih]
    | reorder ws' => rw [idleRun_reorder]; exact ih _

/-- one registration inside any history that does not register it again: if it waits at the start it
fires in exactly one tick — the first that sees the idle clock at or above ITS duration — and is still
waiting at the end iff no tick has seen that; if it does not wait it never fires -/
theorem irun_view (w : OnIdle) : ∀ (h : List IStep) (s : IState), s.2.Nodup → noReg w h = true →
    (w ∈ (idleRun h s).1.2 ↔ w ∈ s.2 ∧ ∀ e ∈ (idleRun h s).2, e.1 < w.idle) ∧
    (idleRun h s).2.map (fun e => e.2.count w) =
      if w ∈ s.2 then firstHit w.idle ((idleRun h s).2.map (·.1)) else (idleRun h s).2.map fun _ => 0 := by
  intro h
  induction h with
  | nil => intro s _ _; exact ⟨⟨fun h => ⟨h, fun _ h => nomatch h⟩, And.left⟩, by split <;> rfl⟩
  | cons x rest ih =>
    intro s hn hno
    cases x with
    | reg w' =>
      rw [noReg_reg, Bool.and_eq_true, bne_iff_ne] at hno
      have := ih (0, idleReg s.2 w') (nodup_idleReg hn w') hno.2
      simp only [mem_idleReg, or_iff_left (Ne.symm hno.1)] at this
      exact this
    | clock n => exact ih _ hn hno
    | reorder ws' =>
      have := ih (s.1, if ws'.Perm s.2 then ws' else s.2) (nodup_istep hn (.reorder ws')) hno
      simp only [(reorder_perm ws' s.2).mem_iff] at this
      exact this
    | tick =>
      have := ih (s.1, idleKept s.1 s.2) (nodup_idleKept hn) hno
      simp only [mem_idleKept] at this
      rw [idleRun_tick]
      simp only [List.map_cons, firstHit, List.forall_mem_cons, count_idleFired hn, this]
      by_cases hm : w ∈ s.2
      · by_cases hd : w.idle ≤ s.1
        · -- fires now, and is out of the set for the rest of the history
          simp only [hm, hd, true_and, Nat.not_lt.mpr hd, false_and, if_true, if_false, and_false,
            List.map_map]
          rfl
        · simp only [hm, hd, true_and, Nat.lt_of_not_le hd, if_true, if_false, and_false]
      · simp only [hm, false_and, if_false]
        trivial
/-! ### the same history on the model's state -/

/-- one step of an on-idle history on the model's state: the real `customPress` / `tickIdleTimeout`;
`clock n` stands for whatever sets `ticks_since_idle` (`handleInputEvent`, `canBlockUpdateIdleWaiting`) -/
def kiStep (cur : List KeyCode) (k : KState) : IStep → Except K.Crash KState
  | .reg w =>
    match customPress k [.fakeKeyOnIdle w.coord w.action w.idle] cur with
    | .error e => .error e
    | .ok r => .ok r.1
  | .clock n => .ok { k with ticksSinceIdle := n }
  | .tick => tickIdleTimeout k
  | .reorder ws' =>
    .ok { k with waitingForIdle := if ws'.Perm k.waitingForIdle then ws' else k.waitingForIdle }

def kiRun (cur : List KeyCode) : List IStep → KState → Except K.Crash KState
  | [], k => .ok k
  | s :: rest, k =>
    match kiStep cur k s with
    | .error e => .error e
    | .ok k' => kiRun cur rest k'

theorem kiStep_state {cur : List KeyCode} {k k' : KState} {s : IStep} (h : kiStep cur k s = .ok k') :
    (k'.ticksSinceIdle, k'.waitingForIdle) = (idleStep (k.ticksSinceIdle, k.waitingForIdle) s).1 := by
  cases s with
  | reg w => rw [kiStep, customPress_onIdle_eq] at h; cases h; rfl
  | clock n => cases h; rfl
  | tick =>
    rw [kiStep, tickIdleTimeout_eq] at h
    revert h
    cases fireAll (idleFired k.ticksSinceIdle k.waitingForIdle) k.layout <;> intro h <;> cases h
    rfl
  | reorder ws' => cases h; rfl

theorem kiRun_state {cur : List KeyCode} : ∀ (h : List IStep) {k k' : KState}, kiRun cur h k = .ok k' →
    (k'.ticksSinceIdle, k'.waitingForIdle) = (idleRun h (k.ticksSinceIdle, k.waitingForIdle)).1 := by
  intro h
  induction h with
  | nil => intro k k' hk; cases hk; rfl
  | cons s rest ih =>
    intro k k' hk
    rw [kiRun] at hk
    cases hs : kiStep cur k s with
    | error e => rw [hs] at hk; cases hk
    | ok k1 =>
      rw [hs] at hk
      rw [ih hk, kiStep_state hs]
      rfl

/-! ### the layout side of `tick_idle_timeout`, while the queue has room -/

/-- the events `handle_fakekey_action` hands to `Layout::event` (toggle looks at the key states) -/
def idleEvs (states : List St) (w : OnIdle) : List Ev :=
  match w.action with
  | .press => [.press w.coord]
  | .release => [.release w.coord]
  | .tap => [.press w.coord, .release w.coord]
  | .toggle => if statesHasCoord states w.coord then [.release w.coord] else [.press w.coord]

def pushEvs (l : Layout) (es : List Ev) : Layout := es.foldl pushEv l

theorem pushEv_states (l : Layout) (e : Ev) : (pushEv l e).states = l.states := by cases e <;> rfl
theorem pushEv_queue (l : Layout) (e : Ev) : (pushEv l e).queue = l.queue ++ [⟨e, 0⟩] := by cases e <;> rfl

theorem pushEvs_states (es : List Ev) (l : Layout) : (pushEvs l es).states = l.states := by
  induction es generalizing l with
  | nil => rfl
  | cons e es ih => simp only [pushEvs, List.foldl_cons] at ih ⊢; rw [ih, pushEv_states]

theorem pushEvs_queue (es : List Ev) (l : Layout) :
    (pushEvs l es).queue = l.queue ++ es.map (fun e => ⟨e, 0⟩) := by
  induction es generalizing l with
  | nil => simp [pushEvs]
  | cons e es ih =>
    simp only [pushEvs, List.foldl_cons] at ih ⊢
    rw [ih, pushEv_queue]; simp [List.append_assoc]

theorem fakeKeyAction_room (l : Layout) (w : OnIdle)
    (h : l.queue.length + (idleEvs l.states w).length ≤ QUEUE_SIZE) :
    fakeKeyAction l w.action w.coord = .ok (pushEvs l (idleEvs l.states w)) := by
  -- three of the four actions hand over one event
  have one : ∀ e, idleEvs l.states w = [e] → l.event e = .ok (pushEvs l (idleEvs l.states w)) := by
    intro e he
    rw [he] at h ⊢
    exact event_room l e h
  unfold fakeKeyAction
  cases ha : w.action with
  | press => exact one _ (by rw [idleEvs, ha])
  | release => exact one _ (by rw [idleEvs, ha])
  | toggle =>
    simp only []
    split
    · exact one _ (by rw [idleEvs, ha, if_pos ‹_›])
    · exact one _ (by rw [idleEvs, ha, if_neg ‹_›])
  | tap =>
    rw [idleEvs, ha] at h ⊢
    simp only []
    rw [event_room l _ (Nat.lt_of_succ_lt h)]
    exact event_room _ _ (by rw [pushEv_queue, List.length_append]; exact h)

/-- while the queue has room, the registrations that fire only append their events to the queue (and
their presses to the input history), in iteration order; the key states are not touched, so every
toggle sees the key states of before the call -/
theorem fireAll_room : ∀ (ws : List OnIdle) (l : Layout),
    l.queue.length + (ws.flatMap (idleEvs l.states)).length ≤ QUEUE_SIZE →
    fireAll ws l = .ok (pushEvs l (ws.flatMap (idleEvs l.states))) := by
  intro ws
  induction ws with
  | nil => intro l _; rfl
  | cons w ws ih =>
    intro l h
    simp only [List.flatMap_cons, List.length_append] at h
    rw [fireAll, fakeKeyAction_room l w (by omega)]
    simp only []
    have hst := pushEvs_states (idleEvs l.states w) l
    have hq := pushEvs_queue (idleEvs l.states w) l
    rw [ih _ (by rw [hst, hq]; simp only [List.length_append, List.length_map]; omega), hst]
    simp only [List.flatMap_cons, pushEvs, List.foldl_append]

/-! ## D. the layout consuming release events (`Layout::dequeue`, arm `Release`) -/

/-- a key state survives the release of coordinate `c`: not flagged "clear on next release", and not
at coordinate `c` -/
def relKeep (c : Coord) (st : St) : Bool := !st.clearOnNextRelease && !(st.coord == some c)

/-- the key states after `release_states` for an ordinary release: a filter -/
theorem releaseStates_fst (c : Coord) (xs : List St) (cu : CustomEv) :
    (releaseStates true c xs cu).1 = xs.filter (relKeep c) :=
  congrArg Prod.fst (ReleaseStates.releaseStates_eq true c xs cu)

/-- `OneShotState::handle_release` for a coordinate that is not a one-shot key: at most the
release-on-next-tick flag is set -/
def relOsh (o : OneShotState) (c : Coord) : OneShotState :=
  if o.keys.isEmpty then o
  else if (o.endConfig == .firstRelease || o.endConfig == .firstReleaseOrRepress) &&
      o.otherPressedKeys.contains c then { o with releaseOnNextTick := true }
  else o

/-- in one piece: the flag is raised iff one-shot keys are active, their end variant is a release one
and `c` has been pressed since the activation, a test on fields that `relOsh` leaves alone -/
theorem relOsh_eq (o : OneShotState) (c : Coord) :
    relOsh o c = { o with releaseOnNextTick := o.releaseOnNextTick || (!o.keys.isEmpty &&
      ((o.endConfig == .firstRelease || o.endConfig == .firstReleaseOrRepress) &&
        o.otherPressedKeys.contains c)) } := by
  unfold relOsh
  cases o.keys.isEmpty <;>
    cases ((o.endConfig == .firstRelease || o.endConfig == .firstReleaseOrRepress) &&
      o.otherPressedKeys.contains c) <;> simp

theorem relOsh_comm (o : OneShotState) (c1 c2 : Coord) :
    relOsh (relOsh o c1) c2 = relOsh (relOsh o c2) c1 := by
  rw [relOsh_eq (relOsh o c1), relOsh_eq (relOsh o c2), relOsh_eq o c1, relOsh_eq o c2]
  exact congrArg (fun b => { o with releaseOnNextTick := b }) (Bool.or_right_comm ..)

/-- the layout after one release has been taken from the queue (coordinate not a one-shot key) -/
def releaseNow (s : Layout) (c : Coord) : Layout :=
  { s with oneshot := relOsh s.oneshot c, states := s.states.filter (relKeep c) }

/-- the custom event (release of a `Custom` action's state at `c`) that comes with it -/
def releaseCustom (states : List St) (c : Coord) : CustomEv := (releaseStates true c states .noEvent).2

theorem handleRelease_notKey (o : OneShotState) (c : Coord) (h : o.keys.contains c = false) :
    o.handleRelease c = (relOsh o c, true, none) := by
  unfold OneShotState.handleRelease relOsh
  by_cases hk : o.keys.isEmpty = true
  · simp only [hk, if_true]
  · simp only [hk, if_false, Bool.false_eq_true, h, Bool.not_false, if_true]
    split <;> rfl

/-- `Layout::dequeue` of a release whose coordinate is not a one-shot key, in closed form -/
theorem dequeue_release_eq (fuel : Nat) (s : Layout) (c : Coord) (t : Nat)
    (h : s.oneshot.keys.contains c = false) :
    dequeue (fuel + 1) s ⟨.release c, t⟩ = .ok (releaseNow s c, releaseCustom s.states c) := by
  simp only [dequeue, handleRelease_notKey s.oneshot c h, if_true]
  simp only [releaseNow, releaseCustom, releaseStates_fst]

theorem releaseNow_comm (s : Layout) (c1 c2 : Coord) :
    releaseNow (releaseNow s c1) c2 = releaseNow (releaseNow s c2) c1 := by
  simp only [releaseNow, relOsh_comm s.oneshot c1 c2, List.filter_filter]
  congr 1
  apply List.filter_congr
  intro x _
  exact Bool.and_comm _ _

theorem releaseNow_keys (s : Layout) (c : Coord) : (releaseNow s c).oneshot.keys = s.oneshot.keys := by
  show (relOsh s.oneshot c).keys = _
  rw [relOsh_eq]

/-- the custom event of releasing `c1` is the same whether or not another coordinate has been
released before -/
theorem releaseCustom_releaseNow {c1 c2 : Coord} (hne : c1 ≠ c2) (s : Layout) :
    releaseCustom (releaseNow s c2).states c1 = releaseCustom s.states c1 := by
  simp only [releaseCustom, ReleaseStates.releaseStates_eq]
  exact ReleaseStates.report_filter_keep true hne s.states .noEvent

/-- the layout consumes the queued releases of `cs` one after the other (as `tick` does, one per
tick); `age c` is how long the event of `c` has waited (irrelevant for a release).  Returns the
layout and, per release, the custom event it produced. -/
def consume (age : Coord → Nat) : List Coord → Layout → Except L.Crash (Layout × List (Coord × CustomEv))
  | [], s => .ok (s, [])
  | c :: cs, s =>
    match dequeue FUEL s ⟨.release c, age c⟩ with
    | .error e => .error e
    | .ok (s', cu) =>
      match consume age cs s' with
      | .error e => .error e
      | .ok (s'', log) => .ok (s'', (c, cu) :: log)

theorem foldl_releaseNow_keys (cs : List Coord) (s : Layout) :
    (cs.foldl releaseNow s).oneshot.keys = s.oneshot.keys := by
  induction cs generalizing s with
  | nil => rfl
  | cons c cs ih => simp only [List.foldl_cons]; rw [ih, releaseNow_keys]

/-- consuming releases of distinct coordinates (none a one-shot key): the key states are filtered by
every coordinate, and each release reports the custom event it would report alone -/
theorem consume_eq (age : Coord → Nat) : ∀ (cs : List Coord) (s : Layout), cs.Nodup →
    (∀ c ∈ cs, s.oneshot.keys.contains c = false) →
    consume age cs s = .ok (cs.foldl releaseNow s, cs.map fun c => (c, releaseCustom s.states c)) := by
  intro cs
  induction cs with
  | nil => intro s _ _; rfl
  | cons c cs ih =>
    intro s hn hk
    rw [List.nodup_cons] at hn
    have hk' : ∀ c' ∈ cs, (releaseNow s c).oneshot.keys.contains c' = false := by
      intro c' hc'; rw [releaseNow_keys]; exact hk c' (List.mem_cons_of_mem _ hc')
    unfold consume
    rw [FUEL_succ, dequeue_release_eq 3999 s c (age c) (hk c List.mem_cons_self)]
    simp only [ih (releaseNow s c) hn.2 hk', List.foldl_cons, List.map_cons]
    congr 3
    apply List.map_congr_left
    intro c' hc'
    rw [releaseCustom_releaseNow (fun e : c' = c => hn.1 (e ▸ hc')) s]

theorem foldl_releaseNow_states (cs : List Coord) (s : Layout) :
    (cs.foldl releaseNow s).states = s.states.filter (fun st => cs.all fun c => relKeep c st) := by
  induction cs generalizing s with
  | nil =>
    simp only [List.foldl_nil, List.all_nil]
    exact (List.filter_eq_self.mpr fun _ _ => rfl).symm
  | cons c cs ih =>
    simp only [List.foldl_cons]
    rw [ih]
    simp only [releaseNow, List.filter_filter, List.all_cons]
    apply List.filter_congr
    intro x _
    exact Bool.and_comm _ _

/-- the order in which releases are consumed does not matter for the layout that results -/
theorem foldl_releaseNow_perm {cs cs' : List Coord} (h : cs'.Perm cs) (s : Layout) :
    cs'.foldl releaseNow s = cs.foldl releaseNow s :=
  h.foldl_eq' (fun x _ y _ z => releaseNow_comm z x y) s

/-! ## E. concrete witnesses (used by the examples and counterexamples of Props/C18multi) -/

abbrev R := Except K.Crash KState

/-- `n` calls of `tick_states` -/
def ticksN : Nat → KState → R
  | 0, k => .ok k
  | n + 1, k => match tickStates k with | .error e => .error e | .ok k' => ticksN n k'

def andThen (r : R) (f : KState → R) : R := match r with | .ok k => f k | .error e => .error e

/-- what is observed: the events sent to the OS so far, the keys the layout holds down, the pending
hold-for-duration entries -/
def obsHeld (r : R) : Option (List Os × List KeyCode × Pending) :=
  match r with | .ok k => some (k.out, k.layout.keycodes, k.vkeysPendingRelease) | .error _ => none

/-- the events sent to the OS so far and the keys the layout holds down -/
def obsOut (r : R) : Option (List Os × List KeyCode) :=
  match r with | .ok k => some (k.out, k.layout.keycodes) | .error _ => none

/-- likewise with the on-idle registrations and the idle clock -/
def obsIdle (r : R) : Option (List Os × List KeyCode × List OnIdle × Nat) :=
  match r with
  | .ok k => some (k.out, k.layout.keycodes, k.waitingForIdle, k.ticksSinceIdle)
  | .error _ => none

def someMods : ModCodes := { codes := [42, 54, 56, 100, 29, 97, 125, 126], lsft := 42, rsft := 54 }

/-- ```
(defvirtualkeys v2 x  v0 (on-release-fakekey v2 press)  v1 (on-release-fakekey v2 release))
(defsrc a)
(deflayer l0 (multi (hold-for-duration 3 v0) (hold-for-duration 3 v1)))
``` with v2 v0 v1 at (1,0) (1,1) (1,2) as the real parser numbers them, `a` = 30, `x` = 45 -/
def heldCxK0 : KState :=
  { layout := { cfg := { layers := [[((0, 30), .custom 2), ((1, 0), .keyCode 45), ((1, 1), .custom 0),
                                      ((1, 2), .custom 1)]],
                         srcKeys := [(30, .keyCode 30)] } },
    customs := [[.fakeKeyOnRelease (1, 0) .press], [.fakeKeyOnRelease (1, 0) .release],
                [.fakeKeyHold (1, 1) 3, .fakeKeyHold (1, 2) 3]],
    keyOutputs := [], mods := someMods }

/-- press `a`, one tick, release `a` -/
def heldCxK1 : R :=
  andThen (handleInputEvent heldCxK0 (.press 30)) fun k =>
  andThen (ticksN 1 k) fun k => handleInputEvent k (.release 30)

/-- ```
(defvirtualkeys v2 x) (defsrc a)
(deflayer l0 (multi (on-idle-fakekey v2 press 20) (on-idle-fakekey v2 release 20)))
``` with v2 at (1,0) -/
def idleCxK0 : KState :=
  { layout := { cfg := { layers := [[((0, 30), .custom 0), ((1, 0), .keyCode 45)]],
                         srcKeys := [(30, .keyCode 30)] } },
    customs := [[.fakeKeyOnIdle (1, 0) .press 20, .fakeKeyOnIdle (1, 0) .release 20]],
    keyOutputs := [], mods := someMods }

/-- press `a`, one tick, release `a`, two ticks, then the loop sees 20 ms without input -/
def idleCxK1 : R :=
  andThen (handleInputEvent idleCxK0 (.press 30)) fun k =>
  andThen (ticksN 1 k) fun k =>
  andThen (handleInputEvent k (.release 30)) fun k =>
  andThen (ticksN 2 k) fun k => .ok (canBlockUpdateIdleWaiting k 20).1

/-- three virtual keys q w e held for a duration, two of them expiring in the same tick -/
def exK : KState :=
  { layout := { cfg := { layers := [[((1, 0), .keyCode 16), ((1, 1), .keyCode 17), ((1, 2), .keyCode 18)]],
                         srcKeys := [] },
                states := [.normalKey 16 (1, 0) 0, .normalKey 17 (1, 1) 0, .normalKey 18 (1, 2) 0] },
    customs := [], keyOutputs := [], mods := someMods,
    vkeysPendingRelease := [((1, 0), 1), ((1, 1), 3), ((1, 2), 1)] }

/-- the same configuration with nothing pending and nothing held -/
def exK0 : KState := { exK with vkeysPendingRelease := [], layout := { exK.layout with states := [] } }

def exP' : Pending := [((1, 2), 1), ((1, 0), 1), ((1, 1), 3)]

/-- three on-idle registrations, two of them with the same duration -/
def exWs : List OnIdle :=
  [{ coord := (1, 0), action := .press, idle := 20 }, { coord := (1, 1), action := .tap, idle := 50 },
   { coord := (1, 2), action := .toggle, idle := 20 }]

def exWs' : List OnIdle :=
  [{ coord := (1, 2), action := .toggle, idle := 20 }, { coord := (1, 1), action := .tap, idle := 50 },
   { coord := (1, 0), action := .press, idle := 20 }]

def exKI : KState :=
  { layout := { cfg := { layers := [[((1, 0), .keyCode 16), ((1, 1), .keyCode 17), ((1, 2), .keyCode 18)]],
                         srcKeys := [] },
                states := [.normalKey 18 (1, 2) 0] },
    customs := [], keyOutputs := [], mods := someMods,
    waitingForIdle := exWs, ticksSinceIdle := 20 }

end KVerif.VkeyMulti

