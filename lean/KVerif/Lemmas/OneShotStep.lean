/-
C06 helper lemmas: whole ticks of the layout model while one-shot keys are active — a tick
on which `tick_osh` only counts down, and the tick on which it fires — and what a stretch of paused
ticks and arriving events leaves as it was (`Stalls`).
-/
import KVerif.Lemmas.OneShotInv
namespace KVerif.C06
open KVerif.L

/-- the parts of `OneShotState` that only key events change -/
structure SameKeys (o o' : OneShotState) : Prop where
  keys : o'.keys = o.keys
  released : o'.releasedKeys = o.releasedKeys
  others : o'.otherPressedKeys = o.otherPressedKeys
  endConfig : o'.endConfig = o.endConfig
  request : o'.releaseOnNextTick = o.releaseOnNextTick
  delay : o'.pauseInputProcessingDelay = o.pauseInputProcessingDelay

theorem SameKeys.refl (o : OneShotState) : SameKeys o o := ⟨rfl, rfl, rfl, rfl, rfl, rfl⟩
theorem SameKeys.trans {a b c : OneShotState} (h1 : SameKeys a b) (h2 : SameKeys b c) : SameKeys a c :=
  ⟨h2.keys.trans h1.keys, h2.released.trans h1.released, h2.others.trans h1.others,
   h2.endConfig.trans h1.endConfig, h2.request.trans h1.request, h2.delay.trans h1.delay⟩

structure Stalls (s s' : Layout) (k : Nat) (evs : List Ev) : Prop where
  states : s'.states = s.states
  keys : SameKeys s.oneshot s'.oneshot
  timeout : s'.oneshot.timeout = s.oneshot.timeout - k
  pause : s'.oneshot.pauseInputProcessingTicks = s.oneshot.pauseInputProcessingTicks - k
  queue : s'.queue.map (·.ev) = s.queue.map (·.ev) ++ evs

theorem Stalls.refl (s : Layout) : Stalls s s 0 [] :=
  ⟨rfl, SameKeys.refl _, rfl, rfl, (List.append_nil _).symm⟩

/-- the tick counts are added in this order so that putting one step in front of `k` ticks gives
`k + 1` (a tick) or `k + 0` (an event) as they stand -/
theorem Stalls.trans {a b c : Layout} {k1 k2 : Nat} {e1 e2 : List Ev} (h1 : Stalls a b k1 e1)
    (h2 : Stalls b c k2 e2) : Stalls a c (k2 + k1) (e1 ++ e2) :=
  ⟨h2.states.trans h1.states, h1.keys.trans h2.keys,
   by rw [h2.timeout, h1.timeout, Nat.sub_sub, Nat.add_comm],
   by rw [h2.pause, h1.pause, Nat.sub_sub, Nat.add_comm],
   by rw [h2.queue, h1.queue, List.append_assoc]⟩

theorem Inv.input_stalls {s : Layout} {down : List Coord} (h : Inv s down) (e : Ev)
    (hq : s.queue.length < QUEUE_SIZE) :
    ∃ s', s.event e = .ok s' ∧ Inv s' (downAfter down (.ev e)) ∧ Stalls s s' 0 [e] := by
  obtain ⟨s', e1, i1, q1, st1, o1⟩ := h.input e hq
  exact ⟨s', e1, i1, st1, o1 ▸ SameKeys.refl _, by rw [o1]; rfl, by rw [o1]; rfl, by rw [q1, List.map_append]; rfl⟩

/-- **a tick on which the countdown continues and input processing is paused**: nothing is taken
from the queue, no state changes; both counters go down by one -/
theorem tick_waits_paused {s : Layout} {down : List Coord} (h : Inv s down) (hk : s.oneshot.keys ≠ [])
    (hr : s.oneshot.releaseOnNextTick = false) (h2 : 2 ≤ s.oneshot.timeout)
    (hp : 0 < s.oneshot.pauseInputProcessingTicks) :
    ∃ s', tick s = .ok (s', .noEvent) ∧ Inv s' down ∧ s'.queue = age s.queue ∧ Stalls s s' 1 [] := by
  obtain ⟨s1, _, i1, q1, o1, st1, e⟩ := h.tick_eq
  rw [tick_waits _ hk hr h2] at o1 st1
  have e2 := tickMain_paused i1.calm.waiting i1.calm.extra (o1 ▸ hp)
  refine ⟨_, e.trans e2, (i1.main _ _ e2).1, q1, st1.trans (dropCoords_nil _), ?_, ?_, ?_, ?_⟩
  · simp only [o1]; exact ⟨rfl, rfl, rfl, rfl, rfl, rfl⟩
  · simp only [o1]
  · simp only [o1]
  · simp only [q1, age_map_ev, List.append_nil]

/-- **a tick on which the countdown continues and there is no input** -/
theorem tick_waits_idle {s : Layout} {down : List Coord} (h : Inv s down) (hk : s.oneshot.keys ≠ [])
    (hr : s.oneshot.releaseOnNextTick = false) (h2 : 2 ≤ s.oneshot.timeout) (hq : s.queue = []) :
    ∃ s', tick s = .ok (s', .noEvent) ∧ Inv s' down ∧ s'.states = s.states ∧ s'.queue = [] ∧
      SameKeys s.oneshot s'.oneshot ∧ s'.oneshot.timeout = s.oneshot.timeout - 1 := by
  by_cases hp : 0 < s.oneshot.pauseInputProcessingTicks
  · obtain ⟨s', e, i, q, st⟩ := tick_waits_paused h hk hr h2 hp
    exact ⟨s', e, i, st.states, by rw [q, hq]; rfl, st.keys, st.timeout⟩
  · obtain ⟨s1, _, i1, q1, o1, st1, e⟩ := h.tick_eq
    rw [hq] at q1
    rw [tick_waits _ hk hr h2] at o1 st1
    have e2 := tickMain_empty i1.calm.waiting i1.calm.extra (by rw [o1]; exact Nat.eq_zero_of_not_pos hp) q1
    refine ⟨s1, e.trans e2, i1, st1.trans (dropCoords_nil _), q1, ?_, ?_⟩ <;> simp only [o1]
    exact ⟨rfl, rfl, rfl, rfl, rfl, rfl⟩

/-- **the tick on which `tick_osh` fires** (a release was requested, or the countdown is at its last
step): in the second stage every deferred release is applied and the one-shot state is cleared —
`sr` — and only then does the third stage look at the input queue, with the pause lifted -/
theorem tick_fires_then_pops {s : Layout} {down : List Coord} (h : Inv s down) (hk : s.oneshot.keys ≠ [])
    (hf : s.oneshot.releaseOnNextTick = true ∨ s.oneshot.timeout ≤ 1) :
    ∃ sr, tickOneshot (tickPre s) = .ok (sr, .noEvent) ∧ Inv sr down ∧
      sr.oneshot = OneShotState.cleared s.oneshot ∧
      sr.states = dropCoords s.oneshot.releasedKeys s.states ∧ sr.queue = age s.queue ∧
      (tickMain sr = match age s.queue with
        | [] => .ok (sr, .noEvent)
        | q :: rest => dequeue FUEL (sr.setQueue rest) q) ∧
      (∀ s' cu, tick s = .ok (s', cu) ↔ tickMain sr = .ok (s', cu)) := by
  obtain ⟨sr, e1, i1, q1, o1, st1, e⟩ := h.tick_eq
  rw [tick_fires _ hk hf] at o1 st1
  have hp0 : sr.oneshot.pauseInputProcessingTicks = 0 := by rw [o1]; rfl
  refine ⟨sr, e1, i1, o1, st1, q1, ?_, fun s' cu => by rw [e]⟩
  cases hqq : age s.queue with
  | nil => exact tickMain_empty i1.calm.waiting i1.calm.extra hp0 (q1.trans hqq)
  | cons q rest => exact tickMain_pops i1.calm.waiting i1.calm.extra hp0 q rest (q1.trans hqq)

end KVerif.C06
