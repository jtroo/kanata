/-
C01 helper lemmas: stage 3 continued - the effect of `do_action` on what a layer position may
hold (transparent and use-defsrc items, one-shot keys, `fork`s of these, and everything that may be
nested in `multi`), and what a dequeued press does on the stage-3 fragment (`dequeue_press_K`).
-/
import KVerif.Lemmas.QuiesceUnion3
namespace KVerif.QU3
open KVerif.L KVerif.C06 KVerif.Quiesce KVerif.QU

/-! ## the `OneShotState` across a press: what is kept -/

/-- with delay `d`, pause `≤ d` and load `≤ B + 1` before: the same after; deferred releases are only
withdrawn for the pressed coordinate; "nothing deferred while no one-shot key is active" is kept -/
def OshK (B : Nat) (c : Coord) (o o' : OneShotState) : Prop :=
  ∀ d, o.pauseInputProcessingDelay = d → o.pauseInputProcessingTicks ≤ d → oshLoad o ≤ B + 1 →
    o'.pauseInputProcessingDelay = d ∧ o'.pauseInputProcessingTicks ≤ d ∧
    oshLoad o' ≤ B + 1 ∧ (∀ x ∈ o.releasedKeys, x ∈ o'.releasedKeys ∨ x = c) ∧
    ((o.keys = [] → o.releasedKeys = [] ∧ o.releaseOnNextTick = false) →
      (o'.keys = [] → o'.releasedKeys = [] ∧ o'.releaseOnNextTick = false))

theorem OshK.trans {B : Nat} {c : Coord} {a b e : OneShotState} (h1 : OshK B c a b) (h2 : OshK B c b e) : OshK B c a e := by
  intro d g2 g3 g4
  obtain ⟨b2, b3, b4, b5, b6⟩ := h1 d g2 g3 g4
  obtain ⟨e2, e3, e4, e5, e6⟩ := h2 d b2 b3 b4
  refine ⟨e2, e3, e4, fun x hx => ?_, fun hi => e6 (b6 hi)⟩
  rcases b5 x hx with g | g
  · exact e5 x g
  · exact Or.inr g

theorem OshK.ofIn {B : Nat} {c : Coord} {o o' : OneShotState} (h : OshIn o o') : OshK B c o o' := by
  intro d g2 g3 g4
  refine ⟨h.delay.trans g2, ?_, Nat.le_trans h.load g4, fun x hx => Or.inl (h.rk ▸ hx),
    fun hi hk => by rw [h.rk, h.rnt]; exact hi (h.keys ▸ hk)⟩
  rcases h.pause with g | g
  · rw [g]; exact g3
  · rw [g, g2]; exact Nat.le_refl _

theorem OshK.ofOp {B : Nat} {c : Coord} {o o' : OneShotState} {ov : Option Coord} (op : OshOpT B o c o' ov) :
    OshK B c o o' := by
  cases op with
  | other => exact OshK.ofIn (OshIn.other o c)
  | activate T v hT =>
    intro d g2 g3 g4
    obtain ⟨a1, _, _, _, a5, a6, _, _⟩ := activate_fields o c T v
    obtain ⟨l1, l2, _⟩ := activate_load o c T v
    refine ⟨a5.trans g2, by rw [l2]; exact g3, by omega, fun x hx => ?_, fun _ hk => absurd hk a1⟩
    rw [a6]
    exact (handlePress_osk_fields o c).2.2.2.1 x hx
  | skip => exact fun d g2 g3 g4 => ⟨g2, g3, g4, fun x hx => Or.inl hx, fun hi => hi⟩

/-- **the outcome of a press on the stage-3 fragment**: `extra_waiting`, eager tap-dance, action queue,
sequences and configuration are untouched; states are only added, at the pressed coordinate; the
`OneShotState` keeps its bounds (`OshK`); at most one release (of a one-shot key that fell out of the
table of 16) is queued; either nothing waits afterwards or the pressed key is the undecided tap-hold
key (countdown at most `T`); the quick-tap window is at most `max old I` -/
structure PressK (T I B : Nat) (c : Coord) (s s' : Layout) : Prop where
  extra : s'.extraWaiting = s.extraWaiting
  tde : s'.tapDanceEager = s.tapDanceEager
  aq : s'.actionQueue = s.actionQueue
  seqs : s.activeSequences = [] → s'.activeSequences = []
  cfg : s'.cfg = s.cfg
  adds : ∀ st ∈ s'.states, st ∈ s.states ∨ (st.coord = some c ∧ StOK4 st)
  osh : OshK B c s.oneshot s'.oneshot
  queue : ∃ ov, s'.queue = s.queue ++ ovq ov
  wait : s'.waiting = none ∨ ∃ w, s'.waiting = some w ∧ w.coord = c ∧ WOK T w
  lpt : s'.lptTapHoldTimeout ≤ max s.lptTapHoldTimeout I

theorem PressK.ofO {T I B : Nat} {c : Coord} {s s' : Layout} (h : EffO T I c s s') : PressK T I B c s s' :=
  ⟨h.extra, h.eff.tde, h.eff.aq, h.eff.seqs, h.eff.cfg, h.eff.adds, OshK.ofIn h.eff.osh,
   ⟨none, by rw [h.eff.queue]; simp [ovq]⟩, h.wait, h.eff.lpt⟩

theorem PressK.ofU {T I B : Nat} {c : Coord} {s s' : Layout} (h : PressU T I B c s s') : PressK T I B c s s' := by
  obtain ⟨ov, op, hq⟩ := h.osh
  refine ⟨h.frame.extra, h.frame.tde, h.frame.aq, fun g => h.frame.seqs.trans g, h.frame.cfg,
    fun st hst => (h.adds.new st hst).imp id (fun g => ⟨g.1, StOK4.of g.2⟩), OshK.ofOp op, ⟨ov, hq⟩, ?_, ?_⟩
  · rcases h.wait with ⟨g, _⟩ | ⟨w, g1, g2, g3, _⟩
    · exact Or.inl g
    · exact Or.inr ⟨w, g1, g2, g3⟩
  · rcases h.wait with ⟨_, g⟩ | ⟨_, _, _, _, g⟩
    · exact Nat.le_trans g (Nat.le_max_left _ _)
    · exact Nat.le_trans g (Nat.le_max_right _ _)

theorem EffZ.thenK {T I B : Nat} {c : Coord} {a b e : Layout} (h1 : EffZ I c a b) (h2 : PressK T I B c b e) :
    PressK T I B c a e := by
  obtain ⟨ov, hq⟩ := h2.queue
  refine ⟨h2.extra.trans h1.extra, h2.tde.trans h1.eff.tde, h2.aq.trans h1.eff.aq, fun g => h2.seqs (h1.eff.seqs g),
    h2.cfg.trans h1.eff.cfg, fun st hst => ?_, (OshK.ofIn h1.eff.osh).trans h2.osh, ⟨ov, by rw [hq, h1.eff.queue]⟩,
    h2.wait, ?_⟩
  · rcases h2.adds st hst with g | g
    · exact h1.eff.adds st g
    · exact Or.inr g
  · have := h1.eff.lpt; have := h2.lpt; omega

theorem PressK.thenZ {T I B : Nat} {c : Coord} {a b e : Layout} (h1 : PressK T I B c a b) (h2 : EffZ I c b e) :
    PressK T I B c a e := by
  obtain ⟨ov, hq⟩ := h1.queue
  refine ⟨h2.extra.trans h1.extra, h2.eff.tde.trans h1.tde, h2.eff.aq.trans h1.aq, fun g => h2.eff.seqs (h1.seqs g),
    h2.eff.cfg.trans h1.cfg, fun st hst => ?_, h1.osh.trans (OshK.ofIn h2.eff.osh), ⟨ov, by rw [h2.eff.queue, hq]⟩,
    by rw [h2.waiting]; exact h1.wait, ?_⟩
  · rcases h2.eff.adds st hst with g | g
    · exact h1.adds st g
    · exact Or.inr g
  · have := h1.lpt; have := h2.eff.lpt; omega

/-! ## `do_action` at a layer position -/

theorem ok3_noOp (T I B : Nat) : Ok3 T I B .noOp := ⟨rfl, Nat.zero_le _, Nat.zero_le _, Nat.zero_le _, Nat.zero_le _⟩
theorem ok3_trans (T I B : Nat) : Ok3 T I B .trans := ⟨rfl, Nat.zero_le _, Nat.zero_le _, Nat.zero_le _, Nat.zero_le _⟩

theorem srcKey_ok3 {T I B : Nat} {c : LCfg} (hc : Cfg3 T I B c) (y : Nat) : Ok3 T I B (c.srcKey y) := by
  unfold LCfg.srcKey
  split
  · rename_i a hf
    exact hc.2 _ (List.mem_of_find?_eq_some hf)
  · exact ok3_noOp T I B

/-- the one-shot arm needs a budget of three -/
theorem oneShot_fuel (fuel : Nat) (s : Layout) (inner : Action) (hs : Simple inner) (T0 : Nat) (v : OneShotEnd)
    (c : Coord) (dl : Nat) (ls : List Nat) (r : Layout × CustomEv)
    (h : dispatch (fuel + 1) s (.oneShot inner T0 v) c dl false ls = .ok r) : ∃ g, fuel = g + 2 := by
  match fuel, h with
  | 0, h => simp only [dispatch, doAction] at h; cases h
  | 1, h =>
    exfalso
    cases inner <;> simp only [Simple] at hs <;> simp only [dispatch, doAction] at h <;> cases h
  | g + 2, _ => exact ⟨g, rfl⟩

/-- **the effect of `do_action` at a layer position of the stage-3 fragment**, by induction over the
recursion budget: nothing waiting and room in the queue before; `PressK` after -/
theorem engineTop (T I B : Nat) (cfg : LCfg) (hC : Cfg3 T I B cfg) : ∀ fuel : Nat,
    (∀ (s : Layout) (a : Action) (c : Coord) (dl : Nat) (ls : List Nat) (s' : Layout) (cu : CustomEv),
      doAction fuel s a c dl false ls = .ok (s', cu) → s.cfg = cfg → Ok3 T I B a → s.waiting = none →
      s.queue.length < QUEUE_SIZE → PressK T I B c s s') ∧
    (∀ (s : Layout) (a : Action) (c : Coord) (dl : Nat) (ls : List Nat) (s' : Layout) (cu : CustomEv),
      dispatch fuel s a c dl false ls = .ok (s', cu) → s.cfg = cfg → Ok3 T I B a → s.waiting = none →
      s.queue.length < QUEUE_SIZE → PressK T I B c s s') := by
  intro fuel
  induction fuel with
  | zero =>
    refine ⟨?_, ?_⟩
    · intro s a c dl ls s' cu h; simp only [doAction] at h; cases h
    · intro s a c dl ls s' cu h; simp only [dispatch] at h; cases h
  | succ fuel ih =>
    obtain ⟨ih1, ih2⟩ := ih
    refine ⟨?_, ?_⟩
    · -- doAction
      intro s a c dl ls s' cu h hcfg hA hw hq
      have zp := effZ_prelude I s c
      by_cases hat : a = .trans
      · subst hat
        simp only [doAction] at h
        split at h
        · cases h
        · rename_i a' ls' hm
          have hfa : Ok3 T I B a' := resolve_pred (Ok3 T I B) (ok3_noOp T I B) (ok3_trans T I B) s c
            (by rw [hcfg]; exact hC.1) (by rw [hcfg]; exact hC.2) _ _ _ hm
          exact zp.thenK (ih2 (prelude s c) a' c dl ls' s' cu h (zp.eff.cfg.trans hcfg) hfa (zp.waiting.trans hw)
            (by rw [zp.eff.queue]; exact hq))
      · rw [C04.doAction_of_ne hat] at h
        exact zp.thenK (ih2 (prelude s c) a c dl ls s' cu h (zp.eff.cfg.trans hcfg) hA (zp.waiting.trans hw)
          (by rw [zp.eff.queue]; exact hq))
    · -- dispatch
      intro s a c dl ls s' cu h hcfg hA hw hq
      obtain ⟨hTop, hc, hT, hI, hB⟩ := hA
      have viaIn : InAct a = true → PressK T I B c s s' := by
        intro hIn
        exact PressK.ofO ((engineIn T I (fuel + 1)).2.2.2.2.1 s a c dl ls s' cu h hIn hc hT hI hw)
      cases a <;> try (simp only [TopAct, Bool.false_eq_true] at hTop; done)
      case trans => simp only [dispatch] at h; cases h
      case noOp => exact viaIn rfl
      case keyCode => exact viaIn rfl
      case multipleKeyCodes => exact viaIn rfl
      case layer => exact viaIn rfl
      case defaultLayer => exact viaIn rfl
      case releaseState => exact viaIn rfl
      case custom => exact viaIn rfl
      case cancelSequences => exact viaIn rfl
      case oneShotIgnoreEventsTicks => exact viaIn rfl
      case holdTap => exact viaIn (by simpa only [TopAct, InAct] using hTop)
      case multipleActions => exact viaIn (by simpa only [TopAct, InAct] using hTop)
      case src =>
        simp only [dispatch] at h
        split at h
        · cases h
        · split at h
          · cases h
          · rename_i r hr
            obtain ⟨s1, c1⟩ := r
            injection h with h; injection h with h1 h2; subst h1
            have hs := srcKey_ok3 hC c.2
            rw [← hcfg] at hs
            exact ih1 s _ c dl [] s1 c1 hr hcfg hs hw hq
      case oneShot inner T0 v =>
        simp only [TopAct] at hTop
        simp only [nB] at hB
        have hs := simpleB_simple hTop
        obtain ⟨g, rfl⟩ := oneShot_fuel fuel s inner hs T0 v c dl ls (s', cu) h
        obtain ⟨e, u⟩ := dispatch_U g T I B s (.oneShot inner T0 v) hs ⟨Nat.zero_le _, Nat.zero_le _, hB⟩ c dl ls s' cu hw hq h
        exact PressK.ofU u
      case fork l r ks =>
        simp only [TopAct, Bool.and_eq_true] at hTop
        simp only [htCount] at hc
        simp only [nT] at hT
        simp only [nI] at hI
        simp only [nB] at hB
        simp only [dispatch] at h
        split at h
        · cases h
        · rename_i s1 c1 hr
          injection h with h; injection h with h1 h2; subst h1
          have hc' := Nat.max_le.mp hc
          have hT' := Nat.max_le.mp hT
          have hI' := Nat.max_le.mp hI
          have hB' := Nat.max_le.mp hB
          have hb := fork_branch (P := Ok3 T I B) ⟨hTop.1, hc'.1, hT'.1, hI'.1, hB'.1⟩
            ⟨hTop.2, hc'.2, hT'.2, hI'.2, hB'.2⟩ (forkHit s ks)
          exact (ih1 s _ c dl ls s1 c1 hr hcfg hb hw hq).thenZ (effZ_setRpt I c _ _)

/-- **a press taken from the queue, nothing waiting, on the stage-3 fragment** -/
theorem dequeue_press_K {T I B : Nat} {s : Layout} (hc : Cfg3 T I B s.cfg) (htde : s.tapDanceEager = none)
    (hw : s.waiting = none) (hq : s.queue.length < QUEUE_SIZE) (c : Coord) (since : Nat) (s' : Layout) (cu : CustomEv)
    (hd : dequeue FUEL s ⟨.press c, since⟩ = .ok (s', cu)) : PressK T I B c s s' := by
  rw [FUEL_succ] at hd
  simp only [dequeue, htde, bind, Except.bind] at hd
  split at hd
  · cases hd
  · rename_i order ho
    exact (engineTop T I B s.cfg hc 3999).1 s .trans c since order s' cu hd rfl (ok3_trans T I B) hw hq

end KVerif.QU3
