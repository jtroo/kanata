/-
C01 helper lemmas: quiescence on a tap-hold fragment (C05): plain keys, output chords,
layer-while-held, transparent / unmapped positions, and tap-hold keys of every variant (default,
press, release, custom release / except keys, any hold timeout and tap-hold interval) whose hold,
tap and timeout actions are one of the first three.

While a tap-hold key is undecided nothing is taken from the queue, so on this fragment
`extra_waiting` stays empty.  The invariant `HInv` says what `C06.Inv` says for the one-shot fragment
(every state belongs to a key that is down or whose release is queued), and the same of the
undecided tap-hold key.
-/
import KVerif.Lemmas.TapHold
import KVerif.Lemmas.Quiesce
import KVerif.Props.C02
namespace KVerif.Quiesce
open KVerif.L KVerif.C06

/-! ## the fragment -/

def FragH : Action → Prop
  | .noOp | .trans | .keyCode _ | .multipleKeyCodes _ | .layer _ => True
  | .holdTap _ hold tap to _ _ => Simple hold ∧ Simple tap ∧ Simple to
  | _ => False

def CfgH (c : LCfg) : Prop :=
  (∀ tbl ∈ c.layers, ∀ e ∈ tbl, FragH e.2) ∧ (∀ e ∈ c.srcKeys, FragH e.2)

/-- hold timeout and tap-hold interval of a tap-hold action -/
def htT : Action → Nat
  | .holdTap T _ _ _ _ _ => T
  | _ => 0
def htI : Action → Nat
  | .holdTap _ _ _ _ _ iv => iv
  | _ => 0

def maxHoldTimeout (c : LCfg) : Nat :=
  max (listMax (c.layers.map fun tbl => listMax (tbl.map fun e => htT e.2)))
      (listMax (c.srcKeys.map fun e => htT e.2))
def maxTapInterval (c : LCfg) : Nat :=
  max (listMax (c.layers.map fun tbl => listMax (tbl.map fun e => htI e.2)))
      (listMax (c.srcKeys.map fun e => htI e.2))

/-- every hold timeout of the configuration is at most `T`, every tap-hold interval at most `I` -/
def HBound (c : LCfg) (T I : Nat) : Prop :=
  (∀ tbl ∈ c.layers, ∀ e ∈ tbl, htT e.2 ≤ T ∧ htI e.2 ≤ I) ∧ (∀ e ∈ c.srcKeys, htT e.2 ≤ T ∧ htI e.2 ≤ I)

theorem hBound_max (c : LCfg) : HBound c (maxHoldTimeout c) (maxTapInterval c) :=
  have hT := le_max_actions htT c
  have hI := le_max_actions htI c
  ⟨fun tbl ht e he => ⟨hT.1 tbl ht e he, hI.1 tbl ht e he⟩, fun e he => ⟨hT.2 e he, hI.2 e he⟩⟩

/-! ## a waiting tap-hold key -/

structure WOK (T : Nat) (w : Waiting) : Prop where
  cfg : ∃ c, w.config = .holdTap c
  hold : Simple w.hold
  tap : Simple w.tap
  to : Simple w.timeoutAction
  timeout : w.timeout ≤ T

/-- `handle_hold_tap` decides whenever it looks at a queue that holds the key's release -/
theorem handleHoldTap_release (w : Waiting) (cfg : HTConfig) (q : List Queued)
    (hr : ∃ x ∈ q, x.ev = .release w.coord) (h : (handleHoldTap w cfg q).2 = none) : 0 < w.timeout := by
  unfold handleHoldTap at h
  split at h
  · rename_i hc
    simp only [Bool.and_eq_true, decide_eq_true_eq] at hc
    exact hc.2
  · exfalso
    split at h
    · cases h
    · simp only [] at h
      split at h
      · split at h <;> cases h
      · rename_i hf
        obtain ⟨x, hx, hxe⟩ := hr
        have := List.find?_eq_none.mp hf x hx
        simp [isCorrespondingRelease, hxe] at this

/-! ## what a press does on the fragment -/

/-- the tap-hold arm: a new waiting state, or (inside the tap-hold interval of a repeated tap) the
tap action at once -/
theorem dispatch_holdTap (fuel : Nat) (s : Layout) (T : Nat) (hold tap to : Action) (cfg : HTConfig) (iv : Nat)
    (c : Coord) (d : Nat) (ls : List Nat) (ht : Simple tap) :
    dispatch (fuel + 3) s (.holdTap T hold tap to cfg iv) c d false ls =
      if iv == 0 || c != s.lptCoord || s.lptTapHoldTimeout == 0 then
        if ls.length > MAX_ACTIVE_LAYERS then .error .layerStackOverflow
        else .ok (armHoldTapWait s c d T hold tap to cfg iv ls, .noEvent)
      else .ok (updateCoord (simpleArm (prelude { s with lptTapHoldTimeout := 0 } c) tap c false) c, .noEvent) := by
  simp only [dispatch, doAction_simple fuel _ tap ht]
  rfl

theorem armHoldTapWait_spec (s : Layout) (c : Coord) (d T : Nat) (hold tap to : Action) (cfg : HTConfig)
    (iv : Nat) (ls : List Nat) (hw : s.waiting = none) :
    ∃ w, (armHoldTapWait s c d T hold tap to cfg iv ls).waiting = some w ∧
      w.coord = c ∧ w.timeout ≤ T ∧ w.hold = hold ∧ w.tap = tap ∧ w.timeoutAction = to ∧
      w.config = .holdTap cfg ∧
      Frame s { armHoldTapWait s c d T hold tap to cfg iv ls with waiting := none } ∧
      (armHoldTapWait s c d T hold tap to cfg iv ls).queue = s.queue ∧
      (armHoldTapWait s c d T hold tap to cfg iv ls).states = s.states ∧
      (armHoldTapWait s c d T hold tap to cfg iv ls).oneshot = s.oneshot ∧
      (armHoldTapWait s c d T hold tap to cfg iv ls).lptTapHoldTimeout = iv ∧
      (armHoldTapWait s c d T hold tap to cfg iv ls).extraWaiting = s.extraWaiting := by
  unfold armHoldTapWait updateCoord
  simp only [hw]
  split <;> exact ⟨_, rfl, rfl, (by dsimp only; split <;> omega), rfl, rfl, rfl, rfl,
    ⟨hw.symm, rfl, rfl, rfl, rfl, rfl, rfl, rfl, rfl⟩, rfl, rfl, rfl, rfl, rfl⟩

/-- what a press on the fragment leaves alone -/
structure FrameH (s s' : Layout) : Prop where
  extra : s'.extraWaiting = s.extraWaiting
  tde : s'.tapDanceEager = s.tapDanceEager
  aq : s'.actionQueue = s.actionQueue
  seqs : s'.activeSequences = s.activeSequences
  cfg : s'.cfg = s.cfg
  dl : s'.defaultLayer = s.defaultLayer
  queue : s'.queue = s.queue
  osh : s'.oneshot = s.oneshot

theorem FrameH.refl (s : Layout) : FrameH s s := ⟨rfl, rfl, rfl, rfl, rfl, rfl, rfl, rfl⟩
theorem FrameH.trans {a b c : Layout} (h1 : FrameH a b) (h2 : FrameH b c) : FrameH a c :=
  ⟨h2.extra.trans h1.extra, h2.tde.trans h1.tde, h2.aq.trans h1.aq, h2.seqs.trans h1.seqs,
   h2.cfg.trans h1.cfg, h2.dl.trans h1.dl, h2.queue.trans h1.queue, h2.osh.trans h1.osh⟩

theorem FrameH.of_frame {s s' : Layout} (f : Frame s s') (hq : s'.queue = s.queue) (ho : s'.oneshot = s.oneshot) :
    FrameH s s' := ⟨f.extra, f.tde, f.aq, f.seqs, f.cfg, f.dl, hq, ho⟩

theorem fragH_cases {a : Action} (hf : FragH a) :
    (a = .noOp ∨ Simple a) ∨ a = .trans ∨
    ∃ T hold tap to cfg iv, a = .holdTap T hold tap to cfg iv ∧ Simple hold ∧ Simple tap ∧ Simple to := by
  cases a <;> simp only [FragH] at hf
  case noOp => exact .inl (.inl rfl)
  case trans => exact .inr (.inl rfl)
  case holdTap T hold tap to cfg iv => exact .inr (.inr ⟨T, hold, tap, to, cfg, iv, rfl, hf⟩)
  all_goals exact .inl (.inr trivial)

theorem simpleArm_frameH (s : Layout) (a : Action) (hs : Simple a) (c : Coord) (hk : s.oneshot.keys = []) :
    FrameH s (simpleArm s a c false) ∧ Adds c s (simpleArm s a c false) ∧
    (simpleArm s a c false).waiting = s.waiting ∧
    (simpleArm s a c false).lptTapHoldTimeout = s.lptTapHoldTimeout := by
  have sp := simpleArm_spec s a hs c false
  have ho : (simpleArm s a c false).oneshot = s.oneshot := by
    rw [sp.osh]
    simp only [Bool.false_eq_true, if_false]
    rw [handlePress_inactive _ _ hk]
  exact ⟨FrameH.of_frame sp.frame sp.queue ho, sp.adds, sp.frame.waiting, simpleArm_lpt s a c false⟩

theorem prelude_frameH (s : Layout) (c : Coord) :
    FrameH s (prelude s c) ∧ Adds c s (prelude s c) ∧ (prelude s c).waiting = s.waiting ∧
    (prelude s c).lptTapHoldTimeout ≤ s.lptTapHoldTimeout ∧ ∀ L, GrowsL L s.states (prelude s c).states := by
  obtain ⟨p1, p2, p3, p4⟩ := prelude_spec s c
  exact ⟨FrameH.of_frame p1 p3 p2, prelude_adds s c, p1.waiting, prelude_lpt s c, fun L => p4 ▸ GrowsL.filter L _ _⟩

theorem simple_step (s : Layout) (a : Action) (hs : Simple a) (c : Coord) (hk : s.oneshot.keys = []) :
    FrameH s (simpleArm (prelude s c) a c false) ∧ Adds c s (simpleArm (prelude s c) a c false) ∧
    (simpleArm (prelude s c) a c false).waiting = s.waiting ∧
    (simpleArm (prelude s c) a c false).lptTapHoldTimeout ≤ s.lptTapHoldTimeout := by
  obtain ⟨p1, p2, p3, p4, _⟩ := prelude_frameH s c
  obtain ⟨f1, f2, f3, f4⟩ := simpleArm_frameH (prelude s c) a hs c (p1.osh ▸ hk)
  exact ⟨p1.trans f1, p2.trans f2, f3.trans p3, f4 ▸ p4⟩

/-- **a plain action** — `NoOp`, a key, an output chord, layer-while-held — dispatched with no one-shot key
active: the arm all fragments share. -/
theorem dispatch_plain (fuel : Nat) (s : Layout) {a : Action} (ha : a = .noOp ∨ Simple a) (c : Coord) (dl : Nat)
    (ls : List Nat) (hk : s.oneshot.keys = []) :
    ∃ s', dispatch (fuel + 1) s a c dl false ls = .ok (s', .noEvent) ∧ FrameH s s' ∧ Adds c s s' ∧
      s'.waiting = s.waiting ∧ s'.lptTapHoldTimeout = s.lptTapHoldTimeout ∧
      ∀ L, (∀ v, a = .layer v → v < L) → GrowsL L s.states s'.states := by
  rcases ha with rfl | hs
  · obtain ⟨n1, n2, n3, n4⟩ := armNoOp_spec s .noOp c
    have ho : (armNoOp s .noOp c false).oneshot = s.oneshot := by
      rw [n4]; split
      · rw [handlePress_inactive _ _ hk]
      · rfl
    exact ⟨_, dispatch_noOp .., FrameH.of_frame n1 n2 ho, Adds.of_states n3, n1.waiting, armNoOp_lpt s .noOp c false,
      fun L _ => by rw [n3]; exact GrowsL.refl L _⟩
  · obtain ⟨f1, f2, f3, f4⟩ := simpleArm_frameH s a hs c hk
    exact ⟨_, dispatch_simple _ _ hs .., f1, f2, f3, f4, fun L h => simpleArm_growsL L s a h c false⟩

theorem dispatch_H (fuel : Nat) (T I : Nat) (s : Layout) (a : Action) (hf : FragH a) (hb : htT a ≤ T ∧ htI a ≤ I)
    (c : Coord) (dl : Nat) (ls : List Nat) (s' : Layout) (cu : CustomEv) (hw : s.waiting = none)
    (hk : s.oneshot.keys = []) (h : dispatch (fuel + 3) s a c dl false ls = .ok (s', cu)) :
    cu = .noEvent ∧ FrameH s s' ∧ Adds c s s' ∧
    ((s'.waiting = none ∧ s'.lptTapHoldTimeout ≤ s.lptTapHoldTimeout) ∨
     (∃ w, s'.waiting = some w ∧ w.coord = c ∧ WOK T w ∧ s'.lptTapHoldTimeout ≤ I)) := by
  rcases fragH_cases hf with ha | rfl | ⟨T0, hold, tap, to, cfg, iv, rfl, hf⟩
  · obtain ⟨s1, e, f, ad, w, l, _⟩ := dispatch_plain (fuel + 2) s ha c dl ls hk
    cases e.symm.trans h
    exact ⟨rfl, f, ad, Or.inl ⟨w.trans hw, Nat.le_of_eq l⟩⟩
  · rw [dispatch_trans] at h; cases h
  · simp only [htT, htI] at hb
    rw [dispatch_holdTap fuel s T0 hold tap to cfg iv c dl ls hf.2.1] at h
    split at h
    · split at h
      · cases h
      · cases h
        obtain ⟨w, e1, e2, e3, e4, e5, e6, e7, e8, e9, e10, e11, e12, e13⟩ :=
          armHoldTapWait_spec s c dl T0 hold tap to cfg iv ls hw
        exact ⟨rfl, ⟨e13, e8.tde, e8.aq, e8.seqs, e8.cfg, e8.dl, e9, e11⟩, Adds.of_states e10,
          Or.inr ⟨w, e1, e2, ⟨⟨cfg, e7⟩, e4 ▸ hf.1, e5 ▸ hf.2.1, e6 ▸ hf.2.2, Nat.le_trans e3 hb.1⟩, e12.symm ▸ hb.2⟩⟩
    · cases h
      obtain ⟨f1, f2, f3, f4⟩ := simple_step { s with lptTapHoldTimeout := 0 } tap hf.2.1 c hk
      obtain ⟨u1, u2, u3, u4⟩ := updateCoord_spec (simpleArm (prelude { s with lptTapHoldTimeout := 0 } c) tap c false) c
      have f0 : FrameH s { s with lptTapHoldTimeout := 0 } := ⟨rfl, rfl, rfl, rfl, rfl, rfl, rfl, rfl⟩
      refine ⟨rfl, (f0.trans f1).trans (FrameH.of_frame u1 u3 u2), ?_, Or.inl ⟨?_, ?_⟩⟩
      · exact ((Adds.of_states (c := c) (s := s) (s' := { s with lptTapHoldTimeout := 0 }) rfl).trans f2).trans
          (Adds.of_states u4)
      · rw [u1.waiting, f3]; exact hw
      · rw [updateCoord_lpt]
        exact Nat.le_trans f4 (Nat.zero_le _)

/-! ## the invariant and the potential -/

structure HInv (T I d : Nat) (s : Layout) (down : List Coord) : Prop where
  extra : s.extraWaiting = []
  tde : s.tapDanceEager = none
  aq : s.actionQueue = []
  seqs : s.activeSequences = []
  states : ∀ st ∈ s.states, StOK st
  osh : s.oneshot.keys = []
  delay : s.oneshot.pauseInputProcessingDelay = d
  pause : s.oneshot.pauseInputProcessingTicks ≤ d
  /-- the undecided tap-hold key: well-formed, input not paused, and the key is down or its release is queued -/
  wok : ∀ w, s.waiting = some w → WOK T w ∧ s.oneshot.pauseInputProcessingTicks = 0 ∧
    (w.coord ∈ down ∨ ∃ x ∈ s.queue, x.ev = .release w.coord)
  cfg : CfgH s.cfg
  bound : HBound s.cfg T I
  qlen : s.queue.length ≤ QUEUE_SIZE
  qwf : QWF down s.queue
  owned : ∀ st ∈ s.states, ∀ c, st.coord = some c → c ∈ down ∨ ∃ x ∈ s.queue, x.ev = .release c
  lpt : s.lptTapHoldTimeout ≤ I

/-- a freshly created layout satisfies the invariant -/
theorem init_hinv (cfg : LCfg) (hc : CfgH cfg) (T I : Nat) (hb : HBound cfg T I) (tv2 dfl qth : Bool) (osd : Nat) :
    HInv T I osd ({ cfg := cfg, transV2 := tv2, delegateToFirstLayer := dfl, quickTapHoldTimeout := qth,
                    oneshot := { pauseInputProcessingDelay := osd } } : Layout) [] :=
  ⟨rfl, rfl, rfl, rfl, fun _ h => (by cases h), rfl, rfl, Nat.zero_le _, fun _ h => (by cases h), hc, hb,
   Nat.zero_le _, trivial, fun _ h => (by cases h), Nat.zero_le _⟩

/-- what the undecided tap-hold key still costs: its countdown, the decision tick, the input pause
that follows a hold or tap decision -/
def wLoad (d : Nat) : Option Waiting → Nat
  | some w => w.timeout + d + 1
  | none => 0

/-- an upper bound for the ticks until the layout is at rest: a queued press weighs
`T + d + I + 2` (it may start a countdown of `T`, the pause `d` after its decision and a quick-tap
window of `I`), a queued release 1 -/
def hPot (T I d : Nat) (s : Layout) : Nat :=
  queueLoad (T + d + I) s.queue + wLoad d s.waiting + s.oneshot.pauseInputProcessingTicks + s.lptTapHoldTimeout

theorem tickPre_H {T I d : Nat} {s : Layout} {down : List Coord} (h : HInv T I d s down) :
    tickPre s = { s with queue := age s.queue, lptTapHoldTimeout := s.lptTapHoldTimeout - 1,
                         histKeys := histTick s.histKeys, histInputs := histTick s.histInputs } := by
  unfold tickPre
  simp only [h.tde]
  simp (disch := first | exact h.seqs | exact h.states) only [C04.processSequences_inert]
  rfl

theorem HInv.pre {T I d : Nat} {s : Layout} {down : List Coord} (h : HInv T I d s down) :
    HInv T I d (tickPre s) down ∧ (tickPre s).queue = age s.queue ∧ (tickPre s).waiting = s.waiting ∧
    (tickPre s).oneshot = s.oneshot ∧ (tickPre s).lptTapHoldTimeout = s.lptTapHoldTimeout - 1 ∧
    (tickPre s).cfg = s.cfg ∧ (tickPre s).defaultLayer = s.defaultLayer ∧ (tickPre s).states = s.states := by
  rw [tickPre_H h]
  refine ⟨{ h with
    wok := fun w hw => ⟨(h.wok w hw).1, (h.wok w hw).2.1, (h.wok w hw).2.2.imp_right mem_age_release⟩,
    qlen := by simpa [age] using h.qlen, qwf := QWF_age _ h.qwf,
    owned := fun st hst c hc => (h.owned st hst c hc).imp_right mem_age_release,
    lpt := Nat.le_trans (Nat.sub_le _ _) h.lpt }, rfl, rfl, rfl, rfl, rfl, rfl, rfl⟩

/-! ### the tick on which the tap-hold key is decided -/

/-- the state the chosen action is performed on: the waiting state taken out, the input pause set to `pz` -/
structure Base (s base : Layout) (pz : Nat) : Prop where
  waiting : base.waiting = none
  frame : FrameH s { base with oneshot := s.oneshot }
  states : base.states = s.states
  osh : base.oneshot = { s.oneshot with pauseInputProcessingTicks := pz }
  lpt : base.lptTapHoldTimeout ≤ s.lptTapHoldTimeout

theorem holdPrep_base (s : Layout) (w1 : Waiting) :
    Base s (holdPrep s.clearWaiting w1) s.oneshot.pauseInputProcessingDelay := by
  unfold holdPrep Layout.clearWaiting
  split
  · exact ⟨rfl, ⟨rfl, rfl, rfl, rfl, rfl, rfl, rfl, rfl⟩, rfl, rfl, Nat.zero_le _⟩
  · exact ⟨rfl, ⟨rfl, rfl, rfl, rfl, rfl, rfl, rfl, rfl⟩, rfl, rfl, Nat.le_refl _⟩

theorem timeoutPrep_base (s : Layout) (w1 : Waiting) :
    Base s (timeoutPrep s.clearWaiting w1) s.oneshot.pauseInputProcessingTicks := by
  unfold timeoutPrep Layout.clearWaiting
  split
  · exact ⟨rfl, ⟨rfl, rfl, rfl, rfl, rfl, rfl, rfl, rfl⟩, rfl, rfl, Nat.zero_le _⟩
  · exact ⟨rfl, ⟨rfl, rfl, rfl, rfl, rfl, rfl, rfl, rfl⟩, rfl, rfl, Nat.le_refl _⟩

theorem clearWaiting_base (s : Layout) : Base s s.clearWaiting s.oneshot.pauseInputProcessingTicks :=
  ⟨rfl, ⟨rfl, rfl, rfl, rfl, rfl, rfl, rfl, rfl⟩, rfl, rfl, Nat.le_refl _⟩

/-! ### the third stage of a tick, equations -/

theorem tickMain_waiting_eq (s : Layout) (w : Waiting) (cfgc : HTConfig) (hw : s.waiting = some w)
    (hc : w.config = .holdTap cfgc) :
    tickMain s =
      applyWaitingAction
        { s with waiting := some (handleHoldTap { w with timeout := w.timeout - 1, ticks := min (w.ticks + 1) U16_MAX } cfgc s.queue).1 }
        ((handleHoldTap { w with timeout := w.timeout - 1, ticks := min (w.ticks + 1) U16_MAX } cfgc s.queue).2.map (·, none))
        none .noEvent := by
  unfold tickMain
  simp only [hw, C05.tickWt_holdTap w cfgc hc]

theorem apply_hold (s : Layout) (w1 : Waiting) (hh : Simple w1.hold) :
    applyWaitingAction { s with waiting := some w1 } (some (.hold, none)) none .noEvent =
      .ok (simpleArm (prelude (holdPrep s.clearWaiting w1) w1.coord) w1.hold w1.coord false, .noEvent) := by
  simp only [applyWaitingAction]
  rw [FUEL_succ]
  simp only [waitingIntoHold, takeWaiting, Option.map_some]
  rw [show (3999 : Nat) = 3997 + 2 from rfl, doAction_simple 3997 _ w1.hold hh]
  rfl

theorem apply_tap (s : Layout) (w1 : Waiting) (hh : Simple w1.tap) :
    applyWaitingAction { s with waiting := some w1 } (some (.tap, none)) none .noEvent =
      .ok (tapPost (simpleArm (prelude s.clearWaiting w1.coord) w1.tap w1.coord false), .noEvent) := by
  simp only [applyWaitingAction, waitingIntoTap, takeWaiting, Option.map_some]
  rw [show FUEL = 3998 + 2 from rfl, doAction_simple 3998 _ w1.tap hh]
  rfl

theorem apply_timeout (s : Layout) (w1 : Waiting) (hh : Simple w1.timeoutAction) :
    applyWaitingAction { s with waiting := some w1 } (some (.timeout, none)) none .noEvent =
      .ok (simpleArm (prelude (timeoutPrep s.clearWaiting w1) w1.coord) w1.timeoutAction w1.coord false, .noEvent) := by
  simp only [applyWaitingAction, waitingIntoTimeout, takeWaiting, Option.map_some]
  rw [show FUEL = 3998 + 2 from rfl, doAction_simple 3998 _ w1.timeoutAction hh]
  rfl

theorem tapPost_hinv {T I d : Nat} {s : Layout} {down : List Coord} (h : HInv T I d s down) (hw : s.waiting = none) :
    HInv T I d (tapPost s) down :=
  { h with pause := Nat.le_of_eq h.delay, wok := fun _ hw' => nomatch hw.symm.trans hw' }

theorem wLoad_none (d : Nat) : wLoad d none = 0 := rfl
theorem wLoad_some (d : Nat) (w : Waiting) : wLoad d (some w) = w.timeout + d + 1 := rfl

/-- a press taken from the queue, nothing waiting -/
theorem dequeue_press_H {T I : Nat} {s : Layout} (hc : CfgH s.cfg) (hb : HBound s.cfg T I)
    (htde : s.tapDanceEager = none) (hw : s.waiting = none) (hk : s.oneshot.keys = [])
    (c : Coord) (since : Nat) (s' : Layout) (cu : CustomEv)
    (hd : dequeue FUEL s ⟨.press c, since⟩ = .ok (s', cu)) :
    cu = .noEvent ∧ FrameH s s' ∧ Adds c s s' ∧
    ((s'.waiting = none ∧ s'.lptTapHoldTimeout ≤ s.lptTapHoldTimeout) ∨
     (∃ w, s'.waiting = some w ∧ w.coord = c ∧ WOK T w ∧ s'.lptTapHoldTimeout ≤ I)) := by
  rw [FUEL_5] at hd
  simp only [dequeue, htde, bind, Except.bind] at hd
  split at hd
  · cases hd
  · rename_i order ho
    simp only [doAction] at hd
    split at hd
    · cases hd
    · rename_i a ls hm
      have hfa := resolve_pred (fun a => FragH a ∧ htT a ≤ T ∧ htI a ≤ I)
        ⟨trivial, Nat.zero_le _, Nat.zero_le _⟩ ⟨trivial, Nat.zero_le _, Nat.zero_le _⟩ s c
        (fun tbl ht e he => ⟨hc.1 tbl ht e he, hb.1 tbl ht e he⟩) (fun e he => ⟨hc.2 e he, hb.2 e he⟩) _ _ _ hm
      obtain ⟨p1, p2, p3, p4⟩ := prelude_spec s c
      obtain ⟨r1, r2, r3, r4⟩ := dispatch_H 3995 T I (prelude s c) a hfa.1 hfa.2 c since ls s' cu
        (p1.waiting.trans hw) (by rw [p2]; exact hk) hd
      refine ⟨r1, (FrameH.of_frame p1 p3 p2).trans r2, (prelude_adds s c).trans r3, ?_⟩
      rcases r4 with ⟨g1, g2⟩ | g
      · exact Or.inl ⟨g1, Nat.le_trans g2 (prelude_lpt s c)⟩
      · exact Or.inr g

structure MainOut (T I d : Nat) (s s2 : Layout) (down : List Coord) : Prop where
  inv : HInv T I d s2 down
  cfg : s2.cfg = s.cfg
  dl : s2.defaultLayer = s.defaultLayer
  queue : s2.queue = s.queue ∨ ∃ q, s.queue = q :: s2.queue
  pot : down = [] → hPot T I d s2 + 1 ≤ hPot T I d s ∨
    (s.queue = [] ∧ s.waiting = none ∧ s.oneshot.pauseInputProcessingTicks = 0 ∧ s2 = s)
  /-- an undecided key is decided, or its countdown goes on: with no key down its release is queued, and
  then the countdown does not run out undecided -/
  wait : ∀ w, s.waiting = some w → s2.waiting = none ∨
    ∃ w1, s2.waiting = some w1 ∧ w1.timeout = w.timeout - 1 ∧ (down = [] → 0 < w.timeout - 1)

theorem MainOut.queue_mem {T I d : Nat} {s s2 : Layout} {down : List Coord} (h : MainOut T I d s s2 down) :
    ∀ x ∈ s2.queue, x ∈ s.queue := by
  rcases h.queue with e | ⟨q, e⟩ <;> rw [e]
  · exact fun _ hx => hx
  · exact fun _ hx => List.mem_cons_of_mem _ hx

theorem MainOut.queue_len {T I d : Nat} {s s2 : Layout} {down : List Coord} (h : MainOut T I d s s2 down) :
    s2.queue.length ≤ s.queue.length := by
  rcases h.queue with e | ⟨q, e⟩ <;> rw [e]
  · exact Nat.le_refl _
  · exact Nat.le_succ _

/-- the tick on which the undecided key `w` is decided: its action `a` is performed on `base` (the waiting
state taken out, the input pause at `pz ≤ d`); after a tap `tapPost` follows.  The countdown, the decision
tick and the pause `d` were in the potential. -/
theorem after_decision {T I d : Nat} {s s2 : Layout} {down : List Coord} (h : HInv T I d s down) {w : Waiting}
    (hw : s.waiting = some w) {base : Layout} {pz : Nat} (hb : Base s base pz) (hpz : pz ≤ d) {a : Action}
    (ha : Simple a)
    (hs2 : s2 = simpleArm (prelude base w.coord) a w.coord false ∨
      s2 = tapPost (simpleArm (prelude base w.coord) a w.coord false)) : MainOut T I d s s2 down := by
  obtain ⟨f1, f2, f3, f4⟩ := simple_step base a ha w.coord (by rw [hb.osh]; exact h.osh)
  obtain ⟨_, wp, w3⟩ := h.wok w hw
  generalize simpleArm (prelude base w.coord) a w.coord false = t at f1 f2 f3 f4 hs2
  have fb := hb.frame
  have hq : t.queue = s.queue := f1.queue.trans fb.queue
  have ho : t.oneshot = { s.oneshot with pauseInputProcessingTicks := pz } := f1.osh.trans hb.osh
  have hpt : t.oneshot.pauseInputProcessingTicks = pz := by rw [ho]
  have hwn : t.waiting = none := f3.trans hb.waiting
  have hcfg : t.cfg = s.cfg := f1.cfg.trans fb.cfg
  have hdl : t.defaultLayer = s.defaultLayer := f1.dl.trans fb.dl
  have hl : t.lptTapHoldTimeout ≤ s.lptTapHoldTimeout := Nat.le_trans f4 hb.lpt
  have it : HInv T I d t down :=
    { extra := f1.extra.trans (fb.extra.trans h.extra), tde := f1.tde.trans (fb.tde.trans h.tde),
      aq := f1.aq.trans (fb.aq.trans h.aq), seqs := f1.seqs.trans (fb.seqs.trans h.seqs),
      states := fun st hst => (f2.new st hst).elim (fun g => h.states st (hb.states ▸ g)) (·.2),
      osh := (by rw [ho]; exact h.osh), delay := (by rw [ho]; exact h.delay), pause := hpt ▸ hpz,
      wok := fun w' hw' => (by rw [hwn] at hw'; cases hw'),
      cfg := hcfg ▸ h.cfg, bound := hcfg ▸ h.bound, qlen := hq ▸ h.qlen, qwf := hq ▸ h.qwf,
      lpt := Nat.le_trans hl h.lpt,
      owned := fun st hst c hc => by
        rw [hq]
        rcases f2.new st hst with g | g
        · exact h.owned st (hb.states ▸ g) c hc
        · obtain rfl : w.coord = c := Option.some.inj (g.1.symm.trans hc)
          exact w3 }
  have hP0 : hPot T I d s = queueLoad (T + d + I) s.queue + (w.timeout + d + 1) + 0 + s.lptTapHoldTimeout := by
    unfold hPot; rw [hw, wLoad_some, wp]
  rcases hs2 with rfl | rfl
  · refine ⟨it, hcfg, hdl, Or.inl hq, fun _ => Or.inl ?_, fun _ _ => Or.inl hwn⟩
    rw [hP0]
    unfold hPot
    rw [hq, hwn, wLoad_none, hpt]
    omega
  · refine ⟨tapPost_hinv it hwn, hcfg, hdl, Or.inl hq, fun _ => Or.inl ?_, fun _ _ => Or.inl hwn⟩
    rw [hP0]
    show queueLoad (T + d + I) t.queue + wLoad d t.waiting + t.oneshot.pauseInputProcessingDelay +
      t.lptTapHoldTimeout + 1 ≤ _
    rw [hq, hwn, wLoad_none, it.delay]
    omega

theorem HInv.main_waiting {T I d : Nat} {s s2 : Layout} {down : List Coord} {c2 : CustomEv} (h : HInv T I d s down)
    {w : Waiting} (hw : s.waiting = some w) (hm : tickMain s = .ok (s2, c2)) :
    MainOut T I d s s2 down ∧ c2 = .noEvent := by
  obtain ⟨wk, wp, wr⟩ := h.wok w hw
  obtain ⟨cfgc, hc⟩ := wk.cfg
  rw [tickMain_waiting_eq s w cfgc hw hc] at hm
  have hf := C05.handleHoldTap_fields { w with timeout := w.timeout - 1, ticks := min (w.ticks + 1) U16_MAX } cfgc s.queue
  have hnn := C05.handleHoldTap_ne_noOp { w with timeout := w.timeout - 1, ticks := min (w.ticks + 1) U16_MAX } cfgc s.queue
  have hrel := handleHoldTap_release { w with timeout := w.timeout - 1, ticks := min (w.ticks + 1) U16_MAX } cfgc s.queue
  generalize handleHoldTap { w with timeout := w.timeout - 1, ticks := min (w.ticks + 1) U16_MAX } cfgc s.queue = res at hm hf hnn hrel
  obtain ⟨w1, r⟩ := res
  obtain ⟨f1, f2, f3, f4, f5, f6, f7, f8, f9⟩ := hf
  simp only at f1 f2 f3 f4 f5 f6 f7 f8 f9 hm hnn hrel
  cases r with
  | none =>
    simp only [Option.map_none, applyWaitingAction] at hm
    cases hm
    have hpos : down = [] → 0 < w.timeout - 1 := fun hd => by
      refine hrel ?_ rfl
      rcases wr with g | g
      · rw [hd] at g; cases g
      · exact g
    refine ⟨⟨{ h with wok := ?_ }, rfl, rfl, Or.inl rfl, fun hd => Or.inl ?_, fun w' hw' => ?_⟩, rfl⟩
    · intro w' hw'
      obtain rfl : w1 = w' := Option.some.inj hw'
      exact ⟨⟨⟨cfgc, f2.trans hc⟩, f5 ▸ wk.hold, f6 ▸ wk.tap, f7 ▸ wk.to, f1 ▸ Nat.le_trans (Nat.sub_le _ _) wk.timeout⟩,
        wp, f3 ▸ wr⟩
    · have := hpos hd
      show queueLoad (T + d + I) s.queue + wLoad d (some w1) + s.oneshot.pauseInputProcessingTicks +
        s.lptTapHoldTimeout + 1 ≤ hPot T I d s
      unfold hPot
      rw [hw, wLoad_some, wLoad_some, f1]
      omega
    · obtain rfl : w = w' := Option.some.inj (hw.symm.trans hw')
      exact Or.inr ⟨w1, rfl, f1, hpos⟩
  | some a =>
    simp only [Option.map_some] at hm
    cases a with
    | hold =>
      rw [apply_hold s w1 (f5 ▸ wk.hold)] at hm
      cases hm
      exact ⟨after_decision h hw (h.delay ▸ holdPrep_base s w1) (Nat.le_refl _) wk.hold (Or.inl (by rw [f3, f5])), rfl⟩
    | tap =>
      rw [apply_tap s w1 (f6 ▸ wk.tap)] at hm
      cases hm
      exact ⟨after_decision h hw (clearWaiting_base s) h.pause wk.tap (Or.inr (by rw [f3, f6])), rfl⟩
    | timeout =>
      rw [apply_timeout s w1 (f7 ▸ wk.to)] at hm
      cases hm
      exact ⟨after_decision h hw (timeoutPrep_base s w1) h.pause wk.to (Or.inl (by rw [f3, f7])), rfl⟩
    | noOp => exact absurd rfl hnn

theorem HInv.main_idle {T I d : Nat} {s s2 : Layout} {down : List Coord} {c2 : CustomEv} (h : HInv T I d s down)
    (hw : s.waiting = none) (hm : tickMain s = .ok (s2, c2)) : MainOut T I d s s2 down ∧ c2 = .noEvent := by
  have nw : ∀ {w : Waiting} {P : Prop}, s.waiting = some w → P := fun hw' => nomatch hw.symm.trans hw'
  have hP0 : hPot T I d s = queueLoad (T + d + I) s.queue + 0 + s.oneshot.pauseInputProcessingTicks + s.lptTapHoldTimeout := by
    unfold hPot; rw [hw, wLoad_none]
  by_cases hp : 0 < s.oneshot.pauseInputProcessingTicks
  · rw [tickMain_paused hw h.extra hp] at hm
    cases hm
    refine ⟨⟨{ h with pause := Nat.le_trans (Nat.sub_le _ _) h.pause, wok := fun _ hw' => nw hw' },
      rfl, rfl, Or.inl rfl, fun _ => Or.inl ?_, fun _ hw' => nw hw'⟩, rfl⟩
    rw [hP0]
    show queueLoad (T + d + I) s.queue + wLoad d s.waiting + (s.oneshot.pauseInputProcessingTicks - 1) +
      s.lptTapHoldTimeout + 1 ≤ _
    rw [hw, wLoad_none]
    omega
  · have hp0 : s.oneshot.pauseInputProcessingTicks = 0 := by omega
    cases hq : s.queue with
    | nil =>
      rw [tickMain_empty hw h.extra hp0 hq] at hm
      cases hm
      exact ⟨⟨h, rfl, rfl, Or.inl rfl, fun _ => Or.inr ⟨hq, hw, hp0, rfl⟩, fun _ hw' => nw hw'⟩, rfl⟩
    | cons q rest =>
      rw [tickMain_pops hw h.extra hp0 q rest hq] at hm
      have hwf := h.qwf
      rw [hq] at hwf
      have hlen : rest.length ≤ QUEUE_SIZE := by
        have := h.qlen; rw [hq] at this; exact Nat.le_of_succ_le this
      -- what is owned through a queued release other than the head's is still owned
      have inRest : ∀ {c' : Coord}, (∀ n, q ≠ ⟨.release c', n⟩) →
          (c' ∈ down ∨ ∃ x ∈ s.queue, x.ev = .release c') → c' ∈ down ∨ ∃ x ∈ rest, x.ev = .release c' := by
        intro c' hne g
        rcases g with g | ⟨x, hx, hxe⟩
        · exact Or.inl g
        · rw [hq] at hx
          rcases List.mem_cons.mp hx with rfl | hx
          · exact absurd (by cases x; cases hxe; rfl) (hne x.since)
          · exact Or.inr ⟨x, hx, hxe⟩
      obtain ⟨ev, n⟩ := q
      cases ev with
      | release c =>
        rw [dequeue_release_calm (s := s.setQueue rest) h.states c n,
          handleRelease_inactive (s.setQueue rest).oneshot c h.osh] at hm
        simp only [afterRelease, if_true] at hm
        cases hm
        refine ⟨⟨{ h with
            states := C04.stok_filter _ h.states, wok := fun _ hw' => nw hw', qlen := hlen, qwf := hwf.2,
            owned := ?_ }, rfl, rfl, Or.inr ⟨_, hq⟩, fun _ => Or.inl ?_, fun _ hw' => nw hw'⟩, rfl⟩
        · intro st hst c' hc'
          obtain ⟨m1, m2⟩ := List.mem_filter.mp hst
          refine inRest (fun n' e => ?_) (h.owned st m1 c' hc')
          cases e
          simp [hc'] at m2
        · rw [hP0, hq, queueLoad_cons]
          show queueLoad (T + d + I) rest + wLoad d s.waiting + s.oneshot.pauseInputProcessingTicks +
            s.lptTapHoldTimeout + 1 ≤ _
          rw [hw, wLoad_none]
          have : evW (T + d + I) ⟨.release c, n⟩ = 1 := rfl
          omega
      | press c =>
        obtain ⟨r1, fr, ad, wd⟩ := dequeue_press_H (T := T) (I := I) (s := s.setQueue rest) h.cfg h.bound h.tde hw h.osh
          c n s2 c2 hm
        have hhead : c ∈ down ∨ ∃ x ∈ rest, x.ev = .release c := hwf.1
        have hq2 : s2.queue = rest := fr.queue
        have ho2 : s2.oneshot = s.oneshot := fr.osh
        refine ⟨⟨{
            extra := fr.extra.trans h.extra, tde := fr.tde.trans h.tde, aq := fr.aq.trans h.aq,
            seqs := fr.seqs.trans h.seqs, states := fun st hst => (ad.new st hst).elim (h.states st) (·.2),
            osh := ho2 ▸ h.osh, delay := ho2 ▸ h.delay, pause := ho2 ▸ h.pause, wok := ?_, cfg := fr.cfg ▸ h.cfg,
            bound := fr.cfg ▸ h.bound, qlen := hq2 ▸ hlen, qwf := hq2 ▸ hwf.2, owned := ?_, lpt := ?_ },
          fr.cfg, fr.dl, Or.inr ⟨_, hq2 ▸ hq⟩, fun _ => Or.inl ?_, fun _ hw' => nw hw'⟩, r1⟩
        · intro w' hw'
          rcases wd with ⟨g, _⟩ | ⟨w'', g1, g2, g3, _⟩
          · rw [g] at hw'; cases hw'
          · obtain rfl : w'' = w' := Option.some.inj (g1.symm.trans hw')
            exact ⟨g3, ho2 ▸ hp0, by rw [g2, hq2]; exact hhead⟩
        · intro st hst c' hc'
          rw [hq2]
          rcases ad.new st hst with g | g
          · exact inRest (fun n' e => by cases e) (h.owned st g c' hc')
          · obtain rfl : c = c' := Option.some.inj (g.1.symm.trans hc')
            exact hhead
        · rcases wd with ⟨_, g⟩ | ⟨_, _, _, _, g⟩
          · exact Nat.le_trans g h.lpt
          · exact g
        · rw [hP0, hq, queueLoad_cons]
          unfold hPot
          rw [hq2, ho2, hp0]
          have hw1 : evW (T + d + I) ⟨.press c, n⟩ = T + d + I + 2 := rfl
          rcases wd with ⟨g1, g2⟩ | ⟨w'', g1, _, g3, g4⟩
          · rw [g1, wLoad_none]
            have : (s.setQueue rest).lptTapHoldTimeout = s.lptTapHoldTimeout := rfl
            omega
          · rw [g1, wLoad_some]
            have := g3.timeout
            omega

theorem HInv.main {T I d : Nat} {s s2 : Layout} {down : List Coord} {c2 : CustomEv} (h : HInv T I d s down)
    (hm : tickMain s = .ok (s2, c2)) : MainOut T I d s s2 down ∧ c2 = .noEvent := by
  cases hw : s.waiting with
  | none => exact h.main_idle hw hm
  | some w => exact h.main_waiting hw hm

/-! ## a whole tick, an event, runs -/

theorem HInv.tick {T I d : Nat} {s : Layout} {down : List Coord} (h : HInv T I d s down) (s' : Layout)
    (cu : CustomEv) (ht : tick s = .ok (s', cu)) :
    HInv T I d s' down ∧ cu = .noEvent ∧ s'.cfg = s.cfg ∧ s'.defaultLayer = s.defaultLayer ∧
    s'.queue.length ≤ s.queue.length ∧ (down = [] → hPot T I d s' ≤ hPot T I d s - 1) ∧
    (∀ w, s.waiting = some w → s'.waiting = none ∨
      ∃ w1, s'.waiting = some w1 ∧ w1.timeout = w.timeout - 1 ∧ (down = [] → 0 < w.timeout - 1)) := by
  obtain ⟨i0, q0, w0, o0, l0, c0, d0, _⟩ := h.pre
  have e1 : tickOneshot (tickPre s) = .ok (tickPre s, .noEvent) := tickOneshot_inactive i0.osh
  cases hm : tickMain (tickPre s) with
  | error c =>
    unfold KVerif.L.tick at ht
    simp only [h.aq, e1, hm] at ht
    cases ht
  | ok r =>
    obtain ⟨s2, c2⟩ := r
    obtain ⟨m, rfl⟩ := i0.main hm
    have ql2 := m.queue_len
    obtain ⟨i2, cf2, dl2, _, pot2, wdec⟩ := m
    unfold KVerif.L.tick at ht
    simp only [h.aq, e1, hm, C04.processExtraWaitings_inert i2.extra, C04.processSequenceCustom_inert i2.states] at ht
    cases ht
    refine ⟨i2, rfl, cf2.trans c0, dl2.trans d0, by rw [q0] at ql2; simpa [age] using ql2, fun hd => ?_,
      fun w hw' => wdec w (w0.trans hw')⟩
    -- the first stage ages the queue and takes one tick off the quick-tap window
    have hle : hPot T I d (tickPre s) ≤ hPot T I d s := by
      unfold hPot; rw [q0, w0, o0, l0, queueLoad_age]; omega
    rcases pot2 hd with g | ⟨g1, g2, g3, rfl⟩
    · omega
    · have h1 : hPot T I d (tickPre s) = s.lptTapHoldTimeout - 1 := by
        unfold hPot; rw [g1, g2, g3, l0]; exact Nat.zero_add _
      have h2 : s.lptTapHoldTimeout ≤ hPot T I d s := Nat.le_add_left _ _
      omega

theorem HInv.input {T I d : Nat} {s : Layout} {down : List Coord} (h : HInv T I d s down) (e : Ev)
    (hq : s.queue.length < QUEUE_SIZE) :
    ∃ s', s.event e = .ok s' ∧ HInv T I d s' (downAfter down (.ev e)) ∧ s'.queue = s.queue ++ [⟨e, 0⟩] ∧
      s'.cfg = s.cfg ∧ s'.defaultLayer = s.defaultLayer ∧ s'.states = s.states ∧ s'.waiting = s.waiting := by
  unfold Layout.event
  rw [FUEL_succ]
  obtain ⟨s', e1, e2, e3, e4, e5⟩ := event_room 3999 s e hq
  have e6 := event_room_lpt 3999 s e hq s' e1
  refine ⟨s', e1, ?_, e2, e5.cfg, e5.dl, e3, e5.waiting⟩
  have hrel : ∀ c, (c ∈ down ∨ ∃ x ∈ s.queue, x.ev = .release c) →
      (c ∈ downAfter down (.ev e) ∨ ∃ x ∈ s.queue ++ [⟨e, 0⟩], x.ev = .release c) := by
    intro c hc
    rcases hc with h1 | ⟨x, hx, hxe⟩
    · cases e with
      | press c' => exact Or.inl (List.mem_cons_of_mem _ h1)
      | release c' =>
        by_cases hcc : c = c'
        · subst hcc; exact Or.inr ⟨⟨.release c, 0⟩, by simp, rfl⟩
        · exact Or.inl (List.mem_filter.mpr ⟨h1, by simpa using hcc⟩)
    · exact Or.inr ⟨x, List.mem_append_left _ hx, hxe⟩
  refine ⟨e5.extra.trans h.extra, e5.tde.trans h.tde, e5.aq.trans h.aq, e5.seqs.trans h.seqs, e3 ▸ h.states,
    e4 ▸ h.osh, e4 ▸ h.delay, e4 ▸ h.pause, ?_, e5.cfg ▸ h.cfg, e5.cfg ▸ h.bound,
    by rw [e2]; simp only [List.length_append, List.length_cons, List.length_nil]; omega, ?_, ?_, e6 ▸ h.lpt⟩
  · intro w hw
    rw [e5.waiting] at hw
    obtain ⟨w1, w2, w3⟩ := h.wok w hw
    exact ⟨w1, by rw [e4]; exact w2, by rw [e2]; exact hrel _ w3⟩
  · rw [e2]
    cases e with
    | press c =>
      exact QWF_append _ _ (QWF_mono (fun x hx => List.mem_cons_of_mem _ hx) _ h.qwf) (by simp [downAfter])
    | release c => exact QWF_release c 0 _ h.qwf
  · intro st hst c hc
    rw [e3] at hst
    rw [e2]
    exact hrel c (h.owned st hst c hc)

theorem run_hinv {T I d : Nat} (ins : List In) (s : Layout) (down : List Coord) (h : HInv T I d s down)
    (s' : Layout) (down' : List Coord) (hr : run s down ins = some (.ok (s', down'))) : HInv T I d s' down' :=
  run_preserves (P := HInv T I d) (fun _ _ e _ h hq he => by
      obtain ⟨s1, e1, i1, _⟩ := h.input e hq
      cases e1.symm.trans he; exact i1)
    (fun _ _ s1 cu h ht => (h.tick s1 cu ht).1) ins s down h s' down' hr

theorem hPot_le {T I d : Nat} {s : Layout} {down : List Coord} (h : HInv T I d s down) :
    hPot T I d s ≤ (T + d + I + 2) * s.queue.length + T + 2 * d + I + 1 := by
  unfold hPot
  have h1 := queueLoad_le (T + d + I) s.queue
  have h2 : wLoad d s.waiting ≤ T + d + 1 := by
    cases hw : s.waiting with
    | none => simp [wLoad]
    | some w => rw [wLoad_some]; have := (h.wok w hw).1.timeout; omega
  have h3 := h.pause
  have h4 := h.lpt
  omega

theorem hPot_zero {T I d : Nat} {s : Layout} (h : hPot T I d s = 0) :
    s.queue = [] ∧ s.waiting = none ∧ s.oneshot.pauseInputProcessingTicks = 0 ∧ s.lptTapHoldTimeout = 0 := by
  unfold hPot at h
  refine ⟨queueLoad_zero (T + d + I) _ (by omega), ?_, by omega, by omega⟩
  cases hw : s.waiting with
  | none => rfl
  | some w => rw [hw, wLoad_some] at h; omega

/-- at potential zero with no key down the layout is at rest -/
theorem HInv.atRest {T I d : Nat} {s : Layout} (h : HInv T I d s []) (hz : hPot T I d s = 0) : LayoutAtRest s := by
  obtain ⟨z1, z2, z3, z4⟩ := hPot_zero hz
  exact ⟨states_nil_of_owned h.states z1 h.owned, z1, z2, h.extra, z4, h.osh, z3, h.seqs, h.tde, h.aq⟩

/-! ## the fragment never crashes -/

def SimpleSafe (L : Nat) (a : Action) : Prop := ∀ v, a = .layer v → v < L

def ActSafeH (L : Nat) : Action → Prop
  | .layer v => v < L
  | .holdTap _ hold tap to _ _ => SimpleSafe L hold ∧ SimpleSafe L tap ∧ SimpleSafe L to
  | _ => True

structure CfgSafeH (c : LCfg) : Prop where
  pinned : c.pinnedLayerStack = false
  layers : 0 < c.layers.length
  refsL : ∀ tbl ∈ c.layers, ∀ e ∈ tbl, ActSafeH c.layers.length e.2
  refsS : ∀ e ∈ c.srcKeys, ActSafeH c.layers.length e.2 ∧ e.2 ≠ .trans

structure SafeH (s : Layout) : Prop where
  cfg : CfgSafeH s.cfg
  dl : s.defaultLayer < s.cfg.layers.length
  held : ∀ st ∈ s.states, ∀ v, st.getLayer = some v → v < s.cfg.layers.length
  wsafe : ∀ w, s.waiting = some w → SimpleSafe s.cfg.layers.length w.hold ∧
    SimpleSafe s.cfg.layers.length w.tap ∧ SimpleSafe s.cfg.layers.length w.timeoutAction
  queue : ∀ q ∈ s.queue, ∀ c, q.ev = .press c → CoordOK s.cfg c

theorem transOrder_safe (s : Layout) (hp : s.cfg.pinnedLayerStack = false) (hd : s.defaultLayer < s.cfg.layers.length)
    (h0 : 0 < s.cfg.layers.length) (hh : ∀ st ∈ s.states, ∀ v, st.getLayer = some v → v < s.cfg.layers.length) :
    ∃ order, s.transOrder = .ok order ∧ (∀ l ∈ order, l < s.cfg.layers.length) ∧ order.length ≤ MAX_ACTIVE_LAYERS := by
  obtain ⟨order, ho, hol⟩ := transOrder_total s s.cfg.layers.length hp hd h0 hh
  obtain ⟨order', ho', hlen⟩ := C02.layer_stack_never_overflows s hp
  cases ho.symm.trans ho'
  exact ⟨order, ho, hol, hlen⟩

theorem dispatch_total_H (fuel L : Nat) (s : Layout) (a : Action) (hf : FragH a) (hnt : a ≠ .trans)
    (hs : ActSafeH L a) (c : Coord) (d : Nat) (ls : List Nat) (hls : ls.length ≤ MAX_ACTIVE_LAYERS)
    (hw : s.waiting = none) :
    ∃ s', dispatch (fuel + 3) s a c d false ls = .ok (s', .noEvent) ∧ GrowsL L s.states s'.states ∧
      (∀ w, s'.waiting = some w → SimpleSafe L w.hold ∧ SimpleSafe L w.tap ∧ SimpleSafe L w.timeoutAction) := by
  have vac : ∀ {t : Layout}, t.waiting = none → ∀ w, t.waiting = some w →
      SimpleSafe L w.hold ∧ SimpleSafe L w.tap ∧ SimpleSafe L w.timeoutAction :=
    fun ht w hw' => by rw [ht] at hw'; cases hw'
  rcases fragH_cases hf with (rfl | hf) | rfl | ⟨T0, hold, tap, to, cfg, iv, rfl, hf⟩
  · exact ⟨_, dispatch_noOp .., by rw [(armNoOp_spec s .noOp c).2.2.1]; exact GrowsL.refl L _,
      vac ((armNoOp_spec s .noOp c).1.waiting.trans hw)⟩
  · refine ⟨_, dispatch_simple _ _ hf .., simpleArm_growsL L s a (fun v hv => ?_) c false,
      vac ((simpleArm_spec s a hf c false).frame.waiting.trans hw)⟩
    subst hv; exact hs
  · exact absurd rfl hnt
  · simp only [ActSafeH] at hs
    rw [dispatch_holdTap fuel s T0 hold tap to cfg iv c d ls hf.2.1]
    split
    · rw [if_neg (by omega)]
      obtain ⟨w, e1, _, _, e4, e5, e6, _, _, _, e10, _⟩ := armHoldTapWait_spec s c d T0 hold tap to cfg iv ls hw
      refine ⟨_, rfl, by rw [e10]; exact GrowsL.refl L _, fun w' hw' => ?_⟩
      rw [e1] at hw'; cases hw'
      exact ⟨e4 ▸ hs.1, e5 ▸ hs.2.1, e6 ▸ hs.2.2⟩
    · refine ⟨_, rfl, ?_, vac ?_⟩
      · rw [(updateCoord_spec _ c).2.2.2]
        refine GrowsL.trans ?_ (simpleArm_growsL L _ tap hs.2.1 c false)
        rw [(prelude_spec _ c).2.2.2]
        exact GrowsL.filter L _ _
      · rw [(updateCoord_spec _ c).1.waiting, (simpleArm_spec _ tap hf.2.1 c false).frame.waiting,
          (prelude_spec _ c).1.waiting]
        exact hw

theorem dequeue_press_total_H {s : Layout} (hc : CfgH s.cfg) (htde : s.tapDanceEager = none) (hS : SafeH s)
    (hw : s.waiting = none) (c : Coord) (hco : CoordOK s.cfg c) (since : Nat) :
    ∃ s', dequeue FUEL s ⟨.press c, since⟩ = .ok (s', .noEvent) ∧
      GrowsL s.cfg.layers.length s.states s'.states ∧
      (∀ w, s'.waiting = some w → SimpleSafe s.cfg.layers.length w.hold ∧
        SimpleSafe s.cfg.layers.length w.tap ∧ SimpleSafe s.cfg.layers.length w.timeoutAction) := by
  obtain ⟨order, ho, hol, hlen⟩ := transOrder_safe s hS.cfg.pinned hS.dl hS.cfg.layers hS.held
  obtain ⟨a, ls, hr, hP, hnt, hls⟩ := resolve_safe (fun a => FragH a ∧ ActSafeH s.cfg.layers.length a)
    ⟨trivial, trivial⟩ ⟨trivial, trivial⟩ hco (fun tbl ht e he => ⟨hc.1 tbl ht e he, hS.cfg.refsL tbl ht e he⟩)
    (fun e he => ⟨⟨hc.2 e he, (hS.cfg.refsS e he).1⟩, (hS.cfg.refsS e he).2⟩) hol
  obtain ⟨p1, p2, p3, p4⟩ := prelude_spec s c
  obtain ⟨s', e1, g1, g2⟩ := dispatch_total_H 3995 s.cfg.layers.length (prelude s c) a hP.1 hnt hP.2 c since ls
    (Nat.le_trans hls hlen) (p1.waiting.trans hw)
  refine ⟨s', ?_, ?_, g2⟩
  · rw [FUEL_5]
    simp only [dequeue, htde, bind, Except.bind, ho, doAction, hr]
    exact e1
  · refine GrowsL.trans ?_ g1
    rw [p4]; exact GrowsL.filter _ _ _

/-- the third stage never crashes; the states grow by states of the pressed key only, a new waiting
state refers to layers in range -/
theorem main_total_H {T I d : Nat} {s : Layout} {down : List Coord} (h : HInv T I d s down) (hS : SafeH s) :
    ∃ s2, tickMain s = .ok (s2, .noEvent) ∧ GrowsL s.cfg.layers.length s.states s2.states ∧
      (∀ w, s2.waiting = some w → SimpleSafe s.cfg.layers.length w.hold ∧
        SimpleSafe s.cfg.layers.length w.tap ∧ SimpleSafe s.cfg.layers.length w.timeoutAction) := by
  cases hw : s.waiting with
  | some w =>
    obtain ⟨wk, _, _⟩ := h.wok w hw
    obtain ⟨ws1, ws2, ws3⟩ := hS.wsafe w hw
    obtain ⟨cfgc, hc⟩ := wk.cfg
    rw [tickMain_waiting_eq s w cfgc hw hc]
    have hf := C05.handleHoldTap_fields { w with timeout := w.timeout - 1, ticks := min (w.ticks + 1) U16_MAX } cfgc s.queue
    have hnn := C05.handleHoldTap_ne_noOp { w with timeout := w.timeout - 1, ticks := min (w.ticks + 1) U16_MAX } cfgc s.queue
    generalize handleHoldTap { w with timeout := w.timeout - 1, ticks := min (w.ticks + 1) U16_MAX } cfgc s.queue = res at hf hnn
    obtain ⟨w1, r⟩ := res
    obtain ⟨f1, f2, f3, f4, f5, f6, f7, f8, f9⟩ := hf
    simp only at f1 f2 f3 f4 f5 f6 f7 f8 f9 hnn ⊢
    -- what a decision leaves
    have dec : ∀ (base : Layout) (act : Action), base.states = s.states → base.waiting = none → Simple act →
        SimpleSafe s.cfg.layers.length act →
        GrowsL s.cfg.layers.length s.states (simpleArm (prelude base w1.coord) act w1.coord false).states ∧
        (simpleArm (prelude base w1.coord) act w1.coord false).waiting = none := by
      intro base act hb hbw hact hsafe
      refine ⟨?_, ?_⟩
      · refine GrowsL.trans ?_ (simpleArm_growsL _ _ act hsafe w1.coord false)
        rw [(prelude_spec base w1.coord).2.2.2, hb]
        exact GrowsL.filter _ _ _
      · rw [(simpleArm_spec _ act hact w1.coord false).frame.waiting, (prelude_spec base w1.coord).1.waiting, hbw]
    cases r with
    | none =>
      simp only [Option.map_none, applyWaitingAction]
      refine ⟨_, rfl, GrowsL.refl _ _, fun w' hw' => ?_⟩
      injection hw' with hw'; subst hw'
      exact ⟨f5 ▸ ws1, f6 ▸ ws2, f7 ▸ ws3⟩
    | some a =>
      simp only [Option.map_some]
      cases a with
      | hold =>
        rw [apply_hold s w1 (f5 ▸ wk.hold)]
        obtain ⟨g1, g2⟩ := dec (holdPrep s.clearWaiting w1) w1.hold (holdPrep_base s w1).states (holdPrep_base s w1).waiting
          (f5 ▸ wk.hold) (f5 ▸ ws1)
        exact ⟨_, rfl, g1, fun w' hw' => by rw [g2] at hw'; cases hw'⟩
      | tap =>
        rw [apply_tap s w1 (f6 ▸ wk.tap)]
        obtain ⟨g1, g2⟩ := dec s.clearWaiting w1.tap rfl rfl (f6 ▸ wk.tap) (f6 ▸ ws2)
        exact ⟨_, rfl, g1, fun w' hw' => by
          rw [show (tapPost (simpleArm (prelude s.clearWaiting w1.coord) w1.tap w1.coord false)).waiting =
            (simpleArm (prelude s.clearWaiting w1.coord) w1.tap w1.coord false).waiting from rfl, g2] at hw'
          cases hw'⟩
      | timeout =>
        rw [apply_timeout s w1 (f7 ▸ wk.to)]
        obtain ⟨g1, g2⟩ := dec (timeoutPrep s.clearWaiting w1) w1.timeoutAction (timeoutPrep_base s w1).states
          (timeoutPrep_base s w1).waiting (f7 ▸ wk.to) (f7 ▸ ws3)
        exact ⟨_, rfl, g1, fun w' hw' => by rw [g2] at hw'; cases hw'⟩
      | noOp => exact absurd rfl hnn
  | none =>
    have hvac : ∀ (t : Layout), t.waiting = none → ∀ w, t.waiting = some w →
        SimpleSafe s.cfg.layers.length w.hold ∧ SimpleSafe s.cfg.layers.length w.tap ∧
        SimpleSafe s.cfg.layers.length w.timeoutAction := by
      intro t ht w hw'; rw [ht] at hw'; cases hw'
    by_cases hp : 0 < s.oneshot.pauseInputProcessingTicks
    · rw [tickMain_paused hw h.extra hp]
      exact ⟨_, rfl, GrowsL.refl _ _, hvac _ hw⟩
    · have hp0 : s.oneshot.pauseInputProcessingTicks = 0 := by omega
      cases hq : s.queue with
      | nil =>
        rw [tickMain_empty hw h.extra hp0 hq]
        exact ⟨s, rfl, GrowsL.refl _ _, hvac _ hw⟩
      | cons q rest =>
        rw [tickMain_pops hw h.extra hp0 q rest hq]
        obtain ⟨ev, n⟩ := q
        cases ev with
        | release c =>
          rw [dequeue_release_calm (s := s.setQueue rest) h.states c n,
            handleRelease_inactive (s.setQueue rest).oneshot c h.osh]
          simp only [afterRelease, if_true]
          exact ⟨_, rfl, GrowsL.filter _ _ _, hvac _ hw⟩
        | press c =>
          have hco : CoordOK s.cfg c := hS.queue ⟨.press c, n⟩ (by rw [hq]; exact List.mem_cons_self) c rfl
          exact dequeue_press_total_H (s := s.setQueue rest) h.cfg h.tde
            ⟨hS.cfg, hS.dl, hS.held, fun w' hw' => hS.wsafe w' hw',
              fun x hx => hS.queue x (by rw [hq]; exact List.mem_cons_of_mem _ hx)⟩ hw c hco n

/-- **a tick on the tap-hold fragment never crashes** -/
theorem tick_total_H {T I d : Nat} {s : Layout} {down : List Coord} (h : HInv T I d s down) (hS : SafeH s) :
    ∃ s', tick s = .ok (s', .noEvent) ∧ SafeH s' := by
  obtain ⟨i0, q0, w0, o0, l0, c0, d0, st0⟩ := h.pre
  have S0 : SafeH (tickPre s) := by
    refine ⟨c0 ▸ hS.cfg, by rw [c0, d0]; exact hS.dl, by rw [st0, c0]; exact hS.held, by rw [w0, c0]; exact hS.wsafe, ?_⟩
    intro q hq c hc
    rw [q0] at hq
    obtain ⟨y, hy, hyq⟩ := List.mem_map.mp hq
    rw [c0]
    exact hS.queue y hy c (by rw [← hc, ← hyq])
  have e1 : tickOneshot (tickPre s) = .ok (tickPre s, .noEvent) := tickOneshot_inactive i0.osh
  obtain ⟨s2, hm, g1, g2⟩ := main_total_H i0 S0
  obtain ⟨m, _⟩ := i0.main hm
  have qs2 := m.queue_mem
  obtain ⟨i2, cf2, dl2, _⟩ := m
  refine ⟨s2, ?_, ?_⟩
  · unfold KVerif.L.tick
    simp only [h.aq, e1, hm, C04.processExtraWaitings_inert i2.extra, C04.processSequenceCustom_inert i2.states]
    rfl
  · refine ⟨cf2 ▸ S0.cfg, by rw [cf2, dl2]; exact S0.dl, ?_, by rw [cf2]; exact g2, ?_⟩
    · intro st hst v hv
      rw [cf2]
      rcases g1 st hst with g | g
      · exact S0.held st g v hv
      · exact g v hv
    · intro q hq c hc
      rw [cf2]
      exact S0.queue q (qs2 q hq) c hc

theorem input_safe_H {T I d : Nat} {s : Layout} {down : List Coord} (h : HInv T I d s down) (hS : SafeH s) (e : Ev)
    (hq : s.queue.length < QUEUE_SIZE) (hco : ∀ c, e = .press c → CoordOK s.cfg c) :
    ∃ s', s.event e = .ok s' ∧ HInv T I d s' (downAfter down (.ev e)) ∧ SafeH s' ∧
      s'.queue.length = s.queue.length + 1 ∧ s'.cfg = s.cfg := by
  obtain ⟨s', e1, i1, q1, c1, d1, st1, w1⟩ := h.input e hq
  refine ⟨s', e1, i1, ⟨c1 ▸ hS.cfg, by rw [c1, d1]; exact hS.dl, by rw [st1, c1]; exact hS.held,
    by rw [w1, c1]; exact hS.wsafe, ?_⟩, by rw [q1]; simp, c1⟩
  intro q hq' c hc
  rw [c1]
  rw [q1] at hq'
  rcases List.mem_append.mp hq' with hq' | hq'
  · exact hS.queue q hq' c hc
  · simp only [List.mem_cons, List.mem_nil_iff, or_false] at hq'
    subst hq'
    exact hco c hc

theorem stepInvH (T I d : Nat) (cfg : LCfg) :
    StepInv (fun s down => HInv T I d s down ∧ SafeH s ∧ s.cfg = cfg) (pressOK cfg) where
  ev := by
    intro s down e ⟨h, hS, hc⟩ hq hA
    obtain ⟨s1, e1, i1, S1, q1, c1⟩ := input_safe_H h hS e hq (fun c hc' => hc ▸ hA c (by rw [hc']))
    exact ⟨s1, e1, ⟨i1, S1, c1.trans hc⟩, q1⟩
  tick := by
    intro s down ⟨h, hS, hc⟩
    obtain ⟨s1, e1, S1⟩ := tick_total_H h hS
    obtain ⟨i1, _, c1, _, hl, _⟩ := h.tick s1 _ e1
    exact ⟨s1, _, e1, ⟨i1, S1, c1.trans hc⟩, hl⟩

theorem hPot_lowers {T I d : Nat} {cfg : LCfg} (s s' : Layout) (cu : CustomEv)
    (h : HInv T I d s [] ∧ SafeH s ∧ s.cfg = cfg) (ht : tick s = .ok (s', cu)) :
    hPot T I d s' ≤ hPot T I d s - 1 :=
  let ⟨_, _, _, _, _, hp, _⟩ := h.1.tick s' cu ht
  hp rfl

theorem run_defined_H {T I d : Nat} : ∀ (ins : List In) (s : Layout) (down : List Coord), HInv T I d s down →
    SafeH s → PressesOK s.cfg ins → evCount ins + s.queue.length ≤ QUEUE_SIZE →
    ∃ s', run s down ins = some (.ok (s', downs down ins)) ∧ SafeH s' := by
  intro ins s down h hS hP hn
  obtain ⟨s', hr, _, hS', _⟩ := (stepInvH T I d s.cfg).run_defined ins s down ⟨h, hS, rfl⟩ (hP.admitted down) hn
  exact ⟨s', hr, hS'⟩

theorem init_safe_H (cfg : LCfg) (hc : CfgSafeH cfg) (tv2 dfl qth : Bool) (osd : Nat) :
    SafeH ({ cfg := cfg, transV2 := tv2, delegateToFirstLayer := dfl, quickTapHoldTimeout := qth,
             oneshot := { pauseInputProcessingDelay := osd } } : Layout) :=
  ⟨hc, hc.layers, fun _ h => (by cases h), fun _ h => (by cases h), fun _ h => (by cases h)⟩

/-- **the undecided tap-hold key is decided within its countdown** once its release is queued: with no
key physically down and a tap-hold key undecided with countdown `t`, after some `k ≤ max t 1` ticks
(at least one) the key has been decided — the tick on which that happens takes nothing from the queue,
so right after it nothing is waiting -/
theorem decided_within {T I d : Nat} : ∀ (t : Nat) (s : Layout) (w : Waiting), HInv T I d s [] → SafeH s →
    s.waiting = some w → w.timeout ≤ t →
    ∃ k s', 1 ≤ k ∧ k ≤ max t 1 ∧ run s [] (List.replicate k .tick) = some (.ok (s', [])) ∧
      s'.waiting = none ∧ HInv T I d s' [] ∧ SafeH s'
  | t, s, w, h, hS, hw, ht => by
    obtain ⟨s1, e1, S1⟩ := tick_total_H h hS
    obtain ⟨i1, _, _, _, _, _, wd⟩ := h.tick s1 _ e1
    rcases wd w hw with g | ⟨w1, g1, g2, g3⟩
    · exact ⟨1, s1, Nat.le_refl _, Nat.le_max_right _ _, run_tick e1 [] [], g, i1, S1⟩
    · have := g3 rfl
      match t with
      | 0 => omega
      | t + 1 =>
        obtain ⟨k, s', k1, k2, kr, r⟩ := decided_within t s1 w1 i1 S1 g1 (by omega)
        exact ⟨k + 1, s', by omega, by omega, by rw [List.replicate_succ, run_tick e1]; exact kr, r⟩

end KVerif.Quiesce
