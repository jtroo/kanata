/-
Stage (b) of `replay_same_os_output_kan`: the OS events of a whole run of the kanata-level model
(inputs and `tick_states`, other kanata-level components at rest) are a function of the sequence of
the layout's key-code lists after the ticks (`C04.runM`), namely `osTrace`: the key diffs between
consecutive lists.  Repeating a key list adds nothing (`osTrace_dedup`).
-/
import KVerif.Lemmas.KanataDynOut
import KVerif.Props.C04
namespace KVerif.K
open KVerif KVerif.L

theorem osDiff_congr {a b : KState} (h : SameTables a b) (prev cur : List KeyCode) :
    osDiff a prev cur = osDiff b prev cur := by
  unfold osDiff
  have e1 : keyUp a = keyUp b := funext (keyUp_congr h)
  have e2 : keyDown a = keyDown b := funext (keyDown_congr h)
  rw [e1, e2]

/-- the OS events of a sequence of key lists, starting from the OS key state `prev` -/
def osTrace (k : KState) (prev : List KeyCode) : List (List KeyCode) → List Os
  | [] => []
  | c :: r => osDiff k prev c ++ osTrace k c r

theorem osTrace_congr {a b : KState} (h : SameTables a b) (prev : List KeyCode) (t : List (List KeyCode)) :
    osTrace a prev t = osTrace b prev t := by
  induction t generalizing prev with
  | nil => rfl
  | cons c r ih => simp only [osTrace, osDiff_congr h, ih]

/-- what reaches the kanata-level model from outside -/
inductive KIn
  | key (press : Bool) (code : Nat)    -- handle_input_event (Press / Release)
  | tick                                -- tick_states
  deriving Repr, DecidableEq

def KIn.toIn : KIn → C04.In
  | .key true code => .ev (.press (0, code))
  | .key false code => .ev (.release (0, code))
  | .tick => .tick

def runK : KState → List KIn → Except Crash KState
  | k, [] => .ok k
  | k, .key p code :: r =>
    match handleInputEvent k (if p then .press code else .release code) with
    | .error c => .error c
    | .ok k' => runK k' r
  | k, .tick :: r =>
    match tickStates k with
    | .error c => .error c
    | .ok k' => runK k' r

/-- a key event with the other kanata-level components at rest goes to the layout and resets the
idle clock -/
theorem handleInput_rest {k k1 : KState} (hr : C07.KRest k) (p : Bool) (code : Nat)
    (h : handleInputEvent k (if p then .press code else .release code) = .ok k1) :
    ∃ l, k.layout.event (if p then .press (0, code) else .release (0, code)) = .ok l ∧
      k1 = C07.setL { k with ticksSinceIdle := 0 } l := by
  cases p with
  | true =>
    rw [if_pos rfl, C07.handleInput_press_eq k hr.mcd hr.noRec code] at h
    split at h
    · cases h
    · rename_i l hl; cases h; exact ⟨l, hl, rfl⟩
  | false =>
    rw [if_neg Bool.false_ne_true, C07.handleInput_release_eq k hr.noRec code] at h
    split at h
    · cases h
    · rename_i l hl; cases h; exact ⟨l, hl, rfl⟩

/-- **(b) the OS events of a run are a function of the sequence of key lists** -/
theorem runK_out (ins : List KIn) : ∀ (k k' : KState), C07.KRest k → runK k ins = .ok k' →
    ∃ trace, C04.runM k.layout (ins.map KIn.toIn) = .ok trace ∧
      k'.out = k.out ++ osTrace k k.prevKeys trace ∧ C07.KRest k' ∧ SameTables k' k := by
  induction ins with
  | nil =>
    intro k k' hr h
    cases h
    exact ⟨[], rfl, (List.append_nil _).symm, hr, rfl, rfl, rfl, rfl⟩
  | cons i rest ih =>
    intro k k' hr h
    cases i with
    | tick =>
      simp only [runK] at h
      split at h
      · cases h
      · rename_i k1 ht
        obtain ⟨l', hl, rfl, hr1⟩ := tickStates_rest_eq hr ht
        obtain ⟨a1, a2, a3⟩ := afterTick_out k l'
        obtain ⟨tr, b1, b2, b3, b4⟩ := ih _ k' hr1 h
        rw [C07.afterTick_layout] at b1
        refine ⟨l'.keycodes :: tr, ?_, ?_, b3, b4.trans a3⟩
        · simp only [List.map_cons, KIn.toIn, C04.runM, hl, b1]
        · rw [b2, a1, a2, osTrace_congr a3, osTrace, List.append_assoc]
    | key p code =>
      simp only [runK] at h
      split at h
      · cases h
      · rename_i k1 he
        obtain ⟨l, hl, rfl⟩ := handleInput_rest hr p code he
        have hr0 : C07.KRest ({ k with ticksSinceIdle := 0 } : KState) := hr.of_eq rfl hr.cur hr.mcd
        obtain ⟨tr, b1, b2, b3, b4⟩ := ih _ k' (hr0.setL l) h
        have ht : SameTables (C07.setL { k with ticksSinceIdle := 0 } l) k := ⟨rfl, rfl, rfl, rfl⟩
        refine ⟨tr, ?_, b2.trans (by rw [osTrace_congr ht]; rfl), b3, b4.trans ht⟩
        cases p <;> simp only [List.map_cons, KIn.toIn, C04.runM, if_true, Bool.false_eq_true, if_false]
          at hl ⊢ <;> rw [hl] <;> exact b1

/-! ### repeating a key list adds nothing -/

theorem newKeys_subset (cur : List KeyCode) : ∀ prev : List KeyCode, (∀ x ∈ cur, x ∈ prev) → newKeys prev cur = [] := by
  induction cur with
  | nil => intro _ _; rfl
  | cons x r ih =>
    intro prev h
    have hx : prev.contains x = true := by simpa using h x (by simp)
    simp only [newKeys, hx, if_true]
    exact ih prev (fun y hy => h y (by simp [hy]))

theorem osDiff_self (k : KState) (c : List KeyCode) : osDiff k c c = [] := by
  unfold osDiff
  have h1 : c.filter (fun x => !c.contains x) = [] := by
    apply List.filter_eq_nil_iff.mpr
    intro x hx; simp [hx]
  rw [h1, newKeys_subset c c (fun _ h => h)]
  rfl

/-- drop a key list that repeats the one before it -/
def dedupAdj (prev : List KeyCode) : List (List KeyCode) → List (List KeyCode)
  | [] => []
  | c :: r => if c = prev then dedupAdj prev r else c :: dedupAdj c r

theorem osTrace_dedup (k : KState) : ∀ (t : List (List KeyCode)) (prev : List KeyCode),
    osTrace k prev (dedupAdj prev t) = osTrace k prev t := by
  intro t
  induction t with
  | nil => intro _; rfl
  | cons c r ih =>
    intro prev
    by_cases h : c = prev
    · subst h
      simp only [dedupAdj, if_true, osTrace, osDiff_self, List.nil_append]
      exact ih c
    · simp only [dedupAdj, h, if_false, osTrace, ih c]

end KVerif.K
