/-
C01 helper lemmas: quiescence with the features combined, stage 3 - NESTING.  The layered
fragment of C04 (keys, output chords, `multi` and `fork` nested to any depth, no-op,
transparent, use-defsrc, layer-while-held, layer-switch, release-key / release-layer) and custom
actions together with one-shot keys and tap-hold keys, in one configuration:

  * inside `multi` (`InAct`): keys, output chords, no-op, layer-while-held, layer-switch, release-key /
    release-layer, custom actions, `CancelSequences`, `one-shot-pause-processing`, tap-hold keys, `multi`,
    `fork`;
  * on top of that, at a layer position or in the branches of a `fork` there (`TopAct`): transparent,
    use-defsrc, one-shot keys (a transparent or use-defsrc item may resolve to a one-shot key, so it
    is kept out of `multi` like the one-shot keys themselves);
  * at most one tap-hold key is performed per press (`htCount ≤ 1`: kanata's parser refuses a `multi`
    with two of them), so `extra_waiting` stays empty;
  * one-shot keys are not nested inside `multi`, so that a press performs at most one one-shot action
    and the `event` it re-enters (the 17th one-shot key pushes the oldest out) always finds room
    (`C01.quiesce_union_counterexample` shows what happens otherwise).

This file: the fragment and the effect of `do_action` on what may be nested in `multi`, by induction
over the recursion budget (`engineIn`); layer positions (`engineTop`) and what a dequeued press does
(`dequeue_press_K`) follow in Lemmas/QuiesceUnion3Top.lean.
-/
import KVerif.Lemmas.QuiesceUnion4Base
namespace KVerif.QU3
open KVerif.L KVerif.C06 KVerif.Quiesce KVerif.QU

/-! ## the fragment -/

def simpleB : Action → Bool
  | .keyCode _ | .multipleKeyCodes _ | .layer _ => true
  | _ => false

theorem simpleB_simple {a : Action} (h : simpleB a = true) : Simple a := by
  cases a <;> simp only [simpleB] at h <;> first | trivial | exact absurd h (by simp)

mutual
  /-- what may be nested inside `multi` -/
  def InAct : Action → Bool
    | .noOp | .keyCode _ | .multipleKeyCodes _ | .layer _ | .defaultLayer _ | .releaseState _ | .custom _
    | .cancelSequences | .oneShotIgnoreEventsTicks _ => true
    | .holdTap _ h t to _ _ => simpleB h && simpleB t && simpleB to
    | .multipleActions acs => InActL acs
    | .fork l r _ => InAct l && InAct r
    | _ => false
  def InActL : List Action → Bool
    | [] => true
    | a :: rest => InAct a && InActL rest
end

/-- what a layer position (or the defsrc row) may hold -/
def TopAct : Action → Bool
  | .trans | .src => true
  | .oneShot inner _ _ => simpleB inner
  | .fork l r _ => TopAct l && TopAct r
  | .multipleActions acs => InActL acs
  | .noOp | .keyCode _ | .multipleKeyCodes _ | .layer _ | .defaultLayer _ | .releaseState _ | .custom _
  | .cancelSequences | .oneShotIgnoreEventsTicks _ => true
  | .holdTap _ h t to _ _ => simpleB h && simpleB t && simpleB to
  | _ => false

mutual
  /-- the largest number of tap-hold keys one press of the action can perform -/
  def htCount : Action → Nat
    | .holdTap _ _ _ _ _ _ => 1
    | .multipleActions acs => htCountL acs
    | .fork l r _ => max (htCount l) (htCount r)
    | _ => 0
  def htCountL : List Action → Nat
    | [] => 0
    | a :: rest => htCount a + htCountL rest
end

mutual
  /-- the largest hold timeout inside -/
  def nT : Action → Nat
    | .holdTap T _ _ _ _ _ => T
    | .multipleActions acs => nTL acs
    | .fork l r _ => max (nT l) (nT r)
    | _ => 0
  def nTL : List Action → Nat
    | [] => 0
    | a :: rest => max (nT a) (nTL rest)
end

mutual
  /-- the largest tap-hold interval inside -/
  def nI : Action → Nat
    | .holdTap _ _ _ _ _ iv => iv
    | .multipleActions acs => nIL acs
    | .fork l r _ => max (nI l) (nI r)
    | _ => 0
  def nIL : List Action → Nat
    | [] => 0
    | a :: rest => max (nI a) (nIL rest)
end

/-- the largest one-shot timeout inside (one-shot keys are not nested in `multi`) -/
def nB : Action → Nat
  | .oneShot _ t _ => t
  | .fork l r _ => max (nB l) (nB r)
  | _ => 0

/-- an action of the configuration: in the fragment, at most one tap-hold key per press, timeouts bounded -/
def Ok3 (T I B : Nat) (a : Action) : Prop :=
  TopAct a = true ∧ htCount a ≤ 1 ∧ nT a ≤ T ∧ nI a ≤ I ∧ nB a ≤ B

def Cfg3 (T I B : Nat) (c : LCfg) : Prop :=
  (∀ tbl ∈ c.layers, ∀ e ∈ tbl, Ok3 T I B e.2) ∧ (∀ e ∈ c.srcKeys, Ok3 T I B e.2)

/-! ## effects -/

theorem update_noEvent (cu : CustomEv) : cu.update .noEvent = cu := by
  cases cu <;> rfl

/-- how the arms other than the one-shot arm change the `OneShotState`: by `handle_press(Other)` only -/
structure OshIn (o o' : OneShotState) : Prop where
  keys : o'.keys = o.keys
  rk : o'.releasedKeys = o.releasedKeys
  rnt : o'.releaseOnNextTick = o.releaseOnNextTick
  delay : o'.pauseInputProcessingDelay = o.pauseInputProcessingDelay
  pause : o'.pauseInputProcessingTicks = o.pauseInputProcessingTicks ∨
    o'.pauseInputProcessingTicks = o.pauseInputProcessingDelay
  load : oshLoad o' ≤ oshLoad o

theorem OshIn.refl (o : OneShotState) : OshIn o o := ⟨rfl, rfl, rfl, rfl, Or.inl rfl, Nat.le_refl _⟩

theorem OshIn.trans {a b c : OneShotState} (h1 : OshIn a b) (h2 : OshIn b c) : OshIn a c := by
  refine ⟨h2.keys.trans h1.keys, h2.rk.trans h1.rk, h2.rnt.trans h1.rnt,
    h2.delay.trans h1.delay, ?_, Nat.le_trans h2.load h1.load⟩
  rcases h2.pause with g | g
  · rw [g]; exact h1.pause
  · rw [g, h1.delay]; exact Or.inr rfl

theorem OshIn.other (o : OneShotState) (c : Coord) : OshIn o (o.handlePress (.other c)).1 := by
  obtain ⟨f1, f2, f3, f4, _, f6⟩ := handlePress_other_fields o c
  by_cases hi : o.ticksToIgnoreEvents = 0
  · obtain ⟨l1, l2, _⟩ := handlePress_other_load o c hi
    exact ⟨f1, f2, f3, f6, l2, l1⟩
  · have : o.handlePress (.other c) = (o, []) := by
      unfold OneShotState.handlePress
      rw [if_pos]
      simp only [Bool.or_eq_true, decide_eq_true_eq]
      exact Or.inr (by omega)
    rw [this]
    exact OshIn.refl o

/-- the effect of the arms of the layered fragment and of the tap-hold arm (no one-shot arm): nothing
pending is touched, the queue stays, states are only added at the coordinate of the press, the
`OneShotState` sees `handle_press(Other)` calls only, the quick-tap window is at most `max old I` -/
structure EffIn (I : Nat) (c : Coord) (s s' : Layout) : Prop where
  tde : s'.tapDanceEager = s.tapDanceEager
  aq : s'.actionQueue = s.actionQueue
  seqs : s.activeSequences = [] → s'.activeSequences = []
  cfg : s'.cfg = s.cfg
  queue : s'.queue = s.queue
  adds : ∀ st ∈ s'.states, st ∈ s.states ∨ (st.coord = some c ∧ StOK4 st)
  osh : OshIn s.oneshot s'.oneshot
  lpt : s'.lptTapHoldTimeout ≤ max s.lptTapHoldTimeout I

theorem EffIn.refl (I : Nat) (c : Coord) (s : Layout) : EffIn I c s s :=
  ⟨rfl, rfl, fun h => h, rfl, rfl, fun _ h => Or.inl h, OshIn.refl _, Nat.le_max_left _ _⟩

theorem EffIn.trans {I : Nat} {c : Coord} {a b d : Layout} (h1 : EffIn I c a b) (h2 : EffIn I c b d) : EffIn I c a d := by
  refine ⟨h2.tde.trans h1.tde, h2.aq.trans h1.aq, fun h => h2.seqs (h1.seqs h), h2.cfg.trans h1.cfg, h2.queue.trans h1.queue,
    fun st hst => ?_, h1.osh.trans h2.osh, ?_⟩
  · rcases h2.adds st hst with g | g
    · exact h1.adds st g
    · exact Or.inr g
  · have := h1.lpt; have := h2.lpt; omega

/-- ... and neither the waiting state nor `extra_waiting` changes -/
structure EffZ (I : Nat) (c : Coord) (s s' : Layout) : Prop where
  eff : EffIn I c s s'
  waiting : s'.waiting = s.waiting
  extra : s'.extraWaiting = s.extraWaiting

theorem EffZ.refl (I : Nat) (c : Coord) (s : Layout) : EffZ I c s s := ⟨EffIn.refl I c s, rfl, rfl⟩
theorem EffZ.trans {I : Nat} {c : Coord} {a b d : Layout} (h1 : EffZ I c a b) (h2 : EffZ I c b d) : EffZ I c a d :=
  ⟨h1.eff.trans h2.eff, h2.waiting.trans h1.waiting, h2.extra.trans h1.extra⟩

/-- ... or `extra_waiting` stays and the pressed key becomes the undecided tap-hold key -/
structure EffO (T I : Nat) (c : Coord) (s s' : Layout) : Prop where
  eff : EffIn I c s s'
  extra : s'.extraWaiting = s.extraWaiting
  wait : s'.waiting = none ∨ ∃ w, s'.waiting = some w ∧ w.coord = c ∧ WOK T w

theorem EffZ.toO {T I : Nat} {c : Coord} {s s' : Layout} (h : EffZ I c s s') (hw : s.waiting = none) : EffO T I c s s' :=
  ⟨h.eff, h.extra, Or.inl (h.waiting.trans hw)⟩

theorem EffZ.after {T I : Nat} {c : Coord} {a b d : Layout} (h1 : EffZ I c a b) (h2 : EffO T I c b d) : EffO T I c a d :=
  ⟨h1.eff.trans h2.eff, h2.extra.trans h1.extra, h2.wait⟩

theorem EffO.then {T I : Nat} {c : Coord} {a b d : Layout} (h1 : EffO T I c a b) (h2 : EffZ I c b d) : EffO T I c a d :=
  ⟨h1.eff.trans h2.eff, h2.extra.trans h1.extra, by rw [h2.waiting]; exact h1.wait⟩

/-! ### the pieces -/

theorem effZ_of_frame {I : Nat} {c : Coord} {s s' : Layout} (f : Frame s s') (hq : s'.queue = s.queue)
    (ha : ∀ st ∈ s'.states, st ∈ s.states ∨ (st.coord = some c ∧ StOK4 st)) (ho : OshIn s.oneshot s'.oneshot)
    (hl : s'.lptTapHoldTimeout ≤ s.lptTapHoldTimeout) : EffZ I c s s' :=
  ⟨⟨f.tde, f.aq, fun h => f.seqs.trans h, f.cfg, hq, ha, ho, Nat.le_trans hl (Nat.le_max_left _ _)⟩, f.waiting, f.extra⟩

theorem effZ_prelude (I : Nat) (s : Layout) (c : Coord) : EffZ I c s (prelude s c) := by
  obtain ⟨p1, p2, p3, p4⟩ := prelude_spec s c
  refine effZ_of_frame p1 p3 (fun st hst => Or.inl ?_) (p2 ▸ OshIn.refl _) (prelude_lpt s c)
  rw [p4] at hst; exact (List.mem_filter.mp hst).1

theorem effZ_updateCoord (I : Nat) (s : Layout) (c : Coord) : EffZ I c s (updateCoord s c) := by
  obtain ⟨u1, u2, u3, u4⟩ := updateCoord_spec s c
  exact effZ_of_frame u1 u3 (fun st hst => Or.inl (u4 ▸ hst)) (u2 ▸ OshIn.refl _) (Nat.le_of_eq (updateCoord_lpt s c))

theorem effZ_oshOther (I : Nat) (s : Layout) (c : Coord) : EffZ I c s (oshOther s false c).1 := by
  rw [oshOther_spec]
  simp only [Bool.false_eq_true, if_false]
  exact ⟨⟨rfl, rfl, fun h => h, rfl, rfl, fun _ h => Or.inl h, OshIn.other _ c, Nat.le_max_left _ _⟩, rfl, rfl⟩

theorem effZ_setRpt (I : Nat) (c : Coord) (s : Layout) (r : Option Action) : EffZ I c s { s with rptAction := r } :=
  ⟨⟨rfl, rfl, fun h => h, rfl, rfl, fun _ h => Or.inl h, OshIn.refl _, Nat.le_max_left _ _⟩, rfl, rfl⟩

theorem effZ_setDl (I : Nat) (c : Coord) (s : Layout) (v : Nat) : EffZ I c s { s with defaultLayer := v } :=
  ⟨⟨rfl, rfl, fun h => h, rfl, rfl, fun _ h => Or.inl h, OshIn.refl _, Nat.le_max_left _ _⟩, rfl, rfl⟩

theorem effZ_filter (I : Nat) (c : Coord) (s : Layout) (p : St → Bool) :
    EffZ I c s { s with states := s.states.filter p } :=
  ⟨⟨rfl, rfl, fun h => h, rfl, rfl, fun _ h => Or.inl (List.mem_filter.mp h).1, OshIn.refl _, Nat.le_max_left _ _⟩, rfl, rfl⟩

theorem effZ_of_armSpec {I : Nat} {c : Coord} {s s' : Layout} (h : ArmSpec c false s s')
    (hl : s'.lptTapHoldTimeout = s.lptTapHoldTimeout) : EffZ I c s s' := by
  refine effZ_of_frame h.frame h.queue (fun st hst => (h.adds.new st hst).imp id (fun g => ⟨g.1, StOK4.of g.2⟩)) ?_
    (Nat.le_of_eq hl)
  have := h.osh
  simp only [Bool.false_eq_true, if_false] at this
  rw [this]
  exact OshIn.other _ c

theorem effZ_noOp (I : Nat) (s : Layout) (a : Action) (c : Coord) : EffZ I c s (armNoOp s a c false) := by
  obtain ⟨n1, n2, n3, n4⟩ := armNoOp_spec s a c
  refine effZ_of_frame n1 n2 (fun st hst => Or.inl (n3 ▸ hst)) ?_ (Nat.le_of_eq (armNoOp_lpt s a c false))
  rw [n4]
  split
  · exact OshIn.other _ c
  · exact OshIn.refl _

theorem effZ_defaultLayer (I : Nat) (s : Layout) (v : Nat) (c : Coord) : EffZ I c s (armDefaultLayer s v c false) := by
  unfold armDefaultLayer
  simp only []
  split
  · exact ((effZ_updateCoord I s c).trans (effZ_setDl I c _ v)).trans (effZ_oshOther I _ c)
  · exact (effZ_updateCoord I s c).trans (effZ_oshOther I _ c)

theorem effZ_releaseState (I : Nat) (s : Layout) (a : Action) (rs : RelState) (c : Coord) :
    EffZ I c s (armReleaseState s a rs c false) := by
  unfold armReleaseState
  exact ((effZ_filter I c s _).trans (effZ_oshOther I _ c)).trans (effZ_setRpt I c _ _)

theorem effZ_pushState (I : Nat) (c : Coord) (s : Layout) (st : St) (h1 : st.coord = some c) (h2 : StOK4 st) :
    EffZ I c s (s.pushState st) :=
  ⟨⟨rfl, rfl, fun h => h, rfl, rfl, fun x hx => by
      rcases mem_pushCap hx with g | g
      · exact Or.inl g
      · exact Or.inr (g ▸ ⟨h1, h2⟩), OshIn.refl _, Nat.le_max_left _ _⟩, rfl, rfl⟩

/-- the `Custom` arm: the custom action is held as a state of the pressed coordinate (when there is room) -/
theorem effZ_custom (I : Nat) (s : Layout) (a : Action) (id : Nat) (c : Coord) : EffZ I c s (armCustom s a id c false).1 := by
  have z := ((effZ_updateCoord I s c).trans (effZ_oshOther I _ c)).trans (effZ_setRpt I c _ (some a))
  unfold armCustom
  simp only []
  split
  · exact z.trans (effZ_pushState I c _ _ rfl trivial)
  · exact z

/-- `CancelSequences`: with no sequence active it removes nothing but (absent) fake keys -/
theorem effZ_cancel (I : Nat) (s : Layout) (a : Action) (c : Coord) : EffZ I c s (armCancelSequences s a c false) := by
  unfold armCancelSequences
  have z0 : EffZ I c s { s with activeSequences := [], states := s.states.filter (fun st => !(match st with | .fakeKey _ => true | _ => false)) } :=
    ⟨⟨rfl, rfl, fun _ => rfl, rfl, rfl, fun _ h => Or.inl (List.mem_filter.mp h).1, OshIn.refl _, Nat.le_max_left _ _⟩, rfl, rfl⟩
  exact (z0.trans (effZ_oshOther I _ c)).trans (effZ_setRpt I c _ _)

/-- arming the ignore counter (only while a one-shot key is active) touches nothing else -/
theorem oshIn_armIgnore (o : OneShotState) (t : Nat) : OshIn o (o.armIgnore t) := by
  unfold OneShotState.armIgnore
  split
  · exact OshIn.refl o
  · exact ⟨rfl, rfl, rfl, rfl, Or.inl rfl, Nat.le_refl _⟩

/-- `one-shot-pause-processing`: only the number of ticks during which `handle_press` ignores events changes -/
theorem effZ_ignoreTicks (I : Nat) (s : Layout) (a : Action) (t : Nat) (c : Coord) :
    EffZ I c s { updateCoord s c with rptAction := some a, oneshot := (updateCoord s c).oneshot.armIgnore t } :=
  (effZ_updateCoord I s c).trans
    ⟨⟨rfl, rfl, fun h => h, rfl, rfl, fun _ h => Or.inl h, oshIn_armIgnore _ t, Nat.le_max_left _ _⟩, rfl, rfl⟩

/-- the tap-hold arm, nothing waiting: a new waiting state, or (inside the tap-hold interval of a
repeated tap) the tap action at once -/
theorem effO_holdTap (fuel T I : Nat) (s : Layout) (T0 : Nat) (hold tap to : Action) (cfg : HTConfig) (iv : Nat)
    (hh : Simple hold) (ht : Simple tap) (hto : Simple to) (hT : T0 ≤ T) (hI : iv ≤ I)
    (c : Coord) (dl : Nat) (ls : List Nat) (s' : Layout) (cu : CustomEv) (hw : s.waiting = none)
    (h : dispatch (fuel + 3) s (.holdTap T0 hold tap to cfg iv) c dl false ls = .ok (s', cu)) :
    EffO T I c s s' ∧ cu = .noEvent := by
  rw [dispatch_holdTap fuel s T0 hold tap to cfg iv c dl ls ht] at h
  split at h
  · split at h
    · cases h
    · injection h with h; injection h with h1 h2; subst h1
      obtain ⟨w, e1, e2, e3, e4, e5, e6, e7, e8, e9, e10, e11, e12, e13⟩ :=
        armHoldTapWait_spec s c dl T0 hold tap to cfg iv ls hw
      refine ⟨⟨⟨e8.tde, e8.aq, fun h => e8.seqs.trans h, e8.cfg, e9, fun st hst => Or.inl (e10 ▸ hst), e11 ▸ OshIn.refl _, ?_⟩, e13,
        Or.inr ⟨w, e1, e2, ⟨⟨cfg, e7⟩, e4 ▸ hh, e5 ▸ ht, e6 ▸ hto, Nat.le_trans e3 hT⟩⟩⟩, h2.symm⟩
      rw [e12]; exact Nat.le_trans hI (Nat.le_max_right _ _)
  · injection h with h; injection h with h1 h2; subst h1
    have sp := simpleArm_spec (prelude { s with lptTapHoldTimeout := 0 } c) tap ht c false
    have z0 : EffZ I c s { s with lptTapHoldTimeout := 0 } :=
      ⟨⟨rfl, rfl, fun h => h, rfl, rfl, fun _ h => Or.inl h, OshIn.refl _, Nat.zero_le _⟩, rfl, rfl⟩
    have z := ((z0.trans (effZ_prelude I _ c)).trans (effZ_of_armSpec sp (simpleArm_lpt _ _ _ _))).trans
      (effZ_updateCoord I _ c)
    exact ⟨z.toO hw, h2.symm⟩

/-- the tap-hold arm for any recursion budget: a result is the result with a larger budget -/
theorem dispatch_holdTap_lift (fuel : Nat) (s : Layout) (T0 : Nat) (hold tap to : Action) (cfg : HTConfig) (iv : Nat)
    (ht : Simple tap) (c : Coord) (dl : Nat) (ls : List Nat) (r : Layout × CustomEv)
    (h : dispatch (fuel + 1) s (.holdTap T0 hold tap to cfg iv) c dl false ls = .ok r) :
    dispatch (fuel + 3) s (.holdTap T0 hold tap to cfg iv) c dl false ls = .ok r := by
  match fuel, h with
  | 0, h =>
    rw [dispatch_holdTap 0 s T0 hold tap to cfg iv c dl ls ht]
    simp only [dispatch, doAction] at h
    split at h
    · rw [if_pos (by assumption)]; exact h
    · cases h
  | 1, h =>
    rw [dispatch_holdTap 1 s T0 hold tap to cfg iv c dl ls ht]
    simp only [dispatch] at h
    split at h
    · rw [if_pos (by assumption)]; exact h
    · exfalso
      cases tap <;> simp only [Simple] at ht <;> simp only [doAction, dispatch] at h <;> cases h
  | g + 2, h =>
    rw [dispatch_holdTap g s T0 hold tap to cfg iv c dl ls ht] at h
    rw [dispatch_holdTap (g + 2) s T0 hold tap to cfg iv c dl ls ht]
    exact h

/-! ## `do_action` inside `multi` -/

/-- a `fork` performs one of its two branches: what holds of both holds of the one taken -/
theorem fork_branch {P : Action → Prop} {l r : Action} (hl : P l) (hr : P r) (b : Bool) :
    P (if b = true then r else l) := by
  split
  · exact hr
  · exact hl

/-- **the effect of `do_action` on the actions nested in `multi`**, by induction over the recursion
budget: with no tap-hold key inside (`htCount = 0`) nothing pending changes (`EffZ`); with at most one
and nothing waiting, at most the pressed key becomes the undecided tap-hold key (`EffO`) -/
theorem engineIn (T I : Nat) : ∀ fuel : Nat,
    (∀ (s : Layout) (a : Action) (c : Coord) (dl : Nat) (ls : List Nat) (s' : Layout) (cu : CustomEv),
      doAction fuel s a c dl false ls = .ok (s', cu) → InAct a = true → htCount a = 0 → EffZ I c s s') ∧
    (∀ (s : Layout) (a : Action) (c : Coord) (dl : Nat) (ls : List Nat) (s' : Layout) (cu : CustomEv),
      dispatch fuel s a c dl false ls = .ok (s', cu) → InAct a = true → htCount a = 0 → EffZ I c s s') ∧
    (∀ (s : Layout) (acs : List Action) (c : Coord) (dl : Nat) (ls : List Nat) (cu0 : CustomEv) (s' : Layout) (cu : CustomEv),
      doActions fuel s acs c dl false ls cu0 = .ok (s', cu) → InActL acs = true → htCountL acs = 0 →
      EffZ I c s s') ∧
    (∀ (s : Layout) (a : Action) (c : Coord) (dl : Nat) (ls : List Nat) (s' : Layout) (cu : CustomEv),
      doAction fuel s a c dl false ls = .ok (s', cu) → InAct a = true → htCount a ≤ 1 → nT a ≤ T → nI a ≤ I →
      s.waiting = none → EffO T I c s s') ∧
    (∀ (s : Layout) (a : Action) (c : Coord) (dl : Nat) (ls : List Nat) (s' : Layout) (cu : CustomEv),
      dispatch fuel s a c dl false ls = .ok (s', cu) → InAct a = true → htCount a ≤ 1 → nT a ≤ T → nI a ≤ I →
      s.waiting = none → EffO T I c s s') ∧
    (∀ (s : Layout) (acs : List Action) (c : Coord) (dl : Nat) (ls : List Nat) (cu0 : CustomEv) (s' : Layout) (cu : CustomEv),
      doActions fuel s acs c dl false ls cu0 = .ok (s', cu) → InActL acs = true → htCountL acs ≤ 1 → nTL acs ≤ T →
      nIL acs ≤ I → s.waiting = none → EffO T I c s s') := by
  intro fuel
  induction fuel with
  | zero =>
    refine ⟨?_, ?_, ?_, ?_, ?_, ?_⟩
    · intro s a c dl ls s' cu h; simp only [doAction] at h; cases h
    · intro s a c dl ls s' cu h; simp only [dispatch] at h; cases h
    · intro s acs c dl ls cu0 s' cu h; simp only [doActions] at h; cases h
    · intro s a c dl ls s' cu h; simp only [doAction] at h; cases h
    · intro s a c dl ls s' cu h; simp only [dispatch] at h; cases h
    · intro s acs c dl ls cu0 s' cu h; simp only [doActions] at h; cases h
  | succ fuel ih =>
    obtain ⟨ihZ1, ihZ2, ihZ3, ihO1, ihO2, ihO3⟩ := ih
    -- the leaves, shared by both forms
    have leaf : ∀ (s : Layout) (a : Action) (c : Coord) (dl : Nat) (ls : List Nat) (s' : Layout) (cu : CustomEv),
        dispatch (fuel + 1) s a c dl false ls = .ok (s', cu) → InAct a = true →
        (match a with | .holdTap .. | .multipleActions _ | .fork .. => False | _ => True) →
        EffZ I c s s' := by
      intro s a c dl ls s' cu h hA hleaf
      cases a <;> try (simp only [InAct, Bool.false_eq_true] at hA; done)
      case noOp =>
        simp only [dispatch] at h
        injection h with h; injection h with h1 h2; subst h1
        exact effZ_noOp I s _ c
      case keyCode kc =>
        simp only [dispatch] at h
        injection h with h; injection h with h1 h2; subst h1
        exact effZ_of_armSpec (armKeyCode_spec s _ kc c false) (armKeyCode_lpt ..)
      case multipleKeyCodes kcs =>
        simp only [dispatch] at h
        injection h with h; injection h with h1 h2; subst h1
        exact effZ_of_armSpec (armMultipleKeyCodes_spec s _ kcs c false) (armMultipleKeyCodes_lpt ..)
      case layer v =>
        simp only [dispatch] at h
        injection h with h; injection h with h1 h2; subst h1
        exact effZ_of_armSpec (armLayer_spec s v c false) (armLayer_lpt ..)
      case defaultLayer v =>
        simp only [dispatch] at h
        injection h with h; injection h with h1 h2; subst h1
        exact effZ_defaultLayer I s v c
      case releaseState rs =>
        simp only [dispatch] at h
        injection h with h; injection h with h1 h2; subst h1
        exact effZ_releaseState I s _ rs c
      case custom id =>
        simp only [dispatch] at h
        injection h with h
        have e : s' = (armCustom s (.custom id) id c false).1 := by rw [h]
        rw [e]
        exact effZ_custom I s _ id c
      case cancelSequences =>
        simp only [dispatch] at h
        injection h with h; injection h with h1 h2; subst h1
        exact effZ_cancel I s _ c
      case oneShotIgnoreEventsTicks t =>
        simp only [dispatch] at h
        injection h with h; injection h with h1 h2; subst h1
        exact effZ_ignoreTicks I s _ t c
      case holdTap => exact absurd hleaf id
      case multipleActions => exact absurd hleaf id
      case fork => exact absurd hleaf id
    have hne : ∀ a : Action, InAct a = true → a ≠ .trans := by
      intro a hA hat; subst hat; simp [InAct] at hA
    refine ⟨?_, ?_, ?_, ?_, ?_, ?_⟩
    · -- doAction, no tap-hold key inside
      intro s a c dl ls s' cu h hA hc
      rw [C04.doAction_of_ne (hne a hA)] at h
      exact (effZ_prelude I s c).trans (ihZ2 (prelude s c) a c dl ls s' cu h hA hc)
    · -- dispatch, no tap-hold key inside
      intro s a c dl ls s' cu h hA hc
      cases a
      case holdTap => simp [htCount] at hc
      case multipleActions acs =>
        simp only [InAct] at hA
        simp only [htCount] at hc
        simp only [dispatch] at h
        split at h
        · cases h
        · rename_i s1 c1 hr
          injection h with h; injection h with h1 h2; subst h1
          have z := ihZ3 (updateCoord s c) acs c dl ls .noEvent s1 c1 hr hA hc
          exact ((effZ_updateCoord I s c).trans z).trans (effZ_setRpt I c _ _)
      case fork l r ks =>
        simp only [InAct, Bool.and_eq_true] at hA
        simp only [htCount] at hc
        simp only [dispatch] at h
        split at h
        · cases h
        · rename_i s1 c1 hr
          injection h with h; injection h with h1 h2; subst h1
          have hc' := Nat.max_le.mp (Nat.le_of_eq hc)
          have hb := fork_branch (P := fun a => InAct a = true ∧ htCount a = 0) ⟨hA.1, Nat.le_zero.mp hc'.1⟩
            ⟨hA.2, Nat.le_zero.mp hc'.2⟩ (forkHit s ks)
          have z := ihZ1 s _ c dl ls s1 c1 hr hb.1 hb.2
          exact z.trans (effZ_setRpt I c _ _)
      all_goals exact leaf s _ c dl ls s' cu h hA trivial
    · -- doActions, no tap-hold key inside
      intro s acs c dl ls cu0 s' cu h hA hc
      cases acs with
      | nil =>
        simp only [doActions] at h
        injection h with h; injection h with h1 h2; subst h1
        exact EffZ.refl I c s
      | cons a rest =>
        simp only [InActL, Bool.and_eq_true] at hA
        simp only [htCountL] at hc
        simp only [doActions] at h
        split at h
        · cases h
        · rename_i s1 c1 hr
          obtain ⟨ca, cr⟩ := Nat.add_eq_zero_iff.mp hc
          exact (ihZ1 s a c dl ls s1 c1 hr hA.1 ca).trans (ihZ3 s1 rest c dl ls (cu0.update c1) s' cu h hA.2 cr)
    · -- doAction, at most one tap-hold key inside
      intro s a c dl ls s' cu h hA hc hT hI hw
      rw [C04.doAction_of_ne (hne a hA)] at h
      have zp := effZ_prelude I s c
      exact zp.after (ihO2 (prelude s c) a c dl ls s' cu h hA hc hT hI (zp.waiting.trans hw))
    · -- dispatch, at most one tap-hold key inside
      intro s a c dl ls s' cu h hA hc hT hI hw
      cases a
      case holdTap T0 hold tap to cfg iv =>
        simp only [InAct, Bool.and_eq_true] at hA
        simp only [nT] at hT
        simp only [nI] at hI
        have h3 := dispatch_holdTap_lift fuel s T0 hold tap to cfg iv (simpleB_simple hA.1.2) c dl ls (s', cu) h
        exact (effO_holdTap fuel T I s T0 hold tap to cfg iv (simpleB_simple hA.1.1) (simpleB_simple hA.1.2)
          (simpleB_simple hA.2) hT hI c dl ls s' cu hw h3).1
      case multipleActions acs =>
        simp only [InAct] at hA
        simp only [htCount] at hc
        simp only [nT] at hT
        simp only [nI] at hI
        simp only [dispatch] at h
        split at h
        · cases h
        · rename_i s1 c1 hr
          injection h with h; injection h with h1 h2; subst h1
          have zu := effZ_updateCoord I s c
          have z := ihO3 (updateCoord s c) acs c dl ls .noEvent s1 c1 hr hA hc hT hI (zu.waiting.trans hw)
          exact (zu.after z).then (effZ_setRpt I c _ _)
      case fork l r ks =>
        simp only [InAct, Bool.and_eq_true] at hA
        simp only [htCount] at hc
        simp only [nT] at hT
        simp only [nI] at hI
        simp only [dispatch] at h
        split at h
        · cases h
        · rename_i s1 c1 hr
          injection h with h; injection h with h1 h2; subst h1
          have hc' := Nat.max_le.mp hc
          have hT' := Nat.max_le.mp hT
          have hI' := Nat.max_le.mp hI
          have hb := fork_branch (P := fun a => InAct a = true ∧ htCount a ≤ 1 ∧ nT a ≤ T ∧ nI a ≤ I)
            ⟨hA.1, hc'.1, hT'.1, hI'.1⟩ ⟨hA.2, hc'.2, hT'.2, hI'.2⟩ (forkHit s ks)
          have z := ihO1 s _ c dl ls s1 c1 hr hb.1 hb.2.1 hb.2.2.1 hb.2.2.2 hw
          exact z.then (effZ_setRpt I c _ _)
      all_goals exact (leaf s _ c dl ls s' cu h hA trivial).toO hw
    · -- doActions, at most one tap-hold key inside
      intro s acs c dl ls cu0 s' cu h hA hc hT hI hw
      cases acs with
      | nil =>
        simp only [doActions] at h
        injection h with h; injection h with h1 h2; subst h1
        exact (EffZ.refl I c s).toO hw
      | cons a rest =>
        simp only [InActL, Bool.and_eq_true] at hA
        simp only [htCountL] at hc
        simp only [nTL] at hT
        simp only [nIL] at hI
        simp only [doActions] at h
        split at h
        · cases h
        · rename_i s1 c1 hr
          have hT' := Nat.max_le.mp hT
          have hI' := Nat.max_le.mp hI
          by_cases hca : htCount a = 0
          · have z1 := ihZ1 s a c dl ls s1 c1 hr hA.1 hca
            exact z1.after (ihO3 s1 rest c dl ls (cu0.update c1) s' cu h hA.2 (Nat.le_trans (Nat.le_add_left _ _) hc)
              hT'.2 hI'.2 (z1.waiting.trans hw))
          · -- the one tap-hold key is in `a`: none in the rest
            have z1 := ihO1 s a c dl ls s1 c1 hr hA.1 (Nat.le_trans (Nat.le_add_right _ _) hc) hT'.1 hI'.1 hw
            exact z1.then (ihZ3 s1 rest c dl ls (cu0.update c1) s' cu h hA.2 (by omega))

end KVerif.QU3
