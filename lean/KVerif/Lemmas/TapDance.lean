/-
C17 helper lemmas: the queue functions of `WaitingState::handle_tap_dance`
(`evict_same_coord_events`, the tap-counting `try_fold`) and the `TapDance` arm of `tick_wt`.

The eviction is two independent removals (`evict_eq`: the first `r` releases and the first `p` presses
of the key, `dropFirst`); one tick of the arm is `tickWtTd_eq`: it decides when and on what `decidesOn`
says, and otherwise records `tdCount`.
-/
import KVerif.Model.Layout
namespace KVerif.C17
open KVerif.L

/-! ## Vocabulary -/

/-- a queued press of the dance key -/
def isPr (w : Waiting) (s : Queued) : Bool := isCorrespondingPress w s.ev
/-- a queued release of the dance key -/
def isRel (w : Waiting) (s : Queued) : Bool := isCorrespondingRelease w s.ev
/-- a queued press of another key -/
def otherPress (w : Waiting) (s : Queued) : Bool := s.ev.isPress && !isPr w s
/-- an event of another coordinate -/
def otherCoord (w : Waiting) (s : Queued) : Bool := s.ev.coord != w.coord

def nPr (w : Waiting) (q : List Queued) : Nat := (q.filter (isPr w)).length
def nRel (w : Waiting) (q : List Queued) : Nat := (q.filter (isRel w)).length

theorem isPr_iff (w : Waiting) (s : Queued) : isPr w s = true ↔ s.ev = .press w.coord := by
  simp [isPr, isCorrespondingPress]

theorem isRel_iff (w : Waiting) (s : Queued) : isRel w s = true ↔ s.ev = .release w.coord := by
  simp [isRel, isCorrespondingRelease]

/-- an event is of another coordinate iff it is neither the key's press nor its release -/
theorem otherCoord_iff (w : Waiting) (s : Queued) :
    otherCoord w s = true ↔ isPr w s = false ∧ isRel w s = false := by
  unfold otherCoord isPr isRel isCorrespondingPress isCorrespondingRelease
  cases h : s.ev with
  | press c => simp [Ev.coord]
  | release c => simp [Ev.coord]

theorem isPr_false_of_isRel {w : Waiting} {s : Queued} (h : isRel w s = true) : isPr w s = false := by
  rw [isRel_iff] at h
  simp [isPr, isCorrespondingPress, h]

theorem isRel_false_of_isPr {w : Waiting} {s : Queued} (h : isPr w s = true) : isRel w s = false := by
  rw [isPr_iff] at h
  simp [isRel, isCorrespondingRelease, h]

theorem otherCoord_false_of_isRel {w : Waiting} {s : Queued} (h : isRel w s = true) : otherCoord w s = false := by
  rw [isRel_iff] at h
  simp [otherCoord, h, Ev.coord]

theorem otherCoord_false_of_isPr {w : Waiting} {s : Queued} (h : isPr w s = true) : otherCoord w s = false := by
  rw [isPr_iff] at h
  simp [otherCoord, h, Ev.coord]

theorem otherPress_not_isPr {w : Waiting} {s : Queued} (h : otherPress w s = true) : isPr w s = false := by
  unfold otherPress at h
  cases hp : isPr w s <;> simp_all

theorem otherPress_isPress {w : Waiting} {s : Queued} (h : otherPress w s = true) : s.ev.isPress = true := by
  unfold otherPress at h
  simp_all

theorem isPr_isPress {w : Waiting} {s : Queued} (h : isPr w s = true) : s.ev.isPress = true := by
  rw [isPr_iff] at h
  rw [h]; rfl

theorem isRel_not_isPress {w : Waiting} {s : Queued} (h : isRel w s = true) : s.ev.isPress = false := by
  rw [isRel_iff] at h
  rw [h]; rfl

theorem nPr_cons (w : Waiting) (s : Queued) (rest : List Queued) :
    nPr w (s :: rest) = nPr w rest + (isPr w s).toNat := by
  unfold nPr
  rw [List.filter_cons]
  cases isPr w s <;> rfl

theorem nRel_cons (w : Waiting) (s : Queued) (rest : List Queued) :
    nRel w (s :: rest) = nRel w rest + (isRel w s).toNat := by
  unfold nRel
  rw [List.filter_cons]
  cases isRel w s <;> rfl

/-! Of the waiting state only the coordinate is read: the state after the countdown step, or after
an undecided tick, classifies the queue as the state before did. -/

theorem isPr_congr {w w' : Waiting} (h : w'.coord = w.coord) : isPr w' = isPr w := by
  funext s; simp only [isPr, isCorrespondingPress, h]

theorem isRel_congr {w w' : Waiting} (h : w'.coord = w.coord) : isRel w' = isRel w := by
  funext s; simp only [isRel, isCorrespondingRelease, h]

theorem otherPress_congr {w w' : Waiting} (h : w'.coord = w.coord) : otherPress w' = otherPress w := by
  funext s; simp only [otherPress, isPr_congr h]

theorem nPr_congr {w w' : Waiting} (h : w'.coord = w.coord) (q : List Queued) : nPr w' q = nPr w q := by
  simp only [nPr, isPr_congr h]

/-! ## The eviction -/

/-- unfolded once, in the vocabulary above (`r` releases, `p` presses of the key still to remove) -/
theorem evict_cons (w : Waiting) (r p : Nat) (s : Queued) (rest : List Queued) :
    evictSameCoord w r p (s :: rest) =
      if isRel w s then
        if r > 0 then evictSameCoord w (r - 1) p rest else s :: evictSameCoord w r p rest
      else if isPr w s && decide (p > 0) then evictSameCoord w r (p - 1) rest
      else s :: evictSameCoord w r p rest := rfl

section dropFirst
variable {α : Type} (P : α → Bool)

def dropFirst : Nat → List α → List α
  | n + 1, x :: l => if P x then dropFirst n l else x :: dropFirst (n + 1) l
  | _, l => l

theorem dropFirst_zero (l : List α) : dropFirst P 0 l = l := by cases l <;> rfl

theorem dropFirst_nil (n : Nat) : dropFirst P n [] = [] := by cases n <;> rfl

variable {P}

theorem dropFirst_cons_pos {x : α} (h : P x = true) (n : Nat) (l : List α) :
    dropFirst P (n + 1) (x :: l) = dropFirst P n l := by
  simp only [dropFirst, h, if_true]

theorem dropFirst_cons_neg {x : α} (h : P x = false) (n : Nat) (l : List α) :
    dropFirst P n (x :: l) = x :: dropFirst P n l := by
  cases n with
  | zero => rw [dropFirst_zero, dropFirst_zero]
  | succ n => simp only [dropFirst, h, Bool.false_eq_true, if_false]

theorem filter_dropFirst_self (n : Nat) (l : List α) : (dropFirst P n l).filter P = (l.filter P).drop n := by
  induction l generalizing n with
  | nil => rw [dropFirst_nil]; exact List.drop_nil.symm
  | cons x l ih =>
    cases hx : P x with
    | false => simp only [dropFirst_cons_neg hx, List.filter_cons, hx, Bool.false_eq_true, if_false, ih]
    | true =>
      cases n with
      | zero => rw [dropFirst_zero]; rfl
      | succ n => simp only [dropFirst_cons_pos hx, List.filter_cons, hx, if_true, List.drop_succ_cons, ih]

theorem filter_dropFirst_of_disjoint {Q : α → Bool} (h : ∀ x, P x = true → Q x = false) (n : Nat) (l : List α) :
    (dropFirst P n l).filter Q = l.filter Q := by
  induction l generalizing n with
  | nil => rw [dropFirst_nil]
  | cons x l ih =>
    cases hx : P x with
    | false => simp only [dropFirst_cons_neg hx, List.filter_cons, ih]
    | true =>
      cases n with
      | zero => rw [dropFirst_zero]
      | succ n => simp only [dropFirst_cons_pos hx, List.filter_cons, h x hx, Bool.false_eq_true, if_false, ih]

theorem dropFirst_sublist (n : Nat) (l : List α) : (dropFirst P n l).Sublist l := by
  induction l generalizing n with
  | nil => rw [dropFirst_nil]; exact .slnil
  | cons x l ih =>
    cases n with
    | zero => rw [dropFirst_zero]; exact List.Sublist.refl _
    | succ n =>
      cases hx : P x with
      | false => rw [dropFirst_cons_neg hx]; exact (ih _).cons_cons x
      | true => rw [dropFirst_cons_pos hx]; exact (ih n).cons x

theorem dropFirst_map (f : α → α) (n : Nat) (l : List α) :
    dropFirst P n (l.map f) = (dropFirst (P ∘ f) n l).map f := by
  induction l generalizing n with
  | nil => rw [List.map_nil, dropFirst_nil, dropFirst_nil]; rfl
  | cons x l ih =>
    cases n with
    | zero => rw [dropFirst_zero, dropFirst_zero]
    | succ n =>
      cases hx : P (f x) with
      | true => rw [List.map_cons, dropFirst_cons_pos hx, dropFirst_cons_pos (P := P ∘ f) hx, ih]
      | false => rw [List.map_cons, dropFirst_cons_neg hx, dropFirst_cons_neg (P := P ∘ f) hx, ih]; rfl

end dropFirst

/-- **the `retain` is two independent removals**: of the first `p` presses and of the first `r`
releases of the key -/
theorem evict_eq (w : Waiting) (r p : Nat) (q : List Queued) :
    evictSameCoord w r p q = dropFirst (isRel w) r (dropFirst (isPr w) p q) := by
  induction q generalizing r p with
  | nil => rw [dropFirst_nil, dropFirst_nil]; rfl
  | cons s rest ih =>
    rw [evict_cons]
    cases hr : isRel w s with
    | true =>
      rw [dropFirst_cons_neg (isPr_false_of_isRel hr), if_pos rfl]
      cases r with
      | zero => rw [if_neg (Nat.lt_irrefl 0), ih, dropFirst_zero, dropFirst_zero]
      | succ r => rw [if_pos (Nat.succ_pos r), dropFirst_cons_pos hr, ih]; rfl
    | false =>
      rw [if_neg Bool.false_ne_true]
      cases hp : isPr w s with
      | false => rw [Bool.false_and, if_neg Bool.false_ne_true, dropFirst_cons_neg hp, dropFirst_cons_neg hr, ih]
      | true =>
        cases p with
        | zero => rw [if_neg (by decide), dropFirst_zero, dropFirst_cons_neg hr, ih, dropFirst_zero]
        | succ p => rw [Bool.true_and, if_pos (decide_eq_true (Nat.succ_pos p)), dropFirst_cons_pos hp, ih]; rfl

theorem evict_zero (w : Waiting) (q : List Queued) : evictSameCoord w 0 0 q = q := by
  rw [evict_eq, dropFirst_zero, dropFirst_zero]

theorem evict_cons_rel {w : Waiting} {s : Queued} (h : isRel w s = true) (r p : Nat) (rest : List Queued) :
    evictSameCoord w (r + 1) p (s :: rest) = evictSameCoord w r p rest := by
  rw [evict_cons, h]; rfl

theorem evict_cons_pr {w : Waiting} {s : Queued} (h : isPr w s = true) (r p : Nat) (rest : List Queued) :
    evictSameCoord w r (p + 1) (s :: rest) = evictSameCoord w r p rest := by
  rw [evict_cons, isRel_false_of_isPr h, h]; rfl

theorem evict_cons_other {w : Waiting} {s : Queued} (hr : isRel w s = false) (hp : isPr w s = false)
    (r p : Nat) (rest : List Queued) :
    evictSameCoord w r p (s :: rest) = s :: evictSameCoord w r p rest := by
  rw [evict_cons, hr, hp]; rfl

/-- **events of other coordinates are all kept, in order** -/
theorem evict_others_kept (w : Waiting) (r p : Nat) (q : List Queued) :
    (evictSameCoord w r p q).filter (otherCoord w) = q.filter (otherCoord w) := by
  rw [evict_eq, filter_dropFirst_of_disjoint fun _ => otherCoord_false_of_isRel,
    filter_dropFirst_of_disjoint fun _ => otherCoord_false_of_isPr]

/-- **the first `p` presses of the key are dropped, every later one is kept, in order** -/
theorem evict_presses (w : Waiting) (r p : Nat) (q : List Queued) :
    (evictSameCoord w r p q).filter (isPr w) = (q.filter (isPr w)).drop p := by
  rw [evict_eq, filter_dropFirst_of_disjoint fun _ => isPr_false_of_isRel, filter_dropFirst_self]

/-- **the first `r` releases of the key are dropped, the later ones kept, in order** -/
theorem evict_releases (w : Waiting) (r p : Nat) (q : List Queued) :
    (evictSameCoord w r p q).filter (isRel w) = (q.filter (isRel w)).drop r := by
  rw [evict_eq, filter_dropFirst_self, filter_dropFirst_of_disjoint fun _ => isRel_false_of_isPr]

/-- the retained queue is a subsequence of the queue (nothing is reordered or invented) -/
theorem evict_sublist (w : Waiting) (r p : Nat) (q : List Queued) :
    (evictSameCoord w r p q).Sublist q := by
  rw [evict_eq]
  exact (dropFirst_sublist _ _).trans (dropFirst_sublist _ _)

theorem evict_nPr (w : Waiting) (r p : Nat) (q : List Queued) :
    nPr w (evictSameCoord w r p q) = nPr w q - p := by
  rw [nPr, evict_presses, List.length_drop]; rfl

/-- **no press is lost**: a press of the key is missing from the retained queue only if it was one
of the `p` counted ones — the retained queue still holds `nPr q − p` presses of the key -/
theorem evict_keeps_uncounted_presses (w : Waiting) (r p : Nat) (q : List Queued) (h : p < nPr w q) :
    ∃ s ∈ evictSameCoord w r p q, isPr w s = true := by
  have hpos : 0 < nPr w (evictSameCoord w r p q) := by rw [evict_nPr]; exact Nat.sub_pos_of_lt h
  obtain ⟨s, hs⟩ := List.exists_mem_of_length_pos hpos
  exact ⟨s, List.mem_filter.mp hs⟩

theorem evict_map (w : Waiting) (f : Queued → Queued) (hf : ∀ x, (f x).ev = x.ev) (r p : Nat) (q : List Queued) :
    evictSameCoord w r p (q.map f) = (evictSameCoord w r p q).map f := by
  have hp : isPr w ∘ f = isPr w := by funext x; simp only [Function.comp, isPr, hf]
  have hr : isRel w ∘ f = isRel w := by funext x; simp only [Function.comp, isRel, hf]
  rw [evict_eq, evict_eq, dropFirst_map, dropFirst_map, hp, hr]

/-! ### Alternation: on a physically possible history the key's events in the queue alternate,
starting with a release (the press that opened the dance has been taken out of the queue) -/

/-- the key's events in queue order: `true` = press, `false` = release -/
def keyEvs (w : Waiting) : List Queued → List Bool
  | [] => []
  | s :: rest => if isRel w s then false :: keyEvs w rest else if isPr w s then true :: keyEvs w rest else keyEvs w rest

/-- alternating, the next expected being `b` -/
def Alt : Bool → List Bool → Prop
  | _, [] => True
  | b, x :: r => x = b ∧ Alt (!b) r

theorem alt_count : ∀ {l : List Bool} {b : Bool}, Alt b l → l.count (!b) ≤ l.count b ∧ l.count b ≤ l.count (!b) + 1
  | [], _, _ => ⟨Nat.le_refl _, Nat.zero_le _⟩
  | x :: r, _, ⟨rfl, hr⟩ => by
    have ih := alt_count hr
    rw [Bool.not_not] at ih
    rw [List.count_cons_self, List.count_cons_of_ne (by cases x <;> decide)]
    exact ⟨ih.2, Nat.succ_le_succ ih.1⟩

theorem alt_counts : ∀ (l : List Bool) (b : Bool), Alt b l →
    (b = false → l.count true ≤ l.count false ∧ l.count false ≤ l.count true + 1) ∧
    (b = true → l.count false ≤ l.count true ∧ l.count true ≤ l.count false + 1) :=
  fun _ _ h => ⟨fun hb => by subst hb; exact alt_count h, fun hb => by subst hb; exact alt_count h⟩

theorem keyEvs_cons_rel {w : Waiting} {s : Queued} (h : isRel w s = true) (rest : List Queued) :
    keyEvs w (s :: rest) = false :: keyEvs w rest := by
  rw [keyEvs, if_pos h]

theorem keyEvs_cons_pr {w : Waiting} {s : Queued} (h : isPr w s = true) (rest : List Queued) :
    keyEvs w (s :: rest) = true :: keyEvs w rest := by
  rw [keyEvs, isRel_false_of_isPr h, if_neg Bool.false_ne_true, if_pos h]

theorem keyEvs_cons_other {w : Waiting} {s : Queued} (hr : isRel w s = false) (hp : isPr w s = false)
    (rest : List Queued) : keyEvs w (s :: rest) = keyEvs w rest := by
  rw [keyEvs, hr, hp, if_neg Bool.false_ne_true, if_neg Bool.false_ne_true]

theorem keyEvs_counts (w : Waiting) (q : List Queued) :
    (keyEvs w q).count true = nPr w q ∧ (keyEvs w q).count false = nRel w q := by
  induction q with
  | nil => exact ⟨rfl, rfl⟩
  | cons s rest ih =>
    rw [nPr_cons, nRel_cons]
    cases hr : isRel w s with
    | true =>
      rw [keyEvs_cons_rel hr, isPr_false_of_isRel hr, List.count_cons_self, List.count_cons_of_ne (by decide)]
      exact ⟨ih.1, congrArg (· + 1) ih.2⟩
    | false =>
      cases hp : isPr w s with
      | true =>
        rw [keyEvs_cons_pr hp, List.count_cons_self, List.count_cons_of_ne (by decide)]
        exact ⟨congrArg (· + 1) ih.1, ih.2⟩
      | false => rw [keyEvs_cons_other hr hp]; exact ih

/-- **one press, one release, and nothing else is touched**: the key's events after the eviction, on
an alternating queue.  With a release expected next (`b = false`) as many presses as releases are
still to be removed, `j` each, and the first `j` release/press pairs go: what is left starts with the
release that belongs to the LAST counted tap.  With a press expected next one press more is to be
removed, and the first `2j + 1` of the key's events go. -/
theorem evict_keyEvs (w : Waiting) : ∀ (q : List Queued) (j : Nat) (b : Bool),
    Alt b (keyEvs w q) → j + b.toNat ≤ nPr w q →
      keyEvs w (evictSameCoord w j (j + b.toNat) q) = (keyEvs w q).drop (2 * j + b.toNat)
  | [], _, _, _, _ => List.drop_nil.symm
  | s :: rest, j, b, halt, hj => by
    have ih := evict_keyEvs w rest
    rw [nPr_cons] at hj
    cases hr : isRel w s with
    | true =>
      rw [keyEvs_cons_rel hr] at halt ⊢
      obtain ⟨rfl, halt⟩ := halt
      rw [isPr_false_of_isRel hr] at hj
      cases j with
      | zero => exact (congrArg (keyEvs w) (evict_zero w _)).trans (keyEvs_cons_rel hr rest)
      | succ i => rw [evict_cons_rel hr]; exact ih i true halt hj
    | false =>
      cases hp : isPr w s with
      | true =>
        rw [keyEvs_cons_pr hp] at halt ⊢
        obtain ⟨rfl, halt⟩ := halt
        rw [hp] at hj
        exact (congrArg (keyEvs w) (evict_cons_pr hp j j rest)).trans (ih j false halt (Nat.le_of_succ_le_succ hj))
      | false =>
        rw [keyEvs_cons_other hr hp] at halt ⊢
        rw [hp] at hj
        rw [evict_cons_other hr hp, keyEvs_cons_other hr hp]
        exact ih j b halt hj

theorem alt_drop_two {b : Bool} : ∀ (j : Nat) {l : List Bool}, Alt b l → Alt b (l.drop (2 * j))
  | 0, _, h => h
  | _ + 1, [], _ => trivial
  | j + 1, [_], _ => by rw [Nat.mul_succ, List.drop_succ_cons, List.drop_nil]; trivial
  | j + 1, _ :: _ :: r, h => by
    have h2 := h.2.2
    rw [Bool.not_not] at h2
    exact alt_drop_two j h2

/-! ### The closure `evict_same_coord_events(num_taps, …)` -/

theorem evictTaps_others_kept (w : Waiting) (n : Nat) (q : List Queued) :
    (evictTaps w n q).filter (otherCoord w) = q.filter (otherCoord w) := evict_others_kept w _ _ q

theorem evictTaps_presses (w : Waiting) (n : Nat) (q : List Queued) :
    (evictTaps w n q).filter (isPr w) = (q.filter (isPr w)).drop (n - 1) := evict_presses w _ _ q

theorem evictTaps_releases (w : Waiting) (n : Nat) (q : List Queued) :
    (evictTaps w n q).filter (isRel w) = (q.filter (isRel w)).drop (n - 1) := evict_releases w _ _ q

theorem evictTaps_sublist (w : Waiting) (n : Nat) (q : List Queued) : (evictTaps w n q).Sublist q :=
  evict_sublist w _ _ q

theorem evictTaps_nPr (w : Waiting) (n : Nat) (q : List Queued) : nPr w (evictTaps w n q) = nPr w q - (n - 1) :=
  evict_nPr w _ _ q

theorem evictTaps_coord_congr {w w' : Waiting} (h : w'.coord = w.coord) (n : Nat) (q : List Queued) :
    evictTaps w' n q = evictTaps w n q := by
  rw [evictTaps, evictTaps, evict_eq, evict_eq, isPr_congr h, isRel_congr h]

/-! ### The eviction of the pinned commit (before the `fix:` commit): counterexample material only -/

/-- the pinned eviction dropped EVERY press of the key, counted or not -/
theorem pinned_no_press (w : Waiting) (k : Nat) (q : List Queued) :
    ∀ s ∈ evictSameCoordPinned w k q, isPr w s = false := by
  induction q generalizing k with
  | nil => nofun
  | cons x rest ih =>
    show ∀ s ∈ (if isRel w x then
        if k > 0 then evictSameCoordPinned w (k - 1) rest else x :: evictSameCoordPinned w k rest
      else if isPr w x then evictSameCoordPinned w k rest
      else x :: evictSameCoordPinned w k rest), isPr w s = false
    have keep : isPr w x = false → ∀ s ∈ x :: evictSameCoordPinned w k rest, isPr w s = false :=
      fun hx => List.forall_mem_cons.mpr ⟨hx, ih k⟩
    cases hr : isRel w x with
    | true =>
      rw [if_pos rfl]
      split
      · exact ih _
      · exact keep (isPr_false_of_isRel hr)
    | false =>
      rw [if_neg Bool.false_ne_true]
      cases hp : isPr w x with
      | true => exact ih _
      | false => exact keep hp

/-! ## Counting taps -/

/-- taps the queue shows: 1 + the presses of the key queued before the first press of another key -/
def seenTaps (w : Waiting) (q : List Queued) : Nat := 1 + nPr w (q.takeWhile (fun s => !otherPress w s))
/-- a press of another key is queued -/
def interrupted (w : Waiting) (q : List Queued) : Bool := q.any (otherPress w)

theorem seenTaps_congr {w w' : Waiting} (h : w'.coord = w.coord) (q : List Queued) : seenTaps w' q = seenTaps w q := by
  simp only [seenTaps, otherPress_congr h, nPr_congr h]

theorem interrupted_congr {w w' : Waiting} (h : w'.coord = w.coord) (q : List Queued) :
    interrupted w' q = interrupted w q := by
  simp only [interrupted, otherPress_congr h]

theorem countTaps_cons (w : Waiting) (n : Nat) (s : Queued) (rest : List Queued) :
    countTaps w n (s :: rest) =
      if isPr w s then countTaps w (n + 1) rest
      else if s.ev.isPress then .error n
      else countTaps w n rest := rfl

theorem countTaps_coord_congr {w w' : Waiting} (h : w'.coord = w.coord) (n : Nat) (q : List Queued) :
    countTaps w' n q = countTaps w n q := by
  induction q generalizing n with
  | nil => rfl
  | cons s rest ih => simp only [countTaps_cons, isPr_congr h, ih]

/-- **closed form of the tap count**: `.error` exactly when another key's press is queued, and the
count is the start value plus the presses of the key queued before that press (all of them if there
is none); releases — of any key — never end or change the count -/
theorem countTaps_eq (w : Waiting) (n : Nat) (q : List Queued) :
    countTaps w n q =
      if q.any (otherPress w) then .error (n + nPr w (q.takeWhile (fun s => !otherPress w s)))
      else .ok (n + nPr w q) := by
  induction q generalizing n with
  | nil => rfl
  | cons s rest ih =>
    rw [countTaps_cons, List.any_cons, List.takeWhile_cons, otherPress]
    cases hp : isPr w s with
    | true =>
      rw [if_pos rfl, ih, Bool.not_true, Bool.and_false, Bool.false_or, Bool.not_false, if_pos rfl, nPr_cons, nPr_cons, hp]
      simp only [Nat.add_assoc, Nat.add_comm 1]
      rfl
    | false =>
      rw [if_neg Bool.false_ne_true, Bool.not_false, Bool.and_true]
      cases s.ev.isPress with
      | true => rfl
      | false => rw [if_neg Bool.false_ne_true, ih, Bool.false_or, Bool.not_false, if_pos rfl, nPr_cons, nPr_cons, hp]; rfl

theorem countTaps_error_iff (w : Waiting) (n : Nat) (q : List Queued) :
    (∃ m, countTaps w n q = .error m) ↔ ∃ s ∈ q, otherPress w s = true := by
  rw [countTaps_eq, ← List.any_eq_true]
  cases q.any (otherPress w)
  · exact ⟨nofun, nofun⟩
  · exact ⟨fun _ => rfl, fun _ => ⟨_, rfl⟩⟩

/-- releases never end or change the count: dropping every release from the queue gives the same answer -/
theorem countTaps_ignores_releases (w : Waiting) (n : Nat) (q : List Queued) :
    countTaps w n (q.filter (·.ev.isPress)) = countTaps w n q := by
  induction q generalizing n with
  | nil => rfl
  | cons s rest ih =>
    cases hi : s.ev.isPress with
    | true =>
      simp only [List.filter_cons, hi, if_true, countTaps_cons, ih]
    | false =>
      have hp : isPr w s = false := by
        cases h : isPr w s with
        | false => rfl
        | true => rw [isPr_isPress h] at hi; cases hi
      simp only [List.filter_cons, hi, Bool.false_eq_true, if_false, countTaps_cons, hp, ih]

theorem not_otherPress_of_clean {w : Waiting} {q : List Queued} (h : interrupted w q = false) :
    ∀ s ∈ q, (!otherPress w s) = true :=
  fun s hs => congrArg (!·) ((Bool.not_eq_true _).mp (List.any_eq_false.mp h s hs))

theorem takeWhile_clean {w : Waiting} {q : List Queued} (h : interrupted w q = false) :
    q.takeWhile (fun s => !otherPress w s) = q := by
  have := List.takeWhile_append_of_pos (l₂ := []) (not_otherPress_of_clean h)
  rwa [List.append_nil, List.takeWhile_nil, List.append_nil] at this

theorem countTaps_one (w : Waiting) (q : List Queued) :
    countTaps w 1 q = if interrupted w q then .error (seenTaps w q) else .ok (seenTaps w q) := by
  rw [countTaps_eq]
  unfold seenTaps
  cases h : interrupted w q
  · rw [takeWhile_clean h]; exact if_neg (by rw [← interrupted, h]; exact Bool.false_ne_true)
  · exact if_pos h

theorem seenTaps_not_interrupted {w : Waiting} {q : List Queued} (h : interrupted w q = false) :
    seenTaps w q = 1 + nPr w q := by
  rw [seenTaps, takeWhile_clean h]

/-- **`handle_tap_dance`, in closed form**: nothing happens while the queue length is unchanged and
the countdown has not ended; at the end of the countdown the dance is decided with the count
recorded EARLIER (`k`), without looking at the queue again; otherwise it is decided with the count
the queue shows iff another key's press is queued or the count has reached the list length. -/
theorem handleTapDance_spec (w : Waiting) (k len : Nat) (q : List Queued) :
    handleTapDance w k len q =
      if q.length % 256 == w.prevQueueLen && w.timeout > 0 then (q, none, k)
      else if w.timeout == 0 then (evictTaps w k q, some .tap, k)
      else if interrupted w q || decide (seenTaps w q ≥ len) then
        (evictTaps w (inThisDance (seenTaps w q) len) q, some .tap, inThisDance (seenTaps w q) len)
      else (q, none, seenTaps w q) := by
  unfold handleTapDance
  rw [countTaps_one]
  cases interrupted w q
  · simp only [Bool.false_eq_true, if_false, Bool.false_or, decide_eq_true_eq]
  · rfl

theorem tdPick_some {acts : List Action} (h : acts ≠ []) (n : Nat) : ∃ a, tdPick acts n = some a ∧ a ∈ acts := by
  unfold tdPick
  have hl : 0 < acts.length := List.length_pos_iff.mpr h
  have hi : min n acts.length - 1 < acts.length := by omega
  exact ⟨acts[min n acts.length - 1], List.getElem?_eq_getElem hi, List.getElem_mem hi⟩

theorem tdPick_none_iff (acts : List Action) (n : Nat) : tdPick acts n = none ↔ acts = [] := by
  constructor
  · intro h
    cases acts with
    | nil => rfl
    | cons a t =>
      obtain ⟨x, hx, _⟩ := tdPick_some (acts := a :: t) (by simp) n
      rw [hx] at h; cases h
  · rintro rfl; rfl

/-- the N-th listed action for `1 ≤ N ≤ len` -/
theorem tdPick_nth (acts : List Action) (n : Nat) (h2 : n ≤ acts.length) :
    tdPick acts n = acts[n - 1]? := by
  unfold tdPick
  rw [Nat.min_eq_left h2]

/-- the last listed action once `N` reaches the list length -/
theorem tdPick_last (acts : List Action) (n : Nat) (h : acts.length ≤ n) :
    tdPick acts n = acts.getLast? := by
  unfold tdPick
  rw [Nat.min_eq_right h, List.getLast?_eq_getElem?]

/-- the countdown step at the top of `tick_wt` -/
def cd (w : Waiting) : Waiting := { w with timeout := w.timeout - 1, ticks := min (w.ticks + 1) U16_MAX }

theorem tickWt_td (w : Waiting) (acts : List Action) (T k : Nat) (hc : w.config = .tapDance acts T k)
    (q : List Queued) (aq : ActionQueue) :
    tickWt w q aq =
      match tickWtTd (cd w) acts T k q with
      | .error c => .error c
      | .ok (w', q', r) => .ok (w', q', aq, r.map (·, none)) := by
  cases w with
  | mk coord timeout delay ticks hold tap ta config ls pql =>
    simp only at hc
    subst hc
    rfl

/-- the cause of a decision and the count it is taken on -/
def decidesOn (w : Waiting) (len k : Nat) (q : List Queued) : Option Nat :=
  if q.length % 256 == w.prevQueueLen && w.timeout > 0 then none
  else if w.timeout == 0 then some k                                     -- the countdown ended
  else if interrupted w q || decide (seenTaps w q ≥ len) then some (inThisDance (seenTaps w q) len)   -- other key / list exhausted
  else none

/-- the count an undecided tick records: the old one when the queue was not read -/
def tdCount (w : Waiting) (k : Nat) (q : List Queued) : Nat :=
  if q.length % 256 == w.prevQueueLen then k else seenTaps w q

/-- the waiting state after a tick that read `n` taps (previous count `k`) with `len` events queued -/
def tdNext (w : Waiting) (acts : List Action) (T n k len : Nat) : Waiting :=
  { w with prevQueueLen := len % 256, timeout := if n > k then T else w.timeout, config := .tapDance acts T n }

/-- deciding on `n` taps: the chosen action is `tdPick acts n`, the first `n − 1` releases and
presses of the key leave the queue; `tds.actions[idx]` panics on an empty list -/
def tdDecide (w : Waiting) (acts : List Action) (T n k : Nat) (q : List Queued) :
    Except Crash (Waiting × List Queued × Option WAct) :=
  match tdPick acts n with
  | none => .error (.indexOOB "tap-dance actions")
  | some a => .ok ({ tdNext w acts T n k (evictTaps w n q).length with tap := a },
                   evictTaps w n q, some .tap)

theorem decidesOn_deadline {w : Waiting} (h0 : w.timeout = 0) (len k : Nat) (q : List Queued) :
    decidesOn w len k q = some k := by
  unfold decidesOn
  rw [h0, if_neg (by simp)]
  rfl

theorem decidesOn_fast {w : Waiting} {q : List Queued} (h0 : 0 < w.timeout) (hl : q.length % 256 = w.prevQueueLen)
    (len k : Nat) : decidesOn w len k q = none ∧ tdCount w k q = k := by
  unfold decidesOn tdCount
  rw [hl, beq_self_eq_true, if_pos (by simpa using h0), if_pos rfl]
  exact ⟨rfl, rfl⟩

theorem decidesOn_slow {w : Waiting} {q : List Queued} (h0 : 0 < w.timeout) (hl : q.length % 256 ≠ w.prevQueueLen)
    (len k : Nat) :
    decidesOn w len k q =
      (if interrupted w q || decide (seenTaps w q ≥ len) then some (inThisDance (seenTaps w q) len) else none) ∧
    tdCount w k q = seenTaps w q := by
  unfold decidesOn tdCount
  rw [beq_false_of_ne hl, if_neg (by simp), if_neg (by simpa using Nat.ne_of_gt h0), if_neg Bool.false_ne_true]
  exact ⟨rfl, rfl⟩

theorem handleTapDance_eq (w : Waiting) (k len : Nat) (q : List Queued) :
    handleTapDance w k len q =
      match decidesOn w len k q with
      | some n => (evictTaps w n q, some .tap, n)
      | none => (q, none, tdCount w k q) := by
  rw [handleTapDance_spec]
  rcases Nat.eq_zero_or_pos w.timeout with h0 | h0
  · rw [decidesOn_deadline h0, h0, if_neg (by simp)]; rfl
  · have h2 : ¬ (w.timeout == 0) = true := by simpa using Nat.ne_of_gt h0
    by_cases hl : q.length % 256 = w.prevQueueLen
    · rw [(decidesOn_fast h0 hl len k).1, (decidesOn_fast h0 hl len k).2, if_pos (by simp [hl, h0])]
    · rw [(decidesOn_slow h0 hl len k).1, (decidesOn_slow h0 hl len k).2, if_neg (by simp [hl]), if_neg h2]
      split <;> rfl

/-- **one tick of the `TapDance` arm** (`w` = the state after the countdown step): it decides exactly
when `decidesOn` says so, on that count; otherwise only the memo, the count and — if the count grew —
the countdown change -/
theorem tickWtTd_eq (w : Waiting) (acts : List Action) (T k : Nat) (q : List Queued) :
    tickWtTd w acts T k q =
      match decidesOn w acts.length k q with
      | some n => tdDecide w acts T n k q
      | none => .ok (tdNext w acts T (tdCount w k q) k q.length, q, none) := by
  unfold tickWtTd
  rw [handleTapDance_eq]
  cases decidesOn w acts.length k q <;> rfl

theorem tickWtTd_of_some {w : Waiting} {acts : List Action} {k n : Nat} {q : List Queued}
    (h : decidesOn w acts.length k q = some n) (T : Nat) : tickWtTd w acts T k q = tdDecide w acts T n k q := by
  rw [tickWtTd_eq, h]

theorem tickWtTd_of_none {w : Waiting} {acts : List Action} {k : Nat} {q : List Queued}
    (h : decidesOn w acts.length k q = none) (T : Nat) :
    tickWtTd w acts T k q = .ok (tdNext w acts T (tdCount w k q) k q.length, q, none) := by
  rw [tickWtTd_eq, h]

theorem tdDecide_ok {acts : List Action} (hne : acts ≠ []) (w : Waiting) (T n k : Nat) (q : List Queued) :
    ∃ a, tdPick acts n = some a ∧ ∃ w', tdDecide w acts T n k q =
      .ok (w', evictTaps w n q, some .tap) ∧ w'.tap = a ∧ w'.coord = w.coord ∧ w'.layerStack = w.layerStack := by
  obtain ⟨a, ha, _⟩ := tdPick_some hne n
  exact ⟨a, ha, { tdNext w acts T n k (evictTaps w n q).length with tap := a }, by rw [tdDecide, ha], rfl, rfl, rfl⟩

theorem tdDecide_error_iff (w : Waiting) (acts : List Action) (T n k : Nat) (q : List Queued) :
    (∃ c, tdDecide w acts T n k q = .error c) ↔ acts = [] := by
  rw [← tdPick_none_iff acts n, tdDecide]
  cases tdPick acts n
  · exact ⟨fun _ => rfl, fun _ => ⟨_, rfl⟩⟩
  · exact ⟨nofun, nofun⟩

/-! ## The queue's `since` counters are never read -/

theorem otherPress_map {w : Waiting} {f : Queued → Queued} (hf : ∀ x, (f x).ev = x.ev) :
    otherPress w ∘ f = otherPress w := by
  funext x; simp only [Function.comp, otherPress, isPr, hf]

theorem seenTaps_map (w : Waiting) {f : Queued → Queued} (hf : ∀ x, (f x).ev = x.ev) (q : List Queued) :
    seenTaps w (q.map f) = seenTaps w q := by
  have hp : isPr w ∘ f = isPr w := by funext x; simp only [Function.comp, isPr, hf]
  have ho : (fun s => !otherPress w s) ∘ f = fun s => !otherPress w s := by
    funext x; exact congrArg (!·) (congrFun (otherPress_map hf) x)
  rw [seenTaps, nPr, List.takeWhile_map, List.filter_map, List.length_map, ho, hp]; rfl

/-- the `TapDance` arm commutes with any relabelling of the queue that keeps the events (such as the
ageing of `since` done by `tick`): it decides the same, on the same count, and evicts the same entries -/
theorem tickWtTd_ignores_since (w : Waiting) (acts : List Action) (T k : Nat) (f : Queued → Queued)
    (hf : ∀ x, (f x).ev = x.ev) (q : List Queued) :
    tickWtTd w acts T k (q.map f) =
      match tickWtTd w acts T k q with
      | .error c => .error c
      | .ok (w', q', r) => .ok (w', q'.map f, r) := by
  -- the decision reads the queue through its length, `interrupted` and `seenTaps` only
  have hd : decidesOn w acts.length k (q.map f) = decidesOn w acts.length k q := by
    rw [decidesOn, List.length_map, interrupted, List.any_map, otherPress_map hf, seenTaps_map w hf]; rfl
  have hc : tdCount w k (q.map f) = tdCount w k q := by
    rw [tdCount, List.length_map, seenTaps_map w hf]; rfl
  rw [tickWtTd_eq, tickWtTd_eq, hd, hc]
  cases decidesOn w acts.length k q with
  | none => simp only [List.length_map]
  | some n =>
    simp only [tdDecide, evictTaps, evict_map w f hf, List.length_map]
    cases tdPick acts n <;> rfl

/-! ## What the parser guarantees -/

/-- what `parse_tap_dance` (parser/src/cfg/mod.rs) guarantees of an accepted
`(tap-dance[-eager] T (actions…))`: a non-zero timeout (`parse_non_zero_u16`) and a non-empty list
(checked since the `fix:` commit).  The drivers check it on every configuration the REAL parser
produced (C17 oracle; `WF.actionWF` of C02). -/
structure Accepted (acts : List Action) (T : Nat) : Prop where
  nonempty : acts ≠ []
  timeout : 1 ≤ T

/-- the `TapDance` arm of `tick_wt` cannot panic on an accepted tap-dance -/
theorem tickWtTd_total {acts : List Action} {T : Nat} (h : Accepted acts T) (w : Waiting) (k : Nat) (q : List Queued) :
    ∃ r, tickWtTd w acts T k q = .ok r := by
  rw [tickWtTd_eq]
  cases decidesOn w acts.length k q with
  | none => exact ⟨_, rfl⟩
  | some n =>
    obtain ⟨_, _, _, h', _⟩ := tdDecide_ok h.nonempty w T n k q
    exact ⟨_, h'⟩

end KVerif.C17
