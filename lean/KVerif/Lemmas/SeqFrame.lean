/-
Frame properties of the stand-alone sequence functions (Model/Sequences.lean), used to carry the
engine-level theorems of Props/C12.lean over to the composed kanata-level model:

* `kbd_out` and the virtual-key taps are write-only for sequences.rs: running any function with
  earlier output / earlier taps in front (`Eng.pre`) gives the same result with them in front;
  `cancel_sequence` and `tick_sequence_state` do not look at `layout.states` either;
* no call changes the input mode;
* taps only grow; a step that taps nothing leaves `layout.states` alone (only
  `do_successful_sequence_termination` touches the states, and it always taps);
* no step of the stream turns sequence mode on.
-/
import KVerif.Lemmas.SeqRunPlain
namespace KVerif.Seq

/-- the same engine record with earlier output and earlier taps in front -/
def Eng.pre (o : List Out) (p : List Nat) (e : Eng) : Eng := { e with out := o ++ e.out, taps := p ++ e.taps }

theorem pre_st (o p) (e : Eng) : (e.pre o p).st = e.st := rfl
theorem pre_states (o p) (e : Eng) : (e.pre o p).states = e.states := rfl

theorem pressBase_pre (o : List Out) (p : List Nat) (e : Eng) (k : Nat) :
    pressBase (e.pre o p) k = (pressBase e k).pre o p := by
  unfold pressBase Eng.pre
  dsimp only
  split <;> simp only [List.append_assoc]

theorem cancelSequence_frame (e : Eng) (ss : List KState) (o : List Out) (p : List Nat) :
    cancelSequence { st := e.st, states := ss, out := o ++ e.out, taps := p } =
      { st := (cancelSequence e).st, states := ss, out := o ++ (cancelSequence e).out, taps := p } := by
  unfold cancelSequence
  dsimp only
  split <;> simp only [List.append_assoc]

theorem cancelSequence_pre (o : List Out) (p : List Nat) (e : Eng) :
    cancelSequence (e.pre o p) = (cancelSequence e).pre o p := by
  rw [Eng.pre, cancelSequence_frame, Eng.pre, (cancelSequence_fields e).2.1, (cancelSequence_fields e).2.2.1]

theorem terminate_pre (o : List Out) (p : List Nat) (e : Eng) (j : Nat) (b : Bool) :
    terminate (e.pre o p) j b = (terminate e j b).pre o p := by
  unfold terminate Eng.pre
  dsimp only
  split <;> simp only [List.append_assoc]

theorem reconcile_pre (t : Trie Nat) (o : List Out) (p : List Nat) (e : Eng) (std ovl : List Nat × Res × Bool) :
    reconcile t (e.pre o p) std ovl = ((reconcile t e std ovl).1.pre o p, (reconcile t e std ovl).2) := by
  unfold reconcile
  split
  · rfl
  · rfl
  · rfl
  · simp only []
    split
    · congr 1
      exact cancelSequence_pre o p
        { e with st := { e.st with sequence := (dropFront t std.1 std.2.1).1, overlapped := ovl.1 } }
    · rfl

theorem finish_pre (t : Trie Nat) (o : List Out) (p : List Nat) (x : Eng × Res × Res) :
    finish t (x.1.pre o p, x.2) = (finish t x).pre o p := by
  obtain ⟨e, r1, r2⟩ := x
  unfold finish
  dsimp only [pre_st]
  split
  · exact terminate_pre o p e _ true
  · split
    · split
      · exact terminate_pre o p { e with st := { e.st with overlapped := e.st.overlapped ++ [KEY_OVERLAP_MARKER] } } _ true
      · exact terminate_pre o p { e with st := { e.st with overlapped := e.st.overlapped ++ [KEY_OVERLAP_MARKER] } } _ false
    · rfl

theorem doSeqPress_pre (t : Trie Nat) (mc : Bool) (o : List Out) (p : List Nat) (e : Eng) (k mm : Nat) :
    doSeqPress t mc (e.pre o p) k mm = (doSeqPress t mc e k mm).pre o p := by
  unfold doSeqPress
  simp only [pressBase_pre, reconcile_pre, pre_st]
  exact finish_pre t o p _

theorem allReleasedHook_pre (t : Trie Nat) (o : List Out) (p : List Nat) (e : Eng) :
    allReleasedHook t (e.pre o p) = (allReleasedHook t e).pre o p := by
  cases ha : e.st.active with
  | false =>
    have h1 : (e.pre o p).st.active = false := ha
    simp only [allReleasedHook, h1, ha, Bool.not_false, if_true]
  | true =>
    have h1 : (e.pre o p).st.active = true := ha
    simp only [allReleasedHook, ha, Bool.not_true, Bool.false_eq_true, if_false, pre_st]
    cases hg : t.getOrDescendant (e.st.overlapped ++ [KEY_OVERLAP_MARKER]) with
    | hasValue j =>
      simp only []
      exact terminate_pre o p
        { e with st := { e.st with overlapped := e.st.overlapped ++ [KEY_OVERLAP_MARKER], active := true } } j true
    | notInTrie => rfl
    | inTrie => rfl

theorem tickSeq_frame (e : Eng) (ss : List KState) (o : List Out) (p : List Nat) :
    tickSeq { st := e.st, states := ss, out := o ++ e.out, taps := p } =
      match tickSeq e with
      | .ok r => .ok { st := r.st, states := ss, out := o ++ r.out, taps := p }
      | .error c => .error c := by
  cases ha : e.st.active with
  | false => simp only [tickSeq, ha, Bool.not_false, if_true]
  | true =>
    simp only [tickSeq, ha, Bool.not_true, Bool.false_eq_true, if_false]
    by_cases h0 : e.st.ticksUntilTimeout = 0
    · simp only [h0, if_true]
    · simp only [h0, if_false]
      by_cases h1 : e.st.ticksUntilTimeout - 1 = 0
      · simp only [h1, if_true]
        exact congrArg Except.ok
          (cancelSequence_frame { e with st := { e.st with ticksUntilTimeout := 0, active := true } } ss o p)
      · simp only [h1, if_false]

theorem tickSeq_states_taps (e e' : Eng) (h : tickSeq e = .ok e') : e'.states = e.states ∧ e'.taps = e.taps := by
  have := tickSeq_frame e e.states [] e.taps
  rw [show ({ st := e.st, states := e.states, out := [] ++ e.out, taps := e.taps } : Eng) = e from rfl, h] at this
  injection this with this
  rw [this]
  exact ⟨rfl, rfl⟩

theorem tickSeq_pre (o : List Out) (p : List Nat) (e : Eng) :
    tickSeq (e.pre o p) = (match tickSeq e with | .ok e' => .ok (e'.pre o p) | .error c => .error c) := by
  rw [Eng.pre, tickSeq_frame]
  cases h : tickSeq e with
  | error c => rfl
  | ok r => obtain ⟨h1, h2⟩ := tickSeq_states_taps e r h; rw [← h1, ← h2]; rfl

theorem reconcile_mode (t : Trie Nat) (e : Eng) (std ovl : List Nat × Res × Bool) :
    (reconcile t e std ovl).1.st.mode = e.st.mode := by
  unfold reconcile
  split
  · rfl
  · rfl
  · rfl
  · simp only []
    split
    · exact (cancelSequence_fields _).2.2.2.1
    · rfl

theorem finish_mode (t : Trie Nat) (x : Eng × Res × Res) : (finish t x).st.mode = x.1.st.mode := by
  unfold finish
  split
  · exact (terminate_fields _ _ _).2.2.1
  · split
    · simp only []
      split
      · exact (terminate_fields _ _ _).2.2.1
      · exact (terminate_fields _ _ _).2.2.1
    · rfl

theorem doSeqPress_mode (t : Trie Nat) (mc : Bool) (e : Eng) (k mm : Nat) :
    (doSeqPress t mc e k mm).st.mode = e.st.mode := by
  unfold doSeqPress
  rw [finish_mode, reconcile_mode]
  rfl

theorem reconcile_taps_states (t : Trie Nat) (e : Eng) (std ovl : List Nat × Res × Bool) :
    (reconcile t e std ovl).1.taps = e.taps ∧ (reconcile t e std ovl).1.states = e.states := by
  unfold reconcile
  split
  · exact ⟨rfl, rfl⟩
  · exact ⟨rfl, rfl⟩
  · exact ⟨rfl, rfl⟩
  · simp only []
    split
    · exact ⟨(cancelSequence_fields _).2.1, (cancelSequence_fields _).2.2.1⟩
    · exact ⟨rfl, rfl⟩

theorem terminate_taps_ne (e : Eng) (j : Nat) (b : Bool) : (terminate e j b).taps ≠ e.taps := by
  rw [(terminate_fields e j b).2.1]
  intro h
  have := congrArg List.length h
  simp at this

theorem finish_notap (t : Trie Nat) (x : Eng × Res × Res) (h : (finish t x).taps = x.1.taps) :
    (finish t x).states = x.1.states := by
  revert h
  unfold finish
  split
  · exact fun h => absurd h (terminate_taps_ne _ _ _)
  · split
    · simp only []
      split
      · exact fun h => absurd h (terminate_taps_ne _ _ _)
      · exact fun h => absurd h (terminate_taps_ne _ _ _)
    · exact fun _ => rfl

theorem doSeqPress_notap (t : Trie Nat) (mc : Bool) (e : Eng) (k mm : Nat)
    (h : (doSeqPress t mc e k mm).taps = e.taps) : (doSeqPress t mc e k mm).states = e.states := by
  unfold doSeqPress at h ⊢
  have hr := reconcile_taps_states t (pressBase e k) (stdVariant t mc (e.st.sequence ++ [normaliseMod k ||| mm]))
    (overlapFix t e.st.overlapped (normaliseMod k ||| mm) ((normaliseMod k ||| mm) &&& MASK_KEYCODES ||| KEY_OVERLAP_MARKER))
  rw [finish_notap t _ (h.trans hr.1.symm), hr.2]
  rfl

theorem allReleasedHook_notap (t : Trie Nat) (e : Eng) (h : (allReleasedHook t e).taps = e.taps) :
    (allReleasedHook t e).states = e.states := by
  revert h
  unfold allReleasedHook
  split
  · exact fun _ => rfl
  · simp only []
    split
    · exact fun h => absurd h (terminate_taps_ne _ _ _)
    · exact fun _ => rfl
    · exact fun _ => rfl

/-- a step that taps nothing leaves `layout.states` alone -/
theorem engStep_notap (t : Trie Nat) (mc : Bool) (e e' : Eng) (i : Inp) (h : engStep t mc e i = .ok e')
    (ht : e'.taps = e.taps) : e'.states = e.states := by
  cases i with
  | key k =>
    injection h with h
    subst h
    revert ht
    split
    · exact doSeqPress_notap t mc e k 0
    · exact fun _ => rfl
  | tick => exact (tickSeq_states_taps e e' h).1
  | released =>
    injection h with h
    subst h
    exact allReleasedHook_notap t e ht

def mapPre (o : List Out) (p : List Nat) : Except Crash Eng → Except Crash Eng
  | .ok e => .ok (e.pre o p)
  | .error c => .error c

theorem engStep_pre (t : Trie Nat) (mc : Bool) (o : List Out) (p : List Nat) (e : Eng) (i : Inp) :
    engStep t mc (e.pre o p) i = mapPre o p (engStep t mc e i) := by
  cases i with
  | key k =>
    cases ha : e.st.active with
    | true => simp only [engStep, pre_st, mapPre, ha, if_true, doSeqPress_pre]
    | false =>
      simp only [engStep, pre_st, mapPre, ha, Bool.false_eq_true, if_false]
      simp only [Eng.pre, List.append_assoc]
  | tick =>
    simp only [engStep, tickSeq_pre, mapPre]
  | released => simp only [engStep, allReleasedHook_pre, mapPre]

theorem engStep_taps_mono (t : Trie Nat) (mc : Bool) (e e' : Eng) (i : Inp) (h : engStep t mc e i = .ok e') :
    ∃ p, e'.taps = e.taps ++ p := by
  have he : ({ e with out := [], taps := [] } : Eng).pre e.out e.taps = e := by simp [Eng.pre]
  rw [← he, engStep_pre] at h
  cases hr : engStep t mc { e with out := [], taps := [] } i with
  | error c => rw [hr] at h; cases h
  | ok r =>
    rw [hr] at h
    injection h with h
    exact ⟨r.taps, by rw [← h]; rfl⟩

/-- no step of the stream turns sequence mode on (only the leader action and always-on do) -/
theorem engStep_active_back (t : Trie Nat) (mc : Bool) (e e' : Eng) (i : Inp) (h : engStep t mc e i = .ok e')
    (ha : e'.st.active = true) : e.st.active = true := by
  cases hact : e.st.active with
  | true => rfl
  | false =>
    exfalso
    cases i with
    | key k =>
      simp only [engStep, hact, Bool.false_eq_true, if_false] at h
      injection h with h; subst h
      simp only [hact] at ha; cases ha
    | tick =>
      simp only [engStep, tickSeq, hact, Bool.not_false, if_true] at h
      injection h with h; subst h
      rw [hact] at ha; cases ha
    | released =>
      simp only [engStep, allReleasedHook, hact, Bool.not_false, if_true] at h
      injection h with h; subst h
      rw [hact] at ha; cases ha

/-- what every step hands back from its result to its argument holds from the end of a run back to
its start -/
theorem engRun_back {t : Trie Nat} {mc : Bool} {P : Eng → Prop}
    (hstep : ∀ e e' i, engStep t mc e i = .ok e' → P e' → P e) (is : List Inp) (e e' : Eng)
    (h : engRun t mc e is = .ok e') (hp : P e') : P e := by
  induction is generalizing e with
  | nil => injection h with h; rw [h]; exact hp
  | cons i is ih =>
    rw [engRun] at h
    cases h1 : engStep t mc e i with
    | error c => rw [h1] at h; cases h
    | ok e1 => rw [h1] at h; exact hstep e e1 i h1 (ih e1 h)

theorem engRun_active_back (t : Trie Nat) (mc : Bool) (is : List Inp) (e e' : Eng)
    (h : engRun t mc e is = .ok e') (ha : e'.st.active = true) : e.st.active = true :=
  engRun_back (engStep_active_back t mc) is e e' h ha

theorem engRun_notap_back (t : Trie Nat) (mc : Bool) (is : List Inp) (e e' : Eng)
    (h : engRun t mc e is = .ok e') (ht : e'.taps = []) : e.taps = [] :=
  engRun_back (P := fun e => e.taps = []) (fun e e1 i h1 h => by
    obtain ⟨p, hp⟩ := engStep_taps_mono t mc e e1 i h1
    exact (List.append_eq_nil_iff.mp (hp.symm.trans h)).1) is e e' h ht

end KVerif.Seq
