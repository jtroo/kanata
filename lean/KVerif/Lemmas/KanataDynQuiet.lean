/-
The dynamic-macro hooks of the kanata-level model do nothing when no recording is on
(`dyn.rcd = none`): used by the existing theorems about `tickStates` / `handleInputEvent`.
-/
import KVerif.Model.Kanata
namespace KVerif.K

theorem dynTickRecord_none (k : KState) (h : k.dyn.rcd = none) : dynTickRecord k = k := by
  unfold dynTickRecord; rw [h]

theorem dynRecord_none (k : KState) (p : Bool) (c : Nat) (h : k.dyn.rcd = none) : dynRecord k p c = k := by
  unfold dynRecord; rw [h]

/-- the hooks touch nothing but `dyn` -/
theorem dynTickRecord_fields (k : KState) :
    (dynTickRecord k).layout = k.layout ∧ (dynTickRecord k).out = k.out ∧
    (dynTickRecord k).curKeys = k.curKeys ∧ (dynTickRecord k).prevKeys = k.prevKeys ∧
    (dynTickRecord k).vkeysPendingRelease = k.vkeysPendingRelease ∧
    (dynTickRecord k).waitingForIdle = k.waitingForIdle ∧
    (dynTickRecord k).ticksSinceIdle = k.ticksSinceIdle ∧
    (dynTickRecord k).customs = k.customs ∧
    (dynTickRecord k).macroOnPressCancelDuration = k.macroOnPressCancelDuration := by
  unfold dynTickRecord; split <;> simp

theorem dynRecord_fields (k : KState) (p : Bool) (c : Nat) :
    (dynRecord k p c).layout = k.layout ∧ (dynRecord k p c).out = k.out ∧
    (dynRecord k p c).curKeys = k.curKeys ∧ (dynRecord k p c).prevKeys = k.prevKeys ∧
    (dynRecord k p c).vkeysPendingRelease = k.vkeysPendingRelease ∧
    (dynRecord k p c).waitingForIdle = k.waitingForIdle ∧
    (dynRecord k p c).ticksSinceIdle = k.ticksSinceIdle ∧
    (dynRecord k p c).customs = k.customs ∧
    (dynRecord k p c).macroOnPressCancelDuration = k.macroOnPressCancelDuration := by
  unfold dynRecord; split <;> simp

end KVerif.K
