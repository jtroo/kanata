/-
C01 helper lemmas: quiescence on the one-shot fragment of C06, from its invariant `C06.Inv`, and what the
other fragments share.

* what `resolve_coord` and the plain arms of `dispatch` do on any fragment (`resolve_ok`, `resolve_pred`,
  `dispatch_simple`, …), the largest value of a function over a configuration's actions (`le_max_actions`);
* a potential function on layout states that every tick without input decreases, built from the queue
  (each queued press weighs `rapid-event-delay + 2`, each queued release 1), the one-shot countdown (or a
  reserve of `B + 1` while a press is still queued that may restart it) and the input pause;
* the fragment never crashes (`CfgSafe`, `Safe`, `tick_total`), which with the invariant gives the run-loop
  instances `stepInv`, `stepInvB`;
* `LayoutAtRest`, where every fragment's quiescence theorem ends.
-/
import KVerif.Lemmas.OneShotStep
import KVerif.Lemmas.RunLoop
namespace KVerif.Quiesce
open KVerif.L KVerif.C06

/-! ## the largest one-shot timeout of a configuration -/

/-- the timeout of a one-shot action -/
def oshT : Action → Nat
  | .oneShot _ T _ => T
  | _ => 0

def listMax (l : List Nat) : Nat := l.foldl max 0

theorem foldl_max_ge : ∀ (l : List Nat) (a : Nat), a ≤ l.foldl max a ∧ ∀ x ∈ l, x ≤ l.foldl max a := by
  intro l
  induction l with
  | nil => intro a; exact ⟨Nat.le_refl _, fun _ h => by cases h⟩
  | cons y ys ih =>
    intro a
    obtain ⟨i1, i2⟩ := ih (max a y)
    simp only [List.foldl_cons]
    refine ⟨Nat.le_trans (Nat.le_max_left a y) i1, fun x hx => ?_⟩
    rcases List.mem_cons.mp hx with rfl | hx
    · exact Nat.le_trans (Nat.le_max_right a x) i1
    · exact i2 x hx

theorem le_listMax {l : List Nat} {x : Nat} (h : x ∈ l) : x ≤ listMax l := (foldl_max_ge l 0).2 x h

theorem listMax_le {b : Nat} : ∀ {l : List Nat}, (∀ x ∈ l, x ≤ b) → listMax l ≤ b := by
  have key : ∀ (l : List Nat) (a : Nat), a ≤ b → (∀ x ∈ l, x ≤ b) → l.foldl max a ≤ b := by
    intro l
    induction l with
    | nil => intro a ha _; exact ha
    | cons y ys ih =>
      intro a ha h
      exact ih _ (Nat.max_le.mpr ⟨ha, h y List.mem_cons_self⟩) fun x hx => h x (List.mem_cons_of_mem _ hx)
  exact fun {l} h => key l 0 (Nat.zero_le _) h

/-- the shape of `maxOneShot` and of the like bounds of the other fragments -/
theorem le_max_actions (f : Action → Nat) (c : LCfg) :
    let m := max (listMax (c.layers.map fun tbl => listMax (tbl.map fun e => f e.2))) (listMax (c.srcKeys.map fun e => f e.2))
    (∀ tbl ∈ c.layers, ∀ e ∈ tbl, f e.2 ≤ m) ∧ (∀ e ∈ c.srcKeys, f e.2 ≤ m) := by
  refine ⟨fun tbl ht e he => ?_, fun e he => ?_⟩
  · have h1 : f e.2 ≤ listMax (tbl.map fun e => f e.2) := le_listMax (List.mem_map.mpr ⟨e, he, rfl⟩)
    have h2 : listMax (tbl.map fun e => f e.2) ≤ listMax (c.layers.map fun tbl => listMax (tbl.map fun e => f e.2)) :=
      le_listMax (List.mem_map.mpr ⟨tbl, ht, rfl⟩)
    exact Nat.le_trans h1 (Nat.le_trans h2 (Nat.le_max_left _ _))
  · have h1 : f e.2 ≤ listMax (c.srcKeys.map fun e => f e.2) := le_listMax (List.mem_map.mpr ⟨e, he, rfl⟩)
    exact Nat.le_trans h1 (Nat.le_max_right _ _)

/-- the largest timeout of any one-shot key of the configuration -/
def maxOneShot (c : LCfg) : Nat :=
  max (listMax (c.layers.map fun tbl => listMax (tbl.map fun e => oshT e.2)))
      (listMax (c.srcKeys.map fun e => oshT e.2))

/-- every one-shot timeout of the configuration is at most `B` -/
def OshBound (c : LCfg) (B : Nat) : Prop :=
  (∀ tbl ∈ c.layers, ∀ e ∈ tbl, oshT e.2 ≤ B) ∧ (∀ e ∈ c.srcKeys, oshT e.2 ≤ B)

theorem oshBound_max (c : LCfg) : OshBound c (maxOneShot c) := le_max_actions oshT c

theorem srcKey_mem (c : LCfg) (y : Nat) : c.srcKey y = .noOp ∨ ∃ e ∈ c.srcKeys, e.2 = c.srcKey y := by
  unfold LCfg.srcKey
  split
  · rename_i a hf
    exact Or.inr ⟨_, List.mem_of_find?_eq_some hf, rfl⟩
  · exact Or.inl rfl

theorem layerAction_mem {c : LCfg} {l : Nat} {co : Coord} {a : Action} (h : c.layerAction l co = .ok a) :
    a = .trans ∨ ∃ tbl ∈ c.layers, ∃ e ∈ tbl, e.2 = a := by
  unfold LCfg.layerAction at h
  split at h; · cases h
  rename_i tbl htbl
  split at h; · cases h
  split at h; · cases h
  split at h
  · rename_i e a' hf
    cases h
    exact Or.inr ⟨tbl, List.mem_of_getElem? htbl, _, List.mem_of_find?_eq_some hf, rfl⟩
  · cases h; exact Or.inl rfl

theorem resolve_ok (s : Layout) (c : Coord) : ∀ (ls : List Nat) (a : Action) (rest : List Nat),
    s.resolveCoord c ls = .ok (a, rest) →
    (∃ l ∈ ls, s.cfg.layerAction l c = .ok a ∧ a ≠ .trans ∧ rest.length < ls.length) ∨
    ((a = s.cfg.srcKey c.2 ∨ a = .noOp) ∧ rest = [])
  | [], a, rest, h => by
    simp only [Layout.resolveCoord] at h
    split at h; · cases h
    split at h; · cases h
    split at h
    · split at h; · cases h
      cases h; exact Or.inr ⟨Or.inl rfl, rfl⟩
    · cases h; exact Or.inr ⟨Or.inr rfl, rfl⟩
  | l :: ls, a, rest, h => by
    simp only [Layout.resolveCoord] at h
    split at h; · cases h
    split at h; · cases h
    split at h
    · cases h
    · rcases resolve_ok s c ls a rest h with ⟨l', hl, h1, h2, h3⟩ | h1
      · exact Or.inl ⟨l', List.mem_cons_of_mem _ hl, h1, h2, Nat.lt_succ_of_lt h3⟩
      · exact Or.inr h1
    · rename_i x hnt hx
      cases h
      exact Or.inl ⟨l, List.mem_cons_self, hx, fun e => hnt (e ▸ rfl), Nat.lt_succ_self _⟩

theorem resolve_pred (P : Action → Prop) (h0 : P .noOp) (ht : P .trans) (s : Layout) (coord : Coord)
    (hl : ∀ tbl ∈ s.cfg.layers, ∀ e ∈ tbl, P e.2) (hs : ∀ e ∈ s.cfg.srcKeys, P e.2) :
    ∀ (ls : List Nat) (a : Action) (rest : List Nat), s.resolveCoord coord ls = .ok (a, rest) → P a := by
  intro ls a rest h
  rcases resolve_ok s coord ls a rest h with ⟨l, _, h1, _⟩ | ⟨rfl | rfl, _⟩
  · rcases layerAction_mem h1 with rfl | ⟨tbl, htbl, e, he, rfl⟩
    · exact ht
    · exact hl tbl htbl e he
  · rcases srcKey_mem s.cfg coord.2 with h1 | ⟨e, he, h1⟩
    · exact h1 ▸ h0
    · exact h1 ▸ hs e he
  · exact h0

/-! ## a dequeued press on the fragment: the one-shot operation with its timeout bounded, and the
quick-tap tracker -/

/-- as `C06.OshOp`, with the timeout an activation installs bounded by `B` -/
inductive OshOpT (B : Nat) (o : OneShotState) (c : Coord) : OneShotState → Option Coord → Prop
  | other : OshOpT B o c (o.handlePress (.other c)).1 none
  | activate (T : Nat) (v : OneShotEnd) (hT : T ≤ B) : OshOpT B o c (activate o c T v) (activateOverflow o c)
  | skip : OshOpT B o c o none

theorem prelude_lpt (s : Layout) (c : Coord) : (prelude s c).lptTapHoldTimeout ≤ s.lptTapHoldTimeout := by
  unfold prelude
  split
  · exact Nat.zero_le _
  · exact Nat.le_refl _

theorem updateCoord_lpt (s : Layout) (c : Coord) : (updateCoord s c).lptTapHoldTimeout = s.lptTapHoldTimeout := by
  unfold updateCoord
  split <;> rfl

theorem oshOther_lpt (s : Layout) (os : Bool) (c : Coord) :
    (oshOther s os c).1.lptTapHoldTimeout = s.lptTapHoldTimeout := by
  rw [oshOther_spec]

theorem pushKeyCodes_lpt (kcs : List KeyCode) (c : Coord) (f : Nat) : ∀ (s : Layout),
    (pushKeyCodes s kcs c f).lptTapHoldTimeout = s.lptTapHoldTimeout := by
  induction kcs with
  | nil => intro s; rfl
  | cons kc rest ih =>
    intro s
    have := ih (({ s with histKeys := histPush s.histKeys kc } : Layout).pushState (.normalKey kc c f))
    simp only [pushKeyCodes, List.foldl_cons] at this ⊢
    rw [this]; rfl

theorem armKeyCode_lpt (s : Layout) (a : Action) (kc : KeyCode) (c : Coord) (os : Bool) :
    (armKeyCode s a kc c os).lptTapHoldTimeout = s.lptTapHoldTimeout := by
  unfold armKeyCode
  simp only []
  split <;> simp only [oshOther_lpt, Layout.pushState, updateCoord_lpt]

theorem armMultipleKeyCodes_lpt (s : Layout) (a : Action) (kcs : List KeyCode) (c : Coord) (os : Bool) :
    (armMultipleKeyCodes s a kcs c os).lptTapHoldTimeout = s.lptTapHoldTimeout := by
  unfold armMultipleKeyCodes
  cases os
  · simp only [Bool.false_eq_true, if_false]
    split <;> simp only [oshOther_lpt, pushKeyCodes_lpt, updateCoord_lpt]
  · simp only [if_true]
    split <;> simp only [oshOther_lpt, pushKeyCodes_lpt, updateCoord_lpt]

theorem armLayer_lpt (s : Layout) (v : Nat) (c : Coord) (os : Bool) :
    (armLayer s v c os).lptTapHoldTimeout = s.lptTapHoldTimeout := by
  unfold armLayer
  simp only [oshOther_lpt, Layout.pushState, updateCoord_lpt]

theorem armNoOp_lpt (s : Layout) (a : Action) (c : Coord) (os : Bool) :
    (armNoOp s a c os).lptTapHoldTimeout = s.lptTapHoldTimeout := by
  unfold armNoOp Layout.oshPress
  simp only []
  split <;> rfl

theorem simpleArm_lpt (s : Layout) (a : Action) (c : Coord) (os : Bool) :
    (simpleArm s a c os).lptTapHoldTimeout = s.lptTapHoldTimeout := by
  unfold simpleArm
  split
  · exact armKeyCode_lpt ..
  · exact armMultipleKeyCodes_lpt ..
  · exact armLayer_lpt ..
  · rfl

theorem oneShotArm_lpt (s : Layout) (inner : Action) (T : Nat) (v : OneShotEnd) (c : Coord) :
    (oneShotArm s inner T v c).1.lptTapHoldTimeout ≤ s.lptTapHoldTimeout := by
  have h1 : (oneShotArm s inner T v c).1.lptTapHoldTimeout =
      (simpleArm (prelude (updateCoord s c) c) inner c true).lptTapHoldTimeout := by
    unfold oneShotArm armOneShotPost Layout.oshPress
    rfl
  rw [h1, simpleArm_lpt]
  exact Nat.le_trans (prelude_lpt _ _) (Nat.le_of_eq (updateCoord_lpt s c))

theorem event_room_lpt (fuel : Nat) (s : Layout) (e : Ev) (hq : s.queue.length < QUEUE_SIZE) (s' : Layout)
    (h : event (fuel + 1) s e = .ok s') : s'.lptTapHoldTimeout = s.lptTapHoldTimeout := by
  cases e <;> simp only [event, pushBackWrap, hq, if_true] at h <;>
    (injection h with h; subst h; rfl)

theorem dispatch_simple (fuel : Nat) (s : Layout) {a : Action} (hs : Simple a) (c : Coord) (d : Nat) (os : Bool)
    (ls : List Nat) : dispatch (fuel + 1) s a c d os ls = .ok (simpleArm s a c os, .noEvent) := by
  cases a <;> simp only [Simple] at hs <;> simp only [dispatch, simpleArm]

theorem dispatch_noOp (fuel : Nat) (s : Layout) (c : Coord) (d : Nat) (os : Bool) (ls : List Nat) :
    dispatch (fuel + 1) s .noOp c d os ls = .ok (armNoOp s .noOp c os, .noEvent) := by
  simp only [dispatch]

theorem dispatch_trans (fuel : Nat) (s : Layout) (c : Coord) (d : Nat) (os : Bool) (ls : List Nat) :
    dispatch (fuel + 1) s .trans c d os ls = .error .transUnresolved := by
  simp only [dispatch]

theorem frag_cases {a : Action} (hf : Frag a) :
    a = .noOp ∨ a = .trans ∨ Simple a ∨ ∃ inner T v, a = .oneShot inner T v ∧ Simple inner := by
  cases a <;> simp only [Frag] at hf
  case noOp => exact Or.inl rfl
  case trans => exact Or.inr (Or.inl rfl)
  case oneShot inner T v => exact Or.inr (Or.inr (Or.inr ⟨inner, T, v, rfl, hf⟩))
  all_goals exact Or.inr (Or.inr (Or.inl trivial))

/-- `dispatch_frag` of C06 with the activation's timeout bounded and the quick-tap tracker followed -/
theorem dispatch_fragT (fuel : Nat) (B : Nat) (s : Layout) (a : Action) (hf : Frag a) (hT : oshT a ≤ B)
    (c : Coord) (d : Nat) (ls : List Nat) (s' : Layout) (cu : CustomEv) (hq : s.queue.length < QUEUE_SIZE)
    (h : dispatch (fuel + 3) s a c d false ls = .ok (s', cu)) :
    s'.lptTapHoldTimeout ≤ s.lptTapHoldTimeout ∧
    ∃ ov, OshOpT B s.oneshot c s'.oneshot ov ∧ s'.queue = s.queue ++ ovq ov := by
  rcases frag_cases hf with rfl | rfl | hs | ⟨inner, T, v, rfl, hs⟩
  · rw [dispatch_noOp] at h
    cases h
    obtain ⟨n1, n2, n3, n4⟩ := armNoOp_spec s .noOp c
    refine ⟨Nat.le_of_eq (armNoOp_lpt ..), ?_⟩
    by_cases hc : (c != (0, 0)) = true
    · exact ⟨none, by rw [n4, if_pos hc]; exact .other, by rw [n2]; simp [ovq]⟩
    · exact ⟨none, by rw [n4, if_neg hc]; exact .skip, by rw [n2]; simp [ovq]⟩
  · rw [dispatch_trans] at h; cases h
  · rw [dispatch_simple _ _ hs] at h
    cases h
    have a := simpleArm_spec s a hs c false
    exact ⟨Nat.le_of_eq (simpleArm_lpt ..), none, by rw [a.osh]; exact .other, by rw [a.queue]; simp [ovq]⟩
  · simp only [oshT] at hT
    rw [dispatch_oneShot fuel s inner hs] at h
    obtain ⟨o1, o2, o3, o4, o5⟩ := oneShotArm_spec s inner hs T v c
    have o6 := oneShotArm_lpt s inner T v c
    generalize oneShotArm s inner T v c = r at h o1 o2 o3 o4 o5 o6
    obtain ⟨s2, ov⟩ := r
    simp only at o1 o2 o3 o4 o5 o6
    cases ov with
    | none =>
      cases h
      exact ⟨o6, none, by rw [o4, o5]; exact .activate T v hT, by rw [o2]; simp [ovq]⟩
    | some k =>
      simp only at h
      obtain ⟨s3, e1, e2, e3, e4, e5⟩ := event_room (fuel + 1) s2 (.release k) (by rw [o2]; exact hq)
      have e6 := event_room_lpt (fuel + 1) s2 (.release k) (by rw [o2]; exact hq) s3 e1
      rw [e1] at h
      cases h
      refine ⟨by rw [e6]; exact o6, some k, ?_, ?_⟩
      · rw [e4, o4, o5]; exact .activate T v hT
      · rw [e2, o2]; rfl

def FragT (B : Nat) (a : Action) : Prop := Frag a ∧ oshT a ≤ B

theorem dequeue_press_fragT {s : Layout} {B : Nat} (hc : CfgFrag s.cfg) (hb : OshBound s.cfg B) (h : Calm s)
    (hq : s.queue.length < QUEUE_SIZE) (c : Coord) (since : Nat) (s' : Layout) (cu : CustomEv)
    (hd : dequeue FUEL s ⟨.press c, since⟩ = .ok (s', cu)) :
    s'.lptTapHoldTimeout ≤ s.lptTapHoldTimeout ∧
    ∃ ov, OshOpT B s.oneshot c s'.oneshot ov ∧ s'.queue = s.queue ++ ovq ov := by
  rw [FUEL_5] at hd
  simp only [dequeue, h.tde, bind, Except.bind] at hd
  split at hd
  · cases hd
  · rename_i order ho
    simp only [doAction] at hd
    split at hd
    · cases hd
    · rename_i a ls hm
      have hfa : FragT B a := resolve_pred (FragT B) ⟨trivial, Nat.zero_le _⟩ ⟨trivial, Nat.zero_le _⟩ s c
        (fun tbl ht e he => ⟨hc.1 tbl ht e he, hb.1 tbl ht e he⟩) (fun e he => ⟨hc.2 e he, hb.2 e he⟩) _ _ _ hm
      obtain ⟨p1, p2, p3, p4⟩ := prelude_spec s c
      obtain ⟨r1, ov, q1, q2⟩ := dispatch_fragT 3995 B (prelude s c) a hfa.1 hfa.2 c since ls s' cu (by rw [p3]; exact hq) hd
      exact ⟨Nat.le_trans r1 (prelude_lpt s c), ov, by rw [p2] at q1; exact q1, by rw [q2, p3]⟩

/-! ## the potential -/

/-- what the one-shot countdown still costs: nothing when no one-shot key is active, one tick when a
release is requested, otherwise the remaining countdown (at least one tick) -/
def oshLoad (o : OneShotState) : Nat :=
  if o.keys = [] then 0 else if o.releaseOnNextTick then 1 else max o.timeout 1

/-- weight of a queued event: a press may start an input pause of `d` ticks -/
def evW (d : Nat) (q : Queued) : Nat :=
  match q.ev with
  | .press _ => d + 2
  | .release _ => 1

def queueLoad (d : Nat) (q : List Queued) : Nat := (q.map (evW d)).sum

/-- while a press is queued it may be that of a one-shot key, restarting the countdown at up to `B` -/
def reserve (B : Nat) (q : List Queued) : Nat := if q.any (·.ev.isPress) then B + 1 else 0

/-- an upper bound for the number of ticks until the layout is at rest -/
def potential (B d : Nat) (s : Layout) : Nat :=
  queueLoad d s.queue + max (oshLoad s.oneshot) (reserve B s.queue) + s.oneshot.pauseInputProcessingTicks

/-- the one-shot countdown never exceeds the configuration's largest timeout, the input pause never
the rapid-event delay `d`, and the quick-tap tracker is never armed on this fragment -/
structure OshB (B d : Nat) (s : Layout) : Prop where
  load : oshLoad s.oneshot ≤ B + 1
  pause : s.oneshot.pauseInputProcessingTicks ≤ d
  delay : s.oneshot.pauseInputProcessingDelay = d
  lpt : s.lptTapHoldTimeout = 0

theorem queueLoad_age (d : Nat) (q : List Queued) : queueLoad d (age q) = queueLoad d q := by
  unfold queueLoad age
  rw [List.map_map]
  rfl

theorem reserve_age (B : Nat) (q : List Queued) : reserve B (age q) = reserve B q := by
  unfold reserve age
  rw [List.any_map]
  rfl

theorem queueLoad_cons (d : Nat) (x : Queued) (q : List Queued) : queueLoad d (x :: q) = evW d x + queueLoad d q := by
  simp [queueLoad]

theorem queueLoad_append (d : Nat) (p q : List Queued) : queueLoad d (p ++ q) = queueLoad d p + queueLoad d q := by
  simp [queueLoad]

theorem queueLoad_le (d : Nat) : ∀ q : List Queued, queueLoad d q ≤ (d + 2) * q.length := by
  intro q
  induction q with
  | nil => simp [queueLoad]
  | cons x rest ih =>
    rw [queueLoad_cons, List.length_cons, Nat.mul_succ]
    have : evW d x ≤ d + 2 := by
      unfold evW; split <;> omega
    omega

theorem queueLoad_zero (d : Nat) : ∀ q : List Queued, queueLoad d q = 0 → q = [] := by
  intro q h
  cases q with
  | nil => rfl
  | cons x rest =>
    rw [queueLoad_cons] at h
    have : 1 ≤ evW d x := by
      unfold evW; split <;> omega
    omega

theorem reserve_le (B : Nat) (q : List Queued) : reserve B q ≤ B + 1 := by
  unfold reserve; split <;> omega

theorem reserve_nil (B : Nat) : reserve B [] = 0 := rfl

theorem ovq_load (d : Nat) (ov : Option Coord) : queueLoad d (ovq ov) ≤ 1 := by
  cases ov <;> simp [ovq, queueLoad, evW]

theorem reserve_append_ovq (B : Nat) (q : List Queued) (ov : Option Coord) : reserve B (q ++ ovq ov) = reserve B q := by
  cases ov <;> simp [ovq, reserve, Ev.isPress]

theorem reserve_tail_le (B : Nat) (x : Queued) (q : List Queued) : reserve B q ≤ reserve B (x :: q) := by
  unfold reserve
  simp only [List.any_cons]
  split
  · rename_i h; simp [h]
  · exact Nat.zero_le _

theorem reserve_press (B : Nat) (c : Coord) (n : Nat) (q : List Queued) : reserve B (⟨.press c, n⟩ :: q) = B + 1 := by
  simp [reserve, Ev.isPress]

/-! ### the one-shot operations and the load -/

theorem oshLoad_pos {o : OneShotState} (h : o.keys ≠ []) : 1 ≤ oshLoad o := by
  unfold oshLoad
  rw [if_neg h]
  split
  · exact Nat.le_refl _
  · exact Nat.le_max_right _ _

theorem oshLoad_inactive {o : OneShotState} (h : o.keys = []) : oshLoad o = 0 := by
  unfold oshLoad; rw [if_pos h]

theorem oshLoad_zero {o : OneShotState} (h : oshLoad o = 0) : o.keys = [] := by
  by_cases hk : o.keys = []
  · exact hk
  · have := oshLoad_pos hk; omega

theorem oshLoad_cleared (o : OneShotState) : oshLoad (OneShotState.cleared o) = 0 := rfl

theorem oshLoad_waits (o : OneShotState) (hk : o.keys ≠ []) (h1 : o.releaseOnNextTick = false) (h2 : 2 ≤ o.timeout) :
    oshLoad { o with ticksToIgnoreEvents := o.ticksToIgnoreEvents - 1, timeout := o.timeout - 1 } = oshLoad o - 1 := by
  unfold oshLoad
  simp only [if_neg hk, h1, Bool.false_eq_true, if_false]
  omega

/-- `handle_release` never raises the load and leaves the pause alone -/
theorem handleRelease_load (o : OneShotState) (c : Coord) :
    oshLoad (o.handleRelease c).1 ≤ oshLoad o ∧
    (o.handleRelease c).1.pauseInputProcessingTicks = o.pauseInputProcessingTicks ∧
    (o.handleRelease c).1.pauseInputProcessingDelay = o.pauseInputProcessingDelay := by
  by_cases hk : o.keys = []
  · rw [handleRelease_inactive _ c hk]; exact ⟨Nat.le_refl _, rfl, rfl⟩
  · by_cases hc : o.keys.contains c = true
    · rw [handleRelease_active _ c hc]
      exact ⟨Nat.le_refl _, rfl, rfl⟩
    · have hc' : o.keys.contains c = false := by simpa using hc
      rw [handleRelease_other _ c hk hc']
      refine ⟨?_, rfl, rfl⟩
      unfold oshLoad
      simp only [if_neg hk]
      cases o.releaseOnNextTick
      · simp only [Bool.false_or, Bool.false_eq_true, if_false]
        split
        · exact Nat.le_max_right _ _
        · exact Nat.le_refl _
      · simp

/-- `handle_press(Other)` (events not ignored) never raises the load; the pause becomes the delay or
stays -/
theorem handlePress_other_load (o : OneShotState) (c : Coord) (hi : o.ticksToIgnoreEvents = 0) :
    oshLoad (o.handlePress (.other c)).1 ≤ oshLoad o ∧
    ((o.handlePress (.other c)).1.pauseInputProcessingTicks = o.pauseInputProcessingTicks ∨
     (o.handlePress (.other c)).1.pauseInputProcessingTicks = o.pauseInputProcessingDelay) ∧
    (o.handlePress (.other c)).1.pauseInputProcessingDelay = o.pauseInputProcessingDelay := by
  by_cases hk : o.keys = []
  · rw [handlePress_inactive _ _ hk]; exact ⟨Nat.le_refl _, Or.inl rfl, rfl⟩
  · cases he : isPressEnd o.endConfig
    · rw [handlePress_other_releaseEnd _ c hk hi he]
      exact ⟨Nat.le_refl _, Or.inl rfl, rfl⟩
    · rw [handlePress_other_pressEnd _ c hk hi he]
      refine ⟨?_, Or.inr rfl, rfl⟩
      unfold oshLoad
      simp only [if_neg hk]
      split
      · exact Nat.le_refl _
      · omega

/-- the activation of a one-shot key with timeout `T`: the load is at most `max T 1`; pause and delay stay -/
theorem activate_load (o : OneShotState) (c : Coord) (T : Nat) (v : OneShotEnd) :
    oshLoad (activate o c T v) ≤ max T 1 ∧
    (activate o c T v).pauseInputProcessingTicks = o.pauseInputProcessingTicks ∧
    (activate o c T v).pauseInputProcessingDelay = o.pauseInputProcessingDelay := by
  obtain ⟨a1, a2, _, _, a5, _, _, _⟩ := activate_fields o c T v
  refine ⟨?_, ?_, a5⟩
  · unfold oshLoad
    rw [if_neg a1, a2]
    split
    · exact Nat.le_max_right _ _
    · exact Nat.le_refl _
  · simp only [activate]
    unfold OneShotState.handlePress
    split
    · rfl
    · simp only []; split <;> rfl

theorem oshLoad_pause (o : OneShotState) (x : Nat) :
    oshLoad { o with pauseInputProcessingTicks := x } = oshLoad o := rfl

theorem potential_mono {B d k : Nat} {s s' : Layout} (hq : queueLoad d s'.queue + k ≤ queueLoad d s.queue)
    (hl : oshLoad s'.oneshot ≤ oshLoad s.oneshot) (hr : reserve B s'.queue ≤ reserve B s.queue)
    (hp : s'.oneshot.pauseInputProcessingTicks ≤ s.oneshot.pauseInputProcessingTicks) :
    potential B d s' + k ≤ potential B d s := by
  unfold potential
  omega

theorem potential_le_queue {B d : Nat} {s : Layout} (hB : OshB B d s) :
    potential B d s ≤ queueLoad d s.queue + (B + 1) + d := by
  unfold potential
  have := reserve_le B s.queue
  have := hB.load
  have := hB.pause
  omega

theorem potential_press {B d : Nat} {s : Layout} {c : Coord} {n : Nat} {rest : List Queued}
    (hq : s.queue = ⟨.press c, n⟩ :: rest) :
    d + 2 + queueLoad d rest + (B + 1) ≤ potential B d s := by
  unfold potential
  rw [hq, reserve_press, queueLoad_cons]
  have : evW d ⟨.press c, n⟩ = d + 2 := rfl
  omega

theorem potential_idle {B d : Nat} {s : Layout} (hq : s.queue = []) (hp : s.oneshot.pauseInputProcessingTicks = 0) :
    potential B d s = oshLoad s.oneshot := by
  unfold potential
  rw [hq, hp, reserve_nil, Nat.max_zero]
  exact Nat.zero_add _

theorem oshLoad_le_potential (B d : Nat) (s : Layout) : oshLoad s.oneshot ≤ potential B d s := by
  unfold potential
  omega

/-! ## one tick, stage by stage -/

theorem pre_stage {s : Layout} {down : List Coord} {B d : Nat} (h : Inv s down) (hB : OshB B d s) :
    OshB B d (tickPre s) ∧ potential B d (tickPre s) = potential B d s := by
  rw [tickPre_calm h.calm]
  refine ⟨⟨hB.load, hB.pause, hB.delay, by simp [hB.lpt]⟩, ?_⟩
  simp only [potential, queueLoad_age, reserve_age]

theorem osh_stage {s : Layout} {down : List Coord} {B d : Nat} (h : Inv s down) (hB : OshB B d s) :
    ∃ s1, tickOneshot s = .ok (s1, .noEvent) ∧ Inv s1 down ∧ OshB B d s1 ∧ s1.queue = s.queue ∧
      s1.cfg = s.cfg ∧ oshLoad s1.oneshot ≤ oshLoad s.oneshot - 1 ∧
      s1.oneshot.pauseInputProcessingTicks ≤ s.oneshot.pauseInputProcessingTicks := by
  obtain ⟨s1, e1, i1, q1, fr⟩ := h.osh
  have key : OshB B d s1 ∧ oshLoad s1.oneshot ≤ oshLoad s.oneshot - 1 ∧
      s1.oneshot.pauseInputProcessingTicks ≤ s.oneshot.pauseInputProcessingTicks := by
    by_cases hk : s.oneshot.keys = []
    · rw [tickOneshot_inactive hk] at e1
      cases e1
      exact ⟨hB, by rw [oshLoad_inactive hk]; exact Nat.zero_le _, Nat.le_refl _⟩
    · by_cases hf : s.oneshot.releaseOnNextTick = true ∨ s.oneshot.timeout ≤ 1
      · rw [tickOneshot_fires h.calm.states hk hf] at e1
        cases e1
        exact ⟨⟨Nat.zero_le _, Nat.zero_le _, hB.delay, hB.lpt⟩, Nat.zero_le _, Nat.zero_le _⟩
      · have h1 : s.oneshot.releaseOnNextTick = false := by
          cases hr : s.oneshot.releaseOnNextTick
          · rfl
          · exact absurd (Or.inl hr) hf
        have h2 : 2 ≤ s.oneshot.timeout := by omega
        rw [tickOneshot_waits hk h1 h2] at e1
        cases e1
        have hl := oshLoad_waits s.oneshot hk h1 h2
        exact ⟨⟨hl ▸ Nat.le_trans (Nat.sub_le _ _) hB.load, hB.pause, hB.delay, hB.lpt⟩, Nat.le_of_eq hl, Nat.le_refl _⟩
  exact ⟨s1, e1, i1, key.1, q1, fr.cfg, key.2⟩

/-- a queued press weighs `d + 2` and holds the reserve `B + 1`: whatever the press does, the bounds on
the new state say the potential has gone down -/
theorem main_stage {s s2 : Layout} {down : List Coord} {B d : Nat} {c2 : CustomEv} (h : Inv s down)
    (hb : OshBound s.cfg B) (hB : OshB B d s) (hm : tickMain s = .ok (s2, c2)) :
    OshB B d s2 ∧ (potential B d s2 + 1 ≤ potential B d s ∨
      (s.queue = [] ∧ s.oneshot.pauseInputProcessingTicks = 0 ∧ s2 = s)) := by
  by_cases hp : 0 < s.oneshot.pauseInputProcessingTicks
  · rw [tickMain_paused h.calm.waiting h.calm.extra hp] at hm
    cases hm
    refine ⟨⟨hB.load, Nat.le_trans (Nat.sub_le _ _) hB.pause, hB.delay, hB.lpt⟩, Or.inl ?_⟩
    simp only [potential, oshLoad_pause]
    omega
  · have hp0 : s.oneshot.pauseInputProcessingTicks = 0 := by omega
    cases hq : s.queue with
    | nil =>
      rw [tickMain_empty h.calm.waiting h.calm.extra hp0 hq] at hm
      cases hm
      exact ⟨hB, Or.inr ⟨rfl, hp0, rfl⟩⟩
    | cons q rest =>
      rw [tickMain_pops h.calm.waiting h.calm.extra hp0 q rest hq] at hm
      obtain ⟨ev, n⟩ := q
      cases ev with
      | release c =>
        rw [dequeue_release_calm (s := s.setQueue rest) h.calm.states c n] at hm
        cases hm
        obtain ⟨l1, l2, l3⟩ := handleRelease_load s.oneshot c
        refine ⟨⟨Nat.le_trans l1 hB.load, l2 ▸ hB.pause, l3 ▸ hB.delay, hB.lpt⟩, Or.inl ?_⟩
        refine potential_mono ?_ l1 ?_ (Nat.le_of_eq l2)
        · rw [hq, queueLoad_cons]; exact Nat.le_of_eq (Nat.add_comm _ _)
        · rw [hq]; exact reserve_tail_le B _ rest
      | press c =>
        have hlen : rest.length < QUEUE_SIZE := by
          have := h.qlen; rw [hq] at this; simp only [List.length_cons] at this; omega
        obtain ⟨r1, ov, op, hq2⟩ := dequeue_press_fragT (s := s.setQueue rest) (B := B) h.cfg hb (h.calm.setQueue rest)
          hlen c n s2 c2 hm
        have hlpt : s2.lptTapHoldTimeout = 0 := Nat.le_zero.mp (hB.lpt ▸ r1)
        have hL := hB.load
        have hD := hB.delay
        have key : oshLoad s2.oneshot ≤ B + 1 ∧ s2.oneshot.pauseInputProcessingTicks ≤ d ∧
            s2.oneshot.pauseInputProcessingDelay = d := by
          rw [show (s.setQueue rest).oneshot = s.oneshot from rfl] at op
          generalize s2.oneshot = o2 at op ⊢
          cases op with
          | other =>
            obtain ⟨l1, l2, l3⟩ := handlePress_other_load s.oneshot c h.calm.ignore
            refine ⟨Nat.le_trans l1 hL, ?_, l3.trans hD⟩
            rcases l2 with l2 | l2 <;> rw [l2]
            · exact hB.pause
            · exact Nat.le_of_eq hD
          | activate T v hT =>
            obtain ⟨l1, l2, l3⟩ := activate_load s.oneshot c T v
            exact ⟨by omega, l2 ▸ hB.pause, l3.trans hD⟩
          | skip => exact ⟨hL, hB.pause, hD⟩
        have b2 : OshB B d s2 := ⟨key.1, key.2.1, key.2.2, hlpt⟩
        refine ⟨b2, Or.inl ?_⟩
        have h1 := potential_le_queue b2
        have h2 := potential_press (B := B) (d := d) hq
        have h3 := ovq_load d ov
        rw [show s2.queue = rest ++ ovq ov from hq2, queueLoad_append] at h1
        omega

theorem tick_potential {s s' : Layout} {down : List Coord} {B d : Nat} {cu : CustomEv} (h : Inv s down)
    (hb : OshBound s.cfg B) (hB : OshB B d s) (ht : tick s = .ok (s', cu)) :
    OshB B d s' ∧ potential B d s' ≤ potential B d s - 1 := by
  obtain ⟨b0, p0⟩ := pre_stage h hB
  obtain ⟨s1, e1, i1, b1, q1, c1, l1, pp1⟩ := osh_stage h.pre b0
  cases hm : tickMain s1 with
  | error c =>
    unfold KVerif.L.tick at ht
    simp only [h.calm.aq, e1, hm] at ht
    cases ht
  | ok r =>
    obtain ⟨s2, c2⟩ := r
    obtain ⟨i2, hc2⟩ := i1.main s2 c2 hm
    rw [tick_calm h.calm e1 hm i2.calm] at ht
    cases ht
    obtain ⟨b2, m2⟩ := main_stage i1 (by rw [c1, (tickPre_fields h.calm).2.2.2.2.1]; exact hb) b1 hm
    refine ⟨b2, ?_⟩
    rw [← p0]
    rcases m2 with m2 | ⟨m2, m3, rfl⟩
    · have := potential_mono (B := B) (d := d) (k := 0) (by rw [q1]; exact Nat.le_refl _)
        (Nat.le_trans l1 (Nat.sub_le _ _)) (by rw [q1]; exact Nat.le_refl _) pp1
      omega
    · rw [potential_idle m2 m3]
      exact Nat.le_trans l1 (Nat.sub_le_sub_right (oshLoad_le_potential B d _) 1)

theorem input_oshB {s s' : Layout} {B d : Nat} (hB : OshB B d s) (e : Ev) (hq : s.queue.length < QUEUE_SIZE)
    (he : s.event e = .ok s') : OshB B d s' := by
  unfold Layout.event at he
  rw [FUEL_succ] at he
  obtain ⟨s1, e1, _, _, e4, _⟩ := event_room 3999 s e hq
  have e6 := event_room_lpt 3999 s e hq s1 e1
  rw [e1] at he
  injection he with he; subst he
  exact ⟨e4 ▸ hB.load, e4 ▸ hB.pause, e4 ▸ hB.delay, e6.trans hB.lpt⟩

theorem potential_le {B d : Nat} {s : Layout} (hB : OshB B d s) :
    potential B d s ≤ (d + 2) * s.queue.length + B + d + 1 := by
  have := potential_le_queue hB
  have := queueLoad_le d s.queue
  omega

theorem potential_zero {B d : Nat} {s : Layout} (h : potential B d s = 0) :
    s.queue = [] ∧ s.oneshot.keys = [] ∧ s.oneshot.pauseInputProcessingTicks = 0 := by
  unfold potential at h
  exact ⟨queueLoad_zero d _ (by omega), oshLoad_zero (by omega), by omega⟩

/-- a freshly created layout satisfies the bounds -/
theorem init_oshB (cfg : LCfg) (tv2 dfl qth : Bool) (osd B : Nat) :
    OshB B osd ({ cfg := cfg, transV2 := tv2, delegateToFirstLayer := dfl, quickTapHoldTimeout := qth,
                  oneshot := { pauseInputProcessingDelay := osd } } : Layout) :=
  ⟨Nat.zero_le _, Nat.zero_le _, rfl, rfl⟩

/-! ## the fragment never crashes

The crash outcomes of the model that a configuration of the fragment can reach are the index checks
of `resolve_coord` (a coordinate outside the layer tables, a layer number beyond the last layer) and
a `Trans` left unresolved by the defsrc row.  They are excluded by what the parser guarantees:
layer references in range, a defsrc row of keys, coordinates of real keys. -/

def CoordOK (c : LCfg) (co : Coord) : Prop := co.1 < c.rows ∧ co.2 < c.cols

/-- the layer a key of the fragment can activate -/
def layerRef : Action → Option Nat
  | .layer v => some v
  | .oneShot (.layer v) _ _ => some v
  | _ => none

def ActSafe (L : Nat) (a : Action) : Prop := ∀ v, layerRef a = some v → v < L

structure CfgSafe (c : LCfg) : Prop where
  pinned : c.pinnedLayerStack = false
  layers : 0 < c.layers.length
  refsL : ∀ tbl ∈ c.layers, ∀ e ∈ tbl, ActSafe c.layers.length e.2
  refsS : ∀ e ∈ c.srcKeys, ActSafe c.layers.length e.2 ∧ e.2 ≠ .trans

structure Safe (s : Layout) : Prop where
  cfg : CfgSafe s.cfg
  dl : s.defaultLayer < s.cfg.layers.length
  held : ∀ st ∈ s.states, ∀ v, st.getLayer = some v → v < s.cfg.layers.length
  queue : ∀ q ∈ s.queue, ∀ c, q.ev = .press c → CoordOK s.cfg c

theorem transOrder_total (s : Layout) (L : Nat) (hp : s.cfg.pinnedLayerStack = false) (hd : s.defaultLayer < L)
    (h0 : 0 < L) (hh : ∀ st ∈ s.states, ∀ v, st.getLayer = some v → v < L) :
    ∃ order, s.transOrder = .ok order ∧ ∀ l ∈ order, l < L := by
  have hheld : ∀ l ∈ s.activeHeldLayers, l < L := by
    intro l hl
    unfold Layout.activeHeldLayers at hl
    obtain ⟨st, hst, hg⟩ := List.mem_filterMap.mp (List.mem_reverse.mp hl)
    exact hh st hst l hg
  have hcur : s.currentLayer < L := by
    unfold Layout.currentLayer
    split
    · rename_i l heq
      obtain ⟨st, hst, hg⟩ := List.exists_of_findSome?_eq_some heq
      exact hh st (List.mem_reverse.mp hst) l hg
    · exact hd
  have hpc : ∀ (l : List Nat) (x : Nat), (∀ y ∈ l, y < L) → x < L →
      ∀ y ∈ pushCap MAX_ACTIVE_LAYERS l x, y < L := by
    intro l x hl hx y hy
    rcases mem_pushCap hy with h | h
    · exact hl y h
    · exact h ▸ hx
  unfold Layout.transOrder
  simp only [hp, Bool.false_eq_true, if_false]
  have hl : (s.activeHeldLayers.take MAX_ACTIVE_LAYERS).length ≤ MAX_ACTIVE_LAYERS := by
    rw [List.length_take]; omega
  have htk : ∀ y ∈ s.activeHeldLayers.take MAX_ACTIVE_LAYERS, y < L :=
    fun y hy => hheld y (List.mem_of_mem_take hy)
  by_cases hv : s.transV2 = true
  · simp only [hv, if_true]
    rw [if_neg (by omega)]
    split
    · exact ⟨_, rfl, hpc _ _ (hpc _ _ htk hd) h0⟩
    · exact ⟨_, rfl, hpc _ _ htk hd⟩
  · simp only [hv, Bool.false_eq_true, if_false]
    split
    · refine ⟨_, rfl, ?_⟩
      intro l hl
      simp only [List.cons_append, List.nil_append, List.mem_cons, List.mem_nil_iff, or_false] at hl
      rcases hl with rfl | rfl
      · exact hcur
      · exact h0
    · refine ⟨_, rfl, ?_⟩
      intro l hl
      simp only [List.mem_cons, List.mem_nil_iff, or_false] at hl
      subst hl; exact hcur

theorem layerAction_total (c : LCfg) (l : Nat) (co : Coord) (hl : l < c.layers.length) (hc : CoordOK c co) :
    ∃ a, c.layerAction l co = .ok a := by
  unfold LCfg.layerAction
  rw [List.getElem?_eq_getElem hl]
  simp only []
  rw [if_neg (by have := hc.1; omega), if_neg (by have := hc.2; omega)]
  split
  · exact ⟨_, rfl⟩
  · exact ⟨_, rfl⟩

theorem resolve_total (s : Layout) (c : Coord) (hc : CoordOK s.cfg c) :
    ∀ ls : List Nat, (∀ l ∈ ls, l < s.cfg.layers.length) → ∃ a rest, s.resolveCoord c ls = .ok (a, rest) := by
  intro ls
  induction ls with
  | nil =>
    intro _
    simp only [Layout.resolveCoord]
    rw [if_neg (by have := hc.1; omega), if_neg (by have := hc.2; omega)]
    split
    · rw [if_neg (by have := hc.2; omega)]; exact ⟨_, _, rfl⟩
    · exact ⟨_, _, rfl⟩
  | cons l rest ih =>
    intro hl
    simp only [Layout.resolveCoord]
    rw [if_neg (by have := hc.1; omega), if_neg (by have := hc.2; omega)]
    obtain ⟨a, ha⟩ := layerAction_total s.cfg l c (hl l (by simp)) hc
    split
    · rename_i e he; rw [ha] at he; cases he
    · exact ih (fun x hx => hl x (by simp [hx]))
    · exact ⟨_, _, rfl⟩

theorem resolve_ne_trans (s : Layout) (c : Coord) (hs : ∀ e ∈ s.cfg.srcKeys, e.2 ≠ .trans) :
    ∀ (ls : List Nat) (a : Action) (rest : List Nat), s.resolveCoord c ls = .ok (a, rest) → a ≠ .trans := by
  intro ls a rest h
  rcases resolve_ok s c ls a rest h with ⟨_, _, _, h1, _⟩ | ⟨rfl | rfl, _⟩
  · exact h1
  · rcases srcKey_mem s.cfg c.2 with h1 | ⟨e, he, h1⟩
    · rw [h1]; exact fun e => by cases e
    · exact h1 ▸ hs e he
  · exact fun e => by cases e

theorem resolve_rest_le (s : Layout) (c : Coord) : ∀ (ls : List Nat) (a : Action) (rest : List Nat),
    s.resolveCoord c ls = .ok (a, rest) → rest.length ≤ ls.length := by
  intro ls a rest h
  rcases resolve_ok s c ls a rest h with ⟨_, _, _, _, h1⟩ | ⟨_, rfl⟩
  · exact Nat.le_of_lt h1
  · exact Nat.zero_le _

theorem resolve_safe (P : Action → Prop) (h0 : P .noOp) (ht : P .trans) {s : Layout} {c : Coord} (hco : CoordOK s.cfg c)
    (hl : ∀ tbl ∈ s.cfg.layers, ∀ e ∈ tbl, P e.2) (hs : ∀ e ∈ s.cfg.srcKeys, P e.2 ∧ e.2 ≠ .trans)
    {order : List Nat} (hol : ∀ l ∈ order, l < s.cfg.layers.length) :
    ∃ a ls, s.resolveCoord c order = .ok (a, ls) ∧ P a ∧ a ≠ .trans ∧ ls.length ≤ order.length := by
  obtain ⟨a, ls, hr⟩ := resolve_total s c hco order hol
  exact ⟨a, ls, hr, resolve_pred P h0 ht s c hl (fun e he => (hs e he).1) _ _ _ hr,
    resolve_ne_trans s c (fun e he => (hs e he).2) _ _ _ hr, resolve_rest_le s c _ _ _ hr⟩

/-- the states after a press: what was there, or states whose layer (if any) is below `L` -/
def GrowsL (L : Nat) (old new : List St) : Prop :=
  ∀ st ∈ new, st ∈ old ∨ ∀ v, st.getLayer = some v → v < L

theorem GrowsL.refl (L : Nat) (l : List St) : GrowsL L l l := fun _ h => Or.inl h
theorem GrowsL.trans {L : Nat} {a b c : List St} (h1 : GrowsL L a b) (h2 : GrowsL L b c) : GrowsL L a c := by
  intro st hst
  rcases h2 st hst with h | h
  · exact h1 st h
  · exact Or.inr h
theorem GrowsL.filter (L : Nat) (l : List St) (p : St → Bool) : GrowsL L l (l.filter p) :=
  fun _ h => Or.inl (List.mem_filter.mp h).1
theorem GrowsL.push (L : Nat) (l : List St) (st : St) (h : ∀ v, st.getLayer = some v → v < L) :
    GrowsL L l (pushCap STATES_CAP l st) := by
  intro x hx
  rcases mem_pushCap hx with h1 | h1
  · exact Or.inl h1
  · exact Or.inr (h1 ▸ h)

theorem oshOther_states (s : Layout) (os : Bool) (c : Coord) : (oshOther s os c).1.states = s.states := by
  rw [oshOther_spec]

theorem pushKeyCodes_growsL (L : Nat) (kcs : List KeyCode) (c : Coord) (f : Nat) : ∀ (s : Layout),
    GrowsL L s.states (pushKeyCodes s kcs c f).states := by
  induction kcs with
  | nil => intro s; exact GrowsL.refl L _
  | cons kc rest ih =>
    intro s
    have := ih (({ s with histKeys := histPush s.histKeys kc } : Layout).pushState (.normalKey kc c f))
    simp only [pushKeyCodes, List.foldl_cons] at this ⊢
    exact (GrowsL.push L s.states (.normalKey kc c f) (fun v hv => by cases hv)).trans this

theorem armKeyCode_growsL (L : Nat) (s : Layout) (a : Action) (kc : KeyCode) (c : Coord) (os : Bool) :
    GrowsL L s.states (armKeyCode s a kc c os).states := by
  have h : (armKeyCode s a kc c os).states = pushCap STATES_CAP s.states (.normalKey kc c 0) := by
    unfold armKeyCode
    simp only []
    split <;> simp only [oshOther_states, Layout.pushState, (updateCoord_spec s c).2.2.2]
  rw [h]
  exact GrowsL.push L _ _ (fun v hv => by cases hv)

theorem armMultipleKeyCodes_growsL (L : Nat) (s : Layout) (a : Action) (kcs : List KeyCode) (c : Coord) (os : Bool) :
    GrowsL L s.states (armMultipleKeyCodes s a kcs c os).states := by
  have h : ∃ f, (armMultipleKeyCodes s a kcs c os).states = (pushKeyCodes (updateCoord s c) kcs c f).states := by
    unfold armMultipleKeyCodes
    cases os
    · simp only [Bool.false_eq_true, if_false]
      split <;> exact ⟨NORMAL_KEY_FLAG_CLEAR_ON_NEXT_ACTION, by simp only [oshOther_states]⟩
    · simp only [if_true]
      split <;> exact ⟨0, by simp only [oshOther_states]⟩
  obtain ⟨f, hf⟩ := h
  rw [hf]
  have := pushKeyCodes_growsL L kcs c f (updateCoord s c)
  rw [(updateCoord_spec s c).2.2.2] at this
  exact this

theorem armLayer_growsL (L : Nat) (s : Layout) (v : Nat) (hv : v < L) (c : Coord) (os : Bool) :
    GrowsL L s.states (armLayer s v c os).states := by
  have h : (armLayer s v c os).states = pushCap STATES_CAP s.states (.layerModifier v c) := by
    unfold armLayer
    simp only [oshOther_states, Layout.pushState, (updateCoord_spec s c).2.2.2]
  rw [h]
  exact GrowsL.push L _ _ (fun w hw => by simp only [St.getLayer] at hw; injection hw with hw; omega)

theorem simpleArm_growsL (L : Nat) (s : Layout) (a : Action) (ha : ∀ v, a = .layer v → v < L) (c : Coord) (os : Bool) :
    GrowsL L s.states (simpleArm s a c os).states := by
  unfold simpleArm
  split
  · exact armKeyCode_growsL L s _ _ c os
  · exact armMultipleKeyCodes_growsL L s _ _ c os
  · exact armLayer_growsL L s _ (ha _ rfl) c os
  · exact GrowsL.refl L _

/-- a dispatched action of the fragment returns a state -/
theorem dispatch_total (fuel : Nat) (L : Nat) (s : Layout) (a : Action) (hf : Frag a) (hnt : a ≠ .trans)
    (hs : ActSafe L a) (c : Coord) (d : Nat) (ls : List Nat) (hq : s.queue.length < QUEUE_SIZE) :
    ∃ s', dispatch (fuel + 3) s a c d false ls = .ok (s', .noEvent) ∧ GrowsL L s.states s'.states := by
  rcases frag_cases hf with rfl | rfl | hf | ⟨inner, T, v, rfl, hf⟩
  · exact ⟨_, dispatch_noOp .., by rw [(armNoOp_spec s .noOp c).2.2.1]; exact GrowsL.refl L _⟩
  · exact absurd rfl hnt
  · exact ⟨_, dispatch_simple _ _ hf .., simpleArm_growsL L s a (fun v hv => hs v (hv ▸ rfl)) c false⟩
  · rw [dispatch_oneShot fuel s inner hf]
    have hg : GrowsL L s.states (oneShotArm s inner T v c).1.states := by
      have h1 : (oneShotArm s inner T v c).1.states =
          (simpleArm (prelude (updateCoord s c) c) inner c true).states := by
        unfold oneShotArm armOneShotPost Layout.oshPress
        rfl
      rw [h1]
      refine GrowsL.trans ?_ (simpleArm_growsL L _ inner (fun w hw => hs w (by subst hw; rfl)) c true)
      rw [(prelude_spec (updateCoord s c) c).2.2.2, (updateCoord_spec s c).2.2.2]
      exact GrowsL.filter L _ _
    obtain ⟨_, o2, _, _, _⟩ := oneShotArm_spec s inner hf T v c
    generalize oneShotArm s inner T v c = r at hg o2
    obtain ⟨s2, ov⟩ := r
    simp only at hg o2
    cases ov with
    | none => exact ⟨s2, rfl, hg⟩
    | some k =>
      obtain ⟨s3, e1, _, e3, _, _⟩ := event_room (fuel + 1) s2 (.release k) (by rw [o2]; exact hq)
      simp only [e1]
      exact ⟨s3, rfl, by rw [e3]; exact hg⟩

theorem dequeue_press_total {s : Layout} (hc : CfgFrag s.cfg) (h : Calm s) (hS : Safe s)
    (hq : s.queue.length < QUEUE_SIZE) (c : Coord) (hco : CoordOK s.cfg c) (since : Nat) :
    ∃ s', dequeue FUEL s ⟨.press c, since⟩ = .ok (s', .noEvent) ∧
      GrowsL s.cfg.layers.length s.states s'.states := by
  obtain ⟨order, ho, hol⟩ := transOrder_total s s.cfg.layers.length hS.cfg.pinned hS.dl hS.cfg.layers hS.held
  obtain ⟨a, ls, hr, hP, hnt, _⟩ := resolve_safe (fun a => Frag a ∧ ActSafe s.cfg.layers.length a)
    ⟨trivial, fun v hv => by cases hv⟩ ⟨trivial, fun v hv => by cases hv⟩ hco
    (fun tbl ht e he => ⟨hc.1 tbl ht e he, hS.cfg.refsL tbl ht e he⟩)
    (fun e he => ⟨⟨hc.2 e he, (hS.cfg.refsS e he).1⟩, (hS.cfg.refsS e he).2⟩) hol
  obtain ⟨p1, p2, p3, p4⟩ := prelude_spec s c
  obtain ⟨s', e1, g1⟩ := dispatch_total 3995 s.cfg.layers.length (prelude s c) a hP.1 hnt hP.2 c since ls
    (by rw [p3]; exact hq)
  refine ⟨s', ?_, ?_⟩
  · rw [FUEL_5]
    simp only [dequeue, h.tde, bind, Except.bind, ho, doAction, hr]
    exact e1
  · refine GrowsL.trans ?_ g1
    rw [p4]; exact GrowsL.filter _ _ _

theorem mem_afterRelease {states : List St} {c : Coord} {b : Bool} {ov : Option Coord} {st : St}
    (h : st ∈ afterRelease states c b ov) : st ∈ states := by
  unfold afterRelease at h
  cases b <;> cases ov <;> simp only [Bool.false_eq_true, if_false, if_true] at h
  · exact h
  · exact (List.mem_filter.mp h).1
  · exact (List.mem_filter.mp h).1
  · exact (List.mem_filter.mp (List.mem_filter.mp h).1).1

theorem osh_safe {s : Layout} {down : List Coord} (h : Inv s down) (hS : Safe s) (s1 : Layout) (cu : CustomEv)
    (e1 : tickOneshot s = .ok (s1, cu)) : Safe s1 := by
  by_cases hk : s.oneshot.keys = []
  · rw [tickOneshot_inactive hk] at e1
    injection e1 with e1; injection e1 with e1; subst e1
    exact hS
  · by_cases hf : s.oneshot.releaseOnNextTick = true ∨ s.oneshot.timeout ≤ 1
    · rw [tickOneshot_fires h.calm.states hk hf] at e1
      injection e1 with e1; injection e1 with e1; subst e1
      exact ⟨hS.cfg, hS.dl, fun st hst => hS.held st (mem_dropCoords.mp hst).1, hS.queue⟩
    · have h1 : s.oneshot.releaseOnNextTick = false := by
        cases hr : s.oneshot.releaseOnNextTick
        · rfl
        · exact absurd (Or.inl hr) hf
      have h2 : 2 ≤ s.oneshot.timeout := by omega
      rw [tickOneshot_waits hk h1 h2] at e1
      injection e1 with e1; injection e1 with e1; subst e1
      exact ⟨hS.cfg, hS.dl, hS.held, hS.queue⟩

theorem main_total {s : Layout} {down : List Coord} (h : Inv s down) (hS : Safe s) :
    ∃ s2, tickMain s = .ok (s2, .noEvent) ∧ Safe s2 ∧ s2.queue.length ≤ s.queue.length ∧ s2.cfg = s.cfg := by
  by_cases hp : 0 < s.oneshot.pauseInputProcessingTicks
  · rw [tickMain_paused h.calm.waiting h.calm.extra hp]
    exact ⟨_, rfl, ⟨hS.cfg, hS.dl, hS.held, hS.queue⟩, Nat.le_refl _, rfl⟩
  · have hp0 : s.oneshot.pauseInputProcessingTicks = 0 := by omega
    cases hq : s.queue with
    | nil =>
      rw [tickMain_empty h.calm.waiting h.calm.extra hp0 hq]
      exact ⟨s, rfl, hS, by rw [hq]; exact Nat.le_refl _, rfl⟩
    | cons q rest =>
      rw [tickMain_pops h.calm.waiting h.calm.extra hp0 q rest hq]
      have hrestq : ∀ x ∈ rest, ∀ c, x.ev = .press c → CoordOK s.cfg c :=
        fun x hx => hS.queue x (by rw [hq]; exact List.mem_cons_of_mem _ hx)
      obtain ⟨ev, n⟩ := q
      cases ev with
      | release c =>
        rw [dequeue_release_calm (s := s.setQueue rest) h.calm.states c n]
        exact ⟨_, rfl, ⟨hS.cfg, hS.dl, fun st hst => hS.held st (mem_afterRelease hst), hrestq⟩,
          by simp [Layout.setQueue], rfl⟩
      | press c =>
        have hlen : rest.length < QUEUE_SIZE := by
          have := h.qlen; rw [hq] at this; simp only [List.length_cons] at this; omega
        have hS' : Safe (s.setQueue rest) := ⟨hS.cfg, hS.dl, hS.held, hrestq⟩
        have hco : CoordOK s.cfg c := hS.queue ⟨.press c, n⟩ (by rw [hq]; exact List.mem_cons_self) c rfl
        obtain ⟨s2, e2, g2⟩ := dequeue_press_total (s := s.setQueue rest) h.cfg (h.calm.setQueue rest) hS' hlen c hco n
        obtain ⟨_, po⟩ := dequeue_press_frag (s := s.setQueue rest) h.cfg (h.calm.setQueue rest) hlen c n s2 _ e2
        obtain ⟨ov, _, hqq⟩ := po.osh
        have hcfg : s2.cfg = s.cfg := po.frame.cfg
        have hq2 : s2.queue = rest ++ ovq ov := hqq
        refine ⟨s2, e2, ⟨hcfg ▸ hS.cfg, by rw [hcfg, po.frame.dl]; exact hS.dl, ?_, ?_⟩, ?_, hcfg⟩
        · intro st hst v hv
          rw [hcfg]
          rcases g2 st hst with g | g
          · exact hS.held st g v hv
          · exact g v hv
        · intro x hx c' hc'
          rw [hcfg]
          rw [hq2] at hx
          rcases List.mem_append.mp hx with hx | hx
          · exact hrestq x hx c' hc'
          · cases ov with
            | none => cases hx
            | some k =>
              simp only [ovq, List.mem_cons, List.mem_nil_iff, or_false] at hx
              subst hx; cases hc'
        · rw [hq2]
          cases ov <;> simp [ovq]

/-- **a tick on the fragment never crashes** (layer references in range, defsrc row of keys, queued
presses inside the tables), raises no custom event, keeps these conditions and does not lengthen the queue -/
theorem tick_total {s : Layout} {down : List Coord} (h : Inv s down) (hS : Safe s) :
    ∃ s', tick s = .ok (s', .noEvent) ∧ Safe s' ∧ s'.queue.length ≤ s.queue.length ∧ s'.cfg = s.cfg := by
  obtain ⟨t1, t2, t3, t4, t5, t6, _⟩ := tickPre_fields h.calm
  have S0 : Safe (tickPre s) := by
    refine ⟨t5 ▸ hS.cfg, by rw [t5, t6]; exact hS.dl, by rw [t3, t5]; exact hS.held, ?_⟩
    intro q hq c hc
    rw [t4] at hq
    obtain ⟨y, hy, hyq⟩ := List.mem_map.mp hq
    rw [t5]
    exact hS.queue y hy c (by rw [← hc, ← hyq])
  obtain ⟨s1, e1, i1, q1, fr⟩ := h.pre.osh
  have S1 := osh_safe h.pre S0 s1 _ e1
  obtain ⟨s2, e2, S2, l2, c2⟩ := main_total i1 S1
  have i2 := (i1.main s2 _ e2).1
  refine ⟨s2, tick_calm h.calm e1 e2 i2.calm, S2, ?_, by rw [c2, fr.cfg, t5]⟩
  rw [q1, t4] at l2
  simpa [age] using l2

theorem input_safe {s : Layout} (hS : Safe s) (e : Ev) (hq : s.queue.length < QUEUE_SIZE)
    (hco : ∀ c, e = .press c → CoordOK s.cfg c) (s' : Layout) (he : s.event e = .ok s') :
    Safe s' ∧ s'.cfg = s.cfg := by
  unfold Layout.event at he
  rw [FUEL_succ] at he
  obtain ⟨s1, e1, e2, e3, _, e5⟩ := event_room 3999 s e hq
  rw [e1] at he
  injection he with he; subst he
  refine ⟨⟨e5.cfg ▸ hS.cfg, by rw [e5.cfg, e5.dl]; exact hS.dl, by rw [e3, e5.cfg]; exact hS.held, ?_⟩, e5.cfg⟩
  intro q hq' c hc
  rw [e5.cfg]
  rw [e2] at hq'
  rcases List.mem_append.mp hq' with hq' | hq'
  · exact hS.queue q hq' c hc
  · simp only [List.mem_cons, List.mem_nil_iff, or_false] at hq'
    subst hq'
    exact hco c hc

/-- the presses of a history are inside the layer tables -/
def PressesOK (cfg : LCfg) (ins : List In) : Prop := ∀ c, In.ev (.press c) ∈ ins → CoordOK cfg c

/-- the admission condition of the run loop that `PressesOK` spells out for a whole history -/
def pressOK (cfg : LCfg) (_ : List Coord) (i : In) : Prop := ∀ c, i = .ev (.press c) → CoordOK cfg c

theorem PressesOK.admitted {cfg : LCfg} : ∀ {ins : List In} (down : List Coord), PressesOK cfg ins →
    Admitted (pressOK cfg) down ins
  | [], _, _ => trivial
  | _ :: _, _, h => ⟨fun c hc => h c (hc ▸ List.mem_cons_self),
      PressesOK.admitted _ fun c hc => h c (List.mem_cons_of_mem _ hc)⟩

theorem stepInv (cfg : LCfg) : StepInv (fun s down => Inv s down ∧ Safe s ∧ s.cfg = cfg) (pressOK cfg) where
  ev := by
    intro s down e ⟨h, hS, hc⟩ hq hA
    obtain ⟨s1, e1, i1, q1, _⟩ := h.input e hq
    obtain ⟨S1, c1⟩ := input_safe hS e hq (fun c hc' => hc ▸ hA c (by rw [hc'])) s1 e1
    exact ⟨s1, e1, ⟨i1, S1, c1.trans hc⟩, by rw [q1]; simp⟩
  tick := by
    intro s down ⟨h, hS, hc⟩
    obtain ⟨s1, e1, S1, l1, c1⟩ := tick_total h hS
    exact ⟨s1, _, e1, ⟨(h.step s1 _ e1).1, S1, c1.trans hc⟩, l1⟩

theorem stepInvB {cfg : LCfg} {B : Nat} (hb : OshBound cfg B) (d : Nat) :
    StepInv (fun s down => (Inv s down ∧ Safe s ∧ s.cfg = cfg) ∧ OshB B d s) (pressOK cfg) :=
  (stepInv cfg).and (fun e _ hB hq he => input_oshB hB e hq he)
    fun ⟨h, _, hc⟩ hB ht => (tick_potential h (hc ▸ hb) hB ht).1

theorem potential_lowers {cfg : LCfg} {B d : Nat} (hb : OshBound cfg B) {down : List Coord} (s s' : Layout)
    (cu : CustomEv) (h : (Inv s down ∧ Safe s ∧ s.cfg = cfg) ∧ OshB B d s) (ht : tick s = .ok (s', cu)) :
    potential B d s' ≤ potential B d s - 1 :=
  (tick_potential h.1.1 (h.1.2.2 ▸ hb) h.2 ht).2

/-- **a history of at most 32 events in all** (counting those already queued) never meets a full
queue, so the run returns a state -/
theorem run_defined : ∀ (ins : List In) (s : Layout) (down : List Coord), Inv s down → Safe s →
    PressesOK s.cfg ins → evCount ins + s.queue.length ≤ QUEUE_SIZE →
    ∃ s', run s down ins = some (.ok (s', downs down ins)) ∧ Safe s' := by
  intro ins s down h hS hP hn
  obtain ⟨s', hr, _, hS', _⟩ := (stepInv s.cfg).run_defined ins s down ⟨h, hS, rfl⟩ (hP.admitted down) hn
  exact ⟨s', hr, hS'⟩

/-- a freshly created layout meets the conditions when its configuration does -/
theorem init_safe (cfg : LCfg) (hc : CfgSafe cfg) (tv2 dfl qth : Bool) (osd : Nat) :
    Safe ({ cfg := cfg, transV2 := tv2, delegateToFirstLayer := dfl, quickTapHoldTimeout := qth,
            oneshot := { pauseInputProcessingDelay := osd } } : Layout) :=
  ⟨hc, hc.layers, fun _ h => (by cases h), fun _ h => (by cases h)⟩

/-! ## at rest -/

/-- the layout holds no state and nothing is pending in it: every component `Kanata::is_idle` looks at
in the layout is at rest, and the key-code list is empty -/
structure LayoutAtRest (s : Layout) : Prop where
  states : s.states = []
  queue : s.queue = []
  waiting : s.waiting = none
  extra : s.extraWaiting = []
  lpt : s.lptTapHoldTimeout = 0
  osh : s.oneshot.keys = []
  pause : s.oneshot.pauseInputProcessingTicks = 0
  seqs : s.activeSequences = []
  tde : s.tapDanceEager = none
  aq : s.actionQueue = []

theorem stok_coord {st : St} (h : StOK st) : ∃ c, st.coord = some c := by
  cases st <;> first | exact ⟨_, rfl⟩ | exact False.elim h

/-- every state belongs to a key that is down or whose release is queued: with no key down and nothing
queued there is no state -/
theorem states_nil_of_owned {s : Layout} (hok : ∀ st ∈ s.states, StOK st) (hq : s.queue = [])
    (ho : ∀ st ∈ s.states, ∀ c, st.coord = some c → c ∈ ([] : List Coord) ∨ ∃ x ∈ s.queue, x.ev = .release c) :
    s.states = [] := by
  refine List.eq_nil_iff_forall_not_mem.mpr fun st hst => ?_
  obtain ⟨c, hc⟩ := stok_coord (hok st hst)
  rcases ho st hst c hc with g | ⟨x, hx, _⟩
  · cases g
  · rw [hq] at hx; cases hx

end KVerif.Quiesce
