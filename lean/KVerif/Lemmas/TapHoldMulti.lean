/-
C05, several tap-hold keys pending at once (`waiting` + `extra_waiting`): helper lemmas.  The theory of a
single entry (`htStep`, `Counted`, `resolveAct`) is in Lemmas/TapHold.lean.

Part 1  the scan of `process_extra_waitings` (`tickExtraWaitings`): the list splits at the first entry
        that decides (`scanExtra`, `decider`, `scan_cases`).
Part 2  the actions that cannot touch the pending part of the layout (`Leaf`) and the frame they keep.
Part 3  the stages of `tick` on a state whose pending entries have such actions.
Part 4  the pending part as a machine of its own (`Pend`, `pendTick`), the simulation, the tick bound.
-/
import KVerif.Lemmas.TapHold
import KVerif.Lemmas.SeqKeeps
namespace KVerif.C05
open KVerif.L

/-! ## Part 1: the scan of `process_extra_waitings` -/

/-- the entry after a tick that did not resolve it -/
abbrev step1 (q : List Queued) (w : Waiting) : Waiting := (htStep w q).1

/-- one resolution: the entry as it was when it was resolved, and the decision -/
structure Res where
  w : Waiting
  kind : WAct

/-- `extra_waiting` in one tick: front to back, every entry is ticked until the first one decides;
that one is taken out, the ones behind it are not ticked at all -/
def scanExtra (q : List Queued) : List Waiting → List Waiting × Option Res
  | [] => ([], none)
  | w :: rest =>
    match (htStep w q).2 with
    | some a => (rest, some ⟨(htStep w q).1, a⟩)
    | none => ((htStep w q).1 :: (scanExtra q rest).1, (scanExtra q rest).2)

/-- position of the entry `process_extra_waitings` resolves this tick: the FIRST one that decides -/
def decider (q : List Queued) : List Waiting → Option Nat
  | [] => none
  | w :: rest =>
    match (htStep w q).2 with
    | some _ => some 0
    | none => (decider q rest).map (· + 1)

/-- a list splits at the first element on which `f` answers -/
theorem exists_first_some {α β} (f : α → Option β) : ∀ l : List α,
    (∀ x ∈ l, f x = none) ∨
    ∃ pre x post b, l = pre ++ x :: post ∧ (∀ y ∈ pre, f y = none) ∧ f x = some b := by
  intro l
  induction l with
  | nil => exact Or.inl fun _ h => absurd h List.not_mem_nil
  | cons x xs ih =>
    cases hx : f x with
    | some b => exact Or.inr ⟨[], x, xs, b, rfl, fun _ h => absurd h List.not_mem_nil, hx⟩
    | none =>
      rcases ih with h | ⟨pre, y, post, b, rfl, h1, h2⟩
      · exact Or.inl (List.forall_mem_cons.mpr ⟨hx, h⟩)
      · exact Or.inr ⟨x :: pre, y, post, b, rfl, List.forall_mem_cons.mpr ⟨hx, h1⟩, h2⟩

/-- the scan passes over the entries that stay undecided and counts them down -/
theorem scanExtra_append (q : List Queued) : ∀ pre : List Waiting, (∀ x ∈ pre, (htStep x q).2 = none) →
    ∀ rest, scanExtra q (pre ++ rest) = (pre.map (step1 q) ++ (scanExtra q rest).1, (scanExtra q rest).2) := by
  intro pre
  induction pre with
  | nil => exact fun _ _ => rfl
  | cons x xs ih =>
    intro h rest
    simp only [List.cons_append, scanExtra, h x (List.mem_cons_self ..),
      ih (fun y hy => h y (List.mem_cons_of_mem _ hy)) rest, List.map_cons]

theorem decider_append (q : List Queued) : ∀ pre : List Waiting, (∀ x ∈ pre, (htStep x q).2 = none) →
    ∀ rest, decider q (pre ++ rest) = (decider q rest).map (· + pre.length) := by
  intro pre
  induction pre with
  | nil => intro _ rest; simp
  | cons x xs ih =>
    intro h rest
    simp only [List.cons_append, decider, h x (List.mem_cons_self ..),
      ih (fun y hy => h y (List.mem_cons_of_mem _ hy)) rest, Option.map_map, List.length_cons]
    rfl

/-- `tickExtraWaitings` passes over them in the same way -/
theorem tickExtra_append (q : List Queued) (aq : ActionQueue) : ∀ pre : List Waiting,
    (∀ x ∈ pre, isHT x = true ∧ (htStep x q).2 = none) → ∀ rest done,
    tickExtraWaitings (pre ++ rest) q aq done =
      tickExtraWaitings rest q aq ((pre.map (step1 q)).reverse ++ done) := by
  intro pre
  induction pre with
  | nil => exact fun _ _ _ => rfl
  | cons x xs ih =>
    intro h rest done
    obtain ⟨hx, hd⟩ := h x (List.mem_cons_self ..)
    rw [List.cons_append, tickExtraWaitings, tickWt_isHT x hx, hd]
    show tickExtraWaitings (xs ++ rest) q aq (step1 q x :: done) = _
    rw [ih (fun y hy => h y (List.mem_cons_of_mem _ hy))]
    simp only [List.map_cons, List.reverse_cons, List.append_assoc, List.singleton_append]

/-- the scan, three ways: nobody decides, or the list splits at the FIRST entry that decides — the
entries before it are counted down, it is taken out, the entries behind it are not touched -/
theorem scan_cases (q : List Queued) (l : List Waiting) :
    ((∀ w ∈ l, (htStep w q).2 = none) ∧ scanExtra q l = (l.map (step1 q), none) ∧ decider q l = none) ∨
    (∃ pre w post a, l = pre ++ w :: post ∧ (∀ x ∈ pre, (htStep x q).2 = none) ∧ (htStep w q).2 = some a ∧
      scanExtra q l = (pre.map (step1 q) ++ post, some ⟨(htStep w q).1, a⟩) ∧
      decider q l = some pre.length) := by
  rcases exists_first_some (fun w => (htStep w q).2) l with h | ⟨pre, w, post, a, rfl, h1, h2⟩
  · have e1 := scanExtra_append q l h []
    have e2 := decider_append q l h []
    rw [List.append_nil] at e1 e2
    exact Or.inl ⟨h, by rw [e1]; simp [scanExtra], by rw [e2]; rfl⟩
  · refine Or.inr ⟨pre, w, post, a, rfl, h1, h2, ?_, ?_⟩
    · rw [scanExtra_append q pre h1]; simp only [scanExtra, h2]
    · rw [decider_append q pre h1]; simp only [decider, h2, Option.map_some, Nat.zero_add]

theorem eraseIdx_mid {α} (A : List α) (x : α) (B : List α) {n : Nat} (h : A.length = n) :
    (A ++ x :: B).eraseIdx n = A ++ B := by
  subst h
  induction A with
  | nil => rfl
  | cons a A ih => simp only [List.cons_append, List.length_cons, List.eraseIdx_cons_succ, ih]

theorem getElem?_mid {α} (A : List α) (x : α) (B : List α) {n : Nat} (h : A.length = n) :
    (A ++ x :: B)[n]? = some x := by
  subst h
  induction A with
  | nil => rfl
  | cons a A _ => simp

/-- **the extra-waiting stage of `tick`, exactly**: `extra_waiting` becomes what the scan leaves, and
the entry the scan took out (if any) is resolved on that layout -/
theorem processExtra_scan (s : Layout) (hall : ∀ w ∈ s.extraWaiting, isHT w = true) :
    processExtraWaitings s .noEvent =
      match (scanExtra s.queue s.extraWaiting).2 with
      | none => .ok ({ s with extraWaiting := (scanExtra s.queue s.extraWaiting).1 }, .noEvent)
      | some r => resolveAct { s with extraWaiting := (scanExtra s.queue s.extraWaiting).1 } r.w r.kind := by
  rcases scan_cases s.queue s.extraWaiting with ⟨h, hs, _⟩ | ⟨pre, w, post, a, hl, h1, h2, hs, _⟩
  · have e := tickExtra_append s.queue s.actionQueue s.extraWaiting (fun x hx => ⟨hall x hx, h x hx⟩) [] []
    simp only [List.append_nil, tickExtraWaitings, List.reverse_reverse] at e
    rw [processExtraWaitings_undecided e, hs]
  · have hw : isHT w = true := hall w (by rw [hl]; simp)
    have e := tickExtra_append s.queue s.actionQueue pre
      (fun x hx => ⟨hall x (by rw [hl]; simp [hx]), h1 x hx⟩) (w :: post) []
    simp only [← hl, tickExtraWaitings, tickWt_isHT w hw, h2, Option.map_some, List.append_nil,
      List.reverse_reverse, List.length_reverse, List.length_map] at e
    rw [processExtraWaitings_decided e (getElem?_mid _ _ _ (List.length_map ..))
        (fun h => htStep_ne_noOp w s.queue (h ▸ h2)),
      eraseIdx_mid _ _ _ (List.length_map (step1 s.queue) (as := pre)), resolve_none, hs]

/-! ## Part 2: actions that cannot touch the pending part of the layout -/

/-- the actions `do_action` performs without recursion, without a custom event, and without
touching `waiting`, `extra_waiting`, the event queue, the action queue or (while no one-shot key is
active) the one-shot state: keys, output chords, layer-while-held, layer-switch, release-key /
release-layer, macros, cancel-macros, no-op -/
def Leaf : Action → Bool
  | .noOp | .keyCode _ | .multipleKeyCodes _ | .layer _ | .defaultLayer _ | .releaseState _
  | .sequence _ | .repeatableSequence _ | .cancelSequences => true
  | _ => false

/-- what such an action (and the first, second and last stage of `tick`) keeps -/
structure PFrame (s s' : Layout) : Prop where
  waiting : s'.waiting = s.waiting
  extra : s'.extraWaiting = s.extraWaiting
  queue : s'.queue = s.queue
  aq : s'.actionQueue = s.actionQueue
  osh : s.oneshot.keys = [] → s'.oneshot = s.oneshot

theorem PFrame.refl (s : Layout) : PFrame s s := ⟨rfl, rfl, rfl, rfl, fun _ => rfl⟩

theorem PFrame.trans {a b c : Layout} (h1 : PFrame a b) (h2 : PFrame b c) : PFrame a c :=
  ⟨h2.waiting.trans h1.waiting, h2.extra.trans h1.extra, h2.queue.trans h1.queue, h2.aq.trans h1.aq,
   fun hk => (h2.osh (by rw [h1.osh hk]; exact hk)).trans (h1.osh hk)⟩

theorem handlePress_inactive (o : OneShotState) (k : OshKey) (h : o.keys = []) : o.handlePress k = (o, []) := by
  unfold OneShotState.handlePress
  simp [h]

theorem handleRelease_inactive (o : OneShotState) (c : Coord) (h : o.keys = []) :
    o.handleRelease c = (o, true, none) := by
  unfold OneShotState.handleRelease
  simp [h]

theorem oshPress_pframe (s : Layout) (k : OshKey) : PFrame s (s.oshPress k).1 :=
  ⟨rfl, rfl, rfl, rfl, fun h => by
    show (s.oneshot.handlePress k).1 = s.oneshot
    rw [handlePress_inactive _ _ h]⟩

theorem oshOther_pframe (s : Layout) (b : Bool) (c : Coord) : PFrame s (oshOther s b c).1 := by
  unfold oshOther; split
  · exact oshPress_pframe s _
  · exact PFrame.refl s

theorem updateCoord_pframe (s : Layout) (c : Coord) : PFrame s (updateCoord s c) := by
  unfold updateCoord; split
  · exact ⟨rfl, rfl, rfl, rfl, fun _ => rfl⟩
  · exact PFrame.refl s

theorem prelude_pframe (s : Layout) (c : Coord) : PFrame s (prelude s c) := by
  unfold prelude
  split <;> exact ⟨rfl, rfl, rfl, rfl, fun _ => rfl⟩

theorem pushState_pframe (s : Layout) (st : St) : PFrame s (s.pushState st) := ⟨rfl, rfl, rfl, rfl, fun _ => rfl⟩
theorem setHist_pframe (s : Layout) (h : List (KeyCode × Nat)) : PFrame s { s with histKeys := h } :=
  ⟨rfl, rfl, rfl, rfl, fun _ => rfl⟩
theorem setStates_pframe (s : Layout) (st : List St) : PFrame s { s with states := st } :=
  ⟨rfl, rfl, rfl, rfl, fun _ => rfl⟩
theorem setSeqStates_pframe (s : Layout) (q : List SeqState) (st : List St) :
    PFrame s { s with activeSequences := q, states := st } := ⟨rfl, rfl, rfl, rfl, fun _ => rfl⟩
theorem setRpt_pframe (s : Layout) (a : Option Action) : PFrame s { s with rptAction := a } :=
  ⟨rfl, rfl, rfl, rfl, fun _ => rfl⟩

theorem pushKeyCodes_pframe (kcs : List KeyCode) (c : Coord) (f : Nat) : ∀ s : Layout, PFrame s (pushKeyCodes s kcs c f) := by
  induction kcs with
  | nil => intro s; exact PFrame.refl s
  | cons k ks ih =>
    intro s
    have e : pushKeyCodes s (k :: ks) c f =
        pushKeyCodes (({ s with histKeys := histPush s.histKeys k } : Layout).pushState (.normalKey k c f)) ks c f := rfl
    rw [e]
    exact ((setHist_pframe s _).trans (pushState_pframe _ _)).trans (ih _)

theorem armNoOp_pframe (s : Layout) (a : Action) (c : Coord) (os : Bool) : PFrame s (armNoOp s a c os) := by
  unfold armNoOp
  simp only []
  split
  · exact (oshPress_pframe s _).trans (setRpt_pframe _ _)
  · exact setRpt_pframe _ _

theorem armKeyCode_pframe (s : Layout) (a : Action) (kc : KeyCode) (c : Coord) (os : Bool) :
    PFrame s (armKeyCode s a kc c os) := by
  unfold armKeyCode
  simp only []
  have h2 := (((updateCoord_pframe s c).trans (setHist_pframe _ (histPush (updateCoord s c).histKeys kc))).trans
    (pushState_pframe _ (.normalKey kc c 0))).trans (oshOther_pframe _ os c)
  split
  · exact h2.trans (setRpt_pframe _ _)
  · exact h2.trans (setRpt_pframe _ _)

theorem armMultipleKeyCodes_pframe (s : Layout) (a : Action) (kcs : List KeyCode) (c : Coord) (os : Bool) :
    PFrame s (armMultipleKeyCodes s a kcs c os) := by
  unfold armMultipleKeyCodes
  simp only []
  generalize (if os = true then 0 else NORMAL_KEY_FLAG_CLEAR_ON_NEXT_ACTION) = fl
  have h2 := ((updateCoord_pframe s c).trans (pushKeyCodes_pframe kcs c fl _)).trans
    (oshOther_pframe (pushKeyCodes (updateCoord s c) kcs c fl) os c)
  split
  · exact h2.trans (setRpt_pframe _ _)
  · exact h2.trans (setRpt_pframe _ _)

theorem armLayer_pframe (s : Layout) (v : Nat) (c : Coord) (os : Bool) : PFrame s (armLayer s v c os) := by
  unfold armLayer
  simp only []
  exact ((updateCoord_pframe s c).trans (pushState_pframe _ (.layerModifier v c))).trans (oshOther_pframe _ os c)

theorem armDefaultLayer_pframe (s : Layout) (v : Nat) (c : Coord) (os : Bool) :
    PFrame s (armDefaultLayer s v c os) := by
  unfold armDefaultLayer
  simp only []
  have h1 : PFrame s (if v < (updateCoord s c).cfg.layers.length then { updateCoord s c with defaultLayer := v }
      else updateCoord s c) := by
    split
    · exact (updateCoord_pframe s c).trans ⟨rfl, rfl, rfl, rfl, fun _ => rfl⟩
    · exact updateCoord_pframe s c
  exact h1.trans (oshOther_pframe _ os c)

theorem armReleaseState_pframe (s : Layout) (a : Action) (rs : RelState) (c : Coord) (os : Bool) :
    PFrame s (armReleaseState s a rs c os) := by
  unfold armReleaseState
  simp only []
  exact ((setStates_pframe s (s.states.filter (fun st => st.releaseState rs))).trans
    (oshOther_pframe _ os c)).trans (setRpt_pframe _ _)

theorem startSequence_pframe (s : Layout) (evs : List SeqEv) : PFrame s (startSequence s evs) := by
  unfold startSequence
  exact ⟨rfl, rfl, rfl, rfl, fun _ => rfl⟩

theorem armSequence_pframe (s : Layout) (a : Action) (evs : List SeqEv) (c : Coord) (os rep : Bool) :
    PFrame s (armSequence s a evs c os rep) := by
  unfold armSequence
  simp only []
  have h1 : PFrame s (if rep = true then (startSequence s evs).pushState (.repeatingSequence evs c)
      else startSequence s evs) := by
    split
    · exact (startSequence_pframe s evs).trans (pushState_pframe _ _)
    · exact startSequence_pframe s evs
  exact (h1.trans (oshOther_pframe _ os c)).trans (setRpt_pframe _ _)

theorem armCancelSequences_pframe (s : Layout) (a : Action) (c : Coord) (os : Bool) :
    PFrame s (armCancelSequences s a c os) := by
  unfold armCancelSequences
  simp only []
  exact ((setSeqStates_pframe s [] _).trans (oshOther_pframe _ os c)).trans (setRpt_pframe _ _)

/-- **a leaf action runs to completion, returns no custom event, and keeps the frame** — for every
state, coordinate, delay, layer stack and any fuel ≥ 2 -/
theorem doAction_leaf (a : Action) (hl : Leaf a = true) (fuel : Nat) (s : Layout) (c : Coord) (d : Nat)
    (os : Bool) (ls : List Nat) :
    ∃ s', doAction (fuel + 2) s a c d os ls = .ok (s', .noEvent) ∧ PFrame s s' := by
  -- `Leaf` of any other constructor is `false`
  cases a <;> cases hl
  · exact ⟨_, rfl, (prelude_pframe s c).trans (armNoOp_pframe _ _ _ _)⟩
  · exact ⟨_, rfl, (prelude_pframe s c).trans (armKeyCode_pframe _ _ _ _ _)⟩
  · exact ⟨_, rfl, (prelude_pframe s c).trans (armMultipleKeyCodes_pframe _ _ _ _ _)⟩
  · exact ⟨_, rfl, (prelude_pframe s c).trans (armLayer_pframe _ _ _ _)⟩
  · exact ⟨_, rfl, (prelude_pframe s c).trans (armDefaultLayer_pframe _ _ _ _)⟩
  · exact ⟨_, rfl, (prelude_pframe s c).trans (armSequence_pframe _ _ _ _ _ _)⟩
  · exact ⟨_, rfl, (prelude_pframe s c).trans (armSequence_pframe _ _ _ _ _ _)⟩
  · exact ⟨_, rfl, (prelude_pframe s c).trans (armCancelSequences_pframe _ _ _ _)⟩
  · exact ⟨_, rfl, (prelude_pframe s c).trans (armReleaseState_pframe _ _ _ _ _)⟩

/-! ## Part 3: the stages of `tick` -/

/-- the ageing of the queue at the top of `tick` -/
def ageQ (q : List Queued) : List Queued :=
  q.map fun (x : Queued) => { x with since := min (x.since + 1) U16_MAX }

theorem ageQ_evs (q : List Queued) : (ageQ q).map (·.ev) = q.map (·.ev) := by
  unfold ageQ
  rw [List.map_map]
  rfl

theorem ageQ_anyPress (q : List Queued) : (ageQ q).any (·.ev.isPress) = q.any (·.ev.isPress) := by
  unfold ageQ
  rw [List.any_map]
  rfl

theorem ageQ_length (q : List Queued) : (ageQ q).length = q.length := by
  unfold ageQ; simp

/-- **first stage of `tick`**: the queue is aged; nothing else of the pending part changes, whatever
macros are in progress -/
theorem tickPre_pframe (s : Layout) : PFrame { s with queue := ageQ s.queue } (tickPre s) :=
  have k := tickPre_keeps s
  ⟨k.keeps (·.waiting) fun _ _ _ _ _ => rfl, k.keeps (·.extraWaiting) fun _ _ _ _ _ => rfl,
   k.keeps (·.queue) fun _ _ _ _ _ => rfl, k.keeps (·.actionQueue) fun _ _ _ _ _ => rfl, k.osh⟩

/-- **last stage**: only `states` can change -/
theorem processSequenceCustom_pframe (s : Layout) (cu : CustomEv) : PFrame s (processSequenceCustom s cu).1 := by
  unfold processSequenceCustom
  split
  · exact PFrame.refl s
  · exact setStates_pframe s _

theorem PFrame.toR {s s' : Layout} (h : PFrame s s') : RFrame s s' :=
  ⟨h.waiting, h.extra, h.queue, h.aq, fun hk => by rw [h.osh hk]; exact hk⟩

theorem FUEL_two : FUEL = 3998 + 2 := rfl

/-- **a resolution whose action is a leaf**: it succeeds, yields no custom event and keeps the rest
of the pending part -/
theorem resolveAct_leaf (S : Layout) (w : Waiting) (a : WAct) (ha : a ≠ .noOp) (hl : Leaf (pick w a) = true) :
    ∃ S', resolveAct S w a = .ok (S', .noEvent) ∧ RFrame S S' := by
  cases a with
  | hold =>
    obtain ⟨S', e, f⟩ := doAction_leaf w.hold hl 3997 (holdPrep S w) w.coord (waitingDelay w) false w.layerStack
    exact ⟨S', e, (holdPrep_rframe S w).1.trans f.toR⟩
  | tap =>
    obtain ⟨S', e, f⟩ := doAction_leaf w.tap hl 3998 S w.coord (waitingDelay w) false w.layerStack
    refine ⟨tapPost S', ?_, f.toR.trans (tapPost_rframe S')⟩
    simp only [resolveAct, FUEL_two, e]
  | timeout =>
    obtain ⟨S', e, f⟩ := doAction_leaf w.timeoutAction hl 3998 (timeoutPrep S w) w.coord (waitingDelay w) false w.layerStack
    refine ⟨S', ?_, (timeoutPrep_rframe S w).1.trans f.toR⟩
    simp only [resolveAct, FUEL_two, e]
  | noOp => exact absurd rfl ha

/-! ## Part 4: the pending part as a machine of its own -/

/-- the pending part of a layout: `waiting`, `extra_waiting` and the event queue -/
structure Pend where
  main : Option Waiting
  extra : List Waiting
  queue : List Queued

def Pend.of (s : Layout) : Pend := ⟨s.waiting, s.extraWaiting, s.queue⟩

/-- every pending entry, `waiting` first, then `extra_waiting` front to back (arrival order) -/
def Pend.all (p : Pend) : List Waiting := p.main.toList ++ p.extra

theorem Pend.all_nil_iff (p : Pend) : p.all = [] ↔ p.main = none ∧ p.extra = [] := by
  cases hm : p.main <;> simp [Pend.all, hm]

theorem Pend.all_ne_nil_iff (p : Pend) : p.all ≠ [] ↔ p.main ≠ none ∨ p.extra ≠ [] := by
  rw [Ne, p.all_nil_iff, Classical.not_and_iff_not_or_not]

/-- `waiting` in one tick -/
def stepMain (q : List Queued) : Option Waiting → Option Waiting × Option Res
  | none => (none, none)
  | some w =>
    match (htStep w q).2 with
    | some a => (none, some ⟨(htStep w q).1, a⟩)
    | none => (some (htStep w q).1, none)

/-- `waiting` is scanned like an `extra_waiting` of at most one entry -/
theorem stepMain_fst (q : List Queued) (m : Option Waiting) : (stepMain q m).1.toList = (scanExtra q m.toList).1 := by
  cases m with
  | none => rfl
  | some w =>
    simp only [stepMain, Option.toList_some, scanExtra]
    cases (htStep w q).2 <;> rfl

theorem stepMain_snd (q : List Queued) (m : Option Waiting) : (stepMain q m).2 = (scanExtra q m.toList).2 := by
  cases m with
  | none => rfl
  | some w =>
    simp only [stepMain, Option.toList_some, scanExtra]
    cases (htStep w q).2 <;> rfl

theorem stepMain_taken (q : List Queued) (m : Option Waiting) (r : Res) (h : (stepMain q m).2 = some r) :
    (stepMain q m).1 = none := by
  cases m with
  | none => rfl
  | some w => cases hd : (htStep w q).2 <;> simp only [stepMain, hd] at h ⊢; cases h

/-- one tick of the pending part, and the resolutions it performs, in the order performed -/
def pendTick (p : Pend) : Pend × List Res :=
  (⟨(stepMain (ageQ p.queue) p.main).1, (scanExtra (ageQ p.queue) p.extra).1, ageQ p.queue⟩,
   (stepMain (ageQ p.queue) p.main).2.toList ++ (scanExtra (ageQ p.queue) p.extra).2.toList)

/-- `n` ticks of the pending part, with the log of resolutions -/
def pendRun : Nat → Pend → Pend × List Res
  | 0, p => (p, [])
  | n + 1, p => ((pendRun n (pendTick p).1).1, (pendTick p).2 ++ (pendRun n (pendTick p).1).2)

/-- `n` ticks of the layout without input -/
def tickN : Nat → Layout → Except Crash Layout
  | 0, s => .ok s
  | n + 1, s =>
    match tick s with
    | .error c => .error c
    | .ok (s', _) => tickN n s'

/-- an entry left in `extra_waiting` after a tick is an old one, untouched or counted down -/
theorem scanExtra_mem (q : List Queued) : ∀ (l : List Waiting) (x : Waiting), x ∈ (scanExtra q l).1 →
    ∃ w ∈ l, x = w ∨ Counted w x := by
  intro l
  induction l with
  | nil => intro x h; cases h
  | cons w rest ih =>
    intro x h
    unfold scanExtra at h
    split at h
    · exact ⟨x, by simp [h], Or.inl rfl⟩
    · rcases List.mem_cons.mp h with rfl | h
      · exact ⟨w, by simp, Or.inr (htStep_counted w q)⟩
      · obtain ⟨y, hy, hh⟩ := ih x h
        exact ⟨y, by simp [hy], hh⟩

theorem pendTick_all (p : Pend) :
    (pendTick p).1.all = (scanExtra (ageQ p.queue) p.main.toList).1 ++ (scanExtra (ageQ p.queue) p.extra).1 := by
  simp only [Pend.all, pendTick, stepMain_fst]

/-- an entry pending after a tick is one that was pending before it, untouched or counted down -/
theorem pendTick_mem (p : Pend) (x : Waiting) (hx : x ∈ (pendTick p).1.all) :
    ∃ w ∈ p.all, x = w ∨ Counted w x := by
  rw [pendTick_all] at hx
  rcases List.mem_append.mp hx with hx | hx
  · obtain ⟨w, hw, hh⟩ := scanExtra_mem _ _ _ hx
    exact ⟨w, List.mem_append_left _ hw, hh⟩
  · obtain ⟨w, hw, hh⟩ := scanExtra_mem _ _ _ hx
    exact ⟨w, List.mem_append_right _ hw, hh⟩

/-- a logged resolution is a tap, a hold or a timeout of an old entry, counted down once more -/
theorem scanExtra_kind (q : List Queued) : ∀ (l : List Waiting) (r : Res), (scanExtra q l).2 = some r →
    r.kind ≠ .noOp ∧ ∃ w ∈ l, Counted w r.w ∧ (htStep w q).2 = some r.kind := by
  intro l
  induction l with
  | nil => intro r h; cases h
  | cons w rest ih =>
    intro r h
    cases hd : (htStep w q).2 with
    | none =>
      simp only [scanExtra, hd] at h
      obtain ⟨h1, x, hx, h2⟩ := ih r h
      exact ⟨h1, x, List.mem_cons_of_mem _ hx, h2⟩
    | some a =>
      simp only [scanExtra, hd] at h
      injection h with h
      subst h
      exact ⟨fun e => htStep_ne_noOp w q (e ▸ hd), w, List.mem_cons_self .., htStep_counted w q, hd⟩

theorem stepMain_kind (q : List Queued) (m : Option Waiting) (r : Res) (h : (stepMain q m).2 = some r) :
    r.kind ≠ .noOp ∧ ∃ w, m = some w ∧ Counted w r.w ∧ (htStep w q).2 = some r.kind := by
  rw [stepMain_snd] at h
  obtain ⟨h1, w, hw, h2⟩ := scanExtra_kind q m.toList r h
  exact ⟨h1, w, Option.mem_toList.mp hw, h2⟩

/-! ### the hypotheses of the run theorems -/

/-- a pending entry the run theorems speak about: made by the `HoldTap` arm, its three actions are
leaves, and its timeout applies -/
def entryOK (q : List Queued) (w : Waiting) : Bool :=
  isHT w && Leaf w.hold && Leaf w.tap && Leaf w.timeoutAction && timeoutApplies q w

/-- the states the run theorems speak about: nothing in the action queue, no one-shot key active,
every pending entry `entryOK` -/
def pendOK (s : Layout) : Bool :=
  s.actionQueue.isEmpty && s.oneshot.keys.isEmpty && (s.waiting.toList ++ s.extraWaiting).all (entryOK s.queue)

structure EOK (q : List Queued) (w : Waiting) : Prop where
  ht : isHT w = true
  hold : Leaf w.hold = true
  tap : Leaf w.tap = true
  timeoutAction : Leaf w.timeoutAction = true
  applies : timeoutApplies q w = true

theorem entryOK_iff (q : List Queued) (w : Waiting) : entryOK q w = true ↔ EOK q w := by
  unfold entryOK
  simp only [Bool.and_eq_true]
  exact ⟨fun ⟨⟨⟨⟨a, b⟩, c⟩, d⟩, e⟩ => ⟨a, b, c, d, e⟩, fun h => ⟨⟨⟨⟨h.ht, h.hold⟩, h.tap⟩, h.timeoutAction⟩, h.applies⟩⟩

theorem timeoutApplies_counted {q : List Queued} {w w' : Waiting} (hc : Counted w w') :
    timeoutApplies q w' = timeoutApplies q w := by
  unfold timeoutApplies; rw [hc.htCfg]

theorem timeoutApplies_age (q : List Queued) (w : Waiting) : timeoutApplies (ageQ q) w = timeoutApplies q w := by
  unfold timeoutApplies; rw [ageQ_anyPress]

theorem EOK.counted {q : List Queued} {w w' : Waiting} (h : EOK q w) (hc : Counted w w') : EOK q w' :=
  ⟨hc.isHT.trans h.ht, by rw [hc.hold]; exact h.hold, by rw [hc.tap]; exact h.tap,
   by rw [hc.timeoutAction]; exact h.timeoutAction, (timeoutApplies_counted hc).trans h.applies⟩

theorem EOK.age {q : List Queued} {w : Waiting} (h : EOK q w) : EOK (ageQ q) w :=
  ⟨h.ht, h.hold, h.tap, h.timeoutAction, (timeoutApplies_age q w).trans h.applies⟩

/-- whatever such an entry resolves to, now or after more ticks, is a leaf -/
theorem EOK.leaf {q : List Queued} {w w' : Waiting} (h : EOK q w) (hc : Counted w w') (a : WAct) :
    Leaf (pick w' a) = true := by
  rw [hc.pick]
  cases a
  · exact h.hold
  · exact h.tap
  · exact h.timeoutAction
  · rfl

structure POK (s : Layout) : Prop where
  aq : s.actionQueue = []
  osh : s.oneshot.keys = []
  all : ∀ w ∈ (Pend.of s).all, EOK s.queue w

theorem pendOK_iff (s : Layout) : pendOK s = true ↔ POK s := by
  unfold pendOK
  simp only [Bool.and_eq_true, List.isEmpty_iff, List.all_eq_true]
  exact ⟨fun ⟨⟨a, b⟩, c⟩ => ⟨a, b, fun w hw => (entryOK_iff _ _).mp (c w hw)⟩,
    fun h => ⟨⟨h.aq, h.osh⟩, fun w hw => (entryOK_iff _ _).mpr (h.all w hw)⟩⟩

theorem POK.main {s : Layout} (h : POK s) (w : Waiting) (hw : s.waiting = some w) : EOK s.queue w :=
  h.all w (List.mem_append_left _ (Option.mem_toList.mpr hw))

theorem POK.extra {s : Layout} (h : POK s) (w : Waiting) (hw : w ∈ s.extraWaiting) : EOK s.queue w :=
  h.all w (List.mem_append_right _ hw)

/-- the timeout applies to every pending entry -/
def Pend.Applies (p : Pend) : Prop := ∀ w ∈ p.all, timeoutApplies p.queue w = true

theorem POK.applies {s : Layout} (h : POK s) : (Pend.of s).Applies := fun w hw => (h.all w hw).applies

/-! ### the stages of a tick on such a state -/

/-- the main stage while something is pending: `waiting` counted down or, if it decides, resolved — what
`stepMain` says, performed on the layout -/
def mainPend (S : Layout) (q : List Queued) (m : Option Waiting) : Except Crash (Layout × CustomEv) :=
  match (stepMain q m).2 with
  | none => .ok ({ S with waiting := (stepMain q m).1 }, .noEvent)
  | some r => resolveAct { S with waiting := none } r.w r.kind

/-- whatever the entry's actions are.  (`q` and `m` are the queue and `waiting` of `s` under the names
the caller has for them, those of the state before `tickPre`: rewriting them afterwards would also
rewrite inside `{ s with … }`.) -/
theorem tickMain_pend (s : Layout) (q : List Queued) (hq : s.queue = q) (m : Option Waiting) (hmw : s.waiting = m)
    (hm : ∀ w, m = some w → isHT w = true) (hne : m ≠ none ∨ s.extraWaiting ≠ []) :
    tickMain s = mainPend s q m := by
  subst hq
  cases m with
  | none =>
    rw [tickMain_blocked hmw (hne.resolve_left fun h => h rfl)]
    cases s; cases hmw; rfl
  | some w =>
    rw [tickMain_ht s w hmw (hm w rfl), mainPend]
    cases hd : (htStep w s.queue).2 <;> simp only [stepMain, hd]

/-- **`tick` while tap-hold entries are pending, for any actions** (crashes and custom events included):
the first stage, the main stage as `stepMain` says, `process_extra_waitings` (which does nothing once the
main stage has returned an event), the last stage -/
theorem tick_pend (s : Layout) (ha : s.actionQueue = []) (hk : s.oneshot.keys = [])
    (hm : ∀ w, s.waiting = some w → isHT w = true) (hne : s.waiting ≠ none ∨ s.extraWaiting ≠ []) :
    tick s =
      match mainPend (tickPre s) (ageQ s.queue) s.waiting with
      | .error c => .error c
      | .ok (s2, c2) =>
        match processExtraWaitings s2 (CustomEv.noEvent.update c2) with
        | .error c => .error c
        | .ok (s3, c3) => .ok (processSequenceCustom s3 c3) := by
  have f0 := tickPre_pframe s
  have e := tickMain_pend (tickPre s) (ageQ s.queue) f0.queue s.waiting f0.waiting hm (by rw [f0.extra]; exact hne)
  unfold tick
  simp only [ha, tickOneshot_inactive ((f0.osh hk).symm ▸ hk), e]
  rfl

/-- **main stage, leaf actions**: it cannot crash, returns no event and keeps the rest of the pending part -/
theorem main_stage (S : Layout) (q : List Queued) (m : Option Waiting) (hm : ∀ w, m = some w → EOK q w) :
    ∃ s2, mainPend S q m = .ok (s2, .noEvent) ∧
      s2.waiting = (stepMain q m).1 ∧ s2.extraWaiting = S.extraWaiting ∧
      s2.queue = S.queue ∧ s2.actionQueue = S.actionQueue ∧ (S.oneshot.keys = [] → s2.oneshot.keys = []) ∧
      (match (stepMain q m).2 with
        | none => s2 = { S with waiting := (stepMain q m).1 }
        | some r => resolveAct { S with waiting := none } r.w r.kind = .ok (s2, .noEvent)) := by
  unfold mainPend
  cases hr : (stepMain q m).2 with
  | none => exact ⟨_, rfl, rfl, rfl, rfl, rfl, fun h => h, rfl⟩
  | some r =>
    obtain ⟨hk, w, hw, hc, _⟩ := stepMain_kind q m r hr
    obtain ⟨S', e, f⟩ := resolveAct_leaf { S with waiting := none } r.w r.kind hk ((hm w hw).leaf hc r.kind)
    exact ⟨S', e, f.waiting.trans (stepMain_taken q m r hr).symm, f.extra, f.queue, f.aq, f.osh, e⟩

/-- **extra-waiting stage** (no custom event so far): all entries are counted down, or the first
that decides is resolved by one `resolveAct` -/
theorem extra_stage (s : Layout) (q : List Queued) (hq : s.queue = q) (l : List Waiting) (hl : s.extraWaiting = l)
    (he : ∀ w ∈ s.extraWaiting, EOK s.queue w) :
    ∃ s3, processExtraWaitings s .noEvent = .ok (s3, .noEvent) ∧
      s3.waiting = s.waiting ∧ s3.extraWaiting = (scanExtra q l).1 ∧
      s3.queue = s.queue ∧ s3.actionQueue = s.actionQueue ∧ (s.oneshot.keys = [] → s3.oneshot.keys = []) ∧
      (match (scanExtra q l).2 with
        | none => s3 = { s with extraWaiting := (scanExtra q l).1 }
        | some r => resolveAct { s with extraWaiting := (scanExtra q l).1 } r.w r.kind
            = .ok (s3, .noEvent)) := by
  subst hq; subst hl
  rw [processExtra_scan s (fun w hw => (he w hw).ht)]
  cases hr : (scanExtra s.queue s.extraWaiting).2 with
  | none => exact ⟨_, rfl, rfl, rfl, rfl, rfl, fun h => h, rfl⟩
  | some r =>
    obtain ⟨hk, w, hw, hc, _⟩ := scanExtra_kind _ _ r hr
    obtain ⟨S', e, f⟩ := resolveAct_leaf { s with extraWaiting := (scanExtra s.queue s.extraWaiting).1 }
      r.w r.kind hk ((he w hw).leaf hc r.kind)
    exact ⟨S', e, f.waiting, f.extra, f.queue, f.aq, f.osh, e⟩

/-- **a whole tick, staged** (state as in `POK`, something pending): the first two stages only age
the queue; the main stage is `stepMain` and leaves `extra_waiting` alone; the extra-waiting stage is
`scanExtra`; every logged resolution is exactly one `resolveAct`; no custom event reaches
`process_extra_waitings`; the pending part afterwards is `pendTick`'s, and the state is again as in `POK` -/
theorem tick_staged (s : Layout) (h : POK s) (hne : s.waiting ≠ none ∨ s.extraWaiting ≠ []) :
    ∃ s2 s3 : Layout,
      (match (stepMain (ageQ s.queue) s.waiting).2 with
        | none => s2 = { tickPre s with waiting := (stepMain (ageQ s.queue) s.waiting).1 }
        | some r => resolveAct { tickPre s with waiting := none } r.w r.kind = .ok (s2, .noEvent)) ∧
      s2.extraWaiting = s.extraWaiting ∧
      (match (scanExtra (ageQ s.queue) s.extraWaiting).2 with
        | none => s3 = { s2 with extraWaiting := (scanExtra (ageQ s.queue) s.extraWaiting).1 }
        | some r => resolveAct { s2 with extraWaiting := (scanExtra (ageQ s.queue) s.extraWaiting).1 } r.w r.kind
            = .ok (s3, .noEvent)) ∧
      tick s = .ok (processSequenceCustom s3 .noEvent) ∧
      Pend.of (processSequenceCustom s3 .noEvent).1 = (pendTick (Pend.of s)).1 ∧
      POK (processSequenceCustom s3 .noEvent).1 := by
  have f0 := tickPre_pframe s
  have w1 : (tickPre s).waiting = s.waiting := f0.waiting
  have x1 : (tickPre s).extraWaiting = s.extraWaiting := f0.extra
  have q1 : (tickPre s).queue = ageQ s.queue := f0.queue
  obtain ⟨s2, m1, mw, mx, mq, ma, mo, m3⟩ := main_stage (tickPre s) (ageQ s.queue) s.waiting
    (fun w hw => (h.main w hw).age)
  have x2 : s2.extraWaiting = s.extraWaiting := mx.trans x1
  have q2 : s2.queue = ageQ s.queue := mq.trans q1
  obtain ⟨s3, n1, nw, nx, nq, na, no, n3⟩ := extra_stage s2 (ageQ s.queue) q2 s.extraWaiting x2
    (fun w hw => by rw [q2]; rw [x2] at hw; exact (h.extra w hw).age)
  -- the pending part of the result, field by field
  have f4 := processSequenceCustom_pframe s3 .noEvent
  have w4 : (processSequenceCustom s3 .noEvent).1.waiting = (stepMain (ageQ s.queue) s.waiting).1 :=
    f4.waiting.trans (nw.trans mw)
  have x4 : (processSequenceCustom s3 .noEvent).1.extraWaiting = (scanExtra (ageQ s.queue) s.extraWaiting).1 :=
    f4.extra.trans nx
  have q4 : (processSequenceCustom s3 .noEvent).1.queue = ageQ s.queue := f4.queue.trans (nq.trans q2)
  have k3 : s3.oneshot.keys = [] := no (mo (by rw [f0.osh h.osh]; exact h.osh))
  have hp : Pend.of (processSequenceCustom s3 .noEvent).1 = (pendTick (Pend.of s)).1 := by
    show (⟨_, _, _⟩ : Pend) = ⟨_, _, _⟩
    rw [w4, x4, q4]
    rfl
  have e : tick s = .ok (processSequenceCustom s3 .noEvent) := by
    rw [tick_pend s h.aq h.osh (fun w hw => (h.main w hw).ht) hne, m1]
    simp only [CustomEv.update, n1]
  refine ⟨s2, s3, m3, x2, n3, e, hp, ?_, ?_, ?_⟩
  · rw [f4.aq, na, ma, f0.aq, h.aq]
  · rw [f4.osh k3]; exact k3
  · intro x hx
    rw [hp] at hx
    rw [q4]
    obtain ⟨w, hw, hh⟩ := pendTick_mem _ x hx
    rcases hh with rfl | hc
    · exact (h.all _ hw).age
    · exact (h.all w hw).age.counted hc

/-! ### the potential: remaining countdown + number of entries ahead -/

def phiMain : Option Waiting → Nat
  | none => 0
  | some w => max w.timeout 1

/-- `max` over the entries of `extra_waiting` of (countdown, at least 1) + (position) -/
def phiExtra : Nat → List Waiting → Nat
  | _, [] => 0
  | i, w :: rest => max (max w.timeout 1 + i) (phiExtra (i + 1) rest)

/-- the tick bound: every pending entry is resolved within this many ticks -/
def Pend.pot (p : Pend) : Nat := max (phiMain p.main) (phiExtra 0 p.extra)

theorem Pend.Applies.tick {p : Pend} (h : p.Applies) : (pendTick p).1.Applies := by
  intro x hx
  obtain ⟨w, hw, hh⟩ := pendTick_mem p x hx
  show timeoutApplies (ageQ p.queue) x = true
  rw [timeoutApplies_age]
  rcases hh with rfl | hc
  · exact h _ hw
  · rw [timeoutApplies_counted hc]; exact h w hw

/-! The bound is handled as a bound: `pot ≤ B` says `max T 1 ≤ B` of `waiting` and `max T 1 + i ≤ B` of
the entry at position `i`; each of these survives a tick with `B` lowered by one. -/

/-- moving every entry up one place lowers the bound by one -/
theorem phiExtra_shift : ∀ (l : List Waiting) (i B : Nat), phiExtra (i + 1) l ≤ B + 1 → phiExtra i l ≤ B
  | [], _, _, _ => Nat.zero_le _
  | w :: rest, i, B, h => by
    simp only [phiExtra, Nat.max_le] at h ⊢
    exact ⟨by omega, phiExtra_shift rest (i + 1) B h.2⟩

theorem phiExtra_scan (q : List Queued) : ∀ (l : List Waiting) (i B : Nat),
    (∀ w ∈ l, timeoutApplies q w = true) → phiExtra i l ≤ B + 1 → phiExtra i (scanExtra q l).1 ≤ B := by
  intro l
  induction l with
  | nil => exact fun _ _ _ _ => Nat.zero_le _
  | cons w rest ih =>
    intro i B ha h
    simp only [phiExtra, Nat.max_le] at h
    cases hd : (htStep w q).2 with
    | some a =>
      -- `w` is taken out: the entries behind it move up
      simp only [scanExtra, hd]
      exact phiExtra_shift rest i B h.2
    | none =>
      -- `w` stays undecided: it had at least two ticks left and is counted down
      have h2 := htStep_undecided w q (ha w (List.mem_cons_self ..)) hd
      simp only [scanExtra, hd, phiExtra, Nat.max_le, (htStep_counted w q).timeout]
      exact ⟨by omega, ih (i + 1) B (fun x hx => ha x (List.mem_cons_of_mem _ hx)) h.2⟩

theorem phiMain_eq (m : Option Waiting) : phiMain m = phiExtra 0 m.toList := by
  cases m with
  | none => rfl
  | some w => simp [phiMain, phiExtra]

theorem phiMain_step (q : List Queued) (m : Option Waiting) (B : Nat)
    (ha : ∀ w, m = some w → timeoutApplies q w = true) (h : phiMain m ≤ B + 1) :
    phiMain (stepMain q m).1 ≤ B := by
  rw [phiMain_eq, stepMain_fst]
  exact phiExtra_scan q m.toList 0 B (fun w hw => ha w (Option.mem_toList.mp hw)) (phiMain_eq m ▸ h)

/-- **every tick lowers the bound by at least one** -/
theorem pot_tick (p : Pend) (ha : p.Applies) (B : Nat) (h : p.pot ≤ B + 1) : (pendTick p).1.pot ≤ B := by
  simp only [Pend.pot, Nat.max_le] at h ⊢
  exact ⟨phiMain_step _ _ B (fun w hw => by rw [timeoutApplies_age]; exact ha w (by simp [Pend.all, hw])) h.1,
    phiExtra_scan _ _ 0 B (fun w hw => by rw [timeoutApplies_age]; exact ha w (by simp [Pend.all, hw])) h.2⟩

/-- every pending entry counts at least 1 -/
theorem all_nil_of_pot (p : Pend) (h : p.pot ≤ 0) : p.all = [] := by
  obtain ⟨m, x, q⟩ := p
  simp only [Pend.pot, Nat.max_le] at h
  cases m with
  | some w => simp only [phiMain] at h; omega
  | none =>
    cases x with
    | nil => rfl
    | cons w rest => simp only [phiExtra, Nat.max_le] at h; omega

theorem pendRun_succ (n : Nat) (p : Pend) : (pendRun (n + 1) p).1 = (pendRun n (pendTick p).1).1 := rfl

/-- **the pending part empties within the bound**, and `n` is the first tick count at which it is empty -/
theorem pend_resolves : ∀ (N : Nat) (p : Pend), p.pot ≤ N → p.Applies →
    ∃ n, n ≤ N ∧ (pendRun n p).1.all = [] ∧ ∀ m, m < n → (pendRun m p).1.all ≠ [] := by
  intro N
  induction N with
  | zero => exact fun p hN _ => ⟨0, Nat.le_refl _, all_nil_of_pot p hN, fun _ hm => absurd hm (Nat.not_lt_zero _)⟩
  | succ N ih =>
    intro p hN ha
    by_cases hp : p.all = []
    · exact ⟨0, Nat.zero_le _, hp, fun _ hm => absurd hm (Nat.not_lt_zero _)⟩
    · obtain ⟨n, hn, he, hf⟩ := ih (pendTick p).1 (pot_tick p ha N hN) ha.tick
      refine ⟨n + 1, Nat.succ_le_succ hn, he, fun m hm => ?_⟩
      cases m with
      | zero => exact hp
      | succ k => exact hf k (Nat.lt_of_succ_lt_succ hm)

theorem pendRun_evs : ∀ (n : Nat) (p : Pend), (pendRun n p).1.queue.map (·.ev) = p.queue.map (·.ev) := by
  intro n
  induction n with
  | zero => intro p; rfl
  | succ n ih =>
    intro p
    rw [pendRun_succ, ih]
    exact ageQ_evs p.queue

/-- **`n` ticks of the layout are `n` ticks of its pending part**, as long as something is pending
at the start of each of them -/
theorem run_sim : ∀ (n : Nat) (s : Layout), POK s → (∀ m, m < n → (pendRun m (Pend.of s)).1.all ≠ []) →
    ∃ s', tickN n s = .ok s' ∧ Pend.of s' = (pendRun n (Pend.of s)).1 ∧ POK s' := by
  intro n
  induction n with
  | zero => intro s h _; exact ⟨s, rfl, rfl, h⟩
  | succ n ih =>
    intro s h hne
    obtain ⟨s2, s3, _, _, _, e, hp, hok⟩ :=
      tick_staged s h ((Pend.of s).all_ne_nil_iff.mp (hne 0 (Nat.succ_pos _)))
    obtain ⟨s', e', hp', hok'⟩ := ih (processSequenceCustom s3 .noEvent).1 hok (by
      intro m hm
      rw [hp]
      exact hne (m + 1) (Nat.succ_lt_succ hm))
    refine ⟨s', ?_, ?_, hok'⟩
    · simp only [tickN, e]
      exact e'
    · rw [hp', hp]; rfl

/-- `m + 1` ticks are `m` ticks and one more: the pending part, and the log -/
theorem pendRun_snoc : ∀ (m : Nat) (p : Pend),
    pendRun (m + 1) p = ((pendTick (pendRun m p).1).1, (pendRun m p).2 ++ (pendTick (pendRun m p).1).2)
  | 0, p => by simp [pendRun]
  | m + 1, p => by
    show ((pendRun (m + 1) (pendTick p).1).1, (pendTick p).2 ++ (pendRun (m + 1) (pendTick p).1).2) = _
    rw [pendRun_snoc m (pendTick p).1]
    simp only [pendRun, List.append_assoc]

theorem pendTick_nil {p : Pend} (h : p.all = []) : (pendTick p).1.all = [] := by
  obtain ⟨hm, hx⟩ := p.all_nil_iff.mp h
  simp [Pend.all, pendTick, hm, hx, stepMain, scanExtra]

/-- if something is pending after `n` ticks, something was pending before each of them -/
theorem pendRun_nonempty_before (n : Nat) (p : Pend) (x : Waiting) (hx : x ∈ (pendRun n p).1.all) :
    ∀ m, m < n → (pendRun m p).1.all ≠ [] := by
  intro m hm hem
  -- once empty, the pending part stays empty
  have stays : ∀ k, (pendRun (m + k) p).1.all = [] := by
    intro k
    induction k with
    | zero => exact hem
    | succ k ih => rw [← Nat.add_assoc, pendRun_snoc]; exact pendTick_nil ih
  rw [← Nat.add_sub_cancel' (Nat.le_of_lt hm), stays] at hx
  cases hx

/-! ### the log: every pending entry exactly once -/

/-- what identifies a pending entry across ticks: everything a tick does not count -/
abbrev WKey := Coord × Action × Action × Action × List Nat × Nat

def wkey (w : Waiting) : WKey := (w.coord, w.hold, w.tap, w.timeoutAction, w.layerStack, w.delay)

theorem Counted.wkey {w w' : Waiting} (h : Counted w w') : wkey w' = wkey w := by
  simp only [C05.wkey, h.coord, h.hold, h.tap, h.timeoutAction, h.layerStack, h.delay]

theorem scanExtra_perm (q : List Queued) : ∀ l : List Waiting,
    (l.map wkey).Perm ((scanExtra q l).1.map wkey ++ (scanExtra q l).2.toList.map (fun r => wkey r.w)) := by
  intro l
  induction l with
  | nil => exact List.Perm.refl _
  | cons w rest ih =>
    have hk := (htStep_counted w q).wkey
    cases hd : (htStep w q).2 with
    | some a =>
      simp only [scanExtra, hd, List.map_cons, Option.toList_some, List.map_nil, hk]
      exact (List.perm_append_singleton _ _).symm
    | none =>
      simp only [scanExtra, hd, List.map_cons, hk, List.cons_append]
      exact ih.cons _

theorem pendTick_perm (p : Pend) :
    (p.all.map wkey).Perm ((pendTick p).1.all.map wkey ++ (pendTick p).2.map (fun r => wkey r.w)) := by
  have hm := scanExtra_perm (ageQ p.queue) p.main.toList
  have hx := scanExtra_perm (ageQ p.queue) p.extra
  rw [pendTick_all]
  simp only [Pend.all, pendTick, stepMain_snd, List.map_append, List.append_assoc]
  -- (M1 ++ M2) ++ (X1 ++ X2) ~ M1 ++ (X1 ++ (M2 ++ X2))
  exact (hm.append hx).trans (by rw [List.append_assoc]; exact (List.perm_append_comm_assoc ..).append_left _)

/-- **over any number of ticks: the entries pending at the start are, as a multiset, the entries
still pending plus the entries in the log** — none is lost, duplicated, or resolved twice -/
theorem pendRun_perm : ∀ (n : Nat) (p : Pend),
    (p.all.map wkey).Perm ((pendRun n p).1.all.map wkey ++ (pendRun n p).2.map (fun r => wkey r.w))
  | 0, p => by simp [pendRun]
  | n + 1, p => by
    simp only [pendRun, List.map_append]
    -- p ~ Y ++ L1 and Y ~ X ++ L2 give p ~ X ++ (L1 ++ L2)
    refine (pendTick_perm p).trans (((pendRun_perm n (pendTick p).1).append_right _).trans ?_)
    rw [List.append_assoc]
    exact List.perm_append_comm.append_left _

/-- every logged resolution is a tap, a hold or a timeout -/
theorem pendRun_kinds : ∀ (n : Nat) (p : Pend) (r : Res), r ∈ (pendRun n p).2 → r.kind ≠ .noOp := by
  intro n
  induction n with
  | zero => intro p r h; cases h
  | succ n ih =>
    intro p r h
    simp only [pendRun, pendTick, List.mem_append, Option.mem_toList] at h
    rcases h with (h | h) | h
    · exact (stepMain_kind _ _ r h).1
    · exact (scanExtra_kind _ _ r h).1
    · exact ih _ r h

/-! ### which entry of `extra_waiting` a tick resolves, and where the others go -/

/-- **where the entry at position `i` is after the tick**: it is the one resolved; or an entry ahead
of it was resolved and it moved up one place, NOT ticked; or it was ticked, stayed undecided and
kept its place -/
theorem scanExtra_index (q : List Queued) (l : List Waiting) (i : Nat) (w : Waiting) (hi : l[i]? = some w) :
    decider q l = some i ∨
    (∃ k j, i = j + 1 ∧ k ≤ j ∧ decider q l = some k ∧ (scanExtra q l).1[j]? = some w) ∨
    ((∀ k, decider q l = some k → i < k) ∧ (htStep w q).2 = none ∧ (scanExtra q l).1[i]? = some (step1 q w)) := by
  rcases scan_cases q l with ⟨hn, hs, hd⟩ | ⟨pre, x, post, a, rfl, hpre, _, hs, hd⟩
  · refine Or.inr (Or.inr ⟨fun k hk => (by rw [hd] at hk; cases hk), hn w (List.mem_of_getElem? hi), ?_⟩)
    rw [hs, List.getElem?_map, hi]
    rfl
  · rw [hs, hd]
    rcases Nat.lt_trichotomy i pre.length with hlt | rfl | hgt
    · rw [List.getElem?_append_left hlt] at hi
      refine Or.inr (Or.inr ⟨fun k hk => (by injection hk with hk; exact hk ▸ hlt), hpre w (List.mem_of_getElem? hi), ?_⟩)
      rw [List.getElem?_append_left (by rw [List.length_map]; exact hlt), List.getElem?_map, hi]
      rfl
    · exact Or.inl rfl
    · obtain ⟨j, rfl⟩ : ∃ j, i = pre.length + j + 1 := ⟨i - pre.length - 1, by omega⟩
      refine Or.inr (Or.inl ⟨pre.length, pre.length + j, rfl, Nat.le_add_right .., rfl, ?_⟩)
      rw [Nat.add_assoc, List.getElem?_append_right (Nat.le_add_right ..), Nat.add_sub_cancel_left,
        List.getElem?_cons_succ] at hi
      rw [List.getElem?_append_right (by rw [List.length_map]; exact Nat.le_add_right ..), List.length_map,
        Nat.add_sub_cancel_left]
      exact hi

/-- **an entry of `extra_waiting` is resolved within (its countdown, at least 1) + (its position)
ticks** (`B` is any such bound): after `n` ticks, `n + 1` within the bound, it sits at some position
`j ≤ i`, unchanged but for its counters, and the next tick resolves exactly position `j` -/
theorem extra_entry_resolves : ∀ (B : Nat) (p : Pend) (i : Nat) (w : Waiting), p.Applies →
    p.extra[i]? = some w → w.timeout + i ≤ B → i < B →
    ∃ n j w', n + 1 ≤ B ∧ j ≤ i ∧ (pendRun n p).1.extra[j]? = some w' ∧ wkey w' = wkey w ∧
      decider (ageQ (pendRun n p).1.queue) (pendRun n p).1.extra = some j := by
  intro B
  induction B with
  | zero => exact fun _ _ _ _ _ _ hB => absurd hB (Nat.not_lt_zero _)
  | succ B ih =>
    intro p i w ha hi hT hB
    rcases scanExtra_index (ageQ p.queue) p.extra i w hi with h1 | ⟨k, i', rfl, _, _, h2⟩ | ⟨_, h2, h3⟩
    · exact ⟨0, i, w, Nat.succ_pos _, Nat.le_refl _, hi, rfl, h1⟩
    · -- an entry ahead of it was resolved: it moved up one place
      obtain ⟨n, j, w', b1, b2, b⟩ := ih (pendTick p).1 i' w ha.tick h2
        (Nat.le_of_succ_le_succ hT) (Nat.lt_of_succ_lt_succ hB)
      exact ⟨n + 1, j, w', Nat.succ_le_succ b1, Nat.le_succ_of_le b2, b⟩
    · -- it stayed undecided: it had at least two ticks left and is counted down
      have hc := htStep_counted w (ageQ p.queue)
      have h2' := htStep_undecided w (ageQ p.queue)
        (by rw [timeoutApplies_age]; exact ha w (List.mem_append_right _ (List.mem_of_getElem? hi))) h2
      have hb : w.timeout - 1 + i ≤ B ∧ i < B := by omega
      obtain ⟨n, j, w', b1, b2, b3, b4, b5⟩ := ih (pendTick p).1 i _ ha.tick h3
        (hc.timeout ▸ hb.1) hb.2
      exact ⟨n + 1, j, w', Nat.succ_le_succ b1, b2, b3, b4.trans hc.wkey, b5⟩

/-- the entry in `waiting` is resolved within (its countdown, at least 1) ticks -/
theorem main_entry_resolves : ∀ (B : Nat) (p : Pend) (w : Waiting), p.Applies → p.main = some w →
    w.timeout ≤ B → 0 < B →
    ∃ n w' r, n + 1 ≤ B ∧ (pendRun n p).1.main = some w' ∧ wkey w' = wkey w ∧
      (stepMain (ageQ (pendRun n p).1.queue) (some w')).2 = some r := by
  intro B
  induction B with
  | zero => exact fun _ _ _ _ _ hB => absurd hB (Nat.lt_irrefl _)
  | succ B ih =>
    intro p w ha hm hT _
    cases hd : (htStep w (ageQ p.queue)).2 with
    | some a =>
      exact ⟨0, w, ⟨(htStep w (ageQ p.queue)).1, a⟩, Nat.succ_pos _, hm, rfl, by simp only [pendRun, stepMain, hd]⟩
    | none =>
      have hc := htStep_counted w (ageQ p.queue)
      have h2' := htStep_undecided w (ageQ p.queue)
        (by rw [timeoutApplies_age]; exact ha w (by simp [Pend.all, hm])) hd
      have hm' : (pendTick p).1.main = some (step1 (ageQ p.queue) w) := by
        simp only [pendTick, hm, stepMain, hd]
      have hb : w.timeout - 1 ≤ B ∧ 0 < B := by omega
      obtain ⟨n, w', r, b1, b2, b3, b4⟩ := ih (pendTick p).1 _ ha.tick hm'
        (hc.timeout ▸ hb.1) hb.2
      exact ⟨n + 1, w', r, Nat.succ_le_succ b1, b2, b3.trans hc.wkey, b4⟩

/-! ### after the last resolution: the rapid-event pause, then the queue -/

/-- **main stage, nothing pending, the rapid-event pause running**: only the pause is counted down -/
theorem paused_stage (s : Layout) (hw : s.waiting = none) (he : s.extraWaiting = [])
    (hp : 0 < s.oneshot.pauseInputProcessingTicks) :
    ∃ s2, tickMain s = .ok (s2, .noEvent) ∧ RFrame s s2 ∧
      s2.oneshot.pauseInputProcessingTicks = s.oneshot.pauseInputProcessingTicks - 1 :=
  ⟨_, tickMain_paused hw he hp, ⟨rfl, rfl, rfl, rfl, fun h => h⟩, rfl⟩

/-- a tick with nothing pending while the rapid-event pause runs: the pause is counted down, the
queue is aged, nothing is dequeued -/
theorem tick_paused (s : Layout) (h : POK s) (hw : s.waiting = none) (he : s.extraWaiting = [])
    (hp : 0 < s.oneshot.pauseInputProcessingTicks) :
    ∃ s' cu, tick s = .ok (s', cu) ∧ POK s' ∧ s'.waiting = none ∧ s'.extraWaiting = [] ∧
      s'.queue = ageQ s.queue ∧
      s'.oneshot.pauseInputProcessingTicks = s.oneshot.pauseInputProcessingTicks - 1 := by
  have f0 := tickPre_pframe s
  have o1 : (tickPre s).oneshot = s.oneshot := f0.osh h.osh
  obtain ⟨s2, m1, f2, p2⟩ := paused_stage (tickPre s) (f0.waiting.trans hw) (f0.extra.trans he) (by rw [o1]; exact hp)
  have x2 : s2.extraWaiting = [] := f2.extra.trans (f0.extra.trans he)
  have k2 : s2.oneshot.keys = [] := f2.osh (by rw [o1]; exact h.osh)
  have f4 := processSequenceCustom_pframe s2 .noEvent
  have w4 := f4.waiting.trans (f2.waiting.trans (f0.waiting.trans hw))
  have x4 := f4.extra.trans x2
  have k1 : (tickPre s).oneshot.keys = [] := by rw [o1]; exact h.osh
  refine ⟨(processSequenceCustom s2 .noEvent).1, (processSequenceCustom s2 .noEvent).2,
    tick_of_stages h.aq (tickOneshot_inactive k1) m1 (processExtraWaitings_nil x2 _),
    ⟨f4.aq.trans (f2.aq.trans (f0.aq.trans h.aq)), by rw [f4.osh k2]; exact k2, ?_⟩,
    w4, x4, f4.queue.trans (f2.queue.trans f0.queue), by rw [f4.osh k2, p2, o1]⟩
  intro w hw'
  rw [(Pend.all_nil_iff _).mpr ⟨w4, x4⟩] at hw'
  cases hw'

/-- the whole pause: as many ticks as it has left -/
theorem pause_run : ∀ (k : Nat) (s : Layout), POK s → s.waiting = none → s.extraWaiting = [] →
    s.oneshot.pauseInputProcessingTicks = k →
    ∃ s', tickN k s = .ok s' ∧ POK s' ∧ s'.waiting = none ∧ s'.extraWaiting = [] ∧
      s'.oneshot.pauseInputProcessingTicks = 0 ∧ s'.queue.map (·.ev) = s.queue.map (·.ev) := by
  intro k
  induction k with
  | zero => intro s h hw he hp; exact ⟨s, rfl, h, hw, he, hp, rfl⟩
  | succ k ih =>
    intro s h hw he hp
    obtain ⟨s1, cu, e, h1, w1, x1, q1, p1⟩ := tick_paused s h hw he (by rw [hp]; exact Nat.succ_pos k)
    obtain ⟨s', e', h', w', x', p', q'⟩ := ih s1 h1 w1 x1 (by rw [p1, hp]; rfl)
    refine ⟨s', ?_, h', w', x', p', ?_⟩
    · simp only [tickN, e]; exact e'
    · rw [q', q1, ageQ_evs]

/-- once nothing is pending and the pause is over, the main stage of the next tick takes exactly
the oldest queued event -/
theorem main_pops_oldest (s : Layout) (h : POK s) (hw : s.waiting = none) (he : s.extraWaiting = [])
    (hp : s.oneshot.pauseInputProcessingTicks = 0) (q : Queued) (rest : List Queued) (hq : s.queue = q :: rest) :
    tickOneshot (tickPre s) = .ok (tickPre s, .noEvent) ∧
    tickMain (tickPre s) =
      dequeue FUEL ((tickPre s).setQueue (ageQ rest)) ⟨q.ev, min (q.since + 1) U16_MAX⟩ := by
  have f0 := tickPre_pframe s
  have o1 : (tickPre s).oneshot = s.oneshot := f0.osh h.osh
  exact ⟨tickOneshot_inactive (o1 ▸ h.osh),
    tickMain_pops (f0.waiting.trans hw) (f0.extra.trans he) (by rw [o1]; exact hp) _ _
      (by rw [f0.queue]; show ageQ s.queue = _; rw [hq]; rfl)⟩

/-! ## Witnesses used by Props/C05multi.lean -/

/-- the waiting state the `HoldTap` arm of `do_action` builds -/
def newEntry (s : Layout) (coord : Coord) (delay timeout : Nat) (hold tap timeoutAction : Action)
    (config : HTConfig) (layerStack : List Nat) : Waiting :=
  { coord, timeout := if s.quickTapHoldTimeout then timeout - delay else timeout,
    delay := if s.quickTapHoldTimeout then 0 else delay, ticks := 0, hold, tap, timeoutAction,
    config := .holdTap config, layerStack, prevQueueLen := 255 }

/-- a pending tap-hold entry at (0, y) with countdown `T`: hold = timeout = key 100+y, tap = key 200+y -/
def plainW (cfg : HTConfig) (y T : Nat) : Waiting :=
  { coord := (0, y), timeout := T, delay := 0, ticks := 0, hold := .keyCode (100 + y), tap := .keyCode (200 + y),
    timeoutAction := .keyCode (100 + y), config := .holdTap cfg, layerStack := [0], prevQueueLen := 255 }

/-- nothing but the given pending entries -/
def pendingOnly (m : Option Waiting) (ex : List Waiting) : Layout :=
  { cfg := { layers := [[]], srcKeys := [] }, waiting := m, extraWaiting := ex }

/-- keys down after `n` ticks without input (`[0]` stands for a crash) -/
def keysAfter (n : Nat) (s : Layout) : List KeyCode :=
  match tickN n s with
  | .ok s' => s'.keycodes
  | .error _ => [0]

/-- two entries in `extra_waiting` whose countdowns run out on the same tick -/
def tieS : Layout := pendingOnly none [plainW .default 1 2, plainW .default 2 2]

/-- the first key in `waiting` with a long countdown, two later arrivals with shorter ones -/
def orderS : Layout := pendingOnly (some (plainW .default 1 100)) [plainW .default 2 3, plainW .default 3 50]

/-- a `tap-hold-except-keys` entry with nothing queued -/
def exceptS : Layout := pendingOnly none [plainW (.customExcept [45]) 1 2]

/-- `exceptS` from its second tick on: the countdown has run out, only the tick counter `k` still moves -/
def idleExcept (k : Nat) : Layout :=
  pendingOnly none [{ plainW (.customExcept [45]) 1 0 with ticks := k, prevQueueLen := 0 }]

/-- with no press queued `custom_tap_hold_except` keeps answering "skip the timeout": a tick only
moves the tick counter -/
theorem tick_idleExcept (k : Nat) :
    tick (idleExcept k) = .ok (idleExcept (min (k + 1) U16_MAX), .noEvent) := by
  unfold tick tickPre
  rfl

theorem tickN_idleExcept : ∀ n k, ∃ k', tickN n (idleExcept k) = .ok (idleExcept k')
  | 0, k => ⟨k, rfl⟩
  | n + 1, k => by
    simp only [tickN, tick_idleExcept]
    exact tickN_idleExcept n _

/-- the except-keys entry of `exceptS` is never resolved -/
theorem exceptS_stays_pending (n : Nat) : ∃ k, tickN (n + 2) exceptS = .ok (idleExcept k) :=
  tickN_idleExcept n 2

/-- ten tap-hold actions on one physical key: the first directly in `multi`, the others wrapped in `fork` -/
def tenHT (k : Nat) : Action :=
  .holdTap 3 (.keyCode (100 + k)) (.keyCode (200 + k)) (.keyCode (100 + k)) .default 0

def tenKey : Action :=
  .multipleActions (tenHT 1 :: (List.range 9).map fun i => .fork (tenHT (i + 2)) .noOp [29])

def tenStart : Layout := { cfg := { layers := [[((0, 1), tenKey)]], srcKeys := [] } }

/-- after pressing the key and `n` ticks: the keys down, the hold key of `waiting`, the hold keys of `extra_waiting` -/
def tenAfter (n : Nat) : List KeyCode × Option KeyCode × List KeyCode :=
  match tenStart.event (.press (0, 1)) with
  | .error _ => ([0], none, [])
  | .ok s =>
    match tickN n s with
    | .error _ => ([0], none, [])
    | .ok s' =>
      let hk (w : Waiting) : KeyCode := match w.hold with | .keyCode k => k | _ => 0
      (s'.keycodes, s'.waiting.map hk, s'.extraWaiting.map hk)

/-- three tap-hold keys pending (one in `waiting`, two in `extra_waiting`, different variants and
countdowns, keys / layer / macro as actions) and two events buffered behind them -/
def multiS : Layout :=
  { cfg := { layers := [[], []], srcKeys := [] },
    waiting := some { coord := (0, 30), timeout := 200, delay := 1, ticks := 0, hold := .layer 1, tap := .keyCode 30,
                      timeoutAction := .layer 1, config := .holdTap .permissiveHold, layerStack := [0],
                      prevQueueLen := 255 },
    extraWaiting :=
      [{ coord := (0, 31), timeout := 150, delay := 1, ticks := 0, hold := .keyCode 42, tap := .keyCode 31,
         timeoutAction := .keyCode 42, config := .holdTap .default, layerStack := [0], prevQueueLen := 255 },
       { coord := (0, 32), timeout := 150, delay := 1, ticks := 0, hold := .multipleKeyCodes [29, 46],
         tap := .sequence [.tap 32, .tap 33], timeoutAction := .noOp,
         config := .holdTap (.customExcept [45]), layerStack := [0], prevQueueLen := 255 }],
    queue := [⟨.press (0, 45), 0⟩, ⟨.release (0, 31), 0⟩],
    oneshot := { pauseInputProcessingDelay := 5 } }

end KVerif.C05
