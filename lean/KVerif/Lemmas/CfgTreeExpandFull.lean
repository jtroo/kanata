/-
Lemmas for C16 (templates): under the decidable "keywords only in head position" hypothesis
(`headSafe`), the loop of `expand` (deftemplate.rs, `expandLoop`) and the substitution semantics
(`expandSpec`) compute the same results.
-/
import KVerif.Lemmas.CfgTreeHeadOnly
import KVerif.Lemmas.CfgTreeExpand
import KVerif.Lemmas.CfgTreeSubst
namespace KVerif.CfgTree

def xBadT (a : Str) : Bool := a = sTemplateExpand || a = sTBang || a = sConcat
def xBadH (a : Str) : Bool := a = sConcat

theorem xBad_sub : ∀ a, xBadH a = true → xBadT a = true := by
  intro a h
  simp only [xBadH, xBadT, Bool.or_eq_true] at h ⊢
  exact Or.inr h

/-- keywords only in head position: in every list the atoms after the head are not
template-expand / t! / concat and the head is not concat -/
abbrev xho (ts : List Tree) : Bool := hoList xBadH xBadT ts
def tmplSafe (T : List Template) : Bool := T.all fun t => xho t.content && freeTop xBadT t.content
def headSafe (T : List Template) (ts : List Tree) : Bool := tmplSafe T && xho ts

variable {bad bH bT : Str → Bool} {ps : List Str} {args l : List Tree} {t : Tree}

/-! ### 1. substitution keeps the discipline -/

theorem substList_eq_map (ps : List Str) (args l : List Tree) :
    substList ps args l = l.map (substTree ps args) := by
  induction l with
  | nil => rw [substList]; rfl
  | cons t rest ih => rw [substList, ih]; rfl

/-- a parameter atom becomes one of the arguments, any other atom stays -/
theorem substTree_atom (ps : List Str) (args : List Tree) (a : Str) :
    substTree ps args (.atom a) = .atom a ∨ substTree ps args (.atom a) ∈ args := by
  rw [substTree]
  split
  · exact .inl rfl
  · next i _ =>
    cases hg : args[i]? with
    | none => exact .inl rfl
    | some t => exact .inr (List.mem_of_getElem? hg)

theorem substTree_atomOK (ps : List Str) (hf : freeTop bad args = true) (h : atomOK bad t = true) :
    atomOK bad (substTree ps args t) = true := by
  cases t with
  | list l => rw [substTree]; rfl
  | atom a =>
    rcases substTree_atom ps args a with e | e
    · rw [e]; exact h
    · exact freeTop_iff.mp hf _ e

theorem substList_freeTop (ps : List Str) (hf : freeTop bad args = true) (h : freeTop bad l = true) :
    freeTop bad (substList ps args l) = true := by
  rw [substList_eq_map, freeTop_iff]
  intro t ht
  obtain ⟨t0, h0, rfl⟩ := List.mem_map.mp ht
  exact substTree_atomOK ps hf (freeTop_iff.mp h t0 h0)

mutual
  theorem substTree_hoTree (hsub : ∀ a, bH a = true → bT a = true) (ps : List Str)
      (ha : hoList bH bT args = true) (hf : freeTop bT args = true) :
      ∀ (t : Tree), hoTree bH bT t = true → hoTree bH bT (substTree ps args t) = true
    | .atom a, h => by
      rcases substTree_atom ps args a with e | e
      · rw [e]; exact h
      · exact hoList_iff.mp ha _ e
    | .list l, h => by
      have ⟨⟨h1, h2⟩, h3⟩ := hoTree_list.mp h
      rw [substTree, hoTree_list]
      refine ⟨?_, substList_hoList hsub ps ha hf l h3⟩
      cases l with
      | nil => exact ⟨rfl, rfl⟩
      | cons t rest =>
        rw [substList, headOK_cons] at *
        exact ⟨substTree_atomOK ps (freeTop_mono hsub hf) h1, substList_freeTop ps hf h2⟩
  theorem substList_hoList (hsub : ∀ a, bH a = true → bT a = true) (ps : List Str)
      (ha : hoList bH bT args = true) (hf : freeTop bT args = true) :
      ∀ (l : List Tree), hoList bH bT l = true → hoList bH bT (substList ps args l) = true
    | [], _ => by rw [substList]; rfl
    | t :: rest, h => by
      rw [substList, hoList_cons]
      exact ⟨substTree_hoTree hsub ps ha hf t (hoList_cons.mp h).1,
        substList_hoList hsub ps ha hf rest (hoList_cons.mp h).2⟩
end

theorem substTree_ho (ps : List Str) (args : List Tree) (ha : xho args = true)
      (hf : freeTop xBadT args = true) : ∀ (t : Tree), hoTree xBadH xBadT t = true →
      hoTree xBadH xBadT (substTree ps args t) = true :=
  substTree_hoTree xBad_sub ps ha hf

/-! ### 2. no `concat` list -/

theorem headOK_xBadH (l : List Tree) : headOK xBadH l = !headIs sConcat l :=
  match l with
  | [] => rfl
  | .list _ :: _ => rfl
  | .atom _ :: _ => rfl

mutual
  theorem noConcatTree_of_ho : ∀ (t : Tree), hoTree xBadH xBadT t = true → noConcatTree t = true
    | .atom _, _ => by rw [noConcatTree]
    | .list l, h => by
      have ⟨⟨h1, _⟩, h3⟩ := hoTree_list.mp h
      rw [noConcatTree, ← headOK_xBadH, h1, noConcatList_of_ho l h3]; rfl
  theorem noConcatList_of_ho : ∀ (l : List Tree), xho l = true → noConcatList l = true
    | [], _ => by rw [noConcatList]
    | t :: rest, h => by
      rw [noConcatList, noConcatTree_of_ho t (hoList_cons.mp h).1,
        noConcatList_of_ho rest (hoList_cons.mp h).2]; rfl
end

theorem concatTree_id_xho : ∀ (t : Tree), hoTree xBadH xBadT t = true → concatTree t = t :=
  fun t h => concatTree_id t (noConcatTree_of_ho t h)

theorem concatList_id_xho (l : List Tree) (h : xho l = true) : concatList l = l :=
  concatList_id l (noConcatList_of_ho l h)

/-! ### 3. an instantiated body keeps the discipline -/

theorem findTemplate_mem (name : Str) : ∀ (T : List Template) (tpl : Template),
    findTemplate name T = some tpl → tpl ∈ T
  | [], tpl, h => nomatch h
  | t :: rest, tpl, h => by
    rw [findTemplate] at h
    split at h
    · cases h; exact List.mem_cons_self
    · exact List.mem_cons_of_mem _ (findTemplate_mem name rest tpl h)

theorem tmplSafe_mem (T : List Template) (tpl : Template) (h : tmplSafe T = true) (hm : tpl ∈ T) :
    xho tpl.content = true ∧ freeTop xBadT tpl.content = true := by
  simp only [tmplSafe, List.all_eq_true, Bool.and_eq_true] at h
  exact h tpl hm

/-- the body of a template of a safe table, with the arguments of a call that keeps the discipline
substituted for the parameters -/
theorem substBody_xho {T : List Template} {name : Str} {tpl : Template} {hd : Tree}
    {args : List Tree} (hT : tmplSafe T = true) (hft : findTemplate name T = some tpl)
    (hl : hoTree xBadH xBadT (.list (hd :: .atom name :: args)) = true) :
    xho (substList tpl.params args tpl.content) = true ∧
      freeTop xBadT (substList tpl.params args tpl.content) = true := by
  have ⟨hl2, hl3⟩ := hoTree_list.mp hl
  have ⟨c1, c2⟩ := tmplSafe_mem T tpl hT (findTemplate_mem name T tpl hft)
  have hargs : xho args = true := (hoList_cons.mp (hoList_cons.mp hl3).2).2
  have hfargs : freeTop xBadT args = true := freeTop_tail hl2.2
  exact ⟨substList_hoList xBad_sub tpl.params hargs hfargs tpl.content c1,
    substList_freeTop tpl.params hfargs c2⟩

theorem instantiate_xho (T : List Template) (l repl : List Tree) (hT : tmplSafe T = true)
    (hl : hoTree xBadH xBadT (.list l) = true) (h : instantiate T l = .ok repl) :
    xho repl = true ∧ freeTop xBadT repl = true := by
  unfold instantiate at h
  split at h
  · split at h
    · cases h
    · next hft =>
      split at h
      · cases h
      · have ⟨k1, k2⟩ := substBody_xho hT hft hl
        -- no `concat` list to join; the conditional loop keeps the discipline
        rw [concatList_id_xho _ k1] at h
        have k := condLoop_keeps xBad_sub _ _ _ h k1
        exact ⟨k.1, k.2.1 k2⟩
  · cases h
  · cases h

variable {T : List Template} {rec : List Tree → Res (List Tree)} {ts ts1 r : List Tree} {c : Bool}

/-! ### 4. the pass and the loop keep the discipline -/

/-- the recursive call keeps the discipline -/
def RecOK (rec : List Tree → Res (List Tree)) : Prop :=
  ∀ l l', xho l = true → rec l = .ok l' → Keeps xBadH xBadT l l'

theorem ExpandPass.keeps (hrec : RecOK rec) (hT : tmplSafe T = true) (h : ExpandPass rec T ts ts1 c)
    (ho : xho ts = true) : Keeps xBadH xBadT ts ts1 := by
  induction h with
  | nil => exact .nil
  | atom _ ih => exact .cons_atom _ (ih (hoList_cons.mp ho).2)
  | @call l _ _ _ _ _ hi _ ih =>
    have ⟨j1, j2⟩ := instantiate_xho T l _ hT (hoList_cons.mp ho).1 hi
    exact .cons_splice l (ih (hoList_cons.mp ho).2) j1 j2
  | @nested l l' _ _ _ _ hl _ ih =>
    have h1 := (hoList_cons.mp ho).1
    exact .cons_list l (ih (hoList_cons.mp ho).2)
      ((hrec l l' (hoTree_list.mp h1).2 hl).tree xBad_sub h1)

theorem expandLoop_keeps (hT : tmplSafe T = true) : ∀ (F : Nat), RecOK (expandLoop F T)
  | 0, _, _, _, h => nomatch h
  | F + 1, ts, r, ho, h => by
    obtain ⟨ts1, c, p, hc⟩ := expandLoop_succ_ok h
    have k := p.keeps (expandLoop_keeps hT F) hT ho
    cases c
    · cases hc; exact k
    · exact k.trans (expandLoop_keeps hT F ts1 r k.1 hc)

theorem isExpandHead_eq (l : List Tree) :
    isExpandHead l = !headOK (fun a => a = sTemplateExpand || a = sTBang) l :=
  match l with
  | [] => rfl
  | .list _ :: _ => rfl
  | .atom _ :: _ => (Bool.not_not _).symm

/-- a list that is not a call does not become one -/
theorem Keeps.notHead {l l' : List Tree} (h : Keeps xBadH xBadT l l')
    (hl : hoTree xBadH xBadT (.list l) = true) (hh : isExpandHead l = false) :
    isExpandHead l' = false := by
  rw [isExpandHead_eq, Bool.not_eq_false'] at hh ⊢
  refine h.headOK (fun a ha => ?_) (hoTree_list.mp hl).1.2 hh
  rw [xBadT, ha]; rfl

/-! ### 5. the substitution semantics keeps the discipline and ends fully expanded -/

theorem expandSpec_keeps_nf (hT : tmplSafe T = true) : ∀ (f : Nat) (ts r : List Tree),
    expandSpec f T ts = .ok r → xho ts = true → Keeps xBadH xBadT ts r ∧ nfList r = true := by
  refine expandSpec_induct (fun _ => ⟨.nil, rfl⟩) ?_ ?_ ?_
  · intro a rest r _ ih ho
    have ⟨k, n⟩ := ih (hoList_cons.mp ho).2
    exact ⟨.cons_atom a k, nfList_cons.mpr ⟨rfl, n⟩⟩
  · intro l repl r1 rest r _ hi _ ih1 _ ih2 ho
    have ⟨j1, j2⟩ := instantiate_xho T l repl hT (hoList_cons.mp ho).1 hi
    have ⟨k1, n1⟩ := ih1 j1
    have ⟨k2, n2⟩ := ih2 (hoList_cons.mp ho).2
    exact ⟨.cons_splice l k2 k1.1 (k1.2.1 j2), by rw [nfList_append, n1, n2]; rfl⟩
  · intro l rest l' r hh _ ihl _ ihr ho
    have h1 := (hoList_cons.mp ho).1
    have ⟨kl, nl⟩ := ihl (hoTree_list.mp h1).2
    have ⟨kr, nr⟩ := ihr (hoList_cons.mp ho).2
    exact ⟨.cons_list l kr (kl.tree xBad_sub h1),
      nfList_cons.mpr ⟨nfTree_list.mpr ⟨kl.notHead h1 hh, nl⟩, nr⟩⟩

theorem Expands.nf (hT : tmplSafe T = true) (ho : xho ts = true) (h : Expands T ts r) :
    nfList r = true :=
  have ⟨f, h⟩ := h
  (expandSpec_keeps_nf hT f ts r h ho).2

/-- on a fully expanded forest the substitution semantics is the identity -/
theorem Expands.nf_id {x y : List Tree} (hn : nfList x = true) (h : Expands T x y) : y = x := by
  obtain ⟨f, h⟩ := h
  revert hn
  refine expandSpec_induct (P := fun x y => nfList x = true → y = x) (fun _ => rfl) ?_ ?_ ?_ f x y h
  · intro a rest r _ ih hn
    rw [ih (nfList_cons.mp hn).2]
  · intro l _ _ rest _ hh _ _ _ _ _ hn
    rw [(nfTree_list.mp (nfList_cons.mp hn).1).1] at hh
    cases hh
  · intro l rest l' r _ _ ihl _ ihr hn
    rw [ihl (nfTree_list.mp (nfList_cons.mp hn).1).2, ihr (nfList_cons.mp hn).2]

/-! ### 6. soundness of the loop for the substitution semantics -/

/-- a pass that found no call has expanded the nested lists and nothing else -/
theorem ExpandPass.expands_of_false (ih : ∀ l l', xho l = true → rec l = .ok l' → Expands T l l')
    (h : ExpandPass rec T ts ts1 c) (hc : c = false) (ho : xho ts = true) : Expands T ts ts1 := by
  induction h with
  | nil => exact ⟨1, rfl⟩
  | @atom a _ _ _ _ ihp =>
    exact Expands.append (a := [.atom a]) ⟨1, rfl⟩ (ihp hc (hoList_cons.mp ho).2)
  | call => cases hc
  | @nested l l' _ _ _ hh hl _ ihp =>
    exact Expands.append (a := [.list l])
      ((Expands.nested hh).mpr ⟨l', rfl, ih l l' (hoTree_list.mp (hoList_cons.mp ho).1).2 hl⟩)
      (ihp hc (hoList_cons.mp ho).2)

/-- one pass reflects the substitution semantics -/
theorem ExpandPass.reflects (hT : tmplSafe T = true) (hrec : RecOK rec)
    (ih : ∀ l l', xho l = true → rec l = .ok l' → Expands T l l')
    (h : ExpandPass rec T ts ts1 c) (ho : xho ts = true) :
    ∀ r, Expands T ts1 r → Expands T ts r := by
  induction h with
  | nil => exact fun _ he => he
  | @atom a _ _ _ _ ihp =>
    exact Expands.append_imp (a' := [.atom a]) (fun _ ha => ha) (ihp (hoList_cons.mp ho).2)
  | call hh hi _ ihp =>
    exact Expands.append_imp (a' := [.list _]) (fun _ => (Expands.call hh hi).mpr) (ihp (hoList_cons.mp ho).2)
  | @nested l l' _ _ _ hh hl _ ihp =>
    have h1 := (hoList_cons.mp ho).1
    have hx := (hoTree_list.mp h1).2
    refine Expands.append_imp (a := [.list l']) (a' := [.list l]) (fun ra ha => ?_) (ihp (hoList_cons.mp ho).2)
    -- `l'` is fully expanded and still no call, so `(l')` only expands to itself
    obtain ⟨l'', rfl, hl''⟩ := (Expands.nested ((hrec l l' hx hl).notHead h1 hh)).mp ha
    cases Expands.nf_id ((ih l l' hx hl).nf hT hx) hl''
    exact (Expands.nested hh).mpr ⟨l', rfl, ih l l' hx hl⟩

/-- what the loop ends with is what the substitution semantics yields -/
theorem expandLoop_sound (hT : tmplSafe T = true) : ∀ (F : Nat) (ts r : List Tree),
    xho ts = true → expandLoop F T ts = .ok r → Expands T ts r
  | 0, _, _, _, h => nomatch h
  | F + 1, ts, r, ho, h => by
    obtain ⟨ts1, c, p, hc⟩ := expandLoop_succ_ok h
    cases c
    · cases hc; exact p.expands_of_false (expandLoop_sound hT F) rfl ho
    · exact p.reflects hT (expandLoop_keeps hT F) (expandLoop_sound hT F) ho r
        (expandLoop_sound hT F ts1 r (p.keeps (expandLoop_keeps hT F) hT ho).1 hc)

/-! ### 7. the loop of `expand` computes exactly the substitution semantics -/

/-- **`expand` = substitution.**  When the keywords `template-expand`, `t!`, `concat` occur only in
head position (in the configuration and in every template body; `concat` not at all as a head), the
loop of `expand` terminates with `r` for some amount of stack iff substituting template bodies for
their calls, everywhere and recursively, yields `r`. -/
theorem expandLoop_iff_spec (T : List Template) (ts : List Tree) (h : headSafe T ts = true)
    (r : List Tree) :
    (∃ F, expandLoop F T ts = .ok r) ↔ (∃ f, expandSpec f T ts = .ok r) := by
  rw [headSafe, Bool.and_eq_true] at h
  constructor
  · rintro ⟨F, hF⟩
    exact expandLoop_sound h.1 F ts r h.2 hF
  · rintro ⟨f, hf⟩
    exact expandLoop_complete T f ts r hf (expandSpec_keeps_nf h.1 f ts r hf h.2).2

/-- … and what the loop ends with contains no call -/
theorem expandLoop_result_nf (T : List Template) (ts : List Tree) (h : headSafe T ts = true)
    (F : Nat) (r : List Tree) (hF : expandLoop F T ts = .ok r) : nfList r = true := by
  rw [headSafe, Bool.and_eq_true] at h
  exact (expandLoop_sound h.1 F ts r h.2 hF).nf h.1 h.2

end KVerif.CfgTree
