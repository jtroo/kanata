/-
C04 helper lemmas: on configurations of the layered fragment every reachable layout state is
*inert* (no waiting state, one-shot, sequence, eager tap-dance or queued action), and `do_action`
of the layout model is `perform` of the simple layered machine under the abstraction `abs`
(`refines_all`).  Every arm of the fragment is, up to bookkeeping that nothing reads back, one of
three operations on the list of states — push, filter, set the base layer — and each of these
commutes with `abs` (`R.push`, `R.filter`, `R.base`).
-/
import KVerif.Spec.Layered
namespace KVerif.C04
open KVerif.L KVerif.Spec.Layered

mutual
  /-- the action fragment of C04 -/
  def Frag : Action → Prop
    | .noOp | .trans | .keyCode _ | .multipleKeyCodes _ | .layer _ | .defaultLayer _
    | .releaseState _ | .src => True
    | .multipleActions acs => FragL acs
    | _ => False
  def FragL : List Action → Prop
    | [] => True
    | a :: rest => Frag a ∧ FragL rest
end

def CfgFrag (c : LCfg) : Prop :=
  (∀ tbl ∈ c.layers, ∀ e ∈ tbl, Frag e.2) ∧ (∀ e ∈ c.srcKeys, Frag e.2)

def StOK : St → Prop
  | .normalKey _ _ f => f = 0 ∨ f = 1
  | .layerModifier _ _ => True
  | _ => False

structure Inert (s : Layout) : Prop where
  waiting : s.waiting = none
  extra : s.extraWaiting = []
  tde : s.tapDanceEager = none
  aq : s.actionQueue = []
  seqs : s.activeSequences = []
  osh : s.oneshot.keys = []
  pause : s.oneshot.pauseInputProcessingTicks = 0
  states : ∀ st ∈ s.states, StOK st

def absSt : St → Contrib
  | .normalKey kc c f => .key kc c (f % 2 == 1)
  | .layerModifier v c => .layer v c
  | _ => .layer 0 (0, 0)

def abs (s : Layout) : State :=
  { pending := s.queue.map (·.ev), contribs := s.states.map absSt, base := s.defaultLayer }

def km (s : Layout) : Keymap :=
  { cfg := s.cfg, layerStack := s.transV2, delegateToFirst := s.delegateToFirstLayer }

/-- what no action of the fragment changes -/
structure Same (s s' : Layout) : Prop where
  cfg : s'.cfg = s.cfg
  tv2 : s'.transV2 = s.transV2
  dfl : s'.delegateToFirstLayer = s.delegateToFirstLayer
  queue : s'.queue = s.queue

namespace Same
theorem refl (s : Layout) : Same s s := ⟨rfl, rfl, rfl, rfl⟩
theorem trans {a b c : Layout} (h1 : Same a b) (h2 : Same b c) : Same a c :=
  ⟨h2.cfg.trans h1.cfg, h2.tv2.trans h1.tv2, h2.dfl.trans h1.dfl, h2.queue.trans h1.queue⟩
theorem km {s s' : Layout} (h : Same s s') : km s' = km s := by
  simp only [C04.km, h.cfg, h.tv2, h.dfl]
end Same

def allActions (c : LCfg) : List Action :=
  (c.layers.flatMap fun tbl => tbl.map (·.2)) ++ c.srcKeys.map (·.2)

theorem mem_allActions_layer {c : LCfg} {tbl : List (Coord × Action)} {e : Coord × Action}
    (ht : tbl ∈ c.layers) (he : e ∈ tbl) : e.2 ∈ allActions c :=
  List.mem_append_left _ (List.mem_flatMap.mpr ⟨tbl, ht, List.mem_map.mpr ⟨e, he, rfl⟩⟩)

theorem mem_allActions_src {c : LCfg} {e : Nat × Action} (he : e ∈ c.srcKeys) : e.2 ∈ allActions c :=
  List.mem_append_right _ (List.mem_map.mpr ⟨e, he, rfl⟩)

theorem CfgFrag.frag {c : LCfg} (h : CfgFrag c) {a : Action} (ha : a = .noOp ∨ a ∈ allActions c) : Frag a := by
  rcases ha with rfl | ha
  · trivial
  rcases List.mem_append.mp ha with ha | ha
  · obtain ⟨tbl, ht, hm⟩ := List.mem_flatMap.mp ha
    obtain ⟨e, he, rfl⟩ := List.mem_map.mp hm
    exact h.1 tbl ht e he
  · obtain ⟨e, he, rfl⟩ := List.mem_map.mp ha
    exact h.2 e he

/-! `perform` and `do_action` treat a transparent item alike — look it up, then go on with what was
found — and anything else is what was found. -/

theorem lookup_cons_trans {km : Keymap} {l : Nat} {c : Coord} (h : tableAction km l c = .trans)
    (rest : List Nat) : lookup km c (l :: rest) = lookup km c rest := by
  simp only [lookup, h]

theorem lookup_cons_found {km : Keymap} {l : Nat} {c : Coord} (h : tableAction km l c ≠ .trans)
    (rest : List Nat) : lookup km c (l :: rest) = (tableAction km l c, rest) := by
  unfold lookup
  split
  · contradiction
  · rfl

theorem perform_trans (km : Keymap) (c : Coord) (fuel : Nat) (t : State) (ls : List Nat) :
    perform km c (fuel + 1) t .trans ls =
      performFound km c fuel { t with contribs := dropUntilNextAction t.contribs }
        (lookup km c ls).1 (lookup km c ls).2 := rfl

theorem perform_of_ne {a : Action} (h : a ≠ .trans) (km : Keymap) (c : Coord) (fuel : Nat) (t : State)
    (ls : List Nat) : perform km c (fuel + 1) t a ls =
      performFound km c fuel { t with contribs := dropUntilNextAction t.contribs } a ls := by
  unfold perform
  split; rename_i heq; split at heq
  · contradiction
  · cases heq; rfl

theorem doAction_trans {s : Layout} {c : Coord} {ls : List Nat} {r : Action × List Nat}
    (h : s.resolveCoord c ls = .ok r) (fuel d : Nat) (o : Bool) :
    doAction (fuel + 1) s .trans c d o ls = dispatch fuel (prelude s c) r.1 c d o r.2 := by
  simp only [doAction, h]

theorem doAction_of_ne {a : Action} (h : a ≠ .trans) (fuel : Nat) (s : Layout) (c : Coord) (d : Nat)
    (o : Bool) (ls : List Nat) :
    doAction (fuel + 1) s a c d o ls = dispatch fuel (prelude s c) a c d o ls := by
  simp only [doAction]

theorem perform_pending (km : Keymap) (c : Coord) : ∀ fuel : Nat,
    (∀ t a ls, (perform km c fuel t a ls).pending = t.pending) ∧
    (∀ t a ls, (performFound km c fuel t a ls).pending = t.pending) ∧
    (∀ t acs ls, (performAll km c fuel t acs ls).pending = t.pending) := by
  intro fuel
  induction fuel with
  | zero => exact ⟨fun _ _ _ => rfl, fun _ _ _ => rfl, fun _ _ _ => rfl⟩
  | succ fuel ih =>
    obtain ⟨ih1, ih2, ih3⟩ := ih
    refine ⟨?_, ?_, ?_⟩
    · intro t a ls
      by_cases h : a = .trans
      · rw [h, perform_trans]; exact ih2 _ _ _
      · rw [perform_of_ne h]; exact ih2 _ _ _
    · intro t a ls
      cases a <;> simp only [performFound] <;> try rfl
      case multipleActions acs => exact ih3 t acs ls
      case defaultLayer l => split <;> rfl
      case releaseState rs => cases rs <;> rfl
      case src => exact ih1 t _ []
    · intro t acs ls
      cases acs with
      | nil => rfl
      | cons a rest => simp only [performAll]; rw [ih3, ih1]

theorem srcKey_mem (c : LCfg) (y : Nat) : c.srcKey y = .noOp ∨ c.srcKey y ∈ allActions c := by
  unfold LCfg.srcKey
  split
  · exact .inr (mem_allActions_src (List.mem_of_find?_eq_some ‹_›))
  · exact .inl rfl

theorem tableAction_mem (km : Keymap) (l : Nat) (c : Coord) :
    tableAction km l c = .trans ∨ tableAction km l c ∈ allActions km.cfg := by
  unfold tableAction
  split
  · split
    · exact .inr (mem_allActions_layer (List.mem_of_getElem? ‹_›) (List.mem_of_find?_eq_some ‹_›))
    · exact .inl rfl
  · exact .inl rfl

theorem lookup_mem (km : Keymap) (c : Coord) (ls : List Nat) :
    (lookup km c ls).1 = .noOp ∨ (lookup km c ls).1 ∈ allActions km.cfg := by
  induction ls with
  | nil =>
    unfold lookup
    split
    · exact srcKey_mem _ _
    · exact .inl rfl
  | cons l rest ih =>
    by_cases h : tableAction km l c = .trans
    · rw [lookup_cons_trans h]; exact ih
    · rw [lookup_cons_found h]; exact .inr ((tableAction_mem km l c).resolve_left h)

theorem srcKey_frag {c : LCfg} (hc : CfgFrag c) (y : Nat) : Frag (c.srcKey y) :=
  hc.frag (srcKey_mem c y)

theorem layerAction_eq {km : Keymap} {l : Nat} {co : Coord} {x : Action} :
    km.cfg.layerAction l co = .ok x → tableAction km l co = x := by
  unfold tableAction
  fun_cases LCfg.layerAction km.cfg l co <;> intro h <;> cases h <;> simp only [*]

theorem resolveCoord_lookup {s : Layout} {co : Coord} (ls : List Nat) {r : Action × List Nat} :
    s.resolveCoord co ls = .ok r → lookup (km s) co ls = r := by
  fun_induction Layout.resolveCoord s co ls generalizing r <;> intro h
  -- the branches that return an error
  any_goals (cases h; done)
  · cases h; rename_i hz _; unfold lookup; rw [if_pos hz]; rfl
  · cases h; rename_i hz; unfold lookup; rw [if_neg hz]
  · rename_i hx ih; rw [lookup_cons_trans (layerAction_eq (km := km s) hx)]; exact ih h
  · cases h; rename_i hne hx
    have := layerAction_eq (km := km s) hx
    rw [lookup_cons_found (this ▸ hne), this]

theorem resolve_lookup (s : Layout) (coord : Coord) (hc : CfgFrag s.cfg) :
    ∀ (ls : List Nat) (a : Action) (rest : List Nat), s.resolveCoord coord ls = .ok (a, rest) →
      lookup (km s) coord ls = (a, rest) ∧ Frag a := by
  intro ls a rest h
  have hl := resolveCoord_lookup ls h
  exact ⟨hl, by have := hc.frag (lookup_mem (km s) coord ls); rwa [hl] at this⟩

theorem StOK.shape {st : St} (h : StOK st) :
    (∃ kc c f, (f = 0 ∨ f = 1) ∧ st = .normalKey kc c f) ∨ ∃ v c, st = .layerModifier v c := by
  cases st <;> first | exact False.elim h | skip
  · exact .inl ⟨_, _, _, h, rfl⟩
  · exact .inr ⟨_, _, rfl⟩

theorem pushCap_of_lt {α} {cap : Nat} {l : List α} (h : l.length < cap) (x : α) : pushCap cap l x = l ++ [x] :=
  if_pos h

theorem mem_pushCap {α} {cap : Nat} {l : List α} {x y : α} (h : y ∈ pushCap cap l x) : y ∈ l ∨ y = x := by
  unfold pushCap at h
  split at h
  · exact (List.mem_append.mp h).imp_right List.mem_singleton.mp
  · exact .inl h

theorem stok_filter {states : List St} (p : St → Bool) (h : ∀ st ∈ states, StOK st) :
    ∀ st ∈ states.filter p, StOK st := fun st hst => h st (List.mem_filter.mp hst).1

theorem abs_pushCap (states : List St) (st : St) :
    (pushCap STATES_CAP states st).map absSt = add (states.map absSt) (absSt st) := by
  unfold pushCap add
  rw [List.length_map]
  split <;> simp only [List.map_append, List.map_cons, List.map_nil]

theorem map_filter_abs {states : List St} {p : St → Bool} {q : Contrib → Bool}
    (hpq : ∀ st, StOK st → p st = q (absSt st)) (hok : ∀ st ∈ states, StOK st) :
    (states.filter p).map absSt = (states.map absSt).filter q := by
  induction states with
  | nil => rfl
  | cons st rest ih =>
    rw [List.filter_cons, List.map_cons, List.filter_cons, ← hpq st (hok st List.mem_cons_self),
      ← ih fun x hx => hok x (List.mem_cons_of_mem _ hx)]
    split <;> rfl

theorem filterMap_abs {α} {states : List St} {f : St → Option α} {g : Contrib → Option α}
    (hfg : ∀ st, StOK st → f st = g (absSt st)) (hok : ∀ st ∈ states, StOK st) :
    states.filterMap f = (states.map absSt).filterMap g := by
  induction states with
  | nil => rfl
  | cons st rest ih =>
    rw [List.map_cons, List.filterMap_cons, List.filterMap_cons, hfg st (hok st List.mem_cons_self),
      ih fun x hx => hok x (List.mem_cons_of_mem _ hx)]

/-- `Inert` reads six fields besides the states -/
theorem Inert.congr {s s' : Layout} (h : Inert s)
    (e : (s'.waiting, s'.extraWaiting, s'.tapDanceEager, s'.actionQueue, s'.activeSequences, s'.oneshot) =
      (s.waiting, s.extraWaiting, s.tapDanceEager, s.actionQueue, s.activeSequences, s.oneshot))
    (hst : ∀ st ∈ s'.states, StOK st) : Inert s' := by
  simp only [Prod.mk.injEq] at e
  obtain ⟨e1, e2, e3, e4, e5, e6⟩ := e
  exact ⟨e1 ▸ h.waiting, e2 ▸ h.extra, e3 ▸ h.tde, e4 ▸ h.aq, e5 ▸ h.seqs, e6 ▸ h.osh, e6 ▸ h.pause, hst⟩

theorem Inert.of_eq {s s' : Layout} (h : Inert s)
    (h1 : s'.waiting = s.waiting) (h2 : s'.extraWaiting = s.extraWaiting)
    (h3 : s'.tapDanceEager = s.tapDanceEager) (h4 : s'.actionQueue = s.actionQueue)
    (h5 : s'.activeSequences = s.activeSequences) (h6 : s'.oneshot = s.oneshot)
    (h7 : s'.states = s.states) : Inert s' :=
  h.congr (by rw [h1, h2, h3, h4, h5, h6]) (h7 ▸ h.states)

/-- outcome of an action of the fragment: still inert, static parts untouched, no custom event, and
the abstraction is what the specification computes -/
structure R (s s' : Layout) (cu : CustomEv) (t : State) : Prop where
  inert : Inert s'
  same : Same s s'
  noEv : cu = .noEvent
  abs_eq : abs s' = t

/-- the fields that `Inert`, `Same` and `abs` read.  The others — quick-tap tracker, key and input
histories, saved action — are bookkeeping: the fragment writes them and never reads them back. -/
def core (s : Layout) :=
  (s.waiting, s.extraWaiting, s.tapDanceEager, s.actionQueue, s.activeSequences, s.oneshot, s.states,
    s.cfg, s.transV2, s.delegateToFirstLayer, s.queue, s.defaultLayer)

namespace R
variable {s s1 s2 : Layout} {cu : CustomEv} {t : State}

theorem congr (h : R s s1 cu t) (e : core s2 = core s1) : R s s2 cu t := by
  simp only [core, Prod.mk.injEq] at e
  obtain ⟨e1, e2, e3, e4, e5, e6, e7, e8, e9, e10, e11, e12⟩ := e
  refine ⟨h.inert.congr (by simp only [*]) (e7 ▸ h.inert.states),
    ⟨e8.trans h.same.cfg, e9.trans h.same.tv2, e10.trans h.same.dfl, e11.trans h.same.queue⟩, h.noEv, ?_⟩
  rw [← h.abs_eq]
  simp only [abs, e7, e11, e12]

theorem refl (h : Inert s) : R s s .noEvent (abs s) := ⟨h, Same.refl s, rfl, rfl⟩

theorem «then» {c1 : CustomEv} {t1 : State} (h1 : R s s1 c1 t1) (h2 : R s1 s2 cu t) : R s s2 cu t :=
  ⟨h2.inert, h1.same.trans h2.same, h2.noEv, h2.abs_eq⟩

theorem of_ok (h : (.ok (s1, .noEvent) : Except Crash (Layout × CustomEv)) = .ok (s2, cu))
    (h1 : R s s1 .noEvent t) : R s s2 cu t := by
  injection h with h; injection h with e1 e2; subst e1 e2; exact h1

theorem push (h : R s s1 cu t) {st : St} (hst : StOK st) :
    R s (s1.pushState st) cu { t with contribs := add t.contribs (absSt st) } :=
  ⟨h.inert.congr rfl fun x hx => (mem_pushCap hx).elim (h.inert.states x) (· ▸ hst),
    ⟨h.same.cfg, h.same.tv2, h.same.dfl, h.same.queue⟩, h.noEv,
    by rw [← h.abs_eq]; simp only [abs, Layout.pushState, abs_pushCap]⟩

theorem filter (h : R s s1 cu t) {p : St → Bool} {q : Contrib → Bool}
    (hpq : ∀ st, StOK st → p st = q (absSt st)) :
    R s { s1 with states := s1.states.filter p } cu { t with contribs := t.contribs.filter q } :=
  ⟨h.inert.congr rfl (stok_filter p h.inert.states), ⟨h.same.cfg, h.same.tv2, h.same.dfl, h.same.queue⟩,
    h.noEv, by rw [← h.abs_eq]; simp only [abs, map_filter_abs hpq h.inert.states]⟩

theorem base (h : R s s1 cu t) (v : Nat) : R s { s1 with defaultLayer := v } cu { t with base := v } :=
  ⟨h.inert.congr rfl h.inert.states, ⟨h.same.cfg, h.same.tv2, h.same.dfl, h.same.queue⟩, h.noEv,
    by rw [← h.abs_eq]; rfl⟩

theorem keyCodes (h : R s s1 cu t) (kcs : List KeyCode) (c : Coord) : R s (pushKeyCodes s1 kcs c 1) cu
    { t with contribs := kcs.foldl (fun cs kc => add cs (.key kc c true)) t.contribs } := by
  induction kcs generalizing s1 t with
  | nil => exact h
  | cons kc rest ih =>
    exact ih (s1 := ({ s1 with histKeys := histPush s1.histKeys kc } : Layout).pushState (.normalKey kc c 1))
      (t := { t with contribs := add t.contribs (.key kc c true) })
      ((h.push (st := .normalKey kc c 1) (.inr rfl)).congr rfl)

end R

/-! ### one-shot is a no-op when no one-shot key is active -/

theorem oshPress_inert (s : Layout) (k : OshKey) (h : s.oneshot.keys = []) : s.oshPress k = (s, []) := by
  simp [Layout.oshPress, OneShotState.handlePress, h]

theorem oshOther_inert (s : Layout) (b : Bool) (c : Coord) (h : s.oneshot.keys = []) :
    oshOther s b c = (s, []) := by
  unfold oshOther; split
  · exact oshPress_inert s _ h
  · rfl

/-! ### the arms of the fragment -/

theorem prelude_same (s : Layout) (coord : Coord) : Same s (prelude s coord) := by
  unfold prelude; split <;> exact ⟨rfl, rfl, rfl, rfl⟩

theorem prelude_rptAction (s : Layout) (coord : Coord) : (prelude s coord).rptAction = s.rptAction := by
  unfold prelude; split <;> rfl

theorem prelude_spec {s : Layout} (coord : Coord) (h : Inert s) :
    R s (prelude s coord) .noEvent { abs s with contribs := dropUntilNextAction (abs s).contribs } := by
  refine ((R.refl h).filter (p := fun st => !st.clearOnNextAction) ?_).congr
    (by unfold prelude; split <;> rfl)
  intro st hst
  obtain ⟨kc, c, f, rfl | rfl, rfl⟩ | ⟨v, c, rfl⟩ := hst.shape <;> rfl

theorem prelude_inert {s : Layout} (coord : Coord) (h : Inert s) : Inert (prelude s coord) :=
  (prelude_spec coord h).inert

theorem updateCoord_spec {s : Layout} (c : Coord) (h : Inert s) : R s (updateCoord s c) .noEvent (abs s) :=
  (R.refl h).congr (by unfold updateCoord; split <;> rfl)

theorem updateCoord_inert {s : Layout} (c : Coord) (h : Inert s) : Inert (updateCoord s c) :=
  (updateCoord_spec c h).inert
theorem updateCoord_same (s : Layout) (c : Coord) : Same s (updateCoord s c) := by
  unfold updateCoord; split <;> exact ⟨rfl, rfl, rfl, rfl⟩
theorem updateCoord_states (s : Layout) (c : Coord) : (updateCoord s c).states = s.states := by
  unfold updateCoord; split <;> rfl
theorem updateCoord_osh (s : Layout) (c : Coord) : (updateCoord s c).oneshot = s.oneshot := by
  unfold updateCoord; split <;> rfl
theorem updateCoord_rptAction (s : Layout) (c : Coord) : (updateCoord s c).rptAction = s.rptAction := by
  unfold updateCoord; split <;> rfl

theorem armNoOp_spec {s : Layout} (a : Action) (c : Coord) (h : Inert s) :
    R s (armNoOp s a c false) .noEvent (abs s) := by
  refine (R.refl h).congr ?_
  unfold armNoOp
  split
  · rw [oshPress_inert s _ h.osh]; rfl
  · rfl

theorem armKeyCode_spec {s : Layout} (a : Action) (kc : KeyCode) (c : Coord) (h : Inert s) :
    R s (armKeyCode s a kc c false) .noEvent
      { abs s with contribs := add (abs s).contribs (.key kc c false) } := by
  have hp := (updateCoord_spec c h).push (st := .normalKey kc c 0) (.inl rfl)
  refine hp.congr ?_
  unfold armKeyCode
  extract_lets s1 s2 s3
  rw [oshOther_inert s3 false c hp.inert.osh]
  rfl

theorem armMultipleKeyCodes_spec {s : Layout} (a : Action) (kcs : List KeyCode) (c : Coord) (h : Inert s) :
    R s (armMultipleKeyCodes s a kcs c false) .noEvent
      { abs s with contribs := kcs.foldl (fun cs kc => add cs (.key kc c true)) (abs s).contribs } := by
  have hp := (updateCoord_spec c h).keyCodes kcs c
  refine hp.congr ?_
  unfold armMultipleKeyCodes
  extract_lets s1 s2
  rw [oshOther_inert s2 false c hp.inert.osh]
  rfl

theorem armLayer_spec {s : Layout} (v : Nat) (c : Coord) (h : Inert s) :
    R s (armLayer s v c false) .noEvent { abs s with contribs := add (abs s).contribs (.layer v c) } := by
  have hp := (updateCoord_spec c h).push (st := .layerModifier v c) trivial
  unfold armLayer
  extract_lets s1 s2
  rw [oshOther_inert s2 false c hp.inert.osh]
  exact hp

theorem armDefaultLayer_spec {s : Layout} (v : Nat) (c : Coord) (h : Inert s) :
    R s (armDefaultLayer s v c false) .noEvent
      (if v < s.cfg.layers.length then { abs s with base := v } else abs s) := by
  have hu := updateCoord_spec c h
  simp only [armDefaultLayer]
  by_cases hv : v < s.cfg.layers.length
  · rw [if_pos hv, if_pos (hu.same.cfg.symm ▸ hv), oshOther_inert _ false c (hu.base v).inert.osh]
    exact hu.base v
  · rw [if_neg hv, if_neg (hu.same.cfg.symm ▸ hv), oshOther_inert _ false c hu.inert.osh]
    exact hu

theorem armReleaseState_spec {s : Layout} (a : Action) (rs : RelState) (c : Coord) (h : Inert s)
    {q : Contrib → Bool} (hq : ∀ st, StOK st → st.releaseState rs = q (absSt st)) :
    R s (armReleaseState s a rs c false) .noEvent { abs s with contribs := (abs s).contribs.filter q } := by
  have hf := (R.refl h).filter hq
  refine hf.congr ?_
  unfold armReleaseState
  extract_lets s1 s2
  have e : s2 = s1 := congrArg Prod.fst (oshOther_inert s1 false c hf.inert.osh)
  rw [e]
  rfl

/-! ### `do_action` on the fragment is `perform` -/

theorem refines_all : ∀ fuel : Nat,
    (∀ s a coord delay ls s' cu, CfgFrag s.cfg → Inert s → Frag a →
      doAction fuel s a coord delay false ls = .ok (s', cu) →
      R s s' cu (perform (km s) coord fuel (abs s) a ls)) ∧
    (∀ s a coord delay ls s' cu, CfgFrag s.cfg → Inert s → Frag a →
      dispatch fuel s a coord delay false ls = .ok (s', cu) →
      R s s' cu (performFound (km s) coord fuel (abs s) a ls)) ∧
    (∀ s acs coord delay ls s' cu, CfgFrag s.cfg → Inert s → FragL acs →
      doActions fuel s acs coord delay false ls .noEvent = .ok (s', cu) →
      R s s' cu (performAll (km s) coord fuel (abs s) acs ls)) := by
  intro fuel
  induction fuel with
  | zero => refine ⟨?_, ?_, ?_⟩ <;> intro s a coord delay ls s' cu _ _ _ h <;> cases h
  | succ fuel ih =>
    obtain ⟨ih1, ih2, ih3⟩ := ih
    refine ⟨?_, ?_, ?_⟩
    · intro s a coord delay ls s' cu hc hi hf h
      have hp := prelude_spec coord hi
      -- after the prelude both sides go on with the action found
      have found : ∀ a' ls', Frag a' → dispatch fuel (prelude s coord) a' coord delay false ls' = .ok (s', cu) →
          R s s' cu (performFound (km s) coord fuel
            { abs s with contribs := dropUntilNextAction (abs s).contribs } a' ls') := by
        intro a' ls' hfa hd
        have := ih2 _ a' coord delay ls' s' cu (hp.same.cfg ▸ hc) hp.inert hfa hd
        rw [hp.same.km, hp.abs_eq] at this
        exact hp.then this
      by_cases ha : a = .trans
      · subst ha
        cases hr : s.resolveCoord coord ls with
        | error e => simp only [doAction, hr] at h; cases h
        | ok r =>
          rw [doAction_trans hr] at h
          obtain ⟨hl, hfa⟩ := resolve_lookup s coord hc ls r.1 r.2 hr
          rw [perform_trans, hl]
          exact found _ _ hfa h
      · rw [doAction_of_ne ha] at h
        rw [perform_of_ne ha]
        exact found a ls hf h
    · intro s a coord delay ls s' cu hc hi hf h
      cases a <;> simp only [Frag] at hf <;> simp only [dispatch] at h
      case noOp => exact .of_ok h (armNoOp_spec .noOp coord hi)
      case trans => cases h
      case keyCode kc => exact .of_ok h (armKeyCode_spec _ kc coord hi)
      case multipleKeyCodes kcs => exact .of_ok h (armMultipleKeyCodes_spec _ kcs coord hi)
      case layer v => exact .of_ok h (armLayer_spec v coord hi)
      case defaultLayer v => exact .of_ok h (armDefaultLayer_spec v coord hi)
      case releaseState rs =>
        refine .of_ok h ?_
        cases rs <;> refine armReleaseState_spec _ _ coord hi fun st hst => ?_ <;>
          obtain ⟨kc, c, f, _, rfl⟩ | ⟨v, c, rfl⟩ := hst.shape <;> rfl
      case src =>
        split at h; · cases h
        split at h; · cases h
        rename_i r hr
        have := ih1 s _ coord delay [] r.1 r.2 hc hi (srcKey_frag hc _) hr
        exact .of_ok h ⟨this.inert, this.same, rfl, this.abs_eq⟩
      case multipleActions acs =>
        split at h; · cases h
        rename_i s1 c1 hr
        have hu := updateCoord_spec coord hi
        have := ih3 _ acs coord delay ls s1 c1 (hu.same.cfg ▸ hc) hu.inert hf hr
        rw [hu.same.km, hu.abs_eq] at this
        cases this.noEv
        exact .of_ok h ((hu.then this).congr rfl)
    · intro s acs coord delay ls s' cu hc hi hf h
      cases acs with
      | nil => cases h; exact R.refl hi
      | cons a rest =>
        simp only [doActions] at h
        split at h; · cases h
        rename_i s1 c1 hr
        have r := ih1 s a coord delay ls s1 c1 hc hi hf.1 hr
        cases r.noEv
        have := ih3 s1 rest coord delay ls s' cu (r.same.cfg ▸ hc) r.inert hf.2 h
        rw [r.same.km, r.abs_eq] at this
        exact r.then this

end KVerif.C04
