/-
C09 helper lemmas for chords v2: releases and the active chords (`release_key_in_active_chords`), the
bounded queues while they have room, `drain_inputs` as one of three equations (cool-down, fast path,
scan) and the releases it applies, `tick_chv2` as `drain_inputs` on the aged state followed by the tail
of the tick (the two no-op events, `clear_released_chords`), and what the chords-v2 prologue of
`Layout::tick` returns.
-/
import KVerif.Lemmas.ChordsV2
namespace KVerif.C09
open KVerif.L

/-- all of `js` released, one after the other, seen by one active chord -/
def relAll (js : List Nat) (a : ActiveChord) : ActiveChord := js.foldl (fun a j => releaseInActive j a) a

/-- the keys released by the events of a queue, in queue order -/
def releasedKeys (q : List Queued) : List Nat :=
  q.filterMap fun qd => match qd.ev with | .release c => some c.2 | .press _ => none

theorem relAll_cons (j : Nat) (js : List Nat) (a : ActiveChord) : relAll (j :: js) a = relAll js (releaseInActive j a) := rfl

theorem applyReleases_eq : ∀ (q : List Queued) (achs : List ActiveChord),
    applyReleases q achs = achs.map (relAll (releasedKeys q)) := by
  intro q
  induction q with
  | nil =>
    intro achs
    have : relAll (releasedKeys []) = id := by funext a; rfl
    rw [this, List.map_id]; rfl
  | cons qd q ih =>
    intro achs
    have hstep : applyReleases (qd :: q) achs =
        applyReleases q (match qd.ev with | .release c => releaseKeyInActive achs c.2 | .press _ => achs) := by
      simp only [applyReleases, List.foldl_cons]
      rfl
    rw [hstep, ih]
    cases he : qd.ev with
    | press c => simp only [releasedKeys, List.filterMap_cons, he]
    | release c =>
      simp only [releasedKeys, List.filterMap_cons, he, releaseKeyInActive, List.map_map]
      rfl

theorem applyReleases_length (q : List Queued) (achs : List ActiveChord) : (applyReleases q achs).length = achs.length := by
  rw [applyReleases_eq, List.length_map]

theorem mem_releasedKeys_realInputs {q : List Queued} {k : Nat} (h : ∃ qd ∈ q, qd.ev = .release (0, k)) :
    k ∈ releasedKeys (realInputs q) := by
  obtain ⟨qd, hq, he⟩ := h
  simp only [releasedKeys, List.mem_filterMap]
  exact ⟨qd, List.mem_filter.mpr ⟨hq, by rw [he]; rfl⟩, by rw [he]⟩

theorem mem_releasedKeys {q : List Queued} {k : Nat} (h : k ∈ releasedKeys q) :
    ∃ qd ∈ q, ∃ c, qd.ev = .release c ∧ c.2 = k := by
  simp only [releasedKeys, List.mem_filterMap] at h
  obtain ⟨qd, hq, he⟩ := h
  refine ⟨qd, hq, ?_⟩
  cases hev : qd.ev with
  | press c => rw [hev] at he; cases he
  | release c => rw [hev] at he; cases he; exact ⟨c, rfl, rfl⟩

/-! ## One chord under releases -/

theorem relAll_preserves {P : ActiveChord → Prop} : ∀ (js : List Nat) (a : ActiveChord),
    (∀ j ∈ js, ∀ a, P a → P (releaseInActive j a)) → P a → P (relAll js a) := by
  intro js
  induction js with
  | nil => intro a _ ha; exact ha
  | cons j js ih =>
    intro a h ha
    exact ih _ (fun j' hj' => h j' (List.mem_cons_of_mem _ hj')) (h j List.mem_cons_self a ha)

/-- the chord's release is pending (it will be reported / its coordinate released) -/
def Pending (a : ActiveChord) : Prop := a.status = .unreadReleased ∨ a.status = .released

theorem releaseInActive_fields (j : Nat) (a : ActiveChord) :
    (releaseInActive j a).coordinate = a.coordinate ∧ (releaseInActive j a).keys = a.keys ∧
    (releaseInActive j a).action = a.action ∧ (releaseInActive j a).delay = a.delay := by
  unfold releaseInActive
  split
  · exact ⟨rfl, rfl, rfl, rfl⟩
  · simp only []
    split <;> exact ⟨rfl, rfl, rfl, rfl⟩

theorem relAll_fields (js : List Nat) (a : ActiveChord) :
    (relAll js a).coordinate = a.coordinate ∧ (relAll js a).keys = a.keys ∧
    (relAll js a).action = a.action ∧ (relAll js a).delay = a.delay :=
  relAll_preserves (P := fun b => b.coordinate = a.coordinate ∧ b.keys = a.keys ∧ b.action = a.action ∧ b.delay = a.delay)
    js a (fun j _ b ⟨h1, h2, h3, h4⟩ =>
      let ⟨g1, g2, g3, g4⟩ := releaseInActive_fields j b
      ⟨g1.trans h1, g2.trans h2, g3.trans h3, g4.trans h4⟩) ⟨rfl, rfl, rfl, rfl⟩

/-- the class of the status (not yet handed to the layout / already handed) never changes by a release -/
def unreadClass (s : AchStatus) : Bool := s == .unread || s == .unreadReleased

theorem getActiveChord_unread (cch : ChordV2) (since coord : Nat) (rf : Option Nat) :
    unreadClass (getActiveChord cch since coord rf).status = true := by
  unfold getActiveChord
  simp only []
  split <;> rfl

theorem getActionChv2_cons_unread (a : ActiveChord) (rest : List ActiveChord) (h : unreadClass a.status = true) :
    getActionChv2 (a :: rest) =
      ({ a with status := if a.status = .unread then .releasable else .released } :: rest,
       some ((0, a.coordinate), a.delay, a.action)) := by
  cases hs : a.status with
  | unread | unreadReleased => simp only [getActionChv2, hs]; rfl
  | releasable | released => rw [hs] at h; cases h

theorem getActionChv2_cons_seen (a : ActiveChord) (rest : List ActiveChord) (h : unreadClass a.status = false) :
    getActionChv2 (a :: rest) = (a :: (getActionChv2 rest).1, (getActionChv2 rest).2) := by
  cases hs : a.status with
  | unread | unreadReleased => rw [hs] at h; cases h
  | releasable | released => simp only [getActionChv2, hs]

theorem releaseInActive_class (j : Nat) (a : ActiveChord) :
    unreadClass (releaseInActive j a).status = unreadClass a.status := by
  unfold releaseInActive
  split
  · rfl
  · simp only []
    split
    · cases a.status <;> rfl
    · rfl

theorem relAll_class (js : List Nat) (a : ActiveChord) : unreadClass (relAll js a).status = unreadClass a.status :=
  relAll_preserves (P := fun b => unreadClass b.status = unreadClass a.status)
    js a (fun j _ b h => (releaseInActive_class j b).trans h) rfl

theorem releaseInActive_released (j : Nat) (a : ActiveChord) (h : a.status = .released) :
    (releaseInActive j a).status = .released := by
  unfold releaseInActive
  split
  · exact h
  · simp only []
    split
    · rw [h]
    · exact h

theorem relAll_released (js : List Nat) (a : ActiveChord) (h : a.status = .released) : (relAll js a).status = .released :=
  relAll_preserves js a (fun j _ => releaseInActive_released j) h

/-- a chord whose release is pending with nothing left to release stays so -/
theorem releaseInActive_pending (j : Nat) (a : ActiveChord) (h : Pending a ∧ a.remaining = []) :
    Pending (releaseInActive j a) ∧ (releaseInActive j a).remaining = [] := by
  obtain ⟨hp, hr⟩ := h
  unfold releaseInActive
  split
  · exact ⟨hp, hr⟩
  · simp only [hr, List.filter_nil, List.isEmpty_nil, if_true]
    rcases hp with h | h <;> simp [Pending, h]

theorem relAll_pending (js : List Nat) (a : ActiveChord) (hp : Pending a) (hr : a.remaining = []) :
    Pending (relAll js a) ∧ (relAll js a).remaining = [] :=
  relAll_preserves js a (fun j _ => releaseInActive_pending j) ⟨hp, hr⟩

theorem releaseInActive_noop (j : Nat) (a : ActiveChord) (h : a.keys.contains j = false) : releaseInActive j a = a := by
  unfold releaseInActive
  simp only [h, Bool.not_false, if_true]

theorem releaseInActive_remaining (j : Nat) (a : ActiveChord) (hsub : ∀ k ∈ a.remaining, a.keys.contains k = true) :
    (releaseInActive j a).remaining = a.remaining.filter (· != j) := by
  cases hc : a.keys.contains j with
  | false =>
    rw [releaseInActive_noop j a hc]
    refine (List.filter_eq_self.mpr fun k hk => ?_).symm
    have : k ≠ j := fun e => absurd ((hsub j (e ▸ hk)).symm.trans hc) (by decide)
    simpa using this
  | true =>
    unfold releaseInActive
    simp only [hc, Bool.not_true, Bool.false_eq_true, if_false]
    split <;> rfl

theorem releaseInActive_last (j : Nat) (a : ActiveChord) (hc : a.keys.contains j = true)
    (he : a.remaining.filter (· != j) = []) : Pending (releaseInActive j a) := by
  unfold releaseInActive
  simp only [hc, Bool.not_true, Bool.false_eq_true, if_false, he, List.isEmpty_nil, if_true]
  cases a.status <;> simp [Pending]

/-- **once every key still to be released has been released (and at least one participant was
released at all), the chord's release is pending** — whatever else was released in between, in any
order -/
theorem relAll_all_released : ∀ (js : List Nat) (a : ActiveChord),
    (∀ k ∈ a.remaining, a.keys.contains k = true) →
    (∀ k ∈ a.remaining, k ∈ js) →
    (∃ k ∈ js, a.keys.contains k = true) →
    Pending (relAll js a) ∧ (relAll js a).remaining = [] := by
  intro js
  induction js with
  | nil => intro a _ _ ⟨k, hk, _⟩; cases hk
  | cons j js ih =>
    intro a hsub hall hsome
    rw [relAll_cons]
    have hrem := releaseInActive_remaining j a hsub
    have hkeys := (releaseInActive_fields j a).2.1
    -- what is still to be released after `j` is among the later releases
    have hleft : ∀ k ∈ (releaseInActive j a).remaining, a.keys.contains k = true ∧ k ∈ js := by
      intro k hk
      rw [hrem] at hk
      have hk' := List.mem_filter.mp hk
      rcases List.mem_cons.mp (hall k hk'.1) with rfl | h
      · simp at hk'
      · exact ⟨hsub k hk'.1, h⟩
    by_cases hs : ∃ k ∈ js, a.keys.contains k = true
    · exact ih _ (fun k hk => hkeys ▸ (hleft k hk).1) (fun k hk => (hleft k hk).2) (hkeys ▸ hs)
    · -- `j` is the last participant released: nothing is left, the release becomes pending here and stays
      have hj : a.keys.contains j = true := by
        obtain ⟨k, hk, hkc⟩ := hsome
        rcases List.mem_cons.mp hk with rfl | h
        · exact hkc
        · exact absurd ⟨k, h, hkc⟩ hs
      have hr0 : (releaseInActive j a).remaining = [] :=
        List.eq_nil_iff_forall_not_mem.mpr fun k hk => hs ⟨k, (hleft k hk).2, (hleft k hk).1⟩
      exact relAll_pending js _ (releaseInActive_last j a hj (hrem ▸ hr0)) hr0

theorem pushBackWrap_fits {α : Type} {cap : Nat} {l : List α} (x : α) (h : l.length < cap) :
    pushBackWrap cap l x = (l ++ [x], none) := by
  unfold pushBackWrap; rw [if_pos h]

theorem pushBackWrap_full {α : Type} {cap : Nat} (o : α) (t : List α) (x : α) (h : ¬ (o :: t).length < cap) :
    pushBackWrap cap (o :: t) x = (t ++ [x], some o) := by
  unfold pushBackWrap; rw [if_neg h]

theorem smolPush_fits (q : List Queued) (x : Queued) (h : q.length < SMOL_Q_LEN) : smolPush q x = q ++ [x] :=
  congrArg Prod.fst (pushBackWrap_fits x h)

theorem foldl_smolPush_fits : ∀ (q dq : List Queued), dq.length + q.length ≤ SMOL_Q_LEN → q.foldl smolPush dq = dq ++ q := by
  intro q
  induction q with
  | nil => intro dq _; simp
  | cons x q ih =>
    intro dq h
    simp only [List.length_cons] at h
    simp only [List.foldl_cons]
    rw [smolPush_fits dq x (by omega), ih _ (by simp; omega)]
    simp

theorem drainPush_fits (q : List Queued) (x : Queued) (h : q.length < DRAIN_Q_LEN) : drainPush q x = q ++ [x] :=
  congrArg Prod.fst (pushBackWrap_fits x h)

/-- `extend` hands over everything when there is room for it -/
theorem drainExtend_fits (dq q : List Queued) (h : dq.length + q.length ≤ DRAIN_Q_LEN) : drainExtend dq q = dq ++ q := by
  unfold drainExtend
  rw [List.take_of_length_le (by omega)]

/-- the tick looks at the queue (cool-down: forwards it; otherwise: not the "nothing changed" fast path) -/
def processesQueue (s : ChV2) (layer : Nat) : Prop :=
  s.ticksToIgnore > 0 ∨ ¬ (s.ticksUntilChange > 0 ∧ s.prevActiveLayer = layer ∧ s.prevQueueLen = s.queue.length)

/-- the condition of the fast path of `drain_inputs`; `processesQueue s layer` unfolds to
`s.ticksToIgnore > 0 ∨ ¬ FastCond s layer` -/
def FastCond (s : ChV2) (layer : Nat) : Prop :=
  s.ticksUntilChange > 0 ∧ s.prevActiveLayer = layer ∧ s.prevQueueLen = s.queue.length

instance (s : ChV2) (layer : Nat) : Decidable (FastCond s layer) := by unfold FastCond; exact inferInstance

theorem fastCond_iff (s : ChV2) (layer : Nat) :
    (decide (s.ticksUntilChange > 0) && s.prevActiveLayer == layer && s.prevQueueLen == s.queue.length) = true ↔
      FastCond s layer := by
  simp only [Bool.and_eq_true, decide_eq_true_eq, beq_iff_eq, FastCond, and_assoc]

theorem drainInputs_cool (s : ChV2) (dq : List Queued) (layer : Nat) (h : s.ticksToIgnore > 0) :
    drainInputs s dq layer =
      .ok ({ s with queue := [], active := applyReleases (realInputs s.queue) s.active, ticksUntilChange := 0 },
           drainExtend dq s.queue) := by
  unfold drainInputs; rw [if_pos h]

theorem drainInputs_fast (s : ChV2) (dq : List Queued) (layer : Nat) (h0 : s.ticksToIgnore = 0) (hf : FastCond s layer) :
    drainInputs s dq layer = .ok ({ s with ticksUntilChange := s.ticksUntilChange - 1 }, dq) := by
  unfold drainInputs
  rw [if_neg (by omega), if_pos ((fastCond_iff s layer).mpr hf)]

/-- the state `process_presses` runs on in a scan: the real-key events from the first press on, every
queued real-key release applied to the active chords -/
def scanInput (s : ChV2) (layer : Nat) : ChV2 :=
  { s with ticksUntilChange := 0, prevActiveLayer := layer, queue := (s.queue.filter row0).dropWhile isRel,
           active := applyReleases (s.queue.filter row0) s.active }

def afterScan (s1 : ChV2) : ChV2 := { s1 with prevQueueLen := s1.queue.length % 256 }

theorem drainInputs_scan (s : ChV2) (dq : List Queued) (layer : Nat) (h0 : s.ticksToIgnore = 0) (hf : ¬ FastCond s layer) :
    drainInputs s dq layer =
      match drainPushAll dq (s.queue.filter fun x => !row0 x) with
      | .error c => .error c
      | .ok dq0 =>
        match processPresses (scanInput s layer) layer with
        | .error c => .error c
        | .ok s2 => .ok (afterScan s2, ((s.queue.filter row0).takeWhile isRel).foldl drainPush dq0) := by
  unfold drainInputs
  rw [if_neg (by omega), if_neg (fun h => hf ((fastCond_iff s layer).mp h))]
  simp only [drainVirtualKeys_eq]
  cases drainPushAll dq (s.queue.filter fun x => !row0 x) with
  | error c => rfl
  | ok dq0 => simp only [drainReleases_zero]; rfl

theorem drainInputs_err (s : ChV2) (dq : List Queued) (layer : Nat) (c : Crash) (h : drainInputs s dq layer = .error c) :
    c = crashDQ := by
  rcases Nat.eq_zero_or_pos s.ticksToIgnore with h0 | h0
  · by_cases hf : FastCond s layer
    · rw [drainInputs_fast s dq layer h0 hf] at h; cases h
    · rw [drainInputs_scan s dq layer h0 hf] at h
      split at h
      · rename_i c' he; cases h; exact drainPushAll_err _ _ _ he
      · split at h
        · rename_i c' he; exact absurd he (processPresses_no_err _ _ _)
        · cases h
  · rw [drainInputs_cool s dq layer h0] at h; cases h

theorem drainInputs_active {s s1 : ChV2} {dq dq1 : List Queued} {layer : Nat} (h : drainInputs s dq layer = .ok (s1, dq1)) :
    ∃ js new,
      (processesQueue s layer → ∀ k, (∃ qd ∈ s.queue, qd.ev = .release (0, k)) → k ∈ js) ∧
      (∀ j ∈ js, ∃ qd ∈ s.queue, ∃ c, qd.ev = .release c ∧ c.2 = j) ∧
      (new = [] ∨ ∃ ach, new = [ach] ∧ unreadClass ach.status = true ∧ s.active.length < ACTIVE_CHORDS_CAP) ∧
      s1.active = s.active.map (relAll js) ++ new := by
  have hsub : ∀ j ∈ releasedKeys (realInputs s.queue), ∃ qd ∈ s.queue, ∃ c, qd.ev = .release c ∧ c.2 = j :=
    fun j hj => let ⟨qd, hq, hc⟩ := mem_releasedKeys hj; ⟨qd, (List.mem_filter.mp hq).1, hc⟩
  rcases Nat.eq_zero_or_pos s.ticksToIgnore with h0 | h0
  · by_cases hf : FastCond s layer
    · rw [drainInputs_fast s dq layer h0 hf] at h
      cases h
      exact ⟨[], [], fun hp => hp.elim (fun h => by omega) (fun h => absurd hf h), nofun, Or.inl rfl,
        by rw [List.append_nil]; exact (List.map_id _).symm⟩
    · rw [drainInputs_scan s dq layer h0 hf] at h
      split at h
      · cases h
      · split at h
        · cases h
        · rename_i s2 hpp
          cases h
          rcases processPresses_spec _ _ _ hpp with ⟨h1, _⟩ | ⟨_, _, _, _, cch, coord, _, _, _, _, _, _, _, _, h8, h9, _⟩
          · exact ⟨_, [], fun _ _ => mem_releasedKeys_realInputs, hsub, Or.inl rfl,
              by rw [List.append_nil, ← applyReleases_eq]; exact h1⟩
          · exact ⟨_, [_], fun _ _ => mem_releasedKeys_realInputs, hsub,
              Or.inr ⟨_, rfl, getActiveChord_unread _ _ _ _, by rw [← applyReleases_length]; exact h8⟩,
              by rw [← applyReleases_eq]; exact h9⟩
  · rw [drainInputs_cool s dq layer h0] at h
    cases h
    exact ⟨_, [], fun _ _ => mem_releasedKeys_realInputs, hsub, Or.inl rfl, by rw [List.append_nil, ← applyReleases_eq]⟩

/-- the active chord as `tick_chv2` ages it -/
def agedChord (a : ActiveChord) : ActiveChord := { a with delay := min (a.delay + 1) U16_MAX }

/-- the state as `tick_chv2` ages it before anything else -/
def agedV2 (s : ChV2) : ChV2 :=
  { s with queue := s.queue.map fun (q : Queued) => { q with since := min (q.since + 1) U16_MAX },
           active := s.active.map fun a => { a with delay := min (a.delay + 1) U16_MAX } }

theorem agedV2_queue_length (s : ChV2) : (agedV2 s).queue.length = s.queue.length := by
  simp only [agedV2, List.length_map]

theorem agedV2_active_length (s : ChV2) : (agedV2 s).active.length = s.active.length := by
  simp only [agedV2, List.length_map]

theorem fastCond_aged (s : ChV2) (layer : Nat) : FastCond (agedV2 s) layer ↔ FastCond s layer := by
  unfold FastCond
  rw [agedV2_queue_length]
  exact Iff.rfl

theorem processesQueue_aged (s : ChV2) (layer : Nat) : processesQueue (agedV2 s) layer ↔ processesQueue s layer :=
  or_congr Iff.rfl (not_congr (fastCond_aged s layer))

/-- what `tick_chv2` hands over before the chords that end are released: `dq1` and the two no-op events
(a press when a chord was activated or removed, a release when a chord's release is pending) that make
the layout re-evaluate its waiting keys -/
def tickNoops (prevLen : Nat) (s1 : ChV2) (dq1 : List Queued) : List Queued :=
  let dq := if s1.active.length != prevLen then drainPush dq1 ⟨.press (0, 0), 0⟩ else dq1
  if s1.active.any (fun a => a.status == .unreadReleased || a.status == .released) then
    drainPush dq ⟨.release (0, 0), 0⟩ else dq

/-- the part of `tick_chv2` after `drain_inputs`: the two no-op events and `clear_released_chords` -/
def tickTail (prevLen : Nat) (s : ChV2) (dq : List Queued) : Except Crash (ChV2 × List Queued) :=
  match clearReleased s.active (tickNoops prevLen s dq) with
  | .error c => .error c
  | .ok (achs, dq) => .ok ({ s with active := achs, ticksToIgnore := s.ticksToIgnore - 1 }, dq)

theorem tickChv2_eq (s : ChV2) (layer : Nat) :
    tickChv2 s layer =
      match drainInputs (agedV2 s) [] layer with
      | .error c => .error c
      | .ok (s1, dq) => tickTail (agedV2 s).active.length s1 dq := rfl

def tailTriggers (prevLen : Nat) (s1 : ChV2) : List Queued :=
  (if s1.active.length != prevLen then [⟨.press (0, 0), 0⟩] else []) ++
  (if s1.active.any (fun a => a.status == .unreadReleased || a.status == .released) then [⟨.release (0, 0), 0⟩] else [])

theorem tailTriggers_length_le (prevLen : Nat) (s1 : ChV2) : (tailTriggers prevLen s1).length ≤ 2 := by
  unfold tailTriggers
  split <;> split <;> decide

theorem drainPush_ite (c : Prop) [Decidable c] (dq : List Queued) (x : Queued) (h : dq.length < DRAIN_Q_LEN) :
    (if c then drainPush dq x else dq) = dq ++ if c then [x] else [] := by
  split
  · exact drainPush_fits dq x h
  · exact (List.append_nil dq).symm

theorem tickNoops_fits (prevLen : Nat) (s1 : ChV2) (dq1 : List Queued) (hl : dq1.length + 2 ≤ DRAIN_Q_LEN) :
    tickNoops prevLen s1 dq1 = dq1 ++ tailTriggers prevLen s1 := by
  unfold tickNoops tailTriggers
  simp only []
  rw [drainPush_ite _ dq1 _ (by omega),
    drainPush_ite _ _ _ (by rw [List.length_append]; split <;> simp only [List.length_cons, List.length_nil] <;> omega),
    List.append_assoc]

theorem tickTail_ok {prevLen : Nat} {s s' : ChV2} {dq dq' : List Queued} (h : tickTail prevLen s dq = .ok (s', dq')) :
    s' = { s with active := s.active.filter (fun a => !(a.status == .released)), ticksToIgnore := s.ticksToIgnore - 1 } ∧
    dq' = tickNoops prevLen s dq ++ tailReleases s.active := by
  unfold tickTail at h
  rw [clearReleased_eq] at h
  split at h
  · cases h
  · rename_i achs dq2 hc
    cases h
    split at hc
    · cases hc
    · rename_i dq3 hp
      cases hc
      exact ⟨rfl, drainPushAll_ok _ _ _ hp⟩

theorem tickTail_err {prevLen : Nat} {s : ChV2} {dq : List Queued} {c : Crash} (h : tickTail prevLen s dq = .error c) :
    c = crashDQ := by
  unfold tickTail at h
  rw [clearReleased_eq] at h
  split at h
  · rename_i c' hc
    cases h
    split at hc
    · rename_i c'' he; cases hc; exact drainPushAll_err _ _ _ he
    · cases hc
  · cases h

theorem tickTail_eq (prevLen : Nat) (s : ChV2) (dq : List Queued) (hl : dq.length + 2 ≤ DRAIN_Q_LEN) :
    tickTail prevLen s dq =
      match drainPushAll (dq ++ tailTriggers prevLen s) (tailReleases s.active) with
      | .error c => .error c
      | .ok dq' => .ok ({ s with active := s.active.filter fun a => !(a.status == .released),
                                 ticksToIgnore := s.ticksToIgnore - 1 }, dq') := by
  unfold tickTail
  rw [tickNoops_fits prevLen s dq hl, clearReleased_eq]
  generalize drainPushAll _ _ = r
  cases r <;> rfl

theorem tickChv2_ok {s s' : ChV2} {layer : Nat} {dq : List Queued} (h : tickChv2 s layer = .ok (s', dq)) :
    ∃ s1 dq1, drainInputs (agedV2 s) [] layer = .ok (s1, dq1) ∧
      s' = { s1 with active := s1.active.filter (fun a => !(a.status == .released)),
                     ticksToIgnore := s1.ticksToIgnore - 1 } ∧
      dq = tickNoops s.active.length s1 dq1 ++ tailReleases s1.active := by
  rw [tickChv2_eq, agedV2_active_length] at h
  split at h
  · cases h
  · rename_i s1 dq1 hd
    exact ⟨s1, dq1, hd, tickTail_ok h⟩

theorem tickChv2_no_released {s s' : ChV2} {layer : Nat} {dq : List Queued} (h : tickChv2 s layer = .ok (s', dq)) :
    ∀ a ∈ s'.active, a.status ≠ .released := by
  obtain ⟨s1, dq1, _, rfl, _⟩ := tickChv2_ok h
  intro a ha e
  have := (List.mem_filter.mp ha).2
  rw [e] at this
  cases this

/-- **the active chords across a tick**: every chord is aged and sees the releases `js` - all of them
queued, and when the tick looks at the queue every release queued at row 0 is among them -, at most one
chord is appended, and then the Released ones leave, the release of their coordinate being handed to the
layout -/
theorem tickChv2_active {s s' : ChV2} {layer : Nat} {dq : List Queued} (h : tickChv2 s layer = .ok (s', dq)) :
    ∃ js new,
      (processesQueue s layer → ∀ k, (∃ qd ∈ s.queue, qd.ev = .release (0, k)) → k ∈ js) ∧
      (∀ j ∈ js, ∃ qd ∈ s.queue, ∃ c, qd.ev = .release c ∧ c.2 = j) ∧
      (new = [] ∨ ∃ ach, new = [ach] ∧ unreadClass ach.status = true ∧ s.active.length < ACTIVE_CHORDS_CAP) ∧
      s'.active = ((s.active.map fun a => relAll js (agedChord a)) ++ new).filter (fun a => !(a.status == .released)) ∧
      ∀ b ∈ (s.active.map fun a => relAll js (agedChord a)) ++ new, b.status = .released →
        (⟨.release (0, b.coordinate), 0⟩ : Queued) ∈ dq := by
  obtain ⟨s1, dq1, hd, rfl, rfl⟩ := tickChv2_ok h
  obtain ⟨js, new, hjs, hsub, hnew, hA⟩ := drainInputs_active hd
  replace hA : s1.active = (s.active.map fun a => relAll js (agedChord a)) ++ new := by
    rw [hA]; exact congrArg (· ++ new) List.map_map
  refine ⟨js, new, fun hp k ⟨_, hq, he⟩ => hjs ((processesQueue_aged s layer).mpr hp) k ⟨_, List.mem_map_of_mem hq, he⟩,
    fun j hj => ?_, hnew.imp_right fun ⟨ach, h1, h2, h3⟩ => ⟨ach, h1, h2, agedV2_active_length s ▸ h3⟩, by rw [← hA],
    fun b hb hst => ?_⟩
  · obtain ⟨x, hx, hc⟩ := hsub j hj
    obtain ⟨y, hy, e⟩ := List.mem_map.mp hx
    exact ⟨y, hy, by rw [← e] at hc; exact hc⟩
  · rw [← hA] at hb
    exact List.mem_append_right _ (List.mem_map.mpr ⟨b, List.mem_filter.mpr ⟨hb, by rw [hst]; rfl⟩, rfl⟩)

theorem tickV2Pre_err {s : LayoutV2} {c : Crash} (h : tickV2Pre s = .error c) :
    ∃ ch, s.chv2 = some ch ∧ (tickChv2 ch s.lay.currentLayer = .error c ∨
      ∃ ch' dq, tickChv2 ch s.lay.currentLayer = .ok (ch', dq) ∧ handOver s.lay dq = .error c) := by
  unfold tickV2Pre at h
  split at h
  · cases h
  · rename_i ch hch
    split at h
    · rename_i c' he; cases h; exact ⟨ch, hch, Or.inl he⟩
    · rename_i ch' dq hok
      simp only [] at h
      split at h
      · rename_i c' he; cases h; exact ⟨ch, hch, Or.inr ⟨ch', dq, hok, he⟩⟩
      · split at h <;> cases h

theorem tickV2Pre_chv2 (s s' : LayoutV2) (h : tickV2Pre s = .ok s') :
    (s.chv2 = none ∧ s'.chv2 = none) ∨
    ∃ ch ch1 dq, s.chv2 = some ch ∧ tickChv2 ch s.lay.currentLayer = .ok (ch1, dq) ∧
      s'.chv2 = some { ch1 with active := (getActionChv2 ch1.active).1 } := by
  unfold tickV2Pre at h
  split at h
  · rename_i hn
    cases h; exact Or.inl ⟨hn, hn⟩
  · rename_i ch hch
    split at h
    · cases h
    · rename_i ch1 dq hok
      right
      refine ⟨ch, ch1, dq, hch, hok, ?_⟩
      simp only [] at h
      split at h
      · cases h
      · split at h <;> (cases h; rfl)

end KVerif.C09
