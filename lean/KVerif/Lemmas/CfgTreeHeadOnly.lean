/-
Lemmas for C16 (templates): the "keywords only in head position" discipline.

`hoList badH badT ts`: in every list of the forest `ts`, the head — if it is an atom — avoids `badH`,
and the atoms directly in the tail avoid `badT`.  With `badH ⊆ badT` this is preserved by one sweep
of `evaluate_conditionals` (a replacement splices the *tail* of a conditional form into the
surrounding list), together with "the atoms directly in the forest avoid `badT`" (`freeTop`) and
"a leading atom stays where it is": the three together are `Keeps`, which is also what one step of
the template expander keeps (`Lemmas/CfgTreeExpandFull.lean`).
Used with `badT` = the four conditional keywords (`Props/C16tmpl.lean: cond_loop_is_spec`) and with
`badT` = `template-expand`, `t!`, `concat` (`expand_is_subst`).
-/
import KVerif.Lemmas.CfgTreeCond
namespace KVerif.CfgTree

/-- the atoms directly in the forest avoid `bad` -/
def freeTop (bad : Str → Bool) : List Tree → Bool
  | [] => true
  | .atom a :: rest => !bad a && freeTop bad rest
  | .list _ :: rest => freeTop bad rest

/-- the head, if it is an atom, avoids `bad` -/
def headOK (bad : Str → Bool) : List Tree → Bool
  | .atom a :: _ => !bad a
  | _ => true

mutual
  def hoTree (badH badT : Str → Bool) : Tree → Bool
    | .atom _ => true
    | .list l => headOK badH l && freeTop badT l.tail && hoList badH badT l
  def hoList (badH badT : Str → Bool) : List Tree → Bool
    | [] => true
    | t :: rest => hoTree badH badT t && hoList badH badT rest
end

def atomOK (bad : Str → Bool) : Tree → Bool
  | .atom a => !bad a
  | .list _ => true

theorem freeTop_cons (bad : Str → Bool) (t : Tree) (rest : List Tree) :
    freeTop bad (t :: rest) = (atomOK bad t && freeTop bad rest) := by
  cases t <;> simp [freeTop, atomOK]

theorem headOK_cons (bad : Str → Bool) (t : Tree) (rest : List Tree) :
    headOK bad (t :: rest) = atomOK bad t := by
  cases t <;> rfl

theorem freeTop_eq_all (bad : Str → Bool) (l : List Tree) : freeTop bad l = l.all (atomOK bad) := by
  induction l with
  | nil => rfl
  | cons t rest ih => rw [freeTop_cons, List.all_cons, ih]

theorem hoList_eq_all (bH bT : Str → Bool) (l : List Tree) :
    hoList bH bT l = l.all (hoTree bH bT) := by
  induction l with
  | nil => rfl
  | cons t rest ih => rw [hoList, List.all_cons, ih]

variable {bad bH bT : Str → Bool} {t : Tree} {l l' rest r : List Tree}

theorem freeTop_iff : freeTop bad l = true ↔ ∀ t ∈ l, atomOK bad t = true := by
  rw [freeTop_eq_all, List.all_eq_true]

theorem hoList_iff : hoList bH bT l = true ↔ ∀ t ∈ l, hoTree bH bT t = true := by
  rw [hoList_eq_all, List.all_eq_true]

theorem hoList_cons :
    hoList bH bT (t :: rest) = true ↔ hoTree bH bT t = true ∧ hoList bH bT rest = true := by
  rw [hoList, Bool.and_eq_true]

theorem hoTree_list : hoTree bH bT (.list l) = true ↔
    (headOK bH l = true ∧ freeTop bT l.tail = true) ∧ hoList bH bT l = true := by
  rw [hoTree, Bool.and_eq_true, Bool.and_eq_true]

theorem freeTop_append (bad : Str → Bool) (a b : List Tree) :
    freeTop bad (a ++ b) = (freeTop bad a && freeTop bad b) := by
  simp only [freeTop_eq_all, List.all_append]

theorem hoList_append (bH bT : Str → Bool) (a b : List Tree) :
    hoList bH bT (a ++ b) = (hoList bH bT a && hoList bH bT b) := by
  simp only [hoList_eq_all, List.all_append]

theorem freeTop_drop (n : Nat) (h : freeTop bad l = true) : freeTop bad (l.drop n) = true :=
  freeTop_iff.mpr fun t ht => freeTop_iff.mp h t (List.mem_of_mem_drop ht)

theorem hoList_drop (n : Nat) (h : hoList bH bT l = true) : hoList bH bT (l.drop n) = true :=
  hoList_iff.mpr fun t ht => hoList_iff.mp h t (List.mem_of_mem_drop ht)

theorem freeTop_tail (h : freeTop bad l = true) : freeTop bad l.tail = true :=
  freeTop_iff.mpr fun t ht => freeTop_iff.mp h t (List.mem_of_mem_tail ht)

theorem atomOK_mono (hsub : ∀ a, bH a = true → bT a = true) (h : atomOK bT t = true) :
    atomOK bH t = true := by
  cases t with
  | list _ => rfl
  | atom a =>
    cases hb : bH a with
    | false => simp [atomOK, hb]
    | true => simp [atomOK, hsub a hb] at h

theorem freeTop_mono (hsub : ∀ a, bH a = true → bT a = true) (h : freeTop bT l = true) :
    freeTop bH l = true :=
  freeTop_iff.mpr fun t ht => atomOK_mono hsub (freeTop_iff.mp h t ht)

theorem freeTop_headOK (hsub : ∀ a, bH a = true → bT a = true) (h : freeTop bT l = true) :
    headOK bH l = true := by
  cases l with
  | nil => rfl
  | cons t rest =>
    rw [freeTop_cons, Bool.and_eq_true] at h
    rw [headOK_cons]
    exact atomOK_mono hsub h.1

def Keeps (bH bT : Str → Bool) (l l' : List Tree) : Prop :=
  hoList bH bT l' = true ∧ (freeTop bT l = true → freeTop bT l' = true) ∧
  (∀ a tl, l = .atom a :: tl → ∃ tl1, l' = .atom a :: tl1 ∧
    (freeTop bT tl = true → freeTop bT tl1 = true))

namespace Keeps

theorem nil : Keeps bH bT [] [] := ⟨rfl, id, fun _ _ h => nomatch h⟩

theorem trans {a b c : List Tree} (h1 : Keeps bH bT a b) (h2 : Keeps bH bT b c) :
    Keeps bH bT a c := by
  refine ⟨h2.1, fun hf => h2.2.1 (h1.2.1 hf), fun x tl hx => ?_⟩
  obtain ⟨tl1, rfl, k1⟩ := h1.2.2 x tl hx
  obtain ⟨tl2, rfl, k2⟩ := h2.2.2 x tl1 rfl
  exact ⟨tl2, rfl, fun hf => k2 (k1 hf)⟩

theorem cons_atom (a : Str) (h : Keeps bH bT rest r) :
    Keeps bH bT (.atom a :: rest) (.atom a :: r) := by
  refine ⟨by rw [hoList, h.1]; rfl, fun hf => ?_, fun _ _ hh => by cases hh; exact ⟨r, rfl, h.2.1⟩⟩
  rw [freeTop_cons, Bool.and_eq_true] at hf ⊢
  exact ⟨hf.1, h.2.1 hf.2⟩

theorem cons_splice {r1 : List Tree} (l : List Tree) (h : Keeps bH bT rest r)
    (h1 : hoList bH bT r1 = true) (h2 : freeTop bT r1 = true) :
    Keeps bH bT (.list l :: rest) (r1 ++ r) :=
  ⟨by rw [hoList_append, h1, h.1]; rfl, fun hf => by rw [freeTop_append, h2, h.2.1 hf]; rfl,
    fun _ _ hh => nomatch hh⟩

theorem cons_list (l : List Tree) (h : Keeps bH bT rest r) (h1 : hoTree bH bT (.list l') = true) :
    Keeps bH bT (.list l :: rest) (.list l' :: r) :=
  ⟨by rw [hoList, h1, h.1]; rfl, h.2.1, fun _ _ hh => nomatch hh⟩

theorem head_cases (h : Keeps bH bT l l') (ht : freeTop bT l.tail = true) :
    (∃ a tl tl1, l = .atom a :: tl ∧ l' = .atom a :: tl1 ∧ freeTop bT tl1 = true) ∨
      freeTop bT l' = true :=
  match l, ht, h with
  | .atom a :: tl, ht, h =>
    have ⟨tl1, e, k⟩ := h.2.2 a tl rfl
    .inl ⟨a, tl, tl1, rfl, e, k ht⟩
  | [], _, h => .inr (h.2.1 rfl)
  | .list _ :: _, ht, h => .inr (h.2.1 ht)

theorem headOK {b : Str → Bool} (hsub : ∀ a, b a = true → bT a = true) (h : Keeps bH bT l l')
    (ht : freeTop bT l.tail = true) (hh : headOK b l = true) : headOK b l' = true := by
  rcases h.head_cases ht with ⟨a, tl, tl1, rfl, rfl, -⟩ | k
  · exact hh
  · exact freeTop_headOK hsub k

theorem tail (h : Keeps bH bT l l') (ht : freeTop bT l.tail = true) :
    freeTop bT l'.tail = true := by
  rcases h.head_cases ht with ⟨a, tl, tl1, rfl, rfl, k⟩ | k
  · exact k
  · exact freeTop_tail k

theorem tree (hsub : ∀ a, bH a = true → bT a = true) (h : Keeps bH bT l l')
    (hl : hoTree bH bT (.list l) = true) : hoTree bH bT (.list l') = true :=
  have ⟨⟨h1, h2⟩, _⟩ := hoTree_list.mp hl
  hoTree_list.mpr ⟨⟨h.headOK hsub h2 h1, h.tail h2⟩, h.1⟩

end Keeps

theorem formBody_ho (b : Bool) (hl : hoTree bH bT (.list l) = true) :
    hoList bH bT (if b then l.drop 3 else []) = true ∧
      freeTop bT (if b then l.drop 3 else []) = true := by
  cases b with
  | false => exact ⟨rfl, rfl⟩
  | true =>
    have ⟨⟨_, h2⟩, h3⟩ := hoTree_list.mp hl
    refine ⟨hoList_drop 3 h3, ?_⟩
    cases l with
    | nil => rfl
    | cons t rest => exact freeTop_drop 2 h2

theorem CondPass.keeps (hsub : ∀ a, bH a = true → bT a = true) {ts ts1 : List Tree} {c : Bool}
    (h : CondPass ts ts1 c) (ho : hoList bH bT ts = true) : Keeps bH bT ts ts1 := by
  induction h with
  | nil => exact .nil
  | atom _ ih => exact .cons_atom _ (ih (hoList_cons.mp ho).2)
  | @form l b _ _ _ _ _ ih =>
    have ⟨h1, h2⟩ := formBody_ho b (hoList_cons.mp ho).1
    exact .cons_splice l (ih (hoList_cons.mp ho).2) h1 h2
  | @inside l _ _ _ _ _ _ _ _ ihl ihr =>
    have hl := (hoList_cons.mp ho).1
    exact .cons_list l (ihr (hoList_cons.mp ho).2) ((ihl (hoTree_list.mp hl).2).tree hsub hl)

/-- the whole loop `while evaluate_conditionals(..)? {}` keeps the discipline -/
theorem condLoop_keeps (hsub : ∀ a, bH a = true → bT a = true) : ∀ (n : Nat) (ts r : List Tree),
    condLoop n ts = .ok r → hoList bH bT ts = true → Keeps bH bT ts r
  | 0, _, _, h, _ => nomatch h
  | n + 1, ts, r, h, ho => by
    rw [condLoop] at h
    split at h
    · cases h
    · next ts1 c hp =>
      have k := (CondPass.of_eq hp).keeps hsub ho
      split at h
      · exact k.trans (condLoop_keeps hsub n ts1 r h k.1)
      · cases h; exact k

end KVerif.CfgTree
