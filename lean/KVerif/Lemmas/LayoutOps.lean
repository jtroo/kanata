/-
What `do_action` and its callers write to a layout, said once: a score of atomic operations (`Op`).
Every piece of the block that does not recurse is a fixed list of them (`prelude_ops`, `arm*_ops`,
`armOps`; `holdPrep_ops`, `armOneShotPost_ops` … for the callers), so a relation between the layout
before and after that is reflexive, transitive and holds of each operation holds of any run of them
(`Trace.rel`), and a field no operation writes is constant (`run_field`).  Lemmas/BlockOps.lean
carries this over the recursion of `do_action`.
-/
import KVerif.Model.Layout
namespace KVerif.L

/-- the atomic changes `do_action`, `waiting_into_*`, `dequeue` and `event` make -/
inductive Op
  | filter (p : St → Bool)
  | push (st : St)
  | lptCoord (c : Coord)
  | lptReset (c : Coord)
  | lptZero
  | hist (kc : KeyCode)
  | rpt (r : Option Action)
  | oshOther (c : Coord)
  | defaultLayer (v : Nat)
  | ignore (t : Nat)
  | clearSeqs
  | htWait (w : Waiting) (iv : Nat)
  | startSeq (evs : List SeqEv)
  | wait (w : Waiting)
  | eager (c : Coord) (acts : List Action) (T : Nat)
  | oshActivate (c : Coord) (T : Nat) (v : OneShotEnd)
  | enqueue (q : Queued)
  | lptHeld (c : Coord)
  | pause
  | input (c : Coord)
  | oshRelease (c : Coord)
  | releaseAt (b : Bool) (c : Coord) (ov : Option Coord)

/-- the states after the release of `c` in `dequeue`: `b` and `ov` are what `handle_release` returned
(release now or deferred by an active one-shot key; the key that fell out of the deferred ones) -/
def releasedAt (b : Bool) (c : Coord) (ov : Option Coord) (sts : List St) : List St × CustomEv :=
  let r := if b then releaseStates true c sts .noEvent else (sts, .noEvent)
  match ov with
  | some c2 => releaseStates false c2 r.1 r.2
  | none => r

def Op.apply : Op → Layout → Layout
  | .filter p, s => { s with states := s.states.filter p }
  | .push st, s => s.pushState st
  | .lptCoord c, s => updateCoord s c
  | .lptReset c, s => if s.lptCoord != c then { s with lptTapHoldTimeout := 0 } else s
  | .lptZero, s => { s with lptTapHoldTimeout := 0 }
  | .hist kc, s => { s with histKeys := histPush s.histKeys kc }
  | .rpt r, s => { s with rptAction := r }
  | .oshOther c, s => (s.oshPress (.other c)).1
  | .defaultLayer v, s => { s with defaultLayer := v }
  | .ignore t, s => { s with oneshot := s.oneshot.armIgnore t }
  | .clearSeqs, s => { s with activeSequences := [] }
  | .htWait w iv, s =>
    match s.waiting with
    | some _ => { s with extraWaiting := (pushBackWrap EXTRA_WAITING_LEN s.extraWaiting w).1, lptTapHoldTimeout := iv }
    | none => { s with waiting := some w, lptTapHoldTimeout := iv }
  | .startSeq evs, s => startSequence s evs
  | .wait w, s => { s with waiting := some w }
  | .eager c acts T, s =>
    match s.tapDanceEager with
    | none => { s with tapDanceEager := some { coord := c, actions := acts, timeout := T, origTimeout := T, numTaps := 1 } }
    | some tde =>
      if tde.coord != c then
        { s with tapDanceEager := some { coord := c, actions := acts, timeout := T, origTimeout := T, numTaps := 1 } }
      else s
  | .oshActivate c T v, s =>
    let s := (s.oshPress (.oneShotKey c)).1
    let s := { s with oneshot := { s.oneshot with timeout := T, endConfig := v } }
    { s with oneshot := { s.oneshot with keys := (pushBackWrap ONE_SHOT_MAX_ACTIVE s.oneshot.keys c).1 } }
  | .enqueue q, s => { s with queue := s.queue ++ [q] }
  | .lptHeld c, s => if c == s.lptCoord then { s with lptTapHoldTimeout := 0 } else s
  | .pause, s => { s with oneshot := { s.oneshot with pauseInputProcessingTicks := s.oneshot.pauseInputProcessingDelay } }
  | .input c, s => { s with histInputs := histPush s.histInputs c }
  | .oshRelease c, s => { s with oneshot := (s.oneshot.handleRelease c).1 }
  | .releaseAt b c ov, s => { s with states := (releasedAt b c ov s.states).1 }

/-- the operations that start something pending; a fragment bounds how many of them one press performs -/
def Op.special : Op → Bool
  | .htWait _ _ | .wait _ | .oshActivate _ _ _ => true
  | _ => false

def run (ops : List Op) (s : Layout) : Layout := ops.foldl (fun s o => o.apply s) s

@[simp] theorem run_nil (s : Layout) : run [] s = s := rfl
@[simp] theorem run_cons (o : Op) (ops : List Op) (s : Layout) : run (o :: ops) s = run ops (o.apply s) := rfl
theorem run_append (a b : List Op) (s : Layout) : run (a ++ b) s = run b (run a s) := List.foldl_append ..

/-- a field no operation writes is the same after a run: the frame lemmas, one per field -/
theorem run_field {α} (f : Layout → α) (h : ∀ (o : Op) (s : Layout), f (o.apply s) = f s) (ops : List Op) (s : Layout) :
    f (run ops s) = f s := by
  induction ops generalizing s with
  | nil => rfl
  | cons o rest ih => exact (ih (o.apply s)).trans (h o s)

theorem Op.apply_cfg (o : Op) (s : Layout) : (o.apply s).cfg = s.cfg := by
  cases o <;> first | rfl | (simp only [Op.apply, updateCoord]; split <;> first | rfl | (split <;> rfl))

theorem Op.apply_queue (o : Op) (h : ∀ q, o ≠ .enqueue q) (s : Layout) : (o.apply s).queue = s.queue := by
  cases o <;> first | rfl | exact absurd rfl (h _) |
    (simp only [Op.apply, updateCoord]; split <;> first | rfl | (split <;> rfl))

theorem Op.apply_tde (o : Op) (h : ∀ c acts T, o ≠ .eager c acts T) (s : Layout) :
    (o.apply s).tapDanceEager = s.tapDanceEager := by
  cases o <;> first | rfl | exact absurd rfl (h _ _ _) | (simp only [Op.apply, updateCoord]; split <;> rfl)

/-- only a new tap-hold wait opens a quick-tap window -/
theorem Op.apply_lpt_le (o : Op) (h : o.special = false) (s : Layout) :
    (o.apply s).lptTapHoldTimeout ≤ s.lptTapHoldTimeout := by
  cases o <;> first | exact Nat.le_refl _ | exact Nat.zero_le _ |
    (simp only [Op.apply, updateCoord]; split <;> first | exact Nat.le_refl _ | exact Nat.zero_le _ |
      (split <;> exact Nat.le_refl _)) | cases h

/-! ## the pieces of the block as operations -/

def preludeOps (c : Coord) : List Op := [.lptReset c, .filter fun st => !st.clearOnNextAction]

theorem prelude_ops (s : Layout) (c : Coord) : prelude s c = run (preludeOps c) s := rfl

/-- the `handle_press(Other)` call of a non-one-shot arm -/
def oshOps (os : Bool) (c : Coord) : List Op := if os then [] else [.oshOther c]

theorem oshOther_ops (s : Layout) (os : Bool) (c : Coord) : (oshOther s os c).1 = run (oshOps os c) s := by
  cases os <;> rfl

def keyOps (c : Coord) (f : Nat) (kcs : List KeyCode) : List Op :=
  kcs.flatMap fun kc => [.hist kc, .push (.normalKey kc c f)]

theorem pushKeyCodes_ops (c : Coord) (f : Nat) : ∀ (kcs : List KeyCode) (s : Layout),
    pushKeyCodes s kcs c f = run (keyOps c f kcs) s
  | [], _ => rfl
  | kc :: rest, s =>
    pushKeyCodes_ops c f rest (({ s with histKeys := histPush s.histKeys kc } : Layout).pushState (.normalKey kc c f))

theorem armNoOp_ops (s : Layout) (a : Action) (c : Coord) (os : Bool) :
    armNoOp s a c os = run ((if !os && c != (0, 0) then [.oshOther c] else []) ++ [.rpt (some a)]) s := by
  unfold armNoOp
  cases !os && c != (0, 0) <;> rfl

/- The key arms leave for `repeat` either the action itself or, when `handle_press` released one-shot
keys, a buffer of their key codes: the operation list names it as the field of the result. -/

theorem armKeyCode_ops (s : Layout) (a : Action) (kc : KeyCode) (c : Coord) (os : Bool) :
    armKeyCode s a kc c os =
      run ([.lptCoord c, .hist kc, .push (.normalKey kc c 0)] ++ oshOps os c ++
        [.rpt (armKeyCode s a kc c os).rptAction]) s := by
  unfold armKeyCode
  cases os
  · simp only [oshOther, Bool.not_false, if_true]
    split <;> rfl
  · simp only [oshOther, Bool.not_true, Bool.false_eq_true, if_false, List.isEmpty_nil, if_true]
    rfl

theorem armMultipleKeyCodes_ops (s : Layout) (a : Action) (kcs : List KeyCode) (c : Coord) (os : Bool) :
    armMultipleKeyCodes s a kcs c os =
      run (.lptCoord c :: keyOps c (if os then 0 else NORMAL_KEY_FLAG_CLEAR_ON_NEXT_ACTION) kcs ++ oshOps os c ++
        [.rpt (armMultipleKeyCodes s a kcs c os).rptAction]) s := by
  unfold armMultipleKeyCodes
  cases os
  · simp only [pushKeyCodes_ops, List.cons_append, run_cons, run_append, oshOther, Bool.not_false, Bool.false_eq_true,
      if_false, if_true]
    split <;> rfl
  · simp only [pushKeyCodes_ops, List.cons_append, run_cons, run_append, oshOther, Bool.not_true, Bool.false_eq_true,
      if_false, List.isEmpty_nil, if_true]
    rfl

theorem armBufKeyCodes_ops (s : Layout) (a : Action) (kcs : List KeyCode) (c : Coord) (os : Bool) :
    armBufKeyCodes s a kcs c os =
      run (.lptCoord c :: keyOps c (if os then 0 else NORMAL_KEY_FLAG_CLEAR_ON_NEXT_ACTION) kcs ++ oshOps os c ++
        [.rpt (armBufKeyCodes s a kcs c os).rptAction]) s := by
  unfold armBufKeyCodes
  cases os
  · simp only [pushKeyCodes_ops, List.cons_append, run_cons, run_append, oshOther, Bool.not_false, Bool.false_eq_true,
      if_false, if_true]
    split <;> rfl
  · simp only [pushKeyCodes_ops, List.cons_append, run_cons, run_append, oshOther, Bool.not_true, Bool.false_eq_true,
      if_false, List.isEmpty_nil, if_true]
    rfl

theorem armLayer_ops (s : Layout) (v : Nat) (c : Coord) (os : Bool) :
    armLayer s v c os = run ([.lptCoord c, .push (.layerModifier v c)] ++ oshOps os c) s := by
  unfold armLayer
  rw [oshOther_ops, run_append]; rfl

theorem updateCoord_cfg (s : Layout) (c : Coord) : (updateCoord s c).cfg = s.cfg := Op.apply_cfg (.lptCoord c) s

theorem armDefaultLayer_ops (s : Layout) (v : Nat) (c : Coord) (os : Bool) :
    armDefaultLayer s v c os =
      run (.lptCoord c :: (if v < s.cfg.layers.length then [.defaultLayer v] else []) ++ oshOps os c) s := by
  unfold armDefaultLayer
  simp only [oshOther_ops, List.cons_append, run_cons, run_append]
  by_cases hv : v < s.cfg.layers.length
  · rw [if_pos hv, if_pos ((updateCoord_cfg s c).symm ▸ hv)]; rfl
  · rw [if_neg hv, if_neg ((updateCoord_cfg s c).symm ▸ hv)]; rfl

theorem armReleaseState_ops (s : Layout) (a : Action) (rs : RelState) (c : Coord) (os : Bool) :
    armReleaseState s a rs c os = run (.filter (fun st => st.releaseState rs) :: oshOps os c ++ [.rpt (some a)]) s := by
  unfold armReleaseState
  simp only [oshOther_ops, List.cons_append, run_cons, run_append]; rfl

/-- the states are those of `s` until the arm pushes the custom state, when there is room -/
theorem armCustom_ops (s : Layout) (a : Action) (id : Nat) (c : Coord) (os : Bool) :
    armCustom s a id c os =
      if s.states.length < STATES_CAP then
        (run (.lptCoord c :: oshOps os c ++ [.rpt (some a), .push (.custom id c)]) s, .press id)
      else (run (.lptCoord c :: oshOps os c ++ [.rpt (some a)]) s, .noEvent) := by
  have hs : (run (oshOps os c) (updateCoord s c)).states = s.states := by
    unfold updateCoord
    cases os <;> split <;> rfl
  unfold armCustom
  simp only [oshOther_ops, List.cons_append, run_cons, run_append]
  split <;> rename_i h1 <;> split <;> rename_i h2
  · rfl
  · exact absurd (hs ▸ h1) h2
  · exact absurd (hs.symm ▸ h2) h1
  · rfl

theorem armSequence_ops (s : Layout) (a : Action) (evs : List SeqEv) (c : Coord) (os rep : Bool) :
    armSequence s a evs c os rep =
      run (.startSeq evs :: (if rep then [.push (.repeatingSequence evs c)] else []) ++ oshOps os c ++
        [.rpt (some a)]) s := by
  unfold armSequence
  simp only [oshOther_ops, List.cons_append, run_cons, run_append]
  cases rep <;> rfl

theorem armCancelSequences_ops (s : Layout) (a : Action) (c : Coord) (os : Bool) :
    armCancelSequences s a c os =
      run (.clearSeqs :: .filter (fun st => !(match st with | .fakeKey _ => true | _ => false)) :: oshOps os c ++
        [.rpt (some a)]) s := by
  unfold armCancelSequences
  simp only [oshOther_ops, List.cons_append, run_cons, run_append]; rfl

/-- the waiting state the `HoldTap` arm installs -/
def holdTapWaiting (s : Layout) (c : Coord) (d T : Nat) (h t to : Action) (cfg : HTConfig) (ls : List Nat) : Waiting :=
  { coord := c, timeout := if s.quickTapHoldTimeout then T - d else T,
    delay := if s.quickTapHoldTimeout then 0 else d, ticks := 0, hold := h, tap := t, timeoutAction := to,
    config := .holdTap cfg, layerStack := ls, prevQueueLen := 255 }

theorem armHoldTapWait_ops (s : Layout) (c : Coord) (d T : Nat) (h t to : Action) (cfg : HTConfig) (iv : Nat)
    (ls : List Nat) :
    armHoldTapWait s c d T h t to cfg iv ls = run [.htWait (holdTapWaiting s c d T h t to cfg ls) iv, .lptCoord c] s := by
  unfold armHoldTapWait holdTapWaiting
  simp only [run_cons, run_nil, Op.apply]
  cases s.waiting <;> rfl

theorem holdTapWaiting_timeout (s : Layout) (c : Coord) (d T : Nat) (h t to : Action) (cfg : HTConfig) (ls : List Nat) :
    (holdTapWaiting s c d T h t to cfg ls).timeout ≤ T := by
  unfold holdTapWaiting
  dsimp only; split <;> omega

/-- the waiting state of a lazy tap-dance or a chord -/
def freshWaiting (c : Coord) (d T : Nat) (cfg : WCfg) (ls : List Nat) : Waiting :=
  { coord := c, timeout := T, delay := d, ticks := 0, hold := .noOp, tap := .noOp, timeoutAction := .noOp,
    config := cfg, layerStack := ls, prevQueueLen := 255 }

theorem armWait_ops (s : Layout) (c : Coord) (d T : Nat) (cfg : WCfg) (ls : List Nat) :
    armWait s c d T cfg ls = run [.lptCoord c, .wait (freshWaiting c d T cfg ls)] s := rfl

theorem armEager_ops (s : Layout) (c : Coord) (acts : List Action) (T : Nat) :
    armEager s c acts T = run [.lptCoord c, .eager c acts T] s := rfl

theorem armOneShotPost_ops (s : Layout) (a : Action) (c : Coord) (T : Nat) (v : OneShotEnd) :
    (armOneShotPost s a c T v).1 = run [.rpt (some a), .oshActivate c T v] s := rfl

/-- the key that falls out of the sixteen active one-shot keys -/
theorem armOneShotPost_overflow (s : Layout) (a : Action) (c : Coord) (T : Nat) (v : OneShotEnd) :
    (armOneShotPost s a c T v).2 =
      (pushBackWrap ONE_SHOT_MAX_ACTIVE (s.oneshot.handlePress (.oneShotKey c)).1.keys c).2 := rfl

theorem holdPrep_ops (s : Layout) (w : Waiting) : holdPrep s w = run [.lptHeld w.coord, .pause] s := rfl
theorem timeoutPrep_ops (s : Layout) (w : Waiting) : timeoutPrep s w = run [.lptHeld w.coord] s := rfl
theorem tapPost_ops (s : Layout) : tapPost s = run [.pause] s := rfl

/-! ## runs of permitted operations -/

/-- `s'` comes from `s` by operations satisfying `P`, at most `n` of them special -/
def Trace (P : Op → Prop) (n : Nat) (s s' : Layout) : Prop :=
  ∃ ops, s' = run ops s ∧ (∀ o ∈ ops, P o) ∧ ops.countP Op.special ≤ n

theorem Trace.op {P : Op → Prop} {o : Op} (hp : P o) (hw : o.special = false) (s : Layout) : Trace P 0 s (o.apply s) :=
  ⟨[o], rfl, fun x hx => by simp only [List.mem_singleton] at hx; exact hx ▸ hp, by simp [hw]⟩

theorem Trace.refl (P : Op → Prop) (n : Nat) (s : Layout) : Trace P n s s :=
  ⟨[], rfl, fun _ h => (nomatch h), Nat.zero_le _⟩

theorem Trace.trans {P : Op → Prop} {n m : Nat} {a b c : Layout} (h1 : Trace P n a b) (h2 : Trace P m b c) :
    Trace P (n + m) a c := by
  obtain ⟨o1, e1, p1, c1⟩ := h1
  obtain ⟨o2, e2, p2, c2⟩ := h2
  refine ⟨o1 ++ o2, by rw [run_append, ← e1, e2], fun o ho => ?_, by rw [List.countP_append]; omega⟩
  rcases List.mem_append.mp ho with h | h
  · exact p1 o h
  · exact p2 o h

theorem Trace.mono {P Q : Op → Prop} {n m : Nat} {a b : Layout} (h : Trace P n a b) (hpq : ∀ o, P o → Q o)
    (hnm : n ≤ m) : Trace Q m a b :=
  let ⟨ops, e, p, c⟩ := h
  ⟨ops, e, fun o ho => hpq o (p o ho), Nat.le_trans c hnm⟩

/-- **a preorder on layouts that every permitted operation respects holds of the run** -/
theorem Trace.rel {P : Op → Prop} {R : Layout → Layout → Prop} (refl : ∀ s, R s s)
    (trans : ∀ {a b c}, R a b → R b c → R a c) (step : ∀ o, P o → o.special = false → ∀ s, R s (o.apply s))
    {s s' : Layout} (h : Trace P 0 s s') : R s s' := by
  obtain ⟨ops, rfl, p, c⟩ := h
  induction ops generalizing s with
  | nil => exact refl s
  | cons o rest ih =>
    have ho : o.special = false := by
      cases hw : o.special
      · rfl
      · rw [List.countP_cons_of_pos hw] at c; omega
    rw [List.countP_cons_of_neg (by simp [ho])] at c
    exact trans (step o (p o List.mem_cons_self) ho s) (ih (fun o h => p o (List.mem_cons_of_mem _ h)) c)

/-- a run with at most one special operation is a run without, or two of them around that operation -/
theorem Trace.one {P : Op → Prop} {s s' : Layout} (h : Trace P 1 s s') :
    Trace P 0 s s' ∨ ∃ o s1, o.special = true ∧ P o ∧ Trace P 0 s s1 ∧ Trace P 0 (o.apply s1) s' := by
  obtain ⟨ops, rfl, p, c⟩ := h
  induction ops generalizing s with
  | nil => exact Or.inl (Trace.refl P 0 s)
  | cons o rest ih =>
    have po := p o List.mem_cons_self
    have pr : ∀ x ∈ rest, P x := fun x h => p x (List.mem_cons_of_mem _ h)
    cases hw : o.special
    · rw [List.countP_cons_of_neg (by simp [hw])] at c
      have t0 : Trace P 0 s (o.apply s) := .op po hw s
      rcases ih (s := o.apply s) pr c with g | ⟨o', s1, g0, g1, g2, g3⟩
      · exact Or.inl (t0.trans g)
      · exact Or.inr ⟨o', s1, g0, g1, t0.trans g2, g3⟩
    · rw [List.countP_cons_of_pos hw] at c
      exact Or.inr ⟨o, s, hw, po, Trace.refl P 0 s, ⟨rest, rfl, pr, by omega⟩⟩

/-! ## which operations an arm performs -/

/-- the states an arm pushes for a press at `c` -/
inductive PushOf (c : Coord) : Action → St → Prop
  | key (kc : KeyCode) : PushOf c (.keyCode kc) (.normalKey kc c 0)
  | keys {kcs : List KeyCode} {kc : KeyCode} {f : Nat} (h : kc ∈ kcs) (hf : f ≤ 1) :
    PushOf c (.multipleKeyCodes kcs) (.normalKey kc c f)
  | bufKeys {kcs : List KeyCode} {kc : KeyCode} {f : Nat} (h : kc ∈ kcs) (hf : f ≤ 1) :
    PushOf c (.bufKeyCodes kcs) (.normalKey kc c f)
  | layer (v : Nat) : PushOf c (.layer v) (.layerModifier v c)
  | custom (id : Nat) : PushOf c (.custom id) (.custom id c)
  | repSeq (evs : List SeqEv) : PushOf c (.repeatableSequence evs) (.repeatingSequence evs c)

/-- the operations the arm of `a` itself (not what is nested in `a`) can perform for a press at `c`;
the last six belong to `waiting_into_*`, `dequeue` and `event`, not to an arm -/
def Emits (c : Coord) (a : Action) : Op → Prop
  | .push st => PushOf c a st
  | .htWait w iv => w.coord = c ∧ ∃ T h t to cfg, a = .holdTap T h t to cfg iv ∧
      w.timeout ≤ T ∧ w.hold = h ∧ w.tap = t ∧ w.timeoutAction = to ∧ w.config = .holdTap cfg
  | .wait w => ∃ d ls, (∃ acs T, a = .tapDance acs T false ∧ w = freshWaiting c d T (.tapDance acs T 1) ls) ∨
      (∃ co chs T, a = .chords co chs T ∧ w = freshWaiting c d T (.chord ⟨co, chs, T⟩) ls)
  | .eager c' acts T => c' = c ∧ a = .tapDance acts T true
  | .oshActivate c' T v => c' = c ∧ ∃ inner, a = .oneShot inner T v
  | .lptCoord c' | .lptReset c' | .oshOther c' => c' = c
  | .clearSeqs => a = .cancelSequences
  | .defaultLayer v => a = .defaultLayer v
  | .ignore t => a = .oneShotIgnoreEventsTicks t
  | .startSeq evs => a = .sequence evs ∨ a = .repeatableSequence evs
  | .filter p => p = (fun st => !st.clearOnNextAction) ∨ (∃ rs, a = .releaseState rs ∧ p = fun st => st.releaseState rs) ∨
      (a = .cancelSequences ∧ p = fun st => !(match st with | .fakeKey _ => true | _ => false))
  | .lptZero | .hist _ | .rpt _ => True
  | .enqueue _ | .lptHeld _ | .pause | .input _ | .oshRelease _ | .releaseAt _ _ _ => False

/-- a list of ordinary operations of the arm of `a` -/
def Plain (c : Coord) (a : Action) (ops : List Op) : Prop := ∀ o ∈ ops, Emits c a o ∧ o.special = false

theorem Plain.nil {c : Coord} {a : Action} : Plain c a [] := fun _ h => nomatch h

theorem Plain.cons {c : Coord} {a : Action} {o : Op} {ops : List Op} (he : Emits c a o) (hs : o.special = false)
    (h : Plain c a ops) : Plain c a (o :: ops) := fun x hx => by
  rcases List.mem_cons.mp hx with rfl | hx
  · exact ⟨he, hs⟩
  · exact h x hx

theorem Plain.append {c : Coord} {a : Action} {l1 l2 : List Op} (h1 : Plain c a l1) (h2 : Plain c a l2) :
    Plain c a (l1 ++ l2) := fun x hx => (List.mem_append.mp hx).elim (h1 x) (h2 x)

theorem Plain.trace {c : Coord} {a : Action} (s : Layout) {ops : List Op} (h : Plain c a ops) :
    Trace (Emits c a) 0 s (run ops s) :=
  ⟨ops, rfl, fun o ho => (h o ho).1, by
    rw [List.countP_eq_zero.mpr fun o ho => by simp [(h o ho).2]]; exact Nat.le_refl 0⟩

theorem plain_oshOps (c : Coord) (a : Action) (os : Bool) : Plain c a (oshOps os c) := by
  cases os
  · exact .cons rfl rfl .nil
  · exact .nil

theorem plain_keyOps (c : Coord) (a : Action) (f : Nat) : ∀ (kcs : List KeyCode),
    (∀ kc ∈ kcs, PushOf c a (.normalKey kc c f)) → Plain c a (keyOps c f kcs)
  | [], _ => .nil
  | kc :: rest, h =>
    .cons trivial rfl (.cons (h kc List.mem_cons_self) rfl
      (plain_keyOps c a f rest fun k hk => h k (List.mem_cons_of_mem _ hk)))

/-! ## the arms that call nothing

Each is three runs: what it writes before its `handle_press(Other)` call, that call (`armOsh`: at most
one operation, the only one of the arm that touches the one-shot state but for `ignore`), and what it
writes after it. -/

def isLeaf : Action → Bool
  | .noOp | .keyCode _ | .multipleKeyCodes _ | .bufKeyCodes _ | .layer _ | .defaultLayer _ | .releaseState _ | .custom _
  | .sequence _ | .repeatableSequence _ | .cancelSequences | .oneShotIgnoreEventsTicks _ => true
  | _ => false

def armPre (s : Layout) (c : Coord) (os : Bool) : Action → List Op
  | .keyCode kc => [.lptCoord c, .hist kc, .push (.normalKey kc c 0)]
  | .multipleKeyCodes kcs | .bufKeyCodes kcs =>
    .lptCoord c :: keyOps c (if os then 0 else NORMAL_KEY_FLAG_CLEAR_ON_NEXT_ACTION) kcs
  | .layer v => [.lptCoord c, .push (.layerModifier v c)]
  | .defaultLayer v => .lptCoord c :: if v < s.cfg.layers.length then [.defaultLayer v] else []
  | .releaseState rs => [.filter fun st => st.releaseState rs]
  | .custom _ | .oneShotIgnoreEventsTicks _ => [.lptCoord c]
  | .sequence evs => [.startSeq evs]
  | .repeatableSequence evs => [.startSeq evs, .push (.repeatingSequence evs c)]
  | .cancelSequences => [.clearSeqs, .filter fun st => !(match st with | .fakeKey _ => true | _ => false)]
  | _ => []

def armOsh (c : Coord) (os : Bool) : Action → List Op
  | .noOp => if !os && c != (0, 0) then [.oshOther c] else []
  | .oneShotIgnoreEventsTicks _ => []
  | _ => oshOps os c

def armPost (s : Layout) (c : Coord) (os : Bool) (a : Action) : List Op :=
  match a with
  | .keyCode kc => [.rpt (armKeyCode s a kc c os).rptAction]
  | .multipleKeyCodes kcs => [.rpt (armMultipleKeyCodes s a kcs c os).rptAction]
  | .bufKeyCodes kcs => [.rpt (armBufKeyCodes s a kcs c os).rptAction]
  | .layer _ | .defaultLayer _ => []
  | .custom id => .rpt (some a) :: if s.states.length < STATES_CAP then [.push (.custom id c)] else []
  | .oneShotIgnoreEventsTicks t => [.rpt (some a), .ignore t]
  | _ => [.rpt (some a)]

def armOps (s : Layout) (c : Coord) (os : Bool) (a : Action) : List Op :=
  armPre s c os a ++ armOsh c os a ++ armPost s c os a

/-- the custom event of an arm: only `Custom` has one, when it could push its state -/
def armEv (s : Layout) : Action → CustomEv
  | .custom id => if s.states.length < STATES_CAP then .press id else .noEvent
  | _ => .noEvent

theorem plain_armPre (s : Layout) (c : Coord) (os : Bool) (a : Action) : Plain c a (armPre s c os a) := by
  cases a <;> try exact .nil
  case keyCode kc => exact .cons rfl rfl (.cons trivial rfl (.cons (.key kc) rfl .nil))
  case multipleKeyCodes kcs =>
    exact .cons rfl rfl (plain_keyOps c _ _ kcs fun kc hk => .keys hk (by cases os <;> simp))
  case bufKeyCodes kcs =>
    exact .cons rfl rfl (plain_keyOps c _ _ kcs fun kc hk => .bufKeys hk (by cases os <;> simp))
  case layer v => exact .cons rfl rfl (.cons (.layer v) rfl .nil)
  case defaultLayer v =>
    refine .cons rfl rfl ?_
    split
    · exact .cons rfl rfl .nil
    · exact .nil
  case releaseState rs => exact .cons (Or.inr (Or.inl ⟨rs, rfl, rfl⟩)) rfl .nil
  case custom id => exact .cons rfl rfl .nil
  case oneShotIgnoreEventsTicks t => exact .cons rfl rfl .nil
  case sequence evs => exact .cons (Or.inl rfl) rfl .nil
  case repeatableSequence evs => exact .cons (Or.inr rfl) rfl (.cons (.repSeq evs) rfl .nil)
  case cancelSequences => exact .cons rfl rfl (.cons (Or.inr (Or.inr ⟨rfl, rfl⟩)) rfl .nil)

theorem plain_armOsh (c : Coord) (os : Bool) (a : Action) : Plain c a (armOsh c os a) := by
  cases a <;> try exact plain_oshOps c _ os
  case noOp =>
    show Plain c .noOp (if !os && c != (0, 0) then [.oshOther c] else [])
    split
    · exact .cons rfl rfl .nil
    · exact .nil
  case oneShotIgnoreEventsTicks t => exact .nil

theorem plain_armPost (s : Layout) (c : Coord) (os : Bool) (a : Action) : Plain c a (armPost s c os a) := by
  cases a <;> try exact .cons trivial rfl .nil
  case layer v => exact .nil
  case defaultLayer v => exact .nil
  case custom id =>
    refine .cons trivial rfl ?_
    split
    · exact .cons (.custom id) rfl .nil
    · exact .nil
  case oneShotIgnoreEventsTicks t => exact .cons trivial rfl (.cons rfl rfl .nil)

theorem plain_preludeOps (c : Coord) (a : Action) : Plain c a (preludeOps c) :=
  .cons rfl rfl (.cons (Or.inl rfl) rfl .nil)

theorem plain_armOps (s : Layout) (c : Coord) (os : Bool) (a : Action) : Plain c a (armOps s c os a) :=
  ((plain_armPre s c os a).append (plain_armOsh c os a)).append (plain_armPost s c os a)

/-- `handle_press` is called by `armOsh` only -/
theorem armPre_osh (s : Layout) (c : Coord) (os : Bool) (a : Action) :
    ∀ o ∈ armPre s c os a, ∀ c', o ≠ .oshOther c' := by
  intro o ho c' e
  subst e
  cases a <;> simp only [armPre, keyOps, List.mem_cons, List.mem_flatMap, List.not_mem_nil, or_false, reduceCtorEq,
    false_or, and_false, exists_false] at ho
  case defaultLayer v => split at ho <;> simp at ho

theorem armPost_osh (s : Layout) (c : Coord) (os : Bool) (a : Action) :
    ∀ o ∈ armPost s c os a, ∀ c', o ≠ .oshOther c' := by
  intro o ho c' e
  subst e
  cases a <;> simp only [armPost, List.mem_cons, List.not_mem_nil, or_false, reduceCtorEq, false_or] at ho
  case custom id => split at ho <;> simp at ho

end KVerif.L
