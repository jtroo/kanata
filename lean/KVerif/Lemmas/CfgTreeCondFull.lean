/-
Lemmas for C16 (templates): the loop `while evaluate_conditionals(..)? {}` against the one-traversal
denotation `condSpec`, in both directions and on failures, for forests in which the four conditional
keywords occur only at the head of a list (`khList`).
-/
import KVerif.Lemmas.CfgTreeHeadOnly
namespace KVerif.CfgTree

/-- `if-equal`, `if-not-equal`, `if-in-list`, `if-not-in-list` -/
def condKw (a : Str) : Bool := (condKind? a).isSome
def noStr (_ : Str) : Bool := false

/-- **the conditional keywords occur only as the first element of a list** (decidable): in every
list of the forest, no atom after the first element is one of the four keywords. -/
abbrev khList (ts : List Tree) : Bool := hoList noStr condKw ts

theorem noStr_sub : ∀ a, noStr a = true → condKw a = true := nofun

/-- a list is a conditional form exactly when it starts with one of the keywords -/
theorem condTest_none_iff (l : List Tree) : condTest l = none ↔ headOK condKw l = true := by
  match l with
  | [] => exact ⟨fun _ => rfl, fun _ => rfl⟩
  | .list _ :: _ => exact ⟨fun _ => rfl, fun _ => rfl⟩
  | .atom a :: _ => cases hk : condKind? a <;> simp [condTest, headOK, condKw, hk]

/-! ### a sweep that succeeds -/

/-- **a successful sweep does not change the denotation** — successes and failures alike — when the
keywords occur only in head position. -/
theorem CondPass.spec_eq {ts ts1 : List Tree} {c : Bool} (h : CondPass ts ts1 c)
    (ho : khList ts = true) : condSpec ts1 = condSpec ts := by
  induction h with
  | nil => rfl
  | atom _ ih => simp only [condSpec, ih (hoList_cons.mp ho).2]
  | @form l b _ _ _ ht _ ih =>
    -- the denotation of the form is the denotation of what replaces it
    rw [condSpec_append, ih (hoList_cons.mp ho).2, condSpec, condSpecTree_ok l b ht]
    cases b
    · simp only [Bool.false_eq_true, if_false, condSpec]; rfl
    · rfl
  | @inside l l' _ _ _ _ ht hl _ ihl ihr =>
    -- the list swept inside is still not a form: no keyword has come to its head
    have ⟨⟨_, h2⟩, h3⟩ := hoTree_list.mp (hoList_cons.mp ho).1
    have ht' : condTest l' = none := (condTest_none_iff l').mpr
      ((hl.keeps noStr_sub h3).headOK (fun _ h => h) h2 ((condTest_none_iff l).mp ht))
    simp only [condSpec, condSpecTree_none l' ht', condSpecTree_none l ht, ihl h3,
      ihr (hoList_cons.mp ho).2]

/-- **the loop computes the denotation, and fails only when the denotation fails** (with a
diagnostic, never by running out of iterations), given more iterations than the forest has nodes:
a sweep keeps the keywords in head position and the denotation as it is. -/
theorem condLoop_spec (n : Nat) (ts : List Tree) (hsz : sizeList ts < n) (hk : khList ts = true) :
    (∀ r, condLoop n ts = .ok r ↔ condSpec ts = .ok r) ∧
    (∀ e, condLoop n ts = .error e → (∃ w, e = .rej w) ∧ ∃ e', condSpec ts = .error e') :=
  condLoop_spec_of (I := fun ts => khList ts = true)
    (fun p ho => ⟨(p.keeps noStr_sub ho).1, p.spec_eq ho⟩) n ts hsz hk

end KVerif.CfgTree
