/-
C08 helper lemmas: the invariant behind "macros end with their keys released".

  Owed     every `FakeKey k` in `states` is owed a `Release k` by some active sequence
  SeqOK    every active sequence is a suffix of what the parser emits: step events (presses,
           releases, delays, custom items) in which every press is followed by its release, then
           `Complete`; nothing tapped
  RepOK    the sequences remembered by `RepeatingSequence` states are of that shape too

`process_sequences` preserves it as long as the ring holds at most 4 sequences (it never evicts
then); starting a sequence preserves it whether or not the ring has room (`start_sequence` releases
what an evicted sequence still owed); the cancellation paths establish it.
When no sequence is active, `Owed` says that no `FakeKey` is left.
-/
import KVerif.Lemmas.MacroPlay
import KVerif.Lemmas.MacroExpand
import KVerif.Model.MacroCancel
namespace KVerif.Macro
open KVerif.L

/-- an event list as `parse_macro` emits it -/
def EvsOK (evs : List SeqEv) : Prop :=
  ∃ steps, evs = steps ++ [.complete] ∧ steps.all isStep = true ∧ closedB steps = true

def SeqOK (q : SeqState) : Prop := q.tapped = none ∧ EvsOK q.remaining

def Owed (seqs : List SeqState) (states : List St) : Prop :=
  ∀ k, St.fakeKey k ∈ states → ∃ q ∈ seqs, SeqEv.release k ∈ q.remaining

def RepOK (states : List St) : Prop := ∀ evs c, St.repeatingSequence evs c ∈ states → EvsOK evs

/-- the part of the invariant that concerns sequences -/
structure SeqInv (s : Layout) : Prop where
  ok : ∀ q ∈ s.activeSequences, SeqOK q
  owed : Owed s.activeSequences s.states
  rep : RepOK s.states
  cap : s.activeSequences.length ≤ ACTIVE_SEQ_CAP

theorem SeqInv.frame {s s' : Layout} (h : SeqInv s) (hs : s'.activeSequences = s.activeSequences)
    (hf : ∀ k, St.fakeKey k ∈ s'.states → St.fakeKey k ∈ s.states)
    (hr : ∀ evs c, St.repeatingSequence evs c ∈ s'.states → St.repeatingSequence evs c ∈ s.states) :
    SeqInv s' :=
  ⟨by rw [hs]; exact h.ok, by rw [hs]; exact fun k hk => h.owed k (hf k hk),
   fun evs c hm => h.rep evs c (hr evs c hm), by rw [hs]; exact h.cap⟩

/-- **when no sequence is active, no fake key is down** -/
theorem SeqInv.released {s : Layout} (h : SeqInv s) (he : s.activeSequences = []) :
    ∀ k, St.fakeKey k ∉ s.states := by
  intro k hk
  obtain ⟨q, hq, _⟩ := h.owed k hk
  rw [he] at hq; cases hq

theorem mem_pushCap {α} {cap : Nat} {l : List α} {x y : α} (h : y ∈ pushCap cap l x) : y ∈ l ∨ y = x := by
  unfold pushCap at h
  split at h
  · simpa using h
  · exact Or.inl h

theorem fake_mem_filter_seqRelease {states : List St} {k kc : KeyCode}
    (h : St.fakeKey k ∈ states.filter (·.seqRelease kc)) : St.fakeKey k ∈ states ∧ k ≠ kc := by
  rw [List.mem_filter] at h
  exact ⟨h.1, by simpa [St.seqRelease] using h.2⟩

theorem mem_stApply {states : List St} {e : SeqEv} {x : St} (h : x ∈ stApply states e) :
    (x ∈ states ∧ ∀ k, e = .release k → x ≠ .fakeKey k) ∨
    (∃ k, (e = .press k ∨ e = .tap k) ∧ x = .fakeKey k) ∨ ∃ id, x = .seqCustomPending id := by
  cases e with
  | press k => exact (mem_pushCap h).elim (fun h => .inl ⟨h, nofun⟩) fun h => .inr (.inl ⟨k, .inl rfl, h⟩)
  | tap k => exact (mem_pushCap h).elim (fun h => .inl ⟨h, nofun⟩) fun h => .inr (.inl ⟨k, .inr rfl, h⟩)
  | custom id => exact (mem_pushCap h).elim (fun h => .inl ⟨h, nofun⟩) fun h => .inr (.inr ⟨id, h⟩)
  | release k =>
    refine .inl ⟨(List.mem_filter.mp h).1, ?_⟩
    rintro _ ⟨rfl⟩ rfl
    exact (fake_mem_filter_seqRelease h).2 rfl
  | noOp | delay _ | complete => exact .inl ⟨h, nofun⟩

theorem stApply_fake {states : List St} {e : SeqEv} {k : KeyCode} (h : St.fakeKey k ∈ stApply states e) :
    (St.fakeKey k ∈ states ∧ e ≠ .release k) ∨ e = .press k ∨ e = .tap k := by
  rcases mem_stApply h with ⟨h1, h2⟩ | ⟨k', hk, hx⟩ | ⟨id, hx⟩
  · exact .inl ⟨h1, fun he => h2 k he rfl⟩
  · cases hx; exact .inr hk
  · cases hx

theorem effStates_rep {states : List St} {e : Eff} {evs : List SeqEv} {c : Coord}
    (h : St.repeatingSequence evs c ∈ effStates states e) : St.repeatingSequence evs c ∈ states := by
  cases e with
  | idle => exact h
  | untap kc => exact (List.mem_filter.mp h).1
  | perform ev =>
    rcases mem_stApply h with ⟨h1, _⟩ | ⟨_, _, hx⟩ | ⟨_, hx⟩
    · exact h1
    · cases hx
    · cases hx

theorem effStates_fold_rep {evs : List SeqEv} {c : Coord} : ∀ (effs : List Eff) (states : List St),
    St.repeatingSequence evs c ∈ effs.foldl effStates states → St.repeatingSequence evs c ∈ states := by
  intro effs
  induction effs with
  | nil => intro states h; exact h
  | cons e rest ih => intro states h; exact effStates_rep (ih _ h)

theorem EvsOK_cases {evs : List SeqEv} (h : EvsOK evs) :
    evs = [.complete] ∨ ∃ e tail, evs = e :: tail ∧ isStep e = true ∧ EvsOK tail ∧
      (∀ k, e = .press k → SeqEv.release k ∈ tail) := by
  obtain ⟨steps, rfl, h1, h2⟩ := h
  cases steps with
  | nil => exact Or.inl rfl
  | cons e st =>
    simp only [List.all_cons, Bool.and_eq_true] at h1
    rw [closedB_cons] at h2
    exact .inr ⟨e, st ++ [.complete], rfl, h1.1, ⟨st, rfl, h1.2, h2.2⟩,
      fun k hk => List.mem_append_left _ (h2.1 k hk)⟩

theorem EvsOK_ne_nil {evs : List SeqEv} (h : EvsOK evs) : evs ≠ [] := by
  obtain ⟨steps, rfl, _, _⟩ := h; simp

/-- **one well-formed sequence, one tick**, seen from the sequence: if it goes on it is well-formed;
a release it owed it still owes unless it performs it now; and if it presses a key it owes the
release from now on. It never taps. -/
theorem seqStep_ok (q : SeqState) (hq : SeqOK q) :
    (∀ x ∈ keep (seqStep q), SeqOK x) ∧
    (∀ k, SeqEv.release k ∈ q.remaining →
      (∃ x ∈ keep (seqStep q), SeqEv.release k ∈ x.remaining) ∨ seqEffect q = .perform (.release k)) ∧
    (∀ k, seqEffect q = .perform (.press k) → ∃ x ∈ keep (seqStep q), SeqEv.release k ∈ x.remaining) ∧
    (∀ k, seqEffect q ≠ .perform (.tap k) ∧ seqEffect q ≠ .untap k) := by
  obtain ⟨cur, delay, tapped, remaining⟩ := q
  obtain ⟨rfl, hev⟩ := hq
  cases delay with
  | succ d =>
    -- counting a delay down
    rw [show seqStep ⟨cur, d + 1, none, remaining⟩ = ⟨cur, d, none, remaining⟩ from rfl,
      show seqEffect ⟨cur, d + 1, none, remaining⟩ = .idle from rfl,
      keep_of_ne_nil (q := ⟨cur, d, none, remaining⟩) (EvsOK_ne_nil hev)]
    exact ⟨fun x hx => List.mem_singleton.mp hx ▸ ⟨rfl, hev⟩, fun k hk => .inl ⟨_, List.mem_singleton_self _, hk⟩,
      nofun, fun _ => ⟨nofun, nofun⟩⟩
  | zero =>
    rcases EvsOK_cases hev with rfl | ⟨e, tail, rfl, hstep, htail, hpress⟩
    · -- `Complete`: the sequence ends, owing nothing
      rw [show keep (seqStep ⟨cur, 0, none, [.complete]⟩) = [] from rfl, (complete_tick cur).1]
      exact ⟨fun _ h => absurd h List.not_mem_nil, fun k hk => (by simp at hk), nofun, fun _ => ⟨nofun, nofun⟩⟩
    · -- a step event
      obtain ⟨f1, f2⟩ := first_tick cur e hstep tail
      rw [f1, f2, keep_of_ne_nil (EvsOK_ne_nil htail)]
      refine ⟨fun x hx => List.mem_singleton.mp hx ▸ ⟨rfl, htail⟩, fun k hk => ?_,
        fun k hk => ⟨_, List.mem_singleton_self _, hpress k (Eff.perform.inj hk)⟩,
        fun k => ⟨fun h => (by cases h; cases hstep), nofun⟩⟩
      rcases List.mem_cons.mp hk with rfl | hk
      · exact .inr rfl
      · exact .inl ⟨_, List.mem_singleton_self _, hk⟩

theorem owed_step (q : SeqState) (others : List SeqState) (states : List St) (hq : SeqOK q)
    (h : Owed (q :: others) states) :
    Owed (others ++ keep (seqStep q)) (effStates states (seqEffect q)) ∧
    (∀ x ∈ keep (seqStep q), SeqOK x) := by
  obtain ⟨h1, h2, h3, h4⟩ := seqStep_ok q hq
  refine ⟨fun k hk => ?_, h1⟩
  have own : (∃ x ∈ keep (seqStep q), SeqEv.release k ∈ x.remaining) →
      ∃ x ∈ others ++ keep (seqStep q), SeqEv.release k ∈ x.remaining :=
    fun ⟨x, hx, hr⟩ => ⟨x, List.mem_append_right _ hx, hr⟩
  -- the key was down before and is not released now, or it is pressed now
  have old (hin : St.fakeKey k ∈ states) (hnr : seqEffect q ≠ .perform (.release k)) :
      ∃ x ∈ others ++ keep (seqStep q), SeqEv.release k ∈ x.remaining := by
    obtain ⟨q0, hq0, hr⟩ := h k hin
    rcases List.mem_cons.mp hq0 with rfl | hq0
    · exact own ((h2 k hr).resolve_right hnr)
    · exact ⟨q0, List.mem_append_left _ hq0, hr⟩
  cases he : seqEffect q with
  | idle => rw [he] at hk; exact old hk (by rw [he]; nofun)
  | untap k' => exact absurd he (h4 k').2
  | perform e =>
    rw [he] at hk
    rcases stApply_fake hk with ⟨hin, hnr⟩ | hp | hp
    · exact old hin (he ▸ fun h => hnr (Eff.perform.inj h))
    · exact own (h3 k (hp ▸ he))
    · exact absurd (hp ▸ he) (h4 k).1

/-! ### the loop of `process_sequences` -/

/-- `Owed` and `SeqOK` through the effects of a list of sequences, one after the other -/
theorem owed_fold : ∀ (todo kept : List SeqState) (states : List St),
    (∀ q ∈ todo ++ kept, SeqOK q) → Owed (todo ++ kept) states →
    Owed (kept ++ todo.flatMap (fun q => keep (seqStep q))) ((todo.map seqEffect).foldl effStates states) ∧
    (∀ q ∈ kept ++ todo.flatMap (fun q => keep (seqStep q)), SeqOK q) := by
  intro todo
  induction todo with
  | nil => intro kept states hok ho; simpa using ⟨ho, hok⟩
  | cons q todo' ih =>
    intro kept states hok ho
    obtain ⟨o1, o2⟩ := owed_step q (todo' ++ kept) states (hok q List.mem_cons_self) ho
    rw [List.append_assoc] at o1
    have hok' : ∀ x ∈ todo' ++ (kept ++ keep (seqStep q)), SeqOK x := fun x hx => by
      rw [← List.append_assoc] at hx
      exact (List.mem_append.mp hx).elim (fun hx => hok x (List.mem_cons_of_mem _ hx)) (o2 x)
    have := ih (kept ++ keep (seqStep q)) (effStates states (seqEffect q)) hok' o1
    rwa [List.append_assoc] at this

theorem lastRepeating_mem {states : List St} {evs : List SeqEv} (h : lastRepeating states = some evs) :
    ∃ c, St.repeatingSequence evs c ∈ states := by
  unfold lastRepeating at h
  obtain ⟨st, hst, hm⟩ := List.exists_of_findSome?_eq_some h
  cases st <;> simp at hm
  rename_i evs' c
  subst hm
  exact ⟨c, by simpa using hst⟩

theorem lastRepeating_none {states : List St} (h : lastRepeating states = none) :
    ∀ evs c, St.repeatingSequence evs c ∉ states := by
  unfold lastRepeating at h
  intro evs c hm
  rw [List.findSome?_eq_none_iff] at h
  have := h (.repeatingSequence evs c) (by simpa using hm)
  simp at this

theorem restartOf_length (states : List St) : (restartOf states).length ≤ 1 := by
  unfold restartOf; split <;> simp

theorem keep_flatMap_length : ∀ l : List SeqState, (l.flatMap (fun q => keep (seqStep q))).length ≤ l.length
  | [] => Nat.le_refl _
  | q :: l => by
    have := keep_length (seqStep q)
    have := keep_flatMap_length l
    simp only [List.flatMap_cons, List.length_append, List.length_cons]; omega

/-- **`process_sequences` preserves the invariant** -/
theorem processSequences_inv (s : Layout) (h : SeqInv s) : SeqInv (processSequences s) := by
  obtain ⟨l1, l2⟩ := seqLoop_all s h.cap
  obtain ⟨o1, o2⟩ := owed_fold s.activeSequences [] s.states (by simpa using h.ok) (by simpa using h.owed)
  simp only [List.nil_append] at o1 o2
  have hrep : RepOK (processSequences s).states := fun evs c hm => by
    rw [processSequences_eq, restartRepeating_states, l2] at hm
    exact h.rep evs c (effStates_fold_rep _ _ hm)
  refine ⟨?_, ?_, hrep, ?_⟩ <;> rw [processSequences_eq, restartRepeating_seqs]
  · intro q hq
    split at hq
    · -- the restarted sequence is one a `RepeatingSequence` state remembers
      unfold restartOf at hq
      split at hq
      · rename_i evs hl
        obtain ⟨c, hc⟩ := lastRepeating_mem hl
        rw [← restartRepeating_states, ← processSequences_eq] at hc
        exact List.mem_singleton.mp hq ▸ ⟨rfl, hrep evs c hc⟩
      · cases hq
    · exact o2 q (l1 ▸ hq)
  · rw [restartRepeating_states, l2]
    split
    · -- the loop left no sequence, so nothing is owed
      rename_i hemp
      intro k hk
      obtain ⟨q, hq, _⟩ := o1 k hk
      rw [← l1, List.isEmpty_iff.mp hemp] at hq
      cases hq
    · exact l1 ▸ o1
  · split
    · exact Nat.le_trans (restartOf_length _) (by decide)
    · exact l1 ▸ Nat.le_trans (keep_flatMap_length _) h.cap

/-- `process_sequences` never lengthens the ring beyond what it was, except for the one restart -/
theorem processSequences_length (s : Layout) (h : s.activeSequences.length ≤ ACTIVE_SEQ_CAP) :
    (processSequences s).activeSequences.length ≤ max s.activeSequences.length 1 := by
  rw [processSequences_eq, restartRepeating_seqs]
  split
  · exact Nat.le_trans (restartOf_length _) (Nat.le_max_right _ _)
  · rw [(seqLoop_all s h).1]
    exact Nat.le_trans (keep_flatMap_length _) (Nat.le_max_left _ _)

/-! ### starting and cancelling -/

theorem oshOther_states (s : Layout) (b : Bool) (c : Coord) : (oshOther s b c).1.states = s.states := by
  unfold oshOther; split <;> rfl
theorem oshOther_seqs (s : Layout) (b : Bool) (c : Coord) :
    (oshOther s b c).1.activeSequences = s.activeSequences := by
  unfold oshOther; split <;> rfl

theorem foldl_seqRelease_sub (ks : List KeyCode) : ∀ (states : List St) (x : St),
    x ∈ ks.foldl (fun st k => st.filter (·.seqRelease k)) states → x ∈ states := by
  induction ks with
  | nil => intro states x h; exact h
  | cons k ks ih => intro states x h; exact (List.mem_filter.mp (ih _ x h)).1

theorem foldl_seqRelease_fake (ks : List KeyCode) : ∀ (states : List St) (k : KeyCode),
    St.fakeKey k ∈ ks.foldl (fun st k => st.filter (·.seqRelease k)) states → k ∉ ks := by
  induction ks with
  | nil => intro states k _; exact List.not_mem_nil
  | cons k' ks ih =>
    intro states k h hk
    rcases List.mem_cons.mp hk with rfl | hk
    · exact (fake_mem_filter_seqRelease (foldl_seqRelease_sub ks _ _ h)).2 rfl
    · exact ih _ k h hk

theorem releaseEvicted_sub (q : SeqState) : ∀ (states : List St) (x : St),
    x ∈ releaseEvicted states q → x ∈ states :=
  foldl_seqRelease_sub _

theorem releaseEvicted_fake (q : SeqState) : ∀ (states : List St) (k : KeyCode),
    St.fakeKey k ∈ releaseEvicted states q → k ∉ seqOwedKeys q :=
  foldl_seqRelease_fake _

theorem mem_seqOwedKeys {q : SeqState} {k : KeyCode} (h : SeqEv.release k ∈ q.remaining) : k ∈ seqOwedKeys q := by
  unfold seqOwedKeys
  simp only [List.mem_append, List.mem_filterMap]
  exact Or.inr ⟨.release k, h, rfl⟩

theorem pushBackWrap_spec {α} (cap : Nat) (l : List α) (x : α) :
    (∀ y ∈ (pushBackWrap cap l x).1, y ∈ l ∨ y = x) ∧
    (∀ y ∈ l, y ∈ (pushBackWrap cap l x).1 ∨ (pushBackWrap cap l x).2 = some y) ∧
    ((pushBackWrap cap l x).1.length ≤ l.length + 1) ∧
    (l.length ≤ cap → (pushBackWrap cap l x).1.length ≤ cap) ∧
    (l.length < cap → pushBackWrap cap l x = (l ++ [x], none)) := by
  unfold pushBackWrap
  split
  · rename_i hlt
    exact ⟨fun y hy => by simpa using hy, fun y hy => .inl (List.mem_append_left _ hy), by simp,
      fun _ => (by rw [List.length_append]; exact hlt), fun _ => rfl⟩
  · rename_i hge
    cases l with
    | nil =>
      exact ⟨fun _ h => absurd h List.not_mem_nil, fun _ h => absurd h List.not_mem_nil, by simp, fun _ => Nat.zero_le _,
        fun h => absurd h hge⟩
    | cons a t =>
      refine ⟨fun y hy => ?_, fun y hy => ?_, by simp, fun h => by simpa using h, fun h => absurd h hge⟩
      · rcases List.mem_append.mp hy with hy | hy
        · exact .inl (List.mem_cons_of_mem _ hy)
        · exact .inr (List.mem_singleton.mp hy)
      · rcases List.mem_cons.mp hy with rfl | hy
        · exact .inr rfl
        · exact .inl (List.mem_append_left _ hy)

/-- `start_sequence` with room in the ring: the sequence is appended, nothing else changes -/
theorem startSequence_room (s : Layout) (evs : List SeqEv) (h : s.activeSequences.length < ACTIVE_SEQ_CAP) :
    (startSequence s evs).activeSequences = s.activeSequences ++ [{ remaining := evs }] ∧
    (startSequence s evs).states = s.states := by
  unfold startSequence
  rw [(pushBackWrap_spec _ _ _).2.2.2.2 h]
  exact ⟨rfl, rfl⟩

/-- **`start_sequence` keeps the invariant, full ring or not**: what the evicted sequence owed is
released with it -/
theorem startSequence_inv (s : Layout) (evs : List SeqEv) (h : SeqInv s) (hev : EvsOK evs) :
    SeqInv (startSequence s evs) ∧
    (startSequence s evs).activeSequences.length ≤ s.activeSequences.length + 1 := by
  obtain ⟨p1, p2, p3, p4, _⟩ := pushBackWrap_spec ACTIVE_SEQ_CAP s.activeSequences { remaining := evs }
  have hsub : ∀ x ∈ (startSequence s evs).states, x ∈ s.states := by
    intro x hx
    unfold startSequence at hx
    simp only at hx
    split at hx
    · exact releaseEvicted_sub _ _ _ hx
    · exact hx
  refine ⟨⟨fun q hq => ?_, fun k hk => ?_, fun e c hm => h.rep e c (hsub _ hm), p4 h.cap⟩, p3⟩
  · rcases p1 q hq with hq | rfl
    · exact h.ok q hq
    · exact ⟨rfl, hev⟩
  · obtain ⟨q, hq, hr⟩ := h.owed k (hsub _ hk)
    rcases p2 q hq with hq | hq
    · exact ⟨q, hq, hr⟩
    · -- `q` is the one evicted: the `FakeKey k` it owed a release to went with it
      unfold startSequence at hk
      simp only [hq] at hk
      exact absurd (mem_seqOwedKeys hr) (releaseEvicted_fake q _ k hk)

theorem armSequence_seqs (s : Layout) (a : Action) (evs : List SeqEv) (c : Coord) (o rep : Bool) :
    (armSequence s a evs c o rep).activeSequences = (startSequence s evs).activeSequences := by
  unfold armSequence
  cases rep <;> simp only [Bool.false_eq_true, if_false, if_true, oshOther_seqs] <;> rfl

/-- **starting a macro keeps the invariant**, whether or not the ring has room; with room the
sequence is appended and the other sequences are untouched -/
theorem armSequence_inv (s : Layout) (a : Action) (evs : List SeqEv) (c : Coord) (o rep : Bool)
    (h : SeqInv s) (hev : EvsOK evs) :
    SeqInv (armSequence s a evs c o rep) ∧
    (armSequence s a evs c o rep).activeSequences.length ≤ s.activeSequences.length + 1 ∧
    (s.activeSequences.length < ACTIVE_SEQ_CAP →
      (armSequence s a evs c o rep).activeSequences = s.activeSequences ++ [{ remaining := evs }]) := by
  obtain ⟨i, hl⟩ := startSequence_inv s evs h hev
  rw [armSequence_seqs]
  refine ⟨?_, hl, fun hroom => (startSequence_room s evs hroom).1⟩
  unfold armSequence
  generalize startSequence s evs = s1 at i
  -- the remembered repeating sequence is well-formed; the one-shot and repeat bookkeeping is a frame
  have i2 : SeqInv (if rep then s1.pushState (.repeatingSequence evs c) else s1) := by
    split
    · exact ⟨i.ok, fun k hk => i.owed k ((mem_pushCap hk).resolve_right nofun),
        fun e c' hm => (mem_pushCap hm).elim (i.rep e c') fun heq => by cases heq; exact hev, i.cap⟩
    · exact i
  exact i2.frame (oshOther_seqs _ o c) (fun k hk => oshOther_states _ o c ▸ hk)
    (fun e c' hm => oshOther_states _ o c ▸ hm)

theorem armCancelSequences_fields (s : Layout) (a : Action) (c : Coord) (o : Bool) :
    (armCancelSequences s a c o).activeSequences = [] ∧
    (armCancelSequences s a c o).states =
      s.states.filter (fun st => !(match st with | .fakeKey _ => true | _ => false)) := by
  unfold armCancelSequences
  simp only [oshOther_states, oshOther_seqs]
  exact ⟨trivial, rfl⟩

/-- **`CancelSequences`** leaves no sequence and no fake key -/
theorem armCancelSequences_inv (s : Layout) (a : Action) (c : Coord) (o : Bool) (h : RepOK s.states) :
    SeqInv (armCancelSequences s a c o) ∧ (armCancelSequences s a c o).activeSequences = [] ∧
    ∀ k, St.fakeKey k ∉ (armCancelSequences s a c o).states := by
  obtain ⟨f1, f2⟩ := armCancelSequences_fields s a c o
  have hnf : ∀ k, St.fakeKey k ∉ (armCancelSequences s a c o).states := fun k hk =>
    Bool.false_ne_true (List.mem_filter.mp (f2 ▸ hk)).2
  refine ⟨⟨fun _ h => absurd (f1 ▸ h) List.not_mem_nil, fun k hk => absurd hk (hnf k), ?_,
    by rw [f1]; exact Nat.zero_le _⟩, f1, hnf⟩
  intro evs c' hm
  rw [f2] at hm
  exact h evs c' (List.mem_filter.mp hm).1

/-- **the cancellation glue of kanata** (`CancelMacroOnRelease`, a press during a cancel-on-press
macro) leaves no sequence, no fake key and no repeating state -/
theorem cancelAll_inv (l : Layout) :
    SeqInv (cancelAll l) ∧ (cancelAll l).activeSequences = [] ∧
    (∀ k, St.fakeKey k ∉ (cancelAll l).states) ∧ (∀ evs c, St.repeatingSequence evs c ∉ (cancelAll l).states) := by
  have hnf : ∀ k, St.fakeKey k ∉ (cancelAll l).states := fun k hk =>
    Bool.false_ne_true (List.mem_filter.mp hk).2
  have hnr : ∀ evs c, St.repeatingSequence evs c ∉ (cancelAll l).states := fun evs c hk =>
    Bool.false_ne_true (List.mem_filter.mp hk).2
  exact ⟨⟨fun _ h => absurd h List.not_mem_nil, fun k hk => absurd hk (hnf k), fun evs c hm => absurd hm (hnr evs c),
      Nat.zero_le _⟩,
    rfl, hnf, hnr⟩

/-- what the parser emits is well-formed -/
theorem EvsOK_spell (body : List Body) : EvsOK (spellAll body ++ [.complete]) :=
  ⟨spellAll body, rfl, spellAll_steps body, closedB_spellAll body⟩

/-- **a balanced list of steps leaves no fake key of its own**: whatever `FakeKey k` is in `states`
after performing the events was there before, and the events neither press nor release `k` -/
theorem fold_fake : ∀ (evs : List SeqEv) (states : List St) (k : KeyCode), closedB evs = true →
    evs.all isStep = true → St.fakeKey k ∈ evs.foldl stApply states →
    St.fakeKey k ∈ states ∧ SeqEv.press k ∉ evs ∧ SeqEv.release k ∉ evs := by
  intro evs
  induction evs with
  | nil => intro states k _ _ h; exact ⟨h, List.not_mem_nil, List.not_mem_nil⟩
  | cons e rest ih =>
    intro states k hc hall h
    simp only [List.all_cons, Bool.and_eq_true] at hall
    rw [closedB_cons] at hc
    obtain ⟨i1, i2, i3⟩ := ih (stApply states e) k hc.2 hall.2 h
    -- `e` is not a press of `k` (its release would follow), so `FakeKey k` was there before `e`
    rcases stApply_fake i1 with ⟨j1, j2⟩ | rfl | rfl
    · refine ⟨j1, fun hm => ?_, fun hm => (List.mem_cons.mp hm).elim (fun h => j2 h.symm) i3⟩
      rcases List.mem_cons.mp hm with rfl | hm
      · exact i3 (hc.1 k rfl)
      · exact i2 hm
    · exact absurd (hc.1 k rfl) i3
    · cases hall.1

end KVerif.Macro
