/-
C07 helper lemmas, bisimulation (kanata level): with the kanata-level components at rest
(`KRest`: no custom actions, no overrides, ...) `tick_states` and `handle_input_event` have the closed
forms of Lemmas/BlockReach.lean, and two states that differ only in the layout's history ages
(`AgeEquiv`) step to two such states with the SAME output, the same crash, the same everything else.
-/
import KVerif.Lemmas.KanataDynQuiet
import KVerif.Lemmas.C07Age
namespace KVerif.C07
open KVerif.L KVerif.K

/-- **AgeEquiv**: equal except the ages of the layout's key / input history (every other field of the
kanata state, in particular the output written so far, `prev_keys`, and every countdown, is equal) -/
def AgeEquiv (k k' : KState) : Prop := ∃ l', AgeEq k.layout l' ∧ k' = setL k l'

theorem AgeEquiv.refl (k : KState) : AgeEquiv k k := ⟨k.layout, AgeEq.refl _, rfl⟩

theorem AgeEquiv.out {k k' : KState} (h : AgeEquiv k k') : k'.out = k.out := by
  obtain ⟨l', _, rfl⟩ := h; rfl

theorem AgeEquiv.prevKeys {k k' : KState} (h : AgeEquiv k k') : k'.prevKeys = k.prevKeys := by
  obtain ⟨l', _, rfl⟩ := h; rfl

theorem AgeEquiv.trans {a b c : KState} (h1 : AgeEquiv a b) (h2 : AgeEquiv b c) : AgeEquiv a c := by
  obtain ⟨l1, e1, rfl⟩ := h1
  obtain ⟨l2, e2, rfl⟩ := h2
  exact ⟨l2, e1.trans e2, rfl⟩

/-! ### the key-list diff does not look at the layout -/

/-- the output tables are not part of the layout -/
theorem tables_setL (k : KState) (l : Layout) :
    (setL k l).ignoreMin = k.ignoreMin ∧ (setL k l).ignoreMax = k.ignoreMax ∧
    (setL k l).btnCodes = k.btnCodes ∧ (setL k l).wheelCodes = k.wheelCodes := ⟨rfl, rfl, rfl, rfl⟩

theorem releaseKey_setL (k : KState) (l : Layout) (x : KeyCode) :
    releaseKey (setL k l) x = setL (releaseKey k x) l := by
  obtain ⟨h1, h2, h3, h4⟩ := tables_setL k l
  unfold releaseKey
  rw [h1, h2, h3, h4]
  split
  · rfl
  · split
    · rfl
    · split <;> rfl

theorem pressKey_setL (k : KState) (l : Layout) (x : KeyCode) :
    pressKey (setL k l) x = setL (pressKey k x) l := by
  obtain ⟨h1, h2, h3, h4⟩ := tables_setL k l
  unfold pressKey
  rw [h1, h2, h3, h4]
  split
  · rfl
  · split
    · rfl
    · split <;> rfl

theorem releaseOld_setL (k : KState) (l : Layout) (cur : List KeyCode) (rev : Bool) :
    releaseOld (setL k l) cur rev = setL (releaseOld k cur rev) l := by
  unfold releaseOld
  show List.foldl _ (setL k l) (if rev = true then k.prevKeys.reverse else k.prevKeys) = _
  generalize (if rev = true then k.prevKeys.reverse else k.prevKeys) = olds
  induction olds generalizing k with
  | nil => rfl
  | cons x xs ih =>
    rw [List.foldl_cons, List.foldl_cons]
    split
    · exact ih k
    · rw [releaseKey_setL]; exact ih _

theorem pressNew_setL (k : KState) (l : Layout) (cur : List KeyCode) :
    pressNew (setL k l) cur = setL (pressNew k cur) l := by
  unfold pressNew
  induction cur generalizing k with
  | nil => rfl
  | cons x xs ih =>
    rw [List.foldl_cons, List.foldl_cons]
    show List.foldl _ (if k.prevKeys.contains x then setL k l
      else pressKey (setL { k with prevKeys := k.prevKeys ++ [x], lastPressedKey := x } l) x) xs = _
    split
    · exact ih k
    · rw [pressKey_setL]; exact ih _

/-- a tick from two states that differ in the layout only, ending in layouts with the same key codes -/
theorem afterTick_setL (k : KState) (l a b : Layout) (h : a.keycodes = b.keycodes) :
    afterTick (setL k l) b = setL (afterTick k a) b := by
  unfold afterTick
  have e : setL (setL k l) b = setL (setL k a) b := rfl
  rw [e, ← h, releaseOld_setL, pressNew_setL]
  rfl

/-- results of a kanata-level step: the same crash, or two states equal except history ages -/
def KRel (r1 r2 : Except K.Crash KState) : Prop :=
  match r1, r2 with
  | .ok a, .ok b => AgeEquiv a b
  | .error c1, .error c2 => c1 = c2
  | _, _ => False

/-- the invariant of the layered fragment at the kanata level -/
structure KLay (k : KState) : Prop where
  rest : KRest k
  cfg : C04.CfgFrag k.layout.cfg
  inert : C04.Inert k.layout

theorem KLay.of_equiv {k k' : KState} (h : KLay k) (he : AgeEquiv k k') : KLay k' := by
  obtain ⟨l', e, rfl⟩ := he
  exact ⟨h.rest.setL l', e.cfg ▸ h.cfg, inert_ageEq e h.inert⟩

/-- **one `tick_states` preserves `AgeEquiv`, with identical output and identical crash** (layered
fragment, kanata-level components at rest) -/
theorem tickStates_equiv {k k' : KState} (hk : KLay k) (he : AgeEquiv k k') :
    KRel (tickStates k) (tickStates k') := by
  obtain ⟨l2, e, rfl⟩ := he
  have ht := tick_ageEq e hk.cfg hk.inert
  rcases coreR_eq_iff ht with ⟨c, h1, h2⟩ | ⟨s1, s2, cu, h1, h2, h3⟩
  · rw [tickStates_rest_err k c h1, tickStates_rest_err (setL k l2) c h2]
    exact rfl
  · by_cases hcu : cu = .noEvent
    · subst hcu
      rw [tickStates_rest_ok k hk.rest s1 h1, tickStates_rest_ok (setL k l2) (hk.rest.setL l2) s2 h2]
      exact ⟨s2, (afterTick_layout k s1).symm ▸ h3, afterTick_setL k l2 s1 s2 h3.keycodes⟩
    · rw [tickStates_rest_custom k hk.rest s1 cu h1 hcu,
        tickStates_rest_custom (setL k l2) (hk.rest.setL l2) s2 cu h2 hcu]
      exact rfl

theorem tickStates_klay {k k' : KState} (hk : KLay k) (h : tickStates k = .ok k') : KLay k' := by
  obtain ⟨l', hl, e1, _, e3⟩ := tickStates_rest k k' hk.rest h
  obtain ⟨r1, r2⟩ := tick_inert hk.cfg hk.inert l' .noEvent hl
  exact ⟨e3, e1 ▸ r2 ▸ hk.cfg, e1 ▸ r1⟩

/-! ### `handle_input_event` -/

theorem scanLayers_setL (k : KState) (l : Layout) (cur : List KeyCode) (code : Nat) :
    ∀ order, scanLayers (setL k l) cur code order = scanLayers k cur code order := by
  intro order
  induction order with
  | nil => rfl
  | cons x xs ih =>
    simp only [scanLayers, ih]
    rfl

theorem repeatTarget_setL (k : KState) (l : Layout) (cur : List KeyCode) (order : List Nat) (code : Nat)
    (hd : l.defaultLayer = k.layout.defaultLayer) :
    repeatTarget (setL k l) cur order code = repeatTarget k cur order code := by
  unfold repeatTarget
  rw [scanLayers_setL]
  show (match scanLayers k cur code order with
    | some kc => some kc
    | none =>
      match (match outputsFor k l.defaultLayer code with
             | some outs => repeatCandidate k cur outs
             | none => none) with
      | some kc => some kc
      | none => if isActive k cur code then some code else none) = _
  rw [hd]
  rfl

theorem writeRepeat_setL (k : KState) (l : Layout) (kc : KeyCode) :
    writeRepeat (setL k l) kc = setL (writeRepeat k kc) l := by
  obtain ⟨h1, h2, _⟩ := tables_setL k l
  unfold writeRepeat
  rw [h1, h2]
  split <;> rfl

theorem handleRepeat_equiv (k0 : KState) (l2 : Layout) (hn : k0.overrides.isEmpty = true)
    (hs : k0.seq.st.active = false) (e0 : AgeEq k0.layout l2) (code : Nat) :
    KRel (handleRepeat k0 code) (handleRepeat (setL k0 l2) code) := by
  have h1 : (setL k0 l2).layout.transOrder = k0.layout.transOrder := e0.transOrder.symm
  have h2 : (setL k0 l2).layout.keycodes = k0.layout.keycodes := e0.keycodes.symm
  have h3 : (setL k0 l2).curKeys = k0.curKeys := rfl
  rw [handleRepeat_rest_eq k0 hn hs, handleRepeat_rest_eq (setL k0 l2) hn hs, h1, h2, h3]
  cases k0.layout.transOrder with
  | error c => exact rfl
  | ok order =>
    simp only [repeatTarget_setL k0 l2 _ order code e0.defaultLayer.symm]
    cases repeatTarget k0 (k0.curKeys ++ k0.layout.keycodes) order code with
    | none => exact ⟨l2, e0, rfl⟩
    | some kc =>
      obtain ⟨o, ho⟩ := writeRepeat_fields k0 kc
      simp only [writeRepeat_setL, ho]
      exact ⟨l2, e0, rfl⟩

/-- **one `handle_input_event` preserves `AgeEquiv`, with identical output and identical crash** -/
theorem handleInput_equiv {k k' : KState} (hk : KLay k) (he : AgeEquiv k k') (i : Input) :
    KRel (handleInputEvent k i) (handleInputEvent k' i) := by
  obtain ⟨l2, e, rfl⟩ := he
  -- the layout's `event` on both sides: the same crash, or layouts equal except history ages
  have hev : ∀ ev, (∃ c, k.layout.event ev = .error c ∧ (setL k l2).layout.event ev = .error c) ∨
      ∃ s1 s2, k.layout.event ev = .ok s1 ∧ (setL k l2).layout.event ev = .ok s2 ∧ AgeEq s1 s2 :=
    fun ev => coreL_eq_iff (event_ageEq e hk.cfg hk.inert ev)
  cases i with
  | press code =>
    rw [handleInput_press_eq k hk.rest.mcd hk.rest.noRec, handleInput_press_eq (setL k l2) hk.rest.mcd hk.rest.noRec]
    rcases hev (.press (0, code)) with ⟨c, h1, h2⟩ | ⟨s1, s2, h1, h2, h3⟩ <;> simp only [h1, h2]
    · exact rfl
    · exact ⟨s2, h3, rfl⟩
  | release code =>
    rw [handleInput_release_eq k hk.rest.noRec, handleInput_release_eq (setL k l2) hk.rest.noRec]
    rcases hev (.release (0, code)) with ⟨c, h1, h2⟩ | ⟨s1, s2, h1, h2, h3⟩ <;> simp only [h1, h2]
    · exact rfl
    · exact ⟨s2, h3, rfl⟩
  | tap code =>
    rw [handleInput_tap_eq k, handleInput_tap_eq (setL k l2)]
    rcases hev (.press (0, code)) with ⟨c, h1, h2⟩ | ⟨s1, s2, h1, h2, h3⟩ <;> simp only [h1, h2]
    · exact rfl
    · obtain ⟨i1, c1, _⟩ := event_inert hk.cfg hk.inert _ s1 h1
      rcases coreL_eq_iff (event_ageEq h3 (c1 ▸ hk.cfg) i1 (.release (0, code))) with
        ⟨c, g1, g2⟩ | ⟨t1, t2, g1, g2, g3⟩ <;> simp only [g1, g2]
      · exact rfl
      · exact ⟨t2, g3, rfl⟩
  | rep code =>
    exact handleRepeat_equiv { k with ticksSinceIdle := 0 } l2 hk.rest.noOvr (off_inactive _ hk.rest.seqOff) e code

theorem handleInput_klay {k k' : KState} (hk : KLay k) (i : Input) (h : handleInputEvent k i = .ok k') :
    KLay k' := by
  obtain ⟨r1, _, r3⟩ := handleInput_rest k k' hk.rest i h
  cases i with
  | press code =>
    obtain ⟨i1, c1, _⟩ := event_inert hk.cfg hk.inert _ _ r3
    exact ⟨r1, c1 ▸ hk.cfg, i1⟩
  | release code =>
    obtain ⟨i1, c1, _⟩ := event_inert hk.cfg hk.inert _ _ r3
    exact ⟨r1, c1 ▸ hk.cfg, i1⟩
  | tap code =>
    obtain ⟨l1, e1, e2⟩ := r3
    obtain ⟨i1, c1, _⟩ := event_inert hk.cfg hk.inert _ _ e1
    obtain ⟨i2, c2, _⟩ := event_inert (c1 ▸ hk.cfg) i1 _ _ e2
    exact ⟨r1, c2 ▸ c1 ▸ hk.cfg, i2⟩
  | rep code =>
    simp only [] at r3
    exact ⟨r1, r3 ▸ hk.cfg, r3 ▸ hk.inert⟩

/-! ### the blocking decision -/

theorem isIdle_setL (k : KState) (l2 : Layout) (e : AgeEq k.layout l2) : isIdle (setL k l2) = isIdle k := by
  unfold isIdle isIdleBase
  simp only [setL, ← e.queue, ← e.waiting, ← e.extraWaiting, ← e.lpt, ← e.oneshot, ← e.activeSequences,
    ← e.tapDanceEager, ← e.actionQueue, ← e.states]

theorem canBlock_fst_setL (k : KState) (l2 : Layout) (e : AgeEq k.layout l2) (ms : Nat) :
    (canBlockUpdateIdleWaiting (setL k l2) ms).1 = setL (canBlockUpdateIdleWaiting k ms).1 l2 := by
  have h1 := isIdle_setL k l2 e
  have h2 : (setL k l2).waitingForIdle = k.waitingForIdle := rfl
  have h3 : (setL k l2).liveReloadRequested = k.liveReloadRequested := rfl
  unfold canBlockUpdateIdleWaiting
  rw [h1, h2, h3]
  cases isIdle k <;> cases (!k.waitingForIdle.isEmpty || k.liveReloadRequested) <;> rfl

theorem canBlock_equiv {k k' : KState} (he : AgeEquiv k k') (ms : Nat) :
    AgeEquiv (canBlockUpdateIdleWaiting k ms).1 (canBlockUpdateIdleWaiting k' ms).1 := by
  obtain ⟨l2, e, rfl⟩ := he
  rw [canBlock_fst_setL k l2 e ms]
  obtain ⟨t, ht⟩ := canBlock_fields k ms
  rw [ht]
  exact ⟨l2, e, rfl⟩

theorem canBlock_klay {k : KState} (hk : KLay k) (ms : Nat) : KLay (canBlockUpdateIdleWaiting k ms).1 := by
  obtain ⟨t, ht⟩ := canBlock_fields k ms
  rw [ht]
  exact ⟨hk.rest.of_eq rfl hk.rest.cur hk.rest.mcd, hk.cfg, hk.inert⟩

end KVerif.C07
