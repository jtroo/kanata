/-
Lemmas for C16 about the top-level machinery: include splicing, platform filtering and the alias
table.
-/
import KVerif.Model.CfgTree
namespace KVerif.CfgTree

/-! ### include -/

theorem expandIncludes_append (files : Files) (a b : List (List Tree)) :
    expandIncludes files (a ++ b) =
      match expandIncludes files a with
      | .error e => .error e
      | .ok ra => match expandIncludes files b with
        | .error e => .error e
        | .ok rb => .ok (ra ++ rb) := by
  induction a with
  | nil =>
    simp only [List.nil_append, expandIncludes]
    cases expandIncludes files b <;> rfl
  | cons item rest ih =>
    simp only [List.cons_append, expandIncludes]
    split
    · rfl
    · rename_i xs hxs
      rw [ih]
      cases expandIncludes files rest with
      | error e => rfl
      | ok ra =>
        cases expandIncludes files b with
        | error e => rfl
        | ok rb => simp

/-- items that are not `(include …)` pass through unchanged -/
theorem expandIncludes_noinclude (files : Files) (xs : List (List Tree))
    (h : ∀ i ∈ xs, headIs sInclude i = false) : expandIncludes files xs = .ok xs := by
  induction xs with
  | nil => rfl
  | cons item rest ih =>
    have h1 : headIs sInclude item = false := h item (by simp)
    have h2 : ∀ i ∈ rest, headIs sInclude i = false := fun i hi => h i (by simp [hi])
    simp [expandIncludes, h1, ih h2]

theorem expandIncludes_single (files : Files) (path : Str) (xs : List (List Tree))
    (hf : lookup (trimAtomQuotes path) files = some xs) :
    expandIncludes files [[.atom sInclude, .atom path]] = .ok xs := by
  simp [expandIncludes, headIs, hf]

/-! ### platform -/

theorem filterPlatform_append (cur : Str) (a b : List (List Tree)) :
    filterPlatform cur (a ++ b) =
      match filterPlatform cur a with
      | .error e => .error e
      | .ok ra => match filterPlatform cur b with
        | .error e => .error e
        | .ok rb => .ok (ra ++ rb) := by
  induction a with
  | nil =>
    simp only [List.nil_append, filterPlatform]
    cases filterPlatform cur b <;> rfl
  | cons item rest ih =>
    simp only [List.cons_append, filterPlatform]
    split
    · rfl
    · rw [ih]
      cases filterPlatform cur rest with
      | error e => rfl
      | ok ra =>
        cases filterPlatform cur b with
        | error e => rfl
        | ok rb => simp

/-- a list of valid platform names is accepted and returned as it is -/
theorem checkPlatformNames_ok (ps : List Str) (h : ∀ p ∈ ps, p ∈ validPlatforms) :
    checkPlatformNames (ps.map .atom) = .ok ps := by
  induction ps with
  | nil => rfl
  | cons p rest ih =>
    have h1 : p ∈ validPlatforms := h p (by simp)
    have h2 : ∀ q ∈ rest, q ∈ validPlatforms := fun q hq => h q (by simp [hq])
    simp [checkPlatformNames, h1, ih h2]

/-! ### aliases -/

theorem lookup_append {β} (k : Str) (l1 l2 : List (Str × β)) :
    lookup k (l1 ++ l2) = (lookup k l1).or (lookup k l2) := by
  induction l1 with
  | nil => rfl
  | cons p rest ih =>
    simp only [List.cons_append, lookup]
    split
    · rfl
    · exact ih

theorem lookup_append_left {β} (k : Str) (l1 l2 : List (Str × β)) (v : β)
    (h : lookup k l1 = some v) : lookup k (l1 ++ l2) = some v := by
  rw [lookup_append, h]; rfl

theorem lookup_append_right {β} (k : Str) (l1 l2 : List (Str × β))
    (h : lookup k l1 = none) : lookup k (l1 ++ l2) = lookup k l2 := by
  rw [lookup_append, h]; rfl

/-- a binding added at the end is found when the name is new, and does not disturb other names -/
theorem lookup_append_self {β} (n : Str) (t : List (Str × β)) (a : β) (h : lookup n t = none) :
    lookup n (t ++ [(n, a)]) = some a := by
  rw [lookup_append, h, lookup, if_pos rfl]; rfl

theorem lookup_append_other {β} {n k : Str} (t : List (Str × β)) (a : β) (h : ¬ n = k) :
    lookup k (t ++ [(n, a)]) = lookup k t := by
  rw [lookup_append, lookup, if_neg h, lookup, Option.or_none]

theorem lookup_isSome_append {β} (k : Str) (l1 l2 : List (Str × β)) :
    (lookup k (l1 ++ l2)).isSome = ((lookup k l1).isSome || (lookup k l2).isSome) := by
  rw [lookup_append, Option.isSome_or]

/-- `t1 ⊑ t2`: every binding of `t1` is a binding of `t2` -/
def SubTable {β} (t1 t2 : List (Str × β)) : Prop := ∀ k v, lookup k t1 = some v → lookup k t2 = some v

theorem SubTable.refl {β} (t : List (Str × β)) : SubTable t t := fun _ _ h => h

theorem SubTable.trans {β} {a b c : List (Str × β)} (h1 : SubTable a b) (h2 : SubTable b c) :
    SubTable a c := fun k v h => h2 k v (h1 k v h)

theorem SubTable.append_fresh {β} (t : List (Str × β)) (n : Str) (a : β) :
    SubTable t (t ++ [(n, a)]) := fun k v h => lookup_append_left k t _ v h

/-- The alias table only grows, and what it returns is determined pair by pair: after the pairs
`ps`, the table holds for each name the parse of its action *in the table as it was when the pair
was read*. -/
theorem parseAliasPairs_sub {α} (parse : List (Str × α) → Tree → Res α)
    (al : List (Str × α)) (ps : List Tree) (al' : List (Str × α))
    (h : parseAliasPairs parse al ps = .ok al') : SubTable al al' := by
  fun_induction parseAliasPairs parse al ps generalizing al' with
  | case1 al => cases h; exact SubTable.refl _
  | case2 => simp [rej] at h
  | case3 => simp [rej] at h
  | case4 al n e rest err hp => simp at h
  | case5 al n e rest a hp hdup => simp [rej] at h
  | case6 al n e rest a hp hdup ih =>
    exact SubTable.trans (SubTable.append_fresh al n a) (ih al' h)

/-- name/action pairs as they are written inside `(defalias …)` -/
def flatPairs : List (Str × Tree) → List Tree
  | [] => []
  | (n, e) :: rest => .atom n :: e :: flatPairs rest

theorem parseAliasPairs_flat_append {α} (parse : List (Str × α) → Tree → Res α)
    (ps : List (Str × Tree)) (al : List (Str × α)) (rest : List Tree) :
    parseAliasPairs parse al (flatPairs ps ++ rest) =
      match parseAliasPairs parse al (flatPairs ps) with
      | .error e => .error e
      | .ok al1 => parseAliasPairs parse al1 rest := by
  induction ps generalizing al with
  | nil => simp [flatPairs, parseAliasPairs]
  | cons p more ih =>
    obtain ⟨n, e⟩ := p
    simp only [flatPairs, List.cons_append, parseAliasPairs]
    cases parse al e with
    | error err => rfl
    | ok a =>
      simp only
      split
      · rfl
      · exact ih _

theorem inlineList_append (al : List (Str × Tree)) (a b : List Tree) :
    inlineList al (a ++ b) =
      match inlineList al a with
      | .error e => .error e
      | .ok ra => match inlineList al b with
        | .error e => .error e
        | .ok rb => .ok (ra ++ rb) := by
  induction a with
  | nil => simp only [List.nil_append, inlineList]; cases inlineList al b <;> rfl
  | cons t rest ih =>
    simp only [List.cons_append, inlineList]
    cases inlineTree al t with
    | error e => rfl
    | ok t' =>
      simp only [ih]
      cases inlineList al rest with
      | error e => rfl
      | ok ra => cases inlineList al b <;> simp

/-- replacing a subexpression by one with the same alias-resolved view does not change the view of
the whole -/
theorem inlineTree_congr (al : List (Str × Tree)) (t1 t2 : Tree)
    (h : inlineTree al t1 = inlineTree al t2) (c : Ctx) :
    inlineTree al (c.plug t1) = inlineTree al (c.plug t2) := by
  induction c with
  | hole => exact h
  | node pre c post ih =>
    simp only [Ctx.plug, inlineTree, inlineList_append, inlineList, ih]

theorem inlineTree_list_ok {al : List (Str × Tree)} {l : List Tree} {r : Tree} :
    inlineTree al (.list l) = .ok r ↔ ∃ l', inlineList al l = .ok l' ∧ r = .list l' := by
  rw [inlineTree]
  cases inlineList al l with
  | error e => simp
  | ok l' => simp [eq_comm]

theorem inlineList_cons_ok {al : List (Str × Tree)} {t : Tree} {rest r : List Tree} :
    inlineList al (t :: rest) = .ok r ↔
      ∃ t' r', inlineTree al t = .ok t' ∧ inlineList al rest = .ok r' ∧ r = t' :: r' := by
  rw [inlineList]
  cases inlineTree al t with
  | error e => simp
  | ok t' =>
    cases inlineList al rest with
    | error e => simp
    | ok r' => simp [eq_comm]

theorem aliasName?_eq_some (s n : Str) : aliasName? s = some n ↔ s = '@' :: n := by
  constructor
  · intro h
    unfold aliasName? at h
    split at h <;> cases h
    rfl
  · rintro rfl; rfl

mutual
  /-- The alias-resolved view only depends on the aliases the expression refers to: if `al2` binds
  each of them to what `al1` binds it to, a view under `al1` is the view under `al2`. -/
  theorem inlineTree_imp (al1 al2 : List (Str × Tree)) : ∀ (t r : Tree),
      (∀ m v, ('@' :: m) ∈ atomsOfTree t → lookup m al1 = some v → lookup m al2 = some v) →
      inlineTree al1 t = .ok r → inlineTree al2 t = .ok r
    | .atom s, r, hl, h => by
      simp only [inlineTree] at h ⊢
      cases hn : aliasName? s with
      | none => simp only [hn] at h ⊢; exact h
      | some m =>
        simp only [hn] at h ⊢
        cases hv : lookup m al1 with
        | none => simp only [hv] at h; cases h
        | some v =>
          have hm : ('@' :: m) ∈ atomsOfTree (.atom s) :=
            List.mem_singleton.mpr ((aliasName?_eq_some s m).mp hn).symm
          simp only [hv, hl m v hm hv] at h ⊢
          exact h
    | .list l, r, hl, h => by
      obtain ⟨l', h', rfl⟩ := inlineTree_list_ok.mp h
      exact inlineTree_list_ok.mpr ⟨l', inlineList_imp al1 al2 l l' hl h', rfl⟩
  theorem inlineList_imp (al1 al2 : List (Str × Tree)) : ∀ (l r : List Tree),
      (∀ m v, ('@' :: m) ∈ atomsOfList l → lookup m al1 = some v → lookup m al2 = some v) →
      inlineList al1 l = .ok r → inlineList al2 l = .ok r
    | [], r, _, h => h
    | t :: rest, r, hl, h => by
      obtain ⟨t', r', ht, hr, rfl⟩ := inlineList_cons_ok.mp h
      exact inlineList_cons_ok.mpr ⟨t', r',
        inlineTree_imp al1 al2 t t' (fun m v hm => hl m v (List.mem_append_left _ hm)) ht,
        inlineList_imp al1 al2 rest r' (fun m v hm => hl m v (List.mem_append_right _ hm)) hr, rfl⟩
end

theorem inlineTree_mono (al1 al2 : List (Str × Tree)) (hs : SubTable al1 al2) :
    ∀ (t r : Tree), inlineTree al1 t = .ok r → inlineTree al2 t = .ok r :=
  fun t r => inlineTree_imp al1 al2 t r fun m v _ => hs m v

theorem inlineList_mono (al1 al2 : List (Str × Tree)) (hs : SubTable al1 al2) :
      ∀ (l r : List Tree), inlineList al1 l = .ok r → inlineList al2 l = .ok r :=
  fun l r => inlineList_imp al1 al2 l r fun m v _ => hs m v

/-! ### the value of an alias; naming an action -/

/-- After all pairs are read, an alias holds the parse of its action *in the table as it was when
its pair was read*; later pairs cannot change it (a duplicate name is an error). -/
theorem parseAliasPairs_value {α} (parse : List (Str × α) → Tree → Res α)
    (ps : List (Str × Tree)) (n : Str) (e : Tree) (rest : List Tree) (al al' : List (Str × α))
    (h : parseAliasPairs parse al (flatPairs ps ++ .atom n :: e :: rest) = .ok al') :
    ∃ al1 a, parseAliasPairs parse al (flatPairs ps) = .ok al1 ∧ parse al1 e = .ok a ∧
      lookup n al1 = none ∧ lookup n al' = some a := by
  rw [parseAliasPairs_flat_append] at h
  split at h
  · cases h
  · next al1 h1 =>
    rw [parseAliasPairs] at h
    split at h
    · cases h
    · next a h2 =>
      split at h
      · cases h
      · next hdup =>
        have hnone : lookup n al1 = none := Option.not_isSome_iff_eq_none.mp hdup
        exact ⟨al1, a, h1, h2, hnone,
          parseAliasPairs_sub parse _ rest al' h n a (lookup_append_self n al1 a hnone)⟩

/-- the atom `s` occurs nowhere in the context -/
def Ctx.Avoids (s : Str) : Ctx → Prop
  | .hole => True
  | .node pre c post => (∀ t ∈ pre, s ∉ atomsOfTree t) ∧ c.Avoids s ∧ (∀ t ∈ post, s ∉ atomsOfTree t)

theorem atomsOfList_append (a b : List Tree) : atomsOfList (a ++ b) = atomsOfList a ++ atomsOfList b := by
  induction a with
  | nil => rfl
  | cons t rest ih => simp [atomsOfList, ih]

theorem mem_atomsOfList {s : Str} {l : List Tree} :
    s ∈ atomsOfList l ↔ ∃ t ∈ l, s ∈ atomsOfTree t := by
  induction l with
  | nil => simp [atomsOfList]
  | cons t rest ih => simp [atomsOfList, ih]

theorem not_mem_atomsOfList (s : Str) (l : List Tree) (h : ∀ t ∈ l, s ∉ atomsOfTree t) :
    s ∉ atomsOfList l :=
  fun hs => let ⟨t, ht, hst⟩ := mem_atomsOfList.mp hs; h t ht hst

theorem Ctx.Avoids.plug {s : Str} {c : Ctx} (hc : c.Avoids s) {e : Tree} (he : s ∉ atomsOfTree e) :
    s ∉ atomsOfTree (c.plug e) := by
  induction c with
  | hole => exact he
  | node pre c post ih =>
    obtain ⟨h1, h2, h3⟩ := hc
    simp only [Ctx.plug, atomsOfTree, atomsOfList_append, atomsOfList, List.mem_append, not_or]
    exact ⟨not_mem_atomsOfList s pre h1, ih h2, not_mem_atomsOfList s post h3⟩

/-- an alias nothing refers to can be removed from the table -/
theorem inlineTree_strengthen (al : List (Str × Tree)) (n : Str) (a : Tree) :
    ∀ (t r : Tree), ('@' :: n) ∉ atomsOfTree t → inlineTree (al ++ [(n, a)]) t = .ok r →
      inlineTree al t = .ok r :=
  fun t r hs => inlineTree_imp _ al t r fun m v hm h => by
    rwa [lookup_append_other al a fun e : n = m => hs (e ▸ hm)] at h

theorem inlineList_strengthen (al : List (Str × Tree)) (n : Str) (a : Tree) :
      ∀ (l r : List Tree), ('@' :: n) ∉ atomsOfList l → inlineList (al ++ [(n, a)]) l = .ok r →
        inlineList al l = .ok r :=
  fun l r hs => inlineList_imp _ al l r fun m v hm h => by
    rwa [lookup_append_other al a fun e : n = m => hs (e ▸ hm)] at h

end KVerif.CfgTree
