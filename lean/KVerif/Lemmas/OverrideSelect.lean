/-
C13 helper lemmas: the stateful `filter(..).last()` of `update_keys` as "first of the
longest matching overrides", and `Overrides::new` as grouping by key in table order.
-/
import KVerif.Lemmas.OverrideMask
namespace KVerif.Override

/-- What `Override::try_new` guarantees: `in_mod_oscs` holds modifiers only, the trigger key is not
a modifier. -/
def Override.WF (o : Override) : Prop := (∀ m ∈ o.inMods, isMod m = true) ∧ isMod o.inKey = false

/-- every input modifier of `o` is among the keys `pre` -/
def Override.modsIn (o : Override) (pre : List Nat) : Bool := o.inMods.all (pre.contains ·)

theorem Override.modsIn_iff (o : Override) (pre : List Nat) :
    o.modsIn pre = true ↔ ∀ m ∈ o.inMods, m ∈ pre := by
  simp [Override.modsIn]

/-- `selectLoop` without masks and without the crash outcome -/
def selectPure (pre : List Nat) : List Override → Nat → Option Override → Option Override
  | [], _, best => best
  | o :: rest, cur, best =>
    if o.modsIn pre then
      if o.inMods.length + 1 ≤ cur then selectPure pre rest cur best
      else selectPure pre rest (o.inMods.length + 1) (some o)
    else selectPure pre rest cur best

theorem getModMask_eq (o : Override) (h : ∀ m ∈ o.inMods, isMod m = true) :
    o.getModMask = .ok (modsOf o.inMods 0) := by
  rw [Override.getModMask, orMasks_eq, if_pos (List.all_eq_true.mpr h)]

theorem selectLoop_eq (pre : List Nat) (ovds : List Override) (hwf : ∀ o ∈ ovds, o.WF)
    (cur : Nat) (best : Option Override) :
    selectLoop (modsOf pre 0) ovds cur best = .ok (selectPure pre ovds cur best) := by
  induction ovds generalizing cur best with
  | nil => rfl
  | cons o rest ih =>
    have ⟨hw, hrest⟩ := List.forall_mem_cons.mp hwf
    have ih := ih hrest
    have hmatch : (modsOf o.inMods 0 &&& modsOf pre 0 = modsOf o.inMods 0) ↔ o.modsIn pre = true := by
      rw [mask_match_iff _ _ hw.1, o.modsIn_iff]
    rw [selectLoop, getModMask_eq o hw.1, selectPure]
    by_cases hm : o.modsIn pre = true
    · rw [if_pos hm]; simp only [if_pos (hmatch.mpr hm)]; split <;> exact ih _ _
    · rw [if_neg hm]; simp only [if_neg (mt hmatch.mp hm)]; exact ih _ _

/-- "`w` is the first of the longest overrides of `l` all of whose modifiers are in `pre`" -/
def FirstLongest (pre : List Nat) (l : List Override) (w : Override) : Prop :=
  ∃ l1 l2, l = l1 ++ w :: l2 ∧ w.modsIn pre = true ∧
    (∀ o ∈ l1, o.modsIn pre = true → o.inMods.length < w.inMods.length) ∧
    (∀ o ∈ l2, o.modsIn pre = true → o.inMods.length ≤ w.inMods.length)

theorem FirstLongest.head {pre : List Nat} {l : List Override} {w : Override}
    (hw : w.modsIn pre = true)
    (ha : ∀ o ∈ l, o.modsIn pre = true → o.inMods.length ≤ w.inMods.length) :
    FirstLongest pre (w :: l) w :=
  ⟨[], l, rfl, hw, nofun, ha⟩

theorem FirstLongest.cons {pre : List Nat} {l : List Override} {w o : Override}
    (h : FirstLongest pre l w) (ho : o.modsIn pre = true → o.inMods.length < w.inMods.length) :
    FirstLongest pre (o :: l) w :=
  have ⟨l1, l2, hl, hw, hb, ha⟩ := h
  ⟨o :: l1, l2, hl ▸ rfl, hw, List.forall_mem_cons.mpr ⟨ho, hb⟩, ha⟩

/-- Loop invariant of the selection: either nothing beat the running maximum `cur`, or the result
did and is the first of the longest. -/
theorem selectPure_spec (pre : List Nat) (l : List Override) (cur : Nat) (best : Option Override) :
    (selectPure pre l cur best = best ∧
        ∀ o ∈ l, o.modsIn pre = true → o.inMods.length + 1 ≤ cur) ∨
    (∃ w, selectPure pre l cur best = some w ∧ cur < w.inMods.length + 1 ∧ FirstLongest pre l w) := by
  induction l generalizing cur best with
  | nil => exact .inl ⟨rfl, nofun⟩
  | cons o rest ih =>
    by_cases htake : o.modsIn pre = true ∧ cur < o.inMods.length + 1
    · -- `o` is the running best from here on: it is the result unless a strictly longer one follows
      have hstep : selectPure pre (o :: rest) cur best =
          selectPure pre rest (o.inMods.length + 1) (some o) := by
        rw [selectPure, if_pos htake.1, if_neg (Nat.not_le.mpr htake.2)]
      rw [hstep]
      rcases ih (o.inMods.length + 1) (some o) with ⟨h1, h2⟩ | ⟨w, hs, hc, hfl⟩
      · exact .inr ⟨o, h1, htake.2,
          .head htake.1 fun o' ho' hm' => Nat.le_of_succ_le_succ (h2 o' ho' hm')⟩
      · exact .inr ⟨w, hs, Nat.lt_trans htake.2 hc, hfl.cons fun _ => Nat.lt_of_succ_lt_succ hc⟩
    · -- `o` is passed over: it does not match, or does not beat `cur`
      have hsmall : o.modsIn pre = true → o.inMods.length + 1 ≤ cur :=
        fun hm => Nat.not_lt.mp fun hlt => htake ⟨hm, hlt⟩
      have hstep : selectPure pre (o :: rest) cur best = selectPure pre rest cur best := by
        rw [selectPure]; split
        · rw [if_pos (hsmall ‹_›)]
        · rfl
      rw [hstep]
      rcases ih cur best with ⟨h1, h2⟩ | ⟨w, hs, hc, hfl⟩
      · exact .inl ⟨h1, List.forall_mem_cons.mpr ⟨hsmall, h2⟩⟩
      · exact .inr ⟨w, hs, hc, hfl.cons fun hm => by have := hsmall hm; omega⟩

/-- Two first-of-the-longest elements cannot stand one strictly before the other: the earlier one
would be both strictly shorter than and at least as long as the later one. -/
theorem FirstLongest.unique {pre : List Nat} {l : List Override} {w w' : Override}
    (h : FirstLongest pre l w) (h' : FirstLongest pre l w') : w = w' := by
  have aux : ∀ {w w' : Override} {l1 l2 l1' l2' m : List Override}, l1' = l1 ++ m →
      w :: l2 = m ++ w' :: l2' → w.modsIn pre = true → w'.modsIn pre = true →
      (∀ o ∈ l1', o.modsIn pre = true → o.inMods.length < w'.inMods.length) →
      (∀ o ∈ l2, o.modsIn pre = true → o.inMods.length ≤ w.inMods.length) → w = w' := by
    intro w w' l1 l2 l1' l2' m h1 h2 hw hw' hb' ha
    cases m with
    | nil => exact (List.cons.inj h2).1
    | cons x m' =>
      obtain ⟨rfl, h3⟩ := List.cons.inj (List.cons_append ▸ h2)
      have hlt := hb' w (by simp [h1]) hw
      have hle := ha w' (by simp [h3]) hw'
      omega
  obtain ⟨l1, l2, hl, hw, hb, ha⟩ := h
  obtain ⟨l1', l2', hl', hw', hb', ha'⟩ := h'
  rcases List.append_eq_append_iff.mp (hl ▸ hl') with ⟨m, h1, h2⟩ | ⟨m, h1, h2⟩
  · exact aux h1 h2 hw hw' hb' ha
  · exact (aux h1 h2 hw' hw hb ha').symm

/-- The selection started the way `update_keys` starts it. -/
theorem selectPure_some_iff (pre : List Nat) (l : List Override) (w : Override) :
    selectPure pre l 0 none = some w ↔ FirstLongest pre l w := by
  rcases selectPure_spec pre l 0 none with ⟨h1, h2⟩ | ⟨w', hs, _, hfl⟩
  · rw [h1]
    refine ⟨nofun, ?_⟩
    rintro ⟨l1, l2, hl, hw, _, _⟩
    have := h2 w (by simp [hl]) hw
    omega
  · rw [hs]
    exact ⟨fun h => Option.some.inj h ▸ hfl, fun h => congrArg some (hfl.unique h)⟩

theorem selectPure_none_iff (pre : List Nat) (l : List Override) :
    selectPure pre l 0 none = none ↔ ∀ o ∈ l, o.modsIn pre = false := by
  rcases selectPure_spec pre l 0 none with ⟨h1, h2⟩ | ⟨w', hs, _, l1, l2, hl, hw, _⟩
  · refine ⟨fun _ o ho => ?_, fun _ => h1⟩
    rw [← Bool.not_eq_true]
    intro hm
    have := h2 o ho hm
    omega
  · rw [hs]
    refine ⟨nofun, fun h => ?_⟩
    have := h w' (by simp [hl])
    rw [hw] at this; cases this

/-! ### `Overrides::new` -/

def groupOf (m : List (Nat × List Override)) (k : Nat) : List Override :=
  ((Overrides.mk m).get k).getD []

theorem groupOf_cons (k' : Nat) (v : List Override) (m : List (Nat × List Override)) (k : Nat) :
    groupOf ((k', v) :: m) k = if k' = k then v else groupOf m k := by
  unfold groupOf Overrides.get
  by_cases h : k' = k
  · rw [List.find?_cons_of_pos (by simpa using h), if_pos h]; rfl
  · rw [List.find?_cons_of_neg (by simpa using h), if_neg h]

theorem insertOvr_ne_nil (m : List (Nat × List Override)) (o : Override) : insertOvr m o ≠ [] := by
  cases m with
  | nil => exact List.cons_ne_nil _ _
  | cons e rest => rw [insertOvr]; split <;> exact List.cons_ne_nil _ _

theorem groupOf_insertOvr (m : List (Nat × List Override)) (o : Override) (k : Nat) :
    groupOf (insertOvr m o) k = groupOf m k ++ (if o.inKey = k then [o] else []) := by
  induction m with
  | nil => rw [insertOvr, groupOf_cons]; split <;> rfl
  | cons e rest ih =>
    obtain ⟨k', v⟩ := e
    rw [insertOvr]
    split
    · subst k'; simp only [groupOf_cons]; split <;> simp
    · rename_i hk
      simp only [groupOf_cons, ih]
      split
      · subst k'; simp [Ne.symm hk]
      · rfl

theorem groupOf_foldl (tbl : List Override) (m : List (Nat × List Override)) (k : Nat) :
    groupOf (tbl.foldl insertOvr m) k = groupOf m k ++ tbl.filter (fun o => o.inKey == k) := by
  induction tbl generalizing m with
  | nil => simp
  | cons o rest ih =>
    rw [List.foldl_cons, ih, groupOf_insertOvr, List.filter_cons, List.append_assoc]
    by_cases h : o.inKey = k <;> simp [h]

/-- **grouping**: the overrides of a key, in the order in which the configuration lists them. -/
theorem get_new (tbl : List Override) (k : Nat) :
    ((Overrides.new tbl).get k).getD [] = tbl.filter (fun o => o.inKey == k) :=
  groupOf_foldl tbl [] k

theorem isEmpty_new (tbl : List Override) : (Overrides.new tbl).isEmpty = tbl.isEmpty := by
  cases tbl with
  | nil => rfl
  | cons o rest =>
    have h := get_new (o :: rest) o.inKey
    unfold Overrides.isEmpty
    cases hb : (Overrides.new (o :: rest)).byOsc with
    | nil => simp [Overrides.get, hb] at h
    | cons _ _ => rfl

end KVerif.Override
