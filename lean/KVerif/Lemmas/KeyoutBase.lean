/-
The key-output walk of `Model/KeyOutputs.lean` as a fold: `add_key_output_from_action_to_key_pos`
does nothing but call `add_kc_output` on the key-producing leaves of the action, in order, so
`addOutputs` is `List.foldl addKc` over `possibleOutputs` (`addOutputs_eq_foldl`), and so is
`withOverrides` (`foldl_overrides_eq`). What the table holds, that it only grows and that a
second visit adds nothing are then facts about folding `addKc` over a list.
-/
import KVerif.Model.KeyOutputs
namespace KVerif.KO
open KVerif.L KVerif.K

theorem mem_addKc {outs : List Nat} {kc x : Nat} : x ∈ addKc outs kc ↔ x ∈ outs ∨ x = kc := by
  unfold addKc; split
  · next h => exact ⟨Or.inl, fun hx => hx.elim id (· ▸ List.contains_iff_mem.mp h)⟩
  · rw [List.mem_append, List.mem_singleton]

theorem addKc_of_mem (outs : List Nat) (kc : Nat) (h : kc ∈ outs) : addKc outs kc = outs :=
  if_pos (List.contains_iff_mem.mpr h)

theorem addKc_prefix (outs : List Nat) (kc : Nat) : outs <+: addKc outs kc := by
  unfold addKc; split
  · exact List.prefix_refl _
  · exact List.prefix_append _ _

theorem mem_foldl_addKc {ks : List Nat} : ∀ {outs : List Nat} {x : Nat},
    x ∈ ks.foldl addKc outs ↔ x ∈ outs ∨ x ∈ ks := by
  induction ks with
  | nil => simp
  | cons k rest ih => intro outs x; rw [List.foldl_cons, ih, mem_addKc, List.mem_cons, or_assoc]

theorem foldl_addKc_of_subset (ks : List Nat) : ∀ (outs : List Nat), (∀ x ∈ ks, x ∈ outs) → ks.foldl addKc outs = outs := by
  induction ks with
  | nil => intro outs _; rfl
  | cons k rest ih =>
    intro outs h
    rw [List.foldl_cons, addKc_of_mem outs k (h k List.mem_cons_self)]
    exact ih outs fun x hx => h x (List.mem_cons_of_mem _ hx)

theorem foldl_addKc_prefix (ks : List Nat) : ∀ (outs : List Nat), outs <+: ks.foldl addKc outs := by
  induction ks with
  | nil => intro outs; exact List.prefix_refl _
  | cons k rest ih => intro outs; exact (addKc_prefix outs k).trans (ih _)

mutual
  theorem addOutputs_eq_foldl (customs : List (List CAct)) (slot : Nat) : (a : Action) → (outs : List Nat) →
      addOutputs customs slot a outs = (possibleOutputs customs slot a).foldl addKc outs
    | .holdTap _ hold tap ta _ _, outs => by
      simp only [addOutputs, possibleOutputs, List.foldl_append, addOutputs_eq_foldl customs slot tap,
        addOutputs_eq_foldl customs slot hold, addOutputs_eq_foldl customs slot ta]
    | .oneShot a _ _, outs => by simp only [addOutputs, possibleOutputs, addOutputs_eq_foldl customs slot a]
    | .multipleActions acs, outs => by simp only [addOutputs, possibleOutputs, addOutputsL_eq_foldl customs slot acs]
    | .tapDance acs _ _, outs => by simp only [addOutputs, possibleOutputs, addOutputsL_eq_foldl customs slot acs]
    | .fork l r _, outs => by
      simp only [addOutputs, possibleOutputs, List.foldl_append, addOutputs_eq_foldl customs slot l,
        addOutputs_eq_foldl customs slot r]
    | .chords _ chs _, outs => by simp only [addOutputs, possibleOutputs, addOutputsC_eq_foldl customs slot chs]
    | .switch cases, outs => by simp only [addOutputs, possibleOutputs, addOutputsS_eq_foldl customs slot cases]
    | .keyCode _, _ | .multipleKeyCodes _, _ | .custom _, _ | .src, _
    | .noOp, _ | .trans, _ | .layer _, _ | .defaultLayer _, _ | .bufKeyCodes _, _
    | .sequence _, _ | .repeatableSequence _, _ | .cancelSequences, _
    | .releaseState _, _ | .oneShotIgnoreEventsTicks _, _ | .repeat, _ => rfl
  theorem addOutputsL_eq_foldl (customs : List (List CAct)) (slot : Nat) : (acs : List Action) → (outs : List Nat) →
      addOutputsL customs slot acs outs = (possibleOutputsL customs slot acs).foldl addKc outs
    | [], _ => rfl
    | a :: rest, outs => by
      simp only [addOutputsL, possibleOutputsL, List.foldl_append, addOutputs_eq_foldl customs slot a,
        addOutputsL_eq_foldl customs slot rest]
  theorem addOutputsC_eq_foldl (customs : List (List CAct)) (slot : Nat) : (chs : List (Nat × Action)) → (outs : List Nat) →
      addOutputsC customs slot chs outs = (possibleOutputsC customs slot chs).foldl addKc outs
    | [], _ => rfl
    | (_, a) :: rest, outs => by
      simp only [addOutputsC, possibleOutputsC, List.foldl_append, addOutputs_eq_foldl customs slot a,
        addOutputsC_eq_foldl customs slot rest]
  theorem addOutputsS_eq_foldl (customs : List (List CAct)) (slot : Nat) :
      (cs : List (List Nat × Action × Bool)) → (outs : List Nat) →
      addOutputsS customs slot cs outs = (possibleOutputsS customs slot cs).foldl addKc outs
    | [], _ => rfl
    | (_, a, _) :: rest, outs => by
      simp only [addOutputsS, possibleOutputsS, List.foldl_append, addOutputs_eq_foldl customs slot a,
        addOutputsS_eq_foldl customs slot rest]
end

theorem mem_addOutputs {customs : List (List CAct)} {slot : Nat} {a : Action} {outs : List Nat} {x : Nat} :
    x ∈ addOutputs customs slot a outs ↔ x ∈ outs ∨ x ∈ possibleOutputs customs slot a := by
  rw [addOutputs_eq_foldl]; exact mem_foldl_addKc

theorem foldl_overrides_eq (t : Override.Overrides) (base acc : List Nat) :
    base.foldl (fun outs c => (overrideOuts t c).foldl addKc (addKc outs c)) acc =
      (base.flatMap fun c => c :: overrideOuts t c).foldl addKc acc := by
  rw [List.foldl_flatMap]; rfl

theorem withOverrides_eq_foldl_addKc (t : Override.Overrides) (base : List Nat) :
    withOverrides t base = (base.flatMap fun c => c :: overrideOuts t c).foldl addKc [] :=
  foldl_overrides_eq t base []

theorem mem_withOverrides {t : Override.Overrides} {base : List Nat} {x : Nat} :
    x ∈ withOverrides t base ↔ x ∈ base ∨ ∃ c ∈ base, x ∈ overrideOuts t c := by
  simp only [withOverrides_eq_foldl_addKc, mem_foldl_addKc, List.not_mem_nil, false_or, List.mem_flatMap,
    List.mem_cons, and_or_left, exists_or, exists_eq_right']

theorem withOverrides_closed {t : Override.Overrides} {base : List Nat} {x : Nat} (h : x ∈ base) :
    x ∈ withOverrides t base ∧ ∀ o ∈ overrideOuts t x, o ∈ withOverrides t base :=
  ⟨mem_withOverrides.mpr (Or.inl h), fun _ ho => mem_withOverrides.mpr (Or.inr ⟨x, h, ho⟩)⟩

end KVerif.KO
