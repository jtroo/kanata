/-
C01 helper lemmas: quiescence with the features COMBINED in one configuration, stage 1:
plain keys, output chords, layer-while-held, transparent / unmapped positions, one-shot keys (all four
end variants, inner action one of the first three) AND tap-hold keys (every variant, any timeout and
tap-hold interval, hold / tap / timeout action one of the first three) side by side - home-row mods
next to a one-shot shift.

This file: the fragment, what a dequeued press does on it, the invariant `UInv` (every state belongs to
a key that is down, or whose release is deferred by an active one-shot key, or whose release is
queued; the same of the undecided tap-hold key) and the potential `uPot`.  The fragment is a part of
stage 3 (nesting, `QuiesceUnion3*.lean`), where ticks, events and runs are treated; that `UInv` itself
is kept by every history is in `QuiesceUnionTick.lean`.
-/
import KVerif.Lemmas.NoCrashFrag
namespace KVerif.QU
open KVerif.L KVerif.C06 KVerif.Quiesce

/-! ## the fragment -/

/-- **stage 1 of the union**: the one-shot fragment of C06 and the tap-hold fragment of C05 together -/
def Frag1 : Action → Prop
  | .noOp | .trans | .keyCode _ | .multipleKeyCodes _ | .layer _ => True
  | .oneShot inner _ _ => Simple inner
  | .holdTap _ hold tap to _ _ => Simple hold ∧ Simple tap ∧ Simple to
  | _ => False

def Cfg1 (c : LCfg) : Prop :=
  (∀ tbl ∈ c.layers, ∀ e ∈ tbl, Frag1 e.2) ∧ (∀ e ∈ c.srcKeys, Frag1 e.2)

/-- what a press on the fragment leaves alone (the waiting state, the queue, the one-shot state and
the key states are described separately) -/
structure FrameU (s s' : Layout) : Prop where
  extra : s'.extraWaiting = s.extraWaiting
  tde : s'.tapDanceEager = s.tapDanceEager
  aq : s'.actionQueue = s.actionQueue
  seqs : s'.activeSequences = s.activeSequences
  cfg : s'.cfg = s.cfg
  dl : s'.defaultLayer = s.defaultLayer

theorem FrameU.of_frame {s s' : Layout} (f : Frame s s') : FrameU s s' :=
  ⟨f.extra, f.tde, f.aq, f.seqs, f.cfg, f.dl⟩

theorem FrameU.trans {a b c : Layout} (h1 : FrameU a b) (h2 : FrameU b c) : FrameU a c :=
  ⟨h2.extra.trans h1.extra, h2.tde.trans h1.tde, h2.aq.trans h1.aq, h2.seqs.trans h1.seqs,
   h2.cfg.trans h1.cfg, h2.dl.trans h1.dl⟩

/-- the outcome of a press on the fragment: states are only added, at the pressed coordinate; the
one-shot state changes by `handle_press(Other)`, an activation (timeout at most `B`) or not at all,
and a one-shot key that falls out of the table of 16 has its release queued; either nothing waits
afterwards, or the pressed key is an undecided tap-hold key (countdown at most `T`, quick-tap window
at most `I`) -/
structure PressU (T I B : Nat) (c : Coord) (s s' : Layout) : Prop where
  frame : FrameU s s'
  adds : Adds c s s'
  osh : ∃ ov, OshOpT B s.oneshot c s'.oneshot ov ∧ s'.queue = s.queue ++ ovq ov
  wait : (s'.waiting = none ∧ s'.lptTapHoldTimeout ≤ s.lptTapHoldTimeout) ∨
    (∃ w, s'.waiting = some w ∧ w.coord = c ∧ WOK T w ∧ s'.lptTapHoldTimeout ≤ I)

theorem dispatch_U (fuel T I B : Nat) (s : Layout) (a : Action) (hf : Frag1 a)
    (hb : htT a ≤ T ∧ htI a ≤ I ∧ oshT a ≤ B) (c : Coord) (dl : Nat) (ls : List Nat) (s' : Layout) (cu : CustomEv)
    (hw : s.waiting = none) (hq : s.queue.length < QUEUE_SIZE)
    (h : dispatch (fuel + 3) s a c dl false ls = .ok (s', cu)) : cu = .noEvent ∧ PressU T I B c s s' := by
  have viaFrag : Frag a → cu = .noEvent ∧ PressU T I B c s s' := by
    intro hfa
    obtain ⟨r1, r2⟩ := dispatch_frag fuel s a hfa c dl ls s' cu hq h
    obtain ⟨r3, r4⟩ := dispatch_fragT fuel B s a hfa hb.2.2 c dl ls s' cu hq h
    exact ⟨r1, FrameU.of_frame r2.frame, r2.adds, r4, Or.inl ⟨r2.frame.waiting.trans hw, r3⟩⟩
  cases a <;> simp only [Frag1] at hf
  case noOp => exact viaFrag trivial
  case trans => exact viaFrag trivial
  case keyCode kc => exact viaFrag trivial
  case multipleKeyCodes kcs => exact viaFrag trivial
  case layer v => exact viaFrag trivial
  case oneShot inner T0 v => exact viaFrag hf
  case holdTap T0 hold tap to cfg iv =>
    simp only [htT, htI] at hb
    rw [dispatch_holdTap fuel s T0 hold tap to cfg iv c dl ls hf.2.1] at h
    split at h
    · split at h
      · cases h
      · injection h with h; injection h with h1 h2; subst h1
        obtain ⟨w, e1, e2, e3, e4, e5, e6, e7, e8, e9, e10, e11, e12, e13⟩ :=
          armHoldTapWait_spec s c dl T0 hold tap to cfg iv ls hw
        refine ⟨h2.symm, ⟨e13, e8.tde, e8.aq, e8.seqs, e8.cfg, e8.dl⟩, Adds.of_states e10,
          ⟨none, by rw [e11]; exact .skip, by rw [e9]; simp [ovq]⟩,
          Or.inr ⟨w, e1, e2, ⟨⟨cfg, e7⟩, e4 ▸ hf.1, e5 ▸ hf.2.1, e6 ▸ hf.2.2, Nat.le_trans e3 hb.1⟩, ?_⟩⟩
        rw [e12]; exact hb.2.1
    · injection h with h; injection h with h1 h2; subst h1
      obtain ⟨p1, p2, p3, p4⟩ := prelude_spec { s with lptTapHoldTimeout := 0 } c
      have sp := simpleArm_spec (prelude { s with lptTapHoldTimeout := 0 } c) tap hf.2.1 c false
      obtain ⟨u1, u2, u3, u4⟩ := updateCoord_spec (simpleArm (prelude { s with lptTapHoldTimeout := 0 } c) tap c false) c
      have fr : Frame { s with lptTapHoldTimeout := 0 }
          (updateCoord (simpleArm (prelude { s with lptTapHoldTimeout := 0 } c) tap c false) c) :=
        (p1.trans sp.frame).trans u1
      refine ⟨h2.symm, ⟨fr.extra, fr.tde, fr.aq, fr.seqs, fr.cfg, fr.dl⟩, ?_, ⟨none, ?_, ?_⟩, Or.inl ⟨?_, ?_⟩⟩
      · exact (((Adds.of_states (c := c) (s := s) (s' := { s with lptTapHoldTimeout := 0 }) rfl).trans
          (prelude_adds _ c)).trans sp.adds).trans (Adds.of_states u4)
      · rw [u2, sp.osh, p2]
        simp only [Bool.false_eq_true, if_false]
        exact .other
      · rw [u3, sp.queue, p3]; simp [ovq]
      · rw [fr.waiting]; exact hw
      · rw [updateCoord_lpt, simpleArm_lpt]
        exact Nat.le_trans (prelude_lpt _ c) (Nat.zero_le _)

/-- every action of the configuration is in the fragment and within the bounds -/
def BoundU (c : LCfg) (T I B : Nat) : Prop := HBound c T I ∧ OshBound c B

/-- **a press taken from the queue, nothing waiting** -/
theorem dequeue_press_U {T I B : Nat} {s : Layout} (hc : Cfg1 s.cfg) (hb : BoundU s.cfg T I B)
    (htde : s.tapDanceEager = none) (hw : s.waiting = none) (hq : s.queue.length < QUEUE_SIZE)
    (c : Coord) (since : Nat) (s' : Layout) (cu : CustomEv)
    (hd : dequeue FUEL s ⟨.press c, since⟩ = .ok (s', cu)) : cu = .noEvent ∧ PressU T I B c s s' := by
  rw [FUEL_5] at hd
  simp only [dequeue, htde, bind, Except.bind] at hd
  split at hd
  · cases hd
  · rename_i order ho
    simp only [doAction] at hd
    split at hd
    · cases hd
    · rename_i a ls hm
      have hfa := resolve_pred (fun a => Frag1 a ∧ htT a ≤ T ∧ htI a ≤ I ∧ oshT a ≤ B)
        ⟨trivial, Nat.zero_le _, Nat.zero_le _, Nat.zero_le _⟩ ⟨trivial, Nat.zero_le _, Nat.zero_le _, Nat.zero_le _⟩ s c
        (fun tbl ht e he => ⟨hc.1 tbl ht e he, (hb.1.1 tbl ht e he).1, (hb.1.1 tbl ht e he).2, hb.2.1 tbl ht e he⟩)
        (fun e he => ⟨hc.2 e he, (hb.1.2 e he).1, (hb.1.2 e he).2, hb.2.2 e he⟩) _ _ _ hm
      obtain ⟨p1, p2, p3, p4⟩ := prelude_spec s c
      obtain ⟨r1, r2⟩ := dispatch_U 3995 T I B (prelude s c) a hfa.1 hfa.2 c since ls s' cu
        (p1.waiting.trans hw) (by rw [p3]; exact hq) hd
      refine ⟨r1, (FrameU.of_frame p1).trans r2.frame, (prelude_adds s c).trans r2.adds, ?_, ?_⟩
      · obtain ⟨ov, q1, q2⟩ := r2.osh
        exact ⟨ov, by rw [p2] at q1; exact q1, by rw [q2, p3]⟩
      · rcases r2.wait with ⟨g1, g2⟩ | g
        · exact Or.inl ⟨g1, Nat.le_trans g2 (prelude_lpt s c)⟩
        · exact Or.inr g

/-! ## the invariant and the potential -/

/-- **the invariant of the combined fragment** (relative to the keys that are physically `down`) -/
structure UInv (T I B d : Nat) (s : Layout) (down : List Coord) : Prop where
  extra : s.extraWaiting = []
  tde : s.tapDanceEager = none
  aq : s.actionQueue = []
  seqs : s.activeSequences = []
  states : ∀ st ∈ s.states, StOK st
  ignore : s.oneshot.ticksToIgnoreEvents = 0
  delay : s.oneshot.pauseInputProcessingDelay = d
  pause : s.oneshot.pauseInputProcessingTicks ≤ d
  load : oshLoad s.oneshot ≤ B + 1
  /-- the undecided tap-hold key: well-formed, and the key is down or its release is queued -/
  wok : ∀ w, s.waiting = some w → WOK T w ∧ (w.coord ∈ down ∨ ∃ x ∈ s.queue, x.ev = .release w.coord)
  cfg : Cfg1 s.cfg
  bound : BoundU s.cfg T I B
  qlen : s.queue.length ≤ QUEUE_SIZE
  qwf : QWF down s.queue
  /-- with no one-shot key active nothing is deferred and no release is requested -/
  idle : s.oneshot.keys = [] → s.oneshot.releasedKeys = [] ∧ s.oneshot.releaseOnNextTick = false
  /-- **no state is stranded**: the key is down, or its release is deferred by an active one-shot key,
  or its release is queued -/
  owned : ∀ st ∈ s.states, ∀ c, st.coord = some c →
    c ∈ down ∨ c ∈ s.oneshot.releasedKeys ∨ ∃ x ∈ s.queue, x.ev = .release c
  lpt : s.lptTapHoldTimeout ≤ I

/-- a freshly created layout satisfies the invariant -/
theorem init_uinv (cfg : LCfg) (hc : Cfg1 cfg) (T I B : Nat) (hb : BoundU cfg T I B) (tv2 dfl qth : Bool) (osd : Nat) :
    UInv T I B osd ({ cfg := cfg, transV2 := tv2, delegateToFirstLayer := dfl, quickTapHoldTimeout := qth,
                      oneshot := { pauseInputProcessingDelay := osd } } : Layout) [] :=
  ⟨rfl, rfl, rfl, rfl, fun _ h => (by cases h), rfl, rfl, Nat.zero_le _, Nat.zero_le _, fun _ h => (by cases h), hc, hb,
   Nat.zero_le _, trivial, fun _ => ⟨rfl, rfl⟩, fun _ h => (by cases h), Nat.zero_le _⟩

/-- weight of a queued press: it may start a tap-hold countdown (`T`, the decision tick and the pause
`d` after the decision), or an input pause `d`, a quick-tap window `I`, a one-shot countdown
(`B + 1`), and queue the release of a one-shot key that falls out of the table -/
def pressW (T I B d : Nat) : Nat := T + 2 * d + I + B + 2

/-- an upper bound for the ticks until the layout is at rest -/
def uPot (T I B d : Nat) (s : Layout) : Nat :=
  queueLoad (pressW T I B d) s.queue + wLoad d s.waiting + s.oneshot.pauseInputProcessingTicks +
    s.lptTapHoldTimeout + oshLoad s.oneshot

theorem uPot_eq (T I B d : Nat) (s : Layout) :
    uPot T I B d s = queueLoad (pressW T I B d) s.queue + wLoad d s.waiting + s.oneshot.pauseInputProcessingTicks +
      s.lptTapHoldTimeout + oshLoad s.oneshot := rfl

end KVerif.QU
