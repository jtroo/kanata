/-
Lemmas about the text buffer (how the event sequences zippychord emits act on it) and about the
sorted key set (`sortedInsert`).
-/
import KVerif.Model.ZippySpec
namespace KVerif.Zippy
open KVerif.TextBuf

/-! ### Buffer basics -/

theorem run_nil (b : Buf) : b.run [] = b := rfl

theorem run_cons (b : Buf) (e : OsEv) (es : List OsEv) : b.run (e :: es) = (b.step e).run es := rfl

theorem run_append (b : Buf) (e1 e2 : List OsEv) : b.run (e1 ++ e2) = (b.run e1).run e2 := by
  simp [Buf.run, List.foldl_append]

/-- A key that writes or deletes a character: not one of the tracked or untracked modifiers. -/
def CharKey (k : Nat) : Prop :=
  k ≠ KEY_LEFTSHIFT ∧ k ≠ KEY_RIGHTSHIFT ∧ k ≠ KEY_RIGHTALT ∧ otherMods.contains k = false

theorem step_down_char (b : Buf) (k : Nat) (h : CharKey k) :
    b.step (.down k) = { b with rtext := stroke b.rtext k (b.lsft || b.rsft) b.ralt } := by
  obtain ⟨h1, h2, h3, h4⟩ := h
  simp only [Buf.step, h1, h2, h3, h4, if_false]
  simp

theorem step_up_char (b : Buf) (k : Nat) (h : CharKey k) : b.step (.up k) = b := by
  obtain ⟨h1, h2, h3, _⟩ := h
  simp [Buf.step, h1, h2, h3]

theorem charKey_backspace : CharKey KEY_BACKSPACE := by unfold CharKey; decide
theorem charKey_space : CharKey KEY_SPACE := by unfold CharKey; decide

/-- Both forms of `type_osc` are one keystroke. -/
theorem run_typeOsc (b : Buf) (ik : List Nat) (k : Nat) (h : CharKey k) :
    b.run (typeOsc ik k) = { b with rtext := stroke b.rtext k (b.lsft || b.rsft) b.ralt } := by
  unfold typeOsc
  by_cases hc : ik.contains k = true
  · rw [if_pos hc]
    simp only [run_cons, run_nil, step_up_char b k h, step_down_char b k h]
  · rw [if_neg hc]
    simp only [run_cons, run_nil, step_down_char b k h]
    rw [step_up_char _ k h]

theorem run_bspc (b : Buf) : b.run bspc = { b with rtext := b.rtext.tail } := by
  simp only [bspc, run_cons, run_nil, step_down_char b _ charKey_backspace]
  rw [step_up_char _ _ charKey_backspace]
  simp [stroke]

theorem run_bspcs (b : Buf) (n : Nat) : b.run (bspcs n) = { b with rtext := b.rtext.drop n } := by
  induction n generalizing b with
  | zero => simp [bspcs, run_nil]
  | succ n ih =>
    simp only [bspcs, run_append, run_bspc, ih]
    cases b with
    | mk rt l r a =>
      simp only [Buf.mk.injEq, and_true]
      cases rt <;> simp

theorem run_space (b : Buf) :
    b.run [.down KEY_SPACE, .up KEY_SPACE] = { b with rtext := stroke b.rtext KEY_SPACE false false } := by
  simp only [run_cons, run_nil, step_down_char b _ charKey_space]
  rw [step_up_char _ _ charKey_space]
  simp [stroke, mkCh]

/-! ### Sorted key sets -/

theorem mem_sortedInsert (k x : Nat) (l : List Nat) : x ∈ sortedInsert k l ↔ x = k ∨ x ∈ l := by
  induction l with
  | nil => simp [sortedInsert]
  | cons a r ih =>
    unfold sortedInsert
    by_cases h1 : k < a
    · rw [if_pos h1]; simp
    · rw [if_neg h1]
      by_cases h2 : k = a
      · subst h2; rw [if_pos rfl]; simp
      · rw [if_neg h2]
        simp only [List.mem_cons, ih]
        exact or_left_comm

/-- strictly increasing -/
def StrictSorted (l : List Nat) : Prop := l.Pairwise (· < ·)

theorem strictSorted_sortedInsert (k : Nat) (l : List Nat) (h : StrictSorted l) :
    StrictSorted (sortedInsert k l) := by
  induction l with
  | nil => simp [sortedInsert, StrictSorted]
  | cons a r ih =>
    unfold sortedInsert
    have hr : StrictSorted r := (List.pairwise_cons.mp h).2
    have ha : ∀ x ∈ r, a < x := (List.pairwise_cons.mp h).1
    by_cases h1 : k < a
    · rw [if_pos h1]
      refine List.pairwise_cons.mpr ⟨?_, h⟩
      intro x hx
      rcases List.mem_cons.mp hx with hx | hx
      · subst hx; exact h1
      · exact Nat.lt_trans h1 (ha x hx)
    · rw [if_neg h1]
      by_cases h2 : k = a
      · rw [if_pos h2]; exact h
      · rw [if_neg h2]
        refine List.pairwise_cons.mpr ⟨?_, ih hr⟩
        intro x hx
        rcases (mem_sortedInsert k x r).mp hx with hx | hx
        · subst hx; omega
        · exact ha x hx

theorem strictSorted_chordKey_aux (cs acc : List Nat) (h : StrictSorted acc) :
    StrictSorted (cs.foldl (fun acc k => sortedInsert k acc) acc) := by
  induction cs generalizing acc with
  | nil => exact h
  | cons a r ih => exact ih _ (strictSorted_sortedInsert a acc h)

theorem strictSorted_chordKey (cs : List Nat) : StrictSorted (chordKey cs) :=
  strictSorted_chordKey_aux cs [] List.Pairwise.nil

theorem mem_chordKey_aux (cs acc : List Nat) (x : Nat) :
    x ∈ cs.foldl (fun acc k => sortedInsert k acc) acc ↔ x ∈ cs ∨ x ∈ acc := by
  induction cs generalizing acc with
  | nil => simp
  | cons a r ih =>
    simp only [List.foldl_cons, ih, mem_sortedInsert, List.mem_cons]
    rw [or_left_comm, or_assoc]

theorem mem_chordKey (cs : List Nat) (x : Nat) : x ∈ chordKey cs ↔ x ∈ cs := by
  simp [chordKey, mem_chordKey_aux]

/-- Two strictly increasing lists with the same members are equal. -/
theorem strictSorted_ext (l1 l2 : List Nat) (h1 : StrictSorted l1) (h2 : StrictSorted l2)
    (hm : ∀ x, x ∈ l1 ↔ x ∈ l2) : l1 = l2 :=
  List.Perm.eq_of_pairwise (fun _ _ _ _ hab hba => absurd hab (Nat.lt_asymm hba)) h1 h2
    ((List.perm_ext_iff_of_nodup (h1.imp Nat.ne_of_lt) (h2.imp Nat.ne_of_lt)).mpr hm)

theorem chordKey_append_single (cs : List Nat) (k : Nat) :
    chordKey (cs ++ [k]) = sortedInsert k (chordKey cs) := by
  simp [chordKey, List.foldl_append]

end KVerif.Zippy
