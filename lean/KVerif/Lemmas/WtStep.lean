/-
Everything `tick_wt` can do, as one relation: a constructor per kind of waiting state and outcome, each
carrying the condition on the queue under which it happens and the result in closed form.  Invariant proofs
over all kinds of waiting state go by cases on `wtStep` and never unfold `tickWt`, `handleTapDance` or
`handleChord`.
-/
import KVerif.Lemmas.TapDance
import KVerif.Lemmas.ChordTick
import KVerif.Lemmas.TapHold
namespace KVerif.L
open KVerif.C09 (ticked chordActive keptQueue pressedQueue scanRest releasedBy)
open KVerif.C17 (cd decidesOn tdCount tdNext)

inductive WtStep (w : Waiting) (q : List Queued) (aq : ActionQueue) :
    Except Crash (Waiting × List Queued × ActionQueue × Option (WAct × Option (List Coord))) → Prop
  /-- a tap-hold key: `C05.htStep`, queue and action queue untouched -/
  | holdTap (h : C05.isHT w = true) :
      WtStep w q aq (.ok ((C05.htStep w q).1, q, aq, (C05.htStep w q).2.map (·, none)))
  | danceOn {acts : List Action} {T k : Nat} (hc : w.config = .tapDance acts T k)
      (hd : decidesOn (cd w) acts.length k q = none) :
      WtStep w q aq (.ok (tdNext (cd w) acts T (tdCount (cd w) k q) k q.length, q, aq, none))
  | danceEnds {acts : List Action} {T k n : Nat} {a : Action} (hc : w.config = .tapDance acts T k)
      (hd : decidesOn (cd w) acts.length k q = some n) (ha : tdPick acts n = some a) :
      WtStep w q aq (.ok ({ tdNext (cd w) acts T n k (evictTaps w n q).length with tap := a }, evictTaps w n q, aq,
        some (.tap, none)))
  /-- `tds.actions[idx]` on an empty list -/
  | danceEmpty {T k n : Nat} (hc : w.config = .tapDance [] T k) (hd : decidesOn (cd w) 0 k q = some n) :
      WtStep w q aq (.error (.indexOOB "tap-dance actions"))
  /-- a chord still open: time is left, and no stop event was seen or the keys pressed so far are ambiguous -/
  | chordOn {g : ChordsGroup} (hc : w.config = .chord g) (p : Nat) (ht : 0 < (ticked w).timeout - (ticked w).delay) :
      WtStep w q aq (.ok ({ ticked w with prevQueueLen := p }, q, aq, none))
  /-- the chord of the keys pressed fires, at the first key or at the group key whose release stopped the scan -/
  | chordFires {g : ChordsGroup} {a : Action} {c : Coord} (hc : w.config = .chord g)
      (hm : (chordActive (ticked w) g q, a) ∈ g.chords)
      (hco : c = w.coord ∨ releasedBy g (scanRest (ticked w) g q) = some c) :
      WtStep w q aq (.ok ({ ticked w with prevQueueLen := q.length % 256, coord := c, tap := a },
        keptQueue (ticked w) g q, aq, some (.tap, some (pressedQueue (ticked w) g q))))
  | chordSplits {g : ChordsGroup} (hc : w.config = .chord g) (hg : g.getChord (chordActive (ticked w) g q) = none) :
      WtStep w q aq (.ok ({ ticked w with prevQueueLen := q.length % 256, tap := .noOp }, keptQueue (ticked w) g q,
        decomposeChord { ticked w with prevQueueLen := q.length % 256 } g q aq,
        some (.noOp, some (pressedQueue (ticked w) g q))))

theorem wtStep (w : Waiting) (q : List Queued) (aq : ActionQueue) : WtStep w q aq (tickWt w q aq) := by
  cases hc : w.config with
  | holdTap c =>
    have h : C05.isHT w = true := by unfold C05.isHT; rw [hc]
    rw [C05.tickWt_isHT w h]
    exact .holdTap h
  | tapDance acts T k =>
    rw [C17.tickWt_td w acts T k hc, C17.tickWtTd_eq]
    cases hd : decidesOn (cd w) acts.length k q with
    | none => exact .danceOn hc hd
    | some n =>
      simp only [C17.tdDecide]
      cases ha : tdPick acts n with
      | none =>
        obtain rfl := (C17.tdPick_none_iff acts n).mp ha
        exact .danceEmpty hc hd
      | some a =>
        simp only [C17.evictTaps_coord_congr (show (cd w).coord = w.coord from rfl)]
        exact .danceEnds hc hd ha
  | chord g =>
    rw [C09.tickWt_chord w g hc, C09.handleChord_closed]
    by_cases hf : C09.fastPath (ticked w) q = true
    · rw [if_pos hf]
      exact .chordOn hc _ (of_decide_eq_true (Bool.and_eq_true_iff.mp hf).2)
    · rw [if_neg hf]
      by_cases hopen : ((scanRest (ticked w) g q).isEmpty && !((ticked w).timeout - (ticked w).delay == 0)) = true
      · rw [if_pos hopen]
        cases hg : g.getChordIfUnambiguous (chordActive (ticked w) g q) with
        | none => exact .chordOn hc _ (Nat.pos_of_ne_zero fun h0 => by simp [h0] at hopen)
        | some a => exact .chordFires (c := w.coord) hc (C09.unambiguous_mem g _ a hg) (.inl rfl)
      · rw [if_neg hopen]
        cases hg : g.getChord (chordActive (ticked w) g q) with
        | none => exact .chordSplits hc hg
        | some a =>
          cases hr : releasedBy g (scanRest (ticked w) g q) with
          | none => exact .chordFires (c := w.coord) hc (C09.getChord_mem g _ a hg) (.inl rfl)
          | some c => exact .chordFires hc (C09.getChord_mem g _ a hg) (.inr hr)

/-- what no step touches, whatever the kind of waiting state; the queue only loses entries -/
theorem tickWt_keeps {w w' : Waiting} {q q' : List Queued} {aq aq' : ActionQueue} {r : Option (WAct × Option (List Coord))}
    (h : tickWt w q aq = .ok (w', q', aq', r)) :
    w'.hold = w.hold ∧ w'.timeoutAction = w.timeoutAction ∧ w'.layerStack = w.layerStack ∧ w'.delay = w.delay ∧
    w'.ticks = min (w.ticks + 1) U16_MAX ∧ q'.Sublist q := by
  cases h ▸ wtStep w q aq with
  | holdTap =>
    have c := C05.htStep_counted w q
    exact ⟨c.hold, c.timeoutAction, c.layerStack, c.delay, c.ticks, .refl _⟩
  | danceOn | chordOn => exact ⟨rfl, rfl, rfl, rfl, rfl, .refl _⟩
  | danceEnds => exact ⟨rfl, rfl, rfl, rfl, rfl, C17.evictTaps_sublist ..⟩
  | chordFires | chordSplits => exact ⟨rfl, rfl, rfl, rfl, rfl, C09.keptQueue_sublist ..⟩

/-- a step without a decision leaves the queue and the action queue alone, and the key where and what it was -/
theorem tickWt_undecided {w w' : Waiting} {q q' : List Queued} {aq aq' : ActionQueue}
    (h : tickWt w q aq = .ok (w', q', aq', none)) : q' = q ∧ aq' = aq ∧ w'.coord = w.coord ∧ w'.tap = w.tap := by
  generalize hres : tickWt w q aq = res at h
  cases hres ▸ wtStep w q aq with
  | holdTap =>
    simp only [Except.ok.injEq, Prod.mk.injEq] at h
    obtain ⟨rfl, rfl, rfl, _⟩ := h
    exact ⟨rfl, rfl, (C05.htStep_counted w q).coord, (C05.htStep_counted w q).tap⟩
  | danceOn | chordOn => cases h; exact ⟨rfl, rfl, rfl, rfl⟩
  | danceEnds | danceEmpty | chordFires | chordSplits => cases h

end KVerif.L
