/-
Helper lemmas for C12, runtime part continued: whole typing histories on tables of plain keys.
-/
import KVerif.Lemmas.SeqRun
namespace KVerif.Seq

/-- One key press on plain input, by the outcome of the automaton `absKey`. -/
theorem key_step {t : Trie Nat} (hp : PlainTrie t) (mc : Bool) (e : Eng) {k : Nat}
    (hk : plainKey k = true) (hs : ∀ x ∈ e.st.sequence, x < 1024) :
    match absKey t.entries e.st.sequence k with
    | .continues w => ∃ ovl, doSeqPress t mc e k 0 =
        { pressBase e k with st := { (pressBase e k).st with sequence := w, overlapped := ovl } }
    | .failed => ∃ ovl, doSeqPress t mc e k 0 = cancelSequence
        { pressBase e k with st := { (pressBase e k).st with sequence := [], overlapped := ovl } }
    | .fired j w => ∃ ovl b, (b = true → ovl = w) ∧ doSeqPress t mc e k 0 = terminate
        { pressBase e k with st := { (pressBase e k).st with sequence := w, overlapped := ovl } } j b := by
  have hn := plainTrie_noOvl hp
  have hs0 : ∀ x ∈ e.st.sequence ++ [k], x < 1024 :=
    List.forall_mem_append.2 ⟨hs, fun x hx => List.mem_singleton.1 hx ▸ plainKey_lt hk⟩
  -- the closed form; the backtracking loop changes nothing in a word of key codes, so the standard
  -- variant settles on the word itself or on nothing
  rw [doSeqPress_closed (plainTrie_no_empty hp) mc e k 0 (markerDead_of_noOvl hn _)
    (noOvl_absent hn (or_marker_ovl _))]
  simp only [pushedOf, plainKey_normalise hk, Nat.or_zero, stdSettle_plain t mc hs0, btForm_plain mc _ 0 hs0]
  unfold absKey
  cases hv : viable t.entries (e.st.sequence ++ [k]) with
  | true =>
    have hne : (e.st.sequence ++ [k]).isEmpty = false := by simp
    simp only [lvs_of_viable _ _ hv, hne, Bool.false_eq_true, if_false, if_true]
    cases lookupKey t.entries (e.st.sequence ++ [k]) with
    | none => exact ⟨_, rfl⟩
    | some j => exact ⟨_, true, fun _ => rfl, rfl⟩
  | false =>
    simp only [Bool.false_eq_true, if_false]
    cases lvs t.entries (e.st.sequence ++ [k]) with
    | nil => exact ⟨_, rfl⟩
    | cons x w' =>
      simp only [List.isEmpty_cons, Bool.false_eq_true, if_false]
      cases lookupKey t.entries (x :: w') with
      | none => exact ⟨_, rfl⟩
      | some j => exact ⟨_, false, (fun h => nomatch h), rfl⟩

theorem plainKey_not_ignored {k : Nat} (hk : plainKey k = true) : isIgnored k = false := by
  simp only [plainKey, Bool.and_eq_true, Bool.not_eq_true'] at hk
  exact hk.1.2

theorem osPress_plain {k : Nat} (hk : plainKey k = true) : osPress k = [Out.down k] := by
  simp [osPress, plainKey_not_ignored hk]

theorem osRelease_plain {k : Nat} (hk : plainKey k = true) : osRelease k = [Out.up k] := by
  simp [osRelease, plainKey_not_ignored hk]

theorem pressBase_fields (e : Eng) {k : Nat} (hk : plainKey k = true) :
    (pressBase e k).st.active = e.st.active ∧ (pressBase e k).taps = e.taps ∧
    (pressBase e k).states = e.states ∧ (pressBase e k).st.rawOscs = e.st.rawOscs ++ [k] ∧
    (pressBase e k).st.mode = e.st.mode ∧ (pressBase e k).st.timeout = e.st.timeout ∧
    (pressBase e k).st.noerase = e.st.noerase ∧ (pressBase e k).st.ticksUntilTimeout = e.st.timeout ∧
    (pressBase e k).out = e.out ++ (if e.st.mode = .visibleBackspaced then [Out.down k] else []) := by
  unfold pressBase
  cases h : e.st.mode <;> simp [osPress_plain hk]

/-- a key that completes a defined sequence taps its virtual key and ends sequence mode; the hidden
modes emit nothing, visible-backspaced shows the key and then erases the sequence -/
theorem key_fires {t : Trie Nat} (hp : PlainTrie t) (mc : Bool) (e : Eng) {k j : Nat} {w : Key}
    (hk : plainKey k = true) (hs : ∀ x ∈ e.st.sequence, x < 1024)
    (hab : absKey t.entries e.st.sequence k = .fired j w) :
    (doSeqPress t mc e k 0).st.active = false ∧ (doSeqPress t mc e k 0).taps = e.taps ++ [j] ∧
    (e.st.mode ≠ .visibleBackspaced → (doSeqPress t mc e k 0).out = e.out) ∧
    (e.st.mode = .visibleBackspaced → ∃ rel : List Nat, (doSeqPress t mc e k 0).out =
      e.out ++ [Out.down k] ++ rel.flatMap osRelease ++
        (List.replicate (charCount w - e.st.noerase) [Out.down KC_BSPACE, Out.up KC_BSPACE]).flatten) := by
  have hks := key_step hp mc e hk hs
  rw [hab] at hks
  obtain ⟨ovl, b, hbo, hd⟩ := hks
  have hout := (pressBase_fields e hk).2.2.2.2.2.2.2.2
  rw [hd]
  refine ⟨(terminate_fields _ j b).1, (terminate_fields _ j b).2.1, fun hm => ?_, fun hm => ?_⟩
  · rw [(terminate_fields _ j b).2.2.2 (by exact hm)]
    simpa [hm] using hout
  · obtain ⟨rel, hrel⟩ := terminate_visible_out
      { pressBase e k with st := { (pressBase e k).st with sequence := w, overlapped := ovl } } j b hm
    have hw : (if b = true then ovl else w) = w := by
      cases b with
      | true => exact hbo rfl
      | false => rfl
    exact ⟨rel, hrel.trans (by dsimp only; rw [hw, hout, if_pos hm]; rfl)⟩

/-- a key press that cancels the sequence taps nothing; hidden-delay-type then types the raw keys,
visible-backspaced has shown this key like the others -/
theorem cancelled_press (e : Eng) {k : Nat} (hk : plainKey k = true) (ovl : Key) {e' : Eng}
    (hd : e' = cancelSequence
      { pressBase e k with st := { (pressBase e k).st with sequence := [], overlapped := ovl } }) :
    e'.st.active = false ∧ e'.taps = e.taps ∧
    e'.out = e.out ++
      (match e.st.mode with
       | .hiddenSuppressed => []
       | .hiddenDelayType => (e.st.rawOscs ++ [k]).flatMap (fun x => osPress x ++ osRelease x)
       | .visibleBackspaced => [Out.down k]) := by
  have cf := cancelSequence_fields
    { pressBase e k with st := { (pressBase e k).st with sequence := [], overlapped := ovl } }
  rw [hd]
  refine ⟨cf.1, cf.2.1, cf.2.2.2.2.trans ?_⟩
  cases hm : e.st.mode <;> simp [pressBase, hm, osPress_plain hk]

theorem key_fails {t : Trie Nat} (hp : PlainTrie t) (mc : Bool) (e : Eng) {k : Nat}
    (hk : plainKey k = true) (hs : ∀ x ∈ e.st.sequence, x < 1024)
    (hab : absKey t.entries e.st.sequence k = .failed) :
    (doSeqPress t mc e k 0).st.active = false ∧ (doSeqPress t mc e k 0).taps = e.taps ∧
    (doSeqPress t mc e k 0).out = e.out ++
      (match e.st.mode with
       | .hiddenSuppressed => []
       | .hiddenDelayType => (e.st.rawOscs ++ [k]).flatMap (fun x => osPress x ++ osRelease x)
       | .visibleBackspaced => [Out.down k]) := by
  have hks := key_step hp mc e hk hs
  rw [hab] at hks
  obtain ⟨ovl, hd⟩ := hks
  exact cancelled_press e hk ovl hd

theorem engStep_tick_active (t : Trie Nat) (mc : Bool) (e : Eng) (ha : e.st.active = true)
    (h : 1 < e.st.ticksUntilTimeout) :
    engStep t mc e .tick = .ok { e with st := { e.st with ticksUntilTimeout := e.st.ticksUntilTimeout - 1 } } := by
  have h1 : ¬ e.st.ticksUntilTimeout = 0 := by omega
  have h2 : ¬ e.st.ticksUntilTimeout - 1 = 0 := by omega
  simp only [engStep, tickSeq, ha, Bool.not_true, Bool.false_eq_true, if_false, h1, h2]

/-- Sequence mode after the keys `ks` have been typed in time and are tracked as the word `w`: the
raw keys are recorded, and the OS has seen them in visible-backspaced mode and nothing in the hidden
modes.  (`b`, `ovl`: the timer and the overlap bookkeeping, which are whatever the last step left.) -/
abbrev Eng.tracked (e : Eng) (w ovl : Key) (b : Nat) (ks : List Nat) : Eng :=
  { e with
    st := { e.st with sequence := w, overlapped := ovl, ticksUntilTimeout := b,
                      rawOscs := e.st.rawOscs ++ ks }
    out := e.out ++ (if e.st.mode = .visibleBackspaced then ks.map Out.down else []) }

/-- While the automaton keeps tracking (no sequence completed, no failure) and every key arrives in
time, the model stays in sequence mode tracking exactly the automaton's word, and nothing is tapped. -/
theorem run_tracks_eq {t : Trie Nat} (hp : PlainTrie t) (mc : Bool) (is : List Inp) : ∀ (e : Eng) (w : Key),
    e.st.active = true → (∀ x ∈ e.st.sequence, x < 1024) → 0 < e.st.ticksUntilTimeout →
    0 < e.st.timeout → (∀ k ∈ keysOf is, plainKey k = true) →
    WellTimed e.st.timeout e.st.ticksUntilTimeout is →
    absTrack t.entries e.st.sequence (keysOf is) = some w →
    ∃ b ovl, 0 < b ∧ engRun t mc e is = .ok (e.tracked w ovl b (keysOf is)) := by
  induction is with
  | nil =>
    intro e w _ _ hb _ _ _ htr
    cases htr
    refine ⟨_, e.st.overlapped, hb, ?_⟩
    simp only [engRun, keysOf, Eng.tracked, List.map_nil, ite_self, List.append_nil]
  | cons i r ih =>
    intro e w ha hs hb hT hk hwt htr
    cases i with
    | tick =>
      obtain ⟨b, ovl, hb, h⟩ := ih
        { e with st := { e.st with ticksUntilTimeout := e.st.ticksUntilTimeout - 1 } } w ha hs
        (Nat.sub_pos_of_lt hwt.1) hT hk hwt.2 htr
      exact ⟨b, ovl, hb, by rw [engRun, engStep_tick_active t mc e ha hwt.1]; exact h⟩
    | released =>
      obtain ⟨b, ovl, hb, h⟩ := ih
        { e with st := { e.st with overlapped := e.st.sequence } } w ha hs hb hT hk hwt htr
      exact ⟨b, ovl, hb, by
        rw [engRun, engStep, allReleasedHook_dead ha (markerDead_of_noOvl (plainTrie_noOvl hp) _)]; exact h⟩
    | key k =>
      have hkk : plainKey k = true := hk k (by simp [keysOf])
      simp only [keysOf, absTrack] at htr
      have hks := key_step hp mc e hkk hs
      cases hab : absKey t.entries e.st.sequence k with
      | failed => simp [hab] at htr
      | fired j m => simp [hab] at htr
      | continues w1 =>
        simp only [hab] at htr hks
        obtain ⟨ovl, hd⟩ := hks
        have hw1 : ∀ x ∈ w1, x < 1024 := by
          -- w1 is a longest viable suffix of a plain word
          have : w1 = lvs t.entries (e.st.sequence ++ [k]) := by
            unfold absKey at hab
            dsimp only at hab
            split at hab
            · cases hab
            · split at hab <;> cases hab
              rfl
          rw [this]
          apply lvs_plain
          simpa [or_imp, forall_and, plainKey_lt hkk] using hs
        obtain ⟨b, ovl', hb, h⟩ := ih
          { pressBase e k with st := { (pressBase e k).st with sequence := w1, overlapped := ovl } } w
          ha hw1 hT hT (fun k' hk' => hk k' (by simp [keysOf, hk'])) hwt htr
        refine ⟨b, ovl', hb, ?_⟩
        rw [engRun, engStep, if_pos ha, hd]
        dsimp only
        rw [h]
        cases hm : e.st.mode <;> simp [Eng.tracked, pressBase, hm, osPress_plain hkk, keysOf]

theorem run_tracks {t : Trie Nat} (hp : PlainTrie t) (mc : Bool) (is : List Inp) (e : Eng) (b : Nat) (w : Key)
    (ha : e.st.active = true) (hs : ∀ x ∈ e.st.sequence, x < 1024) (hb : e.st.ticksUntilTimeout = b)
    (hb0 : 0 < b) (hT : 0 < e.st.timeout) (hk : ∀ k ∈ keysOf is, plainKey k = true)
    (hwt : WellTimed e.st.timeout b is) (htr : absTrack t.entries e.st.sequence (keysOf is) = some w) :
    ∃ e', engRun t mc e is = .ok e' ∧ e'.st.active = true ∧ e'.st.sequence = w ∧ e'.taps = e.taps ∧
      e'.states = e.states ∧ e'.st.rawOscs = e.st.rawOscs ++ keysOf is ∧ e'.st.mode = e.st.mode ∧
      e'.st.timeout = e.st.timeout ∧ e'.st.noerase = e.st.noerase ∧ 0 < e'.st.ticksUntilTimeout ∧
      e'.out = e.out ++ (if e.st.mode = .visibleBackspaced then (keysOf is).map Out.down else []) := by
  subst hb
  obtain ⟨b, ovl, hb, h⟩ := run_tracks_eq hp mc is e w ha hs hb0 hT hk hwt htr
  exact ⟨_, h, ha, rfl, rfl, rfl, rfl, rfl, rfl, rfl, hb, rfl⟩

theorem engRun_append (t : Trie Nat) (mc : Bool) : ∀ (a b : List Inp) (e : Eng),
    engRun t mc e (a ++ b) =
      match engRun t mc e a with
      | .error c => .error c
      | .ok e' => engRun t mc e' b
  | [], b, e => rfl
  | i :: a, b, e => by
    simp only [List.cons_append, engRun]
    cases engStep t mc e i with
    | error c => rfl
    | ok e1 => exact engRun_append t mc a b e1

/-! ### the automaton on an accepted (pairwise incomparable) table -/

/-- typing a proper prefix of a defined sequence keeps the automaton tracking exactly that prefix -/
theorem absTrack_prefix {t : Trie Nat} (hok : TrieOK t) {s : Key} {j : Nat} (hs : (s, j) ∈ t.entries)
    (q : Key) : ∀ (p v : Key), p ++ q ++ v = s → v ≠ [] → absTrack t.entries p q = some (p ++ q) := by
  induction q with
  | nil => intro p _ _ _; simp [absTrack]
  | cons x q ih =>
    intro p v h hv
    have hpre : (p ++ [x]) <+: s := ⟨q ++ v, by rw [← h]; simp⟩
    have hnone : lookupKey t.entries (p ++ [x]) = none :=
      lookupKey_none_of_proper_prefix hok hs _ (q ++ v) (by rw [← h]; simp) (by simp [hv])
    have hab : absKey t.entries p x = .continues (p ++ [x]) := by
      unfold absKey
      simp [lvs_of_viable _ _ (viable_of_prefix hs hpre), hnone]
    simp only [absTrack, hab]
    simpa using ih (p ++ [x]) v (by rw [← h]; simp) hv

theorem run_prefix {t : Trie Nat} (hp : PlainTrie t) (hok : TrieOK t) (mc : Bool) (e : Eng)
    {s u v : Key} {j : Nat} (pre : List Inp) (hs : (s, j) ∈ t.entries) (hsv : u ++ v = s) (hv : v ≠ [])
    (ha : e.st.active = true) (hseq : e.st.sequence = []) (hT : 0 < e.st.timeout)
    (hb : e.st.ticksUntilTimeout = e.st.timeout) (hkeys : keysOf pre = u)
    (hwt : WellTimed e.st.timeout e.st.timeout pre) :
    (∀ x ∈ u, x < 1024) ∧ ∃ b ovl, engRun t mc e pre = .ok (e.tracked u ovl b u) := by
  subst hkeys
  have hplain : ∀ x ∈ keysOf pre, plainKey x = true := fun x hx =>
    plain_of_mem hp hs x (hsv ▸ List.mem_append_left _ hx)
  have htr : absTrack t.entries e.st.sequence (keysOf pre) = some (keysOf pre) := by
    rw [hseq]
    simpa using absTrack_prefix hok hs (keysOf pre) [] v (by simpa using hsv) hv
  obtain ⟨b, ovl, _, hr⟩ := run_tracks_eq hp mc pre e _ ha (by rw [hseq]; simp) (hb ▸ hT) hT hplain
    (hb ▸ hwt) htr
  exact ⟨fun x hx => plainKey_lt (hplain x hx), b, ovl, hr⟩

/-- the last key of a defined sequence completes it -/
theorem absKey_complete {t : Trie Nat} (hok : TrieOK t) {u : Key} {k j : Nat}
    (hs : (u ++ [k], j) ∈ t.entries) : absKey t.entries u k = .fired j (u ++ [k]) := by
  unfold absKey
  simp [lvs_of_viable _ _ (viable_of_prefix hs (List.prefix_refl _)), lookupKey_of_mem hok hs]

theorem charCount_plain : ∀ (w : Key), (∀ x ∈ w, plainKey x = true) → charCount w = w.length
  | [], _ => rfl
  | x :: w, h => by
    have hx := h x (by simp)
    have hc : isCharKey x = true := by
      have hlt := plainKey_lt hx
      simp only [plainKey, Bool.and_eq_true, Bool.not_eq_true', decide_eq_true_eq] at hx
      simp only [isCharKey, and_mask_of_lt x hlt, hx.1.1.2, hx.1.2, Bool.not_false, Bool.and_true,
        bne_iff_ne, ne_eq]
      exact Nat.ne_of_lt hlt
    rw [charCount_cons, hc, charCount_plain w fun y hy => h y (by simp [hy]), if_pos rfl,
      List.length_cons]

/-! ### timeouts (any table) -/

theorem ticks_keep_active (t : Trie Nat) (mc : Bool) : ∀ (n : Nat) (e : Eng), e.st.active = true →
    n < e.st.ticksUntilTimeout →
    engRun t mc e (List.replicate n .tick) =
      .ok { e with st := { e.st with ticksUntilTimeout := e.st.ticksUntilTimeout - n } }
  | 0, e, _, _ => rfl
  | n + 1, e, ha, hn => by
    rw [List.replicate_succ, engRun, engStep_tick_active t mc e ha (by omega)]
    refine (ticks_keep_active t mc n
      { e with st := { e.st with ticksUntilTimeout := e.st.ticksUntilTimeout - 1 } } ha
      (Nat.lt_sub_of_add_lt hn)).trans ?_
    simp only [Nat.sub_sub, Nat.add_comm 1 n]

theorem ticks_time_out (t : Trie Nat) (mc : Bool) (e : Eng) (ha : e.st.active = true)
    (hb : 0 < e.st.ticksUntilTimeout) :
    engRun t mc e (List.replicate e.st.ticksUntilTimeout .tick) =
      .ok (cancelSequence { e with st := { e.st with ticksUntilTimeout := 0 } }) := by
  obtain ⟨n, hn⟩ : ∃ n, e.st.ticksUntilTimeout = n + 1 := ⟨e.st.ticksUntilTimeout - 1, by omega⟩
  rw [hn, List.replicate_succ', engRun_append, ticks_keep_active t mc n e ha (by omega)]
  simp only [engRun, engStep, tickSeq, ha, Bool.not_true, Bool.false_eq_true, if_false]
  have h1 : ¬ e.st.ticksUntilTimeout - n = 0 := by omega
  have h2 : e.st.ticksUntilTimeout - n - 1 = 0 := by omega
  simp [h1, h2]

end KVerif.Seq
