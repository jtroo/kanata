import KVerif.Spec.KeyId
/-! Helper lemmas for C11.

Part A lifts kernel-checked facts about the *complete* generated tables to `∀` statements.  The
code tables need no search: both enums are dense, so membership is arithmetic.  The name tables are
each swept once, in time `n log n` through the generated search tree, by a check of the one form
`T.all fun r => (fastLookup (key r)).all (Q r)`, which `names_all` turns into a statement about
`str_to_oscode`.  Part B are the inductive lemmas about the list programs that build the set of
intercepted keys: each loop of the parser slice gets one statement (`Outcome.Sat`) that says both
what an accepted run returns and the only way a run can crash.  Part C follows one key through a
one-layer configuration. -/
namespace KVerif.KeyId
open KVerif.Gen.KeyTables KVerif

/-! ## generic list facts -/

instance instDecidableEqExcept {ε α : Type} [DecidableEq ε] [DecidableEq α] : DecidableEq (Except ε α)
  | .ok a, .ok b => if h : a = b then isTrue (h ▸ rfl) else isFalse (fun h' => h (Except.ok.inj h'))
  | .error a, .error b => if h : a = b then isTrue (h ▸ rfl) else isFalse (fun h' => h (Except.error.inj h'))
  | .ok _, .error _ => isFalse (fun h => nomatch h)
  | .error _, .ok _ => isFalse (fun h => nomatch h)

theorem lookup_mem {β : Type} {l : List (Nat × β)} {k : Nat} {v : β} (h : l.lookup k = some v) :
    (k, v) ∈ l := by
  obtain ⟨l₁, l₂, rfl, -⟩ := List.lookup_eq_some_iff.1 h
  simp

theorem lookup_isSome_of_mem {β : Type} {l : List (Nat × β)} {k : Nat} {v : β} (h : (k, v) ∈ l) :
    ∃ v', l.lookup k = some v' := by
  cases hl : l.lookup k with
  | some v' => exact ⟨v', rfl⟩
  | none => simpa using List.lookup_eq_none_iff.1 hl _ h

theorem lookup_none_of_not_mem {β : Type} {l : List (Nat × β)} {k : Nat}
    (h : ∀ v, (k, v) ∉ l) : l.lookup k = none := by
  cases hl : l.lookup k with
  | none => rfl
  | some v => exact absurd (lookup_mem hl) (h v)

/-- if `f` agrees with every entry of an association list, then it agrees with first-match lookup -/
theorem lookup_eq_of_all {l : List (Nat × Nat)} {f : Nat → Option Nat}
    (h : ∀ p ∈ l, f p.1 = some p.2) {k v : Nat} (hk : l.lookup k = some v) : f k = some v :=
  h (k, v) (lookup_mem hk)

theorem lookup_of_mem {l : List (Nat × Nat)} {f : Nat → Option Nat}
    (h : ∀ p ∈ l, f p.1 = some p.2) {k v : Nat} (hk : (k, v) ∈ l) : l.lookup k = some v := by
  obtain ⟨v', hv'⟩ := lookup_isSome_of_mem hk
  rw [hv', ← lookup_eq_of_all h hv', h _ hk]

theorem all_range_iff {n : Nat} {p : Nat → Bool} :
    (List.range n).all p = true ↔ ∀ v, v < n → p v = true := by
  simp [List.all_eq_true, List.mem_range]

theorem map_eq_of_zip {α β : Type} {f : α → Option β} : ∀ {l : List α} {r : List β},
    l.length = r.length → (∀ p ∈ l.zip r, f p.1 = some p.2) → l.map f = r.map some
  | [], [], _, _ => rfl
  | a :: l, b :: r, hl, h => by
    rw [List.map_cons, List.map_cons, h (a, b) List.mem_cons_self,
      map_eq_of_zip (Nat.succ.inj hl) fun p hp => h p (List.mem_cons_of_mem _ hp)]

theorem lookup_diag (k : Nat) : ∀ l : List Nat,
    (l.map fun v => (v, v)).lookup k = if l.contains k then some k else none
  | [] => rfl
  | a :: l => by
    rw [List.map_cons, List.lookup_cons, List.contains_cons, lookup_diag k l]
    cases h : k == a
    · rfl
    · simp [eq_of_beq h]

/-- The numbers of `l` as the set bits of one numeral: the kernel computes `|||`, `<<<` and
    `testBit` on numerals in one step each, so membership is answered without walking a list. -/
def bitSet (l : List Nat) : Nat := l.foldr (fun c m => m ||| 1 <<< c) 0

/-! ## name encoding -/

theorem encName_cons_inj {a b x y : Nat} (hx : x < nameBase) (hy : y < nameBase)
    (h : a * nameBase + x = b * nameBase + y) : a = b ∧ x = y := by
  simp only [nameBase] at *
  omega

/-- the encoding of key names is injective on lists of code points (all < 10^7 - 1) -/
theorem encName_injective : ∀ {a b : List Nat}, (∀ c ∈ a, c + 1 < nameBase) → (∀ c ∈ b, c + 1 < nameBase) →
    encName a = encName b → a = b
  | [], [], _, _, _ => rfl
  | [], c :: cs, _, _, h => nomatch (Nat.add_eq_zero_iff.1 h.symm).2
  | c :: cs, [], _, _, h => nomatch (Nat.add_eq_zero_iff.1 h).2
  | c :: cs, d :: ds, ha, hb, h => by
    obtain ⟨hs, hcd⟩ := encName_cons_inj (ha c List.mem_cons_self) (hb d List.mem_cons_self) h
    rw [Nat.add_right_cancel hcd, encName_injective (fun x hx => ha x (List.mem_cons_of_mem _ hx))
      (fun x hx => hb x (List.mem_cons_of_mem _ hx)) hs]

/-! ## Part A: the tables -/

/-- both enums are dense: their discriminants are `0 … KEY_MAX` -/
theorem osCodeDiscs_eq : osCodeDiscs = List.range (keysInRow + 1) := by decide +kernel

theorem keyCodeDiscs_eq : keyCodeDiscs = List.range (keysInRow + 1) := by decide +kernel

theorem isOsCode_eq (v : Nat) : isOsCode v = decide (v ≤ keysInRow) := by
  simp [isOsCode, osCodeDiscs_eq, Nat.lt_succ_iff]

theorem isKeyCode_eq (v : Nat) : isKeyCode v = decide (v ≤ keysInRow) := by
  simp [isKeyCode, keyCodeDiscs_eq, Nat.lt_succ_iff]

theorem isOsCode_eq_isKeyCode (v : Nat) : isOsCode v = isKeyCode v := by
  rw [isOsCode_eq, isKeyCode_eq]

/-- `from_u16_linux` has one arm `v => v` for each discriminant outside the unassigned block, in
    the order of the enum -/
theorem fromU16Arms_eq :
    fromU16Arms = (osCodeDiscs.filter fun v => !Spec.unassigned v).map fun v => (v, v) := by
  decide +kernel

theorem fromU16_eq (v : Nat) : fromU16 v = if Spec.known v then some v else none := by
  rw [fromU16, fromU16Arms_eq, lookup_diag, Spec.known, isOsCode]
  congr 1
  simp only [List.contains_eq_mem, List.mem_filter, Bool.decide_and, Bool.decide_eq_true]

theorem accepted_eq_known (v : Nat) : accepted v = Spec.known v := by
  rw [accepted, fromU16_eq]
  cases Spec.known v <;> rfl

theorem accepted_iff {v : Nat} : accepted v = true ↔ fromU16 v = some v := by
  rw [accepted_eq_known, fromU16_eq]
  cases Spec.known v <;> simp

theorem fromU16_id {v c : Nat} (h : fromU16 v = some c) : c = v := by
  rw [fromU16_eq] at h
  split at h <;> cases h
  rfl

theorem accepted_of_fromU16 {v c : Nat} (h : fromU16 v = some c) : accepted v = true := by
  rw [accepted, h]; rfl

theorem accepted_isOsCode {v : Nat} (h : accepted v = true) : isOsCode v = true := by
  rw [accepted_eq_known, Spec.known, Bool.and_eq_true] at h
  exact h.1

theorem accepted_isKeyCode {v : Nat} (h : accepted v = true) : isKeyCode v = true := by
  rw [← isOsCode_eq_isKeyCode]; exact accepted_isOsCode h

theorem fromU16_isOsCode {v c : Nat} (h : fromU16 v = some c) : isOsCode c = true := by
  rw [fromU16_id h]; exact accepted_isOsCode (accepted_of_fromU16 h)

/-- `KEY_MAX` itself is the only accepted code not below `KEYS_IN_ROW` -/
theorem accepted_le_keysInRow {v : Nat} (h : accepted v = true) : v ≤ keysInRow := by
  simpa [isOsCode_eq] using accepted_isOsCode h

theorem strToOscode_eq_lookup (custom : List (Name × Nat)) (n : Name) :
    strToOscode custom n = (custom ++ nameArms).lookup n := by
  rw [List.lookup_append, strToOscode]
  cases custom.lookup n <;> rfl

/-- `entry(name).or_insert(code)` for each default never changes what a name already denotes: for
    lookup it is appending the defaults -/
theorem lookup_orInsert {k : Nat} : ∀ (ds m : List (Name × Nat)),
    (ds.foldl (fun m d => if (m.lookup d.1).isSome then m else m ++ [d]) m).lookup k =
      (m ++ ds).lookup k
  | [], m => by rw [List.foldl_nil, List.append_nil]
  | d :: ds, m => by
    rw [List.foldl_cons, lookup_orInsert ds]
    split
    · next h =>
      rw [List.lookup_append, List.lookup_append, List.lookup_cons]
      cases hk : k == d.1
      · rfl
      · rw [eq_of_beq hk]
        obtain ⟨c, hc⟩ := Option.isSome_iff_exists.1 h
        rw [hc]; rfl
    · rw [List.append_assoc]; rfl

theorem strToOscode_replaceCustom (lk : List (Name × Nat)) (n : Name) :
    strToOscode (replaceCustom lk) n = (lk ++ (defaultMappings ++ nameArms)).lookup n := by
  rw [strToOscode_eq_lookup, List.lookup_append, replaceCustom, addDefaults, lookup_orInsert,
    ← List.lookup_append, List.append_assoc]

/-- `defaultMappings.lookup`, scanning the list only for the names that pass a Bloom filter (bit
    `n % 256` is set for every default name `n`): looking through the default mappings for each
    name of the big tables is what the sweeps below would spend most of their time on -/
def defaultLookup (n : Name) : Option Nat :=
  if (bitSet (defaultMappings.map (·.1 % 256))).testBit (n % 256) then defaultMappings.lookup n
  else none

/-- logarithmic stand-in for `strToOscode defaultCustom`.  Nothing is proved about how it works:
    `names_ok` checks it against every row, and a function that sends every key of an association
    list to the value beside it is that list's lookup (`lookup_of_mem`, `lookup_eq_of_all`). -/
def fastLookup (n : Name) : Option Nat :=
  match defaultLookup n with
  | some c => some c
  | none => nameTree.find n

def nameOk (p : Name × Nat) : Bool :=
  !Spec.unassigned p.2 && p.2 != 0 && decide (p.2 < keysInRow) && p.2 != keyCodeNo
    && (!ignored p.2 || Spec.nopNames.contains p.1)

theorem names_ok :
    ((defaultMappings ++ nameArms).all fun p => fastLookup p.1 == some p.2 && nameOk p) = true := by
  decide +kernel

theorem fastLookup_of_mem {p : Name × Nat} (h : p ∈ defaultMappings ++ nameArms) :
    fastLookup p.1 = some p.2 ∧ nameOk p = true := by
  simpa using List.all_eq_true.1 names_ok p h

theorem strToOscode_default (n : Name) :
    strToOscode defaultCustom n = (defaultMappings ++ nameArms).lookup n :=
  strToOscode_replaceCustom [] n

theorem strToOscode_default_iff {n c : Nat} :
    strToOscode defaultCustom n = some c ↔ (n, c) ∈ defaultMappings ++ nameArms :=
  strToOscode_default n ▸ ⟨lookup_mem, lookup_of_mem fun _ hp => (fastLookup_of_mem hp).1⟩

/-- **the sweeps lifted**: a check of the rows `r` of a table against what `fastLookup` says of
    the name `key r` holds of what `str_to_oscode` says of it.  Give `key` as a constant (`id`,
    `Prod.fst`): `(·.1)` is elaborated only once `α` is known, and until then unification, unable
    to assign `key`, evaluates the sweep. -/
theorem names_all {α : Type} {T : List α} {key : α → Name} {Q : α → Nat → Bool}
    (h : (T.all fun r => (fastLookup (key r)).all (Q r)) = true) {r : α} (hr : r ∈ T) {c : Nat}
    (hs : strToOscode defaultCustom (key r) = some c) : Q r c = true := by
  have := List.all_eq_true.1 h r hr
  rwa [(fastLookup_of_mem (strToOscode_default_iff.1 hs)).1] at this

/-- every built-in key name denotes a code kanata knows, other than 0 and the no-op key code, and
    small enough to index a layer row; only `nop0 … nop9` denote codes in the ignored range -/
theorem name_code_known {n c : Nat} (h : strToOscode defaultCustom n = some c) :
    accepted c = true ∧ c ≠ 0 ∧ c < keysInRow ∧ c ≠ keyCodeNo ∧
      (ignored c = true → n ∈ Spec.nopNames) := by
  have := (fastLookup_of_mem (strToOscode_default_iff.1 h)).2
  simp only [nameOk, Bool.and_eq_true, bne_iff_ne, ne_eq, decide_eq_true_eq, Bool.or_eq_true,
    Bool.not_eq_true', List.contains_iff_mem] at this
  obtain ⟨⟨⟨⟨ha, h0⟩, hlt⟩, hno⟩, hnop⟩ := this
  refine ⟨?_, h0, hlt, hno, fun hi => hnop.resolve_left (by simp [hi])⟩
  rw [accepted_eq_known, Spec.known, isOsCode_eq, ha, decide_eq_true (Nat.le_of_lt hlt)]; rfl

/-! ### action atoms -/

/-- the atoms `parse_action_atom` tests before key names, other than the mouse atoms and those
    that stand for some other action, are not key names -/
theorem atoms_not_keys : ((listActionNames ++ transAtoms ++ noopAtoms ++ topLevelErrorAtoms).all
    fun a => (fastLookup a).all fun _ => false) = true := by decide +kernel

/-- a mouse atom that is also a key name names the button or wheel direction it acts on -/
theorem mouseAtoms_keys : (mouseActionAtoms.all fun p => (fastLookup p.1).all fun c =>
    c == p.2 && (mouseBtnCodes.contains c || mouseWheelCodes.contains c)) = true := by
  decide +kernel

/-- the special atoms that are key names are the mouse atoms -/
theorem specialAtoms_keys : (specialActionAtoms.all fun a => (fastLookup a).all fun _ =>
    (mouseActionAtoms.lookup a).isSome) = true := by decide +kernel

/-! ### canonical names -/

theorem canon_agree : ((osCodeCanonNames ++ keyCodeDisplay).all fun p =>
    (fastLookup p.1).all fun c => c == p.2 || Spec.canonExceptions.contains p.1) = true := by
  decide +kernel

/-! ### output filter -/

theorem nop_arms : (Spec.nopNames.zip (List.range' keyIgnoreMin 10)).all
    (nameArms.filter fun p => ignored p.2).contains = true := by decide +kernel

theorem nopNames_codes :
    Spec.nopNames.map (strToOscode defaultCustom) = (List.range' keyIgnoreMin 10).map some :=
  map_eq_of_zip (by simp [Spec.nopNames]) fun p hp =>
    have := List.contains_iff_mem.1 (List.all_eq_true.1 nop_arms p hp)
    strToOscode_default_iff.2 (List.mem_append_right _ (List.mem_filter.1 this).1)

theorem reservedCodes_eq : Spec.reservedCodes = List.range' keyIgnoreMin 10 := by
  have := congrArg (List.filterMap id) nopNames_codes
  rwa [List.filterMap_map, List.filterMap_map, Function.id_comp, Function.id_comp,
    List.filterMap_some] at this

theorem mouse_not_ignored : (mouseBtnCodes ++ mouseWheelCodes).all (fun c => !ignored c) = true := by decide
theorem wheel_not_btn : mouseWheelCodes.all (fun c => !mouseBtnCodes.contains c) = true := by decide

/-! ## Part B: the set of intercepted keys (induction over the list programs) -/

theorem mem_setInsert {x c : Nat} {s : List Nat} : x ∈ setInsert c s ↔ x ∈ s ∨ x = c := by
  rw [setInsert]
  split
  · next h => exact ⟨Or.inl, fun h' => h'.elim id (· ▸ List.contains_iff_mem.1 h)⟩
  · rw [List.mem_append, List.mem_singleton]

theorem keyCodeOfOsCode_ok {c k : Nat} (h : keyCodeOfOsCode c = .ok k) : k = c := by
  unfold keyCodeOfOsCode at h
  split at h
  · cases h; rfl
  · cases h

theorem keyCodeOfOsCode_accepted {c : Nat} (h : accepted c = true) : keyCodeOfOsCode c = .ok c := by
  rw [keyCodeOfOsCode, if_pos (accepted_isKeyCode h)]

theorem osCodeOfKeyCode_accepted {c : Nat} (h : accepted c = true) : osCodeOfKeyCode c = .ok c := by
  rw [osCodeOfKeyCode, if_pos (accepted_isOsCode h)]

theorem parseLocalKeys_ok : ∀ (l acc r : List (Name × Nat)), parseLocalKeys acc l = .ok r →
    r = acc ++ l ∧ ∀ p ∈ l, accepted p.2 = true
  | [], acc, r, h => by cases h; simp
  | (n, v) :: l, acc, r, h => by
    rw [parseLocalKeys] at h
    split at h
    · cases h
    · split at h
      · cases h
      · next c hc =>
        have hf := (Option.filter_eq_some_iff.1 hc).1
        cases fromU16_id hf
        obtain ⟨rfl, hl⟩ := parseLocalKeys_ok l _ r h
        exact ⟨by simp, List.forall_mem_cons.2 ⟨accepted_of_fromU16 hf, hl⟩⟩

/-- `parse_defsrc`'s first loop and the `all-except` list of `parse_defcfg` are one program up
    to their error values -/
theorem namesToCodes_eq {custom : List (Name × Nat)} {e₁ e₂ : PErr}
    {f : List Nat → List Name → Except PErr (List Nat)} (hnil : ∀ acc, f acc [] = .ok acc)
    (hcons : ∀ acc n rest, f acc (n :: rest) = match strToOscode custom n with
      | none => .error e₁
      | some c => if acc.contains c then .error e₂ else f (acc ++ [c]) rest) :
    ∀ (ns : List Name) (acc m : List Nat), f acc ns = .ok m →
      m = acc ++ ns.filterMap (strToOscode custom)
  | [], acc, m, h => by cases (hnil acc).symm.trans h; simp
  | n :: ns, acc, m, h => by
    rw [hcons] at h
    split at h
    · cases h
    · next c hc =>
      split at h
      · cases h
      · rw [namesToCodes_eq hnil hcons ns _ m h, List.filterMap_cons, hc, List.append_assoc]; rfl

theorem defsrcKeys_eq {custom : List (Name × Nat)} {ns : List Name} {acc m : List Nat}
    (h : defsrcKeys custom acc ns = .ok m) : m = acc ++ ns.filterMap (strToOscode custom) :=
  namesToCodes_eq (fun _ => rfl) (fun _ _ _ => rfl) ns acc m h

theorem parseExceptions_eq {custom : List (Name × Nat)} {ns : List Name} {acc m : List Nat}
    (h : parseExceptions custom acc ns = .ok m) : m = acc ++ ns.filterMap (strToOscode custom) :=
  namesToCodes_eq (fun _ => rfl) (fun _ _ _ => rfl) ns acc m h

theorem pukExceptions_eq (custom : List (Name × Nat)) (puk : Puk) (exc : List Nat)
    (h : pukExceptions custom puk = .ok exc) :
    exc = (Spec.pukNames puk).filterMap (strToOscode custom) := by
  cases puk with
  | allExcept ns =>
    cases ns with
    | nil => cases h
    | cons n ns => exact parseExceptions_eq (acc := []) h
  | _ => cases h; rfl

/-- what the process-unmapped-keys loop adds to the intercepted keys -/
def pukAdds (exc : List Nat) (v : Nat) : Bool := accepted v && v != keyCodeNo && !exc.contains v

/-- one step of the process-unmapped-keys loop never crashes (every discriminant `from_u16`
    returns exists in `KeyCode`) and adds exactly the code it looks at, if any -/
theorem pukStep_ok (exc mk : List Nat) (i : Nat) :
    pukStep exc (.ok mk) i = .ok (if pukAdds exc i then setInsert i mk else mk) := by
  rw [pukStep, pukAdds, fromU16_eq, accepted_eq_known]
  cases hk : Spec.known i
  · rfl
  · simp only [↓reduceIte, keyCodeOfOsCode_accepted ((accepted_eq_known i).trans hk), Bool.true_and]
    by_cases hno : i = keyCodeNo
    · simp [hno]
    · cases exc.contains i <;> simp [hno]

theorem foldl_pukStep (exc : List Nat) : ∀ (is mk : List Nat),
    ∃ m, is.foldl (pukStep exc) (.ok mk) = .ok m ∧
      ∀ x, x ∈ m ↔ x ∈ mk ∨ x ∈ is.filter (pukAdds exc)
  | [], mk => ⟨mk, rfl, fun x => by simp⟩
  | i :: is, mk => by
    obtain ⟨m, h, hm⟩ := foldl_pukStep exc is (if pukAdds exc i then setInsert i mk else mk)
    refine ⟨m, by rw [List.foldl_cons, pukStep_ok, h], fun x => ?_⟩
    rw [hm, List.filter_cons]
    split
    · rw [mem_setInsert, List.mem_cons, or_assoc]
    · rfl

/-- the process-unmapped-keys loop: total, and it adds every known key below `KEYS_IN_ROW` other
    than the no-op key code and the exceptions -/
theorem pukLoop_spec (exc mk : List Nat) :
    ∃ m, pukLoop exc mk = .ok m ∧
      ∀ x, x ∈ m ↔ x ∈ mk ∨ x ∈ (List.range keysInRow).filter (pukAdds exc) :=
  foldl_pukStep exc _ mk

/-- what a run of one of the parser's loops guarantees: `ok` of its result, and that a crash is
    the out-of-bounds index `KEYS_IN_ROW`; a rejected configuration promises nothing -/
def Outcome.Sat {α : Type} (ok : α → Prop) : Outcome α → Prop
  | .ok a => ok a
  | .crash c => c = .indexOOB keysInRow
  | .rejected _ => True

theorem Outcome.Sat.imp {α : Type} {p q : α → Prop} (h : ∀ a, p a → q a) :
    ∀ {o : Outcome α}, o.Sat p → o.Sat q
  | .ok a, ho => h a ho
  | .crash _, ho => ho
  | .rejected _, _ => trivial

theorem Outcome.Sat.ite_rejected {α : Type} {p : α → Prop} {c : Prop} [Decidable c] {e : PErr}
    {o : Outcome α} (h : o.Sat p) : (if c then .rejected e else o).Sat p := by
  split
  · trivial
  · exact h

def CodesAccepted (custom : List (Name × Nat)) : Prop :=
  ∀ ⦃n c⦄, strToOscode custom n = some c → accepted c = true

theorem replaceCustom_accepted {lk : List (Name × Nat)} (h : ∀ p ∈ lk, accepted p.2 = true) :
    CodesAccepted (replaceCustom lk) := fun n _ hs =>
  (List.mem_append.1 (lookup_mem (strToOscode_replaceCustom lk n ▸ hs))).elim (h _) fun hp =>
    (name_code_known (strToOscode_default_iff.2 hp)).1

theorem ite_ne_of_ne {α : Type} {c : Prop} [Decidable c] {x y z : α} (hx : x ≠ z) (hy : y ≠ z) :
    (if c then x else y) ≠ z := by
  split <;> assumption

/-- the only leaf of `parse_action_atom` that could be an invalid `transmute` converts the code of
    a key name -/
theorem parseActionAtom_no_error {custom : List (Name × Nat)} (hc : CodesAccepted custom) (a : Name)
    (e : Crash) : parseActionAtom custom a ≠ some (.error e) := by
  refine ite_ne_of_ne nofun (ite_ne_of_ne nofun (ite_ne_of_ne nofun ?_))
  split
  · nofun
  · refine ite_ne_of_ne nofun (ite_ne_of_ne nofun ?_)
    split
    · next c hs =>
      rw [keyCodeOfOsCode_accepted (hc hs)]
      nofun
    · nofun

theorem parseAct_no_crash {custom : List (Name × Nat)} (hc : CodesAccepted custom) (a : Name) (c : Crash) :
    parseAct custom a ≠ .crash c := by
  rw [parseAct]
  split
  · nofun
  · next e he => exact absurd he (parseActionAtom_no_error hc a e)
  · nofun

theorem oob_is_key_max {i : Nat} (ha : accepted i = true) (hge : i ≥ keysInRow) :
    Crash.indexOOB i = .indexOOB keysInRow :=
  congrArg _ (Nat.le_antisymm (accepted_le_keysInRow ha) hge)

theorem plainLayer_sat {custom : List (Name × Nat)} (hc : CodesAccepted custom) :
    ∀ (order : List Nat) (acts : List Name) (row : Row), (∀ x ∈ order, accepted x = true) →
    (plainLayer custom row order acts).Sat fun _ => True
  | c :: order, a :: acts, row, ho => by
    rw [plainLayer]
    cases hp : parseAct custom a with
    | rejected e => trivial
    | crash e => exact absurd hp (parseAct_no_crash hc a e)
    | ok act =>
      dsimp only
      split
      · next hge => exact oob_is_key_max (ho c List.mem_cons_self) hge
      · exact plainLayer_sat hc order acts _ fun x hx => ho x (List.mem_cons_of_mem _ hx)
  | [], _, _, _ | _ :: _, [], _, _ => trivial

def lmKeyName (p : LmIn × Name) : Option Name :=
  match p.1 with
  | .key n => some n
  | _ => none

theorem lmPairs_sat {custom : List (Name × Nat)} (hc : CodesAccepted custom) (puk : Bool)
    {order : List Nat} (ho : ∀ x ∈ order, accepted x = true) :
    ∀ (pairs : List (LmIn × Name)) (st : LmState), (lmPairs custom puk order st pairs).Sat fun st' =>
      ∀ x, x ∈ st'.mapped ↔
        x ∈ st.mapped ∨ x ∈ (pairs.filterMap lmKeyName).filterMap (strToOscode custom)
  | [], st => fun x => by simp
  | (i, a) :: rest, st => by
    have ih := lmPairs_sat hc puk ho rest
    rw [lmPairs]
    cases hp : parseAct custom a with
    | rejected e => trivial
    | crash e => exact absurd hp (parseAct_no_crash hc a e)
    | ok act =>
      cases i with
      | any1 =>
        refine .ite_rejected (.ite_rejected ?_)
        split
        · next c hf =>
          exact oob_is_key_max (ho c (List.mem_of_find?_eq_some hf))
            (by simpa using List.find?_some hf)
        · exact ih _
      | any2 => exact .ite_rejected (.ite_rejected (.ite_rejected (ih _)))
      | any3 => exact .ite_rejected (.ite_rejected (.ite_rejected (.ite_rejected (ih _))))
      | key n =>
        dsimp only
        split
        · trivial
        · next c hs =>
          refine .ite_rejected ?_
          split
          · next hge => exact oob_is_key_max (hc hs) hge
          · refine (ih _).imp fun st' h x => ?_
            rw [h, mem_setInsert, List.filterMap_cons]
            simp only [lmKeyName, List.filterMap_cons, hs, List.mem_cons, or_assoc]

theorem parseLayers_sat {custom : List (Name × Nat)} (hc : CodesAccepted custom) (puk : Bool)
    {order : List Nat} (ho : ∀ x ∈ order, accepted x = true) :
    ∀ (layers : List Layer) (mapped : List Nat) (rows : List Row),
    (parseLayers custom puk order mapped rows layers).Sat fun r => ∀ x, x ∈ r.1 ↔
      x ∈ mapped ∨ x ∈ (layers.flatMap Spec.layerInputs).filterMap (strToOscode custom)
  | [], mapped, rows => fun x => by simp
  | .plain acts :: rest, mapped, rows => by
    rw [parseLayers]
    have h := plainLayer_sat hc order acts [] ho
    generalize plainLayer custom [] order acts = o at h
    cases o with
    | ok row => exact parseLayers_sat hc puk ho rest mapped _
    | rejected e => trivial
    | crash c => exact h
  | .map pairs :: rest, mapped, rows => by
    rw [parseLayers]
    have h := lmPairs_sat hc puk ho pairs { mapped := mapped }
    generalize lmPairs custom puk order { mapped := mapped } pairs = o at h
    cases o with
    | ok st =>
      refine (parseLayers_sat hc puk ho rest st.mapped _).imp fun r hr x => ?_
      rw [hr, h, List.flatMap_cons, List.filterMap_append, List.mem_append, or_assoc]; rfl
    | rejected e => trivial
    | crash c => exact h

theorem pukPhase_spec {on : Bool} {exc mk : List Nat} {r : Except Crash (List Nat)}
    (h : (if on then pukLoop exc mk else .ok mk) = r) : ∃ m, r = .ok m ∧
      ∀ x, x ∈ m ↔
        x ∈ mk ∨ x ∈ if on then (List.range keysInRow).filter (pukAdds exc) else [] := by
  subst h
  cases on
  · exact ⟨mk, rfl, fun x => by simp⟩
  · exact pukLoop_spec exc mk

theorem parseCfg_sat (cfg : Config) :
    (parseCfg cfg).Sat fun p => ∀ x, x ∈ p.mapped ↔ x ∈ Spec.mappedSpec cfg := by
  rw [parseCfg]
  split
  · trivial
  next lk hlk =>
  obtain ⟨rfl, hacc⟩ := parseLocalKeys_ok _ _ _ hlk
  rw [List.nil_append]
  have hc := replaceCustom_accepted hacc
  dsimp only
  split
  · trivial
  next exc hexc =>
  cases pukExceptions_eq _ _ _ hexc
  split
  · trivial
  next mk hmk =>
  obtain rfl : mk = cfg.defsrc.filterMap _ := defsrcKeys_eq hmk
  refine .ite_rejected ?_
  split
  · next c h2 => obtain ⟨_, hm, _⟩ := pukPhase_spec h2; cases hm
  next mk2 h2 =>
  obtain ⟨_, hm, hmem⟩ := pukPhase_spec h2
  cases hm
  have ho : ∀ x ∈ cfg.defsrc.filterMap (strToOscode _), accepted x = true := fun x hx =>
    let ⟨_, _, hn⟩ := List.mem_filterMap.1 hx
    hc hn
  have h := parseLayers_sat hc (pukOn cfg.puk) ho cfg.layers mk2 []
  generalize parseLayers .. = o at h
  cases o with
  | rejected e => trivial
  | crash c => exact h
  | ok r =>
    intro x
    rw [h, hmem, Spec.mappedSpec]
    simp only [List.mem_append, or_assoc]
    exact or_congr_right or_comm

theorem mappedKeys_sat (cfg : Config) :
    (mappedKeys cfg).Sat fun m => ∀ x, x ∈ m ↔ x ∈ Spec.mappedSpec cfg := by
  have h := parseCfg_sat cfg
  rw [mappedKeys]
  generalize parseCfg cfg = o at h
  cases o <;> exact h

theorem mappedKeys_of_parse {cfg : Config} {p : Parsed} (h : parseCfg cfg = .ok p) :
    mappedKeys cfg = .ok p.mapped := by
  unfold mappedKeys
  rw [h]

/-! ## Part C: one key through a one-layer configuration -/

def defsrcFn (v : Nat) : Act := if v = 0 then .noOp else if accepted v then .keyCode v else .noOp

theorem defsrcEntry_eq (i : Nat) : defsrcEntry i = .ok (defsrcFn i) := by
  rw [defsrcEntry, defsrcFn, fromU16_eq, accepted_eq_known]
  cases hk : Spec.known i
  · simp
  · simp [keyCodeOfOsCode_accepted ((accepted_eq_known i).trans hk)]

theorem mapE_ok {α β : Type} {f : α → Except Crash β} {g : α → β} :
    ∀ (l : List α), (∀ x ∈ l, f x = .ok (g x)) → mapE f l = .ok (l.map g)
  | [], _ => rfl
  | x :: xs, h => by
    rw [mapE, h x List.mem_cons_self, mapE_ok xs fun y hy => h y (List.mem_cons_of_mem _ hy)]; rfl

theorem createDefsrcLayer_eq : createDefsrcLayer = .ok ((List.range keysInRow).map defsrcFn) :=
  mapE_ok _ fun x _ => defsrcEntry_eq x

/-! ### a tap -/

theorem getElem?_range_map {β : Type} {n v : Nat} (f : Nat → β) (h : v < n) :
    ((List.range n).map f)[v]? = some (f v) := by
  simp [h]

/-- the ignored output range is exactly the set of codes the names `nop0 … nop9` denote -/
theorem ignored_eq_reserved (v : Nat) : ignored v = Spec.reserved v := by
  have : keyIgnoreMax + 1 = keyIgnoreMin + 10 := rfl
  rw [Spec.reserved, reservedCodes_eq, ignored, Bool.eq_iff_iff]
  simp only [Bool.and_eq_true, decide_eq_true_eq, List.contains_iff_mem, List.mem_range'_1]
  omega

theorem tapSpec_true (v : Nat) : Spec.tapSpec true v = pressKey v ++ releaseKey v := by
  rw [Spec.tapSpec, pressKey, releaseKey, ← ignored_eq_reserved]
  cases ignored v <;> cases mouseBtnCodes.contains v <;> cases mouseWheelCodes.contains v <;> simp

theorem resolveTrans_trans {v : Nat} (hv : accepted v = true) (h0 : v ≠ 0) (hlt : v < keysInRow) :
    resolveTrans .trans v = .ok (.keyCode v) := by
  rw [resolveTrans, createDefsrcLayer_eq, resolveTransWith, getElem?_range_map _ hlt, defsrcFn,
    if_neg h0, if_pos hv]

theorem resolveTrans_other (a : Act) (v : Nat) (h : a ≠ .trans) : resolveTrans a v = .ok a := by
  unfold resolveTrans resolveTransWith
  cases a with
  | trans => exact absurd rfl h
  | _ => rfl

theorem layerAt_eq (row : Row) (v : Nat) (h0 : v ≠ 0) (hlt : v < keysInRow) :
    layerAt row v = .ok ((row.lookup v).getD .trans) := by
  rw [layerAt, if_neg (Nat.not_le.2 hlt), if_neg h0]

theorem emit_denotes {a : Act} {v : Nat} (hv : accepted v = true) (h : Spec.denotes a v) :
    emit a = .ok (Spec.tapSpec true v) := by
  have hi : v ∈ mouseBtnCodes ++ mouseWheelCodes → ignored v = false := fun hm => by
    simpa using List.all_eq_true.1 mouse_not_ignored v hm
  rw [tapSpec_true]
  cases a with
  | keyCode k => cases h; rw [emit, osCodeOfKeyCode_accepted hv]
  | mouseBtn k =>
    obtain ⟨rfl, hb⟩ := h
    rw [pressKey, releaseKey, hi (List.mem_append_left _ (List.contains_iff_mem.1 hb)), if_pos hb,
      if_pos hb]
    rfl
  | mouseWheel k =>
    obtain ⟨rfl, hw⟩ := h
    have hb : mouseBtnCodes.contains k = false := by
      simpa using List.all_eq_true.1 wheel_not_btn k (List.contains_iff_mem.1 hw)
    rw [pressKey, releaseKey, hi (List.mem_append_right _ (List.contains_iff_mem.1 hw)), hb,
      if_pos hw, if_pos hw]
    rfl
  | _ => exact h.elim

/-- A key that is not intercepted is forwarded whatever it is; an intercepted one has to be known,
    have a slot in the layer row, and find there nothing, `Trans`, or itself. -/
theorem tap_identity (mapped : List Nat) (row : Row) (v : Nat)
    (h : mapped.contains v = true → accepted v = true ∧ v ≠ 0 ∧ v < keysInRow ∧
      (row.lookup v = none ∨ row.lookup v = some .trans ∨
        ∃ a, row.lookup v = some a ∧ Spec.denotes a v)) :
    tap mapped row v = .ok (Spec.tapSpec (mapped.contains v) v) := by
  rw [tap]
  cases hm : mapped.contains v with
  | false => rfl
  | true =>
    obtain ⟨hv, h0, hlt, hrow⟩ := h hm
    -- whatever the row holds, the action `resolve_coord` arrives at denotes `v`
    obtain ⟨a, ha, hd⟩ :
        ∃ a, resolveTrans ((row.lookup v).getD .trans) v = .ok a ∧ Spec.denotes a v := by
      rcases hrow with h | h | ⟨a, h, hd⟩
      · exact ⟨.keyCode v, by rw [h]; exact resolveTrans_trans hv h0 hlt, rfl⟩
      · exact ⟨.keyCode v, by rw [h]; exact resolveTrans_trans hv h0 hlt, rfl⟩
      · exact ⟨a, by rw [h]; exact resolveTrans_other a v (by rintro rfl; exact hd), hd⟩
    rw [layerAt_eq row v h0 hlt]
    dsimp only [Bool.not_true, Bool.false_eq_true, ↓reduceIte]
    rw [ha]
    exact emit_denotes hv hd

theorem strToOscode_local {lk : List (Name × Nat)} {k v : Nat} (h : lk.lookup k = some v) :
    strToOscode (replaceCustom lk) k = some v := by
  rw [strToOscode_replaceCustom, List.lookup_append, h]; rfl

theorem tapCfg_of_tap {cfg : Config} {p : Parsed} (h : parseCfg cfg = .ok p) {v : Nat}
    {outs : List Out} (ht : tap p.mapped (p.rows.headD []) v = .ok outs) :
    tapCfg cfg v = .ok (p.mapped.contains v, outs) := by
  rw [tapCfg, h]
  dsimp only
  rw [ht]

/-- `(deflocalkeys-linux …) (defsrc n) (deflayer l act)`: one key `n`, one action -/
theorem parseCfg_one {lk : List (Name × Nat)} (hlk : parseLocalKeys [] lk = .ok lk) {n v : Nat}
    (hs : strToOscode (replaceCustom lk) n = some v) (hlt : v < keysInRow) {act : Name} {a : Act}
    (ha : parseActionAtom (replaceCustom lk) act = some (.ok a)) :
    parseCfg { localKeys := lk, defsrc := [n], layers := [.plain [act]] } =
      .ok { custom := replaceCustom lk, mapped := [v], rows := [[(v, a)]] } := by
  simp only [parseCfg, hlk, pukExceptions, defsrcKeys, hs, List.contains_nil, List.nil_append,
    List.any_nil, Bool.false_eq_true, ↓reduceIte, pukOn, parseLayers, plainLayer, parseAct, ha,
    Nat.not_le.2 hlt]

theorem tapCfg_one {lk : List (Name × Nat)} (hlk : parseLocalKeys [] lk = .ok lk) {n v : Nat}
    (hs : strToOscode (replaceCustom lk) n = some v) (hv : accepted v = true) (h0 : v ≠ 0)
    (hlt : v < keysInRow) {act : Name} {a : Act}
    (ha : parseActionAtom (replaceCustom lk) act = some (.ok a)) (hd : a = .trans ∨ Spec.denotes a v) :
    tapCfg { localKeys := lk, defsrc := [n], layers := [.plain [act]] } v =
      .ok (true, Spec.tapSpec true v) := by
  have := tapCfg_of_tap (parseCfg_one hlk hs hlt ha) (tap_identity [v] [(v, a)] v fun _ => ⟨hv, h0, hlt,
    .inr (hd.imp (by rintro rfl; simp [List.lookup]) fun hd => ⟨a, by simp [List.lookup], hd⟩)⟩)
  simpa only [List.contains_cons, beq_self_eq_true, Bool.true_or] using this

/-- the name the local-key theorems use: `kx` (neither a special atom, a list action nor a built-in name) -/
def localName : Name := encName [107, 120]

theorem parseLocalKeys_one {n v : Nat} (hv : accepted v = true) (hlt : v < keysInRow) :
    parseLocalKeys [] [(n, v)] = .ok [(n, v)] := by
  simp only [parseLocalKeys, List.lookup, Option.isSome_none, Bool.false_eq_true, ↓reduceIte,
    accepted_iff.1 hv, Option.filter_some, hlt, decide_true, List.nil_append]

theorem parseActionAtom_key {custom : List (Name × Nat)} {n c : Nat}
    (hn : n ∉ listActionNames ++ transAtoms ++ noopAtoms ++ topLevelErrorAtoms)
    (hm : mouseActionAtoms.lookup n = none) (hsp : n ∉ specialActionAtoms)
    (hs : strToOscode custom n = some c) (hc : accepted c = true) :
    parseActionAtom custom n = some (.ok (.keyCode c)) := by
  simp only [List.mem_append, not_or] at hn
  simp only [parseActionAtom, List.contains_eq_mem, hn, hm, hsp, hs, keyCodeOfOsCode_accepted hc,
    decide_false, Bool.false_eq_true, ↓reduceIte]

theorem parseActionAtom_mouse {custom : List (Name × Nat)} {n c : Nat}
    (hn : n ∉ listActionNames ++ transAtoms ++ noopAtoms ++ topLevelErrorAtoms)
    (hm : mouseActionAtoms.lookup n = some c) : parseActionAtom custom n =
      some (.ok (if mouseBtnCodes.contains c then .mouseBtn c else .mouseWheel c)) := by
  simp only [List.mem_append, not_or] at hn
  simp only [parseActionAtom, List.contains_eq_mem, hn, hm, decide_false, Bool.false_eq_true, ↓reduceIte]

theorem localName_plain : localName ∉ listActionNames ++ transAtoms ++ noopAtoms ++ topLevelErrorAtoms ∧
    mouseActionAtoms.lookup localName = none ∧ localName ∉ specialActionAtoms := by
  decide +kernel

theorem parseActionAtom_trans (custom : List (Name × Nat)) :
    parseActionAtom custom (encName [95]) = some (.ok .trans) := by
  have h : listActionNames.contains (encName [95]) = false ∧ transAtoms.contains (encName [95]) = true := by
    decide +kernel
  rw [parseActionAtom, h.1, h.2]
  rfl

/-- `(defcfg process-unmapped-keys yes) (defsrc) (deflayer l)` -/
theorem parseCfg_puk_yes : ∃ m, parseCfg { puk := .yes, layers := [.plain []] } =
      .ok { custom := defaultCustom, mapped := m, rows := [[]] } ∧
      ∀ x, x ∈ m ↔ (x < keysInRow ∧ accepted x = true ∧ x ≠ keyCodeNo) := by
  obtain ⟨m, hm, hmem⟩ := pukLoop_spec [] []
  refine ⟨m, ?_, fun x => by simp [hmem x, pukAdds]⟩
  simp only [parseCfg, parseLocalKeys, pukExceptions, defsrcKeys, pukOn, List.any_nil,
    Bool.false_eq_true, ↓reduceIte, hm, parseLayers, plainLayer, List.nil_append]
  rfl
end KVerif.KeyId
