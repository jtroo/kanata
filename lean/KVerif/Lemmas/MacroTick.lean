/-
C08 helper lemmas: the sequence invariant (`SeqInv`, Lemmas/MacroInv.lean) through whole ticks and
events of the layout model, on configurations built from plain keys, no-op, transparent keys, the
macro actions (`Sequence`, `RepeatableSequence`, alone or inside `MultipleActions` with a custom
action, as the eight macro list actions compile to), custom actions and `CancelSequences`.

Every step of the model on this fragment is either a `Frame` (it leaves alone what the invariant
reads, and then there is nothing to prove) or one of the few places that touch the ring: starting a
sequence, cancelling, `process_sequences`.
-/
import KVerif.Lemmas.MacroInv
import KVerif.Lemmas.Layered
namespace KVerif.Macro
open KVerif.L

/-! ### the fragment -/

mutual
  /-- actions of the C08 fragment; inside `multi` no transparent key -/
  def MFrag : Action → Prop
    | .noOp | .trans | .keyCode _ | .cancelSequences | .custom _ => True
    | .sequence evs | .repeatableSequence evs => EvsOK evs
    | .multipleActions acs => MFragL acs
    | _ => False
  def MFragL : List Action → Prop
    | [] => True
    | a :: rest => MFrag a ∧ a ≠ .trans ∧ MFragL rest
end

mutual
  /-- how many sequences an action starts -/
  def seqCount : Action → Nat
    | .sequence _ | .repeatableSequence _ => 1
    | .multipleActions acs => seqCountL acs
    | _ => 0
  def seqCountL : List Action → Nat
    | [] => 0
    | a :: rest => seqCount a + seqCountL rest
end

mutual
  def NoCancel : Action → Prop
    | .cancelSequences => False
    | .multipleActions acs => NoCancelL acs
    | _ => True
  def NoCancelL : List Action → Prop
    | [] => True
    | a :: rest => NoCancel a ∧ NoCancelL rest
end

def CfgM (c : LCfg) : Prop :=
  (∀ tbl ∈ c.layers, ∀ e ∈ tbl, MFrag e.2) ∧ (∀ e ∈ c.srcKeys, MFrag e.2)

/-- nothing but sequences is pending: no waiting state, no eager tap-dance, no queued action, no
one-shot -/
structure Quiet (s : Layout) : Prop where
  waiting : s.waiting = none
  extra : s.extraWaiting = []
  tde : s.tapDanceEager = none
  aq : s.actionQueue = []
  osh : s.oneshot.keys = []

/-- what no action of the fragment changes -/
structure Static (s s' : Layout) : Prop where
  cfg : s'.cfg = s.cfg
  waiting : s'.waiting = s.waiting
  extra : s'.extraWaiting = s.extraWaiting
  tde : s'.tapDanceEager = s.tapDanceEager
  aq : s'.actionQueue = s.actionQueue
  osh : s'.oneshot.keys = s.oneshot.keys
  tv2 : s'.transV2 = s.transV2
  dfl : s'.delegateToFirstLayer = s.delegateToFirstLayer

theorem Static.refl (s : Layout) : Static s s := ⟨rfl, rfl, rfl, rfl, rfl, rfl, rfl, rfl⟩
theorem Static.trans {a b c : Layout} (h1 : Static a b) (h2 : Static b c) : Static a c :=
  ⟨h2.cfg.trans h1.cfg, h2.waiting.trans h1.waiting, h2.extra.trans h1.extra,
   h2.tde.trans h1.tde, h2.aq.trans h1.aq, h2.osh.trans h1.osh, h2.tv2.trans h1.tv2, h2.dfl.trans h1.dfl⟩

theorem Quiet.of_static {s s' : Layout} (h : Quiet s) (hs : Static s s') : Quiet s' :=
  ⟨hs.waiting.trans h.waiting, hs.extra.trans h.extra, hs.tde.trans h.tde, hs.aq.trans h.aq, hs.osh.trans h.osh⟩

/-- for a concrete step the first hypothesis is `rfl` -/
theorem Static.of_fields {s s' : Layout}
    (h : s' = { s with states := s'.states, activeSequences := s'.activeSequences, queue := s'.queue,
                       oneshot := s'.oneshot, rptAction := s'.rptAction, histKeys := s'.histKeys,
                       histInputs := s'.histInputs, lptCoord := s'.lptCoord,
                       lptTapHoldTimeout := s'.lptTapHoldTimeout })
    (ho : s'.oneshot.keys = s.oneshot.keys) : Static s s' :=
  ⟨congrArg (·.cfg) h, congrArg (·.waiting) h, congrArg (·.extraWaiting) h, congrArg (·.tapDanceEager) h,
   congrArg (·.actionQueue) h, ho, congrArg (·.transV2) h, congrArg (·.delegateToFirstLayer) h⟩

/-- static, and neither the ring nor fake keys nor repeating states are touched -/
structure Frame (s s' : Layout) : Prop where
  st : Static s s'
  seqs : s'.activeSequences = s.activeSequences
  fake : ∀ k, St.fakeKey k ∈ s'.states → St.fakeKey k ∈ s.states
  rep : ∀ evs c, St.repeatingSequence evs c ∈ s'.states → St.repeatingSequence evs c ∈ s.states

theorem Frame.refl (s : Layout) : Frame s s := ⟨Static.refl s, rfl, fun _ h => h, fun _ _ h => h⟩
theorem Frame.trans {a b c : Layout} (h1 : Frame a b) (h2 : Frame b c) : Frame a c :=
  ⟨h1.st.trans h2.st, h2.seqs.trans h1.seqs, fun k h => h1.fake k (h2.fake k h),
   fun e c' h => h1.rep e c' (h2.rep e c' h)⟩
theorem Frame.inv {s s' : Layout} (hf : Frame s s') (h : SeqInv s) : SeqInv s' :=
  h.frame hf.seqs hf.fake hf.rep

def Plain (x : St) : Prop := (∀ k, x ≠ .fakeKey k) ∧ ∀ e c, x ≠ .repeatingSequence e c

theorem Frame.of_fields {s s' : Layout}
    (h : s' = { s with states := s'.states, queue := s'.queue, oneshot := s'.oneshot,
                       rptAction := s'.rptAction, histKeys := s'.histKeys, histInputs := s'.histInputs,
                       lptCoord := s'.lptCoord, lptTapHoldTimeout := s'.lptTapHoldTimeout })
    (ho : s'.oneshot.keys = s.oneshot.keys) (hst : ∀ x ∈ s'.states, x ∈ s.states ∨ Plain x) : Frame s s' :=
  have seqs : s'.activeSequences = s.activeSequences := congrArg (·.activeSequences) h
  ⟨.of_fields (by rw [seqs]; exact h) ho, seqs,
   fun k hk => (hst _ hk).resolve_right fun hp => hp.1 k rfl,
   fun e c hm => (hst _ hm).resolve_right fun hp => hp.2 e c rfl⟩

/-! ### one-shot bookkeeping never touches the key list of the one-shot state -/

theorem handlePress_keys (o : OneShotState) (k : OshKey) : (o.handlePress k).1.keys = o.keys := by
  unfold OneShotState.handlePress
  split
  · rfl
  · cases k <;> (simp only []; split <;> rfl)

theorem handleRelease_keys (o : OneShotState) (c : Coord) : (o.handleRelease c).1.keys = o.keys := by
  unfold OneShotState.handleRelease
  split
  · rfl
  · split
    · split <;> rfl
    · rfl

theorem oshPress_frame (s : Layout) (k : OshKey) : Frame s (s.oshPress k).1 :=
  .of_fields rfl (handlePress_keys _ _) fun _ h => .inl h

theorem oshOther_frame (s : Layout) (b : Bool) (c : Coord) : Frame s (oshOther s b c).1 := by
  unfold oshOther; split
  · exact oshPress_frame s _
  · exact Frame.refl s

theorem updateCoord_frame (s : Layout) (c : Coord) : Frame s (updateCoord s c) := by
  unfold updateCoord; split <;> exact .of_fields rfl rfl fun _ h => .inl h

theorem prelude_frame (s : Layout) (c : Coord) : Frame s (prelude s c) := by
  unfold prelude
  split <;> exact .of_fields rfl rfl fun _ h => .inl (List.mem_filter.mp h).1

theorem pushState_frame (s : Layout) (st : St) (h : Plain st) : Frame s (s.pushState st) :=
  .of_fields rfl rfl fun _ hx => (mem_pushCap hx).imp_right fun e => by rw [e]; exact h

theorem setRpt_frame (s : Layout) (a : Option Action) : Frame s { s with rptAction := a } :=
  .of_fields rfl rfl fun _ h => .inl h

/-! ### the arms -/

theorem armNoOp_frame (s : Layout) (a : Action) (c : Coord) (o : Bool) : Frame s (armNoOp s a c o) := by
  unfold armNoOp
  split
  · exact (oshPress_frame s _).trans (setRpt_frame _ _)
  · exact setRpt_frame _ _

theorem armKeyCode_frame (s : Layout) (a : Action) (kc : KeyCode) (c : Coord) (o : Bool) :
    Frame s (armKeyCode s a kc c o) := by
  unfold armKeyCode
  simp only []
  have f1 := updateCoord_frame s c
  generalize updateCoord s c = s1 at f1 ⊢
  have f2 : Frame s1 (({ s1 with histKeys := histPush s1.histKeys kc } : Layout).pushState (.normalKey kc c 0)) :=
    .of_fields rfl rfl fun _ hx => (mem_pushCap hx).imp_right fun e => by rw [e]; exact ⟨nofun, nofun⟩
  generalize ({ s1 with histKeys := histPush s1.histKeys kc } : Layout).pushState (.normalKey kc c 0) = s2 at f2 ⊢
  have f := (f1.trans f2).trans (oshOther_frame s2 o c)
  split <;> exact f.trans (setRpt_frame _ _)

theorem armCustom_frame (s : Layout) (a : Action) (id : Nat) (c : Coord) (o : Bool) :
    Frame s (armCustom s a id c o).1 := by
  unfold armCustom
  have f := ((updateCoord_frame s c).trans (oshOther_frame _ o c)).trans (setRpt_frame _ (some a))
  simp only []
  split
  · exact f.trans (pushState_frame _ _ ⟨nofun, nofun⟩)
  · exact f

theorem armSequence_static (s : Layout) (a : Action) (evs : List SeqEv) (c : Coord) (o rep : Bool) :
    Static s (armSequence s a evs c o rep) := by
  unfold armSequence
  have h1 : Static s (startSequence s evs) := .of_fields rfl rfl
  generalize startSequence s evs = s1 at h1 ⊢
  have h2 : Static s1 (if rep then s1.pushState (.repeatingSequence evs c) else s1) := by
    split
    · exact .of_fields rfl rfl
    · exact .refl _
  exact ((h1.trans h2).trans (oshOther_frame _ o c).st).trans (setRpt_frame _ (some a)).st

theorem armCancelSequences_static (s : Layout) (a : Action) (c : Coord) (o : Bool) :
    Static s (armCancelSequences s a c o) := by
  unfold armCancelSequences
  simp only []
  refine .trans (.trans ?_ (oshOther_frame _ o c).st) (setRpt_frame _ (some a)).st
  exact .of_fields rfl rfl

/-! ### `do_action` on the fragment -/

theorem doAction_trans (fuel : Nat) (s : Layout) (c : Coord) (d : Nat) (o : Bool) (ls : List Nat) :
    doAction (fuel + 1) s .trans c d o ls =
      match s.resolveCoord c ls with
      | .error e => .error e
      | .ok (a, ls') => dispatch fuel (prelude s c) a c d o ls' := rfl

theorem dispatch_multipleActions (fuel : Nat) (s : Layout) (acs : List Action) (c : Coord) (d : Nat) (o : Bool)
    (ls : List Nat) :
    dispatch (fuel + 1) s (.multipleActions acs) c d o ls =
      match doActions fuel (updateCoord s c) acs c d o ls .noEvent with
      | .error e => .error e
      | .ok (s, cu) => .ok ({ s with rptAction := some (.multipleActions acs) }, cu) := rfl

theorem doActions_cons (fuel : Nat) (s : Layout) (a : Action) (rest : List Action) (c : Coord) (d : Nat) (o : Bool)
    (ls : List Nat) (cu : CustomEv) :
    doActions (fuel + 1) s (a :: rest) c d o ls cu =
      match doAction fuel s a c d o ls with
      | .error e => .error e
      | .ok (s, c1) => doActions fuel s rest c d o ls (cu.update c1) := rfl

/-- outcome of an action that starts at most `n` sequences; if moreover it does not cancel (`nc`)
and the ring has room for `n` more, every sequence that was active still is, unchanged, and the
started ones follow them -/
structure R (s s' : Layout) (n : Nat) (nc : Prop) : Prop where
  st : Static s s'
  inv : SeqInv s'
  len : s'.activeSequences.length ≤ s.activeSequences.length + n
  ext : nc → s.activeSequences.length + n ≤ ACTIVE_SEQ_CAP →
    ∃ started, s'.activeSequences = s.activeSequences ++ started

theorem R.of_frame {s s' : Layout} {nc : Prop} (hf : Frame s s') (h : SeqInv s) : R s s' 0 nc :=
  ⟨hf.st, hf.inv h, Nat.le_of_eq (congrArg _ hf.seqs), fun _ _ => ⟨[], by rw [hf.seqs, List.append_nil]⟩⟩

theorem R.after_frame {a b c : Layout} {n : Nat} {nc : Prop} (hf : Frame a b) (h : R b c n nc) : R a c n nc :=
  ⟨hf.st.trans h.st, h.inv, hf.seqs ▸ h.len, hf.seqs ▸ h.ext⟩

theorem R.then_frame {a b c : Layout} {n : Nat} {nc : Prop} (h : R a b n nc) (hf : Frame b c) : R a c n nc :=
  ⟨h.st.trans hf.st, hf.inv h.inv, hf.seqs ▸ h.len, hf.seqs ▸ h.ext⟩

theorem R.trans {a b c : Layout} {n m : Nat} {p q : Prop} (h1 : R a b n p) (h2 : R b c m q) :
    R a c (n + m) (p ∧ q) := by
  refine ⟨h1.st.trans h2.st, h2.inv, ?_, fun hpq hroom => ?_⟩
  · have := h1.len; have := h2.len; omega
  · obtain ⟨st1, e1⟩ := h1.ext hpq.1 (by omega)
    obtain ⟨st2, e2⟩ := h2.ext hpq.2 (by have := h1.len; omega)
    exact ⟨st1 ++ st2, by rw [e2, e1, List.append_assoc]⟩

theorem armSequence_R (s : Layout) (a : Action) (evs : List SeqEv) (c : Coord) (o rep : Bool) {nc : Prop}
    (hi : SeqInv s) (hev : EvsOK evs) : R s (armSequence s a evs c o rep) 1 nc :=
  have ⟨a1, a2, a3⟩ := armSequence_inv s a evs c o rep hi hev
  ⟨armSequence_static s a evs c o rep, a1, a2, fun _ hr => ⟨_, a3 hr⟩⟩

theorem frag_all : ∀ fuel : Nat,
    (∀ s a coord delay o ls s' cu, SeqInv s → MFrag a → a ≠ .trans →
      doAction fuel s a coord delay o ls = .ok (s', cu) → R s s' (seqCount a) (NoCancel a)) ∧
    (∀ s a coord delay o ls s' cu, SeqInv s → MFrag a →
      dispatch fuel s a coord delay o ls = .ok (s', cu) → R s s' (seqCount a) (NoCancel a)) ∧
    (∀ s acs coord delay o ls cu0 s' cu, SeqInv s → MFragL acs →
      doActions fuel s acs coord delay o ls cu0 = .ok (s', cu) → R s s' (seqCountL acs) (NoCancelL acs)) := by
  intro fuel
  induction fuel with
  | zero => exact ⟨fun _ _ _ _ _ _ _ _ _ _ _ h => (by cases h), fun _ _ _ _ _ _ _ _ _ _ h => (by cases h),
      fun _ _ _ _ _ _ _ _ _ _ _ h => (by cases h)⟩
  | succ fuel ih =>
    obtain ⟨ih1, ih2, ih3⟩ := ih
    refine ⟨?_, ?_, ?_⟩
    · -- no resolution for a non-transparent action: the prelude, then `dispatch`
      intro s a coord delay o ls s' cu hi hf hnt h
      rw [C04.doAction_of_ne hnt] at h
      have hp := prelude_frame s coord
      exact (ih2 _ a coord delay o ls s' cu (hp.inv hi) hf h).after_frame hp
    · intro s a coord delay o ls s' cu hi hf h
      cases a with
      | noOp => cases h; exact .of_frame (armNoOp_frame s _ coord o) hi
      | trans => cases h
      | keyCode kc => cases h; exact .of_frame (armKeyCode_frame s _ kc coord o) hi
      | custom id =>
        have hfr := armCustom_frame s (.custom id) id coord o
        rw [show armCustom s (.custom id) id coord o = (s', cu) from Except.ok.inj h] at hfr
        exact .of_frame hfr hi
      | cancelSequences =>
        cases h
        obtain ⟨c1, c2, _⟩ := armCancelSequences_inv s .cancelSequences coord o hi.rep
        exact ⟨armCancelSequences_static s _ coord o, c1, by rw [c2]; exact Nat.zero_le _, False.elim⟩
      | sequence evs => cases h; exact armSequence_R s _ evs coord o false hi hf
      | repeatableSequence evs => cases h; exact armSequence_R s _ evs coord o true hi hf
      | multipleActions acs =>
        rw [dispatch_multipleActions] at h
        split at h
        · cases h
        · rename_i s1 c1 hr
          cases h
          have hu := updateCoord_frame s coord
          exact ((ih3 _ acs coord delay o ls .noEvent s1 _ (hu.inv hi) hf hr).after_frame hu).then_frame
            (setRpt_frame s1 _)
      | _ => exact False.elim hf
    · intro s acs coord delay o ls cu0 s' cu hi hf h
      cases acs with
      | nil => cases h; exact .of_frame (.refl s) hi
      | cons a rest =>
        rw [doActions_cons] at h
        split at h
        · cases h
        · rename_i s1 c1 hr
          have r1 := ih1 s a coord delay o ls s1 c1 hi hf.1 hf.2.1 hr
          exact r1.trans (ih3 s1 rest coord delay o ls _ s' cu r1.inv hf.2.2 h)

/-! ### transparent keys resolve to actions of the fragment -/

theorem srcKey_mfrag {c : LCfg} (hc : CfgM c) (y : Nat) : MFrag (c.srcKey y) := by
  unfold LCfg.srcKey
  split
  · rename_i a hf
    exact hc.2 _ (List.mem_of_find?_eq_some hf)
  · trivial

theorem layerAction_mfrag {c : LCfg} (hc : CfgM c) {l : Nat} {co : Coord} {x : Action}
    (h : c.layerAction l co = .ok x) : MFrag x := by
  unfold LCfg.layerAction at h
  split at h; · cases h
  rename_i tbl htbl
  have h := (ok_of_guard (ok_of_guard h).2).2
  split at h
  · rename_i e a' hf
    cases h
    exact hc.1 tbl (List.mem_of_getElem? htbl) _ (List.mem_of_find?_eq_some hf)
  · cases h; trivial

theorem resolve_mfrag (s : Layout) (coord : Coord) (hc : CfgM s.cfg) :
    ∀ (ls : List Nat) (a : Action) (rest : List Nat), s.resolveCoord coord ls = .ok (a, rest) → MFrag a := by
  intro ls
  induction ls with
  | nil =>
    intro a rest h
    have h := (ok_of_guard (ok_of_guard h).2).2
    split at h
    · cases (ok_of_guard h).2; exact srcKey_mfrag hc _
    · cases h; trivial
  | cons l rest' ih =>
    intro a rest h
    have h := (ok_of_guard (ok_of_guard h).2).2
    split at h
    · cases h
    · exact ih a rest h
    · rename_i x _ hx
      cases h; exact layerAction_mfrag hc hx

theorem resolveCoord_congr {s t : Layout} (h : s.cfg = t.cfg) (coord : Coord) :
    ∀ ls, s.resolveCoord coord ls = t.resolveCoord coord ls := by
  intro ls
  induction ls with
  | nil => simp only [Layout.resolveCoord, h]
  | cons l rest ih => simp only [Layout.resolveCoord, h, ih]

/-! ### `process_sequences` changes nothing else -/

theorem applyEff_static (s : Layout) (e : Eff) : Static s (applyEff s e) ∧ (applyEff s e).queue = s.queue := by
  cases e with
  | idle => exact ⟨.refl s, rfl⟩
  | untap k => exact ⟨.of_fields rfl rfl, rfl⟩
  | perform ev =>
    cases ev with
    | press kc | tap kc => exact ⟨.of_fields rfl (handlePress_keys s.oneshot (.other (0, 0))), rfl⟩
    | release kc => exact ⟨.of_fields rfl (handleRelease_keys s.oneshot (0, 0)), rfl⟩
    | custom id => exact ⟨.of_fields rfl rfl, rfl⟩
    | noOp | delay _ | complete => exact ⟨.refl s, rfl⟩

theorem putBack_static (s : Layout) (q : SeqState) : Static s (putBack s q) ∧ (putBack s q).queue = s.queue := by
  unfold putBack; split
  · exact ⟨.of_fields rfl rfl, rfl⟩
  · exact ⟨.refl s, rfl⟩

theorem seqLoop_static : ∀ (n : Nat) (s : Layout), Static s (seqLoop n s) ∧ (seqLoop n s).queue = s.queue := by
  intro n
  induction n with
  | zero => intro s; exact ⟨.refl s, rfl⟩
  | succ n ih =>
    intro s
    unfold seqLoop
    split
    · exact ⟨.refl s, rfl⟩
    · rename_i q rest _
      have h0 : Static s { s with activeSequences := rest } := .of_fields rfl rfl
      have h1 := applyEff_static { s with activeSequences := rest } (seqEffect q)
      have h2 := putBack_static (applyEff { s with activeSequences := rest } (seqEffect q)) (seqStep q)
      have h3 := ih (putBack (applyEff { s with activeSequences := rest } (seqEffect q)) (seqStep q))
      exact ⟨((h0.trans h1.1).trans h2.1).trans h3.1, h3.2.trans (h2.2.trans h1.2)⟩

theorem processSequences_static (s : Layout) :
    Static s (processSequences s) ∧ (processSequences s).queue = s.queue := by
  rw [processSequences_eq]
  have h := seqLoop_static s.activeSequences.length s
  unfold restartRepeating
  split
  · split
    · exact ⟨h.1.trans (.of_fields rfl rfl), h.2⟩
    · exact h
  · exact h

/-! ### the parts of `tick` -/

theorem tickPre_of_tde_none {s : Layout} (h : s.tapDanceEager = none) :
    tickPre s =
      let s1 : Layout := { s with queue := s.queue.map fun (q : Queued) => { q with since := min (q.since + 1) U16_MAX },
                                  lptTapHoldTimeout := s.lptTapHoldTimeout - 1 }
      { processSequences s1 with histKeys := histTick (processSequences s1).histKeys,
                                 histInputs := histTick (processSequences s1).histInputs } := by
  unfold tickPre
  simp only []
  split
  · rename_i tde heq
    exact nomatch h.symm.trans heq
  · rfl

theorem tickPre_spec {s : Layout} (hq : Quiet s) (hi : SeqInv s) :
    Static s (tickPre s) ∧ SeqInv (tickPre s) ∧
    (tickPre s).queue = s.queue.map (fun (q : Queued) => { q with since := min (q.since + 1) U16_MAX }) := by
  rw [tickPre_of_tde_none hq.tde]
  simp only []
  -- ageing the queue and the tracker before, and the histories after, is a `Frame`
  have f1 : Frame s { s with queue := s.queue.map fun (q : Queued) => { q with since := min (q.since + 1) U16_MAX },
                             lptTapHoldTimeout := s.lptTapHoldTimeout - 1 } :=
    .of_fields rfl rfl fun _ h => .inl h
  have hqu : ({ s with queue := s.queue.map fun (q : Queued) => { q with since := min (q.since + 1) U16_MAX },
                       lptTapHoldTimeout := s.lptTapHoldTimeout - 1 } : Layout).queue =
      s.queue.map (fun (q : Queued) => { q with since := min (q.since + 1) U16_MAX }) := rfl
  generalize ({ s with queue := s.queue.map fun (q : Queued) => { q with since := min (q.since + 1) U16_MAX },
                       lptTapHoldTimeout := s.lptTapHoldTimeout - 1 } : Layout) = s1 at f1 hqu ⊢
  have h2 := processSequences_static s1
  have i2 := processSequences_inv s1 (f1.inv hi)
  generalize processSequences s1 = s2 at h2 i2 ⊢
  have f3 : Frame s2 { s2 with histKeys := histTick s2.histKeys, histInputs := histTick s2.histInputs } :=
    .of_fields rfl rfl fun _ h => .inl h
  exact ⟨(f1.st.trans h2.1).trans f3.st, f3.inv i2, h2.2.trans hqu⟩

theorem tickOneshot_quiet {s : Layout} (hq : Quiet s) : tickOneshot s = .ok (s, .noEvent) := by
  unfold tickOneshot OneShotState.tick
  simp [hq.osh]

theorem release_fst (st : St) (c : Coord) (cu : CustomEv) :
    (st.release c cu).1 = if st.coord = some c then none else some st := by
  cases st with
  | normalKey _ co _ | layerModifier _ co | custom _ co | repeatingSequence _ co =>
    simp only [St.release, St.coord, apply_ite Prod.fst, Option.some.injEq, beq_iff_eq]
  | _ => rfl

/-- a key release removes the states of that coordinate (and, the first time round, the states
flagged for it): `retain(|s| !s.clear_on_next_release() && s.release(..).is_some())` -/
theorem releaseStates_fst (f : Bool) (c : Coord) : ∀ (l : List St) (cu : CustomEv),
    (releaseStates f c l cu).1 = l.filter fun st => !(f && st.clearOnNextRelease) && st.coord != some c := by
  intro l
  induction l with
  | nil => intro cu; rfl
  | cons st rest ih =>
    intro cu
    rw [releaseStates, List.filter_cons]
    cases hf : f && st.clearOnNextRelease
    · have h1 := release_fst st c cu
      generalize st.release c cu = r at h1
      obtain ⟨r1, cu1⟩ := r
      simp only at h1
      subst h1
      by_cases hc : st.coord = some c <;> simp [hc, ih]
    · simpa using ih cu

theorem releaseStates_sub (f : Bool) (c : Coord) : ∀ (l : List St) (cu : CustomEv) (x : St),
    x ∈ (releaseStates f c l cu).1 → x ∈ l := by
  intro l cu x h
  rw [releaseStates_fst] at h
  exact (List.mem_filter.mp h).1

/-- **releasing a key removes its repeating-macro state** -/
theorem releaseStates_no_rep (f : Bool) (c : Coord) (l : List St) (cu : CustomEv) (evs : List SeqEv) :
    St.repeatingSequence evs c ∉ (releaseStates f c l cu).1 := by
  intro h
  rw [releaseStates_fst] at h
  simpa [St.coord] using (List.mem_filter.mp h).2

theorem processSequenceCustom_frame (s : Layout) (cu : CustomEv) :
    Frame s (processSequenceCustom s cu).1 := by
  unfold processSequenceCustom
  split
  · exact Frame.refl s
  · -- the scan rewrites one `SeqCustomPending` / `SeqCustomActive` state into a plain one
    have key : ∀ (l : List St), ∀ x ∈ (processSequenceCustom.go cu l).1, x ∈ l ∨ Plain x := by
      intro l
      induction l with
      | nil => intro x h; cases h
      | cons st rest ih =>
        intro x h
        have hgo : x ∈ st :: (processSequenceCustom.go cu rest).1 → x ∈ st :: rest ∨ Plain x := fun h =>
          (List.mem_cons.mp h).elim (fun e => .inl (e ▸ List.mem_cons_self))
            fun h => (ih x h).imp_left (List.mem_cons_of_mem _)
        cases st with
        | seqCustomPending id | seqCustomActive id =>
          exact (List.mem_cons.mp h).elim (fun e => .inr (e ▸ ⟨nofun, nofun⟩)) fun h => .inl (List.mem_cons_of_mem _ h)
        | _ => exact hgo h
    exact .of_fields rfl rfl fun x h => (key _ x h).imp_left fun h => (List.mem_filter.mp h).1

theorem processExtraWaitings_quiet {s : Layout} (h : s.extraWaiting = []) (cu : CustomEv) :
    ∃ s', processExtraWaitings s cu = .ok (s', cu) ∧ Frame s s' := by
  unfold processExtraWaitings
  split
  · exact ⟨s, rfl, Frame.refl s⟩
  · simp only [h, tickExtraWaitings, List.reverse_nil]
    exact ⟨_, rfl, ⟨⟨rfl, rfl, h.symm ▸ rfl, rfl, rfl, rfl, rfl, rfl⟩, rfl, fun _ h => h, fun _ _ h => h⟩⟩

/-! ### a whole tick, an event -/

theorem dequeue_spec (fuel : Nat) {s : Layout} (hc : CfgM s.cfg) (hq : Quiet s) (hi : SeqInv s) (q : Queued)
    (s' : Layout) (cu : CustomEv)
    (h : dequeue fuel s q = .ok (s', cu)) : Static s s' ∧ SeqInv s' := by
  cases fuel with
  | zero => cases h
  | succ fuel =>
  obtain ⟨ev, since⟩ := q
  cases ev with
  | release c =>
    simp only [dequeue] at h
    have hk := handleRelease_keys s.oneshot c
    generalize s.oneshot.handleRelease c = r at h hk
    obtain ⟨o, dr, ov⟩ := r
    suffices f : Frame s s' from ⟨f.st, f.inv hi⟩
    cases h
    -- the states after the (up to two) release passes are among the old ones
    refine .of_fields rfl hk fun x hx => .inl ?_
    cases dr <;> cases ov <;> simp only [Bool.false_eq_true, if_false, if_true] at hx
    · exact hx
    · exact releaseStates_sub _ _ _ _ _ hx
    · exact releaseStates_sub _ _ _ _ _ hx
    · exact releaseStates_sub _ _ _ _ _ (releaseStates_sub _ _ _ _ _ hx)
  | press c =>
    simp only [dequeue, bind, Except.bind, hq.tde] at h
    split at h
    · cases h
    · rename_i order _
      cases fuel with
      | zero => cases h
      | succ fuel =>
      rw [doAction_trans] at h
      split at h
      · cases h
      · rename_i a ls hres
        have hp := prelude_frame s c
        have r := ((frag_all fuel).2.1 _ a c since false ls s' cu (hp.inv hi)
          (resolve_mfrag s c hc order a ls hres) h).after_frame hp
        exact ⟨r.st, r.inv⟩

theorem tickMain_of_quiet {s : Layout} (hw : s.waiting = none) (he : s.extraWaiting = []) :
    tickMain s =
      if s.oneshot.pauseInputProcessingTicks > 0 then
        .ok ({ s with oneshot := { s.oneshot with pauseInputProcessingTicks := s.oneshot.pauseInputProcessingTicks - 1 } }, .noEvent)
      else match s.queue with
        | q :: rest => dequeue FUEL (s.setQueue rest) q
        | [] => .ok (s, .noEvent) := by
  unfold tickMain
  split
  · rename_i w hw'
    exact nomatch hw.symm.trans hw'
  · rw [if_pos (by rw [he]; rfl)]; rfl

theorem tickMain_spec {s : Layout} (hc : CfgM s.cfg) (hq : Quiet s) (hi : SeqInv s) (s' : Layout)
    (cu : CustomEv) (h : tickMain s = .ok (s', cu)) : Static s s' ∧ SeqInv s' := by
  rw [tickMain_of_quiet hq.waiting hq.extra] at h
  split at h
  · suffices f : Frame s s' from ⟨f.st, f.inv hi⟩
    cases h
    exact .of_fields rfl rfl fun _ h => .inl h
  · split at h
    · rename_i q rest _
      have f : Frame s (s.setQueue rest) := .of_fields rfl rfl fun _ h => .inl h
      have d := dequeue_spec FUEL (f.st.cfg ▸ hc) (hq.of_static f.st) (f.inv hi) q s' cu h
      exact ⟨f.st.trans d.1, d.2⟩
    · cases h; exact ⟨.refl s, hi⟩

/-- **one tick keeps the invariant** -/
theorem tick_inv {s : Layout} (hc : CfgM s.cfg) (hq : Quiet s) (hi : SeqInv s)
    (s' : Layout) (cu : CustomEv) (h : tick s = .ok (s', cu)) :
    Quiet s' ∧ SeqInv s' ∧ s'.cfg = s.cfg := by
  obtain ⟨p1, p2, _⟩ := tickPre_spec hq hi
  have hq1 := hq.of_static p1
  unfold tick at h
  simp only [hq.aq, tickOneshot_quiet hq1] at h
  generalize tickPre s = s1 at p1 p2 hq1 h
  split at h
  · cases h
  · rename_i s2 c2 hm
    obtain ⟨m1, m2⟩ := tickMain_spec (p1.cfg ▸ hc) hq1 p2 s2 c2 hm
    obtain ⟨s3, e3, f3⟩ := processExtraWaitings_quiet (hq1.of_static m1).extra (CustomEv.noEvent.update c2)
    rw [e3] at h
    have f4 := processSequenceCustom_frame s3 (CustomEv.noEvent.update c2)
    rw [Except.ok.inj h] at f4
    have hst := ((p1.trans m1).trans f3.st).trans f4.st
    exact ⟨hq.of_static hst, f4.inv (f3.inv m2), hst.cfg⟩

theorem flushWaitings_quiet : ∀ (l : List (Option Nat)) (fuel : Nat) (s s' : Layout), Quiet s →
    flushWaitings fuel s l = .ok s' → s' = s := by
  intro l
  induction l with
  | nil =>
    intro fuel s s' _ h
    cases fuel with
    | zero => cases h
    | succ fuel => cases h; rfl
  | cons i rest ih =>
    intro fuel s s' hq h
    cases fuel with
    | zero => cases h
    | succ fuel =>
      simp only [flushWaitings, bind, Except.bind] at h
      have hw : waitingIntoHold fuel s i = .error .fuelOut ∨ waitingIntoHold fuel s i = .ok (s, .noEvent) := by
        cases fuel with
        | zero => exact Or.inl rfl
        | succ fuel =>
          right
          cases i with
          | none => simp [waitingIntoHold, takeWaiting, hq.waiting]
          | some j => simp [waitingIntoHold, takeWaiting, hq.extra]
      rcases hw with hw | hw
      · rw [hw] at h; cases h
      · rw [hw] at h
        exact ih fuel s s' hq h

/-- **an event keeps the invariant**, also when the queue of 32 is full and the oldest event is
processed at once -/
theorem event_inv {s : Layout} (hc : CfgM s.cfg) (hq : Quiet s) (hi : SeqInv s) (e : Ev)
    (s' : Layout) (h : s.event e = .ok s') : Quiet s' ∧ SeqInv s' ∧ s'.cfg = s.cfg := by
  unfold Layout.event at h
  rw [FUEL_succ] at h
  -- the state with the input history updated, the queue still to be pushed
  have core : ∀ s0 : Layout, Frame s s0 →
      ∀ r : List Queued × Option Queued,
      (match r with
        | (q, ov) =>
          match ov with
          | none => (pure ({ s0 with queue := q } : Layout) : Except Crash Layout)
          | some overflow => do
            let s ← flushWaitings 3999 ({ s0 with queue := q } : Layout) (none :: (List.range EXTRA_WAITING_LEN).map some)
            let (s, _) ← dequeue 3999 s overflow
            pure s) = .ok s' →
      Quiet s' ∧ SeqInv s' ∧ s'.cfg = s.cfg := by
    intro s0 f0 r h
    obtain ⟨q, ov⟩ := r
    have f1 : Frame s ({ s0 with queue := q } : Layout) := f0.trans (.of_fields rfl rfl fun _ h => .inl h)
    simp only [] at h
    generalize ({ s0 with queue := q } : Layout) = s1 at f1 h
    have hq1 := hq.of_static f1.st
    cases ov with
    | none => cases h; exact ⟨hq1, f1.inv hi, f1.st.cfg⟩
    | some overflow =>
      simp only [bind, Except.bind, pure, Except.pure] at h
      split at h
      · cases h
      · rename_i s1' hfl
        cases flushWaitings_quiet _ _ _ _ hq1 hfl
        split at h
        · cases h
        · rename_i r hd
          obtain ⟨s2, c2⟩ := r
          cases h
          obtain ⟨d1, d2⟩ := dequeue_spec 3999 (f1.st.cfg ▸ hc) hq1 (f1.inv hi) overflow s2 c2 hd
          exact ⟨hq1.of_static d1, d2, d1.cfg.trans f1.st.cfg⟩
  cases e with
  | press c => exact core { s with histInputs := histPush s.histInputs c } (.of_fields rfl rfl fun _ h => .inl h) _ h
  | release c => exact core s (Frame.refl s) _ h

/-! ### the cancellation glue (Model/MacroCancel.lean) -/

structure KInv (k : KState) : Prop where
  quiet : Quiet k.lay
  inv : SeqInv k.lay

theorem KInv.cancel {k : KState} (h : KInv k) (d : Nat) : KInv { lay := cancelAll k.lay, cancelDur := d } :=
  ⟨h.quiet.of_static (.of_fields rfl rfl), (cancelAll_inv k.lay).1⟩

theorem prePress_inv {k : KState} (h : KInv k) : KInv k.prePress ∧ k.prePress.lay.cfg = k.lay.cfg := by
  unfold KState.prePress
  split
  · exact ⟨h.cancel 0, rfl⟩
  · exact ⟨h, rfl⟩

theorem customEffects_inv (tbl : Nat → List CAct) (k : KState) (ce : CustomEv) (h : KInv k) :
    KInv (customEffects tbl k ce) ∧ (customEffects tbl k ce).lay.cfg = k.lay.cfg := by
  have key : ∀ (f : KState → CAct → KState),
      (∀ k a, KInv k → KInv (f k a) ∧ (f k a).lay.cfg = k.lay.cfg) →
      ∀ (l : List CAct) (k : KState), KInv k → KInv (l.foldl f k) ∧ (l.foldl f k).lay.cfg = k.lay.cfg := by
    intro f hf l
    induction l with
    | nil => intro k hk; exact ⟨hk, rfl⟩
    | cons a rest ih =>
      intro k hk
      obtain ⟨a1, a2⟩ := hf k a hk
      obtain ⟨b1, b2⟩ := ih (f k a) a1
      exact ⟨b1, b2.trans a2⟩
  cases ce with
  | noEvent => exact ⟨h, rfl⟩
  | press id =>
    refine key _ ?_ (tbl id) k h
    intro k a hk
    cases a <;> exact ⟨⟨hk.quiet, hk.inv⟩, rfl⟩
  | release id =>
    refine key _ ?_ (tbl id) k h
    intro k a hk
    cases a
    · exact ⟨hk.cancel 0, rfl⟩
    · exact ⟨hk, rfl⟩
    · exact ⟨hk, rfl⟩

theorem kpress_inv {k : KState} (hc : CfgM k.lay.cfg) (h : KInv k) (c : Coord)
    (k' : KState) (hp : k.press c = .ok k') : KInv k' ∧ k'.lay.cfg = k.lay.cfg := by
  unfold KState.press at hp
  obtain ⟨p1, p2⟩ := prePress_inv h
  simp only [] at hp
  split at hp
  · cases hp
  · rename_i l hl
    cases hp
    obtain ⟨e1, e2, e3⟩ := event_inv (p2 ▸ hc) p1.quiet p1.inv (.press c) l hl
    exact ⟨⟨e1, e2⟩, e3.trans p2⟩

theorem krelease_inv {k : KState} (hc : CfgM k.lay.cfg) (h : KInv k) (c : Coord)
    (k' : KState) (hp : k.release c = .ok k') : KInv k' ∧ k'.lay.cfg = k.lay.cfg := by
  unfold KState.release KState.rawEvent at hp
  split at hp
  · cases hp
  · rename_i l hl
    cases hp
    obtain ⟨e1, e2, e3⟩ := event_inv hc h.quiet h.inv (.release c) l hl
    exact ⟨⟨e1, e2⟩, e3⟩

theorem ktick_inv (tbl : Nat → List CAct) {k : KState} (hc : CfgM k.lay.cfg) (h : KInv k)
    (k' : KState) (keys : List KeyCode) (ht : k.tick tbl = .ok (k', keys)) :
    KInv k' ∧ k'.lay.cfg = k.lay.cfg := by
  unfold KState.tick at ht
  split at ht
  · cases ht
  · rename_i l ce hl
    obtain ⟨t1, t2, t3⟩ := tick_inv hc h.quiet h.inv l ce hl
    obtain ⟨c1, c2⟩ := customEffects_inv tbl { k with lay := l } ce ⟨t1, t2⟩
    cases ht
    exact ⟨⟨c1.quiet, c1.inv⟩, c2.trans t3⟩

end KVerif.Macro
