/-
The variable part of Model/SExpr.lean, step by step, so that the proofs above it need not unfold it:
`SExpr::atom(vars)` and `SExpr::list(vars)` follow one and the same chain of references (`chase`);
`push_all_atoms` goes element by element (`elemAtoms`); `parse_vars` is a sequence of single
definitions (`defineVar`, chained by `andThen`).  Before that, what every file about expression
trees uses: the induction principle for `SExpr` together with `List SExpr`, and decidable equality.
-/
import KVerif.Model.SExpr
namespace KVerif.SExpr

/-! ## the expression tree -/

theorem SExpr.induction {P : SExpr → Prop} {Q : List SExpr → Prop} (atom : ∀ t sp, P (.atom t sp))
    (list : ∀ xs sp, Q xs → P (.list xs sp)) (nil : Q []) (cons : ∀ x r, P x → Q r → Q (x :: r)) :
    (∀ e, P e) ∧ (∀ xs, Q xs) :=
  ⟨SExpr.rec atom list nil cons, SExpr.rec_1 atom list nil cons⟩

mutual
def SExpr.decEq : (a b : SExpr) → Decidable (a = b)
  | .atom t sp, .atom t' sp' => decidable_of_iff (t = t' ∧ sp = sp') (by simp)
  | .list xs sp, .list ys sp' =>
    have := SExpr.decEqList xs ys
    decidable_of_iff (xs = ys ∧ sp = sp') (by simp)
  | .atom .., .list .. | .list .., .atom .. => isFalse nofun
def SExpr.decEqList : (a b : List SExpr) → Decidable (a = b)
  | [], [] => isTrue rfl
  | [], _ :: _ | _ :: _, [] => isFalse nofun
  | x :: xs, y :: ys =>
    have := SExpr.decEq x y
    have := SExpr.decEqList xs ys
    decidable_of_iff (x = y ∧ xs = ys) (by simp)
end

/-- with equality of outcomes decidable, the concrete witnesses and examples of Props/C03.lean and
Props/C03vars.lean are checked by the kernel alone -/
instance : DecidableEq SExpr := SExpr.decEq
deriving instance DecidableEq for Diag
deriving instance DecidableEq for Except
deriving instance DecidableEq for Meta
deriving instance DecidableEq for PErr
deriving instance DecidableEq for TopLevel

/-! ## resolving a reference: `SExpr::atom(vars)`, `SExpr::list(vars)` -/

/-- The expression at the end of the chain of `$name` references that starts at `e`.
`SExpr::atom(vars)` and `SExpr::list(vars)` both follow this chain, one recursive call per hop, and
differ only in what they report about its end. -/
def chase (vars : Vars) : Nat → SExpr → Except Crash SExpr
  | _, .list xs sp => .ok (.list xs sp)
  | fuel, .atom t sp =>
    match stripDollar t with
    | none => .ok (.atom t sp)
    | some n =>
      match vars.lookup n with
      | none => .ok (.atom t sp)
      | some v =>
        match fuel with
        | 0 => .error .fuelOut
        | fuel + 1 => chase vars fuel v

theorem resolve_eq_chase (vars : Vars) (f : Nat) (e : SExpr) :
    e.atomV f (some vars) = (chase vars f e).map SExpr.atom? ∧
    e.listV f (some vars) = (chase vars f e).map SExpr.list? := by
  fun_induction chase vars f e with
  | case1 => unfold SExpr.atomV SExpr.listV; exact ⟨rfl, rfl⟩
  | case2 _ t sp hs => unfold SExpr.atomV SExpr.listV; simp only [hs]; exact ⟨rfl, rfl⟩
  | case3 _ t sp n hs hl => unfold SExpr.atomV SExpr.listV; simp only [hs, hl]; exact ⟨rfl, rfl⟩
  | case4 t sp n hs v hl => unfold SExpr.atomV SExpr.listV; simp only [hs, hl]; exact ⟨rfl, rfl⟩
  | case5 t sp n hs v hl f ih => unfold SExpr.atomV SExpr.listV; simp only [hs, hl]; exact ih

theorem resolves_of_chase {vars : Vars} {f : Nat} {e r : SExpr} (h : chase vars f e = .ok r) :
    (∃ r, e.atomV f (some vars) = .ok r) ∧ (∃ r, e.listV f (some vars) = .ok r) := by
  rw [(resolve_eq_chase vars f e).1, (resolve_eq_chase vars f e).2, h]
  exact ⟨⟨_, rfl⟩, ⟨_, rfl⟩⟩

/-- the chain ends at `e` itself, or `e` is a reference to a defined variable -/
theorem chase_cases (vars : Vars) (e : SExpr) :
    (∀ f, chase vars f e = .ok e) ∨
    ∃ t sp n v, e = .atom t sp ∧ stripDollar t = some n ∧ vars.lookup n = some v := by
  cases e with
  | list xs sp => exact .inl fun f => by rw [chase]
  | atom t sp =>
    cases hs : stripDollar t with
    | none => exact .inl fun f => by rw [chase]; simp only [hs]
    | some n =>
      cases hl : vars.lookup n with
      | none => exact .inl fun f => by rw [chase]; simp only [hs, hl]
      | some v => exact .inr ⟨t, sp, n, v, rfl, hs, hl⟩

theorem chase_ref (vars : Vars) {t : Bytes} {sp : Span} {n : Bytes} {v : SExpr} (hs : stripDollar t = some n)
    (hl : vars.lookup n = some v) (f : Nat) : chase vars (f + 1) (.atom t sp) = chase vars f v := by
  rw [chase]; simp only [hs, hl]

theorem chase_ref_zero (vars : Vars) {t : Bytes} {sp : Span} {n : Bytes} {v : SExpr} (hs : stripDollar t = some n)
    (hl : vars.lookup n = some v) : chase vars 0 (.atom t sp) = .error .fuelOut := by
  rw [chase]; simp only [hs, hl]

theorem chase_mono (vars : Vars) {f : Nat} {e r : SExpr} (h : chase vars f e = .ok r) {f' : Nat} (hf : f ≤ f') :
    chase vars f' e = .ok r := by
  induction f generalizing e f' with
  | zero =>
    rcases chase_cases vars e with h0 | ⟨t, sp, n, v, rfl, hs, hl⟩
    · exact (h0 f').trans ((h0 0).symm.trans h)
    · rw [chase_ref_zero vars hs hl] at h; cases h
  | succ f ih =>
    rcases chase_cases vars e with h0 | ⟨t, sp, n, v, rfl, hs, hl⟩
    · exact (h0 f').trans ((h0 _).symm.trans h)
    · cases f' with
      | zero => cases hf
      | succ f' =>
        rw [chase_ref vars hs hl] at h ⊢
        exact ih h (Nat.le_of_succ_le_succ hf)

/-- the `$name → value` hops that `SExpr::atom`/`SExpr::list` follow are ranked: some measure
strictly decreases along every hop from a variable whose value is an atom `$m` to the variable `m` -/
def ChainRanked (vars : Vars) (rank : Bytes → Nat) : Prop :=
  ∀ n t sp m v, vars.lookup n = some (.atom t sp) → stripDollar t = some m → vars.lookup m = some v →
    rank m < rank n

/-- along a ranked chain the rank of a variable bounds the hops that its value still needs -/
theorem chase_total_of_ranked {vars : Vars} {rank : Bytes → Nat} (h : ChainRanked vars rank) :
    ∀ fuel m v, vars.lookup m = some v → rank m ≤ fuel → ∃ r, chase vars fuel v = .ok r := by
  intro fuel
  induction fuel with
  | zero =>
    intro m v hm hk
    rcases chase_cases vars v with h0 | ⟨t, sp, n, v', rfl, hs, hl⟩
    · exact ⟨v, h0 0⟩
    · have := h m t sp n v' hm hs hl; omega
  | succ f ih =>
    intro m v hm hk
    rcases chase_cases vars v with h0 | ⟨t, sp, n, v', rfl, hs, hl⟩
    · exact ⟨v, h0 _⟩
    · rw [chase_ref vars hs hl]
      exact ih n v' hl (by have := h m t sp n v' hm hs hl; omega)

/-- a variable whose value is the reference to itself: the chain never ends -/
theorem chase_selfref {vars : Vars} {t n : Bytes} {sp' : Span} (hs : stripDollar t = some n)
    (hl : vars.lookup n = some (.atom t sp')) (fuel : Nat) (sp : Span) :
    chase vars fuel (.atom t sp) = .error .fuelOut := by
  induction fuel generalizing sp with
  | zero => exact chase_ref_zero vars hs hl
  | succ f ih => rw [chase_ref vars hs hl]; exact ih sp'

/-! ## `push_all_atoms` -/

/-- what one element contributes to `push_all_atoms` -/
def elemAtoms (fuel : Nat) (vars : Vars) (e : SExpr) : Except Crash Bytes :=
  match e.atomV (fuel + 1) (some vars) with
  | .error c => .error c
  | .ok (some a) => .ok (trimAtomQuotes a)
  | .ok none =>
    match e.listV (fuel + 1) (some vars) with
    | .error c => .error c
    | .ok (some l) => pushAllAtoms fuel vars l
    | .ok none => .ok []

theorem elemAtoms_eq (fuel : Nat) (vars : Vars) (e : SExpr) :
    elemAtoms fuel vars e =
      match chase vars (fuel + 1) e with
      | .error c => .error c
      | .ok (.atom a _) => .ok (trimAtomQuotes a)
      | .ok (.list l _) => pushAllAtoms fuel vars l := by
  rw [elemAtoms, (resolve_eq_chase vars _ e).1, (resolve_eq_chase vars _ e).2]
  cases chase vars (fuel + 1) e with
  | error c => rfl
  | ok r => cases r <;> rfl

theorem pushAllAtoms_cons (fuel : Nat) (vars : Vars) (e : SExpr) (rest : List SExpr) :
    pushAllAtoms (fuel + 1) vars (e :: rest) =
      (do let a ← elemAtoms fuel vars e
          let b ← pushAllAtoms fuel vars rest
          pure (a ++ b)) := by
  rw [pushAllAtoms, elemAtoms]
  cases e.atomV (fuel + 1) (some vars) with
  | error c => rfl
  | ok r =>
    cases r with
    | some a => rfl
    | none =>
      cases e.listV (fuel + 1) (some vars) with
      | error c => rfl
      | ok r2 => cases r2 <;> rfl

theorem pushAllAtoms_nil (fuel : Nat) (vars : Vars) : pushAllAtoms fuel vars [] = .ok [] := by
  cases fuel <;> rfl

theorem elemAtoms_mono_of (vars : Vars) {f f' : Nat} (hf : f ≤ f')
    (ih : ∀ xs r, pushAllAtoms f vars xs = .ok r → pushAllAtoms f' vars xs = .ok r) {e : SExpr} {a : Bytes}
    (h : elemAtoms f vars e = .ok a) : elemAtoms f' vars e = .ok a := by
  rw [elemAtoms_eq] at h ⊢
  cases hc : chase vars (f + 1) e with
  | error c => rw [hc] at h; cases h
  | ok r =>
    rw [chase_mono vars hc (Nat.succ_le_succ hf)]
    rw [hc] at h
    cases r with
    | atom => exact h
    | list l => exact ih l a h

theorem pushAllAtoms_mono (vars : Vars) {f : Nat} {xs : List SExpr} {r : Bytes}
    (h : pushAllAtoms f vars xs = .ok r) {f' : Nat} (hf : f ≤ f') : pushAllAtoms f' vars xs = .ok r := by
  induction f generalizing xs r f' with
  | zero =>
    cases xs with
    | nil => rwa [pushAllAtoms_nil] at h ⊢
    | cons => cases h
  | succ f ih =>
    cases xs with
    | nil => rwa [pushAllAtoms_nil] at h ⊢
    | cons e rest =>
      cases f' with
      | zero => cases hf
      | succ f' =>
        have hf : f ≤ f' := Nat.le_of_succ_le_succ hf
        rw [pushAllAtoms_cons] at h ⊢
        cases ha : elemAtoms f vars e with
        | error c => rw [ha] at h; cases h
        | ok a =>
          cases hb : pushAllAtoms f vars rest with
          | error c => rw [ha, hb] at h; cases h
          | ok b =>
            rw [elemAtoms_mono_of vars hf (fun _ _ h => ih h hf) ha, ih hb hf]
            rwa [ha, hb] at h

/-- a variable whose value is a list that mentions the variable: `push_all_atoms` descends into it
without end, two units of fuel per round (the reference, then the elements of the list) -/
theorem pushAllAtoms_selfref {vars : Vars} {x t n : Bytes} {sp1 sp2 sp3 : Span} (hx : stripDollar x = none)
    (hs : stripDollar t = some n) (hl : vars.lookup n = some (.list [.atom x sp1, .atom t sp2] sp3)) :
    ∀ (fuel : Nat) (sp : Span), pushAllAtoms fuel vars [.atom t sp] = .error .fuelOut := by
  intro fuel
  induction fuel using Nat.strongRecOn with
  | _ fuel ih =>
    intro sp
    match fuel with
    | 0 => rfl
    | 1 => rw [pushAllAtoms_cons, elemAtoms_eq, chase_ref vars hs hl, chase]; rfl
    | f + 2 =>
      rw [pushAllAtoms_cons, elemAtoms_eq, chase_ref vars hs hl, chase]
      show (pushAllAtoms (f + 1) vars _ >>= _) = _
      rw [pushAllAtoms_cons, elemAtoms_eq, chase]
      simp only [hx]
      rw [ih f (by omega) sp2]
      rfl

/-! ## `parse_vars` step by step -/

theorem parseListVar_atom (f : Nat) (vars : Vars) (t : Bytes) (s : Span) (rest : List SExpr) (sp : Span) :
    parseListVar f vars (.atom t s :: rest) sp =
      if t = kw "concat" then (pushAllAtoms f vars rest).map (.atom · sp)
      else .ok (.list (.atom t s :: rest) sp) := by
  rw [parseListVar]
  split
  · cases pushAllAtoms f vars rest <;> rfl
  · rfl

/-- the value stored for a definition: an atom as it is, a list through `parse_list_var` -/
def evalValue (fuel : Nat) (vars : Vars) : SExpr → Except Crash SExpr
  | .atom t s => .ok (.atom t s)
  | .list xs s => parseListVar fuel vars xs s

/-- the search as `parse_vars` runs it for the variable `name` it has just inserted into `vars`:
work list `[name]`, nothing visited, the fuel the model gives it -/
def reachesSelf (vars : Vars) (name : Bytes) : Bool :=
  reachesVar vars name (vars.length + 1) [name] []

/-- the diagnostic of the cycle check -/
def selfRefDiag (sp : Span) : Diag := ⟨some sp, "variable is defined in terms of itself"⟩

/-- a name that is taken is refused; the cycle check runs on the table that already holds the new
variable -/
def insertVar (fx : Fixes) (name : Bytes) (sp : Span) (vars : Vars) (v : SExpr) : Except Diag Vars :=
  if (vars.lookup name).isSome then .error ⟨some sp, "duplicate variable name"⟩
  else if fx.varCycle && reachesSelf (vars ++ [(name, v)]) name then
    .error (selfRefDiag sp)
  else .ok (vars ++ [(name, v)])

/-- one definition `name value` of a `defvar` item -/
def defineVar (fx : Fixes) (fuel : Nat) (name : Bytes) (sp : Span) (valE : SExpr) (vars : Vars) :
    Except Crash (Except Diag Vars) :=
  (evalValue fuel vars valE).map (insertVar fx name sp vars)

/-- the loops of `parse_vars` go on with the table of the step before unless that step crashed or
gave a diagnostic -/
def andThen (a : Except Crash (Except Diag Vars)) (k : Vars → Except Crash (Except Diag Vars)) :
    Except Crash (Except Diag Vars) :=
  match a with
  | .error c => .error c
  | .ok (.error d) => .ok (.error d)
  | .ok (.ok vars) => k vars

theorem parseVarsPairs_pair (fx : Fixes) (fuel : Nat) (name : Bytes) (sp : Span) (valE : SExpr)
    (rest : List SExpr) (vars : Vars) :
    parseVarsPairs fx fuel (.atom name sp :: valE :: rest) vars =
      andThen (defineVar fx fuel name sp valE vars) (parseVarsPairs fx fuel rest) := by
  conv => lhs; unfold parseVarsPairs
  rw [defineVar]
  have step (v : SExpr) : andThen (.ok (insertVar fx name sp vars v)) (parseVarsPairs fx fuel rest) =
      if (vars.lookup name).isSome then .ok (.error ⟨some sp, "duplicate variable name"⟩)
      else if fx.varCycle && reachesSelf (vars ++ [(name, v)]) name then
        .ok (.error (selfRefDiag sp))
      else parseVarsPairs fx fuel rest (vars ++ [(name, v)]) := by
    -- `andThen (.ok ·) _` goes through the two `if`s; splitting them instead is several times slower to check
    rw [insertVar, apply_ite (fun r => andThen (.ok r) _), apply_ite (fun r => andThen (.ok r) _)]
    rfl
  cases valE with
  | atom t s => exact (step _).symm
  | list xs s =>
    dsimp only [evalValue, bind, Except.bind]
    cases parseListVar fuel vars xs s with
    | error c => rfl
    | ok v => exact (step v).symm

theorem parseVarsPairs_nil (fx : Fixes) (f : Nat) (vars : Vars) : parseVarsPairs fx f [] vars = .ok (.ok vars) := by
  rw [parseVarsPairs]; rfl

theorem parseVarsPairs_list (fx : Fixes) (f : Nat) (xs : List SExpr) (sp : Span) (valE : SExpr) (rest : List SExpr)
    (vars : Vars) : parseVarsPairs fx f (.list xs sp :: valE :: rest) vars =
      .ok (.error ⟨some sp, "variable name must not be a list"⟩) := by
  rw [parseVarsPairs]; rfl

theorem parseVars_nil (fx : Fixes) (f : Nat) (vars : Vars) : parseVars fx f [] vars = .ok (.ok vars) := by
  rw [parseVars]; rfl

theorem parseVars_cons_error (fx : Fixes) (fuel : Nat) {item : List SExpr} (items : List (List SExpr)) (vars : Vars)
    {d : Diag} (hc : checkFirstExpr "defvar" item = .error d) :
    parseVars fx fuel (item :: items) vars = .ok (.error d) := by
  rw [parseVars, hc]; rfl

theorem parseVars_cons_ok (fx : Fixes) (fuel : Nat) {item : List SExpr} (items : List (List SExpr)) (vars : Vars)
    {sub : List SExpr} (hc : checkFirstExpr "defvar" item = .ok sub) :
    parseVars fx fuel (item :: items) vars =
      andThen (parseVarsPairs fx fuel sub vars) (parseVars fx fuel items) := by
  rw [parseVars, hc]
  dsimp only [bind, Except.bind, andThen]
  cases parseVarsPairs fx fuel sub vars with
  | error c => rfl
  | ok r => cases r <;> rfl

theorem checkFirstExpr_kw (e : String) (sp : Span) (rest : List SExpr) :
    checkFirstExpr e (.atom (kw e) sp :: rest) = .ok rest := by
  rw [checkFirstExpr, SExpr.atom?]
  exact if_pos rfl

theorem pairs_induction {motive : List SExpr → Prop}
    (stop : ∀ xs, (∀ name sp valE rest, xs ≠ .atom name sp :: valE :: rest) → motive xs)
    (pair : ∀ name sp valE rest, motive rest → motive (.atom name sp :: valE :: rest)) : ∀ xs, motive xs
  | [] | [_] | .list _ _ :: _ :: _ => stop _ nofun
  | .atom name sp :: valE :: rest => pair name sp valE rest (pairs_induction stop pair rest)

/-- where the pair loop ends it hands back the table or gives a diagnostic, whatever the revision
and the budget -/
theorem parseVarsPairs_stop {xs : List SExpr} (hx : ∀ name sp valE rest, xs ≠ .atom name sp :: valE :: rest)
    (vars : Vars) :
    ∃ r : Except Diag Vars, (∀ out, r = .ok out → out = vars) ∧ ∀ fx fuel, parseVarsPairs fx fuel xs vars = .ok r := by
  cases xs with
  | nil => exact ⟨.ok vars, fun _ h => (Except.ok.inj h).symm, fun _ _ => parseVarsPairs_nil ..⟩
  | cons x xs =>
    cases xs with
    | nil => cases x <;> exact ⟨.error _, fun _ h => (nomatch h), fun _ _ => by rw [parseVarsPairs]; rfl⟩
    | cons y ys =>
      cases x with
      | atom name sp => exact absurd rfl (hx name sp y ys)
      | list l sp => exact ⟨.error _, fun _ h => (nomatch h), fun _ _ => parseVarsPairs_list ..⟩

theorem andThen_ok {a : Except Crash (Except Diag Vars)} {k : Vars → Except Crash (Except Diag Vars)} {out : Vars}
    (h : andThen a k = .ok (.ok out)) : ∃ mid, a = .ok (.ok mid) ∧ k mid = .ok (.ok out) :=
  match a with
  | .error _ | .ok (.error _) => nomatch h
  | .ok (.ok mid) => ⟨mid, rfl, h⟩

theorem insertVar_ok {vars : Vars} {fx : Fixes} {name : Bytes} {sp : Span} {out : Vars} {v : SExpr}
    (h : insertVar fx name sp vars v = .ok out) :
    vars.lookup name = none ∧ out = vars ++ [(name, v)] ∧ (fx.varCycle = true →
      reachesSelf (vars ++ [(name, v)]) name = false) := by
  rw [insertVar] at h
  by_cases hd : (vars.lookup name).isSome = true
  · rw [if_pos hd] at h; cases h
  · rw [if_neg hd] at h
    by_cases hc : (fx.varCycle && reachesSelf (vars ++ [(name, v)]) name) = true
    · rw [if_pos hc] at h; cases h
    · rw [if_neg hc] at h
      cases h
      exact ⟨Option.not_isSome_iff_eq_none.mp hd, rfl, fun hx => by simpa [hx] using hc⟩

theorem insertVar_of {vars : Vars} {fx : Fixes} {name : Bytes} (sp : Span) {v : SExpr} (hl : vars.lookup name = none)
    (hc : (fx.varCycle && reachesSelf (vars ++ [(name, v)]) name) = false) :
    insertVar fx name sp vars v = .ok (vars ++ [(name, v)]) := by
  rw [insertVar, hl, hc]
  rfl

end KVerif.SExpr
