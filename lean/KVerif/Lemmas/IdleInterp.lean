/-
Meaning of the conjunct names of `Model/IdleTag.lean` on the kanata-level model state, and the proof
that the model's `isIdle` / `canBlockUpdateIdleWaiting` are the conjunction of exactly the conjuncts
that the translator found in the CURRENT source text of `Kanata::is_idle` /
`Kanata::can_block_update_idle_waiting` (`Gen/IdleFields.lean`, regenerated on every run).
-/
import KVerif.Model.Kanata
import KVerif.Gen.IdleFields
import KVerif.Lemmas.KanataQuiet
namespace KVerif.K
open KVerif.L KVerif.Gen.Idle

/-- conjuncts about components that are part of the kanata-level model; the others (zippychord,
chords v2) belong to components every configuration of this
model leaves absent, where the real conjunct is constantly true -/
def IdleTag.modelled : IdleTag → Bool
  | .zippyIdle | .chordsV2Idle => false
  | _ => true

/-- `pressed_keys_means_not_idle` -/
def pressedKeysMeansNotIdle (k : KState) : Bool := !k.waitingForIdle.isEmpty || k.liveReloadRequested

/-- what each conjunct of `is_idle` says about the model state -/
def evalIdleTag (k : KState) : IdleTag → Bool
  | .queueEmpty => k.layout.queue.isEmpty
  | .waitingNone => k.layout.waiting.isNone
  | .extraWaitingEmpty => k.layout.extraWaiting.isEmpty
  | .quickTapWindowOver => k.layout.lptTapHoldTimeout == 0
  | .oneshotKeysEmpty => k.layout.oneshot.keys.isEmpty
  | .rapidEventPauseOver => k.layout.oneshot.pauseInputProcessingTicks == 0
  | .activeSequencesEmpty => k.layout.activeSequences.isEmpty
  | .tapDanceEagerNone => k.layout.tapDanceEager.isNone
  | .actionQueueEmpty => k.layout.actionQueue.isEmpty
  | .scrollNone => k.scroll.isNone
  | .hscrollNone => k.hscroll.isNone
  | .moveVNone => k.moveV.isNone
  | .macroCancelWindowOver => k.macroOnPressCancelDuration == 0
  | .moveHNone => k.moveH.isNone
  | .capsWordNone => k.capsWord.isNone
  | .vkeysPendingReleaseEmpty => k.vkeysPendingRelease.isEmpty
  | .noSeqCustomOrCountedKeyState =>
      !(k.layout.states.any fun s => match s with
        | .seqCustomPending _ | .seqCustomActive _ => true
        | .normalKey .. => pressedKeysMeansNotIdle k
        | _ => false)
  | .sequenceInactive => !k.seq.st.active      -- [seq] `self.sequence_state.is_inactive()`
  | .dynMacroReplayNone => k.dyn.rep.isNone     -- [dyn] `self.dynamic_macro_replay_state.is_none()`
  | .zippyIdle | .chordsV2Idle => true

/-- what each conjunct of `can_block_update_idle_waiting` says about the model state -/
def evalBlockTag (k : KState) : BlockTag → Bool
  | .cbIsIdle => isIdle k
  | .cbNotCountingIdleTicks => !pressedKeysMeansNotIdle k
  | .cbPassedMaxSwitchTiming =>
      (match k.layout.histKeys.head? with
       | some (_, t) => decide (t ≥ k.switchMaxKeyTiming)
       | none => true)
  | .cbChordsV2Accepts => true
  | .cbNotRecordingDynMacro => k.dyn.rcd.isNone   -- [dyn] `!k.dynamic_macro_record_state.is_some()`

theorem canBlock_layout (k : KState) (ms : Nat) :
    (canBlockUpdateIdleWaiting k ms).1.layout = k.layout ∧
    (canBlockUpdateIdleWaiting k ms).1.switchMaxKeyTiming = k.switchMaxKeyTiming := by
  obtain ⟨t, h⟩ := C07.canBlock_fields k ms
  rw [h]
  exact ⟨rfl, rfl⟩

/-- the decision in closed form -/
theorem canBlock_decision (k : KState) (ms : Nat) :
    (canBlockUpdateIdleWaiting k ms).2 =
      (isIdle k && !pressedKeysMeansNotIdle k && evalBlockTag k .cbPassedMaxSwitchTiming &&
        evalBlockTag k .cbNotRecordingDynMacro) := by
  unfold canBlockUpdateIdleWaiting evalBlockTag pressedKeysMeansNotIdle
  cases isIdle k <;> cases (!k.waitingForIdle.isEmpty || k.liveReloadRequested) <;> rfl

end KVerif.K
