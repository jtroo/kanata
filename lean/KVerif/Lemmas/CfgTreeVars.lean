/-
Lemmas for C16 about the resolved view (`deref`, `resolve`) and `defvar`.
-/
import KVerif.Lemmas.CfgTreeTop
namespace KVerif.CfgTree

theorem allSome_cons_eq_some {α} {x : Option α} {rest : List (Option α)} {r : List α} :
    allSome (x :: rest) = some r ↔ ∃ a r', x = some a ∧ allSome rest = some r' ∧ r = a :: r' := by
  cases x with
  | none => simp [allSome]
  | some a =>
    rw [allSome]
    cases allSome rest <;> simp [eq_comm]

theorem allSome_eq_some_iff {α} (l : List (Option α)) (r : List α) :
    allSome l = some r ↔ l = r.map some := by
  induction l generalizing r with
  | nil => cases r <;> simp [allSome]
  | cons x rest ih =>
    rw [allSome_cons_eq_some]
    constructor
    · rintro ⟨a, r', rfl, hr, rfl⟩
      rw [(ih r').mp hr]; rfl
    · cases r with
      | nil => intro h; cases h
      | cons a r' => intro h; cases h; exact ⟨a, r', rfl, (ih r').mpr rfl, rfl⟩

theorem allSome_map_some {α β} (f : α → Option β) (l : List α) (r : List β) :
    allSome (l.map f) = some r ↔ l.map f = r.map some := allSome_eq_some_iff _ _

/-- pointwise: if every element that succeeds under `f` succeeds with the same value under `g` -/
theorem allSome_map_imp {α β} (f g : α → Option β) (l : List α) (r : List β)
    (h : ∀ a ∈ l, ∀ b, f a = some b → g a = some b) (hf : allSome (l.map f) = some r) :
    allSome (l.map g) = some r := by
  induction l generalizing r with
  | nil => exact hf
  | cons a rest ih =>
    obtain ⟨b, r', hb, hr, rfl⟩ := allSome_cons_eq_some.mp hf
    exact allSome_cons_eq_some.mpr ⟨b, r', h a List.mem_cons_self b hb,
      ih r' (fun a' ha' => h a' (List.mem_cons_of_mem _ ha')) hr, rfl⟩

/-! ### fuel monotonicity -/

theorem resolve_mono (vars : Vars) : ∀ (f f' : Nat) (t r : Tree),
    resolve f vars t = some r → f ≤ f' → resolve f' vars t = some r := by
  intro f
  induction f with
  | zero => intro f' t r h; simp [resolve] at h
  | succ f ih =>
    intro f' t r h hle
    obtain ⟨g, rfl⟩ : ∃ g, f' = g + 1 := ⟨f' - 1, by omega⟩
    have hg : f ≤ g := by omega
    cases t with
    | atom s =>
      simp only [resolve] at h ⊢
      split at h
      · rename_i e he; exact ih g e r h hg
      · exact h
    | list ts =>
      simp only [resolve, Option.map_eq_some_iff] at h ⊢
      obtain ⟨l, hl, rfl⟩ := h
      exact ⟨l, allSome_map_imp _ _ ts l (fun a _ b hb => ih g a b hb hg) hl, rfl⟩

/-- a variable bound to a reference to itself has no resolved view, whatever else is bound -/
theorem resolve_self_ref (vars : Vars) (a : Str) (h : lookup a vars = some (.atom ('$' :: a)))
    (f : Nat) : resolve f vars (.atom ('$' :: a)) = none := by
  induction f with
  | zero => rfl
  | succ f ih => simpa only [resolve, varRef, varName?, h] using ih

/-- the fuel-free reading: `t` resolves to `r` -/
def Resolves (vars : Vars) (t r : Tree) : Prop := ∃ f, resolve f vars t = some r

theorem Resolves.unique {vars : Vars} {t r1 r2 : Tree} (h1 : Resolves vars t r1)
    (h2 : Resolves vars t r2) : r1 = r2 := by
  obtain ⟨f1, h1⟩ := h1
  obtain ⟨f2, h2⟩ := h2
  have a := resolve_mono vars f1 (max f1 f2) t r1 h1 (Nat.le_max_left _ _)
  have b := resolve_mono vars f2 (max f1 f2) t r2 h2 (Nat.le_max_right _ _)
  rw [a] at b; exact Option.some.inj b


/-! ### adding a fresh variable -/

theorem varName?_eq_some (s n : Str) : varName? s = some n ↔ s = '$' :: n := by
  constructor
  · intro h
    unfold varName? at h
    split at h <;> cases h
    rfl
  · rintro rfl; rfl

theorem lookup_mem {β} (k : Str) (v : β) (l : List (Str × β)) (h : lookup k l = some v) :
    (k, v) ∈ l := by
  induction l with
  | nil => simp [lookup] at h
  | cons p rest ih =>
    obtain ⟨k', v'⟩ := p
    simp only [lookup] at h
    split at h
    · rename_i hk; cases h; simp [hk]
    · exact List.mem_cons_of_mem _ (ih h)

/-- `$v` does not occur as an atom of `t` -/
def NoRef (v : Str) (t : Tree) : Prop := ('$' :: v) ∉ atomsOfTree t

instance (v : Str) (t : Tree) : Decidable (NoRef v t) := by unfold NoRef; infer_instance

/-- … nor in the value of any variable -/
def NoRefVars (v : Str) (vars : Vars) : Prop := ∀ n e, (n, e) ∈ vars → NoRef v e

def Ctx.NoRef (v : Str) : Ctx → Prop
  | .hole => True
  | .node pre c post => (∀ t ∈ pre, KVerif.CfgTree.NoRef v t) ∧ c.NoRef v ∧ (∀ t ∈ post, KVerif.CfgTree.NoRef v t)

theorem NoRef.of_list {v : Str} {ts : List Tree} (h : NoRef v (.list ts)) :
    ∀ t ∈ ts, NoRef v t :=
  fun t ht ha => h (mem_atomsOfList.mpr ⟨t, ht, ha⟩)

theorem varRef_append_fresh (vars : Vars) (v : Str) (e : Tree) (s : Str) (hs : s ≠ '$' :: v) :
    varRef (vars ++ [(v, e)]) s = varRef vars s := by
  unfold varRef
  cases hn : varName? s with
  | none => rfl
  | some n =>
    have hnv : ¬ v = n := fun h => hs ((varName?_eq_some s v).mp (h ▸ hn))
    exact lookup_append_other vars e hnv

theorem varRef_append_self (vars : Vars) (v : Str) (e : Tree) (hfresh : lookup v vars = none) :
    varRef (vars ++ [(v, e)]) ('$' :: v) = some e :=
  lookup_append_self v vars e hfresh

theorem varRef_lookup (vars : Vars) (s : Str) (e : Tree) (h : varRef vars s = some e) :
    ∃ n, lookup n vars = some e ∧ s = '$' :: n := by
  unfold varRef at h
  cases hn : varName? s with
  | none => simp [hn] at h
  | some n =>
    simp only [hn] at h
    exact ⟨n, h, (varName?_eq_some s n).mp hn⟩

theorem allSome_map_congr {α β} (f g : α → Option β) (l : List α) (h : ∀ a ∈ l, f a = g a) :
    allSome (l.map f) = allSome (l.map g) := by
  congr 1
  exact List.map_congr_left h

/-- Weakening: a variable that nothing refers to does not change how anything resolves. -/
theorem resolve_weaken (vars : Vars) (v : Str) (e : Tree) (hv : NoRefVars v vars) :
    ∀ (f : Nat) (t : Tree), NoRef v t → resolve f (vars ++ [(v, e)]) t = resolve f vars t := by
  intro f
  induction f with
  | zero => intro t _; simp [resolve]
  | succ f ih =>
    intro t ht
    cases t with
    | atom s =>
      have hs : s ≠ '$' :: v := by
        intro h; apply ht; simp [atomsOfTree, h]
      simp only [resolve, varRef_append_fresh vars v e s hs]
      cases hr : varRef vars s with
      | none => rfl
      | some e' =>
        obtain ⟨n, hl, -⟩ := varRef_lookup vars s e' hr
        exact ih e' (hv n e' (lookup_mem n e' vars hl))
    | list ts =>
      simp only [resolve]
      rw [allSome_map_congr _ _ ts (fun a ha => ih a (NoRef.of_list ht a ha))]

theorem allSome_map_plug {f g : Tree → Option Tree} (pre post : List Tree) (x y : Tree)
    (r : List Tree)
    (hside : ∀ a, a ∈ pre ∨ a ∈ post → ∀ b, f a = some b → g a = some b)
    (hxy : ∀ b, f x = some b → g y = some b)
    (h : allSome ((pre ++ x :: post).map f) = some r) :
    allSome ((pre ++ y :: post).map g) = some r := by
  induction pre generalizing r with
  | nil =>
    obtain ⟨b, r', hb, hr, rfl⟩ := allSome_cons_eq_some.mp h
    exact allSome_cons_eq_some.mpr ⟨b, r', hxy b hb,
      allSome_map_imp f g post r' (fun a ha => hside a (.inr ha)) hr, rfl⟩
  | cons p rest ih =>
    obtain ⟨b, r', hb, hr, rfl⟩ := allSome_cons_eq_some.mp h
    exact allSome_cons_eq_some.mpr ⟨b, r', hside p (.inl List.mem_cons_self) b hb,
      ih r' (fun a ha => hside a (ha.imp_left (List.mem_cons_of_mem _))) hr, rfl⟩

/-- a list node with one member replaced: if the other members resolve the same way, and the new
member resolves to whatever the old one did, so does the node -/
theorem resolve_node_imp {vars1 vars2 : Vars} {f f' : Nat} (pre post : List Tree) (x y r : Tree)
    (hside : ∀ a, a ∈ pre ∨ a ∈ post →
      ∀ b, resolve f vars1 a = some b → resolve f' vars2 a = some b)
    (hxy : ∀ b, resolve f vars1 x = some b → resolve f' vars2 y = some b)
    (h : resolve (f + 1) vars1 (.list (pre ++ x :: post)) = some r) :
    resolve (f' + 1) vars2 (.list (pre ++ y :: post)) = some r := by
  simp only [resolve, Option.map_eq_some_iff] at h ⊢
  obtain ⟨l, hl, rfl⟩ := h
  exact ⟨l, allSome_map_plug pre post x y l hside hxy hl, rfl⟩

/-- Naming a subexpression with a fresh variable: the rewritten expression resolves (one hop later)
to what the original resolves to. -/
theorem resolve_defvar_fwd (vars : Vars) (v : Str) (e : Tree) (hfresh : lookup v vars = none)
    (hv : NoRefVars v vars) (he : NoRef v e) (c : Ctx) (hc : c.NoRef v) :
    ∀ (f : Nat) (r : Tree), resolve f vars (c.plug e) = some r →
      resolve (f + 1) (vars ++ [(v, e)]) (c.plug (.atom ('$' :: v))) = some r := by
  induction c with
  | hole =>
    intro f r h
    rw [Ctx.plug, resolve, varRef_append_self vars v e hfresh]
    exact (resolve_weaken vars v e hv f e he).trans h
  | node pre c post ih =>
    intro f r h
    obtain ⟨hpre, hcc, hpost⟩ := hc
    cases f with
    | zero => cases h
    | succ f =>
      refine resolve_node_imp pre post _ _ r (fun a ha b hb => ?_) (ih hcc f) h
      rw [resolve_weaken vars v e hv (f + 1) a (ha.elim (hpre a) (hpost a))]
      exact resolve_mono vars f (f + 1) a b hb (Nat.le_succ f)

/-- … and conversely: whatever the rewritten expression resolves to, the original resolves to. -/
theorem resolve_defvar_bwd (vars : Vars) (v : Str) (e : Tree) (hfresh : lookup v vars = none)
    (hv : NoRefVars v vars) (he : NoRef v e) (c : Ctx) (hc : c.NoRef v) :
    ∀ (f : Nat) (r : Tree), resolve f (vars ++ [(v, e)]) (c.plug (.atom ('$' :: v))) = some r →
      resolve f vars (c.plug e) = some r := by
  induction c with
  | hole =>
    intro f r h
    cases f with
    | zero => cases h
    | succ f =>
      simp only [Ctx.plug, resolve, varRef_append_self vars v e hfresh] at h
      rw [resolve_weaken vars v e hv f e he] at h
      exact resolve_mono vars f (f + 1) e r h (Nat.le_succ f)
  | node pre c post ih =>
    intro f r h
    obtain ⟨hpre, hcc, hpost⟩ := hc
    cases f with
    | zero => cases h
    | succ f =>
      refine resolve_node_imp pre post _ _ r (fun a ha b hb => ?_) (ih hcc f) h
      rwa [resolve_weaken vars v e hv f a (ha.elim (hpre a) (hpost a))] at hb


/-! ### acyclic variable graphs resolve -/

/-- The variable graph has no cycle: there is a rank under which the value of every variable only
mentions bound variables of smaller rank. -/
def Acyclic (vars : Vars) : Prop :=
  ∃ rank : Str → Nat, ∀ n e, lookup n vars = some e →
    ∀ m e', ('$' :: m) ∈ atomsOfTree e → lookup m vars = some e' → rank m < rank n

mutual
  /-- if the values of the variables mentioned in `t` resolve, so does `t` -/
  theorem resolves_tree (vars : Vars) : ∀ (t : Tree),
      (∀ m e', lookup m vars = some e' → ('$' :: m) ∈ atomsOfTree t → ∃ r, Resolves vars e' r) →
      ∃ r, Resolves vars t r
    | .atom s, h => by
      cases hr : varRef vars s with
      | none => exact ⟨.atom s, 1, by simp [resolve, hr]⟩
      | some e =>
        obtain ⟨n, hl, hs⟩ := varRef_lookup vars s e hr
        obtain ⟨r, f, hf⟩ := h n e hl (hs ▸ List.mem_singleton.mpr rfl)
        exact ⟨r, f + 1, by simp [resolve, hr, hf]⟩
    | .list ts, h => by
      obtain ⟨f, l, hl⟩ := resolves_list vars ts h
      exact ⟨.list l, f + 1, by simp [resolve, hl]⟩
  theorem resolves_list (vars : Vars) : ∀ (ts : List Tree),
      (∀ m e', lookup m vars = some e' → ('$' :: m) ∈ atomsOfList ts → ∃ r, Resolves vars e' r) →
      ∃ f l, allSome (ts.map (resolve f vars)) = some l
    | [], _ => ⟨0, [], rfl⟩
    | t :: rest, h => by
      obtain ⟨r, f1, h1⟩ := resolves_tree vars t (fun m e' hm ha => h m e' hm (List.mem_append_left _ ha))
      obtain ⟨f2, l, h2⟩ := resolves_list vars rest (fun m e' hm ha => h m e' hm (List.mem_append_right _ ha))
      refine ⟨max f1 f2, r :: l, ?_⟩
      have a := resolve_mono vars f1 (max f1 f2) t r h1 (Nat.le_max_left _ _)
      have b := allSome_map_imp (resolve f2 vars) (resolve (max f1 f2) vars) rest l
        (fun x _ y hy => resolve_mono vars f2 _ x y hy (Nat.le_max_right _ _)) h2
      simp [allSome, a, b]
end

theorem resolves_values (vars : Vars) (rank : Str → Nat)
    (hac : ∀ n e, lookup n vars = some e →
      ∀ m e', ('$' :: m) ∈ atomsOfTree e → lookup m vars = some e' → rank m < rank n) :
    ∀ (k : Nat) (n : Str) (e : Tree), lookup n vars = some e → rank n < k → ∃ r, Resolves vars e r := by
  intro k
  induction k with
  | zero => intro n e _ h; omega
  | succ k ih =>
    intro n e hl hk
    apply resolves_tree vars e
    intro m e' hm ha
    have := hac n e hl m e' ha hm
    exact ih m e' hm (by omega)

/-- **totality**: with an acyclic variable graph every expression has a resolved view (the recursion
of `SExpr::atom(vars)` / `SExpr::list(vars)` ends). -/
theorem resolves_of_acyclic (vars : Vars) (hac : Acyclic vars) (t : Tree) : ∃ r, Resolves vars t r := by
  obtain ⟨rank, hrank⟩ := hac
  apply resolves_tree vars t
  intro m e' hm _
  exact resolves_values vars rank hrank (rank m + 1) m e' hm (Nat.lt_succ_self _)

end KVerif.CfgTree
