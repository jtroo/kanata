/-
Helper lemmas for C15: what it means that the parts of kanata outside the reload bookkeeping do not
read a list of fields (`Blind`, `BlindTo`), and the failure half: a history in which every reload attempt
fails is simulated, output for output, by the same history in the world where the reload actions do
nothing.
-/
import KVerif.Lemmas.ReloadRuns
namespace KVerif.Reload
open KVerif.Gen.Reload

variable {W : World}

/-- the three fields on which a run with failing reload requests may differ from a run without
requests -/
def bk : List Field := [.live_reload_requested, .cur_cfg_idx, .ticks_since_idle]

def AgreeOff (a b : KSt W) : Prop := ∀ f, f ∉ bk → a f = b f

/-- The abstract parts of the tick do not read `live_reload_requested`, `cur_cfg_idx` or
`ticks_since_idle` (`Gen.Reload.touchSites`, regenerated from the source, lists every function
that mentions them: all are modelled ones — `write_sites_as_modelled`). -/
structure Blind (W : World) : Prop where
  ksc : ∀ a b : KSt W, AgreeOff a b →
    (∀ f, f ∉ framed → (W.ksc a).1 f = (W.ksc b).1 f) ∧ (W.ksc a).2 = (W.ksc b).2
  late : ∀ a b : KSt W, AgreeOff a b →
    (∀ f, f ∉ framedK → (W.late a).1 f = (W.late b).1 f) ∧ (W.late a).2 = (W.late b).2
  replay : ∀ a b : KSt W, AgreeOff a b →
    (∀ f, f ∉ framedK → (W.replay a).1 f = (W.replay b).1 f) ∧ (W.replay a).2 = (W.replay b).2
  inputEvent : ∀ (a b : KSt W) (e : W.Input), AgreeOff a b →
    (∀ f, f ∉ framedK → (W.inputEvent a e).1 f = (W.inputEvent b e).1 f) ∧
      (W.inputEvent a e).2 = (W.inputEvent b e).2
  coreIdle : ∀ a b : KSt W, AgreeOff a b → W.coreIdle a = W.coreIdle b

/-- The parts of kanata outside the reload bookkeeping do not read the fields of `op`: on two states
that agree everywhere else they produce the same OS events and custom actions and leave states that
again agree everywhere else. -/
structure BlindTo (op : List Field) (W : World) : Prop where
  ksc : ∀ a b : KSt W, Eqv op a b →
    (∀ f, f ∉ framed → f ∉ op → (W.ksc a).1 f = (W.ksc b).1 f) ∧ (W.ksc a).2 = (W.ksc b).2
  late : ∀ a b : KSt W, Eqv op a b →
    (∀ f, f ∉ framedK → f ∉ op → (W.late a).1 f = (W.late b).1 f) ∧ (W.late a).2 = (W.late b).2
  replay : ∀ a b : KSt W, Eqv op a b →
    (∀ f, f ∉ framedK → f ∉ op → (W.replay a).1 f = (W.replay b).1 f) ∧ (W.replay a).2 = (W.replay b).2
  inputEvent : ∀ (a b : KSt W) (e : W.Input), Eqv op a b →
    (∀ f, f ∉ framedK → f ∉ op → (W.inputEvent a e).1 f = (W.inputEvent b e).1 f) ∧
      (W.inputEvent a e).2 = (W.inputEvent b e).2
  coreIdle : ∀ a b : KSt W, Eqv op a b → W.coreIdle a = W.coreIdle b

variable {op : List Field} in
theorem BlindTo.of_eqv
    (ksc : ∀ a b : KSt W, Eqv op a b → Eqv op (W.ksc a).1 (W.ksc b).1 ∧ (W.ksc a).2 = (W.ksc b).2)
    (late : ∀ a b : KSt W, Eqv op a b → Eqv op (W.late a).1 (W.late b).1 ∧ (W.late a).2 = (W.late b).2)
    (replay : ∀ a b : KSt W, Eqv op a b →
      Eqv op (W.replay a).1 (W.replay b).1 ∧ (W.replay a).2 = (W.replay b).2)
    (inputEvent : ∀ (a b : KSt W) (e : W.Input), Eqv op a b →
      Eqv op (W.inputEvent a e).1 (W.inputEvent b e).1 ∧ (W.inputEvent a e).2 = (W.inputEvent b e).2)
    (coreIdle : ∀ a b : KSt W, Eqv op a b → W.coreIdle a = W.coreIdle b) : BlindTo op W :=
  ⟨fun a b h => ⟨fun f _ hf => (ksc a b h).1 f hf, (ksc a b h).2⟩,
   fun a b h => ⟨fun f _ hf => (late a b h).1 f hf, (late a b h).2⟩,
   fun a b h => ⟨fun f _ hf => (replay a b h).1 f hf, (replay a b h).2⟩,
   fun a b e h => ⟨fun f _ hf => (inputEvent a b e h).1 f hf, (inputEvent a b e h).2⟩, coreIdle⟩

theorem bk_sub_framed : ∀ f ∈ bk, f ∈ framed := by decide

theorem framed_not_bk {f : Field} (h : f ∉ framed) : f ∉ bk := fun hb => h (bk_sub_framed f hb)

theorem framedK_not_bk {f : Field} (h : f ∉ framedK) : f ∉ bk :=
  fun hb => h (List.mem_append_left _ (bk_sub_framed f hb))

theorem Blind.of_blindTo (h : BlindTo bk W) : Blind W :=
  ⟨fun a b e => ⟨fun f hf => (h.ksc a b e).1 f hf (framed_not_bk hf), (h.ksc a b e).2⟩,
   fun a b e => ⟨fun f hf => (h.late a b e).1 f hf (framedK_not_bk hf), (h.late a b e).2⟩,
   fun a b e => ⟨fun f hf => (h.replay a b e).1 f hf (framedK_not_bk hf), (h.replay a b e).2⟩,
   fun a b i e => ⟨fun f hf => (h.inputEvent a b i e).1 f hf (framedK_not_bk hf), (h.inputEvent a b i e).2⟩,
   h.coreIdle⟩

/-- `a`: the run with (failing) reload requests; `b`: the run without requests -/
structure Sim (a b : KSt W) : Prop where
  agree : AgreeOff a b
  tsi : (a .waiting_for_idle : List W.OnIdle) ≠ [] → (a .ticks_since_idle : Nat) = b .ticks_since_idle
  breq : b .live_reload_requested = false

variable {a b : KSt W}

theorem Sim.wfi {a b : KSt W} (h : Sim a b) : a .waiting_for_idle = b .waiting_for_idle :=
  h.agree _ (by decide)

theorem Sim.layout {a b : KSt W} (h : Sim a b) : a .layout = b .layout := h.agree _ (by decide)

/-- both runs store the same value in the same field; if it is the waiting list, the idle counters
have to agree already -/
theorem Sim.set (h : Sim a b) (f : Field) {va vb : Val W.toTypes f} (hv : va = vb)
    (hl : f ≠ .live_reload_requested)
    (hw : f ≠ .waiting_for_idle ∨ (a .ticks_since_idle : Nat) = b .ticks_since_idle) :
    Sim (a.set f va) (b.set f vb) := by
  subst hv
  refine ⟨eqv_set h.agree f va, fun hne => ?_, (St.set_other _ _ _ _ hl.symm).trans h.breq⟩
  · by_cases e : Field.ticks_since_idle = f
    · subst e; rw [St.set_same, St.set_same]
    · rw [St.set_other _ _ _ _ e, St.set_other _ _ _ _ e]
      refine hw.elim (fun ew => ?_) id
      rw [St.set_other _ _ _ _ ew.symm] at hne; exact h.tsi hne

/-- the run with requests writes the file index or the request flag -/
theorem Sim.set_left (h : Sim a b) (f : Field) (v : Val W.toTypes f)
    (hf : f ∈ [Field.cur_cfg_idx, .live_reload_requested]) : Sim (a.set f v) b := by
  have ne : ∀ g ∉ [Field.cur_cfg_idx, .live_reload_requested], (a.set f v) g = a g :=
    fun g hg => St.set_other _ _ _ _ (ne_of_mem_of_not_mem hf hg).symm
  have sub : ∀ g ∈ [Field.cur_cfg_idx, .live_reload_requested], g ∈ bk := by decide
  refine ⟨fun g hg => (ne g fun hm => hg (sub g hm)).trans (h.agree g hg), fun hw => ?_, h.breq⟩
  rw [ne _ (by decide)] at hw ⊢; exact h.tsi hw

/-- nothing waits for idle: the counter is dead, whatever each side writes into it -/
theorem Sim.set_tsi_dead (h : Sim a b) (hw : (a .waiting_for_idle : List W.OnIdle) = [])
    (x y : Nat) : Sim (a.set .ticks_since_idle x) (b.set .ticks_since_idle y) := by
  refine ⟨fun g hg => ?_, fun hw' => absurd ((St.set_other a .ticks_since_idle _ x (by decide)).trans hw) hw',
    (St.set_other _ _ _ _ (by decide)).trans h.breq⟩
  have e : g ≠ .ticks_since_idle := ne_of_mem_of_not_mem (by decide) hg |>.symm
  rw [St.set_other _ _ _ _ e, St.set_other _ _ _ _ e]; exact h.agree g hg

theorem Sim.frameBy (h : Sim a b) (F : List Field)
    (hF : ∀ g ∈ [Field.waiting_for_idle, .ticks_since_idle, .live_reload_requested], g ∈ F)
    (na nb : KSt W) (hn : ∀ f, f ∉ F → na f = nb f) :
    Sim (⟨fun f => if f ∈ F then a f else na f⟩ : KSt W) ⟨fun f => if f ∈ F then b f else nb f⟩ := by
  have e : ∀ (x nx : KSt W) g, g ∈ [Field.waiting_for_idle, .ticks_since_idle, .live_reload_requested] →
      (⟨fun f => if f ∈ F then x f else nx f⟩ : KSt W) g = x g := fun x nx g hg => if_pos (hF g hg)
  refine ⟨eqv_frameBy F h.agree fun f hk _ => hn f hk, fun hw => ?_, (e b nb _ (by decide)).trans h.breq⟩
  · rw [e a na _ (by decide)] at hw
    rw [e a na _ (by decide), e b nb _ (by decide)]; exact h.tsi hw

theorem sim_frame (h : Sim a b) (na nb : KSt W) (hn : ∀ f, f ∉ framed → na f = nb f) :
    Sim (frame a na) (frame b nb) := h.frameBy framed (by decide) na nb hn

theorem sim_frameK (h : Sim a b) (na nb : KSt W) (hn : ∀ f, f ∉ framedK → na f = nb f) :
    Sim (frameK a na) (frameK b nb) := h.frameBy framedK (by decide) na nb hn

/-! ### can_block_update_idle_waiting, handle_input_event -/

theorem pkmni_of_wfi {s : KSt W} (hw : (s .waiting_for_idle : List W.OnIdle) ≠ []) :
    pressedKeysMeanNotIdle s = true := by
  simp only [pressedKeysMeanNotIdle]
  cases hs : (s .waiting_for_idle : List W.OnIdle) with
  | nil => exact absurd hs hw
  | cons _ _ => rfl

theorem sim_canBlockUpdate (hB : Blind W) (m : Nat) (h : Sim a b) :
    Sim (canBlockUpdate m a).1 (canBlockUpdate m b).1 := by
  by_cases hw : (a .waiting_for_idle : List W.OnIdle) = []
  · obtain ⟨x, ea⟩ := canBlockUpdate_shape m a
    obtain ⟨y, eb⟩ := canBlockUpdate_shape m b
    rw [ea, eb]; exact h.set_tsi_dead hw x y
  · -- something waits for idle: both runs count, and see the same `is_idle`
    have hwb : (b .waiting_for_idle : List W.OnIdle) ≠ [] := h.wfi ▸ hw
    have hidle : isIdle a = isIdle b := by
      simp only [isIdle, pkmni_of_wfi hw, pkmni_of_wfi hwb, hB.coreIdle a b h.agree, h.layout]
    simp only [canBlockUpdate, pkmni_of_wfi hw, pkmni_of_wfi hwb, ← hidle, ← h.tsi hw]
    cases isIdle a <;> exact h.set _ rfl (by decide) (.inl (by decide))

theorem sim_handleInput (hB : Blind W) (e : W.Input) (h : Sim a b) :
    Sim (handleInput a e).1 (handleInput b e).1 ∧ (handleInput a e).2 = (handleInput b e).2 :=
  have h0 : Sim (a.set .ticks_since_idle (0 : Nat)) (b.set .ticks_since_idle (0 : Nat)) :=
    h.set _ rfl (by decide) (.inl (by decide))
  have hb := hB.inputEvent _ _ e h0.agree
  ⟨sim_frameK h0 _ _ hb.1, hb.2⟩

/-! ### tick_states -/

/-- the run with requests executes all actions, the run without requests skips the reload ones -/
theorem sim_applyActs (h : Sim a b) (acts : List (KAct W.toTypes)) (a' : KSt W)
    (ha : applyActs a acts = .ok a') :
    ∃ b' : KSt W, applyActs b (selActs true acts) = .ok b' ∧ Sim a' b' := by
  induction acts generalizing a b with
  | nil => cases ha; exact ⟨b, rfl, h⟩
  | cons x rest ih =>
    obtain ⟨a1, h1, h2⟩ := applyActs_cons_ok ha
    cases x with
    | reload r =>
      obtain ⟨i, req, _, rfl⟩ := applyAct_reload h1
      have hs := h.set_left .cur_cfg_idx i (by decide)
      exact ih (by cases req; exact hs; exact hs.set_left .live_reload_requested true (by decide)) h2
    | onIdle w =>
      cases h1
      have hs : Sim ((a.set .ticks_since_idle (0 : Nat)).set .waiting_for_idle (W.insertIdle (a .waiting_for_idle) w))
          ((b.set .ticks_since_idle (0 : Nat)).set .waiting_for_idle (W.insertIdle (b .waiting_for_idle) w)) :=
        (h.set _ rfl (by decide) (.inl (by decide))).set _ (by rw [h.wfi]) (by decide) (.inr rfl)
      exact ih hs h2

theorem sim_tickIdleTimeout (h : Sim a b) :
    Sim (tickIdleTimeout a) (tickIdleTimeout b) := by
  unfold tickIdleTimeout
  rw [← h.wfi]
  cases hwa : (a .waiting_for_idle : List W.OnIdle) with
  | nil => exact h
  | cons x xs =>
    have htsi := h.tsi (by rw [hwa]; exact List.cons_ne_nil _ _)
    simp only
    rw [← htsi, ← h.layout]
    exact (h.set .layout rfl (by decide) (.inl (by decide))).set .waiting_for_idle rfl (by decide) (.inr htsi)

theorem sim_tickRest (hB : Blind W) (h : Sim a b) :
    Sim (tickRest a).1 (tickRest b).1 ∧ (tickRest a).2 = (tickRest b).2 := by
  have s3 := sim_tickIdleTimeout h
  have s4 := s3.set .macro_on_press_cancel_duration
    (congrArg (fun n : Nat => n - 1) (s3.agree .macro_on_press_cancel_duration (by decide))) (by decide) (.inl (by decide))
  have hl := hB.late _ _ s4.agree
  have s5 := sim_frameK s4 _ _ hl.1
  exact ⟨(s5.set .prev_keys (s5.agree .cur_keys (by decide)) (by decide) (.inl (by decide))).set .cur_keys rfl
    (by decide) (.inl (by decide)), hl.2⟩

theorem sim_tickStates (hB : Blind W) (h : Sim a b) :
    Follows False (StOut Sim) (tickStatesG false a) (tickStatesG true b) := by
  have hk := hB.ksc a b h.agree
  exact follows_tickStates hk.2 (.of_ok fun a2 h2 => sim_applyActs (sim_frame h _ _ hk.1) _ a2 h2)
    (sim_tickRest hB)

theorem sim_replay (hB : Blind W) (h : Sim a b) :
    Sim (frameK a (W.replay a).1) (frameK b (W.replay b).1) ∧ (W.replay a).2 = (W.replay b).2 :=
  have hr := hB.replay a b h.agree
  ⟨sim_frameK h _ _ hr.1, hr.2⟩

theorem sim_checkLayerChange (tx : Bool) (h : Sim a b) :
    Follows False (StOut Sim) (checkLayerChange tx a) (checkLayerChange tx b) :=
  follows_checkLayerChange tx h h.layout (h.agree _ (by decide)) (h.agree _ (by decide))
    fun _ => h.set .prev_layer rfl (by decide) (.inl (by decide))

/-! ### handle_time_ticks, the loop, a whole history -/

/-- `Sim`, with the command line of the run with requests named: no step changes it, and "no file
loads" is a hypothesis about `P` -/
def SimOn (P : List Nat) (a b : KSt W) : Prop := Sim a b ∧ a .cfg_paths = P

theorem sim_handleTimeTicks (hB : Blind W) (env : Env W.toTypes) (ms : Nat) (h : Sim a b) {P : List Nat}
    (hP : a .cfg_paths = P) (hfail : ∀ p ∈ P, newFromFile env p = none) :
    Follows False (HOut (SimOn P)) (handleTimeTicksG false env ms a) (handleTimeTicksG true env ms b) := by
  refine .of_ok fun ra ha => ?_
  obtain ⟨a2, os, m1, hd, hos, hcase⟩ := handleTimeTicks_inv false env ms a ra ha
  obtain ⟨⟨b2, os', m1'⟩, hdb, (s2 : Sim a2 b2), eo⟩ :=
    (follows_decisionState (sim_tickStates hB) (sim_replay hB) (sim_checkLayerChange env.tx) ms h).ok hd
  cases eo
  have p2 := (decisionState_rel hd).1.paths.trans hP
  -- the run without requests never attempts a reload
  refine ⟨⟨b2, os, m1, none⟩, ?_, ?_⟩
  · rw [handleTimeTicksG_eq, hdb]
    simp only [Except.bind, reloadDue, s2.breq, Bool.false_and, Bool.false_eq_true, if_false]
  rcases hcase with ⟨_, _, h3, h4⟩ | ⟨_, rr, hrr, _, h3, h4⟩
  · exact ⟨by rw [h3]; exact ⟨s2, p2⟩, hos, h4⟩
  · -- the run with requests attempts one; the file at the index is one of those that fail
    obtain ⟨p, hidx, ⟨_, rfl⟩ | ⟨c, hc, _⟩⟩ := doLiveReloadWith_ok (body := reloadSteps.tail) hrr
    · exact ⟨by rw [h3]; exact ⟨s2.set_left _ _ (by decide), (St.set_other _ _ _ _ (by decide)).trans p2⟩, hos,
        h4.trans (List.append_nil _)⟩
    · rw [St.set_other _ _ _ _ (by decide), p2] at hidx
      rw [hfail p (List.mem_of_getElem? hidx)] at hc; cases hc

theorem sim_preTicks (hB : Blind W) (inp : Option W.Input) (msPrev : Nat) (h : Sim a b) :
    Sim (preTicks inp msPrev a).1 (preTicks inp msPrev b).1 ∧ (preTicks inp msPrev a).2 = (preTicks inp msPrev b).2 := by
  have s0 := sim_canBlockUpdate hB msPrev h
  cases inp with
  | none => exact ⟨s0, rfl⟩
  | some e => exact sim_handleInput hB e s0

theorem sim_runNB (hB : Blind W) (script : List (Tick W.toTypes)) (msPrev : Nat) (h : Sim a b)
    (hfail : ∀ t ∈ script, ∀ p ∈ (a .cfg_paths : List Nat), newFromFile t.env p = none) :
    Follows False (StOut (SimOn (a .cfg_paths))) (runNB false script msPrev a) (runNB true script msPrev b) :=
  follows_runNB script (fun t ht msPrev a' _ h' =>
    have ⟨s1, eo⟩ := sim_preTicks hB t.inp msPrev h'.1
    follows_loopIterNB eo (sim_handleTimeTicks hB t.env t.ms s1
      ((preTicks_framed t.inp msPrev a' .cfg_paths (by decide) (by decide)).trans h'.2) (hfail t ht)))
    msPrev ⟨h, rfl⟩

end KVerif.Reload
