/-
Invariants of the byte iterator and of `Lexer::next_token` (Model/SExpr.lean).
`Good s pre it`: the iterator `it` is positioned in the text `s` after the prefix `pre`, and its
counters are the ones the Rust iterator would have there.
-/
import KVerif.Lemmas.SExprUtf8
namespace KVerif.SExpr

/-- number of newlines -/
def nl (l : List Nat) : Nat := l.count 10

theorem nl_le (l : List Nat) : nl l ≤ l.length := List.count_le_length

theorem nl_append (a b : List Nat) : nl (a ++ b) = nl a + nl b := by simp [nl]

structure Good (s pre : List Nat) (it : It) : Prop where
  split : s = pre ++ it.inp
  len : it.len = s.length
  rem : it.rem = it.inp.length
  line : it.line = nl pre
  lb : it.lineBeg ≤ pre.length

theorem Good.ofText (s : List Nat) : Good s [] (It.ofText s) :=
  ⟨rfl, rfl, rfl, rfl, Nat.le_refl _⟩

theorem Good.abs {s pre it} (g : Good s pre it) : it.abs = pre.length := by
  have := congrArg List.length g.split
  simp only [It.abs, g.len, g.rem, List.length_append] at *
  omega

theorem Good.pos {s pre it} (g : Good s pre it) : it.pos = .ok ⟨pre.length, nl pre, it.lineBeg⟩ := by
  simp [It.pos, Pos.new, g.abs, g.line, g.lb, nl_le pre]

theorem Good.rem_lt {s pre mid it it'} (g : Good s pre it) (g' : Good s (pre ++ mid) it') (hm : mid ≠ []) :
    it'.rem < it.rem := by
  have h := g.split.symm.trans g'.split
  rw [List.append_assoc] at h
  have := congrArg List.length (List.append_cancel_left h)
  have := List.length_pos_iff.mpr hm
  simp only [g.rem, g'.rem, List.length_append] at *
  omega

theorem It.adv_inp (it : It) (b : Nat) (r : List Nat) : (it.adv b r).inp = r := by
  unfold It.adv; split <;> rfl

theorem It.adv_len (it : It) (b : Nat) (r : List Nat) : (it.adv b r).len = it.len := by
  unfold It.adv; split <;> rfl

theorem It.nextWhile_nil {it : It} (f : Nat → Bool) (h : it.inp = []) : it.nextWhile f = it := by
  cases it; cases h; rfl

theorem It.nextWhile_cons {it : It} {b r} (f : Nat → Bool) (h : it.inp = b :: r) :
    it.nextWhile f = if f b then (it.adv b r).nextWhile f else it := by
  cases it; cases h
  unfold It.nextWhile It.adv
  rw [nextWhileL]
  cases f b
  · rfl
  · by_cases hb : b = 10 <;> simp only [hb, if_true, if_false]

theorem It.readUntil2_nil {it : It} (c1 c2 : Nat) (cl : Bool) (h : it.inp = []) :
    it.readUntil2 c1 c2 cl = (false, it) := by
  cases it; cases h; rfl

theorem It.readUntil2_one {it : It} {b} (c1 c2 : Nat) (cl : Bool) (h : it.inp = [b]) :
    it.readUntil2 c1 c2 cl = (false, if cl then it.adv b [] else it) := by
  cases it; cases h; cases cl <;> rfl

theorem It.readUntil2_cons {it : It} {b1 b2 r} (c1 c2 : Nat) (cl : Bool) (h : it.inp = b1 :: b2 :: r) :
    it.readUntil2 c1 c2 cl =
      if b1 = c1 ∧ b2 = c2 then (true, (it.adv b1 (b2 :: r)).adv b2 r)
      else (it.adv b1 (b2 :: r)).readUntil2 c1 c2 cl := by
  cases it; cases h
  unfold It.readUntil2
  rw [readUntil2L, It.adv_len, It.adv_inp]

theorem Good.adv {s pre it b r} (g : Good s pre it) (h : it.inp = b :: r) :
    Good s (pre ++ [b]) (it.adv b r) := by
  have hs : s = pre ++ b :: r := h ▸ g.split
  have hl : it.len - (it.rem - 1) = pre.length + 1 := by simp [g.len, g.rem, h, hs]; omega
  unfold It.adv
  split
  · exact ⟨by simp [hs], g.len, by simp [g.rem, h], by simp [g.line, nl, *], by simp [hl]⟩
  · exact ⟨by simp [hs], g.len, by simp [g.rem, h], by simp [g.line, nl, *],
      Nat.le_trans g.lb (by simp)⟩

/-- `next_while`: consumes the longest prefix of bytes that satisfy `f` -/
theorem Good.nextWhile {s pre it} (f : Nat → Bool) (g : Good s pre it) :
    ∃ mid, Good s (pre ++ mid) (it.nextWhile f) ∧ (∀ b ∈ mid, f b = true) ∧
      (∀ b r, (it.nextWhile f).inp = b :: r → f b = false) := by
  induction h : it.inp generalizing it pre with
  | nil =>
    rw [It.nextWhile_nil f h]
    exact ⟨[], by simpa using g, by simp, by simp [h]⟩
  | cons b r ih =>
    rw [It.nextWhile_cons f h]
    cases hf : f b with
    | false => exact ⟨[], by simpa using g, by simp, fun b' r' h' => by cases h.symm.trans h'; exact hf⟩
    | true =>
      obtain ⟨mid, g2, h1, h2⟩ := ih (g.adv h) (It.adv_inp ..)
      exact ⟨b :: mid, by simpa using g2, by simpa [hf] using h1, h2⟩

/-- `read_until_multiline_*_end`; `cl` is fix-7 -/
theorem Good.readUntil2 {s pre it c1 c2 cl found it'} (g : Good s pre it)
    (h : it.readUntil2 c1 c2 cl = (found, it')) :
    ∃ mid, Good s (pre ++ mid) it' ∧ (found = true → ∃ m, mid = m ++ [c1, c2]) ∧
      (found = false → (cl = true → it'.inp = []) ∧ it'.inp.length ≤ 1) := by
  induction hl : it.inp generalizing it pre with
  | nil =>
    rw [It.readUntil2_nil _ _ _ hl] at h; cases h
    exact ⟨[], by simpa using g, by simp, by simp [hl]⟩
  | cons b1 l ih =>
    cases l with
    | nil =>
      rw [It.readUntil2_one _ _ _ hl] at h; cases h
      cases cl with
      | false => exact ⟨[], by simpa using g, by simp, by simp [hl]⟩
      | true => exact ⟨[b1], g.adv hl, by simp, by simp [It.adv_inp]⟩
    | cons b2 r =>
      rw [It.readUntil2_cons _ _ _ hl] at h
      have g1 := g.adv hl
      split at h
      · rename_i hc
        cases h
        exact ⟨[b1, b2], by simpa using g1.adv (It.adv_inp ..), fun _ => ⟨[], by simp [hc]⟩, by simp⟩
      · obtain ⟨mid, g2, h2, h3⟩ := ih g1 h (It.adv_inp ..)
        exact ⟨b1 :: mid, by simpa using g2, fun hf => let ⟨m, hm⟩ := h2 hf; ⟨b1 :: m, by simp [hm]⟩, h3⟩

/-! ### character boundaries -/

/-- the iterator stands at a character boundary: at the end, or before a non-continuation byte -/
def Bnd (it : It) : Prop :=
  match it.inp with
  | [] => True
  | c :: _ => isCont c = false

theorem bnd_iff {it : It} : Bnd it ↔ ∀ c r, it.inp = c :: r → isCont c = false := by
  unfold Bnd; cases it.inp <;> simp

theorem bnd_nil {it : It} (h : it.inp = []) : Bnd it := bnd_iff.mpr (by simp [h])

theorem Good.bnd_last {s p it c} (g : Good s (p ++ [c]) it) (hn : NCA s) (hc : c < 128) : Bnd it :=
  bnd_iff.mpr fun d r h => by
    rw [g.split, h, List.append_assoc] at hn
    exact hn.suffix.1 hc

theorem Good.bnd_readUntil2 {s pre it c1 c2 cl it'} (g : Good s pre it)
    (h : it.readUntil2 c1 c2 cl = (true, it')) (hn : NCA s) (hc : c2 < 128) : Bnd it' := by
  obtain ⟨mid, g', hfound, _⟩ := g.readUntil2 h
  obtain ⟨m, rfl⟩ := hfound rfl
  have g' : Good s (pre ++ m ++ [c1] ++ [c2]) it' := by simpa using g'
  exact g'.bnd_last hn hc

theorem Good.bnd_nextWhile {s pre it} {f : Nat → Bool} (g : Good s pre it) (hn : NCA s) (hb : Bnd it)
    (hf : ∀ b, f b = true → b < 128) : Bnd (it.nextWhile f) := by
  induction h : it.inp generalizing it pre with
  | nil => rwa [It.nextWhile_nil f h]
  | cons b r ih =>
    rw [It.nextWhile_cons f h]
    split
    · rename_i hb'; exact ih (g.adv h) ((g.adv h).bnd_last hn (hf b hb')) (It.adv_inp ..)
    · exact hb

/-- `next()` for its effect only -/
theorem Good.skip {s pre it} (g : Good s pre it) :
    ∃ mid, Good s (pre ++ mid) it.skip ∧ (NCA s → (∀ b r, it.inp = b :: r → b < 128) → Bnd it.skip) := by
  unfold It.skip
  split
  · rename_i h; exact ⟨[], by simpa using g, fun _ _ => bnd_nil h⟩
  · rename_i b r h; exact ⟨[b], g.adv h, fun hn ha => (g.adv h).bnd_last hn (ha b r h)⟩

/-- every byte that starts a token or separates two is ASCII, so an atom ends on a boundary -/
theorem isCont_of_isStart {b : Nat} (h : isStart b = true) : isCont b = false := by
  simp only [isStart, isWs, Bool.or_eq_true, decide_eq_true_eq] at h
  rcases h with ((rfl | rfl) | rfl) | (((rfl | rfl) | rfl) | rfl) | rfl <;> rfl

theorem isWs_lt {b : Nat} (h : isWs b = true) : b < 128 := by
  simp only [isWs, Bool.or_eq_true, decide_eq_true_eq] at h; omega

/-- what `next_token` guarantees about the token it returns: it lies between two `Good` iterator
states after `pre`, is not empty, and (in a text without a continuation byte after an ASCII byte)
starts and ends on character boundaries -- the end of an unterminated block comment and, before
fix-7, of an unterminated raw string excepted -/
def TokPost (fx : Fixes) (s pre : List Nat) (it : It)
    (res : Option ((Pos × It) × Except LexErr Tok × It)) : Prop :=
  match res with
  | none => True
  | some ((start, its), t, it') =>
    ∃ sk tok, Good s (pre ++ sk) its ∧ Good s (pre ++ sk ++ tok) it' ∧ tok ≠ [] ∧
      start = ⟨(pre ++ sk).length, nl (pre ++ sk), its.lineBeg⟩ ∧
      (t = .error .untermMlComment → ∃ r, its.inp = 35 :: 124 :: r) ∧
      (NCA s → Bnd it → Bnd its ∧
        (t ≠ .error .untermMlComment → (t = .error .untermMlString → fx.rawEnd = true) → Bnd it'))

theorem TokPost.leaf {fx : Fixes} {s pre : List Nat} {it : It} {t : Except LexErr Tok} {it' : It} (tok : List Nat)
    (g : Good s pre it) (g' : Good s (pre ++ tok) it') (ht : tok ≠ [])
    (hc : t = .error .untermMlComment → ∃ r, it.inp = 35 :: 124 :: r)
    (hb : NCA s → t ≠ .error .untermMlComment → (t = .error .untermMlString → fx.rawEnd = true) → Bnd it') :
    TokPost fx s pre it (some ((⟨pre.length, nl pre, it.lineBeg⟩, it), t, it')) :=
  ⟨[], tok, by simpa using g, by simpa using g', ht, by simp, hc, fun hn hbi => ⟨hbi, hb hn⟩⟩

theorem TokPost.skip {fx : Fixes} {s pre mid : List Nat} {it it2 : It} {res}
    (h : TokPost fx s (pre ++ mid) it2 res) (hb : NCA s → Bnd it2) : TokPost fx s pre it res := by
  obtain _ | ⟨⟨start, its⟩, t, it'⟩ := res
  · trivial
  · obtain ⟨sk, tok, g1, g2, h3, h4, h5, h6⟩ := h
    rw [List.append_assoc] at g1 h4
    exact ⟨mid ++ sk, tok, g1, by rwa [List.append_assoc pre] at g2, h3, h4, h5, fun hn _ => h6 hn (hb hn)⟩

theorem TokPost.skippable {fx : Fixes} {ignore : Bool} {s pre tok : List Nat} {fuel : Nat} {it it' : It} (k : Tok)
    (ih : ∀ it pre, Good s pre it → it.rem + 1 ≤ fuel →
      ∃ res, nextToken fx ignore fuel it = .ok res ∧ TokPost fx s pre it res)
    (g : Good s pre it) (g' : Good s (pre ++ tok) it') (ht : tok ≠ []) (hf : it.rem ≤ fuel)
    (hb : NCA s → Bnd it') :
    ∃ res, (if ignore = true then nextToken fx ignore fuel it'
        else .ok (some ((⟨pre.length, nl pre, it.lineBeg⟩, it), .ok k, it'))) = .ok res ∧
      TokPost fx s pre it res := by
  split
  · obtain ⟨res, hres, hpost⟩ := ih _ _ g' (by have := g.rem_lt g' ht; omega)
    exact ⟨res, hres, hpost.skip hb⟩
  · exact ⟨_, rfl, .leaf tok g g' ht nofun fun hn _ _ => hb hn⟩

theorem TokPost.nextString {fx : Fixes} {s pre : List Nat} {b : Nat} {it it1 : It}
    (g : Good s pre it) (g1 : Good s (pre ++ [b]) it1) :
    TokPost fx s pre it (some ((⟨pre.length, nl pre, it.lineBeg⟩, it), .ok .str, it1.nextString)) := by
  obtain ⟨mid, g2, _, h3⟩ := g1.nextWhile (fun b => !isStart b)
  refine .leaf (b :: mid) g (by simpa [It.nextString] using g2) (by simp) nofun
    fun _ _ _ => bnd_iff.mpr fun c r h => ?_
  have := h3 c r h
  exact isCont_of_isStart (by simpa using this)

theorem nextToken_spec (fx : Fixes) (ignore : Bool) (s : List Nat) :
    ∀ (fuel : Nat) (it : It) (pre : List Nat), Good s pre it → it.rem + 1 ≤ fuel →
      ∃ res, nextToken fx ignore fuel it = .ok res ∧ TokPost fx s pre it res := by
  intro fuel
  induction fuel with
  | zero => intro it pre g h; omega
  | succ fuel ih =>
    intro it pre g hf
    rw [nextToken, g.pos]
    rcases hinp : it.inp with _ | ⟨b, r⟩
    · exact ⟨none, rfl, trivial⟩
    -- the bind of `pos()`'s result and the match on `b :: r` reduce
    show ∃ res, (if b = 40 then _ else _) = _ ∧ _
    have g1 := g.adv hinp
    have hf : it.rem ≤ fuel := by omega
    by_cases h40 : b = 40
    · rw [if_pos h40]
      exact ⟨_, rfl, .leaf [b] g g1 (by simp) nofun fun hn _ _ => g1.bnd_last hn (by omega)⟩
    rw [if_neg h40]
    by_cases h41 : b = 41
    · rw [if_pos h41]
      exact ⟨_, rfl, .leaf [b] g g1 (by simp) nofun fun hn _ _ => g1.bnd_last hn (by omega)⟩
    rw [if_neg h41]
    by_cases h34 : b = 34
    · -- a string ends at `"`, or unterminated at the end of the line or of the text
      rw [if_pos h34]
      dsimp only
      obtain ⟨mid, g2, _, h3⟩ := g1.nextWhile (fun b => b != 34 && b != 10)
      split
      · rename_i r2 hq
        have g3 := g2.adv hq
        exact ⟨_, rfl, .leaf (b :: mid ++ [34]) g (by simpa using g3) (by simp) nofun fun hn _ _ =>
          g3.bnd_last hn (by omega)⟩
      · obtain ⟨m2, g3, hb3⟩ := g2.skip
        refine ⟨_, rfl, .leaf (b :: mid ++ m2) g (by simpa using g3) (by simp) nofun fun hn _ _ =>
          hb3 hn fun b' r' hb' => ?_⟩
        have := h3 b' r' hb'
        simp only [Bool.and_eq_false_imp, bne_iff_ne, ne_eq, bne_eq_false_iff_eq] at this
        omega
    rw [if_neg h34]
    by_cases h59 : b = 59
    · rw [if_pos h59]
      dsimp only
      split
      · -- `;;` to the end of the line, newline included
        obtain ⟨mid, g2, _, h3⟩ := g1.nextWhile (fun b => b != 10)
        obtain ⟨m2, g3, hb3⟩ := g2.skip
        exact TokPost.skippable (tok := b :: mid ++ m2) _ ih g (by simpa using g3) (by simp) hf fun hn =>
          hb3 hn fun b' r' hb' => by
          have := h3 b' r' hb'; simp only [bne_eq_false_iff_eq] at this; omega
      · exact ⟨_, rfl, .nextString g g1⟩
    rw [if_neg h59]
    by_cases h114 : b = 114
    · rw [if_pos h114]
      dsimp only
      split
      · -- `r#"` up to `"#`
        rename_i r2 hq
        have g3 := (g1.adv hq).adv (It.adv_inp ..)
        split
        all_goals
          rename_i it3 hres
          obtain ⟨mid, g4, _, hnot⟩ := g3.readUntil2 hres
          refine ⟨_, rfl, .leaf (b :: 35 :: 34 :: mid) g (by simpa using g4) (by simp) nofun fun hn _ hraw => ?_⟩
        · exact g3.bnd_readUntil2 hres hn (by decide)
        · exact bnd_nil ((hnot rfl).1 (hraw rfl))
      · exact ⟨_, rfl, .nextString g g1⟩
    rw [if_neg h114]
    by_cases h35 : b = 35
    · rw [if_pos h35]
      dsimp only
      split
      · -- `#|` up to `|#`
        rename_i r2 hq
        have g2 := g1.adv hq
        split
        all_goals
          rename_i it3 hres
          obtain ⟨mid, g4, _⟩ := g2.readUntil2 hres
          have g4 : Good s (pre ++ (b :: 124 :: mid)) it3 := by simpa using g4
        · exact TokPost.skippable _ ih g g4 (by simp) hf fun hn => g2.bnd_readUntil2 hres hn (by decide)
        · refine ⟨_, rfl, .leaf _ g g4 (by simp) (fun _ => ⟨r2, ?_⟩) fun _ hne => absurd rfl hne⟩
          rw [hinp, h35, ← hq, It.adv_inp]
      · exact ⟨_, rfl, .nextString g g1⟩
    rw [if_neg h35]
    by_cases hws : isWs b = true
    · -- whitespace: all ASCII
      rw [if_pos hws]
      obtain ⟨mid, g2, _⟩ := g1.nextWhile isWs
      exact TokPost.skippable (tok := b :: mid) _ ih g (by simpa using g2) (by simp) hf fun hn =>
        g1.bnd_nextWhile hn (g1.bnd_last hn (isWs_lt hws)) fun _ => isWs_lt
    · rw [if_neg hws]; exact ⟨_, rfl, .nextString g g1⟩

end KVerif.SExpr
