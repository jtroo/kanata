/-
C10 helper lemmas: what `decode` returns on each range of opcode words, so that decoding
inverts encoding on the ranges the parser guarantees, and the opcode array produced by the compiler
is laid out as `LayL` demands (so `run_cfg` applies).
-/
import KVerif.Lemmas.Switch
namespace KVerif.Switch

theorem lossyCompress_lt (t : Nat) (h : t < 65536) : lossyCompress t < 1024 := by
  unfold lossyCompress; split
  · omega
  · split <;> omega

/-! Compression followed by decompression rounds a threshold down to a grid: every tick up to 255,
every 8th up to 2303, every 128th above. -/

theorem effTicks_low {t : Nat} (h : t ≤ 255) : effTicks t = t := by
  rw [effTicks, lossyCompress, if_pos h, lossyDecompress, if_pos h]

theorem effTicks_mid {t : Nat} (h1 : 255 < t) (h2 : t ≤ 2303) :
    effTicks t = (t - 255) / 8 * 8 + 255 := by
  rw [effTicks, lossyCompress, if_neg (by omega), if_pos h2]
  have hq : (t - 255) / 8 ≤ 256 := Nat.div_le_of_le_mul (Nat.sub_le_of_le_add h2)
  generalize (t - 255) / 8 = q at hq ⊢
  unfold lossyDecompress
  split
  · omega
  · rw [if_pos (by omega)]; omega

theorem effTicks_high {t : Nat} (h : 2303 < t) : effTicks t = (t - 2303) / 128 * 128 + 2303 := by
  rw [effTicks, lossyCompress, if_neg (by omega), if_neg (by omega)]
  generalize (t - 2303) / 128 = q
  rw [lossyDecompress, if_neg (by omega)]
  split <;> omega

theorem decode_key {x : Nat} (h : x < KEY_MAX) (nx : Option Nat) : decode x nx = .ok (.keyCode x) :=
  if_pos h

/-- Above the 12-bit range the following word is not looked at: the top bits say what the word is. -/
theorem decode_hi {x : Nat} (h : 4096 ≤ x) (nx : Option Nat) :
    decode x nx =
      if x / 8192 = 3 then .ok (.ticksLt ((x / 1024) % 8) (lossyDecompress (x % 1024)))
      else if x / 8192 = 2 then .ok (.ticksGt ((x / 1024) % 8) (lossyDecompress (x % 1024)))
      else if x / 8192 ≥ 4 then .ok (.histKeyCode (x % 4096) ((x / 4096) % 8))
      else if x / 4096 = 1 then .ok (.boolOp .or (x % 4096))
      else if x / 4096 = 2 then .ok (.boolOp .and (x % 4096))
      else if x / 4096 = 3 then .ok (.boolOp .not (x % 4096))
      else .error .unreachableOpcode := by
  unfold decode
  rw [if_neg (by simp only [KEY_MAX]; omega), if_neg (by simp only [MAX_OPCODE_LEN]; omega)]

theorem decode_ticksLt {x : Nat} (h1 : 0x6000 ≤ x) (h2 : x < 0x8000) (nx : Option Nat) :
    decode x nx = .ok (.ticksLt ((x / 1024) % 8) (lossyDecompress (x % 1024))) := by
  rw [decode_hi (by omega), if_pos (by omega)]

theorem decode_ticksGt {x : Nat} (h1 : 0x4000 ≤ x) (h2 : x < 0x6000) (nx : Option Nat) :
    decode x nx = .ok (.ticksGt ((x / 1024) % 8) (lossyDecompress (x % 1024))) := by
  rw [decode_hi (by omega), if_neg (by omega), if_pos (by omega)]

theorem decode_histKey {x : Nat} (h : 0x8000 ≤ x) (nx : Option Nat) :
    decode x nx = .ok (.histKeyCode (x % 4096) ((x / 4096) % 8)) := by
  rw [decode_hi (by omega), if_neg (by omega), if_neg (by omega), if_pos (by omega)]

theorem decode_boolOp (o : BOp) {x : Nat} (h1 : o.toVal ≤ x) (h2 : x < o.toVal + 4096)
    (nx : Option Nat) : decode x nx = .ok (.boolOp o (x % 4096)) := by
  cases o <;> simp only [BOp.toVal, OR_VAL, AND_VAL, NOT_VAL] at h1 h2 <;> rw [decode_hi (by omega)]
  · simp [show x / 8192 = 0 ∧ x / 4096 = 1 by omega]
  · simp [show x / 8192 = 1 ∧ x / 4096 = 2 by omega]
  · simp [show x / 8192 = 1 ∧ x / 4096 = 3 by omega]

theorem decode_bool (o : BOp) (e : Nat) (he : e ≤ MAX_OPCODE_LEN) (nx : Option Nat) :
    decode (o.toVal + e) nx = .ok (.boolOp o e) := by
  simp only [MAX_OPCODE_LEN] at he
  rw [decode_boolOp o (by omega) (by omega)]
  have : o.toVal % 4096 = 0 := by cases o <;> rfl
  congr 2; omega

theorem decode_input (b : Nat) :
    decode INPUT_VAL (some b) = .ok (.input (b / 16384 % 4) (b % 1024)) := rfl

theorem decode_histInput (b : Nat) :
    decode HISTORICAL_INPUT_VAL (some b) =
      .ok (.histInput (b / 16384 % 4) (b % 1024) (b / 2048 % 8)) := rfl

theorem decode_layer (b : Nat) : decode LAYER_VAL (some b) = .ok (.layer b) := rfl

theorem decode_baseLayer (b : Nat) : decode BASE_LAYER_VAL (some b) = .ok (.baseLayer b) := rfl

/-- A `key-timing` word under either of its two tags: its range and its two fields. -/
theorem ticks_word {tag c n : Nat} (htag : tag % 8192 = 0) (hc : c < 1024) (hn : n ≤ 7) :
    tag ≤ tag + c + n * 1024 ∧ tag + c + n * 1024 < tag + 8192 ∧
      (tag + c + n * 1024) / 1024 % 8 = n ∧ (tag + c + n * 1024) % 1024 = c := by
  omega

theorem Leaf.decode_encode (l : Leaf) (h : l.InRange) (post : List Nat) :
    ∃ a tl, l.encode ++ post = a :: tl ∧ decode a tl[0]? = .ok l.toOpTy := by
  cases l <;> refine ⟨_, _, rfl, ?_⟩
  case key kc =>
    rw [Nat.mod_eq_of_lt (Nat.lt_trans h (by decide))]
    exact decode_key h _
  case keyHist kc r =>
    obtain ⟨hk, hr⟩ := h
    generalize hx : kc % 4096 + HISTORICAL_KEYCODE_VAL + r * 4096 = x
    have : 0x8000 ≤ x ∧ x % 4096 = kc ∧ x / 4096 % 8 = r := by
      rw [Nat.mod_eq_of_lt hk, HISTORICAL_KEYCODE_VAL] at hx; omega
    rw [decode_histKey this.1, this.2.1, this.2.2]
    rfl
  case ticksLt n t =>
    obtain ⟨h1, h2, h3, h4⟩ := ticks_word (tag := TICKS_SINCE_VAL_LT) rfl (lossyCompress_lt t h.2) h.1
    rw [decode_ticksLt h1 h2, h3, h4]
    rfl
  case ticksGt n t =>
    obtain ⟨h1, h2, h3, h4⟩ := ticks_word (tag := TICKS_SINCE_VAL_GT) rfl (lossyCompress_lt t h.2) h.1
    rw [decode_ticksGt h1 h2, h3, h4]
    rfl
  case input row y =>
    obtain ⟨hr, hy⟩ := h
    refine (decode_input _).trans ?_
    generalize hx : row % 4 * 16384 + y = x
    have : x / 16384 % 4 = row ∧ x % 1024 = y := by rw [Nat.mod_eq_of_lt hr] at hx; omega
    rw [this.1, this.2]
    rfl
  case inputHist row y r =>
    obtain ⟨hr, hy, hb⟩ := h
    refine (decode_histInput _).trans ?_
    generalize hx : row % 4 * 16384 + r * 2048 + y = x
    have : x / 16384 % 4 = row ∧ x % 1024 = y ∧ x / 2048 % 8 = r := by
      rw [Nat.mod_eq_of_lt hr] at hx; omega
    rw [this.1, this.2.1, this.2.2]
    rfl
  case layer l => exact decode_layer l
  case baseLayer l => exact decode_baseLayer l

theorem Leaf.encode_length (l : Leaf) : l.encode.length = l.width := by
  cases l <;> rfl

theorem Leaf.toOpTy_width (l : Leaf) : opWidth l.toOpTy = l.width := by cases l <;> rfl

mutual
  theorem compileAt_length (base : Nat) : (e : BExpr) → (compileAt base e).length = e.size
    | .leaf l => by simp [compileAt, BExpr.size, Leaf.encode_length]
    | .node o cs => by
      simp only [compileAt, List.length_cons, BExpr.size, compileListAt_length (base + 1) cs]; omega
  theorem compileListAt_length (base : Nat) : (es : List BExpr) →
      (compileListAt base es).length = BExpr.sizeList es
    | [] => rfl
    | e :: es => by
      simp only [compileListAt, List.length_append, BExpr.sizeList, compileAt_length base e,
        compileListAt_length (base + e.size) es]
end

mutual
  /-- all leaves satisfy the constructor asserts -/
  def BExpr.InRange : BExpr → Prop
    | .leaf l => l.InRange
    | .node _ cs => BExpr.InRangeList cs
  def BExpr.InRangeList : List BExpr → Prop
    | [] => True
    | e :: es => e.InRange ∧ BExpr.InRangeList es
end

mutual
  /-- every operator's end index fits the 12-bit field (the parser's length check) -/
  def BExpr.EndsOK (i : Nat) : BExpr → Prop
    | .leaf _ => True
    | .node _ cs => i + 1 + BExpr.sizeList cs ≤ MAX_OPCODE_LEN ∧ BExpr.EndsOKList (i + 1) cs
  def BExpr.EndsOKList (i : Nat) : List BExpr → Prop
    | [] => True
    | e :: es => e.EndsOK i ∧ BExpr.EndsOKList (i + e.size) es
end

theorem fetchRaw_append (pre ops : List Nat) (env : Env) (i : Nat) :
    fetchRaw (pre ++ ops) env (pre.length + i) = fetchRaw ops env i := by
  have h (k : Nat) : (pre ++ ops)[pre.length + k]? = ops[k]? := by
    rw [List.getElem?_append_right (Nat.le_add_right ..), Nat.add_sub_cancel_left]
  unfold fetchRaw
  rw [h, Nat.add_assoc, h]

theorem fetchRaw_cons {a : Nat} {tl : List Nat} {t : OpTy} (env : Env) (h : decode a tl[0]? = .ok t) :
    fetchRaw (a :: tl) env 0 =
      .ok (match t with
        | .boolOp o e => .grp o e
        | t => .leaf (opWidth t) (leafVal env t)) := by
  simp only [fetchRaw, List.getElem?_cons_zero, List.getElem?_cons_succ, h]
  cases t <;> rfl

mutual
  theorem layE_compile (env : Env) : (e : BExpr) → (pre post : List Nat) → e.InRange →
      e.EndsOK pre.length →
      LayE (fetchRaw (pre ++ compileAt pre.length e ++ post) env) env pre.length e
    | .leaf l, pre, post, hr, _ => by
      simp only [LayE, compileAt]
      obtain ⟨a, tl, hc, hd⟩ := l.decode_encode hr post
      rw [List.append_assoc, ← Nat.add_zero pre.length, fetchRaw_append, hc, fetchRaw_cons env hd]
      cases l <;> rfl
    | .node o cs, pre, post, hr, he => by
      simp only [BExpr.InRange] at hr
      simp only [BExpr.EndsOK] at he
      simp only [LayE, compileAt]
      refine ⟨?_, ?_⟩
      · rw [List.append_assoc, ← Nat.add_zero pre.length, fetchRaw_append, List.cons_append,
          compileListAt_length, fetchRaw_cons env (decode_bool o _ he.1 _)]
      · have := layL_compile env cs (pre ++ [o.toVal + (pre.length + 1 + (compileListAt (pre.length + 1) cs).length)])
          post hr (by simpa using he.2)
        simpa [List.append_assoc] using this
  theorem layL_compile (env : Env) : (es : List BExpr) → (pre post : List Nat) → BExpr.InRangeList es →
      BExpr.EndsOKList pre.length es →
      LayL (fetchRaw (pre ++ compileListAt pre.length es ++ post) env) env pre.length es
    | [], _, _, _, _ => by simp [LayL]
    | e :: es, pre, post, hr, he => by
      simp only [BExpr.InRangeList] at hr
      simp only [BExpr.EndsOKList] at he
      simp only [LayL, compileListAt]
      refine ⟨?_, ?_⟩
      · have := layE_compile env e pre (compileListAt (pre.length + (compileAt pre.length e).length) es ++ post)
          hr.1 he.1
        simpa [List.append_assoc] using this
      · have := layL_compile env es (pre ++ compileAt pre.length e) post hr.2
          (by simpa [compileAt_length] using he.2)
        simpa [List.append_assoc, compileAt_length] using this
end

end KVerif.Switch
