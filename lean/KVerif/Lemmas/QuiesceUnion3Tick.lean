/-
C01 helper lemmas: stage 3 continued - the invariant `UInv3` of the stage-3 fragment (every
state belongs to a key that is down, or whose release is deferred by an active one-shot key, or whose
release is queued; the same of the undecided tap-hold key), one tick stage by stage with the potential
`QU.uPot`, events, runs, the bound, and quiescence through the run loop of `RunLoop.lean` (no step
crashes by the invariant `NCF.NC` of C02).  Key states may be custom actions (`StOK4`; the custom event
of a step is then whatever it is), and `handle_press` may be ignoring events
(`one-shot-pause-processing`).  The third stage is first described case by case (`MainStep`), then each
case is shown to keep the invariant and to use up potential.
-/
import KVerif.Lemmas.QuiesceUnion3Top
namespace KVerif.QU3
open KVerif.L KVerif.C06 KVerif.Quiesce KVerif.QU

/-! ## the invariant and the potential -/

/-- **the invariant of the combined fragment** (relative to the keys that are physically `down`) -/
structure UInv3 (T I B d : Nat) (s : Layout) (down : List Coord) : Prop where
  extra : s.extraWaiting = []
  tde : s.tapDanceEager = none
  aq : s.actionQueue = []
  seqs : s.activeSequences = []
  states : ∀ st ∈ s.states, StOK4 st
  delay : s.oneshot.pauseInputProcessingDelay = d
  pause : s.oneshot.pauseInputProcessingTicks ≤ d
  load : oshLoad s.oneshot ≤ B + 1
  /-- the undecided tap-hold key: well-formed, and the key is down or its release is queued -/
  wok : ∀ w, s.waiting = some w → WOK T w ∧ (w.coord ∈ down ∨ ∃ x ∈ s.queue, x.ev = .release w.coord)
  cfg : Cfg3 T I B s.cfg
  qlen : s.queue.length ≤ QUEUE_SIZE
  qwf : QWF down s.queue
  /-- with no one-shot key active nothing is deferred and no release is requested -/
  idle : s.oneshot.keys = [] → s.oneshot.releasedKeys = [] ∧ s.oneshot.releaseOnNextTick = false
  /-- **no state is stranded**: the key is down, or its release is deferred by an active one-shot key,
  or its release is queued -/
  owned : ∀ st ∈ s.states, ∀ c, st.coord = some c →
    c ∈ down ∨ c ∈ s.oneshot.releasedKeys ∨ ∃ x ∈ s.queue, x.ev = .release c
  lpt : s.lptTapHoldTimeout ≤ I

/-- a freshly created layout satisfies the invariant -/
theorem init_uinv3 (cfg : LCfg) (T I B : Nat) (hc : Cfg3 T I B cfg) (tv2 dfl qth : Bool) (osd : Nat) :
    UInv3 T I B osd ({ cfg := cfg, transV2 := tv2, delegateToFirstLayer := dfl, quickTapHoldTimeout := qth,
                       oneshot := { pauseInputProcessingDelay := osd } } : Layout) [] :=
  ⟨rfl, rfl, rfl, rfl, fun _ h => (by cases h), rfl, Nat.zero_le _, Nat.zero_le _, fun _ h => (by cases h), hc,
   Nat.zero_le _, trivial, fun _ => ⟨rfl, rfl⟩, fun _ h => (by cases h), Nat.zero_le _⟩

/-! ## first stage of a tick -/

theorem tickPre_U3 {T I B d : Nat} {s : Layout} {down : List Coord} (h : UInv3 T I B d s down) :
    tickPre s = { s with queue := age s.queue, lptTapHoldTimeout := s.lptTapHoldTimeout - 1,
                         histKeys := histTick s.histKeys, histInputs := histTick s.histInputs } := by
  unfold tickPre
  simp only [h.tde]
  simp (disch := first | exact h.seqs | exact h.states) only [processSequences_inert4]
  rfl

theorem UInv3.pre {T I B d : Nat} {s : Layout} {down : List Coord} (h : UInv3 T I B d s down) :
    UInv3 T I B d (tickPre s) down ∧ (tickPre s).queue = age s.queue ∧ (tickPre s).waiting = s.waiting ∧
    (tickPre s).oneshot = s.oneshot ∧ (tickPre s).lptTapHoldTimeout = s.lptTapHoldTimeout - 1 ∧
    (tickPre s).cfg = s.cfg ∧ (tickPre s).states = s.states := by
  rw [tickPre_U3 h]
  exact ⟨⟨h.extra, h.tde, h.aq, h.seqs, h.states, h.delay, h.pause, h.load,
    fun w hw => ⟨(h.wok w hw).1, (h.wok w hw).2.imp_right mem_age_release⟩, h.cfg,
    by simpa [age] using h.qlen, QWF_age _ h.qwf, h.idle,
    fun st hst c hc => (h.owned st hst c hc).imp_right (Or.imp_right mem_age_release),
    Nat.le_trans (Nat.sub_le _ _) h.lpt⟩, rfl, rfl, rfl, rfl, rfl, rfl⟩

/-! ## second stage: the one-shot countdown -/

theorem UInv3.osh {T I B d : Nat} {s : Layout} {down : List Coord} (h : UInv3 T I B d s down) :
    ∃ s1 c1, tickOneshot s = .ok (s1, c1) ∧ UInv3 T I B d s1 down ∧ s1.queue = s.queue ∧
      s1.waiting = s.waiting ∧ s1.lptTapHoldTimeout = s.lptTapHoldTimeout ∧ s1.cfg = s.cfg ∧
      oshLoad s1.oneshot ≤ oshLoad s.oneshot - 1 ∧
      s1.oneshot.pauseInputProcessingTicks ≤ s.oneshot.pauseInputProcessingTicks ∧
      (∀ st ∈ s1.states, st ∈ s.states) ∧ s1.oneshot.ticksToIgnoreEvents ≤ s.oneshot.ticksToIgnoreEvents := by
  by_cases hk : s.oneshot.keys = []
  · exact ⟨s, .noEvent, tickOneshot_inactive hk, h, rfl, rfl, rfl, rfl,
      by rw [oshLoad_inactive hk]; exact Nat.zero_le _, Nat.le_refl _, fun _ hst => hst, Nat.le_refl _⟩
  · by_cases hf : s.oneshot.releaseOnNextTick = true ∨ s.oneshot.timeout ≤ 1
    · obtain ⟨c1, e1⟩ := tickOneshot_fires4 h.states hk hf
      refine ⟨_, c1, e1, ?_, rfl, rfl, rfl, rfl, Nat.zero_le _, Nat.zero_le _,
        fun st hst => (mem_dropCoords.mp hst).1, Nat.zero_le _⟩
      refine ⟨h.extra, h.tde, h.aq, h.seqs, fun st hst => h.states st (mem_dropCoords.mp hst).1, h.delay,
        Nat.zero_le _, Nat.zero_le _, h.wok, h.cfg, h.qlen, h.qwf, fun _ => ⟨rfl, rfl⟩, ?_, h.lpt⟩
      intro st hst c hc
      obtain ⟨m1, m2⟩ := mem_dropCoords.mp hst
      rcases h.owned st m1 c hc with h1 | h1 | h1
      · exact Or.inl h1
      · exact absurd hc (m2 c h1)
      · exact Or.inr (Or.inr h1)
    · have h1 : s.oneshot.releaseOnNextTick = false := by
        cases hr : s.oneshot.releaseOnNextTick
        · rfl
        · exact absurd (Or.inl hr) hf
      have h2 : 2 ≤ s.oneshot.timeout := by omega
      have hl := oshLoad_waits s.oneshot hk h1 h2
      refine ⟨_, .noEvent, tickOneshot_waits hk h1 h2, ?_, rfl, rfl, rfl, rfl, Nat.le_of_eq hl, Nat.le_refl _,
        fun _ hst => hst, Nat.sub_le _ _⟩
      exact ⟨h.extra, h.tde, h.aq, h.seqs, h.states, h.delay, h.pause,
        by rw [hl]; have := h.load; omega, h.wok, h.cfg, h.qlen, h.qwf, fun hk' => absurd hk' hk, h.owned, h.lpt⟩

/-! ## third stage of a tick -/

/-- **the third stage of a tick, case by case**, on a state where `extra_waiting` is empty, the undecided
key (if any) is a well-formed tap-hold key and every state is a plain key, a held layer or a custom
action: the undecided key counts down (and does not reach zero while its release is queued) or takes
one of its three actions on the state `base` (`Base`) that its decision prepares; otherwise an input
pause counts down, or the oldest queued event is processed -/
inductive MainStep (T : Nat) (s : Layout) : Layout → Prop
  | undecided {w w1 : Waiting} (hw : s.waiting = some w) (wk : WOK T w1) (hc : w1.coord = w.coord)
      (ht : w1.timeout = w.timeout - 1) (hr : (∃ x ∈ s.queue, x.ev = .release w.coord) → 0 < w.timeout - 1) :
      MainStep T s { s with waiting := some w1 }
  | decided {w : Waiting} {base : Layout} {pz : Nat} {a : Action} {s2 : Layout} (hw : s.waiting = some w)
      (hb : Base s base pz)
      (hpz : pz = s.oneshot.pauseInputProcessingTicks ∨ pz = s.oneshot.pauseInputProcessingDelay) (ha : Simple a)
      (hs : s2 = simpleArm (prelude base w.coord) a w.coord false ∨
        s2 = tapPost (simpleArm (prelude base w.coord) a w.coord false)) : MainStep T s s2
  | paused (hw : s.waiting = none) (hp : 0 < s.oneshot.pauseInputProcessingTicks) :
      MainStep T s { s with oneshot := { s.oneshot with
        pauseInputProcessingTicks := s.oneshot.pauseInputProcessingTicks - 1 } }
  | idle (hw : s.waiting = none) (hp : s.oneshot.pauseInputProcessingTicks = 0) (hq : s.queue = []) : MainStep T s s
  | release {c : Coord} {n : Nat} {rest : List Queued} (hw : s.waiting = none)
      (hp : s.oneshot.pauseInputProcessingTicks = 0) (hq : s.queue = ⟨.release c, n⟩ :: rest) :
      MainStep T s { s.setQueue rest with
        oneshot := (s.oneshot.handleRelease c).1
        states := afterRelease s.states c (s.oneshot.handleRelease c).2.1 (s.oneshot.handleRelease c).2.2 }
  | press {c : Coord} {n : Nat} {rest : List Queued} {s2 : Layout} {c2 : CustomEv} (hw : s.waiting = none)
      (hp : s.oneshot.pauseInputProcessingTicks = 0) (hq : s.queue = ⟨.press c, n⟩ :: rest)
      (hd : dequeue FUEL (s.setQueue rest) ⟨.press c, n⟩ = .ok (s2, c2)) : MainStep T s s2

theorem mainStep {T : Nat} {s s2 : Layout} {c2 : CustomEv} (hx : s.extraWaiting = [])
    (hwk : ∀ w, s.waiting = some w → WOK T w) (hst : ∀ st ∈ s.states, StOK4 st)
    (hm : tickMain s = .ok (s2, c2)) : MainStep T s s2 := by
  cases hw : s.waiting with
  | some w =>
    have wk := hwk w hw
    obtain ⟨cfgc, hc⟩ := wk.cfg
    rw [tickMain_waiting_eq s w cfgc hw hc] at hm
    have hf := C05.handleHoldTap_fields { w with timeout := w.timeout - 1, ticks := min (w.ticks + 1) U16_MAX } cfgc s.queue
    have hnn := C05.handleHoldTap_ne_noOp { w with timeout := w.timeout - 1, ticks := min (w.ticks + 1) U16_MAX } cfgc s.queue
    have hrel := handleHoldTap_release { w with timeout := w.timeout - 1, ticks := min (w.ticks + 1) U16_MAX } cfgc s.queue
    generalize handleHoldTap { w with timeout := w.timeout - 1, ticks := min (w.ticks + 1) U16_MAX } cfgc s.queue = res
      at hm hf hnn hrel
    obtain ⟨w1, r⟩ := res
    obtain ⟨f1, f2, f3, _, f5, f6, f7, _, _⟩ := hf
    simp only at f1 f2 f3 f5 f6 f7 hm hnn hrel
    have wk1 : WOK T w1 := ⟨⟨cfgc, f2.trans hc⟩, f5 ▸ wk.hold, f6 ▸ wk.tap, f7 ▸ wk.to,
      f1 ▸ Nat.le_trans (Nat.sub_le _ _) wk.timeout⟩
    cases r with
    | none =>
      simp only [Option.map_none, applyWaitingAction] at hm
      cases hm
      exact .undecided hw wk1 f3 f1 fun hr => hrel hr rfl
    | some a =>
      simp only [Option.map_some] at hm
      cases a with
      | hold =>
        rw [apply_hold s w1 wk1.hold] at hm
        cases hm
        exact .decided hw (holdPrep_base s w1) (Or.inr rfl) wk1.hold (Or.inl (by rw [f3]))
      | tap =>
        rw [apply_tap s w1 wk1.tap] at hm
        cases hm
        exact .decided hw (clearWaiting_base s) (Or.inl rfl) wk1.tap (Or.inr (by rw [f3]))
      | timeout =>
        rw [apply_timeout s w1 wk1.to] at hm
        cases hm
        exact .decided hw (timeoutPrep_base s w1) (Or.inl rfl) wk1.to (Or.inl (by rw [f3]))
      | noOp => exact absurd rfl hnn
  | none =>
    by_cases hp : 0 < s.oneshot.pauseInputProcessingTicks
    · rw [tickMain_paused hw hx hp] at hm
      cases hm
      exact .paused hw hp
    · have hp0 : s.oneshot.pauseInputProcessingTicks = 0 := by omega
      cases hq : s.queue with
      | nil =>
        rw [tickMain_empty hw hx hp0 hq] at hm
        cases hm
        exact .idle hw hp0 hq
      | cons q rest =>
        rw [tickMain_pops hw hx hp0 q rest hq] at hm
        obtain ⟨ev, n⟩ := q
        cases ev with
        | release c =>
          obtain ⟨cu', erel⟩ := dequeue_release4 (s := s.setQueue rest) hst c n
          rw [erel] at hm
          cases hm
          exact .release hw hp0 hq
        | press c => exact .press hw hp0 hq hm

/-- the undecided key counts down: with no key down its release is queued, so the countdown has not
reached zero -/
theorem UInv3.undecided {T I B d : Nat} {s : Layout} {down : List Coord} (h : UInv3 T I B d s down) {w w1 : Waiting}
    (hw : s.waiting = some w) (wk : WOK T w1) (hc : w1.coord = w.coord) (ht : w1.timeout = w.timeout - 1)
    (hr : (∃ x ∈ s.queue, x.ev = .release w.coord) → 0 < w.timeout - 1) :
    UInv3 T I B d { s with waiting := some w1 } down ∧
    (down = [] → uPot T I B d { s with waiting := some w1 } + 1 ≤ uPot T I B d s) := by
  have wr := (h.wok w hw).2
  refine ⟨⟨h.extra, h.tde, h.aq, h.seqs, h.states, h.delay, h.pause, h.load, ?_, h.cfg, h.qlen, h.qwf, h.idle,
    h.owned, h.lpt⟩, fun hd => ?_⟩
  · intro w' hw'
    cases hw'
    exact ⟨wk, by rw [hc]; exact wr⟩
  · subst hd
    have hpos := hr (wr.resolve_left (List.not_mem_nil))
    show queueLoad (pressW T I B d) s.queue + wLoad d (some w1) + s.oneshot.pauseInputProcessingTicks +
      s.lptTapHoldTimeout + oshLoad s.oneshot + 1 ≤ uPot T I B d s
    rw [uPot_eq, hw, wLoad_some, wLoad_some, ht]
    omega

/-- the undecided key takes one of its actions: a plain press at its coordinate, which is down or has
its release queued -/
theorem UInv3.decided {T I B d : Nat} {s : Layout} {down : List Coord} (h : UInv3 T I B d s down) {w : Waiting}
    (hw : s.waiting = some w) {base : Layout} {pz : Nat} (hb : Base s base pz)
    (hpz : pz = s.oneshot.pauseInputProcessingTicks ∨ pz = s.oneshot.pauseInputProcessingDelay)
    {a : Action} (ha : Simple a) {s2 : Layout}
    (hs : s2 = simpleArm (prelude base w.coord) a w.coord false ∨
      s2 = tapPost (simpleArm (prelude base w.coord) a w.coord false)) :
    UInv3 T I B d s2 down ∧ s2.cfg = s.cfg ∧ s2.queue = s.queue ∧ uPot T I B d s2 + 1 ≤ uPot T I B d s := by
  obtain ⟨p1, p2, p3, _⟩ := prelude_spec base w.coord
  have sp := simpleArm_spec (prelude base w.coord) a ha w.coord false
  have ad : Adds w.coord base (simpleArm (prelude base w.coord) a w.coord false) :=
    (prelude_adds base w.coord).trans sp.adds
  have hlpt : (simpleArm (prelude base w.coord) a w.coord false).lptTapHoldTimeout ≤ s.lptTapHoldTimeout := by
    rw [simpleArm_lpt]; exact Nat.le_trans (prelude_lpt _ _) hb.lpt
  have oi : OshIn { s.oneshot with pauseInputProcessingTicks := pz }
      (simpleArm (prelude base w.coord) a w.coord false).oneshot := by
    rw [sp.osh, p2, hb.osh]
    exact OshIn.other _ w.coord
  have fr : Frame base (simpleArm (prelude base w.coord) a w.coord false) := p1.trans sp.frame
  have hq : (simpleArm (prelude base w.coord) a w.coord false).queue = s.queue :=
    (sp.queue.trans p3).trans hb.frame.queue
  have w3 := (h.wok w hw).2
  generalize simpleArm (prelude base w.coord) a w.coord false = x at ad hlpt oi fr hq hs
  have hcfg : x.cfg = s.cfg := fr.cfg.trans hb.frame.cfg
  have hwn : x.waiting = none := fr.waiting.trans hb.waiting
  have hpd : pz ≤ d := by
    rcases hpz with g | g
    · rw [g]; exact h.pause
    · rw [g, h.delay]; exact Nat.le_refl _
  have hpause : x.oneshot.pauseInputProcessingTicks ≤ d := by
    rcases oi.pause with g | g
    · rw [g]; exact hpd
    · rw [g]; exact Nat.le_of_eq h.delay
  have i : UInv3 T I B d x down := by
    refine ⟨fr.extra.trans (hb.frame.extra.trans h.extra), fr.tde.trans (hb.frame.tde.trans h.tde),
      fr.aq.trans (hb.frame.aq.trans h.aq), fr.seqs.trans (hb.frame.seqs.trans h.seqs), ?_, oi.delay.trans h.delay,
      hpause, Nat.le_trans oi.load h.load, (fun w' hw' => by rw [hwn] at hw'; cases hw'), hcfg ▸ h.cfg, hq ▸ h.qlen,
      hq ▸ h.qwf, fun hk => by rw [oi.rk, oi.rnt]; exact h.idle (oi.keys ▸ hk), ?_, Nat.le_trans hlpt h.lpt⟩
    · intro st hst
      rcases ad.new st hst with g | g
      · exact h.states st (hb.states ▸ g)
      · exact StOK4.of g.2
    · intro st hst c hc
      rw [hq, oi.rk]
      rcases ad.new st hst with g | g
      · exact h.owned st (hb.states ▸ g) c hc
      · cases hc.symm.trans g.1
        exact w3.imp_right Or.inr
  have pot : ∀ t : Layout, t.queue = x.queue → t.waiting = none → t.oneshot.pauseInputProcessingTicks ≤ d →
      t.lptTapHoldTimeout = x.lptTapHoldTimeout → oshLoad t.oneshot = oshLoad x.oneshot →
      uPot T I B d t + 1 ≤ uPot T I B d s := by
    intro t t1 t2 t3 t4 t5
    have : oshLoad x.oneshot ≤ oshLoad s.oneshot := oi.load
    rw [uPot_eq, uPot_eq, t1, hq, t2, hw, wLoad_none, wLoad_some, t4, t5]
    show _ ≤ _ + _ + s.oneshot.pauseInputProcessingTicks + _ + _
    omega
  rcases hs with hs | hs <;> rw [hs]
  · exact ⟨i, hcfg, hq, pot x rfl hwn hpause rfl rfl⟩
  · exact ⟨⟨i.extra, i.tde, i.aq, i.seqs, i.states, i.delay, Nat.le_of_eq i.delay, i.load, i.wok, i.cfg, i.qlen,
      i.qwf, i.idle, i.owned, i.lpt⟩, hcfg, hq, pot (tapPost x) rfl hwn (Nat.le_of_eq i.delay) rfl rfl⟩

/-- a queued release is applied or deferred: its coordinate keeps its states only while an active
one-shot key defers it -/
theorem UInv3.release {T I B d : Nat} {s : Layout} {down : List Coord} (h : UInv3 T I B d s down)
    (hw : s.waiting = none) {c : Coord} {n : Nat} {rest : List Queued} (hq : s.queue = ⟨.release c, n⟩ :: rest) :
    UInv3 T I B d { s.setQueue rest with
      oneshot := (s.oneshot.handleRelease c).1
      states := afterRelease s.states c (s.oneshot.handleRelease c).2.1 (s.oneshot.handleRelease c).2.2 } down ∧
    uPot T I B d { s.setQueue rest with
      oneshot := (s.oneshot.handleRelease c).1
      states := afterRelease s.states c (s.oneshot.handleRelease c).2.1 (s.oneshot.handleRelease c).2.2 } + 1 ≤
      uPot T I B d s := by
  obtain ⟨l1, l2, l3⟩ := handleRelease_load s.oneshot c
  obtain ⟨d1, d2, d3, _⟩ := handleRelease_deferred s.oneshot c
  have hwf := h.qwf
  have hlen := h.qlen
  rw [hq] at hwf hlen
  refine ⟨⟨h.extra, h.tde, h.aq, h.seqs, fun st hst => h.states st (mem_afterRelease.mp hst).1, l3.trans h.delay,
    l2 ▸ h.pause, Nat.le_trans l1 h.load, fun w' (hw' : s.waiting = some w') => (nomatch hw.symm.trans hw'),
    h.cfg, Nat.le_of_succ_le hlen, hwf.2, d3 h.idle, ?_, h.lpt⟩, ?_⟩
  · intro st hst c' hc'
    obtain ⟨m1, m2, m3⟩ := mem_afterRelease.mp hst
    rcases h.owned st m1 c' hc' with g | g | ⟨x, hx, hxe⟩
    · exact Or.inl g
    · exact (d1 c' g).elim (fun g => Or.inr (Or.inl g)) fun g => absurd hc' (m3 c' g)
    · rw [hq] at hx
      rcases List.mem_cons.mp hx with rfl | hx
      · cases hxe
        cases hdr : (s.oneshot.handleRelease c).2.1
        · exact Or.inr (Or.inl (d2 hdr))
        · exact absurd hc' (m2 hdr)
      · exact Or.inr (Or.inr ⟨x, hx, hxe⟩)
  · show queueLoad (pressW T I B d) rest + wLoad d s.waiting + (s.oneshot.handleRelease c).1.pauseInputProcessingTicks +
      s.lptTapHoldTimeout + oshLoad (s.oneshot.handleRelease c).1 + 1 ≤ uPot T I B d s
    rw [uPot_eq, hq, queueLoad_cons, l2]
    have : evW (pressW T I B d) ⟨.release c, n⟩ = 1 := rfl
    omega

/-- a queued press is performed: it weighs `pressW + 2`, enough for whatever it starts -/
theorem UInv3.press {T I B d : Nat} {s : Layout} {down : List Coord} (h : UInv3 T I B d s down)
    (hw : s.waiting = none) {c : Coord} {n : Nat} {rest : List Queued} (hq : s.queue = ⟨.press c, n⟩ :: rest)
    {s2 : Layout} (r : PressK T I B c (s.setQueue rest) s2) :
    UInv3 T I B d s2 down ∧ s2.cfg = s.cfg ∧ s2.queue.length ≤ s.queue.length ∧
    uPot T I B d s2 + 1 ≤ uPot T I B d s := by
  obtain ⟨ov, hq'⟩ := r.queue
  obtain ⟨k2, k3, k4, k5, k6⟩ := r.osh d h.delay h.pause h.load
  have hwf := h.qwf
  have hlen := h.qlen
  rw [hq] at hwf hlen
  have hhead : c ∈ down ∨ ∃ x ∈ rest ++ ovq ov, x.ev = .release c :=
    hwf.1.imp_right fun ⟨x, hx, hxe⟩ => ⟨x, List.mem_append_left _ hx, hxe⟩
  replace hq' : s2.queue = rest ++ ovq ov := hq'
  have hlen2 : s2.queue.length ≤ rest.length + 1 := by
    rw [hq']; cases ov <;> simp [ovq]
  have hwl2 : wLoad d s2.waiting ≤ T + d + 1 := by
    rcases r.wait with g | ⟨w, g1, _, g3⟩
    · rw [g, wLoad_none]; exact Nat.zero_le _
    · rw [g1, wLoad_some]; exact Nat.add_le_add_right (Nat.add_le_add_right g3.timeout d) 1
  have hlpt : s2.lptTapHoldTimeout ≤ max s.lptTapHoldTimeout I := r.lpt
  refine ⟨⟨r.extra.trans h.extra, r.tde.trans h.tde, r.aq.trans h.aq, r.seqs h.seqs, ?_, k2, k3, k4, ?_,
    r.cfg ▸ h.cfg, Nat.le_trans hlen2 hlen, ?_, k6 h.idle, ?_,
    Nat.le_trans hlpt (Nat.max_le.mpr ⟨h.lpt, Nat.le_refl _⟩)⟩, r.cfg, by rw [hq]; exact hlen2, ?_⟩
  · intro st hst
    rcases r.adds st hst with g | g
    · exact h.states st g
    · exact g.2
  · intro w' hw'
    rcases r.wait with g | ⟨w, g1, g2, g3⟩
    · rw [g] at hw'; cases hw'
    · cases g1.symm.trans hw'
      exact ⟨g3, by rw [g2, hq']; exact hhead⟩
  · rw [hq']
    cases ov with
    | none => simpa [ovq] using hwf.2
    | some k => exact QWF_append _ _ hwf.2 trivial
  · intro st hst c' hc'
    rw [hq']
    have viaHead : c' = c → c' ∈ down ∨ c' ∈ s2.oneshot.releasedKeys ∨ ∃ x ∈ rest ++ ovq ov, x.ev = .release c' :=
      fun e => e ▸ hhead.imp_right Or.inr
    rcases r.adds st hst with g | g
    · rcases h.owned st g c' hc' with g | g | ⟨x, hx, hxe⟩
      · exact Or.inl g
      · exact (k5 c' g).elim (fun g => Or.inr (Or.inl g)) viaHead
      · rw [hq] at hx
        rcases List.mem_cons.mp hx with rfl | hx
        · cases hxe
        · exact Or.inr (Or.inr ⟨x, List.mem_append_left _ hx, hxe⟩)
    · exact viaHead (Option.some.inj (hc'.symm.trans g.1))
  · have hQ : queueLoad (pressW T I B d) s2.queue ≤ queueLoad (pressW T I B d) rest + 1 := by
      rw [hq', queueLoad_append]; exact Nat.add_le_add_left (ovq_load _ ov) _
    have hw1 : evW (pressW T I B d) ⟨.press c, n⟩ = T + 2 * d + I + B + 2 + 2 := rfl
    have hL : s2.lptTapHoldTimeout ≤ s.lptTapHoldTimeout + I :=
      Nat.le_trans hlpt (Nat.max_le.mpr ⟨Nat.le_add_right _ _, Nat.le_add_left _ _⟩)
    rw [uPot_eq, uPot_eq, hq, queueLoad_cons, hw1, hw, wLoad_none]
    -- what the press may start, component by component, against its own weight
    refine Nat.le_trans (Nat.add_le_add_right (Nat.add_le_add (Nat.add_le_add (Nat.add_le_add (Nat.add_le_add hQ hwl2)
      k3) hL) k4) 1) ?_
    omega

theorem UInv3.main {T I B d : Nat} {s s2 : Layout} {down : List Coord} (h : UInv3 T I B d s down)
    (st : MainStep T s s2) :
    UInv3 T I B d s2 down ∧ s2.cfg = s.cfg ∧ s2.queue.length ≤ s.queue.length ∧
    (down = [] → uPot T I B d s2 + 1 ≤ uPot T I B d s ∨
      (s.queue = [] ∧ s.waiting = none ∧ s.oneshot.pauseInputProcessingTicks = 0 ∧ s2 = s)) := by
  cases st with
  | undecided hw wk hc ht hr =>
    obtain ⟨i, p⟩ := h.undecided hw wk hc ht hr
    exact ⟨i, rfl, Nat.le_refl _, fun hd => Or.inl (p hd)⟩
  | decided hw hb hpz ha hs =>
    obtain ⟨i, c, q, p⟩ := h.decided hw hb hpz ha hs
    exact ⟨i, c, Nat.le_of_eq (congrArg _ q), fun _ => Or.inl p⟩
  | paused hw hp =>
    refine ⟨⟨h.extra, h.tde, h.aq, h.seqs, h.states, h.delay, Nat.le_trans (Nat.sub_le _ _) h.pause, h.load,
      h.wok, h.cfg, h.qlen, h.qwf, h.idle, h.owned, h.lpt⟩, rfl, Nat.le_refl _, fun _ => Or.inl ?_⟩
    show queueLoad (pressW T I B d) s.queue + wLoad d s.waiting + (s.oneshot.pauseInputProcessingTicks - 1) +
      s.lptTapHoldTimeout + oshLoad s.oneshot + 1 ≤ uPot T I B d s
    rw [uPot_eq]; omega
  | idle hw hp hq => exact ⟨h, rfl, Nat.le_refl _, fun _ => Or.inr ⟨hq, hw, hp, rfl⟩⟩
  | release hw _ hq =>
    obtain ⟨i, p⟩ := h.release hw hq
    exact ⟨i, rfl, by rw [hq]; exact Nat.le_succ _, fun _ => Or.inl p⟩
  | @press c n rest s2 c2 hw _ hq hd =>
    have hlen := h.qlen
    rw [hq] at hlen
    obtain ⟨i, c, q, p⟩ := h.press hw hq (dequeue_press_K (s := s.setQueue rest) h.cfg h.tde hw hlen _ _ _ _ hd)
    exact ⟨i, c, q, fun _ => Or.inl p⟩

/-! ## a whole tick, an event, runs -/

theorem UInv3.stages {T I B d : Nat} {s s' : Layout} {down : List Coord} {cu : CustomEv} (h : UInv3 T I B d s down)
    (ht : tick s = .ok (s', cu)) :
    ∃ s1, UInv3 T I B d s1 down ∧ MainStep T s1 s' ∧ s1.queue = age s.queue ∧ s1.waiting = s.waiting ∧
      s1.lptTapHoldTimeout = s.lptTapHoldTimeout - 1 ∧ s1.cfg = s.cfg ∧ oshLoad s1.oneshot ≤ oshLoad s.oneshot - 1 ∧
      s1.oneshot.pauseInputProcessingTicks ≤ s.oneshot.pauseInputProcessingTicks ∧
      (∀ st ∈ s1.states, st ∈ s.states) ∧ s1.oneshot.ticksToIgnoreEvents ≤ s.oneshot.ticksToIgnoreEvents := by
  obtain ⟨i0, q0, w0, o0, l0, c0, t0⟩ := h.pre
  obtain ⟨s1, cu1, e1, i1, q1, w1, l1, c1, ld1, pp1, st1, ig1⟩ := i0.osh
  unfold KVerif.L.tick at ht
  simp only [h.aq, e1] at ht
  cases hm : tickMain s1 with
  | error c => simp only [hm] at ht; cases ht
  | ok r =>
    obtain ⟨s2, c2⟩ := r
    have m := mainStep i1.extra (fun w hw => (i1.wok w hw).1) i1.states hm
    have i2 := (i1.main m).1
    simp only [hm, C04.processExtraWaitings_inert i2.extra, processSequenceCustom_inert4 i2.states] at ht
    cases ht
    exact ⟨s1, i1, m, q1.trans q0, w1.trans w0, l1.trans l0, c1.trans c0, o0 ▸ ld1, o0 ▸ pp1,
      fun st hst => t0 ▸ st1 st hst, o0 ▸ ig1⟩

/-- two countdowns that each go down by one unless at zero take one off any sum that contains them -/
theorem pred_add_le : ∀ {a b o c : Nat}, b ≤ o - 1 → a + o ≤ c → a - 1 + b ≤ c - 1
  | a, _, 0, _, hb, hc => by rw [Nat.le_zero.mp hb]; exact Nat.sub_le_sub_right hc 1
  | a, _, _ + 1, _, hb, hc =>
    Nat.le_sub_one_of_lt (Nat.lt_of_lt_of_le (Nat.lt_succ_of_le (Nat.add_le_add (Nat.sub_le a 1) hb)) hc)

theorem UInv3.tick {T I B d : Nat} {s : Layout} {down : List Coord} (h : UInv3 T I B d s down) (s' : Layout)
    (cu : CustomEv) (ht : tick s = .ok (s', cu)) :
    UInv3 T I B d s' down ∧ s'.queue.length ≤ s.queue.length ∧
    (down = [] → uPot T I B d s' ≤ uPot T I B d s - 1) := by
  obtain ⟨s1, i1, m, q1, w1, l1, _, ld1, pp1, _⟩ := h.stages ht
  obtain ⟨i2, _, ql2, pot2⟩ := i1.main m
  refine ⟨i2, by simpa [q1, age] using ql2, fun hd => ?_⟩
  have hs1 : uPot T I B d s1 = queueLoad (pressW T I B d) s.queue + wLoad d s.waiting +
      s1.oneshot.pauseInputProcessingTicks + (s.lptTapHoldTimeout - 1) + oshLoad s1.oneshot := by
    rw [uPot_eq, q1, w1, l1, queueLoad_age]
  rcases pot2 hd with g | ⟨g1, g2, g3, rfl⟩
  · -- the first two stages raise nothing, the third takes one off
    refine Nat.le_sub_one_of_lt (Nat.lt_of_lt_of_le g ?_)
    rw [hs1, uPot_eq]
    exact Nat.add_le_add (Nat.add_le_add (Nat.add_le_add_left pp1 _) (Nat.sub_le _ 1))
      (Nat.le_trans ld1 (Nat.sub_le _ 1))
  · -- nothing queued, waiting or paused: what is left are the two countdowns of the first two stages
    have hq : queueLoad (pressW T I B d) s.queue = 0 := by
      rw [← queueLoad_age, ← q1, g1]; rfl
    rw [hs1, uPot_eq, hq, ← w1, g2, g3, wLoad_none, Nat.zero_add, Nat.zero_add]
    exact pred_add_le ld1 (Nat.add_le_add_right (Nat.le_add_left _ _) _)

theorem UInv3.input {T I B d : Nat} {s : Layout} {down : List Coord} (h : UInv3 T I B d s down) (e : Ev)
    (hq : s.queue.length < QUEUE_SIZE) :
    ∃ s', s.event e = .ok s' ∧ UInv3 T I B d s' (downAfter down (.ev e)) ∧ s'.queue = s.queue ++ [⟨e, 0⟩] ∧
      s'.cfg = s.cfg ∧ s'.states = s.states ∧ s'.oneshot = s.oneshot := by
  unfold Layout.event
  rw [FUEL_succ]
  obtain ⟨s', e1, e2, e3, e4, e5⟩ := event_room 3999 s e hq
  have e6 := event_room_lpt 3999 s e hq s' e1
  refine ⟨s', e1, ?_, e2, e5.cfg, e3, e4⟩
  have hrel : ∀ c, (c ∈ down ∨ ∃ x ∈ s.queue, x.ev = .release c) →
      (c ∈ downAfter down (.ev e) ∨ ∃ x ∈ s.queue ++ [⟨e, 0⟩], x.ev = .release c) := by
    intro c hc
    rcases hc with h1 | ⟨x, hx, hxe⟩
    · cases e with
      | press c' => exact Or.inl (List.mem_cons_of_mem _ h1)
      | release c' =>
        by_cases hcc : c = c'
        · subst hcc; exact Or.inr ⟨⟨.release c, 0⟩, by simp, rfl⟩
        · exact Or.inl (List.mem_filter.mpr ⟨h1, by simpa using hcc⟩)
    · exact Or.inr ⟨x, List.mem_append_left _ hx, hxe⟩
  refine ⟨e5.extra.trans h.extra, e5.tde.trans h.tde, e5.aq.trans h.aq, e5.seqs.trans h.seqs, e3 ▸ h.states,
    e4 ▸ h.delay, e4 ▸ h.pause, e4 ▸ h.load, ?_, e5.cfg ▸ h.cfg,
    by rw [e2]; simp only [List.length_append, List.length_cons, List.length_nil]; omega, ?_, e4 ▸ h.idle, ?_, e6 ▸ h.lpt⟩
  · intro w hw
    rw [e5.waiting] at hw
    exact ⟨(h.wok w hw).1, by rw [e2]; exact hrel _ (h.wok w hw).2⟩
  · rw [e2]
    cases e with
    | press c =>
      exact QWF_append _ _ (QWF_mono (fun x hx => List.mem_cons_of_mem _ hx) _ h.qwf) (by simp [downAfter])
    | release c => exact QWF_release c 0 _ h.qwf
  · intro st hst c hc
    rw [e3] at hst
    rw [e2, e4]
    rcases h.owned st hst c hc with g | g | g
    · exact (hrel c (Or.inl g)).imp_right Or.inr
    · exact Or.inr (Or.inl g)
    · exact (hrel c (Or.inr g)).imp_right Or.inr

/-- **every history keeps the invariant** (an event never arrives while 32 are pending) -/
theorem run_uinv3 {T I B d : Nat} (ins : List In) (s : Layout) (down : List Coord) (h : UInv3 T I B d s down)
    (s' : Layout) (down' : List Coord) (hr : run s down ins = some (.ok (s', down'))) : UInv3 T I B d s' down' :=
  run_preserves (fun s down e s' h hq he => by
      obtain ⟨s1, e1, i1, _⟩ := h.input e hq
      cases e1.symm.trans he
      exact i1)
    (fun s down s' cu h ht => (h.tick s' cu ht).1) ins s down h s' down' hr

/-- the bound: every queued event weighs at most `pressW + 2`; on top of that one tap-hold countdown
with its decision tick and pause, the input pause, the quick-tap window and the one-shot countdown -/
theorem uPot3_le {T I B d : Nat} {s : Layout} {down : List Coord} (h : UInv3 T I B d s down) :
    uPot T I B d s ≤ (T + 2 * d + I + B + 4) * s.queue.length + T + 2 * d + I + B + 2 := by
  have h1 : queueLoad (pressW T I B d) s.queue ≤ (T + 2 * d + I + B + 4) * s.queue.length :=
    queueLoad_le (pressW T I B d) s.queue
  have h2 := h.load
  have h3 := h.pause
  have h4 := h.lpt
  have h5 : wLoad d s.waiting ≤ T + d + 1 := by
    cases hw : s.waiting with
    | none => exact Nat.zero_le _
    | some w => rw [wLoad_some]; have := (h.wok w hw).1.timeout; omega
  rw [uPot_eq]
  omega

/-- potential zero, no key down: the layout is at rest -/
theorem UInv3.atRest {T I B d : Nat} {s : Layout} (h : UInv3 T I B d s []) (hz : uPot T I B d s = 0) :
    LayoutAtRest s := by
  rw [uPot_eq] at hz
  simp only [Nat.add_eq_zero_iff] at hz
  obtain ⟨⟨⟨⟨zq, zw⟩, zp⟩, zl⟩, zo⟩ := hz
  have hq : s.queue = [] := queueLoad_zero (pressW T I B d) _ zq
  have hk : s.oneshot.keys = [] := oshLoad_zero zo
  have hw : s.waiting = none := by
    cases hw : s.waiting with
    | none => rfl
    | some w => rw [hw] at zw; cases zw
  refine ⟨List.eq_nil_iff_forall_not_mem.mpr fun st hst => ?_, hq, hw, h.extra, zl, hk, zp, h.seqs, h.tde, h.aq⟩
  obtain ⟨c, hc⟩ := stok4_coord (h.states st hst)
  rcases h.owned st hst c hc with g | g | ⟨x, hx, _⟩
  · cases g
  · rw [(h.idle hk).1] at g; cases g
  · rw [hq] at hx; cases hx

/-- **no state is stranded**: what the invariant says of the key states and of the undecided key -/
theorem UInv3.stranded {T I B d : Nat} {s : Layout} {down : List Coord} (h : UInv3 T I B d s down) :
    (∀ st ∈ s.states, ∀ c, st.coord = some c →
      c ∈ down ∨ (c ∈ s.oneshot.releasedKeys ∧ s.oneshot.keys ≠ []) ∨ ∃ x ∈ s.queue, x.ev = .release c) ∧
    (∀ w, s.waiting = some w → w.coord ∈ down ∨ ∃ x ∈ s.queue, x.ev = .release w.coord) ∧
    s.extraWaiting = [] := by
  refine ⟨fun st hst c hc => (h.owned st hst c hc).imp_right (Or.imp_left fun g => ⟨g, fun hk => ?_⟩),
    fun w hw => (h.wok w hw).2, h.extra⟩
  rw [(h.idle hk).1] at g; cases g

theorem coordOK_of {cfg : LCfg} {c : Coord} (h : CoordOK cfg c) : C04.coordOK cfg c = true := by
  simp [C04.coordOK, h.1, h.2]

theorem stepInv3 {cfg : LCfg} {C P : Nat} {osh : Bool} (hC : NCF.CfgOK cfg C P osh) (hB : NCF.Budget P osh)
    (T I B d : Nat) : StepInv (fun s down => UInv3 T I B d s down ∧ NCF.NC cfg s) (pressOK cfg) where
  ev := by
    intro s down e ⟨h, hN⟩ hq hA
    obtain ⟨s1, e1, i1, q1, _⟩ := h.input e hq
    have he : C04.evOK cfg e = true := by
      cases e with
      | press c => exact coordOK_of (hA c rfl)
      | release c => rfl
    obtain ⟨s2, e2, N2⟩ := NCF.event_ok hC hB hN e he
    cases e1.symm.trans e2
    exact ⟨s1, e1, ⟨i1, N2⟩, by rw [q1]; simp⟩
  tick := by
    intro s down ⟨h, hN⟩
    obtain ⟨s1, cu, e1, N1⟩ := NCF.tick_ok hC hB hN
    obtain ⟨i1, l1, _⟩ := h.tick s1 cu e1
    exact ⟨s1, cu, e1, ⟨i1, N1⟩, l1⟩

/-- **quiescence on the stage-3 fragment**, from any state in the invariant: after a history that
leaves no key down, `N` quiet ticks return a state at rest once `N` bounds the potential reached -/
theorem quiesce3 {T I B d : Nat} {s0 s1 : Layout} (h0 : UInv3 T I B d s0 []) (hr : NCF.RangeU s0.cfg)
    (hf : NCF.FuelU s0.cfg) (hs : NCF.StartU s0) {ins : List In} (hP : PressesOK s0.cfg ins)
    (hrun : run s0 [] ins = some (.ok (s1, []))) {N : Nat}
    (hN : (T + 2 * d + I + B + 4) * s1.queue.length + T + 2 * d + I + B + 2 ≤ N) :
    ∃ s2, run s1 [] (List.replicate N .tick) = some (.ok (s2, [])) ∧ LayoutAtRest s2 := by
  have S := stepInv3 (NCF.cfgOK_of_range hr) hf T I B d
  have P1 := S.of_run ⟨h0, hs.nc⟩ (hP.admitted []) hrun
  obtain ⟨s2, r, P2, z⟩ := S.quiesce (uPot T I B d) (fun s s' cu Ps ht => (Ps.1.tick s' cu ht).2.2 rfl)
    ⟨h0, hs.nc⟩ (hP.admitted []) hrun (Nat.le_trans (uPot3_le P1.1) hN)
  exact ⟨s2, r, P2.1.atRest z⟩

/-- the same from start-up, for a balanced history that never meets a full queue: the bound with all 32
queue slots taken serves every state -/
theorem quiesce3_fresh {T I B : Nat} {cfg : LCfg} (hc : Cfg3 T I B cfg) (hr : NCF.RangeU cfg) (hf : NCF.FuelU cfg)
    (tv2 dfl qth : Bool) (d : Nat) {ins : List In} (hP : PressesOK cfg ins) (hbal : downs [] ins = [])
    (hroom : run { cfg := cfg, transV2 := tv2, delegateToFirstLayer := dfl, quickTapHoldTimeout := qth,
                   oneshot := { pauseInputProcessingDelay := d } } [] ins ≠ none)
    {N : Nat} (hN : (T + 2 * d + I + B + 4) * QUEUE_SIZE + T + 2 * d + I + B + 2 ≤ N) :
    ∃ s1 s2, run { cfg := cfg, transV2 := tv2, delegateToFirstLayer := dfl, quickTapHoldTimeout := qth,
                   oneshot := { pauseInputProcessingDelay := d } } [] ins = some (.ok (s1, [])) ∧
      run s1 [] (List.replicate N .tick) = some (.ok (s2, [])) ∧ LayoutAtRest s2 := by
  have S := stepInv3 (NCF.cfgOK_of_range hr) hf T I B d
  obtain ⟨s1, s2, r1, r2, P2, z⟩ := S.quiesce_balanced (uPot T I B d)
    (fun s s' cu Ps ht => (Ps.1.tick s' cu ht).2.2 rfl)
    ⟨init_uinv3 cfg T I B hc tv2 dfl qth d, (NCF.startU_init cfg hr.unpack.pos tv2 dfl qth d).nc⟩ (hP.admitted [])
    hbal hroom (N := N) (fun s Ps => Nat.le_trans (uPot3_le Ps.1)
      (Nat.le_trans (by have := Nat.mul_le_mul_left (T + 2 * d + I + B + 4) Ps.1.qlen; omega) hN))
  exact ⟨s1, s2, r1, r2, P2.1.atRest z⟩

/-! ## the bounds of a configuration -/

/-- the largest value of `f` over the actions of the configuration -/
def cfgMax (f : Action → Nat) (c : LCfg) : Nat :=
  max (listMax (c.layers.map fun tbl => listMax (tbl.map fun e => f e.2))) (listMax (c.srcKeys.map fun e => f e.2))

theorem le_cfgMax (f : Action → Nat) (c : LCfg) :
    (∀ tbl ∈ c.layers, ∀ e ∈ tbl, f e.2 ≤ cfgMax f c) ∧ (∀ e ∈ c.srcKeys, f e.2 ≤ cfgMax f c) := by
  refine ⟨fun tbl ht e he => ?_, fun e he => ?_⟩
  · have h1 : f e.2 ≤ listMax (tbl.map fun e => f e.2) := le_listMax (List.mem_map.mpr ⟨e, he, rfl⟩)
    have h2 : listMax (tbl.map fun e => f e.2) ≤ listMax (c.layers.map fun tbl => listMax (tbl.map fun e => f e.2)) :=
      le_listMax (List.mem_map.mpr ⟨tbl, ht, rfl⟩)
    exact Nat.le_trans h1 (Nat.le_trans h2 (Nat.le_max_left _ _))
  · have h1 : f e.2 ≤ listMax (c.srcKeys.map fun e => f e.2) := le_listMax (List.mem_map.mpr ⟨e, he, rfl⟩)
    exact Nat.le_trans h1 (Nat.le_max_right _ _)

/-- **the stage-3 fragment** (decidable): every layer position and every defsrc item is a `TopAct` that
performs at most one tap-hold key per press -/
def Shape3 (c : LCfg) : Prop :=
  (c.layers.all fun tbl => tbl.all fun e => TopAct e.2 && decide (htCount e.2 ≤ 1)) = true ∧
  (c.srcKeys.all fun e => TopAct e.2 && decide (htCount e.2 ≤ 1)) = true

instance (c : LCfg) : Decidable (Shape3 c) := by unfold Shape3; exact inferInstance

/-- a configuration of the fragment, with its own largest hold timeout, tap-hold interval and one-shot timeout -/
theorem cfg3_max {c : LCfg} (h : Shape3 c) : Cfg3 (cfgMax nT c) (cfgMax nI c) (cfgMax nB c) c := by
  obtain ⟨h1, h2⟩ := h
  simp only [List.all_eq_true, Bool.and_eq_true, decide_eq_true_eq] at h1 h2
  exact ⟨fun tbl ht e he => ⟨(h1 tbl ht e he).1, (h1 tbl ht e he).2, (le_cfgMax nT c).1 tbl ht e he,
      (le_cfgMax nI c).1 tbl ht e he, (le_cfgMax nB c).1 tbl ht e he⟩,
    fun e he => ⟨(h2 e he).1, (h2 e he).2, (le_cfgMax nT c).2 e he, (le_cfgMax nI c).2 e he, (le_cfgMax nB c).2 e he⟩⟩

/-- stage 1 is part of stage 3 -/
theorem cfg1_cfg3 {c : LCfg} {T I B : Nat} (hc : Cfg1 c) (hb : BoundU c T I B) : Cfg3 T I B c := by
  have key : ∀ a, Frag1 a → htT a ≤ T → htI a ≤ I → oshT a ≤ B → Ok3 T I B a := by
    intro a hf h1 h2 h3
    have sb : ∀ x, Simple x → simpleB x = true := by
      intro x hx; cases x <;> simp only [Simple] at hx <;> rfl
    cases a <;> simp only [Frag1] at hf
    case noOp => exact ok3_noOp T I B
    case trans => exact ok3_trans T I B
    case keyCode => exact ⟨rfl, Nat.zero_le _, Nat.zero_le _, Nat.zero_le _, Nat.zero_le _⟩
    case multipleKeyCodes => exact ⟨rfl, Nat.zero_le _, Nat.zero_le _, Nat.zero_le _, Nat.zero_le _⟩
    case layer => exact ⟨rfl, Nat.zero_le _, Nat.zero_le _, Nat.zero_le _, Nat.zero_le _⟩
    case oneShot inner t v => exact ⟨by simp only [TopAct]; exact sb _ hf, Nat.zero_le _, Nat.zero_le _, Nat.zero_le _, h3⟩
    case holdTap t hd tp to cf iv =>
      exact ⟨by simp only [TopAct, sb _ hf.1, sb _ hf.2.1, sb _ hf.2.2, Bool.and_self], Nat.le_refl _, h1, h2, Nat.zero_le _⟩
  exact ⟨fun tbl ht e he => key _ (hc.1 tbl ht e he) (hb.1.1 tbl ht e he).1 (hb.1.1 tbl ht e he).2 (hb.2.1 tbl ht e he),
    fun e he => key _ (hc.2 e he) (hb.1.2 e he).1 (hb.1.2 e he).2 (hb.2.2 e he)⟩

end KVerif.QU3
