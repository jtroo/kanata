/-
C06 helper lemmas: a dequeued *release* on a calm state, runs of the layout model over
histories, and the invariant behind "never lingers": every state in the layout belongs to a key that
is physically down, or whose release is deferred in `released_keys` (with a one-shot key active, so
the countdown is running), or whose release is still in the input queue.
-/
import KVerif.Lemmas.OneShotPress
namespace KVerif.C06
open KVerif.L

/-! ### releases -/

/-- a plain key or held layer sits at a coordinate and is released by it alone -/
theorem stok_release {st : St} (h : StOK st) : st.clearOnNextRelease = false ∧
    ∃ co, st.coord = some co ∧ ∀ c cu, st.release c cu = if co == c then (none, cu) else (some st, cu) := by
  cases st <;> simp only [C04.StOK] at h
  · exact ⟨by rcases h with rfl | rfl <;> rfl, _, rfl, fun _ _ => rfl⟩
  · exact ⟨rfl, _, rfl, fun _ _ => rfl⟩

theorem releaseStates_stok (b : Bool) (c : Coord) : ∀ (states : List St), (∀ st ∈ states, StOK st) →
    releaseStates b c states .noEvent = (states.filter (fun st => st.coord != some c), .noEvent)
  | [], _ => rfl
  | st :: rest, h => by
    obtain ⟨h1, co, h2, h3⟩ := stok_release (h st List.mem_cons_self)
    have ih := releaseStates_stok b c rest (fun x hx => h x (List.mem_cons_of_mem _ hx))
    by_cases hco : co = c <;> simp [releaseStates, h1, h2, h3, ih, hco]

/-- the states after a dequeued release, given what `handle_release` answered -/
def afterRelease (states : List St) (c : Coord) (doRelease : Bool) (overflow : Option Coord) : List St :=
  let st1 := if doRelease then states.filter (fun st => st.coord != some c) else states
  match overflow with
  | some c2 => st1.filter (fun st => st.coord != some c2)
  | none => st1

theorem mem_afterRelease {states : List St} {c : Coord} {dr : Bool} {ov : Option Coord} {st : St} :
    st ∈ afterRelease states c dr ov ↔
      st ∈ states ∧ (dr = true → st.coord ≠ some c) ∧ ∀ c2, ov = some c2 → st.coord ≠ some c2 := by
  have h1 : st ∈ (if dr then states.filter (fun st => st.coord != some c) else states) ↔
      st ∈ states ∧ (dr = true → st.coord ≠ some c) := by
    cases dr <;> simp [List.mem_filter]
  cases ov <;> simp [afterRelease, List.mem_filter, h1, and_assoc]

/-- **a release taken from the queue, on a calm state**: `handle_release` decides; a release that is
applied removes exactly the states of its coordinate; a deferred one removes nothing, except that
the oldest deferred key is released for real when 16 are deferred already -/
theorem dequeue_release_calm {s : Layout} (hs : ∀ st ∈ s.states, StOK st) (c : Coord) (since : Nat) :
    dequeue FUEL s ⟨.release c, since⟩ =
      .ok ({ s with oneshot := (s.oneshot.handleRelease c).1,
                    states := afterRelease s.states c (s.oneshot.handleRelease c).2.1 (s.oneshot.handleRelease c).2.2 },
           .noEvent) := by
  rw [FUEL_succ]
  simp only [dequeue]
  generalize s.oneshot.handleRelease c = r
  obtain ⟨o, dr, ov⟩ := r
  simp only [afterRelease]
  cases dr <;> cases ov <;>
    simp only [releaseStates_stok _ _ _ hs, if_true, Bool.false_eq_true, if_false,
      releaseStates_stok _ _ _ (C04.stok_filter _ hs)]

/-! ### container facts -/

theorem pushBackWrap_room {α} {cap : Nat} {l : List α} (h : l.length < cap) (x : α) :
    pushBackWrap cap l x = (l ++ [x], none) := if_pos h

theorem pushBackWrap_full {α} {cap : Nat} {a : α} {t : List α} (h : cap ≤ (a :: t).length) (x : α) :
    pushBackWrap cap (a :: t) x = (t ++ [x], some a) := if_neg (Nat.not_lt.mpr h)

theorem pushBackWrap_ne_nil {α} (cap : Nat) (hc : 0 < cap) (l : List α) (x : α) : (pushBackWrap cap l x).1 ≠ [] := by
  unfold pushBackWrap
  split
  · simp
  · cases l with
    | nil => simp at *; omega
    | cons h t => simp

theorem mem_pushBackWrap_new {α} (cap : Nat) (hc : 0 < cap) (l : List α) (x : α) : x ∈ (pushBackWrap cap l x).1 := by
  unfold pushBackWrap
  split
  · simp
  · cases l with
    | nil => simp at *; omega
    | cons h t => simp

theorem mem_pushBackWrap_old {α} (cap : Nat) (l : List α) (x y : α) (h : y ∈ l) :
    y ∈ (pushBackWrap cap l x).1 ∨ (pushBackWrap cap l x).2 = some y := by
  unfold pushBackWrap
  split
  · exact Or.inl (List.mem_append_left _ h)
  · cases l with
    | nil => cases h
    | cons a t =>
      simp only
      rcases List.mem_cons.mp h with h | h
      · exact Or.inr (by rw [h])
      · exact Or.inl (List.mem_append_left _ h)

/-! ### runs -/

/-- inputs of a run: a key event, or one millisecond -/
inductive In
  | ev (e : Ev)
  | tick
  deriving Repr

/-- which keys are physically down -/
def downAfter (down : List Coord) : In → List Coord
  | .ev (.press c) => c :: down
  | .ev (.release c) => down.filter (· != c)
  | .tick => down

def stepIn (s : Layout) : In → Except Crash Layout
  | .ev e => s.event e
  | .tick => match tick s with
    | .ok (s', _) => .ok s'
    | .error c => .error c

/-- an event arrives while 32 are pending -/
def overflows (s : Layout) : In → Bool
  | .ev _ => decide (QUEUE_SIZE ≤ s.queue.length)
  | .tick => false

/-- the layout model run on a history; `none` when an event arrives while 32 are pending (the
overflow path of `Layout::event`, outside the C06 statements) -/
def run : Layout → List Coord → List In → Option (Except Crash (Layout × List Coord))
  | s, down, [] => some (.ok (s, down))
  | s, down, i :: rest =>
    if overflows s i then none
    else match stepIn s i with
      | .error c => some (.error c)
      | .ok s' => run s' (downAfter down i) rest

/-! ### the invariant -/

/-- every queued press is of a key that is still down, or is followed by that key's release -/
def QWF (down : List Coord) : List Queued → Prop
  | [] => True
  | q :: rest =>
    (match q.ev with
     | .press c => c ∈ down ∨ ∃ x ∈ rest, x.ev = .release c
     | .release _ => True) ∧ QWF down rest

structure Inv (s : Layout) (down : List Coord) : Prop where
  calm : Calm s
  cfg : CfgFrag s.cfg
  qlen : s.queue.length ≤ QUEUE_SIZE
  /-- with no one-shot key active nothing is deferred and no release is requested -/
  idle : s.oneshot.keys = [] → s.oneshot.releasedKeys = [] ∧ s.oneshot.releaseOnNextTick = false
  qwf : QWF down s.queue
  /-- **no state is stranded** -/
  owned : ∀ st ∈ s.states, ∀ c, st.coord = some c →
    c ∈ down ∨ c ∈ s.oneshot.releasedKeys ∨ ∃ x ∈ s.queue, x.ev = .release c

theorem QWF_mono {down down' : List Coord} (h : ∀ c ∈ down, c ∈ down') : ∀ q, QWF down q → QWF down' q := by
  intro q
  induction q with
  | nil => intro _; trivial
  | cons x rest ih =>
    intro hq
    refine ⟨?_, ih hq.2⟩
    have h1 := hq.1
    cases hx : x.ev with
    | press c =>
      simp only [hx] at h1 ⊢
      rcases h1 with h1 | h1
      · exact Or.inl (h c h1)
      · exact Or.inr h1
    | release c => trivial

theorem QWF_append {down : List Coord} (e : Queued) : ∀ q, QWF down q →
    (match e.ev with | .press c => c ∈ down | .release _ => True) → QWF down (q ++ [e]) := by
  intro q
  induction q with
  | nil =>
    intro _ he
    refine ⟨?_, trivial⟩
    cases hx : e.ev with
    | press c => simp only [hx] at he ⊢; exact Or.inl he
    | release c => trivial
  | cons x rest ih =>
    intro hq he
    refine ⟨?_, ih hq.2 he⟩
    have h1 := hq.1
    cases hx : x.ev with
    | press c =>
      simp only [hx] at h1 ⊢
      rcases h1 with h1 | ⟨y, hy, hye⟩
      · exact Or.inl h1
      · exact Or.inr ⟨y, List.mem_append_left _ hy, hye⟩
    | release c => trivial

/-- a key goes up: every queued press of it is now followed by its release -/
theorem QWF_release {down : List Coord} (c : Coord) (n : Nat) : ∀ q, QWF down q →
    QWF (down.filter (· != c)) (q ++ [⟨.release c, n⟩]) := by
  intro q
  induction q with
  | nil => intro _; exact ⟨trivial, trivial⟩
  | cons x rest ih =>
    intro hq
    refine ⟨?_, ih hq.2⟩
    have h1 := hq.1
    cases hx : x.ev with
    | press c' =>
      simp only [hx] at h1 ⊢
      rcases h1 with h1 | ⟨y, hy, hye⟩
      · by_cases hcc : c' = c
        · subst hcc
          exact Or.inr ⟨⟨.release c', n⟩, by simp, rfl⟩
        · exact Or.inl (List.mem_filter.mpr ⟨h1, by simpa using hcc⟩)
      · exact Or.inr ⟨y, List.mem_append_left _ hy, hye⟩
    | release c' => trivial

theorem QWF_age {down : List Coord} : ∀ q, QWF down q → QWF down (age q) := by
  intro q
  induction q with
  | nil => intro _; trivial
  | cons x rest ih =>
    intro hq
    refine ⟨?_, ih hq.2⟩
    have h1 := hq.1
    show (match x.ev with | .press c => c ∈ down ∨ ∃ y ∈ age rest, y.ev = .release c | .release _ => True)
    cases hx : x.ev with
    | press c =>
      simp only [hx] at h1 ⊢
      rcases h1 with h1 | ⟨y, hy, hye⟩
      · exact Or.inl h1
      · exact Or.inr ⟨{ y with since := min (y.since + 1) U16_MAX }, List.mem_map.mpr ⟨y, hy, rfl⟩, hye⟩
    | release c => trivial

theorem mem_age_release {q : List Queued} {c : Coord} (h : ∃ x ∈ q, x.ev = .release c) :
    ∃ x ∈ age q, x.ev = .release c := by
  obtain ⟨y, hy, hye⟩ := h
  exact ⟨{ y with since := min (y.since + 1) U16_MAX }, List.mem_map.mpr ⟨y, hy, rfl⟩, hye⟩

end KVerif.C06
