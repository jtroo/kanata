/-
"The key stays down for good", for the two order counterexamples of Props/C18multi: the state each of
them reaches is one in which kanata may block (`C07.MayBlock`), and from such a state no number of
further ticks does anything (`C07.block_silent_forever`).  `blocked` is `MayBlock` as a test on the
result of a run, so that one evaluation up to that state settles every longer run.
-/
import KVerif.Lemmas.VkeyMulti
import KVerif.Props.C07
namespace KVerif.VkeyMulti
open KVerif.L KVerif.K

theorem ticksN_eq (n : Nat) (k : KState) : ticksN n k = C07.ticksN n k := by
  induction n generalizing k with
  | zero => rfl
  | succ n ih =>
    simp only [ticksN, C07.ticksN]
    cases tickStates k with
    | error e => rfl
    | ok k' => exact ih k'

theorem ticksN_add (a b : Nat) (k : KState) : ticksN (a + b) k = andThen (ticksN a k) (ticksN b) := by
  induction a generalizing k with
  | zero => rw [Nat.zero_add]; rfl
  | succ a ih =>
    rw [Nat.add_right_comm]
    simp only [ticksN]
    cases tickStates k with
    | error e => rfl
    | ok k' => exact ih k'

theorem andThen_ticksN_add (r : R) (f : KState → KState) (a n : Nat) :
    andThen r (fun k => ticksN (a + n) (f k)) = andThen (andThen r fun k => ticksN a (f k)) (ticksN n) := by
  cases r with
  | error e => rfl
  | ok k => exact ticksN_add a n (f k)

/-- `C07.PlainStates`, per key state -/
def plainSt : St → Bool
  | .repeatingSequence .. | .seqCustomPending _ | .seqCustomActive _ | .tombstone => false
  | _ => true

/-- `C07.MayBlock` as a test on the result of a run -/
def blocked (r : R) : Bool :=
  match r with
  | .error _ => false
  | .ok k =>
    match k.overrides.overrideKeys (adjustKeys k k.layout.keycodes) k.overrideStates with
    | .error _ => false
    | .ok (cur', ost) =>
      isIdle k && k.waitingForIdle.isEmpty && k.layout.states.all plainSt && k.curKeys.isEmpty &&
        ost.toRemove.isEmpty && k.prevKeys.all (cur'.contains ·) && cur'.all (k.prevKeys.contains ·) &&
        k.dyn.rcd.isNone

/-- from such a state no number of ticks writes anything or changes the keys held down -/
theorem blocked_forever {r : R} (h : blocked r = true) (n : Nat) :
    obsOut (andThen r (ticksN n)) = obsOut r := by
  cases r with
  | error e => cases h
  | ok k =>
    unfold blocked at h
    simp only [] at h
    split at h
    · cases h
    · rename_i cur' ost hov
      simp only [Bool.and_eq_true, List.isEmpty_iff, List.all_eq_true, List.contains_iff_mem,
        Option.isNone_iff_eq_none] at h
      obtain ⟨⟨⟨⟨⟨⟨⟨h1, h2⟩, h3⟩, h4⟩, h6⟩, h7⟩, h8⟩, h9⟩ := h
      have hm : C07.MayBlock k cur' ost :=
        ⟨h1, h2, fun st hst => (by have := h3 st hst; cases st <;> first | trivial | cases this),
          h4, hov, h6, ⟨h7, h8⟩, h9⟩
      obtain ⟨k', e, ho, hs, _⟩ := C07.block_silent_forever n k cur' ost hm
      show obsOut (ticksN n k) = _
      rw [ticksN_eq, e]
      show some (k'.out, k'.layout.states.filterMap St.keycode) = some (k.out, k.layout.states.filterMap St.keycode)
      rw [ho, hs]

/-- `C18multi.tick_held_vkeys_order_counterexample`, iteration order v1, v0: `x` is down after 12 ticks
and after any number more -/
theorem held_stuck_forever (n : Nat) :
    obsOut (andThen heldCxK1 fun k =>
      ticksN (12 + n) { k with vkeysPendingRelease := [((1, 2), 2), ((1, 1), 2)] })
      = some ([.down 45], [45]) := by
  rw [andThen_ticksN_add, blocked_forever (by decide +kernel)]
  decide +kernel

/-- `C18multi.on_idle_same_tick_order_counterexample`, release first: `x` is down after 5 ticks and
after any number more -/
theorem idle_stuck_forever (n : Nat) :
    obsOut (andThen idleCxK1 fun k =>
      ticksN (5 + n) { k with waitingForIdle := [{ coord := (1, 0), action := .release, idle := 20 },
                                                 { coord := (1, 0), action := .press, idle := 20 }] })
      = some ([.down 45], [45]) := by
  rw [andThen_ticksN_add, blocked_forever (by decide +kernel)]
  decide +kernel

end KVerif.VkeyMulti
