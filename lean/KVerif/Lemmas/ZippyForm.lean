/-
The induction behind `zippy_net_text_basic`: an invariant that holds while the keys of a chord are
going down one by one (zippychord state and text buffer together), preserved by every non-final
press and by every tick inside the deadline; then the completing press and what it leaves
(`RunResult`).
-/
import KVerif.Lemmas.ZippyMods
namespace KVerif.Zippy
open KVerif.TextBuf

/-! ### Histories -/

theorem zRun_append (cfg : Cfg) (s : Zchd) (h1 h2 : List ZEv) :
    zRun cfg s (h1 ++ h2) =
      ((zRun cfg (zRun cfg s h1).1 h2).1, (zRun cfg s h1).2 ++ (zRun cfg (zRun cfg s h1).1 h2).2) := by
  induction h1 generalizing s with
  | nil => simp [zRun]
  | cons e es ih =>
    simp only [List.cons_append, zRun, ih]
    simp [List.append_assoc]

/-- `n` ticks (caps-word off) -/
def ticksN (s : Zchd) : Nat → Zchd
  | 0 => s
  | n + 1 => ticksN (s.tick false) n

theorem zRun_ticks (cfg : Cfg) (s : Zchd) (n : Nat) :
    zRun cfg s (List.replicate n .tick) = (ticksN s n, []) := by
  induction n generalizing s with
  | zero => rfl
  | succ n ih => simp [List.replicate_succ, zRun, zStep, zchTick, ih, ticksN]

theorem ticks_enabled (s : Zchd) (n : Nat) (hen : s.enabledState = .enabled) (hc : s.capsWord = false)
    (h : s.ticksSinceStateChange + n ≤ TICKS_UNTIL_FORCE_STATE_RESET)
    (hd : s.ticksUntilDisable = 0 ∨ n < s.ticksUntilDisable) :
    ticksN s n = { s with ticksSinceStateChange := s.ticksSinceStateChange + n,
                          ticksUntilDisable := s.ticksUntilDisable - n } := by
  induction n generalizing s with
  | zero => rfl
  | succ n ih =>
    have h1 : s.ticksUntilDisable ≠ 1 :=
      hd.elim (fun h0 => h0 ▸ Nat.zero_ne_one) (fun hlt => Nat.ne_of_gt (Nat.lt_of_le_of_lt (Nat.le_add_left 1 n) hlt))
    rw [ticksN, ← hc, tick_enabled s s.capsWord hen (Nat.lt_of_lt_of_le (Nat.lt_add_of_pos_right n.succ_pos) h) h1,
      ih { s with ticksSinceStateChange := s.ticksSinceStateChange + 1, ticksUntilDisable := s.ticksUntilDisable - 1 }
        hen hc (by rw [Nat.add_right_comm]; exact h)
        (hd.imp (fun h0 => by simp only [h0]) (fun hlt => Nat.lt_sub_of_add_lt hlt))]
    simp only [Nat.add_assoc, Nat.add_comm 1 n, Nat.sub_sub]

/-- Holding a key that zippychord ignores (e.g. shift) for `n` ticks from an idle enabled state only
advances `ticksSinceStateChange`. -/
theorem idle_ticks (s : Zchd) (n : Nat) (hen : s.enabledState = .enabled) (htud : s.ticksUntilDisable = 0)
    (hc : s.capsWord = false) (h : s.ticksSinceStateChange + n ≤ TICKS_UNTIL_FORCE_STATE_RESET) :
    ticksN s n = { s with ticksSinceStateChange := s.ticksSinceStateChange + n } := by
  rw [ticks_enabled s n hen hc h (Or.inl htud), htud, Nat.zero_sub, ← htud]

/-- press a key, then let `g` ticks pass -/
def pressTicks (k g : Nat) : List ZEv := .press k :: List.replicate g .tick

/-- the keys of a chord going down one after the other: (key, ticks until the next press) -/
def chordHist (kgs : List (Nat × Nat)) : List ZEv := kgs.flatMap (fun kg => pressTicks kg.1 kg.2)

theorem chordHist_cons (kg : Nat × Nat) (r : List (Nat × Nat)) :
    chordHist (kg :: r) = pressTicks kg.1 kg.2 ++ chordHist r := by
  simp [chordHist]

/-! ### The starting state and the invariant -/

/-- Zippychord enabled, no key held, nothing remembered from earlier activations. -/
structure Fresh (s : Zchd) : Prop where
  en : s.enabledState = .enabled
  keys : s.inputKeys = []
  prio : s.prioritized = none
  prior : s.priorActivation = none
  ctd : s.charsToDelete = 0
  tud : s.ticksUntilDisable = 0
  caps : s.capsWord = false

/-- What a forming phase starts from: keys already down, erase count and activation history
accumulated before (all trivial for a chord pressed from a fresh state), and the follow-up map in
force with the prior output count kept for it. -/
structure Phase where
  pre : List Nat
  ctd0 : Int
  prior0 : Option (List ZchOut)
  sh0 : Nat
  prio0 : Option Path
  pc0 : Int

/-- What the completing press needs of the state. -/
structure Ready (ph : Phase) (s0 s : Zchd) (pressed : List Nat) : Prop where
  en : s.enabledState = .enabled
  prio : s.prioritized = ph.prio0
  pc : s.priorActivationOutputCount = ph.pc0
  prior : s.priorActivation = ph.prior0
  sh : s.sameHoldActivationCount = ph.sh0
  keys : s.inputKeys = chordKey (ph.pre ++ pressed)
  ctd : s.charsToDelete = ph.ctd0 + pressed.length
  lsft : s.lsft = s0.lsft
  rsft : s.rsft = s0.rsft
  altgr : s.altgr = s0.altgr
  caps : s.capsWord = false

/-- While a chord is forming: `pressed` keys have gone down in this phase (all typed as they
were), `e` ticks have passed since the deadline (re)started and `c` since the last press. -/
structure Forming (cfg : Cfg) (ph : Phase) (s0 s : Zchd) (pressed : List Nat) (e c : Nat) : Prop
    extends Ready ph s0 s pressed where
  ss : pressed ≠ [] → s.smartSpaceState = .inactive
  tssc : s.ticksSinceStateChange = c
  tud : (cfg.ticksChordDeadline = 0 ∧ s.ticksUntilDisable = 0) ∨
        (e < cfg.ticksChordDeadline ∧ s.ticksUntilDisable = cfg.ticksChordDeadline - e)

theorem Ready.keys_insert {ph : Phase} {s0 s : Zchd} {pressed : List Nat} (h : Ready ph s0 s pressed) (k : Nat) :
    sortedInsert k s.inputKeys = chordKey (ph.pre ++ (pressed ++ [k])) := by
  rw [h.keys, ← List.append_assoc, chordKey_append_single]

theorem Ready.punc_eq {ph : Phase} {s0 s : Zchd} {pressed : List Nat} (h : Ready ph s0 s pressed) (k : Nat) :
    puncOf s k = puncOf s0 k := by
  simp only [puncOf, h.lsft, h.rsft, h.altgr]

/-- the deadline counter right after it has been (re)started -/
theorem deadline_started (d : Nat) : (d = 0 ∧ d = 0) ∨ (0 < d ∧ d = d - 0) :=
  (Nat.eq_zero_or_pos d).imp (fun h => ⟨h, h⟩) (fun h => ⟨h, rfl⟩)

/-- The buffer while forming: one character per pressed key on top of the text before. -/
structure BufForming (b0 b : Buf) (n : Nat) : Prop where
  text : ∃ L : List Ch, L.length = n ∧ b.rtext = L ++ b0.rtext
  lsft : b.lsft = b0.lsft
  rsft : b.rsft = b0.rsft
  ralt : b.ralt = b0.ralt

theorem BufForming.type {b0 b : Buf} {n : Nat} (hb : BufForming b0 b n) {k : Nat}
    (hk : isZippyIgnored k = false) : BufForming b0 (b.step (.down k)) (n + 1) := by
  obtain ⟨_, _, _, hnb, hck⟩ := not_ignored_ne hk
  obtain ⟨⟨L, hL, hrt⟩, h1, h2, h3⟩ := hb
  rw [step_down_char b k hck]
  exact ⟨⟨mkCh k (b.lsft || b.rsft) b.ralt :: L, by simp [hL], by simp [stroke, hnb, hrt]⟩, h1, h2, h3⟩

theorem Forming.ticks {cfg : Cfg} {ph : Phase} {s0 s : Zchd} {pressed : List Nat} {e c : Nat} (g : Nat)
    (h : Forming cfg ph s0 s pressed e c) (hc : c + g ≤ TICKS_UNTIL_FORCE_STATE_RESET)
    (hd : cfg.ticksChordDeadline = 0 ∨ e + g < cfg.ticksChordDeadline) :
    Forming cfg ph s0 (ticksN s g) pressed (e + g) (c + g) := by
  have hr : ∀ a d, Ready ph s0 { s with ticksSinceStateChange := a, ticksUntilDisable := d } pressed :=
    fun _ _ => { h.toReady with }
  rcases h.tud with ⟨hd0, ht0⟩ | ⟨hlt, ht⟩
  · rw [ticks_enabled s g h.en h.caps (h.tssc ▸ hc) (Or.inl ht0)]
    exact ⟨hr _ _, h.ss, congrArg (· + g) h.tssc, Or.inl ⟨hd0, by simp only [ht0, Nat.zero_sub]⟩⟩
  · have hd' := hd.resolve_left (Nat.ne_zero_of_lt hlt)
    rw [ticks_enabled s g h.en h.caps (h.tssc ▸ hc) (Or.inr (by omega))]
    exact ⟨hr _ _, h.ss, congrArg (· + g) h.tssc, Or.inr ⟨hd', by simp only [ht, Nat.sub_sub]⟩⟩

/-- The keys of the chord as far as the presses are concerned. -/
structure ChordKeys (K : Key) : Prop where
  notIgnored : ∀ x ∈ K, isZippyIgnored x = false

/-- A press that leaves the chord incomplete (the lookups answer "subset"). -/
theorem Ready.press {cfg : Cfg} {ph : Phase} {s0 s : Zchd} {pressed : List Nat} {b0 b : Buf}
    (h : Ready ph s0 s pressed) (hb : BufForming b0 b pressed.length)
    (hne : ssmIsEmpty (levelSsm cfg.dict []) = false) (k : Nat) (hign : isZippyIgnored k = false)
    (hss : s.smartSpaceState = .inactive ∨ cfg.punctuation.contains (puncOf s k) = false)
    (hfc : findChordK cfg ph.prio0 (chordKey (ph.pre ++ (pressed ++ [k]))) = .subset) :
    Ready ph s0 (zchPressKey cfg s k).1 (pressed ++ [k]) ∧
    BufForming b0 (b.run (zchPressKey cfg s k).2) (pressed ++ [k]).length ∧
    (zchPressKey cfg s k).1.smartSpaceState = .inactive ∧
    (zchPressKey cfg s k).1.ticksSinceStateChange = 0 ∧
    (zchPressKey cfg s k).1.ticksUntilDisable =
      if s.ticksUntilDisable = 0 then cfg.ticksChordDeadline else s.ticksUntilDisable := by
  rw [press_subset cfg s k hne hign h.en hss (by rw [h.keys_insert, h.prio]; exact hfc)]
  refine ⟨⟨h.en, h.prio, h.pc, h.prior, h.sh, h.keys_insert k, ?_, h.lsft, h.rsft, h.altgr, h.caps⟩, ?_, rfl, rfl, rfl⟩
  · simp only [h.ctd, List.length_append, List.length_singleton, Int.natCast_add, Int.natCast_one,
      Int.add_assoc]
  · rw [List.length_append]
    exact hb.type hign

theorem Forming.press {cfg : Cfg} {ph : Phase} {s0 s : Zchd} {pressed : List Nat} {e c : Nat} {b0 b : Buf}
    (h : Forming cfg ph s0 s pressed e c) (hb : BufForming b0 b pressed.length)
    (hne : ssmIsEmpty (levelSsm cfg.dict []) = false) (k : Nat) (hign : isZippyIgnored k = false)
    (hss : s.smartSpaceState = .inactive ∨ cfg.punctuation.contains (puncOf s k) = false)
    (hfc : findChordK cfg ph.prio0 (chordKey (ph.pre ++ (pressed ++ [k]))) = .subset) :
    Forming cfg ph s0 (zchPressKey cfg s k).1 (pressed ++ [k]) e 0 ∧
    BufForming b0 (b.run (zchPressKey cfg s k).2) (pressed ++ [k]).length := by
  obtain ⟨hr, hb', hs, hc, ht⟩ := h.toReady.press hb hne k hign hss hfc
  refine ⟨⟨hr, fun _ => hs, hc, ?_⟩, hb'⟩
  rw [ht]
  rcases h.tud with ⟨hd0, ht0⟩ | ⟨hlt, ht'⟩
  · exact Or.inl ⟨hd0, by rw [if_pos ht0, hd0]⟩
  · exact Or.inr ⟨hlt, by rw [if_neg (ht' ▸ Nat.sub_ne_zero_of_lt hlt), ht']⟩

/-- Nothing held, no deadline running: a chord can start (from the initial state, after a chord
without follow-ups was released, or — with a follow-up map in force — after a chord of a chain was
released). -/
structure Idle (s : Zchd) : Prop where
  en : s.enabledState = .enabled
  keys : s.inputKeys = []
  ctd : s.charsToDelete = 0
  tud : s.ticksUntilDisable = 0
  caps : s.capsWord = false

/-- the phase of a chord pressed from an idle state -/
def idlePhase (s : Zchd) : Phase :=
  ⟨[], 0, s.priorActivation, s.sameHoldActivationCount, s.prioritized, s.priorActivationOutputCount⟩

theorem Idle.ready {s : Zchd} (h : Idle s) : Ready (idlePhase s) s s [] :=
  ⟨h.en, rfl, rfl, rfl, rfl, h.keys, by simp [h.ctd, idlePhase], rfl, rfl, rfl, h.caps⟩

/-- The first press, from an idle state. -/
theorem Idle.press {cfg : Cfg} {s : Zchd} {b : Buf}
    (h : Idle s) (hne : ssmIsEmpty (levelSsm cfg.dict []) = false) (k : Nat)
    (hign : isZippyIgnored k = false)
    (hss : s.smartSpaceState = .inactive ∨ cfg.punctuation.contains (puncOf s k) = false)
    (hfc : findChordK cfg s.prioritized (chordKey [k]) = .subset) :
    Forming cfg (idlePhase s) s (zchPressKey cfg s k).1 [k] 0 0 ∧
    BufForming b (b.run (zchPressKey cfg s k).2) 1 := by
  obtain ⟨hr, hb', hs, hc, ht⟩ := h.ready.press (b0 := b) ⟨⟨[], rfl, rfl⟩, rfl, rfl, rfl⟩ hne k hign hss hfc
  refine ⟨⟨hr, fun _ => hs, hc, ?_⟩, hb'⟩
  rw [ht, if_pos h.tud]
  exact deadline_started _

theorem zRun_pressTicks (cfg : Cfg) (s : Zchd) (k g : Nat) :
    zRun cfg s (pressTicks k g) = (ticksN (zchPressKey cfg s k).1 g, (zchPressKey cfg s k).2) := by
  simp [pressTicks, zRun, zStep, zRun_ticks]

/-- All presses but the last one, each followed by its ticks: as long as every key set reached on
the way is a proper part of some chord (the lookups answer "subset"), each press types its key and
the invariant is kept. -/
theorem forming_rest {cfg : Cfg} {ph : Phase} {s0 : Zchd} {b0 : Buf}
    (hne : ssmIsEmpty (levelSsm cfg.dict []) = false) (rest : List (Nat × Nat)) :
    ∀ (s : Zchd) (b : Buf) (pressed : List Nat) (e c : Nat),
      Forming cfg ph s0 s pressed e c → BufForming b0 b pressed.length →
      (∀ kg ∈ rest, isZippyIgnored kg.1 = false) →
      (pressed = [] → (s.smartSpaceState = .inactive ∨
        ∀ kg ∈ rest, cfg.punctuation.contains (puncOf s0 kg.1) = false)) →
      (∀ ks, ks ≠ [] → ks <+: rest.map (·.1) →
        findChordK cfg ph.prio0 (chordKey (ph.pre ++ (pressed ++ ks))) = .subset) →
      (∀ kg ∈ rest, kg.2 ≤ TICKS_UNTIL_FORCE_STATE_RESET) →
      (cfg.ticksChordDeadline = 0 ∨ e + (rest.map (·.2)).sum < cfg.ticksChordDeadline) →
      ∃ e' c', Forming cfg ph s0 (zRun cfg s (chordHist rest)).1 (pressed ++ rest.map (·.1)) e' c' ∧
        BufForming b0 (b.run (zRun cfg s (chordHist rest)).2) (pressed ++ rest.map (·.1)).length := by
  induction rest with
  | nil =>
    intro s b pressed e c h hb _ _ _ _ _
    exact ⟨e, c, by simpa [chordHist, zRun] using h, by simpa [chordHist, zRun, run_nil] using hb⟩
  | cons kg r ih =>
    intro s b pressed e c h hb hign hpunc hlk hg hd
    obtain ⟨k, g⟩ := kg
    simp only [List.map_cons, List.sum_cons] at hlk hd
    have hss : s.smartSpaceState = .inactive ∨ cfg.punctuation.contains (puncOf s k) = false := by
      by_cases hp : pressed = []
      · rcases hpunc hp with h1 | h1
        · exact Or.inl h1
        · exact Or.inr (by rw [h.punc_eq]; exact h1 (k, g) (List.mem_cons_self ..))
      · exact Or.inl (h.ss hp)
    obtain ⟨hf1, hb1⟩ := h.press hb hne k (hign (k, g) (List.mem_cons_self ..)) hss
      (hlk [k] (by simp) (by simp))
    have hgk : g ≤ TICKS_UNTIL_FORCE_STATE_RESET := hg (k, g) (List.mem_cons_self ..)
    have hf2 := hf1.ticks g (by rw [Nat.zero_add]; exact hgk)
      (hd.imp_right fun h1 => Nat.lt_of_le_of_lt (Nat.add_le_add_left (Nat.le_add_right g _) e) h1)
    rw [chordHist_cons, zRun_append, zRun_pressTicks]
    simp only [run_append]
    have := ih (ticksN (zchPressKey cfg s k).1 g) (b.run (zchPressKey cfg s k).2) (pressed ++ [k]) (e + g) (0 + g)
      hf2 hb1
      (fun kg hkg => hign kg (List.mem_cons_of_mem _ hkg))
      (by intro hp; simp at hp)
      (by
        intro ks hks hpre
        have := hlk (k :: ks) (by simp) (by simpa using hpre)
        simpa [List.append_assoc] using this)
      (fun kg hkg => hg kg (List.mem_cons_of_mem _ hkg))
      (hd.imp_right fun h1 => by rwa [Nat.add_assoc])
    simpa [List.append_assoc] using this

/-- The smart space an activation appends. -/
def withSmartSpace (cfg : Cfg) (out : List ZchOut) (rt : List Ch) : List Ch :=
  if wantsSmartSpace cfg out then stroke rt KEY_SPACE false false else rt

/-- the common-prefix length the completing press of a phase uses -/
def phaseCpl (ph : Phase) (out : List ZchOut) (isPrio : Bool) : Nat :=
  if isPrio = false ∧ ph.sh0 = 0 then 0 else match ph.prior0 with
    | some prior => commonPrefixLen prior out
    | none => 0

/-- the number of backspaces the completing press of a phase sends -/
def phaseBs (ph : Phase) (n : Nat) (out : List ZchOut) (isPrio : Bool) : Nat :=
  (ph.ctd0 + n + (if isPrio then ph.pc0 else 0) - (phaseCpl ph out isPrio : Int)).toNat

theorem actCpl_phase {cfg : Cfg} {ph : Phase} {s0 s : Zchd} {pressed : List Nat} (hr : Ready ph s0 s pressed)
    (k : Nat) (out : List ZchOut) (isPrio : Bool) :
    actCpl (preLookup cfg s k) out isPrio = phaseCpl ph out isPrio := by
  unfold actCpl phaseCpl
  cases isPrio
  · by_cases h0 : ph.sh0 = 0
    · simp [preLookup, hr.sh, h0]
    · simp only [preLookup, hr.prior, hr.sh, h0, Bool.not_false, Bool.true_and, decide_false,
        Bool.false_eq_true, if_false, and_false]
      cases ph.prior0 <;> rfl
  · simp only [preLookup, hr.prior, Bool.not_true, Bool.false_and, Bool.false_eq_true, if_false]
    cases ph.prior0 <;> rfl

/-- the phase that starts after a chord has been activated and is still held -/
def postPhase (ph : Phase) (cfg : Cfg) (keys : List Nat) (out : List ZchOut) (ctx : Path) : Phase :=
  ⟨keys, displayLen out + (if wantsSmartSpace cfg out then 1 else 0), some out, ph.sh0 + 1,
   if hasFollowups cfg.dict (ctx ++ [chordKey keys]) then some (ctx ++ [chordKey keys]) else none,
   displayLen out + (if wantsSmartSpace cfg out then 1 else 0)⟩

/-- What a chord run (all presses of one phase, the last one completing the chord) leaves: the
state `s` and the buffer `b`, from the buffer `base` before the first of its `n + 1` presses. -/
structure RunResult (cfg : Cfg) (ph : Phase) (s0 : Zchd) (base : Buf) (n : Nat) (keys : List Nat)
    (out : List ZchOut) (ctx : Path) (isPrio : Bool) (s : Zchd) (b : Buf) : Prop where
  /-- `n` characters were typed on the way; then the backspaces, the rest of the expansion, the smart space -/
  text : ∃ L : List Ch, L.length = n ∧
    b.rtext = withSmartSpace cfg out
      (typeOuts ((L ++ base.rtext).drop (phaseBs ph n out isPrio))
        ((s0.lsft || s0.rsft) && decide (phaseCpl ph out isPrio = 0)) (out.drop (phaseCpl ph out isPrio)))
  mods : ModsAgree s0 b
  chord : s.lastPress = .isChord
  held : s.inputKeys = chordKey (ph.pre ++ keys)
  /-- ready for further keys of a longer chord (the deadline has restarted), or for the release -/
  post : Forming cfg (postPhase ph cfg (ph.pre ++ keys) out ctx) s0 s [] 0 0
  ss : s.smartSpaceState = (if wantsSmartSpace cfg out = true ∧ cfg.smartSpace = .full then .sent else .inactive)

/-- The completing press: the erase count (plus, for a follow-up, the prior output count) minus the
shared prefix is sent as backspaces, the rest of the expansion is typed — its first keystroke under
the user's shift when it is the first character of the expansion — the smart space is added, and
the modifiers are as they were. -/
theorem Ready.finish {cfg : Cfg} {ph : Phase} {s0 s : Zchd} {b0 b : Buf} {out : List ZchOut}
    {pressed : List Nat} (hr : Ready ph s0 s pressed) (hb : BufForming b0 b pressed.length)
    (hm0 : ModsAgree s0 b0) (hne : ssmIsEmpty (levelSsm cfg.dict []) = false) (last : Nat)
    (hign : isZippyIgnored last = false) (ctx : Path) (isPrio : Bool)
    (hfc : (findChordK cfg ph.prio0 (chordKey (ph.pre ++ (pressed ++ [last])))).act = some (ctx, out, isPrio))
    (hss : s.smartSpaceState = .inactive ∨ cfg.punctuation.contains (puncOf s last) = false)
    (hout : out.isEmpty = false) (hko : ∀ o ∈ out, CharKey o.osc) :
    RunResult cfg ph s0 b0 pressed.length (pressed ++ [last]) out ctx isPrio
      (zchPressKey cfg s last).1 (b.run (zchPressKey cfg s last).2) := by
  have hkey := hr.keys_insert last
  rw [press_found cfg s last out ctx isPrio hne hign hr.en hss (by rw [hkey, hr.prio]; exact hfc)]
  have hm : ModsAgree (preLookup cfg s last) b :=
    ⟨(hb.lsft.trans hm0.1).trans hr.lsft.symm, (hb.rsft.trans hm0.2.1).trans hr.rsft.symm,
      (hb.ralt.trans hm0.2.2).trans hr.altgr.symm⟩
  obtain ⟨hmods, htext⟩ := run_activate cfg (preLookup cfg s last) last out ctx isPrio b hout hko hm
  have hcpl := actCpl_phase (cfg := cfg) hr last out isPrio
  have hbs : actBs (preLookup cfg s last) out isPrio = phaseBs ph pressed.length out isPrio := by
    unfold actBs phaseBs
    rw [hcpl]
    simp only [preLookup, hr.ctd, hr.pc]
  have hact := activate_of_ne cfg (preLookup cfg s last) last out ctx isPrio hout
  obtain ⟨L, hL, hrt⟩ := hb.text
  refine ⟨⟨L, hL, ?_⟩, ⟨hmods.1.trans hr.lsft, hmods.2.1.trans hr.rsft, hmods.2.2.trans hr.altgr⟩, ?_, ?_, ?_, ?_⟩
  · rw [htext hr.caps, hcpl, hbs, withSmartSpace, hrt]
    simp only [preLookup, hr.lsft, hr.rsft]
  · rw [hact]
  · rw [hact]; exact hkey
  · rw [hact]
    refine ⟨⟨hr.en, ?_, rfl, rfl, congrArg (· + 1) hr.sh, ?_, (Int.add_zero _).symm, hr.lsft, hr.rsft, hr.altgr,
      hr.caps⟩, fun h => absurd rfl h, rfl, deadline_started _⟩
    · simp only [preLookup, hkey, postPhase]
    · simp only [preLookup, hkey, postPhase, List.append_nil]
  · rw [hact]; rfl

theorem RunResult.base_state {cfg : Cfg} {ph : Phase} {s0 s0' s : Zchd} {base b : Buf} {n : Nat} {keys : List Nat}
    {out : List ZchOut} {ctx : Path} {isPrio : Bool} (h : RunResult cfg ph s0 base n keys out ctx isPrio s b)
    (hf : flagsOf s0 = flagsOf s0') : RunResult cfg ph s0' base n keys out ctx isPrio s b := by
  obtain ⟨hl, hr, ha⟩ : s0.lsft = s0'.lsft ∧ s0.rsft = s0'.rsft ∧ s0.altgr = s0'.altgr := by
    simpa only [flagsOf, Prod.mk.injEq] using hf
  obtain ⟨ht, hm, hc, hh, hp, hs⟩ := h
  exact ⟨by rw [← hl, ← hr]; exact ht, ⟨hm.1.trans hl, hm.2.1.trans hr, hm.2.2.trans ha⟩, hc, hh,
    { hp with lsft := hp.lsft.trans hl, rsft := hp.rsft.trans hr, altgr := hp.altgr.trans ha }, hs⟩

end KVerif.Zippy
