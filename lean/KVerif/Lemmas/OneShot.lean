/-
C06 helper lemmas: `OneShotState` (`tick_osh`, `handle_press`, `handle_release`) case by case.
-/
import KVerif.Lemmas.LayeredTick
namespace KVerif.C06
open KVerif.L

abbrev StOK := C04.StOK

def isPressEnd : OneShotEnd → Bool
  | .firstPress | .firstPressOrRepress => true
  | _ => false

def isRepressEnd : OneShotEnd → Bool
  | .firstPressOrRepress | .firstReleaseOrRepress => true
  | _ => false

/-- the state `tick_osh` leaves behind when it fires -/
def OneShotState.cleared (o : OneShotState) : OneShotState :=
  { o with releaseOnNextTick := false, timeout := 0, pauseInputProcessingTicks := 0,
           ticksToIgnoreEvents := 0, keys := [], otherPressedKeys := [], releasedKeys := [] }

theorem isEmpty_false_of_ne {α} {l : List α} (h : l ≠ []) : l.isEmpty = false := by
  cases l with
  | nil => exact absurd rfl h
  | cons _ _ => rfl

/-- the end variants as `handle_press` and `handle_release` test them -/
theorem isPressEnd_eq (v : OneShotEnd) : (v == .firstPress || v == .firstPressOrRepress) = isPressEnd v := by
  cases v <;> rfl

theorem isRepressEnd_eq (v : OneShotEnd) :
    (v == .firstReleaseOrRepress || v == .firstPressOrRepress) = isRepressEnd v := by
  cases v <;> rfl

theorem not_isPressEnd_eq (v : OneShotEnd) :
    (v == .firstRelease || v == .firstReleaseOrRepress) = !isPressEnd v := by
  cases v <;> rfl

/-! ### `tick_osh` -/

theorem tick_inactive (o : OneShotState) (h : o.keys = []) : o.tick = (o, none) := by
  simp [OneShotState.tick, h]

/-- `tick_osh` fires exactly when a release was requested or the countdown reaches zero; it then
hands back *all* deferred releases and forgets every active key -/
theorem tick_fires (o : OneShotState) (hk : o.keys ≠ [])
    (h : o.releaseOnNextTick = true ∨ o.timeout ≤ 1) :
    o.tick = (OneShotState.cleared o, some o.releasedKeys) := by
  have hc : (o.releaseOnNextTick || (o.timeout - 1 == 0)) = true := by
    rcases h with h | h
    · rw [h, Bool.true_or]
    · simp only [Nat.sub_eq_zero_of_le h, beq_self_eq_true, Bool.or_true]
  unfold OneShotState.tick
  rw [if_neg (by simp [isEmpty_false_of_ne hk])]
  exact if_pos hc

theorem tick_waits (o : OneShotState) (hk : o.keys ≠ []) (h1 : o.releaseOnNextTick = false)
    (h2 : 2 ≤ o.timeout) :
    o.tick = ({ o with ticksToIgnoreEvents := o.ticksToIgnoreEvents - 1, timeout := o.timeout - 1 }, none) := by
  have hc : ¬ (o.releaseOnNextTick || (o.timeout - 1 == 0)) = true := by
    rw [h1, Bool.false_or, beq_iff_eq]; omega
  unfold OneShotState.tick
  rw [if_neg (by simp [isEmpty_false_of_ne hk])]
  exact if_neg hc

/-! ### `handle_press` -/

theorem handlePress_inactive (o : OneShotState) (k : OshKey) (h : o.keys = []) :
    o.handlePress k = (o, []) := by
  simp [OneShotState.handlePress, h]

theorem handlePress_guard {o : OneShotState} (hk : o.keys ≠ []) (hi : o.ticksToIgnoreEvents = 0) :
    ¬ (o.keys.isEmpty || decide (o.ticksToIgnoreEvents > 0)) = true := by
  simp [isEmpty_false_of_ne hk, hi]

theorem handlePress_other (o : OneShotState) (c : Coord) :
    o.handlePress (.other c) =
      if o.keys.isEmpty || o.ticksToIgnoreEvents > 0 then (o, [])
      else if isPressEnd o.endConfig then
        ({ o with timeout := min o.pauseInputProcessingDelay o.timeout,
                  pauseInputProcessingTicks := o.pauseInputProcessingDelay }, o.keys)
      else ({ o with otherPressedKeys := (pushBackWrap ONE_SHOT_MAX_ACTIVE o.otherPressedKeys c).1 }, o.keys) := by
  rw [← isPressEnd_eq]
  rfl

/-- press variants: another key's press caps the countdown at the rapid-event delay and pauses
input processing for the same number of ticks -/
theorem handlePress_other_pressEnd (o : OneShotState) (c : Coord) (hk : o.keys ≠ [])
    (hi : o.ticksToIgnoreEvents = 0) (he : isPressEnd o.endConfig = true) :
    o.handlePress (.other c) =
      ({ o with timeout := min o.pauseInputProcessingDelay o.timeout,
                pauseInputProcessingTicks := o.pauseInputProcessingDelay }, o.keys) := by
  rw [handlePress_other, if_neg (handlePress_guard hk hi), if_pos he]

/-- release variants: another key's press is only remembered -/
theorem handlePress_other_releaseEnd (o : OneShotState) (c : Coord) (hk : o.keys ≠ [])
    (hi : o.ticksToIgnoreEvents = 0) (he : isPressEnd o.endConfig = false) :
    o.handlePress (.other c) =
      ({ o with otherPressedKeys := (pushBackWrap ONE_SHOT_MAX_ACTIVE o.otherPressedKeys c).1 }, o.keys) := by
  rw [handlePress_other, if_neg (handlePress_guard hk hi), if_neg (by rw [he]; exact Bool.false_ne_true)]

/-- `handle_press(OneShotKey)`: the key's own deferred release is withdrawn; in the pcancel variants
pressing an *active* key again requests the release -/
theorem handlePress_oneShotKey_fst (o : OneShotState) (c : Coord) :
    (o.handlePress (.oneShotKey c)).1 =
      if o.keys.isEmpty || o.ticksToIgnoreEvents > 0 then o
      else { o with releaseOnNextTick := o.releaseOnNextTick || (isRepressEnd o.endConfig && o.keys.contains c),
                    releasedKeys := o.releasedKeys.filter (· != c) } := by
  unfold OneShotState.handlePress
  split
  · rfl
  · simp only [isRepressEnd_eq]
    cases isRepressEnd o.endConfig && o.keys.contains c
    · simp only [Bool.false_eq_true, if_false, Bool.or_false]
    · simp only [if_true, Bool.or_true]

theorem handlePress_oneShotKey (o : OneShotState) (c : Coord) (hk : o.keys ≠ [])
    (hi : o.ticksToIgnoreEvents = 0) :
    (o.handlePress (.oneShotKey c)).1 =
      { o with releaseOnNextTick := o.releaseOnNextTick || (isRepressEnd o.endConfig && o.keys.contains c),
               releasedKeys := o.releasedKeys.filter (· != c) } := by
  rw [handlePress_oneShotKey_fst, if_neg (handlePress_guard hk hi)]

/-! ### `handle_release` -/

theorem handleRelease_inactive (o : OneShotState) (c : Coord) (h : o.keys = []) :
    o.handleRelease c = (o, true, none) := by
  simp [OneShotState.handleRelease, h]

/-- the release of an active one-shot key is deferred: remembered, not applied -/
theorem handleRelease_active (o : OneShotState) (c : Coord) (h : o.keys.contains c = true) :
    o.handleRelease c =
      ({ o with releasedKeys := (pushBackWrap ONE_SHOT_MAX_ACTIVE o.releasedKeys c).1 }, false,
       (pushBackWrap ONE_SHOT_MAX_ACTIVE o.releasedKeys c).2) := by
  have hk : o.keys ≠ [] := by intro h0; rw [h0] at h; cases h
  unfold OneShotState.handleRelease
  rw [if_neg (by simp [isEmpty_false_of_ne hk]), if_neg (by rw [h]; decide)]

/-- the release of any other key is applied normally; in the release variants it requests the
release of the one-shot keys iff that key was pressed since the activation -/
theorem handleRelease_other (o : OneShotState) (c : Coord) (hk : o.keys ≠ [])
    (h : o.keys.contains c = false) :
    o.handleRelease c =
      ({ o with releaseOnNextTick := o.releaseOnNextTick ||
                  (!isPressEnd o.endConfig && o.otherPressedKeys.contains c) }, true, none) := by
  unfold OneShotState.handleRelease
  rw [if_neg (by simp [isEmpty_false_of_ne hk]), if_pos (by rw [h]; rfl), not_isPressEnd_eq]
  cases !isPressEnd o.endConfig && o.otherPressedKeys.contains c
  · simp only [Bool.false_eq_true, if_false, Bool.or_false]
  · simp only [if_true, Bool.or_true]

end KVerif.C06
