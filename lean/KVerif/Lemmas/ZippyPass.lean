/-
Lemmas for `zippy_passthrough`: as long as the keys the user holds never include all keys of a
top-level chord, no lookup can answer `HasValue`, no follow-up map and no smart space can arise, and
every press / release is written to the OS unchanged.
-/
import KVerif.Lemmas.ZippyMods
namespace KVerif.Zippy
open KVerif.TextBuf

/-- The keys the user holds never complete a top-level chord. -/
def NoChordPossible (d : Dict) : List Nat → List ZEv → Prop
  | _, [] => True
  | held, .press k :: r =>
    (∀ kv ∈ level d [], kv.1 ≠ [] → ¬ (∀ x ∈ kv.1, x ∈ k :: held)) ∧ NoChordPossible d (k :: held) r
  | held, .release k :: r => NoChordPossible d (held.filter (· ≠ k)) r
  | held, .tick :: r => NoChordPossible d held r

/-- the user's events as OS events -/
def asOs : List ZEv → List OsEv
  | [] => []
  | .press k :: r => .down k :: asOs r
  | .release k :: r => .up k :: asOs r
  | .tick :: r => asOs r

/-- What is known of the state as long as no chord ever fired. -/
structure Quiet (s : Zchd) (held : List Nat) : Prop where
  prio : s.prioritized = none
  ss : s.smartSpaceState = .inactive
  keys : ∀ x ∈ s.inputKeys, x ∈ held
  nign : ∀ x ∈ s.inputKeys, isZippyIgnored x = false

theorem Quiet.softReset {s : Zchd} {held : List Nat} : Quiet s.softReset held :=
  ⟨rfl, rfl, by simp [Zchd.softReset, Zchd.clearHistory], by simp [Zchd.softReset, Zchd.clearHistory]⟩

theorem Quiet.reset {s : Zchd} {held : List Nat} : Quiet s.reset held :=
  ⟨rfl, rfl, by simp [Zchd.reset, Zchd.softReset, Zchd.clearHistory],
    by simp [Zchd.reset, Zchd.softReset, Zchd.clearHistory]⟩

/-- A key zippychord ignores is passed on, and at most a modifier flag changes. -/
theorem press_ignored (cfg : Cfg) (s : Zchd) {k : Nat}
    (hne : ssmIsEmpty (levelSsm cfg.dict []) = false) (hk : isZippyIgnored k = true) :
    ∃ l r a, zchPressKey cfg s k = ({ s with lsft := l, rsft := r, altgr := a }, [.down k]) := by
  rcases tracked_cases k with rfl | rfl | rfl | h
  · exact ⟨true, s.rsft, s.altgr, zchPressKey_lsft s hne⟩
  · exact ⟨s.lsft, true, s.altgr, zchPressKey_rsft s hne⟩
  · exact ⟨s.lsft, s.rsft, true, zchPressKey_ralt s hne⟩
  · exact ⟨s.lsft, s.rsft, s.altgr, zchPressKey_ignored s h.1 h.2.1 h.2.2 hk⟩

theorem release_ignored (cfg : Cfg) (s : Zchd) {k : Nat}
    (hne : ssmIsEmpty (levelSsm cfg.dict []) = false) (hk : isZippyIgnored k = true) :
    ∃ l r a, zchReleaseKey cfg s k = ({ s with lsft := l, rsft := r, altgr := a }, [.up k]) := by
  rcases tracked_cases k with rfl | rfl | rfl | h
  · exact ⟨false, s.rsft, s.altgr, zchReleaseKey_lsft s hne⟩
  · exact ⟨s.lsft, false, s.altgr, zchReleaseKey_rsft s hne⟩
  · exact ⟨s.lsft, s.rsft, false, zchReleaseKey_ralt s hne⟩
  · exact ⟨s.lsft, s.rsft, s.altgr, by rw [zchReleaseKey_other s h.1 h.2.1 h.2.2 hne, if_pos hk]⟩

/-- While zippychord is not enabled a key is passed on. -/
theorem press_not_enabled (cfg : Cfg) (s : Zchd) (k : Nat)
    (hne : ssmIsEmpty (levelSsm cfg.dict []) = false) (hk : isZippyIgnored k = false)
    (hen : s.enabledState ≠ .enabled)
    (hss : s.smartSpaceState = .inactive ∨ cfg.punctuation.contains (puncOf s k) = false) :
    zchPressKey cfg s k = ({ s with smartSpaceState := .inactive }, [.down k]) := by
  rw [press_char cfg s k hne hk, punctStage_none cfg s k hss, if_pos hen]
  rfl

theorem Quiet.flags {s : Zchd} {held : List Nat} (h : Quiet s held) (l r a : Bool) :
    Quiet { s with lsft := l, rsft := r, altgr := a } held := ⟨h.prio, h.ss, h.keys, h.nign⟩

theorem quiet_press {cfg : Cfg} {s : Zchd} {held : List Nat} (k : Nat) (h : Quiet s held)
    (hne : ssmIsEmpty (levelSsm cfg.dict []) = false)
    (hno : ∀ kv ∈ level cfg.dict [], kv.1 ≠ [] → ¬ (∀ x ∈ kv.1, x ∈ k :: held)) :
    (zchPressKey cfg s k).2 = [.down k] ∧ Quiet (zchPressKey cfg s k).1 (k :: held) := by
  have hq : Quiet s (k :: held) := ⟨h.prio, h.ss, fun x hx => List.mem_cons_of_mem _ (h.keys x hx), h.nign⟩
  cases hign : isZippyIgnored k
  case true =>
    obtain ⟨l, r, a, he⟩ := press_ignored cfg s hne hign
    rw [he]
    exact ⟨rfl, hq.flags l r a⟩
  by_cases hen : s.enabledState = .enabled
  case neg =>
    rw [press_not_enabled cfg s k hne hign hen (Or.inl h.ss)]
    exact ⟨rfl, hq.prio, rfl, hq.keys, hq.nign⟩
  -- enabled: the held keys with `k` among them
  have hkeys : ∀ x ∈ sortedInsert k s.inputKeys, x ∈ k :: held := by
    intro x hx
    rcases (mem_sortedInsert k x _).mp hx with rfl | hx
    · exact List.mem_cons_self ..
    · exact hq.keys x hx
  have hnign : ∀ x ∈ sortedInsert k s.inputKeys, isZippyIgnored x = false := by
    intro x hx
    rcases (mem_sortedInsert k x _).mp hx with rfl | hx
    · exact hign
    · exact h.nign x hx
  rw [press_enabled cfg s k hne hign hen (Or.inl h.ss), pressLookup, findChord_top cfg (preLookup cfg s k) h.prio]
  cases hl : lookupLevel cfg.dict [] (preLookup cfg s k).inputKeys with
  | hasValue a =>
    -- a chord found would have all its keys held
    obtain ⟨hmem, hne'⟩ := lookupLevel_hasValue hl
    exact absurd hkeys (hno _ hmem hne')
  | isSubset => exact ⟨rfl, h.prio, rfl, hkeys, hnign⟩
  | neither => exact ⟨rfl, Quiet.softReset⟩

theorem quiet_release {cfg : Cfg} {s : Zchd} {held : List Nat} (k : Nat) (h : Quiet s held)
    (hne : ssmIsEmpty (levelSsm cfg.dict []) = false) :
    (zchReleaseKey cfg s k).2 = [.up k] ∧ Quiet (zchReleaseKey cfg s k).1 (held.filter (· ≠ k)) := by
  cases hign : isZippyIgnored k
  case true =>
    obtain ⟨l, r, a, he⟩ := release_ignored cfg s hne hign
    rw [he]
    refine ⟨rfl, h.prio, h.ss, fun x hx => ?_, h.nign⟩
    -- an ignored key is not among the input keys
    have hxk : x ≠ k := fun e => by have := h.nign x hx; rw [e, hign] at this; cases this
    simp [h.keys x hx, hxk]
  have hkeys : ∀ x ∈ s.inputKeys.filter (fun x => x ≠ k), x ∈ held.filter (· ≠ k) := by
    intro x hx
    simp only [List.mem_filter, decide_eq_true_eq] at hx ⊢
    exact ⟨h.keys x hx.1, hx.2⟩
  have hnign : ∀ x ∈ s.inputKeys.filter (fun x => x ≠ k), isZippyIgnored x = false :=
    fun x hx => h.nign x (List.mem_filter.mp hx).1
  rw [release_not_ignored cfg s k hne hign]
  refine ⟨rfl, ?_⟩
  unfold Zchd.releaseKey Zchd.stateChange
  simp only [h.prio, Option.isNone_none, if_true]
  split
  · exact ⟨rfl, h.ss, hkeys, hnign⟩
  · exact Quiet.softReset
  · exact ⟨rfl, h.ss, hkeys, hnign⟩
  · exact ⟨rfl, h.ss, hkeys, hnign⟩

theorem quiet_tickCore {s : Zchd} {held : List Nat} (h : Quiet s held) : Quiet s.tickCore held := by
  unfold Zchd.tickCore
  split
  · simp only
    split
    · exact ⟨h.prio, h.ss, h.keys, h.nign⟩
    · exact ⟨h.prio, h.ss, h.keys, h.nign⟩
  · split
    · simp only
      split
      · exact Quiet.softReset
      · exact ⟨h.prio, h.ss, h.keys, h.nign⟩
    · exact h
  · exact h

theorem quiet_tick {s : Zchd} {held : List Nat} (c : Bool) (h : Quiet s held) : Quiet (s.tick c) held := by
  unfold Zchd.tick
  simp only
  have h1 : Quiet { s with ticksSinceStateChange := s.ticksSinceStateChange + 1, capsWord := c } held :=
    ⟨h.prio, h.ss, h.keys, h.nign⟩
  split
  · exact Quiet.reset
  · exact quiet_tickCore h1

/-- Without a dictionary everything is passed on. -/
theorem zRun_empty_dict (cfg : Cfg) (he : ssmIsEmpty (levelSsm cfg.dict []) = true) (s : Zchd) (h : List ZEv) :
    (zRun cfg s h).2 = asOs h := by
  induction h generalizing s with
  | nil => rfl
  | cons e r ih =>
    cases e with
    | press k => simp [zRun, zStep, zchPressKey, he, asOs, ih]
    | release k => simp [zRun, zStep, zchReleaseKey, he, asOs, ih]
    | tick => simp [zRun, zStep, asOs, ih]

theorem zRun_quiet (cfg : Cfg) (hne : ssmIsEmpty (levelSsm cfg.dict []) = false) (h : List ZEv) :
    ∀ (s : Zchd) (held : List Nat), Quiet s held → NoChordPossible cfg.dict held h →
      (zRun cfg s h).2 = asOs h := by
  induction h with
  | nil => intro s held _ _; rfl
  | cons e r ih =>
    intro s held hq hnc
    cases e with
    | press k =>
      obtain ⟨hno, hrest⟩ := hnc
      obtain ⟨hev, hq'⟩ := quiet_press (cfg := cfg) k hq hne hno
      simp only [zRun, zStep, asOs, hev, ih _ _ hq' hrest, List.singleton_append]
    | release k =>
      obtain ⟨hev, hq'⟩ := quiet_release (cfg := cfg) k hq hne
      simp only [zRun, zStep, asOs, hev, ih _ _ hq' hnc, List.singleton_append]
    | tick =>
      simp only [zRun, zStep, asOs, zchTick, List.nil_append]
      exact ih _ _ (quiet_tick false hq) hnc

end KVerif.Zippy
