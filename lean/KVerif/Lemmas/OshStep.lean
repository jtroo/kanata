/-
The second stage of `tick`, the one-shot countdown, for any key states none of which is flagged
clear-on-next-release (`Unflagged`): a release by coordinate is then a filter, so a release taken from
the queue, the loop over the deferred releases and the stage itself have closed forms, whatever else the
states are; the custom event is `.noEvent` if no state is a `.custom` one (`Uncustom`).  `OshStep` lists
the three things the stage can do; an invariant is carried through it by `OshStep.frame`, `.ticks`,
`.idle` and `.deferred`, without a case split of its own.
-/
import KVerif.Lemmas.OneShotRun
import KVerif.Lemmas.TickStages
namespace KVerif.C04
open KVerif.L

theorem still_of_stok {sts : List St} (h : ∀ st ∈ sts, StOK st) : Still sts := fun st hst => by
  have := h st hst
  cases st <;> first | exact ⟨rfl, rfl, rfl⟩ | exact this.elim | (rcases this with rfl | rfl <;> exact ⟨rfl, rfl, rfl⟩)

theorem uncustom_of_stok {sts : List St} (h : ∀ st ∈ sts, StOK st) : Uncustom sts := fun st hst => by
  have := h st hst
  cases st <;> first | rfl | exact this.elim

end KVerif.C04

namespace KVerif.C06
open KVerif.L

/-! ## releases -/

/-- **a release taken from the queue** -/
theorem dequeue_release_filter {s : Layout} (hs : Unflagged s.states) (c : Coord) (since : Nat) :
    ∃ cu, dequeue FUEL s ⟨.release c, since⟩ =
      .ok ({ s with oneshot := (s.oneshot.handleRelease c).1,
                    states := afterRelease s.states c (s.oneshot.handleRelease c).2.1 (s.oneshot.handleRelease c).2.2 },
           cu) ∧ (Uncustom s.states → cu = .noEvent) := by
  rw [FUEL_succ]
  simp only [dequeue]
  generalize s.oneshot.handleRelease c = r
  obtain ⟨o, dr, ov⟩ := r
  simp only [afterRelease]
  cases dr <;> cases ov
  · exact ⟨.noEvent, rfl, fun _ => rfl⟩
  · rename_i c2
    obtain ⟨cu', e, n⟩ := releaseStates_filter false c2 s.states .noEvent hs
    simp only [Bool.false_eq_true, if_false, e]
    exact ⟨cu', rfl, n⟩
  · obtain ⟨cu', e, n⟩ := releaseStates_filter true c s.states .noEvent hs
    simp only [if_true, e]
    exact ⟨cu', rfl, n⟩
  · rename_i c2
    obtain ⟨cu', e, n⟩ := releaseStates_filter true c s.states .noEvent hs
    obtain ⟨cu'', e2, n2⟩ := releaseStates_filter false c2 (s.states.filter (fun st => st.coord != some c)) cu' (hs.filter _)
    simp only [if_true, e, e2]
    exact ⟨cu'', rfl, fun hc => (n2 (hc.filter _)).trans (n hc)⟩

/-- the loop of `tick` over the deferred releases, once `tick_osh` has cleared the active keys -/
theorem releaseOneshotKeys_filter : ∀ (ks : List Coord) (s : Layout) (cu : CustomEv), Unflagged s.states →
    s.oneshot.keys = [] →
    ∃ cu', releaseOneshotKeys ks s cu = .ok ({ s with states := dropCoords ks s.states }, cu') ∧
      (Uncustom s.states → cu' = cu) := by
  intro ks
  induction ks with
  | nil => intro s cu _ _; exact ⟨cu, by simp only [releaseOneshotKeys, dropCoords_nil], fun _ => rfl⟩
  | cons k rest ih =>
    intro s cu hs hk
    obtain ⟨c1, e1, n1⟩ := dequeue_release_filter hs k 0
    rw [handleRelease_inactive _ k hk] at e1
    simp only [afterRelease, if_true] at e1
    obtain ⟨cu', e, n⟩ := ih ({ s with states := s.states.filter (fun st => st.coord != some k) } : Layout) (cu.update c1)
      (hs.filter _) hk
    refine ⟨cu', ?_, fun hc => ?_⟩
    · simp only [releaseOneshotKeys, e1]
      rw [e]
      simp only [dropCoords_cons]
    · rw [n (hc.filter _), n1 hc]
      cases cu <;> rfl

/-- when `tick_osh` fires, every deferred release is applied in the same stage -/
theorem tickOneshot_fires_filter {s : Layout} (hs : Unflagged s.states) (hk : s.oneshot.keys ≠ [])
    (h : s.oneshot.releaseOnNextTick = true ∨ s.oneshot.timeout ≤ 1) :
    ∃ cu, tickOneshot s =
      .ok ({ s with oneshot := OneShotState.cleared s.oneshot, states := dropCoords s.oneshot.releasedKeys s.states }, cu) ∧
      (Uncustom s.states → cu = .noEvent) := by
  unfold tickOneshot
  rw [tick_fires _ hk h]
  exact releaseOneshotKeys_filter s.oneshot.releasedKeys
    ({ s with oneshot := OneShotState.cleared s.oneshot } : Layout) .noEvent hs rfl

/-! ## the stage -/

/-- the one-shot countdown is not running, runs on, or ends: then the deferred releases are applied -/
inductive OshStep (s : Layout) : Layout → Prop
  | inactive (hk : s.oneshot.keys = []) : OshStep s s
  | waits (hk : s.oneshot.keys ≠ []) (h1 : s.oneshot.releaseOnNextTick = false) (h2 : 2 ≤ s.oneshot.timeout) :
      OshStep s { s with oneshot := { s.oneshot with
        ticksToIgnoreEvents := s.oneshot.ticksToIgnoreEvents - 1, timeout := s.oneshot.timeout - 1 } }
  | fires (hk : s.oneshot.keys ≠ []) (h : s.oneshot.releaseOnNextTick = true ∨ s.oneshot.timeout ≤ 1) :
      OshStep s { s with oneshot := OneShotState.cleared s.oneshot,
                         states := dropCoords s.oneshot.releasedKeys s.states }

theorem oshStep {s : Layout} (hs : Unflagged s.states) :
    ∃ s1 c1, tickOneshot s = .ok (s1, c1) ∧ OshStep s s1 ∧ (Uncustom s.states → c1 = .noEvent) := by
  by_cases hk : s.oneshot.keys = []
  · exact ⟨s, .noEvent, tickOneshot_inactive hk, .inactive hk, fun _ => rfl⟩
  · by_cases hf : s.oneshot.releaseOnNextTick = true ∨ s.oneshot.timeout ≤ 1
    · obtain ⟨c1, e1, n1⟩ := tickOneshot_fires_filter hs hk hf
      exact ⟨_, c1, e1, .fires hk hf, n1⟩
    · have h1 : s.oneshot.releaseOnNextTick = false := by
        cases hr : s.oneshot.releaseOnNextTick
        · rfl
        · exact absurd (Or.inl hr) hf
      have h2 : 2 ≤ s.oneshot.timeout := by omega
      exact ⟨_, .noEvent, tickOneshot_waits hk h1 h2, .waits hk h1 h2, fun _ => rfl⟩

/-- only `oneshot` and `states` change, and states only go -/
structure OshFrame (s s1 : Layout) : Prop where
  queue : s1.queue = s.queue
  waiting : s1.waiting = s.waiting
  extra : s1.extraWaiting = s.extraWaiting
  tde : s1.tapDanceEager = s.tapDanceEager
  aq : s1.actionQueue = s.actionQueue
  seqs : s1.activeSequences = s.activeSequences
  lpt : s1.lptTapHoldTimeout = s.lptTapHoldTimeout
  cfg : s1.cfg = s.cfg
  states : ∀ st ∈ s1.states, st ∈ s.states

theorem OshStep.frame {s s1 : Layout} (h : OshStep s s1) : OshFrame s s1 := by
  cases h with
  | inactive => exact ⟨rfl, rfl, rfl, rfl, rfl, rfl, rfl, rfl, fun _ h => h⟩
  | waits => exact ⟨rfl, rfl, rfl, rfl, rfl, rfl, rfl, rfl, fun _ h => h⟩
  | fires => exact ⟨rfl, rfl, rfl, rfl, rfl, rfl, rfl, rfl, fun _ h => (mem_dropCoords.mp h).1⟩

/-- pause, delay and the ignore window do not grow -/
theorem OshStep.ticks {s s1 : Layout} (h : OshStep s s1) :
    s1.oneshot.pauseInputProcessingTicks ≤ s.oneshot.pauseInputProcessingTicks ∧
    s1.oneshot.pauseInputProcessingDelay = s.oneshot.pauseInputProcessingDelay ∧
    s1.oneshot.ticksToIgnoreEvents ≤ s.oneshot.ticksToIgnoreEvents := by
  cases h with
  | inactive => exact ⟨Nat.le_refl _, rfl, Nat.le_refl _⟩
  | waits => exact ⟨Nat.le_refl _, rfl, Nat.sub_le _ _⟩
  | fires => exact ⟨Nat.zero_le _, rfl, Nat.zero_le _⟩

/-- after the stage, an inactive one-shot state has nothing deferred; an active one is the old one
counted down -/
theorem OshStep.idle {s s1 : Layout} (h : OshStep s s1)
    (hi : s.oneshot.keys = [] → s.oneshot.releasedKeys = [] ∧ s.oneshot.releaseOnNextTick = false) :
    s1.oneshot.keys = [] → s1.oneshot.releasedKeys = [] ∧ s1.oneshot.releaseOnNextTick = false := by
  cases h with
  | inactive => exact hi
  | waits hk => exact fun hk' => absurd hk' hk
  | fires => exact fun _ => ⟨rfl, rfl⟩

/-- a state that survives the stage and was owned through a deferred release still is -/
theorem OshStep.deferred {s s1 : Layout} (h : OshStep s s1) {st : St} (hst : st ∈ s1.states) {c : Coord}
    (hc : st.coord = some c) (hr : c ∈ s.oneshot.releasedKeys) : c ∈ s1.oneshot.releasedKeys := by
  cases h with
  | inactive => exact hr
  | waits => exact hr
  | fires => exact absurd hc ((mem_dropCoords.mp hst).2 c hr)

end KVerif.C06
