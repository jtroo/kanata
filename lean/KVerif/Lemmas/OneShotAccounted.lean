/-
"No state is stranded", stated on the parts of a layout that events and ticks move — the states, the
`OneShotState`, the input queue — and the keys physically down, apart from whatever else the layout
holds (its configuration, a pending tap-hold key): every state belongs to a key that is `Held` (down,
or its release is queued) or whose release is deferred.  One lemma for each thing that happens to
those parts: an event is queued, the queue ages, a release or a press is taken from it, states are
added at a held key, states go and the `OneShotState` moves on.
-/
import KVerif.Lemmas.OneShotRun
namespace KVerif.C06
open KVerif.L

def Held (down : List Coord) (q : List Queued) (c : Coord) : Prop :=
  c ∈ down ∨ ∃ x ∈ q, x.ev = .release c

namespace Held
variable {down : List Coord} {q : List Queued} {c : Coord}

/-- a key that goes up has its release queued by the same event -/
theorem enqueue (h : Held down q c) (e : Ev) : Held (downAfter down (.ev e)) (q ++ [⟨e, 0⟩]) c := by
  rcases h with h | ⟨x, hx, hxe⟩
  · cases e with
    | press c' => exact Or.inl (List.mem_cons_of_mem _ h)
    | release c' =>
      by_cases hcc : c = c'
      · exact Or.inr ⟨⟨.release c', 0⟩, List.mem_append_right _ (List.mem_singleton.mpr rfl), hcc ▸ rfl⟩
      · exact Or.inl (List.mem_filter.mpr ⟨h, by simpa using hcc⟩)
  · exact Or.inr ⟨x, List.mem_append_left _ hx, hxe⟩

theorem age (h : Held down q c) : Held down (age q) c := h.imp_right mem_age_release

theorem append (h : Held down q c) (r : List Queued) : Held down (q ++ r) c :=
  h.imp_right fun ⟨x, hx, hxe⟩ => ⟨x, List.mem_append_left _ hx, hxe⟩

theorem tail {x : Queued} {rest : List Queued} (h : Held down (x :: rest) c) (hx : x.ev ≠ .release c) :
    Held down rest c :=
  h.imp_right fun ⟨y, hy, hye⟩ => by
    rcases List.mem_cons.mp hy with rfl | hy
    · exact absurd hye hx
    · exact ⟨y, hy, hye⟩

theorem nil : ¬ Held [] [] c := fun h => h.elim nofun fun ⟨_, hx, _⟩ => nomatch hx

end Held

structure Accounted (down : List Coord) (sts : List St) (o : OneShotState) (q : List Queued) : Prop where
  states : ∀ st ∈ sts, StOK st
  ignore : o.ticksToIgnoreEvents = 0
  qlen : q.length ≤ QUEUE_SIZE
  idle : o.keys = [] → o.releasedKeys = [] ∧ o.releaseOnNextTick = false
  qwf : QWF down q
  owned : ∀ st ∈ sts, ∀ c, st.coord = some c → c ∈ o.releasedKeys ∨ Held down q c

/-- `handle_release`: a deferred release is forgotten only by being handed back (the 17th) -/
theorem handleRelease_answer (o : OneShotState) (c : Coord)
    (hidle : o.keys = [] → o.releasedKeys = [] ∧ o.releaseOnNextTick = false) :
    (o.handleRelease c).1.ticksToIgnoreEvents = o.ticksToIgnoreEvents ∧
    ((o.handleRelease c).1.keys = [] →
      (o.handleRelease c).1.releasedKeys = [] ∧ (o.handleRelease c).1.releaseOnNextTick = false) ∧
    ((o.handleRelease c).2.1 = true ∨ c ∈ (o.handleRelease c).1.releasedKeys) ∧
    ∀ x ∈ o.releasedKeys, x ∈ (o.handleRelease c).1.releasedKeys ∨ (o.handleRelease c).2.2 = some x := by
  by_cases hk : o.keys = []
  · rw [handleRelease_inactive o c hk]
    exact ⟨rfl, hidle, Or.inl rfl, fun _ hx => Or.inl hx⟩
  · by_cases hc : o.keys.contains c = true
    · rw [handleRelease_active o c hc]
      exact ⟨rfl, fun hk' => absurd hk' hk, Or.inr (mem_pushBackWrap_new _ (by decide) _ _),
        mem_pushBackWrap_old _ _ _⟩
    · rw [handleRelease_other o c hk (by simpa using hc)]
      exact ⟨rfl, fun hk' => absurd hk' hk, Or.inl rfl, fun _ hx => Or.inl hx⟩

namespace Accounted
variable {down : List Coord} {sts sts' : List St} {o o' : OneShotState} {q : List Queued} {c : Coord}

theorem enqueue (h : Accounted down sts o q) (e : Ev) (hq : q.length < QUEUE_SIZE) :
    Accounted (downAfter down (.ev e)) sts o (q ++ [⟨e, 0⟩]) := by
  refine ⟨h.states, h.ignore, ?_, h.idle, ?_, fun st hst c hc => (h.owned st hst c hc).imp_right (·.enqueue e)⟩
  · rw [List.length_append]; exact hq
  · cases e with
    | press c =>
      exact QWF_append _ _ (QWF_mono (fun _ hx => List.mem_cons_of_mem _ hx) _ h.qwf) (List.mem_cons_self ..)
    | release c => exact QWF_release c 0 _ h.qwf

theorem age (h : Accounted down sts o q) : Accounted down sts o (age q) :=
  ⟨h.states, h.ignore, by rw [KVerif.C06.age, List.length_map]; exact h.qlen, h.idle, QWF_age _ h.qwf,
   fun st hst c hc => (h.owned st hst c hc).imp_right Held.age⟩

theorem sub (h : Accounted down sts o q) (hs : ∀ st ∈ sts', st ∈ sts) (hi : o'.ticksToIgnoreEvents = 0)
    (hidle : o'.keys = [] → o'.releasedKeys = [] ∧ o'.releaseOnNextTick = false)
    (hr : ∀ st ∈ sts', ∀ c, st.coord = some c → c ∈ o.releasedKeys → c ∈ o'.releasedKeys) :
    Accounted down sts' o' q :=
  ⟨fun st hst => h.states st (hs st hst), hi, h.qlen, hidle, h.qwf,
   fun st hst c hc => (h.owned st (hs st hst) c hc).imp_left (hr st hst c hc)⟩

theorem adds (h : Accounted down sts o q) (hc : Held down q c)
    (hs : ∀ st ∈ sts', st ∈ sts ∨ (st.coord = some c ∧ StOK st)) (hi : o'.ticksToIgnoreEvents = 0)
    (hidle : o'.keys = [] → o'.releasedKeys = [] ∧ o'.releaseOnNextTick = false)
    (hr : ∀ x ∈ o.releasedKeys, x ∈ o'.releasedKeys ∨ x = c) : Accounted down sts' o' q := by
  refine ⟨fun st hst => (hs st hst).elim (h.states st) (·.2), hi, h.qlen, hidle, h.qwf, fun st hst c' hc' => ?_⟩
  rcases hs st hst with g | g
  · rcases h.owned st g c' hc' with g1 | g1
    · exact (hr c' g1).imp_right fun (e : c' = c) => e ▸ hc
    · exact Or.inr g1
  · exact Or.inr (Option.some.inj (hc'.symm.trans g.1) ▸ hc)

theorem pop_press {n : Nat} {rest : List Queued} (h : Accounted down sts o (⟨.press c, n⟩ :: rest)) :
    Accounted down sts o rest ∧ Held down rest c :=
  ⟨⟨h.states, h.ignore, Nat.le_of_succ_le h.qlen, h.idle, h.qwf.2,
    fun st hst c' hc' => (h.owned st hst c' hc').imp_right (·.tail nofun)⟩, h.qwf.1⟩

theorem pop_release {n : Nat} {rest : List Queued} (h : Accounted down sts o (⟨.release c, n⟩ :: rest)) :
    Accounted down (afterRelease sts c (o.handleRelease c).2.1 (o.handleRelease c).2.2)
      (o.handleRelease c).1 rest := by
  obtain ⟨k1, k2, k3, k4⟩ := handleRelease_answer o c h.idle
  refine ⟨fun st hst => h.states st (mem_afterRelease.mp hst).1, k1.trans h.ignore, Nat.le_of_succ_le h.qlen, k2,
    h.qwf.2, fun st hst c' hc' => ?_⟩
  obtain ⟨m1, m2, m3⟩ := mem_afterRelease.mp hst
  rcases h.owned st m1 c' hc' with g | g
  · exact (k4 c' g).elim Or.inl fun e => absurd hc' (m3 c' e)
  · by_cases hcc : c' = c
    · exact k3.elim (fun e => absurd (hcc ▸ hc') (m2 e)) fun e => Or.inl (hcc ▸ e)
    · exact Or.inr (g.tail fun e => hcc (Ev.release.inj e).symm)

/-- the release `do_action` queues for a one-shot key that fell out of the table -/
theorem append_ovq (h : Accounted down sts o q) (ov : Option Coord) (hq : q.length < QUEUE_SIZE) :
    Accounted down sts o (q ++ ovq ov) := by
  cases ov with
  | none => rw [ovq, List.append_nil]; exact h
  | some k =>
    exact ⟨h.states, h.ignore, by rw [List.length_append]; exact hq, h.idle, QWF_append _ _ h.qwf trivial,
      fun st hst c hc => (h.owned st hst c hc).imp_right (·.append _)⟩

theorem nil (h : Accounted [] sts o []) (hk : o.keys = []) : sts = [] := by
  apply List.eq_nil_iff_forall_not_mem.mpr
  intro st hst
  have hok := h.states st hst
  obtain ⟨c, hc⟩ : ∃ c, st.coord = some c := by
    cases st <;> simp only [C04.StOK] at hok <;> first | exact ⟨_, rfl⟩ | exact absurd hok id
  rcases h.owned st hst c hc with g | g
  · rw [(h.idle hk).1] at g; cases g
  · exact Held.nil g

end Accounted

end KVerif.C06
