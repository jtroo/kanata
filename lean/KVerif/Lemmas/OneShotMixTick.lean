/-
C06 on the mixed fragment, helper lemmas: whole ticks and runs.  What the first two stages of a
tick leave (`Staged`: nothing active / countdown only / `tick_osh` fires), the main stage on that with
a tap-hold key pending, the paused ticks after a resolution, and runs during which only the countdown
moves (`Counting`).
-/
import KVerif.Lemmas.OneShotMixInv
import KVerif.Props.C06
namespace KVerif.C06
open KVerif.L

/-- the exact waiting state the tap-hold arm creates -/
theorem armHoldTapWait_exact (s : Layout) (c : Coord) (d T : Nat) (hold tap to : Action) (cfg : HTConfig)
    (iv : Nat) (ls : List Nat) (hw : s.waiting = none) :
    (armHoldTapWait s c d T hold tap to cfg iv ls).waiting =
      some { coord := c, timeout := if s.quickTapHoldTimeout then T - d else T,
             delay := if s.quickTapHoldTimeout then 0 else d, ticks := 0, hold := hold, tap := tap,
             timeoutAction := to, config := .holdTap cfg, layerStack := ls, prevQueueLen := 255 } := by
  unfold armHoldTapWait
  simp only [hw]
  unfold updateCoord
  split <;> rfl

theorem prelude_quick (s : Layout) (c : Coord) (iv : Nat)
    (hnq : iv = 0 ∨ c ≠ s.lptCoord ∨ s.lptTapHoldTimeout = 0) :
    (iv == 0 || c != (prelude s c).lptCoord || (prelude s c).lptTapHoldTimeout == 0) = true := by
  have hl : (prelude s c).lptCoord = s.lptCoord := by unfold prelude; split <;> rfl
  rcases hnq with g | g | g
  · simp [g]
  · rw [hl]; simp [g]
  · simp [Nat.le_zero.mp (g ▸ Quiesce.prelude_lpt s c)]

/-- `s1` is what the first two stages of a tick make of `s`: the queue has aged, the pending tap-hold
key has not been looked at, and the tick returns what the main stage returns on `s1` -/
structure Staged (s s1 : Layout) (down : List Coord) : Prop where
  osh : tickOneshot (tickPre s) = .ok (s1, .noEvent)
  inv : MInv s1 down
  main : tick s = tickMain s1
  queue : s1.queue = age s.queue
  waiting : s1.waiting = s.waiting

theorem staged_inactive {s : Layout} {down : List Coord} (h : MInv s down) (hk : s.oneshot.keys = []) :
    ∃ s1, Staged s s1 down ∧ s1.states = s.states ∧ s1.oneshot = s.oneshot := by
  obtain ⟨i0, t4, tw, t2, t3⟩ := h.pre
  have e1 := tickOneshot_inactive (s := tickPre s) (t2 ▸ hk)
  exact ⟨_, ⟨e1, i0, tick_eq_main h e1 i0, t4, tw⟩, t3, t2⟩

theorem staged_waits {s : Layout} {down : List Coord} (h : MInv s down) (hk : s.oneshot.keys ≠ [])
    (hr : s.oneshot.releaseOnNextTick = false) (h2 : 2 ≤ s.oneshot.timeout) :
    ∃ s1, Staged s s1 down ∧ s1.states = s.states ∧
      s1.oneshot = { s.oneshot with timeout := s.oneshot.timeout - 1 } := by
  obtain ⟨i0, t4, tw, t2, t3⟩ := h.pre
  obtain ⟨s1, e1, i1, q1, w1, st1, o1⟩ := i0.osh_waits (t2 ▸ hk) (t2 ▸ hr) (t2 ▸ h2)
  exact ⟨s1, ⟨e1, i1, tick_eq_main h e1 i1, q1.trans t4, w1.trans tw⟩, st1.trans t3, t2 ▸ o1⟩

/-- **the tick on which `tick_osh` fires**, whatever is pending: every deferred release is applied in
the second stage, the one-shot state is cleared, and the pending tap-hold key is exactly as it was —
it is looked at only afterwards, in the third stage, on `sr` -/
theorem staged_fires {s : Layout} {down : List Coord} (h : MInv s down) (hk : s.oneshot.keys ≠ [])
    (hf : s.oneshot.releaseOnNextTick = true ∨ s.oneshot.timeout ≤ 1) :
    ∃ sr, Staged s sr down ∧ sr.oneshot = OneShotState.cleared s.oneshot ∧
      sr.states = dropCoords s.oneshot.releasedKeys s.states := by
  obtain ⟨i0, t4, tw, t2, t3⟩ := h.pre
  obtain ⟨sr, e1, i1, q1, w1, st1, o1⟩ := i0.osh_fires (t2 ▸ hk) (t2 ▸ hf)
  exact ⟨sr, ⟨e1, i1, tick_eq_main h e1 i1, q1.trans t4, w1.trans tw⟩, t2 ▸ o1, t3 ▸ t2 ▸ st1⟩

/-! ### a tick with a tap-hold key pending -/

theorem Staged.pending {s s1 : Layout} {down : List Coord} (st : Staged s s1 down) {w : Waiting}
    (hw : s.waiting = some w) : tick s = .ok (pendingResult s1 w, .noEvent) ∧ MInv (pendingResult s1 w) down :=
  ⟨st.main.trans (tickMain_pending st.inv w (st.waiting.trans hw)), st.inv.pending w (st.waiting.trans hw)⟩

/-- **the tick on which the pending key decides `a`**: the action is performed on `s1`, what the first
two stages leave -/
theorem Staged.resolves {s s1 : Layout} {down : List Coord} (st : Staged s s1 down) {w : Waiting}
    (hw : s.waiting = some w) {a : WAct} (hd : (C05.htStep w (age s.queue)).2 = some a) :
    tick s = .ok (pendingResult s1 w, .noEvent) ∧ MInv (pendingResult s1 w) down ∧
    (pendingResult s1 w).waiting = none ∧ (pendingResult s1 w).queue = age s.queue ∧
    Adds w.coord s1 (pendingResult s1 w) ∧
    (pendingResult s1 w).oneshot = resolvedOsh s1.oneshot w.coord a := by
  have hw1 := st.waiting.trans hw
  have hd1 : (C05.htStep w s1.queue).2 = some a := st.queue ▸ hd
  have hc := C05.htStep_counted w s1.queue
  obtain ⟨f, q, ad, o⟩ := resolved_spec { s1 with waiting := none } (C05.htStep w s1.queue).1
    ((st.inv.wok w hw1).1.counted hc) a (fun h0 => C05.htStep_ne_noOp w s1.queue (h0 ▸ hd1))
  rw [hc.coord] at ad o
  rw [pendingResult_some hd1]
  exact ⟨pendingResult_some hd1 ▸ (st.pending hw).1, pendingResult_some hd1 ▸ (st.pending hw).2, f.waiting,
    q.trans st.queue, ⟨ad.old, ad.new⟩, o⟩

/-- `s` after `k` ticks and the events `evs`, counted from `s0`, none of which did more than queue an
event or count the one-shot down -/
structure Counting (s0 : Layout) (k : Nat) (evs : List Ev) (s : Layout) : Prop where
  states : s.states = s0.states
  keys : SameKeys s0.oneshot s.oneshot
  timeout : s.oneshot.timeout = s0.oneshot.timeout - k
  queue : s.queue.map (·.ev) = s0.queue.map (·.ev) ++ evs

namespace Counting
variable {s0 s s' : Layout} {k : Nat} {evs : List Ev}

theorem refl (s : Layout) : Counting s 0 [] s := ⟨rfl, .refl _, rfl, (List.append_nil _).symm⟩

theorem input (c : Counting s0 k evs s) {e : Ev} (q : s'.queue = s.queue ++ [⟨e, 0⟩])
    (st : s'.states = s.states) (o : s'.oneshot = s.oneshot) : Counting s0 k (evs ++ [e]) s' :=
  ⟨st.trans c.states, o ▸ c.keys, o ▸ c.timeout, by rw [q, List.map_append, c.queue, List.append_assoc]; rfl⟩

theorem tick (c : Counting s0 k evs s) (st : s'.states = s.states) (q : s'.queue = age s.queue)
    (ks : SameKeys s.oneshot s'.oneshot) (t : s'.oneshot.timeout = s.oneshot.timeout - 1) :
    Counting s0 (k + 1) evs s' :=
  ⟨st.trans c.states, c.keys.trans ks, by rw [t, c.timeout, Nat.sub_sub], by rw [q, age_map_ev, c.queue]⟩

/-- with fewer than `timeout − 1` ticks gone `tick_osh` does not fire on the next one -/
theorem two_le (c : Counting s0 k evs s) (hk : k < s0.oneshot.timeout - 1) : 2 ≤ s.oneshot.timeout :=
  c.timeout ▸ Nat.le_sub_of_add_le' (Nat.lt_sub_iff_add_lt.mp hk)

end Counting

/-! ### the paused ticks after the resolution (nothing pending) -/

theorem m_tick_waits_paused {s : Layout} {down : List Coord} (h : MInv s down) (hw : s.waiting = none)
    (hk : s.oneshot.keys ≠ []) (hr : s.oneshot.releaseOnNextTick = false) (h2 : 2 ≤ s.oneshot.timeout)
    (hp : 0 < s.oneshot.pauseInputProcessingTicks) :
    ∃ s', tick s = .ok (s', .noEvent) ∧ MInv s' down ∧ s'.waiting = none ∧ s'.states = s.states ∧
      s'.queue = age s.queue ∧ SameKeys s.oneshot s'.oneshot ∧ s'.oneshot.timeout = s.oneshot.timeout - 1 ∧
      s'.oneshot.pauseInputProcessingTicks = s.oneshot.pauseInputProcessingTicks - 1 := by
  obtain ⟨s1, st, st1, o1⟩ := staged_waits h hk hr h2
  have hw1 := st.waiting.trans hw
  have e2 := tickMain_paused (s := s1) hw1 st.inv.extra (o1 ▸ hp)
  refine ⟨_, st.main.trans e2, (st.inv.main _ _ e2).1, hw1, st1, st.queue, ?_⟩
  rw [o1]
  exact ⟨⟨rfl, rfl, rfl, rfl, rfl, rfl⟩, rfl, rfl⟩

theorem m_no_pop_before_release (ins : List In) {s : Layout} {down : List Coord} (h : MInv s down)
    (hw : s.waiting = none) (hk : s.oneshot.keys ≠ []) (hr : s.oneshot.releaseOnNextTick = false)
    (hp : s.oneshot.timeout ≤ s.oneshot.pauseInputProcessingTicks)
    (hn : ticksOf ins ≤ s.oneshot.timeout - 1) {s' : Layout} {down' : List Coord}
    (hrun : run s down ins = some (.ok (s', down'))) :
    MInv s' down' ∧ s'.waiting = none ∧ Counting s (ticksOf ins) (eventsOf ins) s' := by
  have key := run_counting
    (P := fun k evs x d => MInv x d ∧ x.waiting = none ∧ Counting s k evs x ∧
      x.oneshot.pauseInputProcessingTicks = s.oneshot.pauseInputProcessingTicks - k)
    (G := fun _ => True) (s.oneshot.timeout - 1) ?_ ?_ ins 0 [] s down ⟨h, hw, .refl s, rfl⟩ hn
    (fun _ _ _ _ _ _ => trivial) s' down' hrun
  · exact ⟨key.1, key.2.1, key.2.2.1⟩
  · intro k evs x d e x' ⟨i, hwx, c, p⟩ hq he
    obtain ⟨_, e1, i1, q1, st1, o1, w1⟩ := i.input e hq
    cases e1.symm.trans he
    exact ⟨i1, w1.trans hwx, c.input q1 st1 o1, o1 ▸ p⟩
  · intro k evs x d x' cu ⟨i, hwx, c, p⟩ hk' ht _
    obtain ⟨_, e1, i1, w1, f1, f2, f3, f4, f5⟩ := m_tick_waits_paused i hwx (c.keys.keys ▸ hk)
      (c.keys.request ▸ hr) (c.two_le hk')
      (p ▸ Nat.sub_pos_of_lt (Nat.lt_of_lt_of_le hk' (Nat.le_trans (Nat.sub_le _ _) hp)))
    cases e1.symm.trans ht
    exact ⟨i1, w1, c.tick f1 f2 f3 f4, by rw [f5, p, Nat.sub_sub]⟩

end KVerif.C06
