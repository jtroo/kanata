/-
Helper lemmas for C19: the one-layer layout `Flat` produces an OS trace that depends only on the
order of the events, not on how many ticks pass between them (when every event is followed by a
tick before the next one arrives).
-/
import KVerif.Lemmas.DynMacroRun
namespace KVerif.DynMacro

theorem dedup_nil_of_nil : dedup [] = [] := rfl

theorem filter_not_contains_self (l : List Nat) : l.filter (fun k => !l.contains k) = [] := by
  apply List.filter_eq_nil_iff.mpr
  intro a ha
  simp [ha]

/-- nothing changes, nothing is written -/
theorem osDiff_self (l : List Nat) : osDiff l l = [] := by
  have h := filter_not_contains_self l
  simp only [osDiff, h, dedup, List.map_nil, List.append_nil]

theorem flatTick_empty (keys : List KeyDef) (l : Flat) (hq : l.queue = [])
    (hp : l.prev = keycodes l.states) :
    flatTick keys l = ({ queue := [], states := l.states, prev := l.prev }, [], []) := by
  have h := osDiff_self (keycodes l.states)
  simp only [osDiff, keycodes] at h
  simp only [flatTick, hq, hp, keycodes]
  simp only [Prod.mk.injEq, true_and]
  exact h

theorem flatTick_one (keys : List KeyDef) (l : Flat) (e : KeyEv) (hq : l.queue = [e])
    (hp : l.prev = keycodes l.states) :
    flatTick keys l =
      ({ queue := [], states := (flatDequeue keys l.states e).1,
         prev := keycodes (flatDequeue keys l.states e).1 },
       (flatDequeue keys l.states e).2,
       osDiff (keycodes l.states) (keycodes (flatDequeue keys l.states e).1)) := by
  simp only [flatTick, hq, hp, keycodes, osDiff]

theorem flatEvent_empty (keys : List KeyDef) (l : Flat) (e : KeyEv) (hq : l.queue = []) :
    flatEvent keys l e = { l with queue := [e] } := by
  simp only [flatEvent, hq]

/-- a tick with at most one event queued empties the queue, leaves `prev_keys` up to date, and
writes the part of the trace that belongs to the queued event -/
theorem flatTick_trace (keys : List KeyDef) (l : Flat) (hq : l.queue = [] ∨ ∃ e, l.queue = [e])
    (hp : l.prev = keycodes l.states) (rest : List KeyEv) :
    (flatTick keys l).1.queue = [] ∧ (flatTick keys l).1.prev = keycodes (flatTick keys l).1.states ∧
      (flatTick keys l).2.2 ++ flatTrace keys (flatTick keys l).1.states rest =
        flatTrace keys l.states (l.queue ++ rest) := by
  rcases hq with hq | ⟨e, hq⟩
  · rw [flatTick_empty keys l hq hp, hq]; exact ⟨rfl, hp, rfl⟩
  · rw [flatTick_one keys l e hq hp, hq]; exact ⟨rfl, rfl, rfl⟩

/-- the OS trace is a function of the event sequence -/
theorem flatRun_trace (keys : List KeyDef) :
    ∀ (ops : List FlatOp) (l : Flat), l.queue = [] → l.prev = keycodes l.states → Spaced ops = true →
      (flatRun keys l ops).2 = flatTrace keys l.states (eventsOf ops)
  | [], l, _, _, _ => rfl
  | .tick :: r, l, hq, hp, hs => by
    simp only [Spaced] at hs
    simp only [flatRun, flatTick_empty keys l hq hp, eventsOf, List.nil_append]
    exact flatRun_trace keys r _ rfl hp hs
  | .ev e :: .tick :: r, l, hq, hp, hs => by
    simp only [Spaced] at hs
    have h1 := flatEvent_empty keys l e hq
    have h2 := flatTick_one keys { l with queue := [e] } e rfl hp
    simp only [flatRun, h1, h2, eventsOf, flatTrace]
    congr 1
    exact flatRun_trace keys r _ rfl rfl hs
  | [.ev _], _, _, _, hs => by simp [Spaced] at hs
  | .ev _ :: .ev _ :: _, _, _, _, hs => by simp [Spaced] at hs

theorem flatTrace_append (keys : List KeyDef) (st : List (Nat × Option Nat)) (a b : List KeyEv) :
    flatTrace keys st (a ++ b) = flatTrace keys st a ++ flatTrace keys (flatStates keys st a) b := by
  induction a generalizing st with
  | nil => rfl
  | cons e r ih => simp [flatTrace, flatStates, ih]

/-- the actions a tick of the one-layer layout fires are those of one configured key -/
theorem flatTick_acts (keys : List KeyDef) (l : Flat) (a : Act) (h : a ∈ (flatTick keys l).2.1) :
    ∃ kd ∈ keys, a ∈ kd.acts := by
  simp only [flatTick] at h
  cases hq : l.queue with
  | nil => simp [hq] at h
  | cons e q =>
    simp only [hq, flatDequeue] at h
    split at h
    · split at h
      · simp at h
      · rename_i kd hk
        split at h
        · simp at h
        · split at h
          · simp at h
          · exact ⟨kd, List.mem_of_find?_eq_some hk, h⟩
    · simp at h

/-- a one-layer configuration without a play key never fires `dynamic-macro-play` -/
theorem noPlay_flat (keys : List KeyDef) (h : ∀ kd ∈ keys, ∀ id, Act.play id ∉ kd.acts) :
    NoPlay (flatI keys) := by
  intro l a ha id hc
  subst hc
  obtain ⟨kd, hkd, hm⟩ := flatTick_acts keys l _ ha
  exact h kd hkd id hm

end KVerif.DynMacro
