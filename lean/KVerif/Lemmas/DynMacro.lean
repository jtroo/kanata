/-
Helper lemmas for C19, recording side: the pressed-set scan, `add_release_for_all_unreleased_presses`,
what `stop_macro` and `record_press` return, and the one-event lag of `add_event` against the direct
description `timed`.
-/
import KVerif.Model.DynMacro
namespace KVerif.DynMacro

/-! ### key events of items, and the scan on key events -/

def evOf : Item → Option KeyEv
  | .press o _ => some ⟨true, o⟩
  | .release o _ => some ⟨false, o⟩
  | .endMacro _ => none

/-- the key events a list of items stands for, in order -/
def evsQ (q : List Item) : List KeyEv := q.filterMap evOf

def scanStep (s : List Nat) (e : KeyEv) : List Nat :=
  if e.press then (if e.osc ∈ s then s else s ++ [e.osc]) else s.filter (· != e.osc)

/-- the pressed-set scan on bare key events -/
def scanEv (s : List Nat) (l : List KeyEv) : List Nat := l.foldl scanStep s

theorem scan_eq_scanEv (s : List Nat) (q : List Item) : scan s q = scanEv s (evsQ q) := by
  induction q generalizing s with
  | nil => rfl
  | cons i r ih => cases i <;> exact ih _

theorem evsQ_append (a b : List Item) : evsQ (a ++ b) = evsQ a ++ evsQ b := List.filterMap_append

theorem scanEv_append (s : List Nat) (a b : List KeyEv) :
    scanEv s (a ++ b) = scanEv (scanEv s a) b := List.foldl_append

theorem scan_append (s : List Nat) (a b : List Item) : scan s (a ++ b) = scan (scan s a) b := by
  simp only [scan_eq_scanEv, evsQ_append, scanEv_append]

theorem mem_scanStep (x : Nat) (s : List Nat) (e : KeyEv) :
    x ∈ scanStep s e ↔ e = ⟨true, x⟩ ∨ (x ∈ s ∧ e ≠ ⟨false, x⟩) := by
  obtain ⟨p, o⟩ := e
  cases p with
  | false =>
    show x ∈ s.filter (· != o) ↔ _
    simp only [List.mem_filter, bne_iff_ne, ne_eq, KeyEv.mk.injEq, Bool.false_eq_true, false_and,
      false_or, true_and]
    exact and_congr_right fun _ => not_congr eq_comm
  | true =>
    show x ∈ (if o ∈ s then s else s ++ [o]) ↔ _
    simp only [KeyEv.mk.injEq, true_and, ne_eq, Bool.true_eq_false, false_and, not_false_eq_true,
      and_true]
    split
    · rename_i h
      exact ⟨.inr, fun hx => hx.elim (· ▸ h) id⟩
    · simp only [List.mem_append, List.mem_singleton]
      exact or_comm.trans (or_congr_left eq_comm)

theorem exists_cons_eq_append_cons {α : Type} (e a : α) (r : List α) (P : List α → Prop) :
    (∃ pre post, e :: r = pre ++ a :: post ∧ P post) ↔
      (e = a ∧ P r) ∨ ∃ pre post, r = pre ++ a :: post ∧ P post := by
  constructor
  · rintro ⟨pre, post, h, hp⟩
    cases pre with
    | nil => cases h; exact .inl ⟨rfl, hp⟩
    | cons b pre => cases h; exact .inr ⟨pre, post, rfl, hp⟩
  · rintro (⟨rfl, hp⟩ | ⟨pre, post, rfl, hp⟩)
    · exact ⟨[], r, rfl, hp⟩
    · exact ⟨e :: pre, post, rfl, hp⟩

/-- **Meaning of the scan.** `x` is in the set after scanning `l` from `s` iff `l` contains a press
of `x` with no release of `x` after it, or `x` was in `s` and `l` has no release of `x`. -/
theorem mem_scanEv_iff (x : Nat) (s : List Nat) (l : List KeyEv) :
    x ∈ scanEv s l ↔
      (∃ pre post, l = pre ++ ⟨true, x⟩ :: post ∧ ⟨false, x⟩ ∉ post) ∨ (x ∈ s ∧ ⟨false, x⟩ ∉ l) := by
  induction l generalizing s with
  | nil => simp [scanEv]
  | cons e r ih =>
    show x ∈ scanEv (scanStep s e) r ↔ _
    rw [ih, mem_scanStep, exists_cons_eq_append_cons, List.mem_cons, not_or]
    constructor
    · rintro (h | ⟨h | ⟨hs, hf⟩, hn⟩)
      · exact .inl (.inr h)
      · exact .inl (.inl ⟨h, hn⟩)
      · exact .inr ⟨hs, fun he => hf he.symm, hn⟩
    · rintro ((⟨h, hn⟩ | h) | ⟨hs, hf, hn⟩)
      · exact .inr ⟨.inl h, hn⟩
      · exact .inl h
      · exact .inr ⟨.inr ⟨hs, fun he => hf he.symm⟩, hn⟩

theorem released_of_scanEv_nil {l : List KeyEv} (h : scanEv [] l = []) {pre post : List KeyEv}
    {x : Nat} (hl : l = pre ++ ⟨true, x⟩ :: post) : (⟨false, x⟩ : KeyEv) ∈ post :=
  Decidable.by_contra fun hc =>
    List.not_mem_nil (h ▸ (mem_scanEv_iff x [] l).mpr (.inl ⟨pre, post, hl, hc⟩))

theorem scanEv_nodup (s : List Nat) (l : List KeyEv) (h : s.Nodup) : (scanEv s l).Nodup := by
  induction l generalizing s with
  | nil => exact h
  | cons e r ih =>
    refine ih _ ?_
    unfold scanStep
    split
    · split
      · exact h
      · rename_i hn
        exact List.nodup_append.mpr ⟨h, List.nodup_cons.mpr ⟨List.not_mem_nil, List.nodup_nil⟩,
          fun a ha b hb hab => hn (List.mem_singleton.mp hb ▸ hab ▸ ha)⟩
    · exact h.filter _

/-- scanning from a smaller set gives a smaller set -/
theorem scanEv_mono (s s' : List Nat) (l : List KeyEv) (h : ∀ x ∈ s', x ∈ s) :
    ∀ x ∈ scanEv s' l, x ∈ scanEv s l := by
  intro x hx
  rw [mem_scanEv_iff] at hx ⊢
  exact hx.imp_right fun h2 => ⟨h _ h2.1, h2.2⟩

/-- a block that leaves nothing down (from the empty set) does not add anything to any set -/
theorem scanEv_balanced_subset (s : List Nat) (b : List KeyEv) (hb : scanEv [] b = []) :
    ∀ x ∈ scanEv s b, x ∈ s := by
  intro x hx
  rcases (mem_scanEv_iff x s b).mp hx with h1 | h2
  · exact absurd (hb ▸ (mem_scanEv_iff x [] b).mpr (.inl h1)) List.not_mem_nil
  · exact h2.1

/-- inserting a balanced block into a balanced sequence keeps it balanced -/
theorem scanEv_insert_balanced (a b c : List KeyEv) (hb : scanEv [] b = [])
    (h : scanEv [] (a ++ c) = []) : scanEv [] (a ++ b ++ c) = [] := by
  rw [scanEv_append] at h
  rw [scanEv_append, scanEv_append]
  exact List.eq_nil_iff_forall_not_mem.mpr fun x hx =>
    List.not_mem_nil (h ▸ scanEv_mono _ _ c (scanEv_balanced_subset _ b hb) x hx)

/-- releasing every member empties the set -/
theorem scanEv_releases (s l : List Nat) (h : ∀ x ∈ s, x ∈ l) :
    scanEv s (l.map fun o => ⟨false, o⟩) = [] := by
  induction l generalizing s with
  | nil => exact List.eq_nil_iff_forall_not_mem.mpr fun x hx => List.not_mem_nil (h x hx)
  | cons o r ih =>
    refine ih _ fun x hx => ?_
    obtain ⟨hx1, hx2⟩ := List.mem_filter.mp hx
    exact (List.mem_cons.mp (h x hx1)).resolve_left (by simpa using hx2)

/-! ### `add_release_for_all_unreleased_presses` -/

theorem orderBy_perm (hint u : List Nat) : (orderBy hint u).Perm u := by
  unfold orderBy
  simp only
  split
  · rename_i h; exact List.isPerm_iff.mp h
  · exact List.Perm.refl _

theorem evsQ_releases (l : List Nat) :
    evsQ (l.map (Item.release · 0)) = l.map fun o => ⟨false, o⟩ := by
  induction l with
  | nil => rfl
  | cons o r ih => simp [evsQ, evOf] at ih ⊢; exact ih

/-- whatever was recorded, after `add_release_for_all_unreleased_presses` nothing is left down -/
theorem unreleased_addReleases (hint : List Nat) (items : List Item) :
    unreleased (addReleases hint items) = [] := by
  unfold unreleased addReleases
  rw [scan_append, scan_eq_scanEv _ (List.map _ _), evsQ_releases]
  apply scanEv_releases
  intro x hx
  exact (orderBy_perm hint (unreleased items)).mem_iff.mpr hx

/-- the tail that is appended is a permutation of the keys left down -/
theorem addReleases_eq (hint : List Nat) (items : List Item) :
    ∃ tail : List Nat, addReleases hint items = items ++ tail.map (Item.release · 0) ∧
      tail.Perm (unreleased items) :=
  ⟨_, rfl, orderBy_perm _ _⟩

/-- the tail that `stop_macro` drops and the one `specBody` drops are the same -/
theorem dropLast_take (l : List Item) (n : Nat) :
    l.dropLast.take (l.dropLast.length - n) = l.take (l.length - 1 - n) := by
  rw [List.length_dropLast, List.dropLast_eq_take, List.take_take, Nat.min_eq_left (Nat.sub_le _ _)]

/-- `macro_items.remove(len() - 1)` succeeds on the fixed code and on a non-empty `Vec` -/
theorem removeLast_ok {fix : Bool} {l : List Item} (h : fix = true ∨ l ≠ []) (site : Crash) :
    removeLast fix site l = .ok l.dropLast := by
  unfold removeLast
  rcases h with rfl | h
  · rw [Bool.not_true, Bool.and_false]; rfl
  · cases l with
    | nil => exact absurd rfl h
    | cons a r => rfl

theorem stopMacro_some (fix : Bool) (hint : List Nat) (n : Nat) (r : Rec) {items : List Item}
    (h : removeLast fix .stopLenMinusOne r.flushItems = .ok items) :
    stopMacro fix hint n (some r) =
      .ok (none, some (r.id, addReleases hint (items.take (items.length - n)))) := by
  simp only [stopMacro, h]

/-! ### items without `EndMacro` -/

def NoEnd (l : List Item) : Prop := ∀ i ∈ l, ∀ id, i ≠ .endMacro id

theorem NoEnd.append {a b : List Item} (ha : NoEnd a) (hb : NoEnd b) : NoEnd (a ++ b) := by
  intro i hi; rcases List.mem_append.mp hi with h | h
  · exact ha i h
  · exact hb i h

theorem noEnd_releases (l : List Nat) : NoEnd (l.map (Item.release · 0)) := by
  intro i hi id; simp at hi; obtain ⟨a, _, rfl⟩ := hi; simp

theorem NoEnd.addReleases {items : List Item} (hint : List Nat) (h : NoEnd items) :
    NoEnd (addReleases hint items) := h.append (noEnd_releases _)

theorem NoEnd.sublist {a b : List Item} (h : NoEnd b) (hs : ∀ i ∈ a, i ∈ b) : NoEnd a :=
  fun i hi => h i (hs i hi)

theorem noEnd_mkItem (w : Nat × Wt) (d : Nat) : NoEnd [mkItem w d] := by
  intro i hi id; simp at hi; subst hi
  obtain ⟨o, t⟩ := w; cases t <;> simp [mkItem]

theorem NoEnd.flush {r : Rec} (h : NoEnd r.items) : NoEnd r.flushItems := by
  unfold Rec.flushItems
  split
  · exact h
  · exact h.append (noEnd_mkItem _ _)

/-! ### the one-event lag against `timed` -/

/-- the record-state transitions while a recording is running and below the limit -/
def recStep (r : Rec) : RecEv → Rec
  | .press o => r.addEvent o .press
  | .release o => r.addEvent o .release
  | .tick => { r with delay := satAdd r.delay 1 }

def recRun (r : Rec) (evs : List RecEv) : Rec := evs.foldl recStep r

theorem recRun_append (r : Rec) (a b : List RecEv) : recRun r (a ++ b) = recRun (recRun r a) b :=
  List.foldl_append

theorem recRun_id (r : Rec) (evs : List RecEv) : (recRun r evs).id = r.id := by
  induction evs generalizing r with
  | nil => rfl
  | cons e rest ih => exact (ih _).trans (by cases e <;> rfl)

theorem recRun_noEnd (r : Rec) (evs : List RecEv) (h : NoEnd r.items) : NoEnd (recRun r evs).items := by
  induction evs generalizing r with
  | nil => exact h
  | cons e rest ih =>
    refine ih _ ?_
    cases e with
    | tick => exact h
    | _ => exact h.flush

theorem satAdd_le (a b : Nat) : satAdd a b ≤ a + b := Nat.min_le_left _ _

theorem satAdd_le_max (a b : Nat) : satAdd a b ≤ U16_MAX := Nat.min_le_right _ _

/-- a saturated sum can be saturated again at the end only -/
theorem min_add_min (x c m : Nat) : min (min x m + c) m = min (x + c) m := by
  rcases Nat.le_total x m with h | h
  · rw [Nat.min_eq_left h]
  · rw [Nat.min_eq_right h, Nat.min_eq_right (Nat.le_add_right _ _),
      Nat.min_eq_right (Nat.le_trans h (Nat.le_add_right _ _))]

theorem leadTicks_le (evs : List RecEv) : leadTicks evs ≤ U16_MAX := by
  cases evs with
  | nil => exact Nat.zero_le _
  | cons e r =>
    cases e with
    | tick => exact Nat.min_le_right _ _
    | _ => exact Nat.zero_le _

/-- What is in the record state (with the waiting event flushed) after `evs`, for any start: the
waiting event gets the time until the first key event of `evs`, every event of `evs` the time until
the next one. -/
theorem flush_recRun (r : Rec) (evs : List RecEv) (hd : r.delay ≤ U16_MAX) :
    (recRun r evs).flushItems =
      match r.waiting with
      | none => r.items ++ timed evs
      | some w => r.items ++ mkItem w (min (r.delay + leadTicks evs) U16_MAX) :: timed evs := by
  induction evs generalizing r with
  | nil =>
    show r.flushItems = _
    unfold Rec.flushItems
    cases r.waiting with
    | none => exact (List.append_nil _).symm
    | some w =>
      show _ = r.items ++ mkItem w (min (r.delay + 0) U16_MAX) :: timed []
      rw [Nat.add_zero, Nat.min_eq_left hd]; rfl
  | cons e rest ih =>
    cases e with
    | tick =>
      refine (ih { r with delay := satAdd r.delay 1 } (satAdd_le_max _ _)).trans ?_
      cases r.waiting with
      | none => rfl
      | some w =>
        -- both delays are `r.delay + 1 + leadTicks rest`, saturated
        have e : min (satAdd r.delay 1 + leadTicks rest) U16_MAX =
            min (r.delay + leadTicks (.tick :: rest)) U16_MAX := by
          rw [satAdd, leadTicks, min_add_min, Nat.add_comm r.delay (min _ _), min_add_min]
          congr 1; omega
        simp only [e, timed]
    | press o | release o =>
      refine (ih (r.addEvent o _) (Nat.zero_le _)).trans ?_
      show r.flushItems ++ mkItem _ (min (0 + leadTicks rest) U16_MAX) :: timed rest = _
      rw [Nat.zero_add, Nat.min_eq_left (leadTicks_le rest)]
      unfold Rec.flushItems
      cases r.waiting with
      | none => rfl
      | some w => simp only [leadTicks, Nat.add_zero, Nat.min_eq_left hd, List.append_assoc, timed]; rfl

theorem flush_recRun_new (id : Nat) (evs : List RecEv) :
    (recRun (Rec.new id) evs).flushItems = timed evs :=
  flush_recRun (Rec.new id) evs (Nat.zero_le _)

theorem timed_length (evs : List RecEv) : (timed evs).length = keyCount evs := by
  induction evs with
  | nil => rfl
  | cons e r ih => cases e <;> simp only [timed, keyCount, ih, List.length_cons]

theorem items_nil_of_waiting_none (r : Rec) (evs : List RecEv) (h : r.waiting = none → r.items = []) :
    (recRun r evs).waiting = none → (recRun r evs).items = [] := by
  induction evs generalizing r with
  | nil => exact h
  | cons e rest ih =>
    refine ih _ ?_
    cases e with
    | tick => exact h
    | _ => exact fun hw => nomatch hw

/-- the waiting event is the last typed one; `macro_items` holds the others -/
theorem items_recRun_new (id : Nat) (evs : List RecEv) :
    (recRun (Rec.new id) evs).items = (timed evs).dropLast := by
  have hf := flush_recRun_new id evs
  have hi := items_nil_of_waiting_none (Rec.new id) evs fun _ => rfl
  unfold Rec.flushItems at hf
  cases h : (recRun (Rec.new id) evs).waiting with
  | none => rw [h] at hf; rw [← hf, hi h]; rfl
  | some w => rw [h] at hf; rw [← hf, List.dropLast_concat]

theorem items_length_recRun_new (id : Nat) (evs : List RecEv) :
    (recRun (Rec.new id) evs).items.length = keyCount evs - 1 := by
  rw [items_recRun_new, List.length_dropLast, timed_length]

theorem keyCount_append (a b : List RecEv) : keyCount (a ++ b) = keyCount a + keyCount b := by
  induction a with
  | nil => exact (Nat.zero_add _).symm
  | cons e r ih =>
    cases e with
    | tick => exact ih
    | _ => simp only [List.cons_append, keyCount, ih]; omega

theorem recordPress_below (hint : List Nat) {max : Nat} (o : Nat) {r : Rec} (h : r.items.length ≤ max * 2) :
    recordPress hint max o (some r) = (some (r.addEvent o .press), none) := by
  simp only [recordPress, Nat.not_lt.mpr h, if_false]

/-- `record_press` above the limit stops the recording and saves it without the waiting event -/
theorem recordPress_above (hint : List Nat) {max : Nat} (o : Nat) {r : Rec} (h : max * 2 < r.items.length) :
    recordPress hint max o (some r) = (none, some (r.id, addReleases hint r.items)) := by
  simp only [recordPress, gt_iff_lt, h, if_true]

theorem recOp_recStep (hint : List Nat) (max : Nat) (st : Store) (r : Rec) (e : RecEv)
    (h : ∀ o, e = .press o → r.items.length ≤ max * 2) :
    recOp hint max (some r, st) e = (some (recStep r e), st) := by
  cases e with
  | press o => simp only [recOp, recordPress_below hint o (h o rfl), Store.save, recStep]
  | _ => rfl

/-- below the limit the real recording functions do what `recRun` says and save nothing -/
theorem recordAll_eq (hint : List Nat) (max id : Nat) (st : Store) (pre evs : List RecEv)
    (h : keyCount (pre ++ evs) ≤ 2 * max + 2) :
    recordAll hint max (some (recRun (Rec.new id) pre), st) evs =
      (some (recRun (Rec.new id) (pre ++ evs)), st) := by
  induction evs generalizing pre with
  | nil => rw [List.append_nil]; rfl
  | cons e rest ih =>
    have hstep := recOp_recStep hint max st (recRun (Rec.new id) pre) e fun o he => by
      rw [he, keyCount_append] at h
      rw [items_length_recRun_new]
      simp only [keyCount] at h
      omega
    have := ih (pre ++ [e]) (by rwa [List.append_assoc])
    rw [recRun_append, List.append_assoc] at this
    exact (congrArg (fun s => recordAll hint max s rest) hstep).trans this

end KVerif.DynMacro
