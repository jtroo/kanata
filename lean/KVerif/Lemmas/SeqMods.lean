/-
Helper definitions and lemmas for C12, runtime part with modifiers and overlap groups
(Props/C12mod.lean).  Nothing here changes the model; the definitions below are specification-side
(they mirror no kanata code except where a Rust name is cited).  The closed form of
`do_sequence_press_logic` that everything here rests on (`stdVariant_eq`, `stdSettle`, `markerDead`,
`doSeqPress_settled`, `doSeqPress_closed`) is in Lemmas/SeqRun.lean.

* `InpM`, `engStepM`, `engRunM`, `pushesOf`, `WellTimedM`
      the stream of calls `tick` makes into the sequence functions, a key press carrying the modifier
      mask `get_mod_mask_for_cur_keys` returned for it
* `PEv`, `callsOf`, `evsOf`, `codes`, `heldAfter`
      physical key events (press / release / one timer tick) and the calls they cause: which keys are
      down decides the mask of a press and when the all-keys-released hook runs
* `run_exact_dead`, `run_exact`
      typing a stored word exactly; tables without `O-(…)` groups as the first instance
* `seqMod`, `seqKey`, `Item.typable`, `enc_item`/`enc_list`/`enc_items`, `parseSequenceKeys_codes`, `typable_stored`
      what typing a key list as spelled pushes is what the parser stored for it
* `strip`, `btForm_no_marker`, `btForm_false_id`, `btForm_snoc`   the stripped forms, specialised
* `markerWF`, `ovlFormFree`, `markerDead_of_markerWF`
      tables that mix modifier sequences and `O-(…)` groups, the second instance of the exact run
* `stdVariant_strip_last`, `doSeqPress_modcancel_plain`, `doSeqPress_nomodcancel_plain`, `engRunM_modcancel_plain`
      a plain table typed while unrelated modifiers are held, modcancel yes / no
* `ovlOf`, `ovlThenPlainFree`, `noEarly`, `InGroup`, `group_key_step`, `group_run`, `group_stored`,
  `GroupPresses_callsOf`, `callsOf_releases`
      `O-(…)` groups: the members typed in any order while a key stays down, then released
* `tick_press`, `tick_release`, `tick_idle`   one `tick` of the tick-level machine makes the calls `callsOf` says
-/
import KVerif.Lemmas.SeqRunPlain
namespace KVerif.Seq

/-! ### the calls `tick` makes into the sequence functions, with the modifier mask -/

inductive InpM
  /-- a newly pressed key reaches the press loop; `mm` is what `get_mod_mask_for_cur_keys` returns -/
  | key (k mm : Nat)
  /-- one `tick_sequence_state` -/
  | tick
  /-- the last held key has been released -/
  | released
  deriving DecidableEq, Repr

def engStepM (t : Trie Nat) (modcancel : Bool) (e : Eng) : InpM → Except Crash Eng
  | .key k mm =>
    .ok (if e.st.active then doSeqPress t modcancel e k mm else { e with out := e.out ++ osPress k })
  | .tick => tickSeq e
  | .released => .ok (allReleasedHook t e)

def engRunM (t : Trie Nat) (modcancel : Bool) : Eng → List InpM → Except Crash Eng
  | e, [] => .ok e
  | e, i :: is =>
    match engStepM t modcancel e i with
    | .error c => .error c
    | .ok e' => engRunM t modcancel e' is

/-- the values pushed into the sequence by a stream of calls -/
def pushesOf : List InpM → List Nat
  | [] => []
  | .key k mm :: is => pushedOf k mm :: pushesOf is
  | _ :: is => pushesOf is

/-- the raw keys of a stream of calls -/
def keysOfM : List InpM → List Nat
  | [] => []
  | .key k _ :: is => k :: keysOfM is
  | _ :: is => keysOfM is

def hasKey : List InpM → Bool
  | [] => false
  | .key _ _ :: _ => true
  | _ :: is => hasKey is

/-- Every key arrives before the timeout: `b` is the number of `tick_sequence_state` calls that may
still happen before the next key, `T` the configured timeout.  Timer ticks after the last key are
not constrained. -/
def WellTimedM (T : Nat) : Nat → List InpM → Prop
  | _, [] => True
  | b, .tick :: r => (hasKey r = true → 1 < b) ∧ WellTimedM T (b - 1) r
  | b, .released :: r => WellTimedM T b r
  | _, .key _ _ :: r => WellTimedM T T r

theorem engRunM_append (t : Trie Nat) (mc : Bool) (a b : List InpM) : ∀ (e : Eng),
    engRunM t mc e (a ++ b) =
      match engRunM t mc e a with
      | .error c => .error c
      | .ok e' => engRunM t mc e' b := by
  induction a with
  | nil => exact fun _ => rfl
  | cons i a ih =>
    intro e
    simp only [List.cons_append, engRunM]
    cases engStepM t mc e i with
    | error c => rfl
    | ok e1 => exact ih e1

/-- once sequence mode is off, timer ticks and all-released hooks do nothing -/
theorem engRunM_idle (t : Trie Nat) (mc : Bool) (is : List InpM) : ∀ (e : Eng),
    e.st.active = false → hasKey is = false → engRunM t mc e is = .ok e := by
  induction is with
  | nil => exact fun _ _ _ => rfl
  | cons i r ih =>
    intro e ha hk
    cases i with
    | key k mm => exact nomatch hk
    | tick =>
      simp only [engRunM, engStepM, tickSeq, ha, Bool.not_false, if_true]
      exact ih e ha hk
    | released =>
      simp only [engRunM, engStepM, allReleasedHook, ha, Bool.not_false, if_true]
      exact ih e ha hk

/-! ### physical key events and the calls they cause -/

/-- A physical event as `tick` sees it: one key event dequeued, or a tick with an empty queue. -/
inductive PEv
  | press (k : Nat)
  | release (k : Nat)
  | tick
  deriving DecidableEq, Repr

/-- The calls into the sequence functions caused by a stream of physical events; `held` is the list
of key codes currently down (`cur_keys`).  A press reaches `do_sequence_press_logic` with the mask of
all keys down, itself included; the release that empties `cur_keys` runs the all-released hook. -/
def callsOf : List PEv → (held : List Nat) → List InpM
  | [], _ => []
  | .press k :: r, held => .key k (modMaskOf (held ++ [k])) :: callsOf r (held ++ [k])
  | .release k :: r, held =>
    (if (held.erase k).isEmpty && !held.isEmpty then [InpM.released] else []) ++ callsOf r (held.erase k)
  | .tick :: r, held => .tick :: callsOf r held

/-- the key events of a stream of physical events (timer ticks dropped) -/
def evsOf : List PEv → List Ev
  | [] => []
  | .press k :: r => .press k :: evsOf r
  | .release k :: r => .release k :: evsOf r
  | .tick :: r => evsOf r

/-- The values a stream of key events pushes into the sequence at run time (`held` as in `callsOf`). -/
def codes : List Ev → (held : List Nat) → List Nat
  | [], _ => []
  | .press k :: r, held => pushedOf k (modMaskOf (held ++ [k])) :: codes r (held ++ [k])
  | .release k :: r, held => codes r (held.erase k)

def heldAfter : List Ev → List Nat → List Nat
  | [], held => held
  | .press k :: r, held => heldAfter r (held ++ [k])
  | .release k :: r, held => heldAfter r (held.erase k)

theorem pushesOf_append (a b : List InpM) : pushesOf (a ++ b) = pushesOf a ++ pushesOf b := by
  induction a with
  | nil => rfl
  | cons i a ih => cases i <;> simp only [List.cons_append, pushesOf, ih]

theorem pushesOf_callsOf (p : List PEv) : ∀ (held : List Nat),
    pushesOf (callsOf p held) = codes (evsOf p) held := by
  induction p with
  | nil => exact fun _ => rfl
  | cons ev r ih =>
    intro held
    cases ev with
    | press k => exact congrArg (_ :: ·) (ih (held ++ [k]))
    | release k => rw [callsOf, pushesOf_append, ih]; split <;> rfl
    | tick => exact ih held

/-! ### typing a stored word exactly -/

theorem pressBase_out_hidden (e : Eng) (k : Nat) (hm : e.st.mode ≠ .visibleBackspaced) :
    (pressBase e k).out = e.out := by
  unfold pressBase
  cases h : e.st.mode <;> simp_all

theorem pressBase_out_visible (e : Eng) (k : Nat) (hm : e.st.mode = .visibleBackspaced) :
    (pressBase e k).out = e.out ++ osPress k := by
  unfold pressBase
  simp [hm]

theorem engStepM_tick {t : Trie Nat} {mc : Bool} {e : Eng} (ha : e.st.active = true)
    (h : 1 < e.st.ticksUntilTimeout) :
    engStepM t mc e .tick =
      .ok { e with st := { e.st with ticksUntilTimeout := e.st.ticksUntilTimeout - 1 } } :=
  engStep_tick_active t mc e ha h

theorem pushesOf_eq_nil : ∀ {is : List InpM}, pushesOf is = [] ↔ hasKey is = false
  | [] => by simp [pushesOf, hasKey]
  | .key _ _ :: _ => by simp [pushesOf, hasKey]
  | .tick :: r => pushesOf_eq_nil (is := r)
  | .released :: r => pushesOf_eq_nil (is := r)

theorem keysOfM_eq_nil : ∀ {is : List InpM}, keysOfM is = [] ↔ hasKey is = false
  | [] => by simp [keysOfM, hasKey]
  | .key _ _ :: _ => by simp [keysOfM, hasKey]
  | .tick :: r => keysOfM_eq_nil (is := r)
  | .released :: r => keysOfM_eq_nil (is := r)

def bsTaps (n : Nat) : List Out := (List.replicate n [Out.down KC_BSPACE, Out.up KC_BSPACE]).flatten

/-- **typing a stored word exactly**, on any table: the values pushed by the calls spell the rest of
the stored word `s`; no stored key continues a prefix of `s` (nor the overlap encoding the run starts
with) by a bare marker, and no key of `s` is stored anywhere as a group member — so the overlap
variant never finds anything; every key arrives in time; timer ticks and all-released hooks are
interleaved arbitrarily. -/
theorem run_exact_dead {t : Trie Nat} (hok : TrieOK t) (mc : Bool) {s : Key} {j : Nat}
    (hs : (s, j) ∈ t.entries) (hdead : ∀ w, w <+: s → markerDead t.entries w)
    (habs : ∀ x ∈ s, ∀ e ∈ t.entries, ovlForm x ∉ e.1) :
    ∀ (is : List InpM) (e : Eng), e.st.active = true → 0 < e.st.ticksUntilTimeout →
      0 < e.st.timeout → e.st.sequence ++ pushesOf is = s → pushesOf is ≠ [] →
      markerDead t.entries e.st.overlapped → WellTimedM e.st.timeout e.st.ticksUntilTimeout is →
      ∃ e', engRunM t mc e is = .ok e' ∧ e'.st.active = false ∧ e'.taps = e.taps ++ [j] ∧
        e'.st.mode = e.st.mode ∧
        (e.st.mode ≠ .visibleBackspaced → e'.out = e.out) ∧
        (e.st.mode = .visibleBackspaced → ∃ rel : List Nat,
          e'.out = e.out ++ (keysOfM is).flatMap osPress ++ rel.flatMap osRelease ++
            bsTaps (charCount s - e.st.noerase)) := by
  intro is
  induction is with
  | nil => intro _ _ _ _ _ hp; exact absurd rfl hp
  | cons i r ih =>
    intro e ha hb hT hsq hp hO hwt
    cases i with
      | tick =>
      have h1b : 1 < e.st.ticksUntilTimeout := hwt.1 (by rw [← Bool.not_eq_false, ← pushesOf_eq_nil]; exact hp)
      obtain ⟨e', h1, h2⟩ := ih
        { e with st := { e.st with ticksUntilTimeout := e.st.ticksUntilTimeout - 1 } } ha
        (Nat.sub_pos_of_lt h1b) hT hsq hp hO hwt.2
      exact ⟨e', by simp only [engRunM, engStepM_tick ha h1b]; exact h1, h2⟩
      | released =>
      obtain ⟨e', h1, h2⟩ := ih
        { e with st := { e.st with overlapped := e.st.sequence } } ha hb hT hsq hp (hdead _ ⟨_, hsq⟩) hwt
      exact ⟨e', by simp only [engRunM, engStepM, allReleasedHook_dead ha hO]; exact h1, h2⟩
      | key k mm =>
      have hpre : (e.st.sequence ++ [pushedOf k mm]) ++ pushesOf r = s := by rw [← hsq]; simp [pushesOf]
      have hvi : viable t.entries (e.st.sequence ++ [pushedOf k mm]) = true :=
        viable_of_prefix hs ⟨_, hpre⟩
      have hks := doSeqPress_settled (mc := mc) hO (habs (pushedOf k mm) (by rw [← hpre]; simp))
        (show stdSettle t mc _ = some _ by rw [stdSettle, hvi]; rfl)
      -- the state the press leaves, before a tap
      let e2 : Eng := { pressBase e k with st := { (pressBase e k).st with
        sequence := e.st.sequence ++ [pushedOf k mm], overlapped := e.st.sequence ++ [pushedOf k mm] } }
      have hrest : ∃ e', engRunM t mc (doSeqPress t mc e k mm) r = .ok e' ∧ e'.st.active = false ∧
          e'.taps = e2.taps ++ [j] ∧ e'.st.mode = e2.st.mode ∧
          (e2.st.mode ≠ .visibleBackspaced → e'.out = e2.out) ∧
          (e2.st.mode = .visibleBackspaced → ∃ rel : List Nat,
            e'.out = e2.out ++ (keysOfM r).flatMap osPress ++ rel.flatMap osRelease ++
              bsTaps (charCount s - e2.st.noerase)) := by
        by_cases hr : pushesOf r = []
        · -- the last key of the word
          have hw0 : e.st.sequence ++ [pushedOf k mm] = s := by rw [← hpre, hr, List.append_nil]
          have hl : lookupKey t.entries (e.st.sequence ++ [pushedOf k mm]) = some j := by
            rw [hw0]; exact lookupKey_of_mem hok hs
          simp only [hks, hl]
          have hnk := pushesOf_eq_nil.1 hr
          have tf := terminate_fields e2 j true
          refine ⟨_, engRunM_idle t mc r _ tf.1 hnk, tf.1, tf.2.1, tf.2.2.1, tf.2.2.2, fun hm => ?_⟩
          obtain ⟨rel, hrel⟩ := terminate_visible_out e2 j true hm
          exact ⟨rel, by rw [hrel, keysOfM_eq_nil.2 hnk]; simp [bsTaps, e2, hw0]⟩
        · -- a proper prefix: nothing fires, the word is tracked
          simp only [hks, lookupKey_none_of_proper_prefix hok hs _ _ hpre hr]
          exact ih e2 ha hT hT hpre hr (hdead _ ⟨_, hpre⟩) hwt
      obtain ⟨e', h1, h2, h3, h4, h5, h6⟩ := hrest
      refine ⟨e', by simp only [engRunM, engStepM, ha, if_true]; exact h1, h2, h3, h4,
        fun hm => (h5 hm).trans (pressBase_out_hidden e k hm), fun hm => ?_⟩
      obtain ⟨rel, hrel⟩ := h6 hm
      refine ⟨rel, hrel.trans ?_⟩
      show (pressBase e k).out ++ _ ++ _ ++ bsTaps (charCount s - e.st.noerase) = _
      rw [pressBase_out_visible e k hm]; simp [keysOfM]

/-- **typing a stored word exactly** (table without `O-(…)` groups, any modifier prefixes): the values
pushed by the calls spell the rest of a stored word; every key arrives in time; timer ticks and
all-released hooks are interleaved arbitrarily. -/
theorem run_exact {t : Trie Nat} (hn : NoOvlTrie t) (hne : ∀ j, t.getOrDescendant [] ≠ .hasValue j)
    (hok : TrieOK t) (mc : Bool) {s : Key} {j : Nat} (hs : (s, j) ∈ t.entries) :
    ∀ (is : List InpM) (e : Eng) (b : Nat), e.st.active = true → e.st.ticksUntilTimeout = b → 0 < b →
      0 < e.st.timeout → e.st.sequence ++ pushesOf is = s → pushesOf is ≠ [] →
      WellTimedM e.st.timeout b is →
      ∃ e', engRunM t mc e is = .ok e' ∧ e'.st.active = false ∧ e'.taps = e.taps ++ [j] ∧
        e'.st.mode = e.st.mode ∧
        (e.st.mode ≠ .visibleBackspaced → e'.out = e.out) ∧
        (e.st.mode = .visibleBackspaced → ∃ rel : List Nat,
          e'.out = e.out ++ (keysOfM is).flatMap osPress ++ rel.flatMap osRelease ++
            bsTaps (charCount s - e.st.noerase))
  | is, e, _, ha, rfl, hb0, hT, hsq, hp, hwt =>
    run_exact_dead hok mc hs (fun w _ => markerDead_of_noOvl hn w)
      (fun _ _ => noOvl_absent hn (or_marker_ovl _)) is e ha hb0 hT hsq hp (markerDead_of_noOvl hn _) hwt

/-! ### what typing a key list pushes is what the parser stored for it -/

/-- a modifier as the run time tracks it and a prefix can spell it: left shift/ctrl/alt/gui, AltGr -/
def seqMod (m : Nat) : Bool :=
  m == KC_LSHIFT || m == KC_LCTRL || m == KC_LALT || m == KC_RALT || m == KC_LGUI

/-- a key code that is not a modifier key and not the overlap pseudo-key -/
def seqKey (k : Nat) : Bool := k < 1024 && !isModifier k && k != KC_OVERLAP

mutual
  /-- A key-list item that can be typed as spelled: its keys are non-modifier keys, its prefixes are
  left-hand modifiers or AltGr, no modifier is repeated inside its own scope (`outer`: the modifiers
  of the enclosing lists), no list is empty, no `O-`. -/
  def Item.typable (outer : List Nat) : Item → Bool
    | .key kc => seqKey kc
    | .chord mods kc => mods.all seqMod && decide (outer ++ mods).Nodup && seqKey kc
    | .held mods body => mods.all seqMod && decide (outer ++ mods).Nodup && !body.isEmpty &&
        Item.typableList (outer ++ mods) body
    | .sub body => !body.isEmpty && Item.typableList outer body
  def Item.typableList (outer : List Nat) : List Item → Bool
    | [] => true
    | i :: is => i.typable outer && Item.typableList outer is
end

theorem modMask_of_not_modifier {k : Nat} (hm : isModifier k = false) (ho : k ≠ KC_OVERLAP) :
    modMask k = 0 := by
  simp only [isModifier, Bool.or_eq_false_iff, beq_eq_false_iff_ne] at hm
  simp [modMask, hm, ho]

theorem normaliseMod_of_not_modifier {k : Nat} (hm : isModifier k = false) : normaliseMod k = k := by
  simp only [isModifier, Bool.or_eq_false_iff, beq_eq_false_iff_ne] at hm
  simp [normaliseMod, hm]

theorem seqMod_of_not_modifier {k : Nat} (hm : isModifier k = false) : seqMod k = false := by
  simp only [isModifier, Bool.or_eq_false_iff, beq_eq_false_iff_ne] at hm
  simp [seqMod, hm]

theorem normaliseMod_lt {k : Nat} (h : k < 1024) : normaliseMod k < 1024 := by
  unfold normaliseMod
  split
  · decide
  · split
    · decide
    · split
      · decide
      · exact h

theorem normaliseMod_not_right (k : Nat) : normaliseMod k ∉ [KC_RSHIFT, KC_RCTRL, KC_RGUI] := by
  unfold normaliseMod
  split
  · decide
  · split
    · decide
    · split
      · decide
      · simp [*]

theorem seqKey_facts (k : Nat) (h : seqKey k = true) :
    k < 1024 ∧ modMask k = 0 ∧ normaliseMod k = k ∧ k ≠ KC_OVERLAP ∧ seqMod k = false := by
  simp only [seqKey, Bool.and_eq_true, decide_eq_true_eq, Bool.not_eq_true', bne_iff_ne] at h
  obtain ⟨⟨hlt, hm⟩, ho⟩ := h
  exact ⟨hlt, modMask_of_not_modifier hm ho, normaliseMod_of_not_modifier hm, ho, seqMod_of_not_modifier hm⟩

theorem seqMod_facts : ∀ m, seqMod m = true →
    m < 1024 ∧ normaliseMod m = m ∧ m ≠ KC_OVERLAP ∧ modMask m &&& KEY_OVERLAP_MARKER = 0 := by
  intro m hm
  simp only [seqMod, Bool.or_eq_true, beq_iff_eq] at hm
  rcases hm with (((h | h) | h) | h) | h <;> subst h <;> decide

theorem foldl_mask_or (l : List Nat) : ∀ (a b : Nat),
    l.foldl (fun a m => a ||| modMask m) (a ||| b) = a ||| l.foldl (fun a m => a ||| modMask m) b := by
  induction l with
  | nil => intro a b; rfl
  | cons x l ih => intro a b; simp only [List.foldl_cons]; rw [Nat.or_assoc]; exact ih a _

theorem foldl_mask_init (l : List Nat) (p : Nat) :
    l.foldl (fun a m => a ||| modMask m) p = p ||| modMaskOf l := by
  have := foldl_mask_or l p 0
  simpa [modMaskOf] using this

theorem modMaskOf_cons (x : Nat) (l : List Nat) : modMaskOf (x :: l) = modMask x ||| modMaskOf l := by
  rw [modMaskOf, List.foldl_cons, foldl_mask_init, Nat.zero_or]

theorem modMaskOf_append (l : List Nat) (k : Nat) : modMaskOf (l ++ [k]) = modMaskOf l ||| modMask k := by
  simp [modMaskOf, List.foldl_append]

theorem modMaskOf_and_eq_zero (b : Nat) : ∀ (l : List Nat), (∀ m ∈ l, modMask m &&& b = 0) →
    modMaskOf l &&& b = 0
  | [], _ => Nat.zero_and b
  | x :: l, h => by
    rw [modMaskOf_cons, Nat.and_or_distrib_right, h x (by simp),
      modMaskOf_and_eq_zero b l fun m hm => h m (by simp [hm])]
    rfl

theorem modMaskOf_zero : ∀ (l : List Nat), (∀ m ∈ l, modMask m = 0) → modMaskOf l = 0
  | [], _ => rfl
  | x :: l, h => by
    rw [modMaskOf_cons, h x (by simp), modMaskOf_zero l fun m hm => h m (by simp [hm])]
    rfl

/-- the parser's check "O-(...) lists cannot be combined with other modifiers" passes -/
theorem no_overlap_combined (p : Nat) (l : List Nat) (hp : p < 1024) (hl : ∀ m ∈ l, seqMod m = true) :
    ¬ ((p ||| modMaskOf l) &&& KEY_OVERLAP_MARKER = KEY_OVERLAP_MARKER ∧
      (p ||| modMaskOf l) &&& MASK_MODDED ≠ KEY_OVERLAP_MARKER) := by
  intro h
  have : (p ||| modMaskOf l) &&& KEY_OVERLAP_MARKER = 0 := by
    rw [Nat.and_or_distrib_right, and_marker_of_lt p hp,
      modMaskOf_and_eq_zero _ l fun m hm => (seqMod_facts m (hl m hm)).2.2.2]
    rfl
  rw [this] at h
  exact absurd h.1 (by decide)

theorem codes_append (a b : List Ev) : ∀ (held : List Nat),
    codes (a ++ b) held = codes a held ++ codes b (heldAfter a held) := by
  induction a with
  | nil => exact fun _ => rfl
  | cons ev a ih => intro held; cases ev <;> simp only [List.cons_append, codes, heldAfter, ih]

theorem heldAfter_append (a b : List Ev) : ∀ (held : List Nat),
    heldAfter (a ++ b) held = heldAfter b (heldAfter a held) := by
  induction a with
  | nil => exact fun _ => rfl
  | cons ev a ih => intro held; cases ev <;> simp only [List.cons_append, heldAfter, ih]

theorem isPress_head_map_press (ms : List Nat) (next : List Ev) (h : isPress next.head? = true) :
    isPress (ms.map Ev.press ++ next).head? = true := by
  cases ms with
  | nil => simpa using h
  | cons m ms => simp [isPress]

theorem isRelease_of_isPress {h : Option Ev} (hp : isPress h = true) : isRelease h = false := by
  cases h with
  | none => simp [isPress] at hp
  | some e => cases e <;> simp_all [isPress, isRelease]

theorem isPress_head_append {a b : List Ev} (h : isPress a.head? = true) : isPress (a ++ b).head? = true := by
  cases a with
  | nil => simp [isPress] at h
  | cons x a => simpa using h

theorem heldAfter_presses : ∀ (ms held : List Nat), heldAfter (ms.map Ev.press) held = held ++ ms
  | [], held => (List.append_nil held).symm
  | m :: ms, held => by
    rw [List.map_cons, heldAfter, heldAfter_presses ms, List.append_assoc]; rfl

theorem codes_releases : ∀ (rs held : List Nat), codes (rs.map Ev.release) held = []
  | [], _ => rfl
  | r :: rs, held => codes_releases rs (held.erase r)

/-- the modifier presses that open a chord or a held list -/
theorem enc_press_mods (ms : List Nat) : ∀ (outer seq : List Nat) (dr : Bool) (next : List Ev),
    isPress next.head? = true → (∀ m ∈ outer, seqMod m = true) → (∀ m ∈ ms, seqMod m = true) →
    encodeEvents (ms.map Ev.press ++ next) outer seq dr =
      encodeEvents next (outer ++ ms) (seq ++ codes (ms.map Ev.press) outer) dr := by
  induction ms with
  | nil => intro outer seq dr next _ _ _; simp [codes]
  | cons m ms ih =>
    intro outer seq dr next hn ho hm
    have hmm := seqMod_facts m (hm m (by simp))
    have hall : ∀ x ∈ outer ++ [m], seqMod x = true :=
      List.forall_mem_append.2 ⟨ho, fun x hx => by rw [List.mem_singleton.1 hx]; exact hm m (by simp)⟩
    have hp : isPress (ms.map Ev.press ++ next).head? = true := isPress_head_map_press ms next hn
    simp only [List.map_cons, List.cons_append, encodeEvents, hp, if_true, foldl_mask_init]
    rw [if_neg (no_overlap_combined m (outer ++ [m]) hmm.1 hall), if_pos hmm.2.2.1,
      ih (outer ++ [m]) _ dr next hn hall fun x hx => hm x (by simp [hx])]
    simp [codes, pushedOf, hmm.2.1, List.append_assoc]

theorem eraseFirst_some (l : List Nat) (x : Nat) (h : x ∈ l) : eraseFirst l x = some (l.erase x) := by
  simp [eraseFirst, h]

/-- keys that are down on top of `outer`, released in any order, leave `outer` -/
theorem heldAfter_releases (rs : List Nat) : ∀ (ms outer : List Nat), rs.Perm ms → (outer ++ ms).Nodup →
    heldAfter (rs.map Ev.release) (outer ++ ms) = outer := by
  induction rs with
  | nil => intro ms outer hp _; rw [← hp.nil_eq, List.append_nil]; rfl
  | cons r rs ih =>
    intro ms outer hp hnd
    obtain ⟨hr, hp'⟩ := List.cons_perm_iff_perm_erase.1 hp
    have hro : r ∉ outer := fun h => (List.nodup_append.1 hnd).2.2 r h r hr rfl
    rw [List.map_cons, heldAfter, List.erase_append_right _ hro]
    exact ih (ms.erase r) outer hp'
      (hnd.sublist (List.Sublist.append (List.Sublist.refl _) List.erase_sublist))

/-- the modifier releases that close a chord or a held list: every release after the first follows a
release, so the parser takes the modifier off its list, as the key-state does -/
theorem enc_releases (rs : List Nat) : ∀ (cur seq : List Nat) (rest : List Ev), rs.Nodup → (∀ m ∈ rs, m ∈ cur) →
    (∀ m ∈ rs, seqMod m = true) →
    encodeEvents (rs.map Ev.release ++ rest) cur seq (isRelease (rs.map Ev.release ++ rest).head?) =
      encodeEvents rest (heldAfter (rs.map Ev.release) cur) seq (isRelease rest.head?) := by
  induction rs with
  | nil => exact fun _ _ _ _ _ _ => rfl
  | cons r rs ih =>
    intro cur seq rest hnd hin hm
    obtain ⟨hr, hnd'⟩ := List.nodup_cons.1 hnd
    simp only [List.map_cons, List.cons_append, List.head?_cons, isRelease, encodeEvents,
      (seqMod_facts r (hm r (by simp))).2.2.1, if_false, if_true, eraseFirst_some _ _ (hin r (by simp)),
      heldAfter]
    exact ih (cur.erase r) seq rest hnd'
      (fun x hx => (List.mem_erase_of_ne fun (h : x = r) => hr (h ▸ hx)).2 (hin x (by simp [hx])))
      fun x hx => hm x (by simp [hx])

/-- one plain key inside the scope of the modifiers `outer` -/
theorem enc_key (kc : Nat) (outer seq : List Nat) (rest : List Ev) (hk : seqKey kc = true)
    (ho : ∀ m ∈ outer, seqMod m = true) :
    encodeEvents (Ev.press kc :: Ev.release kc :: rest) outer seq false =
      encodeEvents rest outer (seq ++ [pushedOf kc (modMaskOf (outer ++ [kc]))]) (isRelease rest.head?) ∧
    (outer ++ [kc]).erase kc = outer := by
  have hf := seqKey_facts kc hk
  have hnot : kc ∉ outer := by
    intro hin
    have := ho kc hin
    rw [hf.2.2.2.2] at this
    exact absurd this (by simp)
  refine ⟨?_, by rw [List.erase_append_right _ hnot]; simp⟩
  have hcode : kc ||| modMaskOf outer = pushedOf kc (modMaskOf (outer ++ [kc])) := by
    simp [pushedOf, hf.2.2.1, modMaskOf_append, hf.2.1]
  simp only [encodeEvents, List.head?_cons, isPress, Bool.false_eq_true, if_false, foldl_mask_init]
  rw [if_neg (no_overlap_combined kc outer hf.1 ho)]
  simp only [hf.2.2.2.1, ne_eq, not_false_eq_true, if_true, if_false, hcode]

mutual
  /-- **one key-list item**: the parser's press/release heuristics (`encodeEvents`, started with the
  modifiers `outer` classified as held) store for the item exactly the values that typing its events
  pushes at run time (`codes`, with the same keys down), and leave the same keys held. -/
  theorem enc_item : ∀ (i : Item) (outer seq : List Nat) (rest : List Ev),
      i.typable outer = true → (∀ m ∈ outer, seqMod m = true) →
      encodeEvents (i.events ++ rest) outer seq false =
        encodeEvents rest outer (seq ++ codes i.events outer) (isRelease rest.head?) ∧
      heldAfter i.events outer = outer ∧ isPress i.events.head? = true
    | .key kc, outer, seq, rest, ht, ho => by
      simp only [Item.typable] at ht
      have h := enc_key kc outer seq rest ht ho
      simp only [Item.events, List.cons_append, List.nil_append, codes, heldAfter, List.head?_cons, isPress]
      exact ⟨h.1, by rw [h.2], trivial⟩
    | .chord ms kc, outer, seq, rest, ht, ho => by
      simp only [Item.typable, Bool.and_eq_true, List.all_eq_true, decide_eq_true_eq] at ht
      obtain ⟨⟨hms, hnd⟩, hk⟩ := ht
      have hev : (Item.chord ms kc).events =
          ms.map Ev.press ++ (Ev.press kc :: Ev.release kc :: (ms.reverse.map Ev.release)) := by
        simp [Item.events]
      have hkk := enc_key kc (outer ++ ms) (seq ++ codes (ms.map Ev.press) outer)
        (ms.reverse.map Ev.release ++ rest) hk (List.forall_mem_append.2 ⟨ho, hms⟩)
      have hr := enc_releases ms.reverse (outer ++ ms)
        (seq ++ codes (ms.map Ev.press) outer ++ [pushedOf kc (modMaskOf (outer ++ ms ++ [kc]))]) rest
        ((List.reverse_perm ms).nodup_iff.2 (List.nodup_append.1 hnd).2.1)
        (fun m hm => List.mem_append_right _ (List.mem_reverse.1 hm)) fun m hm => hms m (List.mem_reverse.1 hm)
      have hrh := heldAfter_releases ms.reverse ms outer (List.reverse_perm ms) hnd
      have hheld : heldAfter (Item.chord ms kc).events outer = outer := by
        rw [hev, heldAfter_append, heldAfter_presses]
        show heldAfter _ ((outer ++ ms ++ [kc]).erase kc) = outer
        rw [hkk.2, hrh]
      have hcodes : codes (Item.chord ms kc).events outer =
          codes (ms.map Ev.press) outer ++ [pushedOf kc (modMaskOf (outer ++ ms ++ [kc]))] := by
        rw [hev, codes_append, heldAfter_presses]
        show _ ++ _ :: codes _ ((outer ++ ms ++ [kc]).erase kc) = _
        rw [codes_releases]
      refine ⟨?_, hheld, hev ▸ isPress_head_map_press ms _ rfl⟩
      rw [hcodes, hev, List.append_assoc, List.cons_append, List.cons_append,
        enc_press_mods ms outer seq false _ rfl ho hms, hkk.1, hr, hrh, List.append_assoc]
    | .held ms body, outer, seq, rest, ht, ho => by
      simp only [Item.typable, Bool.and_eq_true, List.all_eq_true, decide_eq_true_eq, Bool.not_eq_true',
        List.isEmpty_eq_false_iff] at ht
      obtain ⟨⟨⟨hms, hnd⟩, hbne⟩, hbody⟩ := ht
      have hev : (Item.held ms body).events = ms.map Ev.press ++ (Item.eventsList body ++ ms.map Ev.release) := by
        simp [Item.events]
      have hb := enc_list body (outer ++ ms) (seq ++ codes (ms.map Ev.press) outer) (ms.map Ev.release ++ rest)
        hbody (List.forall_mem_append.2 ⟨ho, hms⟩)
      have hbp := hb.2.2 hbne
      have hr := enc_releases ms (outer ++ ms)
        (seq ++ codes (ms.map Ev.press) outer ++ codes (Item.eventsList body) (outer ++ ms)) rest
        (List.nodup_append.1 hnd).2.1 (fun m hm => List.mem_append_right _ hm) hms
      have hrh := heldAfter_releases ms ms outer (List.Perm.refl ms) hnd
      have hheld : heldAfter (Item.held ms body).events outer = outer := by
        rw [hev, heldAfter_append, heldAfter_presses, heldAfter_append, hb.2.1, hrh]
      have hcodes : codes (Item.held ms body).events outer =
          codes (ms.map Ev.press) outer ++ codes (Item.eventsList body) (outer ++ ms) := by
        rw [hev, codes_append, heldAfter_presses, codes_append, codes_releases, List.append_nil]
      refine ⟨?_, hheld, hev ▸ isPress_head_map_press ms _ (isPress_head_append hbp)⟩
      have hb1 := hb.1
      rw [isRelease_of_isPress (isPress_head_append hbp)] at hb1
      rw [hcodes, hev, List.append_assoc, List.append_assoc,
        enc_press_mods ms outer seq false _ (isPress_head_append hbp) ho hms, hb1, hr, hrh, List.append_assoc]
    | .sub body, outer, seq, rest, ht, ho => by
      simp only [Item.typable, Bool.and_eq_true, Bool.not_eq_true', List.isEmpty_eq_false_iff] at ht
      have hb := enc_list body outer seq rest ht.2 ho
      have hbp := hb.2.2 ht.1
      rw [isRelease_of_isPress (isPress_head_append hbp)] at hb
      exact ⟨hb.1, hb.2.1, hbp⟩
  /-- a key list, possibly empty: the parser's flag is kept equal to "the next event is a release" -/
  theorem enc_list : ∀ (is : List Item) (outer seq : List Nat) (rest : List Ev),
      Item.typableList outer is = true → (∀ m ∈ outer, seqMod m = true) →
      encodeEvents (Item.eventsList is ++ rest) outer seq (isRelease (Item.eventsList is ++ rest).head?) =
        encodeEvents rest outer (seq ++ codes (Item.eventsList is) outer) (isRelease rest.head?) ∧
      heldAfter (Item.eventsList is) outer = outer ∧ (is ≠ [] → isPress (Item.eventsList is).head? = true)
    | [], _, _, _, _, _ => by simp [Item.eventsList, codes, heldAfter]
    | i :: is, outer, seq, rest, ht, ho => by
      simp only [Item.typableList, Bool.and_eq_true] at ht
      have hi := enc_item i outer seq (Item.eventsList is ++ rest) ht.1 ho
      have hr := enc_list is outer (seq ++ codes i.events outer) rest ht.2 ho
      have hp : isPress (i.events ++ Item.eventsList is).head? = true := isPress_head_append hi.2.2
      simp only [Item.eventsList]
      refine ⟨?_, by rw [heldAfter_append, hi.2.1, hr.2.1], fun _ => hp⟩
      rw [isRelease_of_isPress (isPress_head_append hp), List.append_assoc, hi.1, hr.1, codes_append, hi.2.1,
        List.append_assoc]
end

theorem enc_items : ∀ (is : List Item) (outer seq : List Nat) (rest : List Ev), is ≠ [] →
      Item.typableList outer is = true → (∀ m ∈ outer, seqMod m = true) →
      encodeEvents (Item.eventsList is ++ rest) outer seq false =
        encodeEvents rest outer (seq ++ codes (Item.eventsList is) outer) (isRelease rest.head?) ∧
      heldAfter (Item.eventsList is) outer = outer ∧ isPress (Item.eventsList is).head? = true
    | is, outer, seq, rest, hne, ht, ho => by
      have h := enc_list is outer seq rest ht ho
      rw [isRelease_of_isPress (isPress_head_append (h.2.2 hne))] at h
      exact ⟨h.1, h.2.1, h.2.2 hne⟩

def evKey : Ev → Nat
  | .press k => k
  | .release k => k

/-- the keys pressed by a stream of key events, in order -/
def pressedOf : List Ev → List Nat
  | [] => []
  | .press k :: r => k :: pressedOf r
  | .release _ :: r => pressedOf r

theorem keysOfM_append (a b : List InpM) : keysOfM (a ++ b) = keysOfM a ++ keysOfM b := by
  induction a with
  | nil => rfl
  | cons i a ih => cases i <;> simp only [List.cons_append, keysOfM, ih]

theorem keysOfM_callsOf (p : List PEv) : ∀ (held : List Nat),
    keysOfM (callsOf p held) = pressedOf (evsOf p) := by
  induction p with
  | nil => exact fun _ => rfl
  | cons ev r ih =>
    intro held
    cases ev with
    | press k => exact congrArg (k :: ·) (ih (held ++ [k]))
    | release k => rw [callsOf, keysOfM_append, ih]; split <;> rfl
    | tick => exact ih held

mutual
  theorem typable_facts : ∀ (i : Item) (outer : List Nat), i.typable outer = true →
      i.hasEmptySub = false ∧ ∀ e ∈ i.events, (seqMod (evKey e) || seqKey (evKey e)) = true
    | .key kc, outer, ht => by
      simp only [Item.typable] at ht
      simp [Item.hasEmptySub, Item.events, evKey, ht]
    | .chord ms kc, outer, ht => by
      simp only [Item.typable, Bool.and_eq_true, List.all_eq_true, decide_eq_true_eq] at ht
      refine ⟨rfl, ?_⟩
      intro e he
      simp only [Item.events, List.mem_append, List.mem_map, List.mem_reverse, List.mem_singleton] at he
      rcases he with ⟨a, ha, rfl⟩ | ⟨a, ha, rfl⟩ <;> rcases ha with ha | ha
      · simp [evKey, ht.1.1 a ha]
      · simp [evKey, ha, ht.2]
      · simp [evKey, ht.1.1 a ha]
      · simp [evKey, ha, ht.2]
    | .held ms body, outer, ht => by
      simp only [Item.typable, Bool.and_eq_true, List.all_eq_true, decide_eq_true_eq, Bool.not_eq_true',
        List.isEmpty_eq_false_iff] at ht
      have hb := typable_facts_list body (outer ++ ms) ht.2
      refine ⟨by simp only [Item.hasEmptySub]; exact hb.1, ?_⟩
      intro e he
      simp only [Item.events, List.mem_append, List.mem_map] at he
      rcases he with (⟨a, ha, rfl⟩ | he) | ⟨a, ha, rfl⟩
      · simp [evKey, ht.1.1.1 a ha]
      · exact hb.2 e he
      · simp [evKey, ht.1.1.1 a ha]
    | .sub body, outer, ht => by
      simp only [Item.typable, Bool.and_eq_true, Bool.not_eq_true', List.isEmpty_eq_false_iff] at ht
      have hb := typable_facts_list body outer ht.2
      refine ⟨?_, by simp only [Item.events]; exact hb.2⟩
      simp only [Item.hasEmptySub, Bool.or_eq_false_iff]
      exact ⟨by cases body <;> simp_all, hb.1⟩
  theorem typable_facts_list : ∀ (is : List Item) (outer : List Nat), Item.typableList outer is = true →
      Item.hasEmptySubList is = false ∧ ∀ e ∈ Item.eventsList is, (seqMod (evKey e) || seqKey (evKey e)) = true
    | [], _, _ => by simp [Item.hasEmptySubList, Item.eventsList]
    | i :: is, outer, ht => by
      simp only [Item.typableList, Bool.and_eq_true] at ht
      have h1 := typable_facts i outer ht.1
      have h2 := typable_facts_list is outer ht.2
      refine ⟨by simp [Item.hasEmptySubList, h1.1, h2.1], ?_⟩
      intro e he
      simp only [Item.eventsList, List.mem_append] at he
      rcases he with he | he
      · exact h1.2 e he
      · exact h2.2 e he
end

/-- **parse_sequence_keys stores what typing pushes**: for a key list that can be typed as spelled,
the parser's encoding is the list of values `do_sequence_press_logic` pushes when the list's own
press/release expansion is typed (each press with the mask of the keys then down). -/
theorem parseSequenceKeys_codes : ∀ (is : List Item), Item.typableList [] is = true →
    parseSequenceKeys is = .ok (codes (Item.eventsList is) [])
  | [], _ => rfl
  | i :: is, ht => by
    simp only [Item.typableList, Bool.and_eq_true] at ht
    have hi := enc_item i [] [] [] ht.1 (by simp)
    have hf := typable_facts i [] ht.1
    have ih := parseSequenceKeys_codes is ht.2
    simp only [List.append_nil, List.nil_append, encodeEvents] at hi
    simp only [parseSequenceKeys, hf.1, Bool.false_eq_true, if_false, hi.1, ih, Item.eventsList]
    rw [codes_append, hi.2.1]

theorem okKey_facts (k : Nat) (h : (seqMod k || seqKey k) = true) :
    normaliseMod k &&& KEY_OVERLAP_MARKER = 0 ∧ modMask k &&& KEY_OVERLAP_MARKER = 0 := by
  simp only [Bool.or_eq_true] at h
  rcases h with h | h
  · have := seqMod_facts k h
    rw [this.2.1]
    exact ⟨and_marker_of_lt k this.1, this.2.2.2⟩
  · have := seqKey_facts k h
    rw [this.2.2.1, this.2.1]
    exact ⟨and_marker_of_lt k this.1, by decide⟩

theorem codes_no_ovl (evs : List Ev) : ∀ (held : List Nat),
    (∀ e ∈ evs, (seqMod (evKey e) || seqKey (evKey e)) = true) →
    (∀ m ∈ held, modMask m &&& KEY_OVERLAP_MARKER = 0) →
    ∀ x ∈ codes evs held, x &&& KEY_OVERLAP_MARKER = 0 := by
  induction evs with
  | nil => exact fun _ _ _ x hx => nomatch hx
  | cons ev r ih =>
    intro held he hh x hx
    cases ev with
    | press k =>
      have hk := okKey_facts k (he (.press k) (by simp))
      have hh' : ∀ m ∈ held ++ [k], modMask m &&& KEY_OVERLAP_MARKER = 0 :=
        List.forall_mem_append.2 ⟨hh, fun m hm => by rw [List.mem_singleton.1 hm]; exact hk.2⟩
      rcases List.mem_cons.1 hx with hx | hx
      · rw [hx, pushedOf, Nat.and_or_distrib_right, hk.1, modMaskOf_and_eq_zero _ _ hh']; rfl
      · exact ih (held ++ [k]) (fun e h => he e (by simp [h])) hh' x hx
    | release k =>
      exact ih (held.erase k) (fun e h => he e (by simp [h]))
        (fun m hm => hh m (List.mem_of_mem_erase hm)) x hx

theorem orderingsF_noovl (f : Nat) : ∀ (seq : List Nat), seq.length ≤ f →
    (∀ x ∈ seq, x &&& KEY_OVERLAP_MARKER = 0) → orderingsF f seq = some [seq] := by
  induction f with
  | zero =>
    intro seq h _
    cases seq with
    | nil => rfl
    | cons _ _ => simp at h
  | succ f ih =>
    intro seq h hx
    cases seq with
    | nil => rfl
    | cons v rest =>
      have := ih rest (Nat.le_of_succ_le_succ h) fun x hx' => hx x (List.mem_cons_of_mem _ hx')
      simp [orderingsF, hx v (by simp), this]

/-- what an accepted table stores for a key list that can be typed as spelled: the word its own
press/release expansion pushes at run time, with the entry's virtual key -/
theorem typable_stored {tbl : List (Nat × List Item)} {t : Trie Nat} (h : parseSequences tbl = .ok t)
    {v : Nat} {items : List Item} (hm : (v, items) ∈ tbl) (ht : Item.typableList [] items = true) :
    (codes (Item.eventsList items) [], v) ∈ t.entries := by
  obtain ⟨seq, os, henc, hos, hall⟩ := stored_orderings h hm
  have hseq : seq = codes (Item.eventsList items) [] := by
    unfold encOf at henc
    rw [parseSequenceKeys_codes items ht] at henc
    split at henc
    · simp at henc
    · simpa using henc.symm
  have hno : ∀ x ∈ seq, x &&& KEY_OVERLAP_MARKER = 0 := by
    rw [hseq]
    exact codes_no_ovl _ [] (typable_facts_list items [] ht).2 (by simp)
  have : os = [seq] := by
    have := orderingsF_noovl seq.length seq (Nat.le_refl _) hno
    unfold orderings at hos
    rw [this] at hos
    simpa using hos.symm
  rw [← hseq]
  exact hall seq (by rw [this]; simp)

/-! ### the stripped forms, specialised -/

/-- what the loop does to an element that is not a bare marker -/
def strip (mc : Bool) (x : Nat) : Nat := if mc then x &&& MASK_KEYCODES else x &&& NOT_OVERLAP_MARKER

theorem map_eq_self {f : Nat → Nat} {l : List Nat} (h : ∀ x ∈ l, f x = x) : l.map f = l :=
  (List.map_congr_left h).trans (List.map_id l)

theorem filterMap_stripOpt_of_no_marker (mc : Bool) (l : List Nat) (h : ∀ x ∈ l, x ≠ KEY_OVERLAP_MARKER) :
    l.filterMap (stripOpt mc) = l.map (strip mc) := by
  induction l with
  | nil => rfl
  | cons x l ih =>
    have hx : stripOpt mc x = some (strip mc x) := if_neg (h x (by simp))
    rw [List.filterMap_cons, hx, List.map_cons, ih fun y hy => h y (by simp [hy])]

/-- on a sequence without bare markers the `i`-th form keeps the first `i` elements and strips the rest -/
theorem btForm_no_marker (mc : Bool) (seq : List Nat) (i : Nat) (h : ∀ x ∈ seq, x ≠ KEY_OVERLAP_MARKER) :
    btForm mc seq i = seq.take i ++ (seq.drop i).map (strip mc) := by
  unfold btForm
  rw [filterMap_stripOpt_of_no_marker mc _ (fun x hx => h x (List.mem_of_mem_drop hx))]

theorem and_notmarker_id {x : Nat} (hlt : x < 65536) (hb : x &&& KEY_OVERLAP_MARKER = 0) :
    x &&& NOT_OVERLAP_MARKER = x := by
  have h1 : x &&& 65535 = x := by
    have := Nat.and_two_pow_sub_one_eq_mod x 16
    have h2 : (2 : Nat) ^ 16 - 1 = 65535 := by decide
    rw [h2] at this
    rw [this]; exact Nat.mod_eq_of_lt hlt
  have h3 : (65535 : Nat) = NOT_OVERLAP_MARKER ||| KEY_OVERLAP_MARKER := by decide
  rw [h3, Nat.and_or_distrib_left, hb, Nat.or_zero] at h1
  exact h1

theorem ne_marker_of_no_ovl {x : Nat} (h : x &&& KEY_OVERLAP_MARKER = 0) : x ≠ KEY_OVERLAP_MARKER := by
  intro he; rw [he] at h; exact marker_ovl h

/-- without `sequence-backtrack-modcancel` the loop changes nothing in a sequence of u16 values that
carry no overlap bit: every form is the sequence itself -/
theorem btForm_false_id (seq : List Nat) (i : Nat) (h : ∀ x ∈ seq, x < 65536 ∧ x &&& KEY_OVERLAP_MARKER = 0) :
    btForm false seq i = seq := by
  rw [btForm_no_marker false seq i (fun x hx => ne_marker_of_no_ovl (h x hx).2),
    map_eq_self (f := strip false) fun x hx =>
      and_notmarker_id (h x (List.mem_of_mem_drop hx)).1 (h x (List.mem_of_mem_drop hx)).2,
    List.take_append_drop]

theorem btFind_false_none (t : Trie Nat) (seq : List Nat)
    (h : ∀ x ∈ seq, x < 65536 ∧ x &&& KEY_OVERLAP_MARKER = 0) (hv : viable t.entries seq = false) :
    ∀ n, btFind t false seq n = none := by
  intro n
  exact btFind_none.2 (fun j _ => by rw [btForm_false_id seq j h]; exact hv)

theorem btForm_snoc (mc : Bool) (seq : List Nat) (p i : Nat) (hi : i ≤ seq.length)
    (hp : p ≠ KEY_OVERLAP_MARKER) : btForm mc (seq ++ [p]) i = btForm mc seq i ++ [strip mc p] := by
  unfold btForm
  rw [List.take_append_of_le_length hi, List.drop_append_of_le_length hi, List.filterMap_append]
  simp [stripOpt, hp, strip]

/-! ### tables that mix modifier sequences and `O-(…)` groups: the exact path -/

/-- adjacent pairs of a key -/
def adjPairs (k : Key) : List (Nat × Nat) := k.zip k.tail

theorem mem_adjPairs (a : Key) (x y : Nat) (b : Key) : (x, y) ∈ adjPairs (a ++ x :: y :: b) := by
  induction a with
  | nil => simp [adjPairs]
  | cons z a ih =>
    cases a with
    | nil => simp [adjPairs]
    | cons z' a' =>
      simp only [adjPairs, List.cons_append, List.tail_cons, List.zip_cons_cons, List.mem_cons] at ih ⊢
      exact Or.inr ih

/-- a word in which `a` is directly followed by `b` is a prefix of no stored key, unless some stored
key has that pair -/
theorem not_viable_of_adj {tbl : List (Key × Nat)} {a b : Nat} (h : ∀ e ∈ tbl, (a, b) ∉ adjPairs e.1)
    (l1 l2 : Key) : viable tbl (l1 ++ a :: b :: l2) = false :=
  viable_eq_false_iff.2 fun e he ⟨r, hr⟩ =>
    h e he (by rw [← hr, List.append_assoc]; exact mem_adjPairs l1 a b (l2 ++ r))

/-- a bare marker is never the first element of the key nor directly preceded by an element without
the overlap bit (markers only close `O-(…)` groups) -/
def markerOK (k : Key) : Bool :=
  (k.head? != some KEY_OVERLAP_MARKER) &&
    (adjPairs k).all (fun p => !(p.2 == KEY_OVERLAP_MARKER) || (p.1 &&& KEY_OVERLAP_MARKER != 0))

def markerWF (tbl : List (Key × Nat)) : Bool := tbl.all (fun e => markerOK e.1)

/-- no key of the word `s` occurs in the table as a member of an `O-(…)` group -/
def ovlFormFree (tbl : List (Key × Nat)) (s : Key) : Bool :=
  s.all (fun x => tbl.all (fun e => !e.1.contains (ovlForm x)))

theorem ovlFormFree_iff {tbl : List (Key × Nat)} {s : Key} :
    ovlFormFree tbl s = true ↔ ∀ x ∈ s, ∀ e ∈ tbl, ovlForm x ∉ e.1 := by
  simp only [ovlFormFree, List.all_eq_true, Bool.not_eq_true', List.contains_eq_mem, decide_eq_false_iff_not]

/-- the last element, if any, carries no overlap bit -/
def lastPlain (S : Key) : Prop := ∀ z, S.getLast? = some z → z &&& KEY_OVERLAP_MARKER = 0

theorem lastPlain_of_all {S : Key} (h : ∀ x ∈ S, x &&& KEY_OVERLAP_MARKER = 0) : lastPlain S :=
  fun z hz => h z (List.mem_of_getLast? hz)

theorem markerDead_of_markerWF {tbl : List (Key × Nat)} (hw : markerWF tbl = true) {S : Key}
    (hS : lastPlain S) : markerDead tbl S := by
  simp only [markerWF, markerOK, List.all_eq_true, Bool.and_eq_true, bne_iff_ne, ne_eq, Bool.or_eq_true,
    Bool.not_eq_true', beq_eq_false_iff_ne] at hw
  intro tail
  rcases List.eq_nil_or_concat S with rfl | ⟨S', z, rfl⟩
  · exact viable_eq_false_iff.2 fun e he ⟨r, hr⟩ => (hw e he).1 (by rw [← hr]; rfl)
  · rw [List.concat_eq_append, List.append_assoc]
    refine not_viable_of_adj (fun e he hmem => ?_) S' tail
    rcases (hw e he).2 _ hmem with h | h
    · exact h rfl
    · exact h (hS z (by simp))

theorem noOvl_markerWF {tbl : List (Key × Nat)} (h : noOvlTable tbl = true) : markerWF tbl = true := by
  simp only [noOvlTable, List.all_eq_true, beq_iff_eq] at h
  simp only [markerWF, markerOK, List.all_eq_true, Bool.and_eq_true, bne_iff_ne, ne_eq, Bool.or_eq_true,
    Bool.not_eq_true', beq_eq_false_iff_ne]
  intro e he
  have hm : ∀ x ∈ e.1, x ≠ KEY_OVERLAP_MARKER := fun x hx => ne_marker_of_no_ovl (h e he x hx)
  exact ⟨fun hh => hm _ (List.mem_of_mem_head? hh) rfl,
    fun p hp => Or.inl (hm p.2 (List.mem_of_mem_tail (List.of_mem_zip hp).2))⟩
theorem noOvl_ovlFormFree {tbl : List (Key × Nat)} (h : noOvlTable tbl = true) (s : Key) :
    ovlFormFree tbl s = true :=
  ovlFormFree_iff.2 fun _ _ => noOvl_absent h (or_marker_ovl _)

/-! ### a plain table typed while unrelated modifiers are held -/

/-- a mask made of modifier bits only (bits 11..15) -/
theorem mask_low_zero {mm : Nat} (h : mm % 2048 = 0) :
    mm &&& MASK_KEYCODES = 0 ∧ mm &&& KEY_OVERLAP_MARKER = 0 := by
  have h1 : mm &&& 2047 = 0 := by
    have := Nat.and_two_pow_sub_one_eq_mod mm 11
    have h2 : (2 : Nat) ^ 11 - 1 = 2047 := by decide
    rw [h2] at this; rw [this]; exact h
  constructor
  · have : MASK_KEYCODES = 2047 &&& MASK_KEYCODES := by decide
    rw [this, ← Nat.and_assoc, h1]; simp
  · have : KEY_OVERLAP_MARKER = 2047 &&& KEY_OVERLAP_MARKER := by decide
    rw [this, ← Nat.and_assoc, h1]; simp

theorem masked_plain_facts {k mm : Nat} (hk : k < 1024) (hm : mm % 2048 = 0) :
    (k ||| mm) &&& MASK_KEYCODES = k ∧ (k ||| mm) &&& KEY_OVERLAP_MARKER = 0 := by
  have hl := mask_low_zero hm
  constructor
  · rw [Nat.and_or_distrib_right, and_mask_of_lt k hk, hl.1]; simp
  · rw [Nat.and_or_distrib_right, and_marker_of_lt k hk, hl.2]; rfl

theorem strip_idem (mc : Bool) (x : Nat) : strip mc (strip mc x) = strip mc x := by
  cases mc <;> simp only [strip, if_true, Bool.false_eq_true, if_false, Nat.and_assoc, Nat.and_self]

theorem strip_no_ovl (mc : Bool) (x : Nat) : strip mc x &&& KEY_OVERLAP_MARKER = 0 := by
  cases mc <;> simp only [strip, if_true, Bool.false_eq_true, if_false, Nat.and_assoc]
  · exact Nat.and_zero x
  · exact Nat.and_zero x

theorem btFind_congr {t : Trie Nat} {mc : Bool} {a b : List Nat} : ∀ n,
    (∀ j, j < n → btForm mc a j = btForm mc b j) → btFind t mc a n = btFind t mc b n
  | 0, _ => rfl
  | n + 1, h => by
    rw [btFind, btFind, h n (Nat.lt_succ_self n), btFind_congr n fun j hj => h j (Nat.lt_succ_of_lt hj)]

/-- when the sequence itself is not in the trie, the loop's first step — stripping the last element —
may as well be done beforehand -/
theorem stdVariant_strip_last (t : Trie Nat) (mc : Bool) (seq : List Nat) {p : Nat}
    (hp : p ≠ KEY_OVERLAP_MARKER) (hv : viable t.entries (seq ++ [p]) = false) :
    stdVariant t mc (seq ++ [p]) = stdVariant t mc (seq ++ [strip mc p]) := by
  have hq : strip mc p ≠ KEY_OVERLAP_MARKER := ne_marker_of_no_ovl (strip_no_ovl mc p)
  have hforms : ∀ i, i ≤ seq.length → btForm mc (seq ++ [p]) i = btForm mc (seq ++ [strip mc p]) i :=
    fun i hi => by rw [btForm_snoc mc seq p i hi hp, btForm_snoc mc seq _ i hi hq, strip_idem]
  have hlen : btForm mc (seq ++ [strip mc p]) seq.length = seq ++ [strip mc p] := by
    rw [btForm_snoc mc seq _ _ (Nat.le_refl _) hq, btForm_length, strip_idem]
  rw [stdVariant_eq, stdVariant_eq, hv]
  simp only [List.length_append, List.length_singleton, btFind, hforms _ (Nat.le_refl _), hlen,
    Bool.false_eq_true, if_false]
  cases hv' : viable t.entries (seq ++ [strip mc p]) with
  | true => simp only [if_true, hforms _ (Nat.le_refl _), hlen]
  | false =>
    simp only [Bool.false_eq_true, if_false]
    rw [btFind_congr seq.length fun j hj => hforms j (Nat.le_of_lt hj)]
    cases hf : btFind t mc (seq ++ [strip mc p]) seq.length with
    | none => simp only [hforms 0 (Nat.zero_le _)]
    | some i => simp only [hforms i (Nat.le_of_lt (btFind_some hf).1)]

/-- **`sequence-backtrack-modcancel yes`, plain table**: a plain key pressed while modifiers are held
(any mask of modifier bits) is processed exactly as if none were held. -/
theorem doSeqPress_modcancel_plain {t : Trie Nat} (hp : PlainTrie t) (e : Eng) {k : Nat} (mm : Nat)
    (hk : plainKey k = true) (hm : mm % 2048 = 0) :
    doSeqPress t true e k mm = doSeqPress t true e k 0 := by
  have hk1 := plainKey_lt hk
  have hf := masked_plain_facts hk1 hm
  have hn := plainTrie_noOvl hp
  -- the standard variant: the pushed value is the key itself, or is not in the table and is stripped to it
  have hstd : stdVariant t true (e.st.sequence ++ [k ||| mm]) = stdVariant t true (e.st.sequence ++ [k]) := by
    by_cases hlt : k ||| mm < 1024
    · rw [show k ||| mm = k from (and_mask_of_lt _ hlt).symm.trans hf.1]
    · rw [stdVariant_strip_last t true _ (ne_marker_of_no_ovl hf.2) (not_viable_of_big hp (by simp) hlt)]
      exact congrArg (fun x => stdVariant t true (e.st.sequence ++ [x])) hf.1
  -- the overlap variant finds nothing and records the key without its modifier bits
  have hovl : ∀ p, p &&& MASK_KEYCODES = k →
      overlapFix t e.st.overlapped p (ovlForm p) =
        (e.st.overlapped ++ [KEY_OVERLAP_MARKER, k], .notInTrie, true) := by
    intro p hpk
    rw [overlapFix_dead (markerDead_of_noOvl hn _) p (noOvl_absent hn (or_marker_ovl _)), hpk]
    split
    · rename_i h; rw [← h]
    · rfl
  show finish t (reconcile t (pressBase e k) (stdVariant t true (e.st.sequence ++ [normaliseMod k ||| mm]))
      (overlapFix t e.st.overlapped (normaliseMod k ||| mm) (ovlForm (normaliseMod k ||| mm)))) =
    finish t (reconcile t (pressBase e k) (stdVariant t true (e.st.sequence ++ [normaliseMod k ||| 0]))
      (overlapFix t e.st.overlapped (normaliseMod k ||| 0) (ovlForm (normaliseMod k ||| 0))))
  rw [plainKey_normalise hk, Nat.or_zero, hstd, hovl _ hf.1, hovl _ (and_mask_of_lt k hk1)]

theorem lvs_snoc_absent {tbl : List (Key × Nat)} {x : Nat} (hx : ∀ e ∈ tbl, x ∉ e.1) (w : Key) :
    lvs tbl (w ++ [x]) = [] := by
  induction w with
  | nil => rw [List.nil_append, lvs, not_viable_of_absent hx (by simp)]; rfl
  | cons y w ih => rw [List.cons_append, lvs, not_viable_of_absent hx (by simp)]; exact ih

/-- a key whose pushed value occurs in no stored key, and which the backtracking loop leaves as it
is, cancels the sequence: every form of the sequence still ends in that value -/
theorem doSeqPress_absent {t : Trie Nat} (hne : ∀ j, t.getOrDescendant [] ≠ .hasValue j) (mc : Bool)
    (e : Eng) (k mm : Nat) (hO : markerDead t.entries e.st.overlapped)
    (habs : ∀ x ∈ t.entries, ovlForm (pushedOf k mm) ∉ x.1) (hp : ∀ x ∈ t.entries, pushedOf k mm ∉ x.1)
    (hst : strip mc (pushedOf k mm) = pushedOf k mm) (hM : pushedOf k mm ≠ KEY_OVERLAP_MARKER) :
    ∃ ovl, doSeqPress t mc e k mm = cancelSequence
      { pressBase e k with st := { (pressBase e k).st with sequence := [], overlapped := ovl } } := by
  have hforms : ∀ j, j ≤ e.st.sequence.length →
      btForm mc (e.st.sequence ++ [pushedOf k mm]) j = btForm mc e.st.sequence j ++ [pushedOf k mm] :=
    fun j hj => by rw [btForm_snoc mc _ _ j hj hM, hst]
  have hsettle : stdSettle t mc (e.st.sequence ++ [pushedOf k mm]) = none :=
    stdSettle_eq_none.2 ⟨not_viable_of_absent hp (by simp), fun j hj => by
      rw [hforms j (by simpa [Nat.lt_succ_iff] using hj)]; exact not_viable_of_absent hp (by simp)⟩
  rw [doSeqPress_closed hne mc e k mm hO habs]
  simp only [hsettle, hforms 0 (Nat.zero_le _), lvs_snoc_absent hp, List.isEmpty_nil, if_true]
  exact ⟨_, rfl⟩

/-- **`sequence-backtrack-modcancel no`, plain table**: a plain key pressed while a modifier is held
(a non-zero mask of modifier bits) cancels the sequence — nothing is tapped. -/
theorem doSeqPress_nomodcancel_plain {t : Trie Nat} (hp : PlainTrie t) (e : Eng) {k : Nat} (mm : Nat)
    (hk : plainKey k = true) (hm : mm % 2048 = 0) (hm0 : mm ≠ 0) (hm16 : mm < 65536) :
    ∃ ovl, doSeqPress t false e k mm = cancelSequence
      { pressBase e k with st := { (pressBase e k).st with sequence := [], overlapped := ovl } } := by
  have hk1 := plainKey_lt hk
  have hf := masked_plain_facts hk1 hm
  have hn := plainTrie_noOvl hp
  have hbig : ¬ (k ||| mm) < 1024 := by
    have h1 : mm ≤ k ||| mm := Nat.right_le_or
    omega
  have h16 : k ||| mm < 65536 := by
    have : k ||| mm < 2 ^ 16 := Nat.or_lt_two_pow (by omega) (by omega)
    simpa using this
  have hpush : pushedOf k mm = k ||| mm := by rw [pushedOf, plainKey_normalise hk]
  refine doSeqPress_absent (plainTrie_no_empty hp) false e k mm (markerDead_of_noOvl hn _)
    (noOvl_absent hn (or_marker_ovl _)) ?_ ?_ ?_ <;> rw [hpush]
  · exact fun x hx hin => hbig (plainKey_lt (plain_of_mem hp (s := x.1) (j := x.2) hx _ hin))
  · exact and_notmarker_id h16 hf.2
  · exact ne_marker_of_no_ovl hf.2

/-- forgetting the masks -/
def forgetM : List InpM → List Inp
  | [] => []
  | .key k _ :: r => .key k :: forgetM r
  | .tick :: r => .tick :: forgetM r
  | .released :: r => .released :: forgetM r

/-- plain keys, each pressed under some mask of modifier bits -/
def PlainHeld : List InpM → Prop
  | [] => True
  | .key k mm :: r => plainKey k = true ∧ mm % 2048 = 0 ∧ PlainHeld r
  | _ :: r => PlainHeld r

/-- **`sequence-backtrack-modcancel yes`, plain table, whole histories**: holding modifiers while
typing plain keys changes nothing — the run is the run without masks. -/
theorem engRunM_modcancel_plain {t : Trie Nat} (hp : PlainTrie t) (is : List InpM) : ∀ (e : Eng),
    PlainHeld is → engRunM t true e is = engRun t true e (forgetM is) := by
  induction is with
  | nil => exact fun _ _ => rfl
  | cons i r ih =>
    intro e hh
    cases i with
    | key k mm =>
      simp only [engRunM, engStepM, forgetM, engRun, engStep, doSeqPress_modcancel_plain hp e mm hh.1 hh.2.1]
      exact ih _ hh.2.2
    | tick =>
      simp only [engRunM, engStepM, forgetM, engRun, engStep]
      cases tickSeq e with
      | error c => rfl
      | ok e1 => exact ih e1 hh
    | released => exact ih _ hh

/-! ### `O-(…)` groups: typing the members while at least one key stays down, then releasing -/

/-- a key as a member of an `O-(…)` group -/
def ovlOf (p : Nat) : Nat := p ||| KEY_OVERLAP_MARKER

theorem ovlOf_and_mask {p : Nat} (h : p < 1024) : ovlOf p &&& MASK_KEYCODES = p := by
  rw [ovlOf, Nat.and_or_distrib_right, and_mask_of_lt p h]; exact Nat.or_zero p

theorem ovlOf_and_notmarker {p : Nat} (h : p < 1024) : ovlOf p &&& NOT_OVERLAP_MARKER = p := by
  rw [ovlOf, Nat.and_or_distrib_right, and_notmarker_of_lt p h]; exact Nat.or_zero p

theorem ovlOf_ne_marker {p : Nat} (h : p < 1024) (h0 : p ≠ 0) : ovlOf p ≠ KEY_OVERLAP_MARKER := by
  intro he
  have := ovlOf_and_mask h
  rw [he] at this
  exact h0 this.symm

theorem ovlForm_of_lt {p : Nat} (h : p < 1024) : ovlForm p = ovlOf p := by
  rw [ovlForm, and_mask_of_lt p h]; rfl

theorem strip_ovlOf (mc : Bool) {p : Nat} (h : p < 1024) : strip mc (ovlOf p) = p := by
  cases mc
  · exact ovlOf_and_notmarker h
  · exact ovlOf_and_mask h

theorem strip_plain (mc : Bool) {p : Nat} (h1 : p < 1024) : strip mc p = p := by
  cases mc
  · exact and_notmarker_of_lt p h1
  · exact and_mask_of_lt p h1

theorem filterMap_stripOpt_map_ovl (mc : Bool) (l : List Nat) (h : ∀ p ∈ l, p < 1024 ∧ p ≠ 0) :
    (l.map ovlOf).filterMap (stripOpt mc) = l := by
  induction l with
  | nil => rfl
  | cons p l ih =>
    have hp := h p (by simp)
    have hs : stripOpt mc (ovlOf p) = some p := by
      rw [stripOpt, if_neg (ovlOf_ne_marker hp.1 hp.2)]
      exact congrArg some (strip_ovlOf mc hp.1)
    rw [List.map_cons, List.filterMap_cons, hs, ih fun q hq => h q (by simp [hq])]

/-- in no stored key is an element with the overlap bit (a group member or a marker) directly followed
by one of the plain keys `ps` -/
def ovlThenPlainFree (tbl : List (Key × Nat)) (ps : Key) : Bool :=
  tbl.all (fun e => (adjPairs e.1).all (fun q => !((q.1 &&& KEY_OVERLAP_MARKER != 0) && ps.contains q.2)))

theorem not_viable_ovl_then_plain {tbl : List (Key × Nat)} {ps : Key} (h : ovlThenPlainFree tbl ps = true)
    (l1 : Key) (a b : Nat) (l2 : Key) (ha : a &&& KEY_OVERLAP_MARKER ≠ 0) (hb : b ∈ ps) :
    viable tbl (l1 ++ a :: b :: l2) = false := by
  simp only [ovlThenPlainFree, List.all_eq_true, Bool.not_eq_true', Bool.and_eq_false_iff,
    bne_eq_false_iff_eq, List.contains_eq_mem, decide_eq_false_iff_not] at h
  refine not_viable_of_adj (fun e he hmem => ?_) l1 l2
  rcases h e he _ hmem with h1 | h1
  · exact ha h1
  · exact h1 hb

/-- `finish (reconcile …)` when the standard variant is valid and the overlap variant is inside a group -/
theorem fr_valid (t : Trie Nat) (b : Eng) (W G' : Key) (hv : viable t.entries W = true) :
    finish t (reconcile t b (W, t.getOrDescendant W, false) (G', .inTrie, false)) =
      match lookupKey t.entries W with
      | some j' =>
        (match t.getOrDescendant (G' ++ [KEY_OVERLAP_MARKER]) with
         | .hasValue oj =>
           terminate { b with st := { b.st with sequence := W, overlapped := G' ++ [KEY_OVERLAP_MARKER] } } oj true
         | _ =>
           terminate { b with st := { b.st with sequence := W, overlapped := G' ++ [KEY_OVERLAP_MARKER] } } j' false)
      | none => { b with st := { b.st with sequence := W, overlapped := G' } } := by
  simp only [reconcile, finish]
  rw [getOrDescendant_of_lookup hv]
  cases lookupKey t.entries W with
  | none => rfl
  | some j' => rfl

/-- `finish (reconcile …)` when the standard variant is invalid and the overlap variant is inside a group -/
theorem fr_invalid (t : Trie Nat) (b : Eng) (W G : Key) (q : Nat) (hq1 : q ≠ KEY_OVERLAP_MARKER)
    (hq2 : KEY_OVERLAP_MARKER ≤ q) :
    finish t (reconcile t b (W, .notInTrie, true) (G ++ [q], .inTrie, false)) =
      match t.getOrDescendant (G ++ [q] ++ [KEY_OVERLAP_MARKER]) with
      | .hasValue j' =>
        terminate { b with st := { b.st with
          sequence := G ++ [q] ++ [KEY_OVERLAP_MARKER], overlapped := G ++ [q] ++ [KEY_OVERLAP_MARKER] } } j' true
      | _ => { b with st := { b.st with sequence := G ++ [q] ++ [KEY_OVERLAP_MARKER], overlapped := G ++ [q] } } := by
  have hlast : (G ++ [q]).getLast?.getD 0 = q := by simp
  have hcond : (G ++ [q]).getLast?.getD 0 ≠ KEY_OVERLAP_MARKER ∧ (G ++ [q]).getLast?.getD 0 ≥ KEY_OVERLAP_MARKER := by
    rw [hlast]; exact ⟨hq1, hq2⟩
  simp only [reconcile, finish, if_pos hcond]
  cases hg : t.getOrDescendant (G ++ [q] ++ [KEY_OVERLAP_MARKER]) with
  | hasValue j' => rfl
  | inTrie => rfl
  | notInTrie => rfl

/-- the forms of an open group `G ++ [marker]`: the first `j` members as typed in the group, the
others as plain keys -/
theorem btForm_group (mc : Bool) {P : Key} (hP : ∀ q ∈ P, q < 1024 ∧ q ≠ 0) {j : Nat} (hj : j ≤ P.length) :
    btForm mc (P.map ovlOf ++ [KEY_OVERLAP_MARKER]) j = (P.take j).map ovlOf ++ P.drop j := by
  have hj' : j ≤ (P.map ovlOf).length := by rw [List.length_map]; exact hj
  rw [btForm, List.take_append_of_le_length hj', List.drop_append_of_le_length hj', List.filterMap_append,
    ← List.map_take, ← List.map_drop, filterMap_stripOpt_map_ovl mc _ fun q hq => hP q (List.mem_of_mem_drop hq)]
  simp [stripOpt]

/-- the standard variant finds nothing when it tracks an open group `G ++ [marker]` and a plain
member key arrives (any modcancel setting) -/
theorem group_forms_not_viable {t : Trie Nat} {ps : Key} (hadj : ovlThenPlainFree t.entries ps = true)
    (hpl : ∀ p ∈ ps, plainKey p = true ∧ p ≠ 0) (mc : Bool) (P : Key) (p : Nat)
    (hP : ∀ q ∈ P, q ∈ ps) (hp : p ∈ ps) (hnv : viable t.entries P = false) :
    ∀ j, j < (P.map ovlOf ++ [KEY_OVERLAP_MARKER] ++ [p]).length →
      viable t.entries (btForm mc (P.map ovlOf ++ [KEY_OVERLAP_MARKER] ++ [p]) j) = false := by
  have hp1 := plainKey_lt (hpl p hp).1
  have hP1 : ∀ q ∈ P, q < 1024 ∧ q ≠ 0 := fun q hq => ⟨plainKey_lt (hpl q (hP q hq)).1, (hpl q (hP q hq)).2⟩
  intro j hj
  have hj' : j ≤ P.length + 1 := by simpa [Nat.lt_succ_iff] using hj
  rw [btForm_snoc mc _ p j (by simpa using hj') (ne_marker_of_no_ovl (and_marker_of_lt p hp1)), strip_plain mc hp1]
  rcases Nat.lt_or_ge P.length j with hlt | hle
  · -- nothing is stripped: the marker is followed by `p`
    rw [btForm_ge mc _ j (by simpa [Nat.succ_le_iff] using hlt), List.append_assoc]
    exact not_viable_ovl_then_plain hadj (P.map ovlOf) KEY_OVERLAP_MARKER p [] marker_ovl hp
  · rw [btForm_group mc hP1 hle]
    cases j with
    | zero =>
      -- everything is stripped: the plain word, of which `P` already was in no stored key
      rw [List.take_zero, List.drop_zero, List.map_nil, List.nil_append]
      cases hv : viable t.entries (P ++ [p]) with
      | false => rfl
      | true => rw [viable_of_viable_append hv] at hnv; cases hnv
    | succ j =>
      -- the last member left as typed is followed by a plain key
      have hb : ∃ b l2, P.drop (j + 1) ++ [p] = b :: l2 ∧ b ∈ ps := by
        cases hd : P.drop (j + 1) with
        | nil => exact ⟨p, [], rfl, hp⟩
        | cons b l => exact ⟨b, l ++ [p], rfl, hP b (List.mem_of_mem_drop (hd ▸ List.mem_cons_self ..))⟩
      obtain ⟨b, l2, hbl, hbp⟩ := hb
      rw [List.take_succ_eq_append_getElem hle, List.map_append, List.append_assoc, List.append_assoc, hbl]
      exact not_viable_ovl_then_plain hadj _ _ b l2 (or_marker_ovl _) hbp
theorem notHasValue_of_lookup_none {t : Trie Nat} {w : Key} (h : lookupKey t.entries w = none) :
    t.getOrDescendant w = .inTrie ∨ t.getOrDescendant w = .notInTrie := by
  rw [getOrDescendant_eq, h]
  simp only
  split
  · exact Or.inl rfl
  · exact Or.inr rfl

/-- While the members `P` of an `O-(…)` group have been typed: the overlap variant is inside the
group; the standard variant either still tracks the plain word, or, that word being in no stored
key, has been refilled from the overlap variant. -/
def InGroup (t : Trie Nat) (P : Key) (e : Eng) : Prop :=
  e.st.overlapped = P.map ovlOf ∧
    (e.st.sequence = P ∨ (e.st.sequence = P.map ovlOf ++ [KEY_OVERLAP_MARKER] ∧ viable t.entries P = false))

/-- **one member key of an `O-(…)` group**, pressed (with no modifier held) while the earlier members
`P` are still being tracked: the overlap variant advances inside the group; the standard variant
either still tracks the plain word or is refilled from the overlap variant; the group's virtual key
is tapped by the last member's press unless a longer plain sequence is still possible. -/
theorem group_key_step {t : Trie Nat} (hok : TrieOK t) {ps : Key} {v : Nat}
    (hadj : ovlThenPlainFree t.entries ps = true)
    (hst : (ps.map ovlOf ++ [KEY_OVERLAP_MARKER], v) ∈ t.entries)
    (hpl : ∀ p ∈ ps, plainKey p = true ∧ p ≠ 0) (mc : Bool) (e : Eng) (P : Key) (p : Nat) (R : Key)
    (hps : P ++ p :: R = ps) (hI : InGroup t P e)
    (hA : R ≠ [] → lookupKey t.entries (P ++ [p]) = none)
    (hB : R ≠ [] → lookupKey t.entries ((P ++ [p]).map ovlOf ++ [KEY_OVERLAP_MARKER]) = none) :
    ∃ e2 S' O', e2 = { pressBase e p with st := { (pressBase e p).st with sequence := S', overlapped := O' } } ∧
      ((R = [] ∧ doSeqPress t mc e p 0 = terminate e2 v true) ∨
        (doSeqPress t mc e p 0 = e2 ∧ InGroup t (P ++ [p]) e2)) := by
  obtain ⟨hO, hS⟩ := hI
  have hpin : p ∈ ps := by rw [← hps]; simp
  have hPin : ∀ q ∈ P, q ∈ ps := fun q hq => by rw [← hps]; simp [hq]
  have hp := hpl p hpin
  have hp1 := plainKey_lt hp.1
  have hG : (P ++ [p]).map ovlOf = P.map ovlOf ++ [ovlOf p] := by simp
  have hd : doSeqPress t mc e p 0 = finish t (reconcile t (pressBase e p)
      (stdVariant t mc (e.st.sequence ++ [p])) (overlapFix t e.st.overlapped p (ovlOf p))) := by
    unfold doSeqPress
    simp only [plainKey_normalise hp.1, Nat.or_zero,
      show p &&& MASK_KEYCODES ||| KEY_OVERLAP_MARKER = ovlOf p from ovlForm_of_lt hp1]
  -- the overlap variant advances inside the group
  have hsplit : (P.map ovlOf ++ [ovlOf p]) ++ (R.map ovlOf ++ [KEY_OVERLAP_MARKER]) =
      ps.map ovlOf ++ [KEY_OVERLAP_MARKER] := by rw [← hps]; simp
  have hovl : overlapFix t e.st.overlapped p (ovlOf p) = (P.map ovlOf ++ [ovlOf p], .inTrie, false) := by
    unfold overlapFix
    simp only [hO, getOrDescendant_inTrie_of_proper_prefix hok hst _ _ hsplit (by simp), Trie.GetRes.isNot,
      Bool.not_false, if_true]
  -- the last member completes the stored key of the group
  have hdone : R = [] → t.getOrDescendant (P.map ovlOf ++ [ovlOf p] ++ [KEY_OVERLAP_MARKER]) = .hasValue v := by
    intro hR
    rw [show P.map ovlOf ++ [ovlOf p] ++ [KEY_OVERLAP_MARKER] = ps.map ovlOf ++ [KEY_OVERLAP_MARKER] by
      rw [← hsplit, hR]; simp]
    exact lookup_of_mem t hok _ v hst
  rw [hd, hovl]
  rcases Bool.eq_false_or_eq_true (viable t.entries (P ++ [p])) with hv | hv
  · -- the plain word is still possible: the standard variant tracks it
    have hSP : e.st.sequence = P := hS.resolve_right fun h => by
      rw [viable_of_viable_append hv] at h; exact absurd h.2 (by simp)
    rw [hSP, stdVariant_of_settle (show stdSettle t mc (P ++ [p]) = some _ by rw [stdSettle, hv]; rfl),
      fr_valid t _ _ _ hv]
    cases hl : lookupKey t.entries (P ++ [p]) with
    | none => exact ⟨_, _, _, rfl, Or.inr ⟨rfl, hG.symm, Or.inl rfl⟩⟩
    | some j' =>
      have hR : R = [] := Classical.byContradiction fun hR => by rw [hA hR] at hl; cases hl
      simp only [hdone hR]
      exact ⟨_, _, _, rfl, Or.inl ⟨hR, rfl⟩⟩
  · -- no form of the tracked sequence with `p` is in the trie: refilled from the overlap variant
    have hnone : stdSettle t mc (e.st.sequence ++ [p]) = none := by
      rcases hS with hS | hS
      · have hplain : ∀ x ∈ P ++ [p], x < 1024 := List.forall_mem_append.2
          ⟨fun x hx => plainKey_lt (hpl x (hPin x hx)).1, fun x hx => by rw [List.mem_singleton.1 hx]; exact hp1⟩
        rw [hS]
        exact stdSettle_eq_none.2 ⟨hv, fun j _ => by rw [btForm_plain mc _ j hplain]; exact hv⟩
      · rw [hS.1]
        refine stdSettle_eq_none.2 ⟨?_, group_forms_not_viable hadj hpl mc P p hPin hpin hS.2⟩
        have := not_viable_ovl_then_plain hadj (P.map ovlOf) KEY_OVERLAP_MARKER p [] marker_ovl hpin
        simpa [List.append_assoc] using this
    rw [stdVariant_of_settle_none hnone,
      fr_invalid t _ _ (P.map ovlOf) (ovlOf p) (ovlOf_ne_marker hp1 hp.2) Nat.right_le_or]
    by_cases hR : R = []
    · rw [hdone hR]
      exact ⟨_, _, _, rfl, Or.inl ⟨hR, rfl⟩⟩
    · have hb := hB hR
      rw [hG] at hb
      refine ⟨_, _, _, rfl, Or.inr ⟨?_, hG.symm, Or.inr ⟨by rw [hG], hv⟩⟩⟩
      rcases notHasValue_of_lookup_none hb with h | h <;> rw [h]

/-- the member keys arrive with no modifier held and no all-released hook runs between them (at least
one key stays down) -/
def GroupPresses : List InpM → Prop
  | [] => True
  | .key _ mm :: r => mm = 0 ∧ GroupPresses r
  | .tick :: r => GroupPresses r
  | .released :: _ => False

/-- every timer tick leaves time on the sequence timer (the keys are released before the timeout, too) -/
def WellTimedAll (T : Nat) : Nat → List InpM → Prop
  | _, [] => True
  | b, .tick :: r => 1 < b ∧ WellTimedAll T (b - 1) r
  | b, .released :: r => WellTimedAll T b r
  | _, .key _ _ :: r => WellTimedAll T T r

/-- no proper non-empty prefix of the typed keys is itself defined — neither as a plain sequence nor
as a complete `O-(…)` group -/
def noEarly (tbl : List (Key × Nat)) (ps : Key) : Bool :=
  (List.range ps.length).all (fun i => i == 0 ||
    ((lookupKey tbl (ps.take i)).isNone &&
      (lookupKey tbl ((ps.take i).map ovlOf ++ [KEY_OVERLAP_MARKER])).isNone))

theorem noEarly_spec {tbl : List (Key × Nat)} {ps : Key} (h : noEarly tbl ps = true) (P : Key) (p : Nat)
    (R : Key) (hps : P ++ p :: R = ps) (hR : R ≠ []) :
    lookupKey tbl (P ++ [p]) = none ∧ lookupKey tbl ((P ++ [p]).map ovlOf ++ [KEY_OVERLAP_MARKER]) = none := by
  simp only [noEarly, List.all_eq_true, List.mem_range, Bool.or_eq_true, beq_iff_eq, Bool.and_eq_true,
    Option.isNone_iff_eq_none] at h
  have hlen : P.length + 1 < ps.length := by
    rw [← hps]
    cases R with
    | nil => exact absurd rfl hR
    | cons a R' => simp
  have htake : ps.take (P.length + 1) = P ++ [p] := by
    rw [← hps, show P ++ p :: R = (P ++ [p]) ++ R by simp, List.take_append_of_le_length (by simp)]
    exact List.take_of_length_le (by simp)
  rcases h (P.length + 1) hlen with h0 | h1
  · omega
  · rw [htake] at h1; exact h1

theorem hasKey_append (a b : List InpM) : hasKey (a ++ b) = (hasKey a || hasKey b) := by
  induction a with
  | nil => simp [hasKey]
  | cons i a ih => cases i <;> simp [hasKey, ih]

/-- **typing the members of an `O-(…)` group and releasing them.** -/
theorem group_run {t : Trie Nat} (hok : TrieOK t) {ps : Key} {v : Nat}
    (hadj : ovlThenPlainFree t.entries ps = true)
    (hst : (ps.map ovlOf ++ [KEY_OVERLAP_MARKER], v) ∈ t.entries)
    (hpl : ∀ p ∈ ps, plainKey p = true ∧ p ≠ 0) (hearly : noEarly t.entries ps = true) (mc : Bool) :
    ∀ (pre : List InpM) (e : Eng) (P : Key),
      e.st.active = true → 0 < e.st.ticksUntilTimeout → 0 < e.st.timeout →
      P ++ keysOfM pre = ps → GroupPresses pre → InGroup t P e →
      WellTimedAll e.st.timeout e.st.ticksUntilTimeout pre →
      ∃ e', engRunM t mc e (pre ++ [.released]) = .ok e' ∧ e'.st.active = false ∧ e'.taps = e.taps ++ [v] ∧
        (e.st.mode ≠ .visibleBackspaced → e'.out = e.out) := by
  intro pre
  induction pre with
  | nil =>
    intro e P ha _ _ hP _ hI _
    have hget : t.getOrDescendant (e.st.overlapped ++ [KEY_OVERLAP_MARKER]) = .hasValue v := by
      rw [hI.1, show P = ps by simpa [keysOfM] using hP]; exact lookup_of_mem t hok _ v hst
    have hstep : allReleasedHook t e = terminate
        { e with st := { e.st with overlapped := e.st.overlapped ++ [KEY_OVERLAP_MARKER] } } v true := by
      simp only [allReleasedHook, ha, Bool.not_true, Bool.false_eq_true, if_false, hget]
    have tf := terminate_fields
      { e with st := { e.st with overlapped := e.st.overlapped ++ [KEY_OVERLAP_MARKER] } } v true
    exact ⟨_, by simp only [List.nil_append, engRunM, engStepM, hstep], tf.1, tf.2.1, tf.2.2.2⟩
  | cons i r ih =>
    intro e P ha _ hT hP hg hI hwt
    cases i with
    | tick =>
      obtain ⟨e', h1, h2⟩ := ih
        { e with st := { e.st with ticksUntilTimeout := e.st.ticksUntilTimeout - 1 } } P ha
        (Nat.sub_pos_of_lt hwt.1) hT hP hg hI hwt.2
      exact ⟨e', by simp only [List.cons_append, engRunM, engStepM_tick ha hwt.1]; exact h1, h2⟩
    | released => exact hg.elim
    | key p mm =>
      obtain ⟨rfl, hg⟩ := hg
      obtain ⟨e2, S', O', rfl, hks⟩ := group_key_step hok hadj hst hpl mc e P p (keysOfM r) hP hI
        (fun hR => (noEarly_spec hearly P p _ hP hR).1) (fun hR => (noEarly_spec hearly P p _ hP hR).2)
      -- whatever the press does, it leaves `pressBase e p` with new encodings, tapped or not
      have hrest : ∃ e', engRunM t mc (doSeqPress t mc e p 0) (r ++ [.released]) = .ok e' ∧
          e'.st.active = false ∧ e'.taps = e.taps ++ [v] ∧
          (e.st.mode ≠ .visibleBackspaced → e'.out = (pressBase e p).out) := by
        rcases hks with ⟨hR, hd⟩ | ⟨hd, hI'⟩
        · -- the last member's press completes the group
          rw [hd]
          have tf := terminate_fields
            { pressBase e p with st := { (pressBase e p).st with sequence := S', overlapped := O' } } v true
          exact ⟨_, engRunM_idle t mc _ _ tf.1 (by rw [hasKey_append, keysOfM_eq_nil.1 hR]; rfl),
            tf.1, tf.2.1, tf.2.2.2⟩
        · -- the group is still open; if this was the last member, the release of the keys completes it
          rw [hd]
          exact ih _ (P ++ [p]) ha hT hT
            (by rw [← hP]; simp [keysOfM]) hg hI' hwt
      obtain ⟨e', h1, h2, h3, h4⟩ := hrest
      exact ⟨e', by simp only [List.cons_append, engRunM, engStepM, ha, if_true]; exact h1, h2, h3,
        fun hm => (h4 hm).trans (pressBase_out_hidden e p hm)⟩

/-! ### what the parser stores for a whole-group entry `O-(k1 … kn)` -/

theorem takeWhile_map_ovl (l : List Nat) (h : ∀ k ∈ l, k < 1024 ∧ k ≠ 0) :
    (l.map ovlOf ++ [KEY_OVERLAP_MARKER]).takeWhile (fun x => !isMarker x) = l.map ovlOf ∧
    (l.map ovlOf ++ [KEY_OVERLAP_MARKER]).dropWhile (fun x => !isMarker x) = [KEY_OVERLAP_MARKER] := by
  induction l with
  | nil => simp [isMarker]
  | cons k l ih =>
    have hk := h k (by simp)
    have hne : isMarker (ovlOf k) = false := by
      simp only [isMarker, beq_eq_false_iff_ne]; exact ovlOf_ne_marker hk.1 hk.2
    have ih := ih fun q hq => h q (by simp [hq])
    simp [hne, ih.1, ih.2]

theorem orderings_group (ks : List Nat) (hks : ∀ k ∈ ks, k < 1024 ∧ k ≠ 0) (hne : ks ≠ [])
    (os : List (List Nat)) (h : orderings (ks.map ovlOf ++ [KEY_OVERLAP_MARKER]) = some os)
    (ps : List Nat) (hp : ps.Perm ks) : ps.map ovlOf ++ [KEY_OVERLAP_MARKER] ∈ os := by
  cases ks with
  | nil => exact absurd rfl hne
  | cons k0 ks' =>
    have hk0 := hks k0 (by simp)
    have hf := ovlOf_ne_marker hk0.1 hk0.2
    have htw := takeWhile_map_ovl ks' (fun q hq => hks q (by simp [hq]))
    have hbit : ¬ (ovlOf k0 &&& KEY_OVERLAP_MARKER = 0) := or_marker_ovl k0
    simp only [orderings, List.map_cons, List.cons_append, List.length_cons, orderingsF, hbit, if_false,
      hf, htw.1, htw.2, List.drop_one, List.tail_cons] at h
    split at h
    · simp at h
    · simp only [Option.map_some, Option.some.injEq] at h
      rw [← h]
      simp only [List.map_cons, List.map_nil, List.append_nil]
      have : ps.map ovlOf ∈ perms (ovlOf k0 :: ks'.map ovlOf) := by
        rw [mem_perms]
        have := hp.map ovlOf
        simpa using this
      simp only [List.mem_flatMap, List.mem_singleton]
      exact ⟨_, this, rfl⟩

theorem ovlOf_modded (k : Nat) (h : k < 1024) : ovlOf k &&& MASK_MODDED = KEY_OVERLAP_MARKER := by
  rw [ovlOf, Nat.and_or_distrib_right, and_eq_zero_of_lt h (by decide)]; rfl

theorem hasEmptySubList_keys : ∀ (ks : List Nat), Item.hasEmptySubList (ks.map Item.key) = false
  | [] => rfl
  | k :: ks => by simp [Item.hasEmptySubList, Item.hasEmptySub, hasEmptySubList_keys ks]

theorem isPress_head_keys (ks : List Nat) (rest : List Ev) (h : ks ≠ []) :
    isPress (Item.eventsList (ks.map Item.key) ++ rest).head? = true := by
  cases ks with
  | nil => exact absurd rfl h
  | cons k ks => simp [Item.eventsList, Item.events, isPress]

/-- the member keys of an `O-(…)` list, between the press and the release of the overlap pseudo-key
(the parser's flag kept equal to "the next event is a release") -/
theorem enc_group_keys (ks : List Nat) : ∀ (seq : List Nat) (rest : List Ev),
    (∀ k ∈ ks, plainKey k = true) → isRelease rest.head? = true →
    encodeEvents (Item.eventsList (ks.map Item.key) ++ rest) [KC_OVERLAP] seq
        (isRelease (Item.eventsList (ks.map Item.key) ++ rest).head?) =
      encodeEvents rest [KC_OVERLAP] (seq ++ ks.map ovlOf) true := by
  induction ks with
  | nil => intro seq rest _ hr; simp [Item.eventsList, hr]
  | cons k ks ih =>
    intro seq rest hk hr
    have hkk := hk k (by simp)
    have hno : k ≠ KC_OVERLAP := by
      simp only [plainKey, Bool.and_eq_true, bne_iff_ne, ne_eq] at hkk; exact hkk.2
    have hfold : [KC_OVERLAP].foldl (fun a m => a ||| modMask m) k = ovlOf k := rfl
    have hchk : ¬ (ovlOf k &&& KEY_OVERLAP_MARKER = KEY_OVERLAP_MARKER ∧ ovlOf k &&& MASK_MODDED ≠ KEY_OVERLAP_MARKER) :=
      fun h => h.2 (ovlOf_modded k (plainKey_lt hkk))
    show encodeEvents (Ev.press k :: Ev.release k :: (Item.eventsList (ks.map Item.key) ++ rest))
      [KC_OVERLAP] seq false = _
    simp only [encodeEvents, List.head?_cons, isPress, Bool.false_eq_true, if_false, hfold, hchk, hno, ne_eq,
      not_false_eq_true, if_true]
    rw [ih (seq ++ [ovlOf k]) rest (fun q hq => hk q (by simp [hq])) hr, List.map_cons, List.append_assoc]
    rfl

theorem parseSequenceKeys_group (ks : List Nat) (hne : ks ≠ []) (hk : ∀ k ∈ ks, plainKey k = true) :
    parseSequenceKeys [.held [KC_OVERLAP] (ks.map Item.key)] = .ok (ks.map ovlOf ++ [KEY_OVERLAP_MARKER]) := by
  have hp := isPress_head_keys ks [Ev.release KC_OVERLAP] hne
  have hg := enc_group_keys ks [] [Ev.release KC_OVERLAP] hk rfl
  rw [isRelease_of_isPress hp] at hg
  have hchk : ¬ ((KC_OVERLAP ||| KEY_OVERLAP_MARKER) &&& KEY_OVERLAP_MARKER = KEY_OVERLAP_MARKER ∧
      (KC_OVERLAP ||| KEY_OVERLAP_MARKER) &&& MASK_MODDED ≠ KEY_OVERLAP_MARKER) := by decide
  have hfold : [KC_OVERLAP].foldl (fun a m => a ||| modMask m) KC_OVERLAP = KC_OVERLAP ||| KEY_OVERLAP_MARKER := by
    decide
  simp only [parseSequenceKeys, Item.hasEmptySub, hasEmptySubList_keys, Bool.false_eq_true, if_false,
    Item.events, List.map_cons, List.map_nil, List.cons_append, encodeEvents, hp, if_true,
    List.nil_append, hfold, hchk, ne_eq, not_true_eq_false, hg]
  simp [eraseFirst]

/-- **what an accepted table stores for a whole-group entry**: `O-(k1 … kn)` of plain keys is stored
in every order of its members. -/
theorem group_stored {tbl : List (Nat × List Item)} {t : Trie Nat} (h : parseSequences tbl = .ok t)
    {v : Nat} {ks : List Nat} (hm : (v, [Item.held [KC_OVERLAP] (ks.map Item.key)]) ∈ tbl)
    (hk : ∀ k ∈ ks, plainKey k = true ∧ k ≠ 0) (hne : ks ≠ []) (ps : List Nat) (hp : ps.Perm ks) :
    (ps.map ovlOf ++ [KEY_OVERLAP_MARKER], v) ∈ t.entries := by
  obtain ⟨seq, os, henc, hos, hall⟩ := stored_orderings h hm
  have hseq : seq = ks.map ovlOf ++ [KEY_OVERLAP_MARKER] := by
    unfold encOf at henc
    rw [parseSequenceKeys_group ks hne (fun k hk' => (hk k hk').1)] at henc
    simpa using henc.symm
  rw [hseq] at hos
  exact hall _ (orderings_group ks (fun k hk' => ⟨plainKey_lt (hk k hk').1, (hk k hk').2⟩) hne os hos ps hp)

/-! ### physical typing of a group: all members pressed, then all released -/

theorem callsOf_append (a b : List PEv) : ∀ (held : List Nat),
    callsOf (a ++ b) held = callsOf a held ++ callsOf b (heldAfter (evsOf a) held) := by
  induction a with
  | nil => exact fun _ => rfl
  | cons ev a ih =>
    intro held
    cases ev <;> simp only [List.cons_append, callsOf, evsOf, heldAfter, ih, List.append_assoc]

theorem plainKey_modMask {k : Nat} (h : plainKey k = true) : modMask k = 0 := by
  have : seqKey k = true := by
    simp only [plainKey, Bool.and_eq_true] at h
    simp only [seqKey, Bool.and_eq_true]
    exact ⟨⟨h.1.1.1, h.1.1.2⟩, h.2⟩
  exact (seqKey_facts k this).2.1

theorem GroupPresses_append : ∀ (a b : List InpM), GroupPresses a → GroupPresses b → GroupPresses (a ++ b)
  | [], _, _, hb => hb
  | .key _ _ :: a, b, ha, hb => ⟨ha.1, GroupPresses_append a b ha.2 hb⟩
  | .tick :: a, b, ha, hb => GroupPresses_append a b ha hb
  | .released :: _, _, ha, _ => ha.elim

theorem WellTimedAll_append_left (T : Nat) : ∀ (a c : List InpM) (b : Nat),
    WellTimedAll T b (a ++ c) → WellTimedAll T b a
  | [], _, _, _ => trivial
  | .key _ _ :: a, c, _, h => WellTimedAll_append_left T a c T h
  | .tick :: a, c, b, h => ⟨h.1, WellTimedAll_append_left T a c (b - 1) h.2⟩
  | .released :: a, c, b, h => WellTimedAll_append_left T a c b h

theorem pressedOf_presses : ∀ (ks : List Nat), pressedOf (ks.map Ev.press) = ks
  | [] => rfl
  | k :: ks => congrArg (k :: ·) (pressedOf_presses ks)

theorem pressedOf_releases : ∀ (qs : List Nat), pressedOf (qs.map Ev.release) = []
  | [] => rfl
  | _ :: qs => pressedOf_releases qs

/-- the press phase: keys without modifier bits go down one after the other (timer ticks in between) -/
theorem GroupPresses_callsOf (A : List PEv) : ∀ (held : List Nat), (∀ k, Ev.release k ∉ evsOf A) →
    (∀ k ∈ held ++ pressedOf (evsOf A), modMask k = 0) → GroupPresses (callsOf A held) := by
  induction A with
  | nil => exact fun _ _ _ => trivial
  | cons ev A ih =>
    intro held hr hm
    cases ev with
    | tick => exact ih held hr hm
    | release q => exact absurd (List.mem_cons_self ..) (hr q)
    | press q =>
      have hh : ∀ k ∈ held ++ [q], modMask k = 0 := fun k hk => hm k (by
        rcases List.mem_append.1 hk with h | h
        · exact List.mem_append_left _ h
        · exact List.mem_append_right _ (by rw [List.mem_singleton.1 h]; exact List.mem_cons_self ..))
      exact ⟨modMaskOf_zero _ hh, ih (held ++ [q]) (fun k hk => hr k (List.mem_cons_of_mem _ hk))
        fun k hk => hm k (by simpa [evsOf, pressedOf] using hk)⟩

/-- the release phase: the keys go up in any order; the release that leaves no key down runs the
all-released hook -/
theorem callsOf_releases (B : List PEv) : ∀ (held : List Nat), pressedOf (evsOf B) = [] → held ≠ [] →
    heldAfter (evsOf B) held = [] →
    ∃ T1 T2, callsOf B held = T1 ++ [InpM.released] ++ T2 ∧ GroupPresses T1 ∧ keysOfM T1 = [] ∧ hasKey T2 = false := by
  induction B with
  | nil => exact fun _ _ hne h => absurd h hne
  | cons ev B ih =>
    intro held hp hne h
    cases ev with
    | tick =>
      obtain ⟨T1, T2, h1, h2, h3, h4⟩ := ih held hp hne h
      exact ⟨.tick :: T1, T2, by rw [callsOf, h1]; rfl, h2, h3, h4⟩
    | press _ => exact nomatch hp
    | release q =>
      by_cases hemp : held.erase q = []
      · refine ⟨[], callsOf B [], ?_, trivial, rfl, keysOfM_eq_nil.1 (by rw [keysOfM_callsOf]; exact hp)⟩
        simp [callsOf, hemp, hne]
      · obtain ⟨T1, T2, h1, h2, h3, h4⟩ := ih (held.erase q) hp hemp h
        exact ⟨T1, T2, by simp [callsOf, hemp, h1], h2, h3, h4⟩

/-! ### what one `tick` of the tick-level machine does with a key event (ties `callsOf` to `tick`) -/

theorem pressLoop_skip (c : Cfg) (cur prev l rest : List Nat) (e : Eng) (h : ∀ x ∈ l, x ∈ prev) :
    pressLoop c cur (l ++ rest) prev e = pressLoop c cur rest prev e := by
  induction l with
  | nil => rfl
  | cons x l ih =>
    have hx : prev.contains x = true := by simpa using h x (by simp)
    simp only [List.cons_append, pressLoop, hx, if_true]
    exact ih fun y hy => h y (by simp [hy])

theorem pressLoop_held (c : Cfg) (cur prev l : List Nat) (e : Eng) (h : ∀ x ∈ l, x ∈ prev) :
    pressLoop c cur l prev e = e := by
  have := pressLoop_skip c cur prev l [] e h
  rw [List.append_nil] at this
  exact this

theorem filter_not_contains_nil (prev cur : List Nat) (h : ∀ x ∈ prev, x ∈ cur) :
    prev.filter (fun x => !cur.contains x) = [] := by
  rw [List.filter_eq_nil_iff]
  intro x hx
  simpa using h x hx

/-- **a press tick**: when the event at the head of the queue is the press of a key mapped to the key
code `kc`, not yet down, and `prev_keys` is the list of key codes down (as the previous tick left
it), `tick` calls `do_sequence_press_logic` for exactly that key, with the mask of all keys now down
(`InpM.key kc (modMaskOf (held ++ [kc]))`; an ordinary OS press outside sequence mode), then
`tick_sequence_state`. -/
theorem tick_press (c : Cfg) (k : Kan) (co : Nat × Nat) (q : List QEv) (kc : Nat)
    (hq : k.queue = .press co :: q) (hres : c.resolve co = .key kc) (halw : c.alwaysOn = false)
    (hprev : k.prevKeys = k.states.filterMap KState.keycode) (hnew : kc ∉ k.prevKeys) :
    tick c k =
      (let e0 : Eng := { st := k.seq, states := k.states ++ [.normalKey kc co], out := [] }
       match engStepM c.trie c.modcancel e0 (.key kc (modMaskOf (k.prevKeys ++ [kc]))) with
       | .error x => .error x
       | .ok e1 =>
         match tickSeq e1 with
         | .error x => .error x
         | .ok e2 =>
           .ok ({ queue := q ++ e2.taps.flatMap (fun j => [QEv.press (1, j), QEv.release (1, j)]),
                  states := e2.states, prevKeys := k.prevKeys ++ [kc], seq := e2.st }, e2.out)) := by
  have hcur : (k.states ++ [KState.normalKey kc co]).filterMap KState.keycode = k.prevKeys ++ [kc] := by
    rw [List.filterMap_append, ← hprev]; rfl
  have hrel : k.prevKeys.filter (fun x => !(k.prevKeys ++ [kc]).contains x) = [] :=
    filter_not_contains_nil _ _ (fun x hx => by simp [hx])
  have hne : (k.prevKeys ++ [kc]).isEmpty = false := by simp
  have hloop : ∀ e : Eng, pressLoop c (k.prevKeys ++ [kc]) (k.prevKeys ++ [kc]) k.prevKeys e =
      (if e.st.active then doSeqPress c.trie c.modcancel e kc (modMaskOf (k.prevKeys ++ [kc]))
       else { e with out := e.out ++ osPress kc }) := by
    intro e
    rw [pressLoop_skip c _ _ k.prevKeys [kc] e (fun x hx => hx)]
    have hc : k.prevKeys.contains kc = false := by simpa using hnew
    simp only [pressLoop, hc, Bool.false_eq_true, if_false, halw, Bool.false_and]
  simp only [tick, layoutTick, hq, hres, hcur, hrel, hne, Bool.false_and, Bool.false_eq_true, if_false,
    List.flatMap_nil, hloop, customPress, engStepM]
  rfl

/-- **a release tick**: when the event at the head of the queue is a release, `tick` sends the OS
releases of the keys that went up, runs the all-released hook iff no key is down any more while one
was before (`InpM.released`), presses nothing, then runs `tick_sequence_state`. -/
theorem tick_release (c : Cfg) (k : Kan) (co : Nat × Nat) (q : List QEv)
    (hq : k.queue = .release co :: q)
    (hprev : k.prevKeys = k.states.filterMap KState.keycode) :
    tick c k =
      (let states' := k.states.filter (fun s => !(s.coord == co))
       let cur := states'.filterMap KState.keycode
       let e0 : Eng := { st := k.seq, states := states',
                         out := (k.prevKeys.filter (fun x => !cur.contains x)).flatMap osRelease }
       let e1 := if cur.isEmpty && !k.prevKeys.isEmpty then allReleasedHook c.trie e0 else e0
       match tickSeq e1 with
       | .error x => .error x
       | .ok e2 =>
         .ok ({ queue := q ++ e2.taps.flatMap (fun j => [QEv.press (1, j), QEv.release (1, j)]),
                states := e2.states, prevKeys := cur, seq := e2.st }, e2.out)) := by
  have hsub : ∀ x ∈ (k.states.filter (fun s => !(s.coord == co))).filterMap KState.keycode, x ∈ k.prevKeys := by
    intro x hx
    rw [hprev]
    simp only [List.mem_filterMap, List.mem_filter] at hx ⊢
    obtain ⟨s, ⟨hs, _⟩, hk⟩ := hx
    exact ⟨s, hs, hk⟩
  have hloop : ∀ e : Eng, pressLoop c ((k.states.filter (fun s => !(s.coord == co))).filterMap KState.keycode)
      ((k.states.filter (fun s => !(s.coord == co))).filterMap KState.keycode) k.prevKeys e = e :=
    fun e => pressLoop_held c _ _ _ e hsub
  simp only [tick, layoutTick, hq, hloop, customPress]
  rfl

/-- **an idle tick**: with an empty queue `tick` only runs `tick_sequence_state` (`InpM.tick`). -/
theorem tick_idle (c : Cfg) (k : Kan) (hq : k.queue = [])
    (hprev : k.prevKeys = k.states.filterMap KState.keycode) :
    tick c k =
      (match tickSeq { st := k.seq, states := k.states, out := [] } with
       | .error x => .error x
       | .ok e2 =>
         .ok ({ queue := e2.taps.flatMap (fun j => [QEv.press (1, j), QEv.release (1, j)]),
                states := e2.states, prevKeys := k.prevKeys, seq := e2.st }, e2.out)) := by
  have hrel : k.prevKeys.filter (fun x => !k.prevKeys.contains x) = [] :=
    filter_not_contains_nil _ _ (fun x hx => hx)
  have hhook : (k.prevKeys.isEmpty && !k.prevKeys.isEmpty) = false := by cases k.prevKeys <;> rfl
  have hloop : ∀ e : Eng, pressLoop c k.prevKeys k.prevKeys k.prevKeys e = e :=
    fun e => pressLoop_held c _ _ _ e fun _ hx => hx
  simp only [tick, layoutTick, hq, ← hprev, hrel, hhook, Bool.false_eq_true, if_false, List.flatMap_nil,
    hloop, customPress, List.nil_append]
  rfl

end KVerif.Seq
