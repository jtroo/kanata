/-
C13 helper lemmas: from consecutive key lists to OS events (`handle_keystate_changes`),
and the invariant "the OS holds exactly `prev_keys`" along any history.
-/
import KVerif.Lemmas.OverridePass
namespace KVerif.Override

/-- what the OS holds after a run of events -/
def osRun (held : List Nat) (evs : List OsEv) : List Nat := evs.foldl osApply held

theorem osRun_append (held : List Nat) (a b : List OsEv) :
    osRun held (a ++ b) = osRun (osRun held a) b := by
  simp [osRun, List.foldl_append]

theorem mem_osApply_up {held : List Nat} {x k : Nat} :
    x ∈ osApply held (.up k) ↔ x ∈ held ∧ x ≠ k := by
  simp [osApply]

theorem mem_osApply_down {held : List Nat} {x k : Nat} :
    x ∈ osApply held (.down k) ↔ x ∈ held ∨ x = k :=
  mem_pushUnique

theorem mem_osRun_ups (l held : List Nat) (x : Nat) :
    x ∈ osRun held (l.map OsEv.up) ↔ x ∈ held ∧ x ∉ l := by
  induction l generalizing held with
  | nil => simp [osRun]
  | cons k rest ih =>
    rw [List.map_cons, osRun, List.foldl_cons, ← osRun, ih, mem_osApply_up, List.mem_cons, not_or,
      and_assoc]

theorem mem_osRun_presses (cur prev held : List Nat) (x : Nat) :
    x ∈ osRun held (emitPresses cur prev) ↔ x ∈ held ∨ (x ∈ cur ∧ x ∉ prev) := by
  induction cur generalizing prev held with
  | nil => simp [emitPresses, osRun]
  | cons k rest ih =>
    rw [emitPresses]
    split
    · have hk : k ∈ prev := by simpa using ‹prev.contains k = true›
      rw [ih, List.mem_cons]
      by_cases hx : x = k <;> simp [hx, hk]
    · have hk : k ∉ prev := by simpa using ‹¬ prev.contains k = true›
      rw [osRun, List.foldl_cons, ← osRun, ih, mem_osApply_down, List.mem_cons]
      by_cases hx : x = k <;> simp [hx, hk]

/-- **emission**: if the OS holds exactly the previous key list, then after the release loop and
the press loop it holds exactly the current one. -/
theorem emit_tracks (prev cur held : List Nat) (h : ∀ x, x ∈ held ↔ x ∈ prev) (x : Nat) :
    x ∈ osRun held (emitReleases prev cur ++ emitPresses cur prev) ↔ x ∈ cur := by
  rw [osRun_append, mem_osRun_presses, emitReleases, mem_osRun_ups, h]
  simp only [List.mem_filter, Bool.not_eq_true', List.contains_eq_mem, decide_eq_false_iff_not]
  by_cases h1 : x ∈ prev <;> by_cases h2 : x ∈ cur <;> simp [h1, h2]

/-- every key that left the list is released, every key that entered it is pressed -/
theorem release_emitted (prev cur : List Nat) (k : Nat) (h1 : k ∈ prev) (h2 : k ∉ cur) :
    OsEv.up k ∈ emitReleases prev cur :=
  List.mem_map.mpr ⟨k, by simp [List.mem_filter, h1, h2], rfl⟩

/-- the key list `override_keys` is applied to in the next tick -/
def Pipe.preKeys (p : Pipe) : List Nat :=
  (match p.queue with
   | [] => p.states
   | e :: _ => dequeue p.states e).map NKey.kc

/-- a tick in terms of `preKeys`: the layout step only decides which states there are -/
theorem tick_eq (t : Overrides) (roa : Bool) (p : Pipe) :
    p.tick t roa =
      match t.overrideKeys p.preKeys p.ost with
      | .error c => .error c
      | .ok (cur', ost) =>
        let states := markEager ost.toRemove
          (match p.queue with | [] => p.states | e :: _ => dequeue p.states e)
        .ok ({ queue := p.queue.tail, prev := cur', ost := ost,
               states := if roa then releaseOnActivation ost.toRemove states else states },
             emitReleases p.prev cur' ++ emitPresses cur' p.prev) := by
  unfold Pipe.tick Pipe.preKeys
  cases p.queue <;> rfl

theorem tick_prev {t : Overrides} {roa : Bool} {p p' : Pipe} {evs : List OsEv}
    (h : p.tick t roa = .ok (p', evs)) :
    ∃ st, t.overrideKeys p.preKeys p.ost = .ok (p'.prev, st) ∧
      evs = emitReleases p.prev p'.prev ++ emitPresses p'.prev p.prev := by
  rw [tick_eq] at h
  cases ho : t.overrideKeys p.preKeys p.ost <;> rw [ho] at h <;> cases h
  exact ⟨_, rfl, rfl⟩

theorem tick_tracks {t : Overrides} {roa : Bool} {p p' : Pipe} {evs : List OsEv} {held : List Nat}
    (h : p.tick t roa = .ok (p', evs)) (hinv : ∀ x, x ∈ held ↔ x ∈ p.prev) (x : Nat) :
    x ∈ osRun held evs ↔ x ∈ p'.prev := by
  obtain ⟨_, _, rfl⟩ := tick_prev h
  exact emit_tracks p.prev p'.prev held hinv x

theorem input_prev (p : Pipe) (e : Ev) : (p.input e).prev = p.prev := by
  unfold Pipe.input
  split
  · rfl
  · split <;> rfl

/-- **the OS holds exactly `prev_keys`**, along every history. -/
theorem run_tracks (t : Overrides) (roa : Bool) (steps : List Step) (p pf : Pipe) (n : Nat)
    (evs : List (Nat × OsEv)) (held : List Nat)
    (h : Pipe.run t roa steps p n = .ok (pf, evs)) (hinv : ∀ x, x ∈ held ↔ x ∈ p.prev) (x : Nat) :
    x ∈ osRun held (evs.map (·.2)) ↔ x ∈ pf.prev := by
  induction steps generalizing p n evs held with
  | nil => cases h; exact hinv x
  | cons s rest ih =>
    cases s with
    | ev e => exact ih _ _ _ _ h (by simpa [input_prev] using hinv)
    | tick =>
      rw [Pipe.run] at h
      cases ht : p.tick t roa with
      | error c => rw [ht] at h; cases h
      | ok r =>
        obtain ⟨p', e1⟩ := r
        simp only [ht] at h
        cases hr : Pipe.run t roa rest p' (n + 1) with
        | error c => rw [hr] at h; cases h
        | ok r2 =>
          rw [hr] at h; cases h
          have hmap : (e1.map (fun e => (n + 1, e)) ++ r2.2).map (·.2) = e1 ++ r2.2.map (·.2) := by
            simp [Function.comp_def]
          rw [hmap, osRun_append]
          exact ih _ _ _ _ hr (tick_tracks ht hinv)

/-- no crash: a table built by `try_new` never reaches the `expect` of `get_mod_mask` -/
theorem overrideKeys_ok (tbl : List Override) (hwf : ∀ o ∈ tbl, o.WF) (ks : List Nat)
    (st : OverrideStates) : ∃ r, (Overrides.new tbl).overrideKeys ks st = .ok r :=
  ⟨_, overrideKeys_eq tbl hwf ks st⟩

theorem tick_ok (tbl : List Override) (hwf : ∀ o ∈ tbl, o.WF) (roa : Bool) (p : Pipe) :
    ∃ r, p.tick (Overrides.new tbl) roa = .ok r := by
  obtain ⟨r, hr⟩ := overrideKeys_ok tbl hwf p.preKeys p.ost
  rw [tick_eq, hr]
  exact ⟨_, rfl⟩

theorem run_ok (tbl : List Override) (hwf : ∀ o ∈ tbl, o.WF) (roa : Bool) (steps : List Step)
    (p : Pipe) (n : Nat) : ∃ r, Pipe.run (Overrides.new tbl) roa steps p n = .ok r := by
  induction steps generalizing p n with
  | nil => exact ⟨_, rfl⟩
  | cons s rest ih =>
    cases s with
    | ev e => exact ih (p.input e) n
    | tick =>
      obtain ⟨⟨p', e1⟩, ht⟩ := tick_ok tbl hwf roa p
      obtain ⟨⟨pf, more⟩, hr⟩ := ih p' (n + 1)
      simp only [Pipe.run, ht, hr]
      exact ⟨_, rfl⟩

end KVerif.Override
