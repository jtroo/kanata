/-
The third stage of `tick` with a key waiting: `tick_wt` reads the queue and decides, then
`apply_waiting_action` performs the decision on the layout.  Tap-hold, tap-dance and chords differ only in
their `tickWt`; the step from `tickWt` to `tickMain` is the same for all three and is taken here, once.
-/
import KVerif.Model.Layout
namespace KVerif.L

/-- `waiting_into_hold` / `waiting_into_tap` / `waiting_into_timeout` / `drop_waiting` for the entry `w`
already taken out of the layout `S`; `pq` is the pressed queue a chord hands over -/
def resolve (S : Layout) (w : Waiting) (pq : Option (List Coord)) : WAct → Except Crash (Layout × CustomEv)
  | .hold => doAction 3999 (holdPrep S w) w.hold w.coord (waitingDelay w) false w.layerStack
  | .tap =>
    match doAction FUEL S w.tap w.coord (waitingDelay w) false w.layerStack with
    | .error e => .error e
    | .ok (s, ret) =>
      match pq with
      | none => .ok (tapPost s, ret)
      | some pq =>
        match chordRepeat w.tap pq (waitingDelay w) w.layerStack s with
        | .error e => .error e
        | .ok s => .ok (tapPost s, ret)
  | .timeout => doAction FUEL (timeoutPrep S w) w.timeoutAction w.coord (waitingDelay w) false w.layerStack
  | .noOp => .ok ({ S with waiting := none }, .noEvent)

theorem resolve_tap_none (S : Layout) (w : Waiting) :
    resolve S w none .tap =
      match doAction FUEL S w.tap w.coord (waitingDelay w) false w.layerStack with
      | .error e => .error e
      | .ok (s, ret) => .ok (tapPost s, ret) := by
  rw [resolve]

/-- a chord's tap that went through: one `do_action` at the chord's coordinate, the repetition on the
pressed queue, then the rapid-event pause -/
theorem resolve_tap_some_ok {S s' : Layout} {w : Waiting} {pq : List Coord} {cu : CustomEv}
    (h : resolve S w (some pq) .tap = .ok (s', cu)) :
    ∃ s1 s2, doAction FUEL S w.tap w.coord (waitingDelay w) false w.layerStack = .ok (s1, cu) ∧
      chordRepeat w.tap pq (waitingDelay w) w.layerStack s1 = .ok s2 ∧ s' = tapPost s2 := by
  rw [resolve] at h
  split at h
  · cases h
  · rename_i s1 ret hd
    simp only [] at h
    split at h
    · cases h
    · rename_i s2 hrep
      cases h
      exact ⟨s1, s2, hd, hrep, rfl⟩

theorem applyWaitingAction_taken {s S : Layout} {w : Waiting} {idx : Option Nat}
    (h : takeWaiting s idx = some (w, S)) {a : WAct} (ha : a ≠ .noOp) (pq : Option (List Coord)) (dflt : CustomEv) :
    applyWaitingAction s (some (a, pq)) idx dflt = resolve S w pq a := by
  cases a with
  | hold => simp only [applyWaitingAction, resolve, FUEL_succ, waitingIntoHold, h]
  | tap =>
    simp only [applyWaitingAction, resolve, waitingIntoTap, h]
    -- the same case distinctions on both sides, through different auxiliary matchers
    cases doAction FUEL S w.tap w.coord (waitingDelay w) false w.layerStack with
    | error e => rfl
    | ok p =>
      cases pq with
      | none => rfl
      | some pq => simp only []; cases chordRepeat w.tap pq (waitingDelay w) w.layerStack p.1 <;> rfl
  | timeout => simp only [applyWaitingAction, resolve, waitingIntoTimeout, h]
  | noOp => exact absurd rfl ha

theorem applyWaitingAction_main {s : Layout} {w : Waiting} (hw : s.waiting = some w) (a : WAct)
    (pq : Option (List Coord)) (dflt : CustomEv) :
    applyWaitingAction s (some (a, pq)) none dflt = resolve { s with waiting := none } w pq a := by
  by_cases ha : a = .noOp
  · subst ha; rfl
  · exact applyWaitingAction_taken (by rw [takeWaiting, hw]; rfl) ha pq dflt

theorem applyWaitingAction_extra {s : Layout} {i : Nat} {w : Waiting} (hi : s.extraWaiting[i]? = some w) {a : WAct}
    (ha : a ≠ .noOp) (pq : Option (List Coord)) (dflt : CustomEv) :
    applyWaitingAction s (some (a, pq)) (some i) dflt =
      resolve { s with extraWaiting := s.extraWaiting.eraseIdx i } w pq a :=
  applyWaitingAction_taken (by rw [takeWaiting, hi]; rfl) ha pq dflt

/-- **`tickMain` with a key waiting**: the waiting state's own step `tickWt` on the queue, then its decision
(if any) performed on the layout without the waiting state -/
theorem tickMain_waiting {s : Layout} {w w' : Waiting} {q : List Queued} {aq : ActionQueue}
    {r : Option (WAct × Option (List Coord))} (hw : s.waiting = some w)
    (e : tickWt w s.queue s.actionQueue = .ok (w', q, aq, r)) :
    tickMain s =
      match (generalizing := false) r with
      | none => .ok ({ s with waiting := some w', queue := q, actionQueue := aq }, .noEvent)
      | some (a, pq) => resolve { s with waiting := none, queue := q, actionQueue := aq } w' pq a := by
  unfold tickMain
  simp only [hw, e]
  cases r with
  | none => rfl
  | some r => exact applyWaitingAction_main rfl r.1 r.2 .noEvent

theorem tickMain_undecided {s : Layout} {w w' : Waiting} {q : List Queued} {aq : ActionQueue} (hw : s.waiting = some w)
    (e : tickWt w s.queue s.actionQueue = .ok (w', q, aq, none)) :
    tickMain s = .ok ({ s with waiting := some w', queue := q, actionQueue := aq }, .noEvent) :=
  tickMain_waiting hw e

theorem tickMain_decided {s : Layout} {w w' : Waiting} {q : List Queued} {aq : ActionQueue} {a : WAct}
    {pq : Option (List Coord)} (hw : s.waiting = some w)
    (e : tickWt w s.queue s.actionQueue = .ok (w', q, aq, some (a, pq))) :
    tickMain s = resolve { s with waiting := none, queue := q, actionQueue := aq } w' pq a :=
  tickMain_waiting hw e

theorem tickMain_waiting_error {s : Layout} {w : Waiting} {c : Crash} (hw : s.waiting = some w)
    (e : tickWt w s.queue s.actionQueue = .error c) : tickMain s = .error c := by
  unfold tickMain
  simp only [hw, e]

/-- **`process_extra_waitings` when the scan finds a decision**: `extra_waiting` is what the scan leaves, without the
entry that decided, and the decision is performed on that layout -/
theorem processExtraWaitings_decided {s : Layout} {ews : List Waiting} {q : List Queued} {aq : ActionQueue} {i : Nat}
    {a : WAct} {pq : Option (List Coord)} {w : Waiting}
    (e : tickExtraWaitings s.extraWaiting s.queue s.actionQueue [] = .ok (ews, q, aq, some (i, (a, pq))))
    (hi : ews[i]? = some w) (ha : a ≠ .noOp) :
    processExtraWaitings s .noEvent =
      resolve { s with extraWaiting := ews.eraseIdx i, queue := q, actionQueue := aq } w pq a := by
  unfold processExtraWaitings
  simp only [e]
  exact applyWaitingAction_extra (s := { s with extraWaiting := ews, queue := q, actionQueue := aq }) hi ha pq .noEvent

theorem processExtraWaitings_undecided {s : Layout} {ews : List Waiting} {q : List Queued} {aq : ActionQueue}
    (e : tickExtraWaitings s.extraWaiting s.queue s.actionQueue [] = .ok (ews, q, aq, none)) :
    processExtraWaitings s .noEvent = .ok ({ s with extraWaiting := ews, queue := q, actionQueue := aq }, .noEvent) := by
  unfold processExtraWaitings
  simp only [e]
  rfl

theorem processExtraWaitings_error {s : Layout} {c : Crash}
    (e : tickExtraWaitings s.extraWaiting s.queue s.actionQueue [] = .error c) :
    processExtraWaitings s .noEvent = .error c := by
  unfold processExtraWaitings
  simp only [e]
  rfl

theorem waitingDelay_tapDance {w : Waiting} {acts : List Action} {T k : Nat} (h : w.config = .tapDance acts T k) :
    waitingDelay w = 0 := by
  unfold waitingDelay; rw [h]

theorem waitingDelay_chord {w : Waiting} {g : ChordsGroup} (h : w.config = .chord g) :
    waitingDelay w = min (w.delay + w.ticks) U16_MAX := by
  unfold waitingDelay; rw [h]

theorem waitingDelay_holdTap {w : Waiting} {c : HTConfig} (h : w.config = .holdTap c) :
    waitingDelay w = min (w.delay + w.ticks) U16_MAX := by
  unfold waitingDelay; rw [h]

end KVerif.L
