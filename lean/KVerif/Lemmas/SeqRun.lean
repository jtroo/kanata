/-
Helper lemmas for C12, runtime part: `do_sequence_press_logic` in closed form.  The backtracking
loop of the standard variant settles on the form of the sequence with the fewest elements stripped
that is in the trie (`btForm`, `btFind`, `stdVariant_eq`, `stdSettle`); the front-dropping loop
computes the longest viable suffix (`dropFront_lvs`); and in every state in which no stored key
continues the overlap encoding by a bare marker (`markerDead`) the overlap variant finds nothing,
which gives `doSeqPress_closed`, for any table.  Tables without `O-(…)` groups, among them the
tables of plain keys, are such tables in every state.  Then facts that hold for every table: the
backspace count, what `cancel_sequence` and a completed sequence leave behind, and that the hidden
modes emit nothing.
-/
import KVerif.Lemmas.SeqTrie
namespace KVerif.Seq

/-! ### bit facts -/

theorem and_of_lt {m : Nat} (hm : 1023 &&& m = 1023) {x : Nat} (hx : x < 1024) : x &&& m = x := by
  have h : x &&& 1023 = x := (Nat.and_two_pow_sub_one_eq_mod x 10).trans (Nat.mod_eq_of_lt hx)
  rw [← h, Nat.and_assoc, hm]

theorem and_mask_of_lt : ∀ x, x < 1024 → x &&& MASK_KEYCODES = x := fun _ => and_of_lt rfl

theorem and_notmarker_of_lt : ∀ x, x < 1024 → x &&& NOT_OVERLAP_MARKER = x := fun _ => and_of_lt rfl

theorem and_eq_zero_of_lt {x m : Nat} (hx : x < 1024) (hm : MASK_KEYCODES &&& m = 0) : x &&& m = 0 := by
  rw [← and_mask_of_lt x hx, Nat.and_assoc, hm, Nat.and_zero]

theorem and_marker_of_lt (x : Nat) (hx : x < 1024) : x &&& KEY_OVERLAP_MARKER = 0 :=
  and_eq_zero_of_lt hx (by decide)

theorem plainKey_lt {k : Nat} (h : plainKey k = true) : k < 1024 := by
  simp only [plainKey, Bool.and_eq_true, decide_eq_true_eq] at h; exact h.1.1.1

theorem plainKey_normalise {k : Nat} (h : plainKey k = true) : normaliseMod k = k := by
  simp only [plainKey, isModifier, Bool.and_eq_true, Bool.not_eq_true', Bool.or_eq_false_iff,
    beq_eq_false_iff_ne, ne_eq] at h
  simp only [normaliseMod, h, if_false]

/-- What the backtracking loop does to one element: a bare marker is removed, any other element
loses its modifier bits (`sequence-backtrack-modcancel yes`) or only its overlap bit (`no`). -/
def stripOpt (mc : Bool) (x : Nat) : Option Nat :=
  if x = KEY_OVERLAP_MARKER then none
  else some (if mc then x &&& MASK_KEYCODES else x &&& NOT_OVERLAP_MARKER)

/-- The sequence after the loop has processed the indices `≥ i`: the first `i` elements untouched,
the others stripped. -/
def btForm (mc : Bool) (seq : List Nat) (i : Nat) : List Nat :=
  seq.take i ++ (seq.drop i).filterMap (stripOpt mc)

/-- The index at which the loop stops when it starts below `n`: the largest `i < n` such that the
form `btForm mc seq i` is in the trie (as a key or as a proper prefix of one). -/
def btFind (t : Trie Nat) (mc : Bool) (seq : List Nat) : Nat → Option Nat
  | 0 => none
  | i + 1 => if viable t.entries (btForm mc seq i) then some i else btFind t mc seq i

theorem btForm_ge (mc : Bool) (seq : List Nat) (n : Nat) (h : seq.length ≤ n) : btForm mc seq n = seq := by
  simp [btForm, List.take_of_length_le h, List.drop_of_length_le h]

theorem btForm_length (mc : Bool) (seq : List Nat) : btForm mc seq seq.length = seq :=
  btForm_ge mc seq _ (Nat.le_refl _)

/-- one round of the loop, on a list split at the index it works on -/
theorem strip_at (mc : Bool) (a l : List Nat) (x : Nat) :
    (let cur := a ++ x :: l.filterMap (stripOpt mc)
     let y := cur.getD a.length 0
     if y = KEY_OVERLAP_MARKER then cur.eraseIdx a.length
     else if mc then cur.set a.length (y &&& MASK_KEYCODES) else cur.set a.length (y &&& NOT_OVERLAP_MARKER)) =
    a ++ (x :: l).filterMap (stripOpt mc) := by
  have hx : (a ++ x :: l.filterMap (stripOpt mc)).getD a.length 0 = x := by simp
  simp only [hx, List.filterMap_cons, stripOpt]
  split
  · rw [List.eraseIdx_append_of_length_le (Nat.le_refl _), Nat.sub_self]; rfl
  · cases mc <;> simp

theorem btForm_step (mc : Bool) (seq : List Nat) (i : Nat) (hi : i < seq.length) :
    (let cur := btForm mc seq (i + 1)
     let x := cur.getD i 0
     if x = KEY_OVERLAP_MARKER then cur.eraseIdx i
     else if mc then cur.set i (x &&& MASK_KEYCODES) else cur.set i (x &&& NOT_OVERLAP_MARKER)) =
    btForm mc seq i := by
  have h := strip_at mc (seq.take i) (seq.drop (i + 1)) seq[i]
  rw [List.length_take_of_le (Nat.le_of_lt hi), ← List.drop_eq_getElem_cons hi] at h
  rw [btForm, btForm, List.take_succ_eq_append_getElem hi, List.append_assoc]
  exact h
theorem backtrack_eq (t : Trie Nat) (mc : Bool) (seq : List Nat) (n : Nat) (hn : n ≤ seq.length) :
    backtrack t mc n (btForm mc seq n) =
      match btFind t mc seq n with
      | some i => (btForm mc seq i, t.getOrDescendant (btForm mc seq i))
      | none => (btForm mc seq 0, .notInTrie) := by
  induction n with
  | zero => rfl
  | succ i ih =>
    have hstep := btForm_step mc seq i (by omega)
    simp only at hstep
    simp only [backtrack, hstep, btFind, isNot_getOrDescendant]
    cases hv : viable t.entries (btForm mc seq i) with
    | true => simp
    | false =>
      simp only [Bool.not_false, if_true, Bool.false_eq_true, if_false]
      exact ih (by omega)

theorem btFind_some {t : Trie Nat} {mc : Bool} {seq : List Nat} {n i : Nat}
    (h : btFind t mc seq n = some i) :
    i < n ∧ viable t.entries (btForm mc seq i) = true ∧
      ∀ j, i < j → j < n → viable t.entries (btForm mc seq j) = false := by
  induction n with
  | zero => exact nomatch h
  | succ n ih =>
    rw [btFind] at h
    cases hv : viable t.entries (btForm mc seq n) with
    | true =>
      rw [hv, if_pos rfl, Option.some.injEq] at h
      subst h
      exact ⟨by omega, hv, fun j h1 h2 => by omega⟩
    | false =>
      rw [hv, if_neg (by simp)] at h
      obtain ⟨h1, h2, h3⟩ := ih h
      refine ⟨by omega, h2, fun j hj1 hj2 => ?_⟩
      by_cases hjn : j = n
      · rw [hjn]; exact hv
      · exact h3 j hj1 (by omega)

theorem btFind_none {t : Trie Nat} {mc : Bool} {seq : List Nat} : ∀ {n : Nat},
    btFind t mc seq n = none ↔ ∀ j, j < n → viable t.entries (btForm mc seq j) = false
  | 0 => by simp [btFind]
  | n + 1 => by
    rw [btFind, Nat.forall_lt_succ_right]
    cases hv : viable t.entries (btForm mc seq n) with
    | true => simp
    | false => simp [btFind_none]

theorem btFind_of_max {t : Trie Nat} {mc : Bool} {seq : List Nat} {n i : Nat} (hi : i < n)
    (hv : viable t.entries (btForm mc seq i) = true)
    (hmax : ∀ j, i < j → j < n → viable t.entries (btForm mc seq j) = false) :
    btFind t mc seq n = some i := by
  cases h : btFind t mc seq n with
  | none => have := (btFind_none.1 h) i hi; rw [hv] at this; simp at this
  | some i' =>
    obtain ⟨h1, h2, h3⟩ := btFind_some h
    by_cases hlt : i < i'
    · have := hmax i' hlt h1; rw [h2] at this; simp at this
    · by_cases hgt : i' < i
      · have := h3 i hgt hi; rw [hv] at this; simp at this
      · have : i' = i := by omega
        rw [this]

theorem stdVariant_eq (t : Trie Nat) (mc : Bool) (seq : List Nat) :
    stdVariant t mc seq =
      if viable t.entries seq then (seq, t.getOrDescendant seq, false)
      else match btFind t mc seq seq.length with
        | some i => (btForm mc seq i, t.getOrDescendant (btForm mc seq i), false)
        | none => (btForm mc seq 0, .notInTrie, true) := by
  unfold stdVariant
  simp only [isNot_getOrDescendant]
  cases hv : viable t.entries seq with
  | true => simp
  | false =>
    simp only [Bool.not_false, if_true, Bool.false_eq_true, if_false]
    have := backtrack_eq t mc seq seq.length (Nat.le_refl _)
    rw [btForm_length] at this
    rw [this]
    cases hf : btFind t mc seq seq.length with
    | none => simp [Trie.GetRes.isNot]
    | some i =>
      simp only [isNot_getOrDescendant, (btFind_some hf).2.1]
      rfl

theorem dropFront_lvs (t : Trie Nat) : ∀ w : Key,
    dropFront t w (t.getOrDescendant w) = (lvs t.entries w, t.getOrDescendant (lvs t.entries w))
  | [] => rfl
  | x :: w => by
    simp only [dropFront, lvs, isNot_getOrDescendant]
    cases viable t.entries (x :: w) with
    | true => simp
    | false => simpa using dropFront_lvs t w

theorem lvs_viable (tbl : List (Key × Nat)) : ∀ w : Key, lvs tbl w ≠ [] → viable tbl (lvs tbl w) = true
  | [], h => by simp [lvs] at h
  | x :: w, h => by
    simp only [lvs] at h ⊢
    cases hv : viable tbl (x :: w) with
    | true => simp [hv]
    | false => simp only [hv] at h ⊢; exact lvs_viable tbl w h

theorem lvs_of_viable (tbl : List (Key × Nat)) (w : Key) (h : viable tbl w = true) : lvs tbl w = w := by
  cases w with
  | nil => rfl
  | cons x w => simp [lvs, h]

theorem lvs_plain (tbl : List (Key × Nat)) : ∀ w : Key, (∀ x ∈ w, x < 1024) → ∀ x ∈ lvs tbl w, x < 1024
  | [], _, x, hx => by simp [lvs] at hx
  | y :: w, h, x, hx => by
    simp only [lvs] at hx
    split at hx
    · exact h x hx
    · exact lvs_plain tbl w (fun z hz => h z (by simp [hz])) x hx

/-- `pushed_into_seq` -/
def pushedOf (k mm : Nat) : Nat := normaliseMod k ||| mm

/-- the value a key has as a member of an `O-(…)` group (`pushed_into_overlap_seq`) -/
def ovlForm (x : Nat) : Nat := (x &&& MASK_KEYCODES) ||| KEY_OVERLAP_MARKER

/-- No stored key continues `O` with a bare marker.  Then the overlap variant, which tracks `O`,
cannot restart after a marker, and the all-released hook finds nothing. -/
def markerDead (tbl : List (Key × Nat)) (O : Key) : Prop :=
  ∀ tail, viable tbl (O ++ KEY_OVERLAP_MARKER :: tail) = false

theorem overlapFix_dead {t : Trie Nat} {O : Key} (hO : markerDead t.entries O) (p : Nat)
    (habs : ∀ e ∈ t.entries, ovlForm p ∉ e.1) :
    overlapFix t O p (ovlForm p) =
      (O ++ [KEY_OVERLAP_MARKER, if p &&& MASK_KEYCODES = p then p else p &&& MASK_KEYCODES],
        .notInTrie, true) := by
  have n0 : t.getOrDescendant (O ++ [ovlForm p]) = .notInTrie :=
    notInTrie_of_not_viable (not_viable_of_absent habs (by simp))
  have n1 : t.getOrDescendant (O ++ [KEY_OVERLAP_MARKER, ovlForm p]) = .notInTrie :=
    notInTrie_of_not_viable (hO _)
  have n2 : ∀ y, t.getOrDescendant (O ++ [KEY_OVERLAP_MARKER, y]) = .notInTrie := fun y =>
    notInTrie_of_not_viable (hO _)
  unfold overlapFix
  simp only [n0, n1, n2, Trie.GetRes.isNot, Bool.not_true, Bool.false_eq_true, if_false]
  split <;> rfl

theorem allReleasedHook_dead {t : Trie Nat} {e : Eng} (ha : e.st.active = true)
    (hO : markerDead t.entries e.st.overlapped) :
    allReleasedHook t e = { e with st := { e.st with overlapped := e.st.sequence } } := by
  simp [allReleasedHook, ha, notInTrie_of_not_viable (hO [])]

/-- The word the standard variant settles on: the sequence itself if it is in the trie, else the
first stripped form (from the back) that is; `none` if there is none. -/
def stdSettle (t : Trie Nat) (mc : Bool) (w0 : List Nat) : Option Key :=
  if viable t.entries w0 then some w0
  else (btFind t mc w0 w0.length).map (btForm mc w0)

theorem stdSettle_viable {t : Trie Nat} {mc : Bool} {w0 w : Key} (h : stdSettle t mc w0 = some w) :
    viable t.entries w = true := by
  unfold stdSettle at h
  split at h
  · simp only [Option.some.injEq] at h; rw [← h]; assumption
  · cases hf : btFind t mc w0 w0.length with
    | none => simp [hf] at h
    | some i =>
      simp only [hf, Option.map_some, Option.some.injEq] at h
      rw [← h]; exact (btFind_some hf).2.1

theorem stdSettle_eq_none {t : Trie Nat} {mc : Bool} {w0 : Key} :
    stdSettle t mc w0 = none ↔
      viable t.entries w0 = false ∧ ∀ j, j < w0.length → viable t.entries (btForm mc w0 j) = false := by
  unfold stdSettle
  cases viable t.entries w0 <;> simp [btFind_none]

theorem stdVariant_of_settle {t : Trie Nat} {mc : Bool} {w0 w : Key} (h : stdSettle t mc w0 = some w) :
    stdVariant t mc w0 = (w, t.getOrDescendant w, false) := by
  rw [stdVariant_eq]
  unfold stdSettle at h
  cases hv : viable t.entries w0 with
  | true => rw [hv, if_pos rfl, Option.some.injEq] at h; rw [← h]; rfl
  | false =>
    cases hf : btFind t mc w0 w0.length with
    | none => simp [hv, hf] at h
    | some i =>
      simp only [hv, hf, Bool.false_eq_true, if_false, Option.map_some, Option.some.injEq] at h
      rw [← h]; rfl

theorem stdVariant_of_settle_none {t : Trie Nat} {mc : Bool} {w0 : Key} (h : stdSettle t mc w0 = none) :
    stdVariant t mc w0 = (btForm mc w0 0, .notInTrie, true) := by
  rw [stdVariant_eq, (stdSettle_eq_none.1 h).1, btFind_none.2 (stdSettle_eq_none.1 h).2]; rfl

theorem doSeqPress_settled {t : Trie Nat} {mc : Bool} {e : Eng} {k mm : Nat}
    (hO : markerDead t.entries e.st.overlapped) (habs : ∀ x ∈ t.entries, ovlForm (pushedOf k mm) ∉ x.1)
    {w : Key} (hw : stdSettle t mc (e.st.sequence ++ [pushedOf k mm]) = some w) :
    doSeqPress t mc e k mm =
      match lookupKey t.entries w with
      | some j => terminate { pressBase e k with st := { (pressBase e k).st with sequence := w, overlapped := w } } j true
      | none => { pressBase e k with st := { (pressBase e k).st with sequence := w, overlapped := w } } := by
  show finish t (reconcile t (pressBase e k) (stdVariant t mc (e.st.sequence ++ [pushedOf k mm]))
    (overlapFix t e.st.overlapped (pushedOf k mm) (ovlForm (pushedOf k mm)))) = _
  simp only [overlapFix_dead hO _ habs, stdVariant_of_settle hw, reconcile, finish]
  rw [getOrDescendant_of_lookup (stdSettle_viable hw)]
  cases lookupKey t.entries w <;> rfl

/-- `hne`: the table stores no empty key list (`accepted_no_empty_key`). -/
theorem doSeqPress_closed {t : Trie Nat} (hne : ∀ j, t.getOrDescendant [] ≠ .hasValue j) (mc : Bool)
    (e : Eng) (k mm : Nat) (hO : markerDead t.entries e.st.overlapped)
    (habs : ∀ x ∈ t.entries, ovlForm (pushedOf k mm) ∉ x.1) :
    doSeqPress t mc e k mm =
      (let b := pressBase e k
       let p := pushedOf k mm
       let w0 := e.st.sequence ++ [p]
       match stdSettle t mc w0 with
       | some w =>
         let e2 : Eng := { b with st := { b.st with sequence := w, overlapped := w } }
         match lookupKey t.entries w with
         | some j => terminate e2 j true
         | none => e2
       | none =>
         let w := lvs t.entries (btForm mc w0 0)
         let ovl' := e.st.overlapped ++
           [KEY_OVERLAP_MARKER, if p &&& MASK_KEYCODES = p then p else p &&& MASK_KEYCODES]
         let e3 : Eng := { b with st := { b.st with sequence := w, overlapped := ovl' } }
         if w.isEmpty then cancelSequence e3
         else match lookupKey t.entries w with
           | some j => terminate { e3 with st := { e3.st with overlapped := ovl' ++ [KEY_OVERLAP_MARKER] } } j false
           | none => e3) := by
  dsimp only
  cases hs : stdSettle t mc (e.st.sequence ++ [pushedOf k mm]) with
  | some w => exact doSeqPress_settled hO habs hs
  | none =>
    -- both variants are invalid: keys are dropped from the front of the fully stripped sequence
    show finish t (reconcile t (pressBase e k) (stdVariant t mc (e.st.sequence ++ [pushedOf k mm]))
      (overlapFix t e.st.overlapped (pushedOf k mm) (ovlForm (pushedOf k mm)))) = _
    generalize pushedOf k mm = p at habs hs ⊢
    generalize pressBase e k = b
    have hdf := dropFront_lvs t (btForm mc (e.st.sequence ++ [p]) 0)
    rw [notInTrie_of_not_viable ((stdSettle_eq_none.1 hs).2 0 (by simp))] at hdf
    simp only [overlapFix_dead hO p habs, stdVariant_of_settle_none hs, reconcile, hdf, isNot_getOrDescendant]
    generalize hw : lvs t.entries (btForm mc (e.st.sequence ++ [p]) 0) = w
    cases w with
    | nil =>
      simp only [List.isEmpty_nil, Bool.or_true, if_true, finish]
    | cons x w' =>
      have hvw : viable t.entries (x :: w') = true := by
        rw [← hw]; exact lvs_viable _ _ (by rw [hw]; simp)
      simp only [hvw, Bool.not_true, List.isEmpty_cons, Bool.or_false, Bool.false_eq_true, if_false, finish]
      rw [getOrDescendant_of_lookup hvw]
      cases hl : lookupKey t.entries (x :: w') with
      | none => rfl
      | some j =>
        have : t.getOrDescendant (e.st.overlapped ++
            [KEY_OVERLAP_MARKER, if p &&& MASK_KEYCODES = p then p else p &&& MASK_KEYCODES] ++
            [KEY_OVERLAP_MARKER]) = .notInTrie := by
          rw [List.append_assoc]; exact notInTrie_of_not_viable (hO _)
        simp only [this]

/-- no stored element carries the overlap bit -/
def noOvlTable (tbl : List (Key × Nat)) : Bool :=
  tbl.all (fun e => e.1.all (fun x => x &&& KEY_OVERLAP_MARKER == 0))

@[reducible] def NoOvlTrie (t : Trie Nat) : Prop := noOvlTable t.entries = true

theorem marker_ovl : KEY_OVERLAP_MARKER &&& KEY_OVERLAP_MARKER ≠ 0 := by decide

theorem or_marker_ovl (x : Nat) : (x ||| KEY_OVERLAP_MARKER) &&& KEY_OVERLAP_MARKER ≠ 0 := by
  rw [Nat.and_or_distrib_right]
  intro h
  exact marker_ovl (Nat.or_eq_zero_iff.1 h).2

theorem noOvl_absent {tbl : List (Key × Nat)} (hn : noOvlTable tbl = true) {x : Nat}
    (hx : x &&& KEY_OVERLAP_MARKER ≠ 0) : ∀ e ∈ tbl, x ∉ e.1 := by
  simp only [noOvlTable, List.all_eq_true, beq_iff_eq] at hn
  exact fun e he hin => hx (hn e he x hin)

theorem markerDead_of_noOvl {tbl : List (Key × Nat)} (hn : noOvlTable tbl = true) (O : Key) :
    markerDead tbl O :=
  fun _ => not_viable_of_absent (noOvl_absent hn marker_ovl) (by simp)

/-- every stored key consists of plain keys and is non-empty -/
@[reducible] def PlainTrie (t : Trie Nat) : Prop := plainTable t.entries = true

theorem PlainTrie.mem {t : Trie Nat} (hp : PlainTrie t) {e : Key × Nat} (he : e ∈ t.entries) :
    (∀ x ∈ e.1, plainKey x = true) ∧ e.1 ≠ [] := by
  simpa [List.isEmpty_iff] using List.all_eq_true.1 hp e he

theorem plain_of_mem {t : Trie Nat} (hp : PlainTrie t) {s : Key} {j : Nat} (hs : (s, j) ∈ t.entries) :
    ∀ x ∈ s, plainKey x = true :=
  (hp.mem hs).1

theorem plainTrie_no_empty {t : Trie Nat} (hp : PlainTrie t) : ∀ j, t.getOrDescendant [] ≠ .hasValue j :=
  fun _ h => (hp.mem (mem_of_hasValue h)).2 rfl

theorem not_viable_of_big {t : Trie Nat} (hp : PlainTrie t) {w : Key} {x : Nat} (hx : x ∈ w)
    (hbig : ¬ x < 1024) : viable t.entries w = false :=
  not_viable_of_absent (fun _ he hin => hbig (plainKey_lt ((hp.mem he).1 x hin))) hx

theorem plainTrie_noOvl {t : Trie Nat} (hp : PlainTrie t) : NoOvlTrie t := by
  simp only [NoOvlTrie, noOvlTable, List.all_eq_true, beq_iff_eq]
  exact fun e he x hx => and_marker_of_lt x (plainKey_lt ((hp.mem he).1 x hx))

theorem stripOpt_of_lt (mc : Bool) {x : Nat} (h : x < 1024) : stripOpt mc x = some x := by
  rw [stripOpt, if_neg (show x ≠ KEY_OVERLAP_MARKER from Nat.ne_of_lt h)]
  cases mc
  · exact congrArg some (and_notmarker_of_lt x h)
  · exact congrArg some (and_mask_of_lt x h)

theorem filterMap_stripOpt_plain (mc : Bool) : ∀ (l : List Nat), (∀ x ∈ l, x < 1024) →
    l.filterMap (stripOpt mc) = l
  | [], _ => rfl
  | x :: l, h => by
    rw [List.filterMap_cons, stripOpt_of_lt mc (h x (by simp)),
      filterMap_stripOpt_plain mc l fun y hy => h y (by simp [hy])]

theorem btForm_plain (mc : Bool) (seq : List Nat) (i : Nat) (h : ∀ x ∈ seq, x < 1024) : btForm mc seq i = seq := by
  rw [btForm, filterMap_stripOpt_plain mc _ fun x hx => h x (List.mem_of_mem_drop hx), List.take_append_drop]

theorem stdSettle_plain (t : Trie Nat) (mc : Bool) {w : Key} (h : ∀ x ∈ w, x < 1024) :
    stdSettle t mc w = if viable t.entries w then some w else none := by
  unfold stdSettle
  cases hv : viable t.entries w with
  | true => rfl
  | false => rw [btFind_none.2 fun j _ => by rw [btForm_plain mc w j h]; exact hv]; rfl

/-! ### facts that hold for every table (plain, chorded, overlap groups) -/

/-- a key the code counts as a typed character when backspacing -/
def isCharKey (k : Nat) : Bool :=
  k != KEY_OVERLAP_MARKER && !isModifier (k &&& MASK_KEYCODES) && !isIgnored (k &&& MASK_KEYCODES)

def charCount (seq : List Nat) : Nat := (seq.filter isCharKey).length

theorem backspaces_cons (k : Nat) (ks : List Nat) (ne : Nat) :
    backspaces (k :: ks) ne =
      if isCharKey k then
        (if ne > 0 then backspaces ks (ne - 1) else ((backspaces ks ne).1, (backspaces ks ne).2 + 1))
      else backspaces ks ne := by
  simp only [backspaces, isCharKey]
  by_cases h1 : k = KEY_OVERLAP_MARKER
  · simp [h1]
  · by_cases h2 : isModifier (k &&& MASK_KEYCODES) = true
    · simp [h1, h2]
    · by_cases h3 : isIgnored (k &&& MASK_KEYCODES) = true
      · simp [h1, h2, h3]
      · simp [h1, h2, h3]

theorem charCount_cons (k : Nat) (ks : List Nat) :
    charCount (k :: ks) = charCount ks + if isCharKey k then 1 else 0 := by
  unfold charCount
  rw [List.filter_cons]
  cases isCharKey k <;> rfl

theorem backspaces_eq (seq : List Nat) : ∀ (ne : Nat),
    backspaces seq ne = (ne - charCount seq, charCount seq - ne) := by
  induction seq with
  | nil => intro ne; simp [backspaces, charCount]
  | cons k ks ih =>
    intro ne
    rw [backspaces_cons, charCount_cons, ih, ih]
    cases isCharKey k with
    | false => rfl
    | true => cases ne <;> simp

theorem cancelSequence_fields (e : Eng) :
    (cancelSequence e).st.active = false ∧ (cancelSequence e).taps = e.taps ∧
    (cancelSequence e).states = e.states ∧ (cancelSequence e).st.mode = e.st.mode ∧
    (cancelSequence e).out = e.out ++
      (if e.st.mode = .hiddenDelayType then e.st.rawOscs.flatMap (fun k => osPress k ++ osRelease k) else []) := by
  unfold cancelSequence
  cases h : e.st.mode <;> simp [h]

theorem cancelSequence_hidden (e : Eng) (hm : e.st.mode ≠ .visibleBackspaced) :
    (cancelSequence e).out = e.out ∨
      (e.st.mode = .hiddenDelayType ∧ (cancelSequence e).st.active = false ∧
        (cancelSequence e).taps = e.taps ∧
        (cancelSequence e).out = e.out ++ e.st.rawOscs.flatMap (fun k => osPress k ++ osRelease k)) := by
  unfold cancelSequence
  cases h : e.st.mode <;> simp [h] at hm ⊢

theorem terminate_fields (e : Eng) (j : Nat) (b : Bool) :
    (terminate e j b).st.active = false ∧ (terminate e j b).taps = e.taps ++ [j] ∧
    (terminate e j b).st.mode = e.st.mode ∧
    (e.st.mode ≠ .visibleBackspaced → (terminate e j b).out = e.out) := by
  unfold terminate
  cases h : e.st.mode <;>
    simp only [h, ne_eq, not_true_eq_false, false_imp_iff, implies_true, and_self]

/-- in visible-backspaced mode a completed sequence sends, after releasing held ctrl/alt/gui keys,
one backspace per character key of the completed sequence, less the `sequence-noerase` count -/
theorem terminate_visible_out (e : Eng) (j : Nat) (b : Bool) (h : e.st.mode = .visibleBackspaced) :
    ∃ rel : List Nat, (terminate e j b).out = e.out ++ rel.flatMap osRelease ++
      (List.replicate (charCount (if b then e.st.overlapped else e.st.sequence) - e.st.noerase)
        [Out.down KC_BSPACE, Out.up KC_BSPACE]).flatten := by
  unfold terminate
  simp only [h, backspaces_eq]
  exact ⟨_, rfl⟩

theorem reconcile_hidden (t : Trie Nat) (e : Eng) (std ovl : List Nat × Res × Bool) :
    (reconcile t e std ovl).1.st.mode = e.st.mode ∧ (reconcile t e std ovl).1.taps = e.taps ∧
    ((reconcile t e std ovl).1.out = e.out ∨
      ((reconcile t e std ovl).1.st.active = false ∧ e.st.mode = .hiddenDelayType ∧
        (reconcile t e std ovl).1.out = e.out ++ e.st.rawOscs.flatMap (fun k => osPress k ++ osRelease k))) := by
  unfold reconcile
  rcases std with ⟨s1, s2, s3⟩
  rcases ovl with ⟨o1, o2, o3⟩
  cases s3 <;> cases o3 <;> simp only [and_self, true_or]
  split
  · have := cancelSequence_fields
      { e with st := { e.st with sequence := (dropFront t s1 s2).1, overlapped := o1 } }
    refine ⟨this.2.2.2.1, this.2.1, ?_⟩
    by_cases hm : e.st.mode = .hiddenDelayType
    · right; exact ⟨this.1, hm, by simpa [hm] using this.2.2.2.2⟩
    · left; simpa [hm] using this.2.2.2.2
  · simp

theorem overlapFix_invalid (t : Trie Nat) (ovl : List Nat) (p pov : Nat) :
    (overlapFix t ovl p pov).2.2 = true → (overlapFix t ovl p pov).2.1.isNot = true := by
  unfold overlapFix
  by_cases h0 : (t.getOrDescendant (ovl ++ [pov])).isNot = true
  · simp only [h0, Bool.not_true, Bool.false_eq_true, if_false]
    by_cases h1 : (t.getOrDescendant (ovl ++ [KEY_OVERLAP_MARKER, pov])).isNot = true
    · simp only [h1, Bool.not_true, Bool.false_eq_true, if_false]
      by_cases h2 : (t.getOrDescendant (ovl ++ [KEY_OVERLAP_MARKER, p])).isNot = true
      · simp only [h2, Bool.not_true, Bool.false_eq_true, if_false]
        by_cases h3 : p &&& MASK_KEYCODES = p
        · simp only [h3, if_true]; intro _; exact h2
        · simp only [h3, if_false]; intro h; exact h
      · simp [h2]
    · simp [h1]
  · simp [h0]

theorem stdVariant_invalid (t : Trie Nat) (mc : Bool) (seq : List Nat) :
    (stdVariant t mc seq).2.2 = true → (stdVariant t mc seq).2.1.isNot = true := by
  unfold stdVariant
  by_cases h : (t.getOrDescendant seq).isNot = true
  · simp only [h, if_true]; exact id
  · simp [h]

theorem finish_out_hidden (t : Trie Nat) (x : Eng × Res × Res) (hx : x.1.st.mode ≠ .visibleBackspaced) :
    (finish t x).out = x.1.out := by
  simp only [finish]
  split
  · exact (terminate_fields x.1 _ true).2.2.2 hx
  · split
    · split
      · exact (terminate_fields _ _ true).2.2.2 hx
      · exact (terminate_fields _ _ false).2.2.2 hx
    · rfl

theorem finish_noValue (t : Trie Nat) (e : Eng) (r1 r2 : Res) (h1 : ∀ j, r1 ≠ .hasValue j)
    (h2 : ∀ j, r2 ≠ .hasValue j) : finish t (e, r1, r2) = e := by
  simp only [finish]

theorem dropFront_nil_res (t : Trie Nat) : ∀ (s : List Nat) (res : Res),
    (dropFront t s res).1 = [] →
      (s = [] ∧ (dropFront t s res).2 = res) ∨ (dropFront t s res).2 = t.getOrDescendant []
  | [], res, _ => Or.inl ⟨rfl, rfl⟩
  | x :: s, res, h => by
    simp only [dropFront] at h ⊢
    split at h
    · rename_i hn
      simp only [hn, if_true]
      rcases dropFront_nil_res t s _ h with ⟨rfl, h'⟩ | h'
      · right; exact h'
      · right; exact h'
    · simp at h

/-- what `finish (reconcile …)` can do to the output in a hidden mode: nothing, or — only in
hidden-delay-type, only when this key cancels the sequence, and then no virtual key is tapped —
type the raw keys -/
theorem finish_reconcile_hidden (t : Trie Nat) (hne : ∀ j, t.getOrDescendant [] ≠ .hasValue j)
    (e : Eng) (std ovl : List Nat × Res × Bool)
    (hstd : std.2.2 = true → std.2.1.isNot = true) (hovl : ovl.2.2 = true → ovl.2.1.isNot = true)
    (hm : e.st.mode ≠ .visibleBackspaced) :
    (finish t (reconcile t e std ovl)).out = e.out ∨
      (e.st.mode = .hiddenDelayType ∧ (finish t (reconcile t e std ovl)).st.active = false ∧
        (finish t (reconcile t e std ovl)).taps = e.taps ∧
        (finish t (reconcile t e std ovl)).out =
          e.out ++ e.st.rawOscs.flatMap (fun k => osPress k ++ osRelease k)) := by
  rcases std with ⟨s1, s2, s3⟩
  rcases ovl with ⟨o1, o2, o3⟩
  cases s3 <;> cases o3
  · left; rw [finish_out_hidden]; all_goals simp [reconcile, hm]
  · left; rw [finish_out_hidden]; all_goals simp [reconcile, hm]
  · left; rw [finish_out_hidden]; all_goals simp [reconcile, hm]
  · -- both variants invalid: front-dropping, possibly cancel
    have ho2 : o2 = .notInTrie := eq_notInTrie_of_isNot (hovl rfl)
    have hs2 : s2.isNot = true := hstd rfl
    subst ho2
    simp only [reconcile]
    split
    · rename_i hc
      have hres : ∀ j, (dropFront t s1 s2).2 ≠ .hasValue j := by
        intro j hj
        simp only [Bool.or_eq_true] at hc
        rcases hc with hc | hc
        · rw [hj] at hc; simp [Trie.GetRes.isNot] at hc
        · have hnil : (dropFront t s1 s2).1 = [] := by simpa using hc
          rcases dropFront_nil_res t s1 s2 hnil with ⟨_, h'⟩ | h'
          · rw [h'] at hj; rw [hj] at hs2; simp [Trie.GetRes.isNot] at hs2
          · rw [h'] at hj; exact hne j hj
      rw [finish_noValue t _ _ _ hres (by intro j; simp)]
      exact cancelSequence_hidden
        { e with st := { e.st with sequence := (dropFront t s1 s2).1, overlapped := o1 } } hm
    · left; rw [finish_out_hidden]; all_goals simp [hm]

/-- **hidden modes, every table**: a key pressed in sequence mode emits nothing at the OS, except
that hidden-delay-type types the raw keys (this one included) when this key cancels the sequence —
and then no virtual key is tapped. -/
theorem doSeqPress_hidden (t : Trie Nat) (hne : ∀ j, t.getOrDescendant [] ≠ .hasValue j) (mc : Bool)
    (e : Eng) (k mm : Nat) (hm : e.st.mode ≠ .visibleBackspaced) :
    (doSeqPress t mc e k mm).out = e.out ∨
      (e.st.mode = .hiddenDelayType ∧ (doSeqPress t mc e k mm).st.active = false ∧
        (doSeqPress t mc e k mm).taps = e.taps ∧
        (doSeqPress t mc e k mm).out = e.out ++
          (e.st.rawOscs ++ [k]).flatMap (fun k => osPress k ++ osRelease k)) := by
  have hb : (pressBase e k).out = e.out ∧ (pressBase e k).st.mode = e.st.mode ∧
      (pressBase e k).taps = e.taps ∧ (pressBase e k).st.rawOscs = e.st.rawOscs ++ [k] := by
    unfold pressBase
    cases h : e.st.mode <;> simp_all
  have := finish_reconcile_hidden t hne (pressBase e k)
    (stdVariant t mc (e.st.sequence ++ [normaliseMod k ||| mm]))
    (overlapFix t e.st.overlapped (normaliseMod k ||| mm)
      ((normaliseMod k ||| mm) &&& MASK_KEYCODES ||| KEY_OVERLAP_MARKER))
    (stdVariant_invalid t mc _) (overlapFix_invalid t _ _ _) (by rw [hb.2.1]; exact hm)
  rw [hb.1, hb.2.1, hb.2.2.1, hb.2.2.2] at this
  exact this

end KVerif.Seq
