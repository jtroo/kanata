/-
Lemmas for C16 about the two layer-table fillers of `parse_layers`.
-/
import KVerif.Model.CfgTree
namespace KVerif.CfgTree

/-- first match in an association list keyed by position -/
def alookup {α} (j : Nat) : List (Nat × α) → Option α
  | [] => none
  | (k, a) :: rest => if k = j then some a else alookup j rest

theorem alookup_none_of_not_mem {α} (j : Nat) (l : List (Nat × α)) (h : j ∉ l.map (·.1)) :
    alookup j l = none := by
  induction l with
  | nil => rfl
  | cons p rest ih =>
    obtain ⟨k, a⟩ := p
    simp only [List.map_cons, List.mem_cons, not_or] at h
    simp only [alookup]
    rw [if_neg (fun hk => h.1 hk.symm)]
    exact ih h.2

theorem alookup_eq_some_iff {α} (j : Nat) (a : α) (l : List (Nat × α)) (hnd : (l.map (·.1)).Nodup) :
    alookup j l = some a ↔ (j, a) ∈ l := by
  induction l with
  | nil => simp [alookup]
  | cons p rest ih =>
    obtain ⟨k, b⟩ := p
    rw [List.map_cons, List.nodup_cons] at hnd
    rw [alookup, List.mem_cons, Prod.mk.injEq]
    split
    · next hk =>
      -- the key is not repeated: the pair can only be the first one
      subst hk
      have : (k, a) ∉ rest := fun h => hnd.1 (List.mem_map.mpr ⟨_, h, rfl⟩)
      simp only [Option.some.injEq, true_and, this, or_false, eq_comm]
    · next hk =>
      rw [ih hnd.2]
      simp only [Ne.symm hk, false_and, false_or]

/-- permuting a duplicate-free association list does not change what it maps a position to -/
theorem alookup_perm {α} (j : Nat) (l1 l2 : List (Nat × α)) (hp : l1.Perm l2)
    (hnd : (l1.map (·.1)).Nodup) : alookup j l1 = alookup j l2 :=
  Option.ext fun a => by
    rw [alookup_eq_some_iff j a l1 hnd,
      alookup_eq_some_iff j a l2 ((hp.map (·.1)).nodup_iff.mp hnd), hp.mem_iff]

theorem alookup_append {α} (j : Nat) (l1 l2 : List (Nat × α)) :
    alookup j (l1 ++ l2) = (alookup j l1).or (alookup j l2) := by
  induction l1 with
  | nil => simp [alookup]
  | cons p rest ih =>
    obtain ⟨k, a⟩ := p
    simp only [List.cons_append, alookup]
    split <;> simp [ih]

/-- filtering on the values commutes with looking a key up, when keys are not repeated -/
theorem alookup_filter {α} (q : α → Bool) (j : Nat) (l : List (Nat × α))
    (hnd : (l.map (·.1)).Nodup) :
    alookup j (l.filter fun x => q x.2) = (alookup j l).filter q := by
  induction l with
  | nil => rfl
  | cons x rest ih =>
    obtain ⟨k, b⟩ := x
    rw [List.map_cons, List.nodup_cons] at hnd
    rw [List.filter_cons, alookup]
    by_cases hk : k = j
    · subst hk
      rw [if_pos rfl, Option.filter]
      cases q b
      · exact alookup_none_of_not_mem k _ fun hm =>
          hnd.1 (List.map_subset _ List.filter_sublist.subset hm)
      · rw [if_pos rfl, if_pos rfl, alookup, if_pos rfl]
    · rw [if_neg hk, ← ih hnd.2]
      split
      · rw [alookup, if_neg hk]
      · rfl

theorem mem_of_mem_keys_zip {α} {order : List Nat} {acts : List α} {k : Nat}
    (h : k ∈ (order.zip acts).map (·.1)) : k ∈ order := by
  obtain ⟨⟨_, b⟩, hkb, rfl⟩ := List.mem_map.mp h
  exact (List.of_mem_zip hkb).1

/-- `deflayerFill` as a lookup: position `j` holds the action written at the place of `j` in defsrc -/
theorem deflayerFill_apply {α} (order : List Nat) (acts : List α) (t : Table α) (j : Nat)
    (hnd : order.Nodup) :
    deflayerFill t order acts j = (alookup j (order.zip acts)).or (t j) := by
  induction order generalizing t acts with
  | nil => simp [deflayerFill, alookup]
  | cons o rest ih =>
    cases acts with
    | nil => simp [deflayerFill, alookup]
    | cons a acts' =>
      simp only [List.nodup_cons] at hnd
      simp only [deflayerFill, List.zip_cons_cons, alookup]
      rw [ih acts' (t.set o a) hnd.2]
      by_cases hj : o = j
      · subst hj
        have : alookup o (rest.zip acts') = none :=
          alookup_none_of_not_mem _ _ fun hm => hnd.1 (mem_of_mem_keys_zip hm)
        simp [this, Table.set]
      · have hj' : ¬ j = o := fun h => hj h.symm
        simp [hj, hj', Table.set]

theorem fillDefault_apply {α} (a : α) (ps : List Nat) (t : Table α) (j : Nat) :
    fillDefault t a ps j = (t j).or (if j ∈ ps then some a else none) := by
  induction ps generalizing t with
  | nil => simp [fillDefault]
  | cons p rest ih =>
    rw [fillDefault, ih]
    by_cases hj : j = p
    · subst hj
      cases h : t j <;> simp [h, Table.set]
    · cases t p <;> simp [hj, Table.set]

def keyPairs {α} (ps : List (Nat × α)) : List (MapIn × α) := ps.map fun p => (MapIn.key p.1, p.2)

/-- a run of ordinary `key action` pairs with distinct, not yet used keys: each key receives its
action, nothing else changes -/
theorem layermapFill_keys {α} (order : List Nat) (n : Nat) (pu : Bool) (kps : List (Nat × α))
    (st : MapSt α) (hnd : (kps.map (·.1)).Nodup) (hdisj : ∀ k ∈ kps.map (·.1), k ∉ st.seen) :
    ∃ st', layermapFill order n pu st (keyPairs kps) = .ok st' ∧
      (∀ j, st'.table j = (alookup j kps).or (st.table j)) ∧
      st'.usedDefsrc = st.usedDefsrc ∧ st'.usedUnmapped = st.usedUnmapped ∧ st'.usedBoth = st.usedBoth ∧
      st'.seen = (kps.map (·.1)).reverse ++ st.seen := by
  induction kps generalizing st with
  | nil => exact ⟨st, rfl, by simp [alookup], rfl, rfl, rfl, rfl⟩
  | cons p rest ih =>
    obtain ⟨k, a⟩ := p
    simp only [List.map_cons, List.nodup_cons] at hnd
    have hk : k ∉ st.seen := hdisj k (by simp)
    let st1 : MapSt α := { st with table := st.table.set k a, seen := k :: st.seen }
    have hd1 : ∀ k' ∈ rest.map (·.1), k' ∉ st1.seen := by
      intro k' hk' hmem
      simp only [st1, List.mem_cons] at hmem
      cases hmem with
      | inl h => subst h; exact hnd.1 hk'
      | inr h => exact hdisj k' (by simp [hk']) h
    obtain ⟨st', h1, h2, h3, h4, h5, h6⟩ := ih st1 hnd.2 hd1
    refine ⟨st', ?_, ?_, h3, h4, h5, ?_⟩
    · simp only [keyPairs, List.map_cons, layermapFill, layermapStep, hk, if_false]
      exact h1
    · intro j
      rw [h2 j]
      simp only [alookup, st1, Table.set]
      by_cases hj : k = j
      · subst hj
        have : alookup k rest = none := alookup_none_of_not_mem k rest hnd.1
        simp [this]
      · have hj' : ¬ j = k := fun h => hj h.symm
        simp [hj, hj']
    · rw [h6]; simp [st1]

theorem layermapFill_append {α} (order : List Nat) (n : Nat) (pu : Bool) (a b : List (MapIn × α))
    (st : MapSt α) :
    layermapFill order n pu st (a ++ b) =
      match layermapFill order n pu st a with
      | .error e => .error e
      | .ok st1 => layermapFill order n pu st1 b := by
  induction a generalizing st with
  | nil => rfl
  | cons p rest ih =>
    simp only [List.cons_append, layermapFill]
    cases layermapStep order n pu st p with
    | error e => rfl
    | ok st1 => exact ih st1


theorem zip_keys_nodup {α} (order : List Nat) (acts : List α) (hnd : order.Nodup) :
    ((order.zip acts).map (·.1)).Nodup := by
  induction order generalizing acts with
  | nil => simp
  | cons o rest ih =>
    cases acts with
    | nil => simp
    | cons a acts' =>
      simp only [List.nodup_cons] at hnd
      simp only [List.zip_cons_cons, List.map_cons, List.nodup_cons]
      exact ⟨fun hm => hnd.1 (mem_of_mem_keys_zip hm), ih acts' hnd.2⟩

theorem exists_zip_of_mem {α} (order : List Nat) (acts : List α) (j : Nat) (hj : j ∈ order)
    (hlen : order.length ≤ acts.length) : ∃ a, (j, a) ∈ order.zip acts := by
  induction order generalizing acts with
  | nil => simp at hj
  | cons o rest ih =>
    cases acts with
    | nil => simp at hlen
    | cons a acts' =>
      simp only [List.length_cons, Nat.add_le_add_iff_right] at hlen
      simp only [List.mem_cons] at hj
      cases hj with
      | inl h => exact ⟨a, by simp [h]⟩
      | inr h =>
        obtain ⟨b, hb⟩ := ih acts' h hlen
        exact ⟨b, by simp [hb]⟩

/-- Writing a layer as `deflayermap` — the `key action` pairs of the deflayer in ANY order — fills
the same table. -/
theorem layermap_table {α} (order : List Nat) (acts : List α) (n : Nat) (pu : Bool)
    (ps : List (Nat × α)) (hnd : order.Nodup) (hperm : ps.Perm (order.zip acts)) :
    ∃ st, layermapFill order n pu { table := Table.empty } (keyPairs ps) = .ok st ∧
      st.table = deflayerFill Table.empty order acts := by
  have hz := zip_keys_nodup order acts hnd
  have hpn : (ps.map (·.1)).Nodup := (hperm.map (·.1)).nodup_iff.mpr hz
  obtain ⟨st, h1, h2, -⟩ := layermapFill_keys order n pu ps { table := Table.empty } hpn (by simp)
  refine ⟨st, h1, ?_⟩
  funext j
  rw [h2 j, deflayerFill_apply order acts _ j hnd, alookup_perm j ps _ hperm hpn]

/-- … and so does leaving out every key whose action is `d` and saying `_ d` (anywhere among the
pairs) instead. -/
theorem layermap_table_default {α} [DecidableEq α] (order : List Nat) (acts : List α) (n : Nat)
    (pu : Bool) (d : α) (ps1 ps2 : List (Nat × α)) (hnd : order.Nodup)
    (hlen : order.length ≤ acts.length)
    (hperm : (ps1 ++ ps2).Perm ((order.zip acts).filter (fun p => p.2 ≠ d))) :
    ∃ st, layermapFill order n pu { table := Table.empty }
        (keyPairs ps1 ++ (MapIn.anyDefsrc, d) :: keyPairs ps2) = .ok st ∧
      st.table = deflayerFill Table.empty order acts := by
  have hz := zip_keys_nodup order acts hnd
  have hkept : (((order.zip acts).filter (fun p => p.2 ≠ d)).map (·.1)).Nodup :=
    (List.Sublist.map _ (List.filter_sublist (l := order.zip acts))).nodup hz
  have hpn : ((ps1 ++ ps2).map (·.1)).Nodup := (hperm.map (·.1)).nodup_iff.mpr hkept
  rw [List.map_append, List.nodup_append] at hpn
  obtain ⟨hn1, hn2, hdis⟩ := hpn
  -- the pairs before `_`
  obtain ⟨st1, e1, t1, f1, -, f3, s1⟩ :=
    layermapFill_keys order n pu ps1 { table := Table.empty } hn1 (by simp)
  -- `_ d`
  let st2 : MapSt α := { st1 with table := fillDefault st1.table d order, usedDefsrc := true }
  have e2 : layermapStep order n pu st1 (MapIn.anyDefsrc, d) = .ok st2 := by
    simp [layermapStep, st2, show st1.usedDefsrc = false from f1, show st1.usedBoth = false from f3]
  -- the pairs after `_`
  have hd2 : ∀ k ∈ ps2.map (·.1), k ∉ st2.seen := fun k hk hmem => by
    rw [show st2.seen = st1.seen from rfl, s1, List.append_nil, List.mem_reverse] at hmem
    exact hdis k hmem k hk rfl
  obtain ⟨st3, e3, t3, -⟩ := layermapFill_keys order n pu ps2 st2 hn2 hd2
  refine ⟨st3, ?_, ?_⟩
  · rw [layermapFill_append, e1]
    simp only [layermapFill, e2]
    exact e3
  · funext j
    -- position `j` holds its pair after `_`, else its pair before `_`, else `d` if it is in defsrc;
    -- the pairs are the zip without the `d`s
    have hp : (ps2 ++ ps1).Perm ((order.zip acts).filter (fun p => p.2 ≠ d)) :=
      List.perm_append_comm.trans hperm
    rw [t3 j, show st2.table = fillDefault st1.table d order from rfl, fillDefault_apply, t1 j,
      deflayerFill_apply order acts _ j hnd]
    simp only [Table.empty, Option.or_none]
    rw [← Option.or_assoc, ← alookup_append,
      alookup_perm j _ _ hp ((hp.map (·.1)).nodup_iff.mpr hkept),
      alookup_filter (fun b => decide (b ≠ d)) j _ hz]
    cases hl : alookup j (order.zip acts) with
    | none =>
      have : j ∉ order := fun hj => by
        obtain ⟨a, ha⟩ := exists_zip_of_mem order acts j hj hlen
        rw [(alookup_eq_some_iff j a _ hz).mpr ha] at hl
        cases hl
      simp [this]
    | some b =>
      have : j ∈ order :=
        mem_of_mem_keys_zip (List.mem_map.mpr ⟨(j, b), (alookup_eq_some_iff j b _ hz).mp hl, rfl⟩)
      by_cases hb : b = d <;> simp [Option.filter, hb, this]

end KVerif.CfgTree
