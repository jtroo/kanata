/-
C14 helper lemmas: the SEMANTIC link between the key-output table (`Model/KeyOutputs.lean`,
`possibleOutputs`, a syntactic walk over the action tree) and the layout model
(`Model/Layout.lean`, `doAction` and everything it stores for later).

The vehicle is one invariant `Inv K Q s` of the layout state, parametrised by

* `K : Coord → KeyCode → Prop`   "key code `kc` may be put down on behalf of coordinate `c`", and
* `Q : Coord → Prop`             "the configuration cells of coordinate `c` (every layer and the defsrc
                                   row) are covered by `K`", which is what a transparent / use-defsrc
                                   leaf executed at `c` needs,

and the syntactic predicate `ActOK K Q c a` "every key code in the closure of action `a` is allowed by
`K` at coordinate `c`".  `Inv` says: every `normalKey` state carries an allowed key code, and
everything stored for later execution (waiting tap-hold / tap-dance / chord states, eager tap-dance
state, action queue entries, queued presses) only carries actions inside the same closure.
-/
import KVerif.Model.KeyOutputs
import KVerif.Lemmas.TapHold
namespace KVerif.C14L
open KVerif.L KVerif.K KVerif.KO

abbrev KSet := Coord → KeyCode → Prop

/-! ### The syntactic closure -/

mutual
  /-- every key code action `a` can put down when executed at coordinate `c` - now or, through a
  waiting state / the action queue, later - is allowed by `K`.
  * `Trans` / `Src` are looked up in the configuration at run time: they need `Q c`.
  * `Repeat` re-runs whatever action ran last, at THIS coordinate: it is outside every closure that
    depends on the coordinate (the real table has no arm for it either), hence `False`.
  * chords v1 run their members at the coordinates of the group's participants (the released
    participant, the participants of the pressed queue, the coordinate chosen for a decomposed
    sub-chord) as well as at the coordinate the action sits on: the members must be allowed at all of
    those.
  * the eager tap-dance runs its later members at "the last pressed real key", which is another key
    when the tap-dance sits on a virtual key: its members must be allowed at every coordinate. -/
  def ActOK (K : KSet) (Q : Coord → Prop) : Coord → Action → Prop
    | c, .trans => Q c
    | c, .src => Q c
    | c, .keyCode kc => K c kc
    | c, .multipleKeyCodes kcs => ∀ kc ∈ kcs, K c kc
    | c, .bufKeyCodes kcs => ∀ kc ∈ kcs, K c kc
    | c, .multipleActions acs => ActOKL K Q c acs
    | c, .holdTap _ hold tap ta _ _ => ActOK K Q c hold ∧ ActOK K Q c tap ∧ ActOK K Q c ta
    | c, .oneShot a _ _ => ActOK K Q c a
    | c, .tapDance acs _ false => ActOKL K Q c acs
    | _, .tapDance acs _ true => ∀ c', ActOKL K Q c' acs
    | c, .chords coords chs _ => ∀ c', (c' = c ∨ c' ∈ coords.map (·.1)) → ActOKC K Q c' chs
    | _, .repeat => False
    | c, .fork l r _ => ActOK K Q c l ∧ ActOK K Q c r
    | c, .switch cases => ActOKS K Q c cases
    | _, _ => True
  def ActOKL (K : KSet) (Q : Coord → Prop) : Coord → List Action → Prop
    | _, [] => True
    | c, a :: rest => ActOK K Q c a ∧ ActOKL K Q c rest
  def ActOKC (K : KSet) (Q : Coord → Prop) : Coord → List (Nat × Action) → Prop
    | _, [] => True
    | c, (_, a) :: rest => ActOK K Q c a ∧ ActOKC K Q c rest
  def ActOKS (K : KSet) (Q : Coord → Prop) : Coord → List (List Nat × Action × Bool) → Prop
    | _, [] => True
    | c, (_, a, _) :: rest => ActOK K Q c a ∧ ActOKS K Q c rest
end

theorem ActOKL_iff {K : KSet} {Q : Coord → Prop} {c : Coord} {l : List Action} :
    ActOKL K Q c l ↔ ∀ a ∈ l, ActOK K Q c a := by
  induction l with
  | nil => exact iff_of_true trivial nofun
  | cons a r ih => exact (and_congr_right' ih).trans List.forall_mem_cons.symm

theorem ActOKC_iff {K : KSet} {Q : Coord → Prop} {c : Coord} {l : List (Nat × Action)} :
    ActOKC K Q c l ↔ ∀ e ∈ l, ActOK K Q c e.2 := by
  induction l with
  | nil => exact iff_of_true trivial nofun
  | cons e r ih =>
    obtain ⟨_, a⟩ := e
    simp only [ActOKC, List.forall_mem_cons, ih]

theorem ActOKS_iff {K : KSet} {Q : Coord → Prop} {c : Coord} {l : List (List Nat × Action × Bool)} :
    ActOKS K Q c l ↔ ∀ e ∈ l, ActOK K Q c e.2.1 := by
  induction l with
  | nil => exact iff_of_true trivial nofun
  | cons e r ih =>
    obtain ⟨_, a, _⟩ := e
    simp only [ActOKS, List.forall_mem_cons, ih]

/-! ### The invariant -/

def StatesOK (K : KSet) (l : List St) : Prop := ∀ kc c fl, St.normalKey kc c fl ∈ l → K c kc

/-- the cells of every covered coordinate are inside the closure: the action of every layer at `c`
(what `resolve_coord` can return for a `Trans` executed at `c`) and the defsrc key of `c`'s column
(what `Src` executes, and where `resolve_coord` ends) -/
def CfgOK (K : KSet) (Q : Coord → Prop) (cfg : LCfg) : Prop :=
  ∀ c, Q c → (∀ l a, cfg.layerAction l c = .ok a → ActOK K Q c a) ∧ ActOK K Q c (cfg.srcKey c.2)

/-- the coordinates a waiting state may run its actions at: its own; for a chord state also those of
the group's participants -/
def wAt (w : Waiting) (c' : Coord) : Prop :=
  c' = w.coord ∨ ∃ g, w.config = .chord g ∧ c' ∈ g.coords.map (·.1)

def WCfgOK (K : KSet) (Q : Coord → Prop) (c' : Coord) : WCfg → Prop
  | .holdTap _ => True
  | .tapDance acs _ _ => ActOKL K Q c' acs
  | .chord g => ActOKC K Q c' g.chords

/-- a waiting state stores only actions inside the closure -/
def WOK (K : KSet) (Q : Coord → Prop) (w : Waiting) : Prop :=
  ∀ c', wAt w c' → ActOK K Q c' w.hold ∧ ActOK K Q c' w.tap ∧ ActOK K Q c' w.timeoutAction ∧
    WCfgOK K Q c' w.config

structure Inv (K : KSet) (Q : Coord → Prop) (s : Layout) : Prop where
  cfg : CfgOK K Q s.cfg
  states : StatesOK K s.states
  waiting : ∀ w, s.waiting = some w → WOK K Q w
  extra : ∀ w ∈ s.extraWaiting, WOK K Q w
  tde : ∀ t, s.tapDanceEager = some t → ∀ c', ActOKL K Q c' t.actions
  aq : ∀ e ∈ s.actionQueue, ActOK K Q e.1 e.2.2
  queue : ∀ q ∈ s.queue, ∀ c, q.ev = .press c → Q c

/-- the fields the invariant reads, except `states`, agree -/
structure Same (s' s : Layout) : Prop where
  cfg : s'.cfg = s.cfg
  waiting : s'.waiting = s.waiting
  extra : s'.extraWaiting = s.extraWaiting
  tde : s'.tapDanceEager = s.tapDanceEager
  aq : s'.actionQueue = s.actionQueue
  queue : s'.queue = s.queue

/-- `normalKey` states of `l'` are `normalKey` states of `l` -/
def NKSub (l' l : List St) : Prop := ∀ kc c fl, St.normalKey kc c fl ∈ l' → St.normalKey kc c fl ∈ l

/-- what the invariant reads of a layout -/
def core (s : Layout) :=
  (s.cfg, s.states, s.waiting, s.extraWaiting, s.tapDanceEager, s.actionQueue, s.queue)

/-! ### container facts -/

theorem mem_pushCap {α : Type} {cap : Nat} {l : List α} {x y : α} (h : y ∈ pushCap cap l x) : y ∈ l ∨ y = x := by
  unfold pushCap at h
  split at h
  · exact (List.mem_append.mp h).imp_right List.mem_singleton.mp
  · exact .inl h

theorem pushBackWrap_forall {α : Type} {P : α → Prop} {cap : Nat} {l : List α} {x : α} {r : List α × Option α}
    (he : pushBackWrap cap l x = r) (hl : ∀ y ∈ l, P y) (hx : P x) :
    (∀ y ∈ r.1, P y) ∧ ∀ y, r.2 = some y → P y := by
  have hlx : ∀ y ∈ l ++ [x], P y := List.forall_mem_append.mpr ⟨hl, List.forall_mem_singleton.mpr hx⟩
  subst he
  unfold pushBackWrap
  split
  · exact ⟨hlx, fun _ => nofun⟩
  · cases l with
    | nil => exact ⟨nofun, by rintro _ ⟨⟩; exact hx⟩
    | cons a t => exact ⟨fun y hy => hlx y (.tail _ hy), by rintro _ ⟨⟩; exact hl a (.head _)⟩

theorem mem_pushBackWrap_self {α : Type} {cap : Nat} (hcap : 0 < cap) (l : List α) (x : α) :
    x ∈ (pushBackWrap cap l x).1 := by
  unfold pushBackWrap
  split
  · exact List.mem_append_right _ (.head _)
  · cases l with
    | nil => exact absurd hcap ‹_›
    | cons a t => exact List.mem_append_right _ (.head _)

theorem NKSub.refl (l : List St) : NKSub l l := fun _ _ _ h => h
theorem NKSub.trans {a b c : List St} (h1 : NKSub a b) (h2 : NKSub b c) : NKSub a c :=
  fun kc co fl h => h2 kc co fl (h1 kc co fl h)
theorem NKSub.of_sub {l' l : List St} (h : ∀ st ∈ l', st ∈ l) : NKSub l' l := fun _ _ _ hm => h _ hm
theorem NKSub.cons {l' l : List St} (h : NKSub l' l) {st' st : St}
    (hst : ∀ kc c fl, st' = .normalKey kc c fl → st = st') : NKSub (st' :: l') (st :: l) := by
  intro kc c fl hm
  rcases List.mem_cons.mp hm with e | hm
  · exact hst kc c fl e.symm ▸ e ▸ .head _
  · exact .tail _ (h kc c fl hm)
theorem NKSub.filter (l : List St) (p : St → Bool) : NKSub (l.filter p) l :=
  NKSub.of_sub fun _ hm => (List.mem_filter.mp hm).1
theorem NKSub.pushCap (l : List St) (st : St) (hst : ∀ kc c fl, st ≠ .normalKey kc c fl) :
    NKSub (pushCap STATES_CAP l st) l :=
  fun kc c fl hm => (mem_pushCap hm).resolve_right (Ne.symm (hst kc c fl))

section
variable {K : KSet} {Q : Coord → Prop} {s : Layout}

theorem StatesOK.nksub {l' l : List St} (h : StatesOK K l) (hs : NKSub l' l) : StatesOK K l' :=
  fun kc c fl hm => h kc c fl (hs kc c fl hm)

theorem StatesOK.filter {K : KSet} {l : List St} (h : StatesOK K l) (p : St → Bool) : StatesOK K (l.filter p) :=
  h.nksub (.filter l p)

theorem StatesOK.pushCap {K : KSet} {l : List St} (h : StatesOK K l) (st : St)
    (hst : ∀ kc c fl, st = .normalKey kc c fl → K c kc) : StatesOK K (pushCap STATES_CAP l st) :=
  fun kc c fl hm => (mem_pushCap hm).elim (h kc c fl) fun e => hst kc c fl e.symm

theorem Inv.of_same {s' : Layout} (h : Inv K Q s) (hs : Same s' s) (hst : StatesOK K s'.states) : Inv K Q s' where
  cfg := hs.cfg ▸ h.cfg
  states := hst
  waiting := hs.waiting ▸ h.waiting
  extra := hs.extra ▸ h.extra
  tde := hs.tde ▸ h.tde
  aq := hs.aq ▸ h.aq
  queue := hs.queue ▸ h.queue

theorem Inv.congr {s' : Layout} (h : Inv K Q s) (e : core s' = core s) : Inv K Q s' := by
  simp only [core, Prod.mk.injEq] at e
  obtain ⟨e1, e2, e3, e4, e5, e6, e7⟩ := e
  exact h.of_same ⟨e1, e3, e4, e5, e6, e7⟩ (e2 ▸ h.states)

theorem Inv.setStates (h : Inv K Q s) {l : List St} (hl : StatesOK K l) : Inv K Q { s with states := l } :=
  h.of_same ⟨rfl, rfl, rfl, rfl, rfl, rfl⟩ hl

theorem Inv.nksub (h : Inv K Q s) {l : List St} (hl : NKSub l s.states) : Inv K Q { s with states := l } :=
  h.setStates (h.states.nksub hl)

theorem Inv.filter {K : KSet} {Q : Coord → Prop} {s : Layout} (h : Inv K Q s) (p : St → Bool) :
    Inv K Q { s with states := s.states.filter p } :=
  h.nksub (.filter _ p)

theorem Inv.pushState (h : Inv K Q s) (st : St) (hst : ∀ kc c fl, st = .normalKey kc c fl → K c kc) :
    Inv K Q (s.pushState st) :=
  h.setStates (h.states.pushCap st hst)

theorem Inv.pushKey (h : Inv K Q s) {c : Coord} {kc : KeyCode} (hk : K c kc) (fl : Nat) :
    Inv K Q (s.pushState (.normalKey kc c fl)) :=
  h.pushState _ (by rintro _ _ _ ⟨⟩; exact hk)

theorem Inv.rpt (h : Inv K Q s) (x : Option Action) : Inv K Q { s with rptAction := x } := h.congr rfl
theorem Inv.hist (h : Inv K Q s) (x : List (KeyCode × Nat)) : Inv K Q { s with histKeys := x } := h.congr rfl
theorem Inv.hists (h : Inv K Q s) (x : List (KeyCode × Nat)) (y : List (Coord × Nat)) :
    Inv K Q { s with histKeys := x, histInputs := y } := h.congr rfl
theorem Inv.seqs (h : Inv K Q s) (x : List SeqState) : Inv K Q { s with activeSequences := x } := h.congr rfl
theorem Inv.lpt (h : Inv K Q s) (x : Nat) : Inv K Q { s with lptTapHoldTimeout := x } := h.congr rfl
theorem Inv.osh (h : Inv K Q s) (x : OneShotState) : Inv K Q { s with oneshot := x } := h.congr rfl

theorem Inv.oshPress (h : Inv K Q s) (k : OshKey) : Inv K Q (s.oshPress k).1 := h.congr rfl

theorem updateCoord_eq (s : Layout) (c : Coord) :
    updateCoord s c = { s with lptCoord := (updateCoord s c).lptCoord } := by
  unfold updateCoord; split <;> rfl

theorem Inv.updateCoord (h : Inv K Q s) (c : Coord) : Inv K Q (updateCoord s c) :=
  h.congr (by rw [updateCoord_eq]; rfl)

theorem Inv.oshOther (h : Inv K Q s) (b : Bool) (c : Coord) : Inv K Q (oshOther s b c).1 :=
  h.congr (by unfold L.oshOther; split <;> rfl)

theorem Inv.prelude (h : Inv K Q s) (c : Coord) : Inv K Q (prelude s c) := by
  unfold L.prelude
  exact Inv.filter (s := if s.lptCoord != c then { s with lptTapHoldTimeout := 0 } else s)
    (h.congr (by split <;> rfl)) _

theorem Inv.pushKeyCodes {kcs : List KeyCode} {c : Coord} (hk : ∀ kc ∈ kcs, K c kc) (fl : Nat) :
    ∀ {s : Layout}, Inv K Q s → Inv K Q (pushKeyCodes s kcs c fl) := by
  induction kcs with
  | nil => exact id
  | cons k rest ih =>
    exact fun h => ih (fun kc hkc => hk kc (.tail _ hkc)) ((h.hist _).pushKey (hk k (.head _)) fl)

theorem Inv.ite {p : Prop} [Decidable p] {a b : Layout} (ha : Inv K Q a) (hb : Inv K Q b) :
    Inv K Q (if p then a else b) := by
  split <;> assumption

/-! ### the arms of `do_action` that do not recurse -/

theorem armNoOp_inv (h : Inv K Q s) (a : Action) (c : Coord) (b : Bool) : Inv K Q (armNoOp s a c b) :=
  h.congr (by unfold armNoOp; split <;> rfl)

theorem armKeyCode_inv (h : Inv K Q s) (a : Action) {kc : KeyCode} {c : Coord} (b : Bool) (hk : K c kc) :
    Inv K Q (armKeyCode s a kc c b) := by
  have h1 := (((h.updateCoord c).hist (histPush (updateCoord s c).histKeys kc)).pushKey hk 0).oshOther b c
  exact .ite (h1.rpt _) (h1.rpt _)

theorem armMultipleKeyCodes_inv (h : Inv K Q s) (a : Action) {kcs : List KeyCode} {c : Coord} (b : Bool)
    (hk : ∀ kc ∈ kcs, K c kc) : Inv K Q (armMultipleKeyCodes s a kcs c b) := by
  have h1 := ((h.updateCoord c).pushKeyCodes hk (if b then 0 else NORMAL_KEY_FLAG_CLEAR_ON_NEXT_ACTION)).oshOther b c
  exact .ite (h1.rpt _) (h1.rpt _)

theorem armBufKeyCodes_inv (h : Inv K Q s) (a : Action) {kcs : List KeyCode} {c : Coord} (b : Bool)
    (hk : ∀ kc ∈ kcs, K c kc) : Inv K Q (armBufKeyCodes s a kcs c b) := by
  have h1 := ((h.updateCoord c).pushKeyCodes hk (if b then 0 else NORMAL_KEY_FLAG_CLEAR_ON_NEXT_ACTION)).oshOther b c
  exact .ite (h1.rpt _) (h1.rpt _)

theorem armLayer_inv (h : Inv K Q s) (v : Nat) (c : Coord) (b : Bool) : Inv K Q (armLayer s v c b) :=
  ((h.updateCoord c).pushState _ (by simp)).oshOther b c

theorem armDefaultLayer_inv (h : Inv K Q s) (v : Nat) (c : Coord) (b : Bool) :
    Inv K Q (armDefaultLayer s v c b) := by
  simp only [armDefaultLayer]
  exact Inv.oshOther ((h.updateCoord c).congr (by split <;> rfl)) b c

theorem armReleaseState_inv (h : Inv K Q s) (a : Action) (rs : RelState) (c : Coord) (b : Bool) :
    Inv K Q (armReleaseState s a rs c b) :=
  ((h.filter _).oshOther b c).rpt _

theorem armCustom_inv (h : Inv K Q s) (a : Action) (id : Nat) (c : Coord) (b : Bool) :
    Inv K Q (armCustom s a id c b).1 := by
  have h1 := ((h.updateCoord c).oshOther b c).rpt (some a)
  simp only [armCustom]
  split
  · exact h1.pushState _ (by simp)
  · exact h1

theorem releaseEvicted_nksub (q : SeqState) : ∀ states : List St, NKSub (releaseEvicted states q) states := by
  unfold releaseEvicted
  induction seqOwedKeys q with
  | nil => exact .refl
  | cons k rest ih => exact fun states => (ih _).trans (.filter _ _)

theorem Inv.startSequence (h : Inv K Q s) (ev : List SeqEv) : Inv K Q (startSequence s ev) := by
  refine h.of_same ⟨rfl, rfl, rfl, rfl, rfl, rfl⟩ (h.states.nksub ?_)
  simp only [L.startSequence]
  split
  · exact releaseEvicted_nksub _ _
  · exact .refl _

theorem armSequence_inv (h : Inv K Q s) (a : Action) (ev : List SeqEv) (c : Coord) (b r : Bool) :
    Inv K Q (armSequence s a ev c b r) := by
  simp only [armSequence]
  exact Inv.rpt (Inv.oshOther (.ite ((h.startSequence ev).pushState _ (by simp)) (h.startSequence ev)) b c) _

theorem armCancelSequences_inv (h : Inv K Q s) (a : Action) (c : Coord) (b : Bool) :
    Inv K Q (armCancelSequences s a c b) :=
  (((h.seqs []).filter _).oshOther b c).rpt _

/-! ### the arms that store something for later -/

theorem Inv.setWaiting (h : Inv K Q s) {w : Waiting} (hw : WOK K Q w) : Inv K Q { s with waiting := some w } :=
  ⟨h.cfg, h.states, by rintro _ ⟨⟩; exact hw, h.extra, h.tde, h.aq, h.queue⟩

theorem Inv.clearWaiting (h : Inv K Q s) : Inv K Q { s with waiting := none } :=
  ⟨h.cfg, h.states, fun _ => nofun, h.extra, h.tde, h.aq, h.queue⟩

theorem Inv.setExtra (h : Inv K Q s) {l : List Waiting} (hl : ∀ w ∈ l, WOK K Q w) :
    Inv K Q { s with extraWaiting := l } :=
  ⟨h.cfg, h.states, h.waiting, hl, h.tde, h.aq, h.queue⟩

theorem Inv.setTde (h : Inv K Q s) {o : Option TDE} (ho : ∀ t, o = some t → ∀ c', ActOKL K Q c' t.actions) :
    Inv K Q { s with tapDanceEager := o } :=
  ⟨h.cfg, h.states, h.waiting, h.extra, ho, h.aq, h.queue⟩

theorem Inv.setAq (h : Inv K Q s) {l : ActionQueue} (hl : ∀ e ∈ l, ActOK K Q e.1 e.2.2) :
    Inv K Q { s with actionQueue := l } :=
  ⟨h.cfg, h.states, h.waiting, h.extra, h.tde, hl, h.queue⟩

theorem Inv.setQueue (h : Inv K Q s) {l : List Queued} (hl : ∀ q ∈ l, ∀ c, q.ev = .press c → Q c) :
    Inv K Q { s with queue := l } :=
  ⟨h.cfg, h.states, h.waiting, h.extra, h.tde, h.aq, hl⟩

/-- a state that is not a chord state runs its actions at its own coordinate only -/
theorem WOK_of_own {w : Waiting} (hc : ∀ g, w.config ≠ .chord g)
    (h : ActOK K Q w.coord w.hold ∧ ActOK K Q w.coord w.tap ∧ ActOK K Q w.coord w.timeoutAction ∧
      WCfgOK K Q w.coord w.config) : WOK K Q w := by
  rintro c' (rfl | ⟨g, hg, _⟩)
  · exact h
  · exact (hc g hg).elim

theorem armHoldTapWait_inv (h : Inv K Q s) {c : Coord} (delay timeout : Nat) {hold tap ta : Action}
    (config : HTConfig) (thi : Nat) (ls : List Nat)
    (h1 : ActOK K Q c hold) (h2 : ActOK K Q c tap) (h3 : ActOK K Q c ta) :
    Inv K Q (armHoldTapWait s c delay timeout hold tap ta config thi ls) := by
  simp only [armHoldTapWait]
  refine Inv.updateCoord (Inv.lpt ?_ _) c
  split
  · refine h.setExtra (pushBackWrap_forall rfl h.extra ?_).1
    exact WOK_of_own nofun ⟨h1, h2, h3, trivial⟩
  · exact h.setWaiting (WOK_of_own nofun ⟨h1, h2, h3, trivial⟩)

theorem armWait_inv (h : Inv K Q s) (c : Coord) (delay timeout : Nat) {config : WCfg} (ls : List Nat)
    (hw : ∀ c', (c' = c ∨ ∃ g, config = .chord g ∧ c' ∈ g.coords.map (·.1)) → WCfgOK K Q c' config) :
    Inv K Q (armWait s c delay timeout config ls) :=
  (h.updateCoord c).setWaiting fun c' hc' => ⟨trivial, trivial, trivial, hw c' hc'⟩

theorem armEager_inv (h : Inv K Q s) (c : Coord) {actions : List Action} (timeout : Nat)
    (ha : ∀ c', ActOKL K Q c' actions) : Inv K Q (armEager s c actions timeout) := by
  have hu := h.updateCoord c
  have hnew := hu.setTde (o := some ⟨c, actions, timeout, timeout, 1⟩) (by rintro _ ⟨⟩; exact ha)
  simp only [armEager]
  split
  · exact hnew
  · exact .ite hnew hu

theorem armOneShotPost_inv (h : Inv K Q s) (a : Action) (c : Coord) (timeout : Nat) (ec : OneShotEnd) :
    Inv K Q (armOneShotPost s a c timeout ec).1 :=
  (((h.rpt _).oshPress _).osh _).osh _

theorem switchActions_ok {eval : List Nat → Except Switch.Crash Bool} {c : Coord}
    {cases : List (List Nat × Action × Bool)} {acs : List Action} (hc : ActOKS K Q c cases)
    (h : switchActions eval cases = .ok acs) : ActOKL K Q c acs := by
  fun_induction switchActions eval cases generalizing acs with
  | case1 => cases h; trivial
  | case2 | case4 => cases h
  | case3 => cases h; exact ⟨hc.1, trivial⟩
  | case5 _ _ _ _ _ _ _ hl ih => cases h; exact ⟨hc.1, ih hc.2 hl⟩
  | case6 _ _ _ _ _ ih => exact ih hc.2 h

/-! ### `resolve_coord` -/

theorem resolveCoord_ok (hc : CfgOK K Q s.cfg) {c : Coord} (hq : Q c) {ls ls' : List Nat} {a : Action}
    (h : s.resolveCoord c ls = .ok (a, ls')) : ActOK K Q c a := by
  fun_induction Layout.resolveCoord s c ls with
  | case4 => cases h; exact (hc c hq).2
  | case5 => cases h; trivial
  | case9 _ _ _ _ _ ih => exact ih h
  | case10 l _ _ _ _ _ hl => cases h; exact (hc c hq).1 l _ hl
  | _ => cases h

/-! ### taking a waiting state out, releasing states -/

theorem takeWaiting_inv (h : Inv K Q s) {idx : Option Nat} {w : Waiting} {s1 : Layout}
    (ht : takeWaiting s idx = some (w, s1)) : Inv K Q s1 ∧ WOK K Q w := by
  unfold takeWaiting at ht
  split at ht <;> obtain ⟨w0, hw, ⟨⟩⟩ := Option.map_eq_some_iff.mp ht
  · exact ⟨h.clearWaiting, h.waiting _ hw⟩
  · exact ⟨h.setExtra fun w hm => h.extra w (List.mem_of_mem_eraseIdx hm), h.extra _ (List.mem_of_getElem? hw)⟩

theorem holdPrep_inv (h : Inv K Q s) (w : Waiting) : Inv K Q (holdPrep s w) :=
  h.congr (by unfold holdPrep; split <;> rfl)

theorem timeoutPrep_inv (h : Inv K Q s) (w : Waiting) : Inv K Q (timeoutPrep s w) :=
  h.congr (by unfold timeoutPrep; split <;> rfl)

theorem St.release_sub {st st' : St} {c : Coord} {cu : CustomEv} (h : (st.release c cu).1 = some st') :
    st' = st := by
  revert h
  fun_cases St.release st c cu <;> intro h <;> cases h <;> rfl

theorem releaseStates_sub {b : Bool} {c : Coord} {l : List St} {cu : CustomEv} {r : List St × CustomEv}
    (he : releaseStates b c l cu = r) : r.1 ⊆ l := by
  subst he
  fun_induction releaseStates b c l cu with
  | case1 => exact fun _ h => h
  | case2 _ _ _ _ ih => exact List.subset_cons_of_subset _ ih
  | case3 _ _ _ _ _ _ _ e _ hr ih =>
    rw [e] at ih; rw [← St.release_sub (congrArg (·.1) hr)]; exact List.cons_subset_cons _ ih
  | case4 _ _ _ _ _ _ _ e _ ih => rw [e] at ih; exact List.subset_cons_of_subset _ ih

theorem foldl_pushBackWrap_forall {α β : Type} {P : α → Prop} (cap : Nat) (f : β → α) {l : List β}
    (hf : ∀ b ∈ l, P (f b)) : ∀ {aq : List α}, (∀ e ∈ aq, P e) →
      ∀ e ∈ l.foldl (fun aq b => (pushBackWrap cap aq (f b)).1) aq, P e := by
  induction l with
  | nil => exact id
  | cons b rest ih =>
    exact fun h => ih (fun b hb => hf b (.tail _ hb)) (pushBackWrap_forall rfl h (hf b (.head _))).1

theorem ok_fst {ε α β : Type} {p : α × β} {a : α} {b : β} (h : (Except.ok p : Except ε (α × β)) = .ok (a, b)) :
    p.1 = a := by
  cases h; rfl

end

section Mutual

/-- the invariant is preserved by every function of the mutual block run with the given fuel; a press
that is dequeued or enters `event` must be of a covered coordinate -/
structure BlockInv (K : KSet) (Q : Coord → Prop) (fuel : Nat) : Prop where
  doAction : ∀ ⦃s a c d f ls s' cu⦄, Inv K Q s → ActOK K Q c a →
    doAction fuel s a c d f ls = .ok (s', cu) → Inv K Q s'
  dispatch : ∀ ⦃s a c d f ls s' cu⦄, Inv K Q s → ActOK K Q c a →
    dispatch fuel s a c d f ls = .ok (s', cu) → Inv K Q s'
  doActions : ∀ ⦃s acs c d f ls cu0 s' cu⦄, Inv K Q s → ActOKL K Q c acs →
    doActions fuel s acs c d f ls cu0 = .ok (s', cu) → Inv K Q s'
  waitingIntoHold : ∀ ⦃s idx s' cu⦄, Inv K Q s → waitingIntoHold fuel s idx = .ok (s', cu) → Inv K Q s'
  flushWaitings : ∀ ⦃s l s'⦄, Inv K Q s → flushWaitings fuel s l = .ok s' → Inv K Q s'
  dequeue : ∀ ⦃s q s' cu⦄, Inv K Q s → (∀ c, q.ev = .press c → Q c) →
    dequeue fuel s q = .ok (s', cu) → Inv K Q s'
  event : ∀ ⦃s ev s'⦄, Inv K Q s → (∀ c, ev = .press c → Q c) → event fuel s ev = .ok s' → Inv K Q s'

variable {K : KSet} {Q : Coord → Prop} {n : Nat}

/- Each function is split into its branches (`fun_cases`); a branch that crashes proves nothing, a
branch that returns names its result (`cases h`).  Every recursive call runs with the predecessor of
the fuel, for which `ih` holds. -/

theorem step_doAction (ih : ∀ m, n = m + 1 → BlockInv K Q m) ⦃s a c d f ls s' cu⦄ (hi : Inv K Q s)
    (ha : ActOK K Q c a) : L.doAction n s a c d f ls = .ok (s', cu) → Inv K Q s' := by
  fun_cases L.doAction n s a c d f ls <;> intro h <;> try cases h
  next hr =>
  refine (ih _ rfl).dispatch (hi.prelude c) ?_ h
  split at hr
  · exact resolveCoord_ok hi.cfg ha hr
  · cases hr; exact ha

theorem step_dispatch (ih : ∀ m, n = m + 1 → BlockInv K Q m) ⦃s a c d f ls s' cu⦄ (hi : Inv K Q s)
    (ha : ActOK K Q c a) : L.dispatch n s a c d f ls = .ok (s', cu) → Inv K Q s' := by
  fun_cases L.dispatch n s a c d f ls <;> intro h <;> try cases h
  · exact armNoOp_inv hi _ _ _
  -- `Src`: the defsrc key of the column, which `CfgOK` covers
  · next hr => exact (ih _ rfl).doAction hi (hi.cfg c ha).2 hr
  -- `Repeat` is outside every closure
  · exact ha.elim
  · exact ha.elim
  · exact ha.elim
  -- `HoldTap`: a new waiting state; inside the quick-tap window the tap action at once
  · exact armHoldTapWait_inv hi _ _ _ _ _ ha.1 ha.2.1 ha.2.2
  · next hr => exact ((ih _ rfl).doAction (hi.lpt 0) ha.2.1 hr).updateCoord c
  -- `OneShot`: the inner action, then the bookkeeping; a 17th active key is released through `event`
  · next he hp _ hr => simp only [hp, he] at h; cases h
  · next inner timeout ec _ _ _ _ _ he hp _ hr =>
    have i2 := armOneShotPost_inv ((ih _ rfl).doAction (a := inner) (hi.updateCoord c) ha hr)
      (.oneShot inner timeout ec) c timeout ec
    simp only [hp, he] at h i2; cases h
    exact (ih _ rfl).event i2 (by rintro _ ⟨⟩) he
  · next inner timeout ec _ _ _ hp _ hr =>
    have i2 := armOneShotPost_inv ((ih _ rfl).doAction (a := inner) (hi.updateCoord c) ha hr)
      (.oneShot inner timeout ec) c timeout ec
    simp only [hp] at h i2; cases h
    exact i2
  · exact (hi.updateCoord c).congr rfl
  · next eager _ _ =>
    cases eager
    · refine armWait_inv hi _ _ _ _ ?_
      rintro c' (rfl | ⟨g, ⟨⟩, _⟩)
      exact ha
    · contradiction
  · next actions timeout eager hn a0 h0 _ _ hr =>
    cases eager
    · exact absurd rfl hn
    · exact (ih _ rfl).doAction (armEager_inv hi c timeout ha) (ActOKL_iff.mp (ha c) a0 (List.mem_of_getElem? h0)) hr
  · refine armWait_inv hi _ _ _ _ fun c' hc' => ha c' ?_
    rcases hc' with h1 | ⟨g, ⟨⟩, hm⟩
    · exact .inl h1
    · exact .inr hm
  · exact armKeyCode_inv hi _ _ ha
  · exact armMultipleKeyCodes_inv hi _ _ ha
  · exact armBufKeyCodes_inv hi _ _ ha
  · next hr => exact ((ih _ rfl).doActions (hi.updateCoord c) ha hr).rpt _
  · exact armSequence_inv hi _ _ _ _ _
  · exact armSequence_inv hi _ _ _ _ _
  · exact armCancelSequences_inv hi _ _ _
  · exact armLayer_inv hi _ _ _
  · exact armDefaultLayer_inv hi _ _ _
  · exact ok_fst h ▸ armCustom_inv hi _ _ _ _
  · exact armReleaseState_inv hi _ _ _ _
  · next hr =>
    refine ((ih _ rfl).doAction hi ?_ hr).rpt _
    split
    · exact ha.2
    · exact ha.1
  -- `Switch`: the yielded actions join the action queue
  · next hacs _ =>
    exact hi.setAq (foldl_pushBackWrap_forall _ (fun a => (c, 0, a))
      (fun a ha' => ActOKL_iff.mp (switchActions_ok ha hacs) a ha') hi.aq)

theorem step_doActions (ih : ∀ m, n = m + 1 → BlockInv K Q m) ⦃s acs c d f ls cu0 s' cu⦄
    (hi : Inv K Q s) (ha : ActOKL K Q c acs) : L.doActions n s acs c d f ls cu0 = .ok (s', cu) → Inv K Q s' := by
  fun_cases L.doActions n s acs c d f ls cu0 <;> intro h <;> try cases h
  · exact hi
  · next hr => exact (ih _ rfl).doActions ((ih _ rfl).doAction hi ha.1 hr) ha.2 h

theorem step_waitingIntoHold (ih : ∀ m, n = m + 1 → BlockInv K Q m) ⦃s idx s' cu⦄ (hi : Inv K Q s) :
    L.waitingIntoHold n s idx = .ok (s', cu) → Inv K Q s' := by
  fun_cases L.waitingIntoHold n s idx <;> intro h <;> try cases h
  · exact hi
  · next w s1 ht =>
    obtain ⟨i1, i2⟩ := takeWaiting_inv hi ht
    exact (ih _ rfl).doAction (holdPrep_inv i1 w) (i2 w.coord (.inl rfl)).1 h

theorem step_flushWaitings (ih : ∀ m, n = m + 1 → BlockInv K Q m) ⦃s l s'⦄ (hi : Inv K Q s) :
    L.flushWaitings n s l = .ok s' → Inv K Q s' := by
  fun_cases L.flushWaitings n s l <;> intro h <;> try cases h
  · exact hi
  · simp only [bind, Except.bind] at h
    split at h
    · cases h
    · next hr => exact (ih _ rfl).flushWaitings ((ih _ rfl).waitingIntoHold hi hr) h

theorem step_dequeue (ih : ∀ m, n = m + 1 → BlockInv K Q m) ⦃s q s' cu⦄ (hi : Inv K Q s)
    (hq : ∀ c, q.ev = .press c → Q c) : L.dequeue n s q = .ok (s', cu) → Inv K Q s' := by
  fun_cases L.dequeue n s q <;> intro h <;> try cases h
  · -- a release only removes states (and updates the one-shot bookkeeping)
    next c o dr ov st1 cu1 st2 _ _ h1 _ h2 =>
    refine (hi.osh o).nksub (.of_sub ?_)
    have e1 : st1 ⊆ s.states := by
      split at h1
      · exact releaseStates_sub h1
      · cases h1; exact fun _ h => h
    split at h2
    · exact fun _ hx => e1 (releaseStates_sub h2 hx)
    · cases h2; exact e1
  · next c hc =>
    have hqc : ActOK K Q c .trans := hq c hc
    simp only [bind, Except.bind] at h
    split at h
    · cases h
    · split at h
      · next tde htde =>
        split at h
        · split at h
          · cases h
          · next a hidx =>
            split at h
            · cases h
            · next hr =>
              cases h
              have i1 := (ih _ rfl).doAction hi (ActOKL_iff.mp (hi.tde tde htde c) a (List.mem_of_getElem? hidx)) hr
              refine i1.setTde fun t ht => ?_
              obtain ⟨t1, ht1, rfl⟩ := Option.map_eq_some_iff.mp ht
              exact i1.tde t1 ht1
        · refine (ih _ rfl).doAction (.ite (hi.setTde ?_) hi) hqc h
          rintro _ ⟨⟩
          exact hi.tde tde htde
      · exact (ih _ rfl).doAction hi hqc h

theorem step_event (ih : ∀ m, n = m + 1 → BlockInv K Q m) ⦃s ev s'⦄ (hi : Inv K Q s)
    (hq : ∀ c, ev = .press c → Q c) : L.event n s ev = .ok s' → Inv K Q s' := by
  -- after the input history has been updated, the event joins the queue
  have hi0 : Inv K Q (match (generalizing := false) ev with
      | .press c => { s with histInputs := histPush s.histInputs c }
      | .release _ => s) := by
    split
    · exact hi.congr rfl
    · exact hi
  fun_cases L.event n s ev <;> intro h <;> try cases h
  · next s0 _ hp =>
    simp only [s0] at hp
    exact Except.ok.inj h ▸ hi0.setQueue (pushBackWrap_forall hp hi0.queue hq).1
  · next s0 _ hp =>
    simp only [s0] at hp
    have hpq := pushBackWrap_forall hp hi0.queue hq
    simp only [bind, Except.bind] at h
    split at h
    · cases h
    · next hf =>
      split at h
      · cases h
      · next hd =>
        cases Except.ok.inj h
        exact (ih _ rfl).dequeue ((ih _ rfl).flushWaitings (hi0.setQueue hpq.1) hf) (hpq.2 _ rfl) hd

/-- **the invariant is preserved by every function of the mutual block**, for every fuel -/
theorem inv_all {K : KSet} {Q : Coord → Prop} {fuel : Nat} : BlockInv K Q fuel := by
  have step {n} (ih : ∀ m, n = m + 1 → BlockInv K Q m) : BlockInv K Q n :=
    ⟨step_doAction ih, step_dispatch ih, step_doActions ih, step_waitingIntoHold ih, step_flushWaitings ih,
      step_dequeue ih, step_event ih⟩
  induction fuel with
  | zero => exact step nofun
  | succ n ih => exact step fun m e => Nat.succ.inj e ▸ ih

end Mutual

/-! ### the waiting states: `tick_wt` keeps the stored actions inside the closure -/

/-- an action a chord group can hand out: one of its members, or `NoOp` -/
def InCh (g : ChordsGroup) (a : Action) : Prop := a = .noOp ∨ ∃ m, (m, a) ∈ g.chords
/-- where a chord group may run an action: the given coordinate or one of its participants -/
def CoIn (g : ChordsGroup) (c0 c : Coord) : Prop := c = c0 ∨ c ∈ g.coords.map (·.1)
/-- what `handle_chord` changes: `coord` (to a participant) and `prevQueueLen` of the state only; the
queue shrinks; new action-queue entries and the returned action are members of the group, for the
original coordinate or a participant; the pressed queue holds the original coordinate and participants -/
structure ChordRes (w : Waiting) (g : ChordsGroup) (queued : List Queued) (aq : ActionQueue)
    (R : Waiting × List Queued × ActionQueue × Option (WAct × Action × List Coord)) : Prop where
  hold : R.1.hold = w.hold
  tap : R.1.tap = w.tap
  ta : R.1.timeoutAction = w.timeoutAction
  config : R.1.config = w.config
  coord : CoIn g w.coord R.1.coord
  queue : ∀ x ∈ R.2.1, x ∈ queued
  aq : ∀ e ∈ R.2.2.1, e ∈ aq ∨ ((∃ m, (m, e.2.2) ∈ g.chords) ∧ CoIn g w.coord e.1)
  act : ∀ r, R.2.2.2 = some r → InCh g r.2.1
  pq : ∀ r, R.2.2.2 = some r → ∀ c ∈ r.2.2, CoIn g w.coord c

theorem getChord_mem {g : ChordsGroup} {keys : Nat} {a : Action} (h : g.getChord keys = some a) :
    ∃ m, (m, a) ∈ g.chords := by
  obtain ⟨⟨m, _⟩, hf, rfl⟩ := Option.map_eq_some_iff.mp h
  exact ⟨m, List.mem_of_find?_eq_some hf⟩

theorem getKeys_mem {g : ChordsGroup} {c : Coord} {k : Nat} (h : g.getKeys c = some k) :
    c ∈ g.coords.map (·.1) := by
  obtain ⟨e, hf, _⟩ := Option.map_eq_some_iff.mp h
  exact List.mem_map.mpr ⟨e, List.mem_of_find?_eq_some hf, by simpa using List.find?_some hf⟩

theorem getChordGo_mem {keys : Nat} {l : List (Nat × Action)} {res : Option Action} {a : Action}
    (h : ChordsGroup.getChordIfUnambiguous.go keys l res = some a) : res = some a ∨ ∃ m, (m, a) ∈ l := by
  fun_induction ChordsGroup.getChordIfUnambiguous.go keys l res with
  | case1 => exact .inl h
  | case2 ck a0 _ _ _ ih =>
    exact .inr <| (ih h).elim (fun e => ⟨ck, Option.some.inj e ▸ .head _⟩) fun ⟨m, hm⟩ => ⟨m, .tail _ hm⟩
  | case3 => cases h
  | case4 _ _ _ _ _ _ ih => exact (ih h).imp_right fun ⟨m, hm⟩ => ⟨m, .tail _ hm⟩

theorem getChordIfUnambiguous_mem {g : ChordsGroup} {keys : Nat} {a : Action}
    (h : g.getChordIfUnambiguous keys = some a) : ∃ m, (m, a) ∈ g.chords :=
  (getChordGo_mem h).resolve_left nofun

theorem shrinkEnd_mem {g : ChordsGroup} {keys : List Nat} {start e : Nat} {r : Nat × Action}
    (h : shrinkEnd g keys start e = some r) : ∃ m, (m, r.2) ∈ g.chords := by
  fun_induction shrinkEnd g keys start e with
  | case1 | case4 => cases h
  | case2 _ _ _ hg => cases h; exact getChord_mem hg
  | case3 _ _ _ ih => exact ih h

theorem chordFold_released {w : Waiting} {g : ChordsGroup} {q : List Queued} {st : ChordFold} {r : ChordFold × Bool}
    (he : chordFold w g st q = r) (hst : ∀ c, st.released = some c → c ∈ g.coords.map (·.1)) :
    ∀ c, r.1.released = some c → c ∈ g.coords.map (·.1) := by
  subst he
  fun_induction chordFold w g st q with
  | case1 | case5 => exact hst
  | case2 _ _ _ _ ih | case6 _ _ _ _ _ _ ih => exact ih hst
  | case3 _ _ _ _ _ _ _ _ ih => exact ih hst
  | case4 _ s _ _ ck hk a he => rintro _ ⟨⟩; exact getKeys_mem (he ▸ hk : g.getKeys (Ev.release a).coord = some ck)

theorem chordRetain_sub {w : Waiting} {g : ChordsGroup} {handled : Nat} {queued kept : List Queued}
    {pressed : List Coord} (h : chordRetain w g handled queued = (kept, pressed)) :
    kept ⊆ queued ∧ ∀ c ∈ pressed, c ∈ g.coords.map (·.1) := by
  fun_induction chordRetain w g handled queued generalizing kept pressed with
  | case1 => cases h; exact ⟨fun _ h => h, nofun⟩
  | case2 _ s _ _ k p e ih | case4 _ s _ _ _ k p e ih =>
    cases h; exact ⟨List.cons_subset_cons s (ih e).1, (ih e).2⟩
  | case3 _ s _ _ hc k p e ih =>
    cases h
    simp only [Bool.and_eq_true, Option.isSome_iff_exists] at hc
    obtain ⟨k', hk'⟩ := hc.1.2
    exact ⟨List.subset_cons_of_subset s (ih e).1, List.forall_mem_cons.mpr ⟨getKeys_mem hk', (ih e).2⟩⟩

theorem decomposeFold_dflt {w : Waiting} {g : ChordsGroup} {q : List Queued} {active : Nat} {order : List Nat}
    {dflt : Coord} {P : Coord → Prop} (h0 : P dflt) (hp : ∀ c ∈ g.coords.map (·.1), P c) :
    P (decomposeFold w g active order dflt q).2 := by
  fun_induction decomposeFold w g active order dflt q with
  | case1 | case5 => exact h0
  | case2 _ _ _ _ _ _ ih | case6 _ _ _ _ _ _ _ _ ih => exact ih h0
  | case3 _ _ _ _ _ _ _ _ _ _ _ ih => exact ih h0
  | case4 _ _ _ _ _ _ ck hk a he => exact hp a (getKeys_mem (he ▸ hk : g.getKeys (Ev.release a).coord = some ck))

theorem coordForChord_coIn {w : Waiting} {g : ChordsGroup} {dflt : Coord} (queued : List Queued) (mask : Nat)
    (hd : CoIn g w.coord dflt) : CoIn g w.coord (coordForChord w g dflt queued mask) := by
  fun_cases coordForChord w g dflt queued mask with
  | case1 | case4 => exact hd
  | case2 => exact .inl rfl
  | case3 _ _ q' hf =>
    cases hk : g.getKeys q'.ev.coord with
    | none => have := List.find?_some hf; rw [hk] at this; simp at this
    | some k => exact .inr (getKeys_mem hk)

theorem decomposeLoop_forall {w : Waiting} {g : ChordsGroup} {dflt : Coord} {queued : List Queued}
    {keys : List Nat} {delay : Nat} {P : Coord × Nat × Action → Prop}
    (hP : ∀ mask a, (∃ m, (m, a) ∈ g.chords) → P (coordForChord w g dflt queued mask, delay, a))
    {fuel start : Nat} {aq : ActionQueue} (haq : ∀ e ∈ aq, P e) :
    ∀ e ∈ decomposeLoop w g dflt queued keys delay fuel start aq, P e := by
  fun_induction decomposeLoop w g dflt queued keys delay fuel start aq with
  | case1 | case5 => exact haq
  | case2 _ _ _ _ _ a hg _ ih => exact ih (pushBackWrap_forall rfl haq (hP _ a (getChord_mem hg))).1
  | case3 _ _ _ _ _ _ e a hs _ _ ih => exact ih (pushBackWrap_forall rfl haq (hP _ a (shrinkEnd_mem hs))).1
  | case4 _ _ _ _ _ _ _ ih => exact ih haq

theorem decomposeChord_mem (w : Waiting) (g : ChordsGroup) (queued : List Queued) (aq : ActionQueue) :
    ∀ e ∈ decomposeChord w g queued aq, e ∈ aq ∨ ((∃ m, (m, e.2.2) ∈ g.chords) ∧ CoIn g w.coord e.1) := by
  unfold decomposeChord
  exact decomposeLoop_forall
    (fun _ _ ha => .inr ⟨ha, coordForChord_coIn _ _ (decomposeFold_dflt (.inl rfl) fun _ h => .inr h)⟩)
    fun _ h => .inl h

/-- the result of `finish` inside `handle_chord`: the state differs from the original one in
`prevQueueLen` and, when a participant was released, in its coordinate -/
theorem finish_res {w0 w : Waiting} {g : ChordsGroup} {queued : List Queued} {aq0 aq : ActionQueue}
    {handled n : Nat} (r : WAct × Action) {rel : Option Coord}
    (hw : w = match rel with
      | some c => { w0 with coord := c, prevQueueLen := n }
      | none => { w0 with prevQueueLen := n })
    (hrel : ∀ c, rel = some c → c ∈ g.coords.map (·.1))
    (haq : ∀ e ∈ aq, e ∈ aq0 ∨ ((∃ m, (m, e.2.2) ∈ g.chords) ∧ CoIn g w0.coord e.1)) (hr : InCh g r.2) :
    ChordRes w0 g queued aq0
      (match chordRetain w g handled queued with
        | (kept, pressed) => (w, kept, aq, some (r.1, r.2, (w0.coord :: pressed).take QUEUE_SIZE))) := by
  have hc : CoIn g w0.coord w.coord := by
    subst hw; cases rel with
    | none => exact .inl rfl
    | some c => exact .inr (hrel c rfl)
  split
  next kept pressed he =>
  obtain ⟨hk, hp⟩ := chordRetain_sub he
  refine ⟨?_, ?_, ?_, ?_, hc, hk, haq, ?_, ?_⟩
  iterate 4 subst hw; cases rel <;> rfl
  · rintro _ ⟨⟩; exact hr
  · rintro _ ⟨⟩ c' hc'
    rcases List.mem_cons.mp (List.mem_of_mem_take hc') with rfl | h
    · exact .inl rfl
    · exact .inr (hp c' h)

theorem handleChord_res (w : Waiting) (g : ChordsGroup) (queued : List Queued) (aq : ActionQueue) :
    ChordRes w g queued aq (handleChord w g queued aq) := by
  have idle (w' : Waiting) (hw : w' = w ∨ w' = { w with prevQueueLen := queued.length % 256 }) :
      ChordRes w g queued aq (w', queued, aq, none) := by
    rcases hw with rfl | rfl <;>
      exact ⟨rfl, rfl, rfl, rfl, .inl rfl, fun _ h => h, fun _ h => .inl h, fun _ => nofun, fun _ => nofun⟩
  fun_cases handleChord w g queued aq
  · exact idle _ (.inl rfl)
  · next he _ _ _ _ ha _ =>
    exact finish_res (.tap, _) rfl (chordFold_released he fun _ => nofun) (fun _ h => .inl h)
      (.inr (getChordIfUnambiguous_mem ha))
  · exact idle _ (.inr rfl)
  · next he _ _ _ _ ha _ =>
    exact finish_res (.tap, _) rfl (chordFold_released he fun _ => nofun) (fun _ h => .inl h) (.inr (getChord_mem ha))
  · exact finish_res (.noOp, .noOp) (rel := none) rfl nofun (decomposeChord_mem _ g queued aq) (.inl rfl)

variable {K : KSet} {Q : Coord → Prop}

theorem wAt_chord {w : Waiting} {g : ChordsGroup} (hc : w.config = .chord g) {c' : Coord} :
    wAt w c' ↔ CoIn g w.coord c' := by
  unfold wAt CoIn
  rw [hc]
  exact or_congr_right ⟨by rintro ⟨_, ⟨⟩, h⟩; exact h, fun h => ⟨g, rfl, h⟩⟩

theorem evictSameCoord_sub (w : Waiting) (a b : Nat) (q : List Queued) : evictSameCoord w a b q ⊆ q := by
  fun_induction evictSameCoord w a b q with
  | case1 => exact fun _ h => h
  | case2 _ _ s _ _ _ ih | case4 _ _ s _ _ _ ih => exact List.subset_cons_of_subset s ih
  | case3 _ _ s _ _ _ ih | case5 _ _ s _ _ _ ih => exact List.cons_subset_cons s ih

theorem handleTapDance_sub (w : Waiting) (n m : Nat) (q : List Queued) : (handleTapDance w n m q).1 ⊆ q := by
  fun_cases handleTapDance w n m q with
  | case1 | case4 => exact fun _ h => h
  | case2 | case3 | case5 => exact evictSameCoord_sub ..

theorem tickWtTd_res {w : Waiting} {actions : List Action} {tdT tdN : Nat} {q : List Queued}
    (hw : WOK K Q w) (hcfg : w.config = .tapDance actions tdT tdN) {w1 : Waiting} {q1 : List Queued}
    {ret : Option WAct} (h : tickWtTd w actions tdT tdN q = .ok (w1, q1, ret)) : WOK K Q w1 ∧ q1 ⊆ q := by
  have hb := hw w.coord (.inl rfl)
  rw [hcfg] at hb
  have hsub := handleTapDance_sub w tdN actions.length q
  revert h
  fun_cases tickWtTd w actions tdT tdN q <;> intro h <;> try cases h
  · next he => rw [he] at hsub; exact ⟨WOK_of_own nofun hb, hsub⟩
  · next a hp he =>
    rw [he] at hsub
    exact ⟨WOK_of_own nofun ⟨hb.1, ActOKL_iff.mp hb.2.2.2 a (List.mem_of_getElem? hp), hb.2.2⟩, hsub⟩

/-- what `tick_wt` guarantees about a waiting state inside the closure -/
structure WtRes (K : KSet) (Q : Coord → Prop) (q : List Queued) (w' : Waiting) (q' : List Queued) (aq' : ActionQueue)
    (r : Option (WAct × Option (List Coord))) : Prop where
  wok : WOK K Q w'
  queue : q' ⊆ q
  aq : ∀ e ∈ aq', ActOK K Q e.1 e.2.2
  chord : ∀ act pq, r = some (act, some pq) → ∀ c ∈ pq, ActOK K Q c w'.tap

theorem WOK.congr {w w' : Waiting} (hw : WOK K Q w) (hc : w'.coord = w.coord)
    (hh : w'.hold = w.hold) (ht : w'.tap = w.tap) (hta : w'.timeoutAction = w.timeoutAction)
    (hcfg : w'.config = w.config) : WOK K Q w' := by
  intro c' hc'
  unfold wAt at hc'
  rw [hh, ht, hta, hcfg]
  rw [hc, hcfg] at hc'
  exact hw c' hc'

/-- a chord state inside the closure: what the group can hand out is allowed wherever the group may
act; and a state of the group at one of those coordinates, with the same hold / timeout action and a
tap action allowed at all of them, is inside the closure -/
theorem WOK.chord {w : Waiting} {g : ChordsGroup} (hw : WOK K Q w) (hcfg : w.config = .chord g) :
    (∀ {a}, InCh g a → ∀ {c'}, CoIn g w.coord c' → ActOK K Q c' a) ∧
    ∀ w2 : Waiting, w2.config = .chord g → CoIn g w.coord w2.coord → w2.hold = w.hold →
      w2.timeoutAction = w.timeoutAction → (∀ c', CoIn g w.coord c' → ActOK K Q c' w2.tap) → WOK K Q w2 := by
  have hall : ∀ c', CoIn g w.coord c' →
      ActOK K Q c' w.hold ∧ ActOK K Q c' w.tap ∧ ActOK K Q c' w.timeoutAction ∧ ActOKC K Q c' g.chords := by
    intro c' hc'
    have := hw c' ((wAt_chord hcfg).mpr hc')
    rwa [hcfg] at this
  refine ⟨?_, fun w2 e1 e2 e3 e4 e5 c' hc' => ?_⟩
  · rintro a (rfl | ⟨m, hm⟩) c' hc'
    · trivial
    · exact ActOKC_iff.mp (hall c' hc').2.2.2 (m, a) hm
  · have hc'' : CoIn g w.coord c' := ((wAt_chord e1).mp hc').elim (fun e => e ▸ e2) .inr
    rw [e1, e3, e4]
    exact ⟨(hall c' hc'').1, e5 c' hc'', (hall c' hc'').2.2⟩

theorem tickWt_res {w : Waiting} {q : List Queued} {aq : ActionQueue}
    (hw : WOK K Q w) (haq : ∀ e ∈ aq, ActOK K Q e.1 e.2.2)
    {w' : Waiting} {q' : List Queued} {aq' : ActionQueue} {r : Option (WAct × Option (List Coord))}
    (h : tickWt w q aq = .ok (w', q', aq', r)) : WtRes K Q q w' q' aq' r := by
  have hw0 : WOK K Q { w with timeout := w.timeout - 1, ticks := min (w.ticks + 1) U16_MAX } :=
    hw.congr rfl rfl rfl rfl rfl
  revert h
  fun_cases tickWt w q aq <;> intro h <;> try cases h
  · next w0 htc hcfg r hh =>
    obtain ⟨_, f2, f3, _, f5, f6, f7, _, _⟩ := C05.handleHoldTap_fields w0 htc q
    rw [hh] at f2 f3 f5 f6 f7
    refine ⟨hw0.congr f3 f5 f6 f7 f2, fun _ h => h, haq, ?_⟩
    cases r <;> rintro _ _ ⟨⟩
  · next w0 actions tdT tdN hcfg ret htd =>
    obtain ⟨t1, t2⟩ := tickWtTd_res hw0 hcfg htd
    refine ⟨t1, t2, haq, ?_⟩
    cases ret <;> rintro _ _ ⟨⟩
  · next w0 g hcfg w1 act a pq he =>
    obtain ⟨hin, key⟩ := hw0.chord hcfg
    have hres := handleChord_res w0 g q aq
    rw [he] at hres
    refine ⟨key _ (hres.config.trans hcfg) hres.coord hres.hold hres.ta fun c' => hin (hres.act _ rfl),
      hres.queue, fun e he' => (hres.aq e he').elim (haq e) fun ⟨hm, hco⟩ => hin (.inr hm) hco, ?_⟩
    rintro _ _ ⟨⟩ c' hc'
    exact hin (hres.act _ rfl) (hres.pq _ rfl c' hc')
  · next w0 g hcfg he =>
    obtain ⟨hin, key⟩ := hw0.chord hcfg
    have hres := handleChord_res w0 g q aq
    rw [he] at hres
    exact ⟨key _ (hres.config.trans hcfg) hres.coord hres.hold hres.ta
      fun c' hc' => hres.tap ▸ ((hw0 c' ((wAt_chord hcfg).mpr hc')).2.1), hres.queue,
      fun e he' => (hres.aq e he').elim (haq e) fun ⟨hm, hco⟩ => hin (.inr hm) hco, fun _ _ => nofun⟩

/-! ### the rest of `tick`: the waiting state decides, one-shot expiry, sequences -/

section Tick
variable {fuel : Nat} {s s' : Layout} {cu : CustomEv}

theorem doAction_inv {a : Action} {c : Coord} {d : Nat} {f : Bool} {ls : List Nat} (hi : Inv K Q s)
    (ha : ActOK K Q c a) (h : doAction fuel s a c d f ls = .ok (s', cu)) : Inv K Q s' :=
  inv_all.doAction hi ha h

theorem waitingIntoHold_inv {idx : Option Nat} (hi : Inv K Q s) (h : waitingIntoHold fuel s idx = .ok (s', cu)) :
    Inv K Q s' :=
  inv_all.waitingIntoHold hi h

theorem dequeue_inv {q : Queued} (hi : Inv K Q s) (hq : ∀ c, q.ev = .press c → Q c)
    (h : dequeue fuel s q = .ok (s', cu)) : Inv K Q s' :=
  inv_all.dequeue hi hq h

theorem event_inv {ev : Ev} (hi : Inv K Q s) (hq : ∀ c, ev = .press c → Q c) (h : event fuel s ev = .ok s') :
    Inv K Q s' :=
  inv_all.event hi hq h

theorem repeatForCoords_inv {ac : Action} {delay : Nat} {ls : List Nat} {cs : List Coord} (hi : Inv K Q s)
    (ha : ∀ c ∈ cs, ActOK K Q c ac) (h : repeatForCoords ac delay ls cs s = .ok s') : Inv K Q s' := by
  fun_induction repeatForCoords ac delay ls cs s with
  | case1 => cases h; exact hi
  | case2 => cases h
  | case3 c _ _ _ _ hr ih => exact ih (doAction_inv hi (ha c (.head _)) hr) (fun c' hc' => ha c' (.tail _ hc')) h

theorem repeatSimpleActions_inv {acs0 acs : List Action} {pq : List Coord} {delay : Nat} {ls : List Nat}
    (hi : Inv K Q s) (ha : ∀ ac ∈ acs, ∀ c ∈ pq, ActOK K Q c ac)
    (h : repeatSimpleActions acs0 pq delay ls acs s = .ok s') : Inv K Q s' := by
  fun_induction repeatSimpleActions acs0 pq delay ls acs s with
  | case1 => cases h; exact hi
  | case2 => cases h
  | case3 ac _ _ _ _ hr ih =>
    exact ih (repeatForCoords_inv hi (ha ac (.head _)) hr) (fun a' ha' => ha a' (.tail _ ha')) h
  | case4 _ _ _ _ ih => exact ih hi (fun a' ha' => ha a' (.tail _ ha')) h

theorem chordRepeat_inv {tap : Action} {pq : List Coord} {delay : Nat} {ls : List Nat} (hi : Inv K Q s)
    (ha : ∀ c ∈ pq, ActOK K Q c tap) (h : chordRepeat tap pq delay ls s = .ok s') : Inv K Q s' := by
  unfold chordRepeat at h
  split at h
  · exact repeatForCoords_inv hi ha h
  · split at h
    · exact repeatSimpleActions_inv hi (fun ac hac c hc => ActOKL_iff.mp (ha c hc) ac hac) h
    · cases h; exact hi

theorem waitingIntoTap_inv {pq : Option (List Coord)} {idx : Option Nat} (hi : Inv K Q s)
    (hch : ∀ l, pq = some l → ∀ w s1, takeWaiting s idx = some (w, s1) → ∀ c ∈ l, ActOK K Q c w.tap)
    (h : waitingIntoTap s pq idx = .ok (s', cu)) : Inv K Q s' := by
  revert h
  fun_cases waitingIntoTap s pq idx <;> intro h <;> try cases h
  · exact hi
  · next w s1 ht _ hr =>
    obtain ⟨i1, i2⟩ := takeWaiting_inv hi ht
    exact (doAction_inv i1 (i2 w.coord (.inl rfl)).2.1 hr).osh _
  · next w s1 ht _ l _ hc hr =>
    obtain ⟨i1, i2⟩ := takeWaiting_inv hi ht
    exact (chordRepeat_inv (doAction_inv i1 (i2 w.coord (.inl rfl)).2.1 hr) (hch l rfl w s1 ht) hc).osh _

theorem waitingIntoTimeout_inv {idx : Option Nat} (hi : Inv K Q s)
    (h : waitingIntoTimeout s idx = .ok (s', cu)) : Inv K Q s' := by
  revert h
  fun_cases waitingIntoTimeout s idx <;> intro h <;> try cases h
  · exact hi
  · next w s1 ht =>
    obtain ⟨i1, i2⟩ := takeWaiting_inv hi ht
    exact doAction_inv (timeoutPrep_inv i1 w) (i2 w.coord (.inl rfl)).2.2.1 h

theorem applyWaitingAction_inv {r : Option (WAct × Option (List Coord))} {idx : Option Nat} {dflt : CustomEv}
    (hi : Inv K Q s)
    (hch : ∀ act l, r = some (act, some l) → ∀ w s1, takeWaiting s idx = some (w, s1) → ∀ c ∈ l, ActOK K Q c w.tap)
    (h : applyWaitingAction s r idx dflt = .ok (s', cu)) : Inv K Q s' := by
  unfold applyWaitingAction at h
  split at h
  · exact waitingIntoHold_inv hi h
  · exact waitingIntoTap_inv hi (fun l hl => hch .tap l (by rw [hl])) h
  · exact waitingIntoTimeout_inv hi h
  · cases h; exact hi.clearWaiting
  · cases h; exact hi

theorem tickMain_inv (hi : Inv K Q s) (h : tickMain s = .ok (s', cu)) : Inv K Q s' := by
  revert h
  fun_cases tickMain s <;> intro h <;> try cases h
  · next w hw w1 q1 aq1 r ht =>
    have hres := tickWt_res (hi.waiting w hw) hi.aq ht
    refine applyWaitingAction_inv
      (((hi.setWaiting hres.wok).setQueue fun q hq => hi.queue q (hres.queue hq)).setAq hres.aq) ?_ h
    rintro act l hr _ _ ⟨⟩
    exact hres.chord act l hr
  · exact hi.osh _
  · next q rest hq =>
    refine dequeue_inv (hi.setQueue fun x hx => hi.queue x ?_) (hi.queue q ?_) h <;> rw [hq]
    · exact .tail _ hx
    · exact .head _
  · exact hi
  · exact hi

theorem tickExtraWaitings_res {ws done ews : List Waiting} {q q' : List Queued} {aq aq' : ActionQueue}
    {r : Option (Nat × (WAct × Option (List Coord)))}
    (hws : ∀ w ∈ ws, WOK K Q w) (hd : ∀ w ∈ done, WOK K Q w) (haq : ∀ e ∈ aq, ActOK K Q e.1 e.2.2)
    (h : tickExtraWaitings ws q aq done = .ok (ews, q', aq', r)) :
    (∀ w ∈ ews, WOK K Q w) ∧ q' ⊆ q ∧ (∀ e ∈ aq', ActOK K Q e.1 e.2.2) ∧
      (∀ i act l, r = some (i, (act, some l)) → ∃ w, ews[i]? = some w ∧ ∀ c ∈ l, ActOK K Q c w.tap) := by
  fun_induction tickExtraWaitings ws q aq done with
  | case1 => cases h; exact ⟨fun w hw => hd w (List.mem_reverse.mp hw), fun _ h => h, haq, fun _ _ _ => nofun⟩
  | case2 => cases h
  | case3 w _ _ _ _ _ _ _ ht ih =>
    have hres := tickWt_res (hws w (.head _)) haq ht
    obtain ⟨r1, r2, r3⟩ :=
      ih (fun x hx => hws x (.tail _ hx)) (List.forall_mem_cons.mpr ⟨hres.wok, hd⟩) hres.aq h
    exact ⟨r1, fun _ hx => hres.queue (r2 hx), r3⟩
  | case4 w _ _ _ _ w1 _ _ _ ht =>
    have hres := tickWt_res (hws w (.head _)) haq ht
    cases h
    refine ⟨List.forall_mem_append.mpr ⟨fun x hx => hd x (List.mem_reverse.mp hx),
      List.forall_mem_cons.mpr ⟨hres.wok, fun x hx => hws x (.tail _ hx)⟩⟩, hres.queue, hres.aq, ?_⟩
    rintro _ act l ⟨⟩
    exact ⟨w1, by simp, hres.chord act l rfl⟩

theorem processExtraWaitings_inv {cur : CustomEv} (hi : Inv K Q s)
    (h : processExtraWaitings s cur = .ok (s', cu)) : Inv K Q s' := by
  have key {ews q aq r} (ht : tickExtraWaitings s.extraWaiting s.queue s.actionQueue [] = .ok (ews, q, aq, r)) :=
    let ⟨r1, r2, r3, r4⟩ := tickExtraWaitings_res hi.extra (by simp) hi.aq ht
    And.intro (((hi.setExtra r1).setQueue fun x hx => hi.queue x (r2 hx)).setAq r3) r4
  revert h
  fun_cases processExtraWaitings s cur <;> intro h <;> try cases h
  · exact hi
  · next ht => exact ok_fst h ▸ (key ht).1
  · next i wa ht =>
    refine applyWaitingAction_inv (key ht).1 ?_ h
    rintro act l ⟨⟩ w' s1 htk
    obtain ⟨w, hw, hg⟩ := (key ht).2 i act l rfl
    obtain ⟨_, hw', ⟨⟩⟩ := Option.map_eq_some_iff.mp htk
    cases hw.symm.trans hw'
    exact hg

theorem releaseOneshotKeys_inv {keys : List Coord} {cu0 : CustomEv} (hi : Inv K Q s)
    (h : releaseOneshotKeys keys s cu0 = .ok (s', cu)) : Inv K Q s' := by
  fun_induction releaseOneshotKeys keys s cu0 with
  | case1 => cases h; exact hi
  | case2 => cases h
  | case3 _ _ _ _ _ _ hd ih => exact ih (dequeue_inv hi (by rintro _ ⟨⟩) hd) h

theorem tickOneshot_inv (hi : Inv K Q s) (h : tickOneshot s = .ok (s', cu)) : Inv K Q s' := by
  unfold tickOneshot at h
  split at h
  · exact releaseOneshotKeys_inv (hi.osh _) h
  · cases h; exact hi.osh _

theorem Inv.stepSequence (h : Inv K Q s) (seq : SeqState) : Inv K Q (stepSequence s seq).1 := by
  fun_cases L.stepSequence s seq with
  | case1 | case3 | case7 | case9 => exact h
  | case2 => exact h.filter _
  | case4 | case5 => dsimp +zetaDelta only; exact ((h.pushState (.fakeKey _) (by simp)).hist _).oshPress _
  | case6 => exact (h.osh _).filter _
  | case8 => exact h.pushState (.seqCustomPending _) (by simp)

theorem Inv.processSequencesGo : ∀ (n : Nat) {s : Layout}, Inv K Q s → Inv K Q (processSequences.go n s)
  | 0, _, h => h
  | n + 1, s, h => by
    unfold processSequences.go
    split
    · exact h
    · next seq rest _ =>
      have h1 := (h.seqs rest).stepSequence seq
      exact Inv.processSequencesGo n (.ite (h1.seqs _) h1)

theorem Inv.processSequences (h : Inv K Q s) : Inv K Q (processSequences s) := by
  have h1 := h.processSequencesGo s.activeSequences.length
  unfold L.processSequences
  dsimp only
  split
  · split
    · exact h1.seqs _
    · exact h1
  · exact h1

theorem tickPre_inv (hi : Inv K Q s) : Inv K Q (tickPre s) := by
  unfold tickPre
  refine Inv.hists (Inv.processSequences ?_) _ _
  split
  · next tde htde =>
    refine ⟨hi.cfg, hi.states, hi.waiting, hi.extra, fun t ht => ?_, hi.aq, List.forall_mem_map.mpr hi.queue⟩
    unfold tdeTick at ht
    split at ht
    · cases ht
    · cases ht; exact hi.tde tde htde
  · exact ⟨hi.cfg, hi.states, hi.waiting, hi.extra, hi.tde, hi.aq, List.forall_mem_map.mpr hi.queue⟩

theorem processSequenceCustomGo_nksub (cur : CustomEv) (l : List St) :
    NKSub (processSequenceCustom.go cur l).1 l := by
  fun_induction processSequenceCustom.go cur l with
  | case1 => exact .refl _
  | case2 | case3 => exact (NKSub.refl _).cons (by simp)
  | case4 _ _ _ _ _ _ e ih => rw [e] at ih; exact ih.cons fun _ _ _ _ => rfl

theorem processSequenceCustom_inv (hi : Inv K Q s) (cur : CustomEv) : Inv K Q (processSequenceCustom s cur).1 := by
  unfold processSequenceCustom
  split
  · exact hi
  · exact hi.nksub ((processSequenceCustomGo_nksub _ _).trans (.filter _ _))

/-- **one `tick` keeps the invariant** -/
theorem tick_inv (hi : Inv K Q s) (h : tick s = .ok (s', cu)) : Inv K Q s' := by
  revert h
  fun_cases tick s <;> intro h <;> try cases h
  · next coord delay action rest haq _ _ _ =>
    refine doAction_inv (hi.setAq fun e he => hi.aq e ?_) (hi.aq (coord, delay, action) ?_) h <;> rw [haq]
    · exact .tail _ he
    · exact .head _
  · next h1 _ _ h2 _ c3 h3 =>
    exact ok_fst h ▸ processSequenceCustom_inv
      (processExtraWaitings_inv (tickMain_inv (tickOneshot_inv (tickPre_inv hi) h1) h2) h3) c3

/-- **`Layout::event` keeps the invariant** when a pressed coordinate is covered -/
theorem layoutEvent_inv {ev : Ev} (hi : Inv K Q s) (hq : ∀ c, ev = .press c → Q c) (h : s.event ev = .ok s') :
    Inv K Q s' :=
  event_inv hi hq h

/-- the initial layout of a covered configuration satisfies the invariant -/
theorem inv_init (cfg : LCfg) (hc : CfgOK K Q cfg) : Inv K Q { cfg := cfg } :=
  ⟨hc, fun _ _ _ => nofun, fun _ => nofun, fun _ => nofun, fun _ => nofun, fun _ => nofun, fun _ => nofun⟩

end Tick
/-! ### from the syntactic table to the closure -/

mutual
  /-- the fragment on which the coordinate an action sits on is the only one it acts for: no `Repeat`
  (`rpt-any`, re-runs another key's action here), no repeat-buffer action (never in a configuration),
  no chords v1 and no eager tap-dance (both run their members at other coordinates as well) -/
  def plain : Action → Bool
    | .repeat | .bufKeyCodes _ | .chords _ _ _ => false
    | .tapDance acs _ eager => !eager && plainL acs
    | .multipleActions acs => plainL acs
    | .holdTap _ h t ta _ _ => plain h && plain t && plain ta
    | .oneShot a _ _ => plain a
    | .fork l r _ => plain l && plain r
    | .switch cases => plainS cases
    | _ => true
  def plainL : List Action → Bool
    | [] => true
    | a :: r => plain a && plainL r
  def plainS : List (List Nat × Action × Bool) → Bool
    | [] => true
    | (_, a, _) :: r => plain a && plainS r
end

mutual
  /-- no transparent / use-defsrc leaf inside (read together with `plain`: chords are not entered) -/
  def refFree : Action → Bool
    | .trans | .src => false
    | .tapDance acs _ _ => refFreeL acs
    | .multipleActions acs => refFreeL acs
    | .holdTap _ h t ta _ _ => refFree h && refFree t && refFree ta
    | .oneShot a _ _ => refFree a
    | .fork l r _ => refFree l && refFree r
    | .switch cases => refFreeS cases
    | _ => true
  def refFreeL : List Action → Bool
    | [] => true
    | a :: r => refFree a && refFreeL r
  def refFreeS : List (List Nat × Action × Bool) → Bool
    | [] => true
    | (_, a, _) :: r => refFree a && refFreeS r
end

theorem band_left {a b : Bool} (h : (a && b) = true) : a = true := (Bool.and_eq_true_iff.mp h).1
theorem band_right {a b : Bool} (h : (a && b) = true) : b = true := (Bool.and_eq_true_iff.mp h).2

mutual
  /-- **bridge**: on the plain fragment, an action whose `possibleOutputs` are all allowed at `c` is
  inside the closure at `c` (a transparent / use-defsrc leaf needs the cells of `c` covered).
  Every definition involved unfolds at a constructor, so each hypothesis is handed down by projecting
  the conjunction / the append it unfolds to. -/
  theorem actOK_of_possible (cu : List (List CAct)) (slot : Nat) (K : KSet) (Q : Coord → Prop) (c : Coord) :
      (a : Action) → plain a = true → (refFree a = true ∨ Q c) →
      (∀ kc ∈ possibleOutputs cu slot a, K c kc) → ActOK K Q c a
    | .keyCode kc => fun _ _ h => h kc (.head _)
    | .multipleKeyCodes _ => fun _ _ h => h
    | .trans | .src => fun _ hr _ => hr.resolve_left nofun
    | .repeat | .bufKeyCodes _ | .chords _ _ _ => fun hp => nomatch hp
    | .holdTap _ hold tap ta _ _ => fun hp hr h =>
      have hp' := band_left hp
      ⟨actOK_of_possible cu slot K Q c hold (band_left hp')
          (hr.imp (fun e => band_left (band_left e)) id)
          fun kc hk => h kc (List.mem_append_left _ (List.mem_append_right _ hk)),
        actOK_of_possible cu slot K Q c tap (band_right hp')
          (hr.imp (fun e => band_right (band_left e)) id)
          fun kc hk => h kc (List.mem_append_left _ (List.mem_append_left _ hk)),
        actOK_of_possible cu slot K Q c ta (band_right hp) (hr.imp band_right id)
          fun kc hk => h kc (List.mem_append_right _ hk)⟩
    | .oneShot a _ _ => actOK_of_possible cu slot K Q c a
    | .multipleActions acs => actOKL_of_possible cu slot K Q c acs
    | .tapDance acs _ false => actOKL_of_possible cu slot K Q c acs
    | .tapDance _ _ true => fun hp => nomatch hp
    | .fork l r _ => fun hp hr h =>
      ⟨actOK_of_possible cu slot K Q c l (band_left hp) (hr.imp band_left id)
          fun kc hk => h kc (List.mem_append_left _ hk),
        actOK_of_possible cu slot K Q c r (band_right hp) (hr.imp band_right id)
          fun kc hk => h kc (List.mem_append_right _ hk)⟩
    | .switch cases => actOKS_of_possible cu slot K Q c cases
    | .noOp | .layer _ | .defaultLayer _ | .sequence _ | .repeatableSequence _ | .cancelSequences
    | .releaseState _ | .custom _ | .oneShotIgnoreEventsTicks _ => fun _ _ _ => trivial
  theorem actOKL_of_possible (cu : List (List CAct)) (slot : Nat) (K : KSet) (Q : Coord → Prop) (c : Coord) :
      (acs : List Action) → plainL acs = true → (refFreeL acs = true ∨ Q c) →
      (∀ kc ∈ possibleOutputsL cu slot acs, K c kc) → ActOKL K Q c acs
    | [] => fun _ _ _ => trivial
    | a :: rest => fun hp hr h =>
      ⟨actOK_of_possible cu slot K Q c a (band_left hp) (hr.imp band_left id)
          fun kc hk => h kc (List.mem_append_left _ hk),
        actOKL_of_possible cu slot K Q c rest (band_right hp) (hr.imp band_right id)
          fun kc hk => h kc (List.mem_append_right _ hk)⟩
  theorem actOKS_of_possible (cu : List (List CAct)) (slot : Nat) (K : KSet) (Q : Coord → Prop) (c : Coord) :
      (cs : List (List Nat × Action × Bool)) → plainS cs = true → (refFreeS cs = true ∨ Q c) →
      (∀ kc ∈ possibleOutputsS cu slot cs, K c kc) → ActOKS K Q c cs
    | [] => fun _ _ _ => trivial
    | (_, a, _) :: rest => fun hp hr h =>
      ⟨actOK_of_possible cu slot K Q c a (band_left hp) (hr.imp band_left id)
          fun kc hk => h kc (List.mem_append_left _ hk),
        actOKS_of_possible cu slot K Q c rest (band_right hp) (hr.imp band_right id)
          fun kc hk => h kc (List.mem_append_right _ hk)⟩
end

/-! ### the cover used for "what this press itself puts down" -/

/-- allowed: a key code of `P` at coordinate `c`; or what some coordinate already holds in `s` -/
def localK (s : Layout) (c : Coord) (P : KeyCode → Prop) : KSet :=
  fun c' kc => (c' = c ∧ P kc) ∨ ∃ fl, St.normalKey kc c' fl ∈ s.states

/-- nothing is stored for later in `s`: no waiting state, no eager tap-dance, empty action queue -/
structure Quiet (s : Layout) : Prop where
  waiting : s.waiting = none
  extra : s.extraWaiting = []
  tde : s.tapDanceEager = none
  aq : s.actionQueue = []

theorem inv_local_of_quiet (s : Layout) (c : Coord) (P : KeyCode → Prop) (Q : Coord → Prop)
    (hcfg : CfgOK (localK s c P) Q s.cfg) (hq : Quiet s) (hqu : ∀ q ∈ s.queue, ∀ c', q.ev = .press c' → Q c') :
    Inv (localK s c P) Q s where
  cfg := hcfg
  states := fun kc c' fl h => .inr ⟨fl, h⟩
  waiting := by rw [hq.waiting]; rintro _ ⟨⟩
  extra := by rw [hq.extra]; rintro _ ⟨⟩
  tde := by rw [hq.tde]; rintro _ ⟨⟩
  aq := by rw [hq.aq]; rintro _ ⟨⟩
  queue := hqu

/-- key codes the configuration cells of coordinate `c` can put down: `possibleOutputs` of every
layer's action at `c` and of the defsrc key of its column -/
def cellOutputs (cu : List (List CAct)) (cfg : LCfg) (c : Coord) (kc : KeyCode) : Prop :=
  (∃ l a, cfg.layerAction l c = .ok a ∧ kc ∈ possibleOutputs cu c.2 a) ∨ kc ∈ possibleOutputs cu c.2 (cfg.srcKey c.2)

/-- the cells of `c` are on the plain fragment -/
def CellsPlain (cfg : LCfg) (c : Coord) : Prop :=
  (∀ l a, cfg.layerAction l c = .ok a → plain a = true) ∧ plain (cfg.srcKey c.2) = true

theorem cfgOK_local (cu : List (List CAct)) (s : Layout) (c : Coord) (P : KeyCode → Prop)
    (hpl : CellsPlain s.cfg c) (hP : ∀ kc, cellOutputs cu s.cfg c kc → P kc) :
    CfgOK (localK s c P) (· = c) s.cfg := by
  intro c' hc'
  subst hc'
  refine ⟨?_, ?_⟩
  · intro l a hla
    exact actOK_of_possible cu c'.2 _ _ c' a (hpl.1 l a hla) (Or.inr rfl)
      (fun kc hk => Or.inl ⟨rfl, hP kc (Or.inl ⟨l, a, hla, hk⟩)⟩)
  · exact actOK_of_possible cu c'.2 _ _ c' _ hpl.2 (Or.inr rfl) (fun kc hk => Or.inl ⟨rfl, hP kc (Or.inr hk)⟩)

/-! ### histories -/

/-- `s'` is reached from `s` by ticks and by events whose pressed coordinates satisfy `Q` -/
inductive Steps (Q : Coord → Prop) : Layout → Layout → Prop
  | refl (s : Layout) : Steps Q s s
  | tick {s s1 s2 : Layout} {cu : CustomEv} : Steps Q s s1 → tick s1 = .ok (s2, cu) → Steps Q s s2
  | event {s s1 s2 : Layout} {ev : Ev} : Steps Q s s1 → (∀ c, ev = .press c → Q c) → s1.event ev = .ok s2 →
      Steps Q s s2

theorem steps_inv {K : KSet} {Q : Coord → Prop} {s s' : Layout} (hi : Inv K Q s) (h : Steps Q s s') : Inv K Q s' := by
  induction h with
  | refl => exact hi
  | tick _ ht ih => exact tick_inv ih ht
  | event _ hq he ih => exact layoutEvent_inv ih hq he

/-- the cover "row of the key-output table": at a real-key coordinate `(0, k)`, `k` itself (the
defsrc key, which `handle_repeat` falls back to) or an entry of `keyOutputs` of `k` on some layer -/
def rowK (cu : List (List CAct)) (cfg : LCfg) : KSet :=
  fun c kc => c.1 = 0 → kc = c.2 ∨ ∃ l a, cfg.layerAction l c = .ok a ∧ kc ∈ keyOutputs cu c.2 a

/-- the defsrc row holds plain keys named after their position (what kanata builds) -/
def SrcPlain (cfg : LCfg) : Prop := ∀ y, cfg.srcKey y = .keyCode y ∨ cfg.srcKey y = .noOp

/-- every configured cell is on the plain fragment -/
def AllPlain (cfg : LCfg) : Prop := ∀ l c a, cfg.layerAction l c = .ok a → plain a = true

theorem layerAction_cases {cfg : LCfg} {l : Nat} {c : Coord} {a : Action} (h : cfg.layerAction l c = .ok a) :
    a = .trans ∨ ∃ tbl ∈ cfg.layers, (c, a) ∈ tbl := by
  revert h
  fun_cases LCfg.layerAction cfg l c <;> intro h <;> try cases h
  · next tbl htbl _ _ c' hf =>
    have hc : c' = c := by simpa using List.find?_some hf
    exact .inr ⟨tbl, List.mem_of_getElem? htbl, hc ▸ List.mem_of_find?_eq_some hf⟩
  · exact .inl rfl

theorem srcKey_cases (cfg : LCfg) (y : Nat) : cfg.srcKey y = .noOp ∨ (y, cfg.srcKey y) ∈ cfg.srcKeys := by
  unfold LCfg.srcKey
  split
  · next y' a hf =>
    have hy : y' = y := by simpa using List.find?_some hf
    exact .inr (hy ▸ List.mem_of_find?_eq_some hf)
  · exact .inl rfl

/-- decidable sufficient condition for `AllPlain` -/
theorem allPlain_of_all (cfg : LCfg) (h : (cfg.layers.all fun tbl => tbl.all fun e => plain e.2) = true) :
    AllPlain cfg := by
  intro l c a hla
  rcases layerAction_cases hla with rfl | ⟨tbl, ht, hm⟩
  · rfl
  · exact List.all_eq_true.mp (List.all_eq_true.mp h tbl ht) _ hm

def srcEntryPlain (e : Nat × Action) : Bool :=
  match e.2 with
  | .keyCode kc => kc == e.1
  | .noOp => true
  | _ => false

/-- decidable sufficient condition for `SrcPlain` -/
theorem srcPlain_of_all (cfg : LCfg) (h : cfg.srcKeys.all srcEntryPlain = true) : SrcPlain cfg := by
  intro y
  rcases srcKey_cases cfg y with e | hm
  · exact .inr e
  · have := List.all_eq_true.mp h _ hm
    unfold srcEntryPlain at this
    split at this
    · next kc e => exact .inl (e.trans (congrArg _ (beq_iff_eq.mp this)))
    · next e => exact .inr e
    · cases this

theorem cellsPlain_of_allPlain {cfg : LCfg} (h1 : AllPlain cfg) (h2 : SrcPlain cfg) (c : Coord) : CellsPlain cfg c := by
  refine ⟨fun l a h => h1 l c a h, ?_⟩
  rcases h2 c.2 with h | h <;> rw [h] <;> rfl

/-- `hko` is `keyouts_complete` of C14 -/
theorem cfgOK_rowK {cu : List (List CAct)} {cfg : LCfg}
    (hko : ∀ slot a kc, kc ∈ possibleOutputs cu slot a → kc ∈ keyOutputs cu slot a)
    (hplain : AllPlain cfg) (hsrc : SrcPlain cfg) : CfgOK (rowK cu cfg) (fun _ => True) cfg := by
  refine fun c _ => ⟨fun l a hla => ?_, ?_⟩
  · exact actOK_of_possible cu c.2 _ _ c a (hplain l c a hla) (.inr trivial)
      fun kc hk _ => .inr ⟨l, a, hla, hko c.2 a kc hk⟩
  · rcases hsrc c.2 with hs | hs <;> rw [hs]
    · exact fun _ => .inl rfl
    · trivial

/-- `CfgOK` from the listed cells: positions not listed hold `Trans` (layers) / `NoOp` (defsrc) -/
theorem cfgOK_of_cells (K : KSet) (Q : Coord → Prop) (cfg : LCfg)
    (hl : ∀ tbl ∈ cfg.layers, ∀ e ∈ tbl, Q e.1 → ActOK K Q e.1 e.2)
    (hs : ∀ e ∈ cfg.srcKeys, ∀ c, Q c → c.2 = e.1 → ActOK K Q c e.2) : CfgOK K Q cfg := by
  refine fun c hq => ⟨fun l a hla => ?_, ?_⟩
  · rcases layerAction_cases hla with rfl | ⟨tbl, ht, hm⟩
    · exact hq
    · exact hl tbl ht _ hm hq
  · rcases srcKey_cases cfg c.2 with e | hm
    · rw [e]; trivial
    · exact hs _ hm c hq rfl

end KVerif.C14L
