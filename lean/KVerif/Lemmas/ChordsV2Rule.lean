/-
C09 helper lemmas for chords v2: the release rule, "not before" - releases that do not end a chord.  A
chord none of whose keys is released is untouched, a chord with a key still to be released stays as it
is, and across a whole tick an active chord stays active unless the queued releases mark it Released.
-/
import KVerif.Lemmas.ChordsV2Release
namespace KVerif.C09
open KVerif.L

/-- no participant among the released keys: the chord is untouched -/
theorem relAll_noop (js : List Nat) (a : ActiveChord) (h : ∀ j ∈ js, a.keys.contains j = false) : relAll js a = a :=
  relAll_preserves (P := (· = a)) js a (fun j hj b hb => by rw [hb]; exact releaseInActive_noop j a (h j hj)) rfl

theorem releaseInActive_keeps (j : Nat) (a : ActiveChord) (k : Nat) (hk : k ∈ a.remaining) (hkj : k ≠ j) :
    (releaseInActive j a).status = a.status ∧ k ∈ (releaseInActive j a).remaining := by
  have hmem : k ∈ a.remaining.filter (· != j) := List.mem_filter.mpr ⟨hk, by simpa using hkj⟩
  unfold releaseInActive
  split
  · exact ⟨rfl, hk⟩
  · simp only []
    split
    · rename_i hemp
      rw [List.isEmpty_iff.mp hemp] at hmem
      cases hmem
    · exact ⟨rfl, hmem⟩

/-- a key still to be released that is not among the released keys keeps the chord held -/
theorem relAll_keeps (js : List Nat) (a : ActiveChord) (k : Nat) (hk : k ∈ a.remaining) (hn : k ∉ js) :
    (relAll js a).status = a.status ∧ k ∈ (relAll js a).remaining :=
  relAll_preserves (P := fun b => b.status = a.status ∧ k ∈ b.remaining) js a
    (fun j hj b hb =>
      let ⟨h1, h2⟩ := releaseInActive_keeps j b k hb.2 (fun e => hn (e ▸ hj))
      ⟨h1.trans hb.1, h2⟩) ⟨rfl, hk⟩

/-- **an active chord through a tick**: some of the queued releases are applied to it (aged by the
tick), and unless that marks it Released it is still active afterwards -/
theorem tickChv2_keeps {s s' : ChV2} {layer : Nat} {dq : List Queued} (h : tickChv2 s layer = .ok (s', dq))
    {a : ActiveChord} (ha : a ∈ s.active) :
    ∃ js, (∀ j ∈ js, ∃ qd ∈ s.queue, ∃ c, qd.ev = .release c ∧ c.2 = j) ∧
      ((relAll js (agedChord a)).status ≠ .released → relAll js (agedChord a) ∈ s'.active) := by
  obtain ⟨js, new, _, hjs, _, hA, _⟩ := tickChv2_active h
  refine ⟨js, hjs, fun hst => ?_⟩
  rw [hA]
  exact List.mem_filter.mpr ⟨List.mem_append_left _ (List.mem_map.mpr ⟨a, ha, rfl⟩),
    by rw [beq_eq_false_iff_ne.mpr hst]; rfl⟩

end KVerif.C09
