/-
The parenthesis structure of a text as the lexer tokenises it (`tokKinds`), the usual balance check
on it (`balance`: the specification), and the proof that `parse_with` answers exactly what the
balance check says.
-/
import KVerif.Lemmas.SExprParse
import KVerif.Lemmas.SExprExcept
namespace KVerif.SExpr

/-- the token kinds `Lexer` yields from `it` on, up to and including the first lexical error -/
def tokKinds (fx : Fixes) (ignore : Bool) : Nat → It → Except Crash (List (Except LexErr Tok))
  | 0, _ => .error .fuelOut
  | fuel + 1, it => do
    match ← nextToken fx ignore (it.rem + 1) it with
    | none => pure []
    | some (_, .error e, _) => pure [.error e]
    | some (_, .ok t, it') => do
      let r ← tokKinds fx ignore fuel it'
      pure (.ok t :: r)

inductive Verdict | balanced | unexpectedClose | unclosed | lexError
  deriving DecidableEq, Repr

/-- the specification: count parentheses -/
def balance : List (Except LexErr Tok) → Nat → Verdict
  | [], d => if d = 0 then .balanced else .unclosed
  | .error _ :: _, _ => .lexError
  | .ok .openP :: r, d => balance r (d + 1)
  | .ok .closeP :: r, d => if d = 0 then .unexpectedClose else balance r (d - 1)
  | .ok _ :: r, d => balance r d

/-- what the token loop must answer for each verdict of the balance check -/
def LoopAnswers (v : Verdict) (r : Except PErr (List Frame × List Meta)) : Prop :=
  match v with
  | .lexError => ∃ e l, r = .error e ∧ e.msg = .lex l
  | .unexpectedClose => ∃ e, r = .error e ∧ e.msg = .unexpectedClose
  | .unclosed => ∃ st md, r = .ok (st, md) ∧ 1 < st.length
  | .balanced => ∃ st md, r = .ok (st, md) ∧ st.length = 1

theorem parseLoop_balance (fx : Fixes) (ignore : Bool) :
    ∀ (fuel : Nat) (it : It) (stack : List Frame) (md : List Meta) (r) (ks),
      parseLoop fx ignore fuel it stack md = .ok r → tokKinds fx ignore fuel it = .ok ks → stack ≠ [] →
      LoopAnswers (balance ks (stack.length - 1)) r := by
  intro fuel
  induction fuel with
  | zero => intro it stack md r ks h; cases h
  | succ f ih =>
    intro it stack md r ks hp hk hne
    obtain ⟨top, rest, rfl⟩ := List.exists_cons_of_ne_nil hne
    obtain ⟨res, hn, hp⟩ := bind_ok hp
    obtain ⟨res', hn', hk⟩ := bind_ok hk
    cases hn.symm.trans hn'
    obtain _ | ⟨⟨start, its⟩, e | tk, it'⟩ := res
    · cases hp; cases hk
      cases rest with
      | nil => exact ⟨_, _, rfl, rfl⟩
      | cons a b => exact ⟨_, _, rfl, by simp⟩
    · obtain ⟨stop, _, hp⟩ := bind_ok hp
      obtain ⟨span, _, hp⟩ := bind_ok hp
      cases hp; cases hk
      exact ⟨_, e, rfl, rfl⟩
    · obtain ⟨stop, _, hp⟩ := bind_ok hp
      obtain ⟨span, _, hp⟩ := bind_ok hp
      obtain ⟨ks', hrest, hk⟩ := bind_ok hk
      cases hk
      cases tk with
      | openP => exact (ih _ _ _ _ _ hp hrest (List.cons_ne_nil _ _) :)
      | closeP =>
        cases rest with
        | nil => cases hp; exact ⟨_, rfl, rfl⟩
        | cons parent rest' =>
          obtain ⟨sp, _, hp⟩ := bind_ok hp
          exact (ih _ _ _ _ _ hp hrest (List.cons_ne_nil _ _) :)
      | str | blockComment | lineComment | whitespace =>
        obtain ⟨text, _, hp⟩ := bind_ok hp
        exact (ih _ _ _ _ _ hp hrest (List.cons_ne_nil _ _) :)
/-- what `parse` answers for each verdict of the balance check -/
def Answers (v : Verdict) (r : Except PErr (List TopLevel × List Meta)) : Prop :=
  match v with
  | .lexError => ∃ sp l, r = .error ⟨sp, .lex l⟩
  | .unexpectedClose => ∃ sp, r = .error ⟨sp, .unexpectedClose⟩
  | .unclosed => ∃ sp, r = .error ⟨sp, .unclosedOpen⟩
  | .balanced => True

/-- `parse_with` after the loop reports the stack that is left, and passes a diagnostic on (moving the
end of the span for an unterminated block comment) -/
theorem finish_answers {v rl r} (h : LoopAnswers v rl) (hr : finish rl = .ok r) : Answers v r := by
  cases v with
  | lexError =>
    obtain ⟨⟨sp, m⟩, l, rfl, hm⟩ := h
    cases hm
    cases l <;> cases hr <;> exact ⟨_, _, rfl⟩
  | unexpectedClose =>
    obtain ⟨⟨sp, m⟩, rfl, hm⟩ := h
    cases hm; cases hr
    exact ⟨_, rfl⟩
  | unclosed =>
    obtain ⟨st, md, rfl, hlen⟩ := h
    match st, hlen with
    | top :: a :: rest, _ => cases hr; exact ⟨_, rfl⟩
  | balanced => trivial

theorem Answers.of_ok {v p} (h : Answers v (.ok p)) : v = .balanced := by
  cases v with
  | balanced => rfl
  | unexpectedClose => obtain ⟨_, h⟩ := h; cases h
  | unclosed => obtain ⟨_, h⟩ := h; cases h
  | lexError => obtain ⟨_, _, h⟩ := h; cases h

/-- `parse` answers what the parenthesis count over the token kinds of the text says -/
theorem parse_answers {fx : Fixes} {ignore : Bool} {s s' : List Nat} {ks r} (hs : stripBom s = .ok s')
    (hk : tokKinds fx ignore (s'.length + 1) (It.ofText s') = .ok ks) (hr : parse fx ignore s = .ok r) :
    Answers (balance ks 0) r := by
  obtain ⟨_, hs', hr⟩ := bind_ok hr
  cases hs.symm.trans hs'
  obtain ⟨rl, hl, hr⟩ := bind_ok hr
  exact finish_answers (parseLoop_balance fx ignore _ _ _ _ rl ks hl hk nofun) hr

/-- the token stream exists for every text (no crash, enough fuel) -/
theorem tokKinds_total (fx : Fixes) (ignore : Bool) (s : List Nat) :
    ∀ (fuel : Nat) (it : It) (pre : List Nat), Good s pre it → it.rem + 1 ≤ fuel →
      ∃ ks, tokKinds fx ignore fuel it = .ok ks := by
  intro fuel
  induction fuel with
  | zero => intro it pre g h; omega
  | succ f ih =>
    intro it pre g hf
    obtain ⟨res, hres, hpost⟩ := nextToken_spec fx ignore s (it.rem + 1) it pre g (Nat.le_refl _)
    unfold tokKinds
    simp only [hres, bind, Except.bind]
    obtain _ | ⟨⟨start, its⟩, e | t, it'⟩ := res
    · exact ⟨_, rfl⟩
    · exact ⟨_, rfl⟩
    · obtain ⟨sk, tok, _, g2, htok, _⟩ := hpost
      have g2 : Good s (pre ++ (sk ++ tok)) it' := by simpa using g2
      have := g.rem_lt g2 (by simp [htok])
      obtain ⟨ks, hks⟩ := ih it' _ g2 (by omega)
      exact ⟨.ok t :: ks, by simp only [hks]; rfl⟩

end KVerif.SExpr
