/-
Lemmas about the SubsetMap model: the per-item association list of sorted vectors answers every
lookup exactly like the plain list of (key, value) pairs it stands for.
-/
import KVerif.Model.Zippy
namespace KVerif.Zippy

variable {V : Type}

/-- first pair stored under exactly this key -/
def findKey (l : List (Key × V)) (k : Key) : Option (Key × V) := l.find? (fun kv => kv.1 = k)

theorem findKey_nil (k : Key) : findKey ([] : List (Key × V)) k = none := rfl

theorem findKey_cons (a : Key × V) (l : List (Key × V)) (k : Key) :
    findKey (a :: l) k = if a.1 = k then some a else findKey l k := by
  simp only [findKey, List.find?_cons]
  by_cases h : a.1 = k <;> simp [h]

theorem findKey_vecInsert (key : Key) (v : V) (vec : List (Key × V)) (k' : Key) :
    findKey (vecInsert key v vec) k' = if key = k' then some (key, v) else findKey vec k' := by
  induction vec with
  | nil => simp [vecInsert, findKey_cons, findKey_nil]
  | cons a rest ih =>
    obtain ⟨ka, va⟩ := a
    unfold vecInsert
    by_cases h1 : ka = key
    · subst h1
      rw [if_pos rfl]
      simp only [findKey_cons]
      by_cases h2 : ka = k' <;> simp [h2]
    · rw [if_neg h1]
      by_cases h3 : keyLt key ka = true
      · rw [if_pos h3]
        simp only [findKey_cons]
      · rw [if_neg h3]
        rw [findKey_cons, ih, findKey_cons]
        by_cases h2 : key = k'
        · subst h2
          simp [h1]
        · simp [h2]

/-- the vector stored for an item (`none` and an empty vector answer alike) -/
def vecOf (m : Ssm V) (x : Nat) : List (Key × V) := (mapGet m x).getD []

theorem mapGet_mapUpdate (x : Nat) (f : List (Key × V) → List (Key × V)) (m : Ssm V) (y : Nat) :
    mapGet (mapUpdate x f m) y = if x = y then some (f (vecOf m x)) else mapGet m y := by
  induction m with
  | nil =>
    by_cases h : x = y <;> simp [mapUpdate, mapGet, vecOf, h]
  | cons a rest ih =>
    obtain ⟨ka, va⟩ := a
    unfold mapUpdate
    by_cases h1 : ka = x
    · subst h1
      rw [if_pos rfl]
      by_cases h : ka = y <;> simp [mapGet, vecOf, h]
    · rw [if_neg h1]
      by_cases h2 : ka = y
      · subst h2
        have : ¬ x = ka := fun h => h1 h.symm
        simp [mapGet, this]
      · simp only [mapGet, h2, if_false, ih]
        by_cases h : x = y
        · subst h
          simp [vecOf, mapGet, h1]
        · simp [h]

theorem vecOf_mapUpdate (x : Nat) (f : List (Key × V) → List (Key × V)) (m : Ssm V) (y : Nat) :
    vecOf (mapUpdate x f m) y = if x = y then f (vecOf m x) else vecOf m y := by
  simp only [vecOf, mapGet_mapUpdate]
  by_cases h : x = y <;> simp [h]

/-- inserting a key touches exactly the vectors of its items -/
theorem findKey_vecOf_fold (key : Key) (v : V) (its : List Nat) (m : Ssm V) (y : Nat) (k' : Key) :
    findKey (vecOf (its.foldl (fun m k => mapUpdate k (vecInsert key v) m) m) y) k' =
      if its.contains y then (if key = k' then some (key, v) else findKey (vecOf m y) k')
      else findKey (vecOf m y) k' := by
  induction its generalizing m with
  | nil => simp
  | cons a rest ih =>
    simp only [List.foldl_cons, ih, vecOf_mapUpdate]
    by_cases h1 : a = y
    · subst h1
      simp only [if_true, findKey_vecInsert, List.contains_cons, BEq.rfl, Bool.true_or]
      by_cases h2 : key = k' <;> simp [h2]
    · have : (y == a) = false := by simp [beq_eq_false_iff_ne]; exact fun h => h1 h.symm
      simp only [h1, if_false, List.contains_cons, this, Bool.false_or]

theorem mem_keys_iff_findKey (l : List (Key × V)) (k : Key) :
    (∃ kv ∈ l, kv.1 = k) ↔ (findKey l k).isSome = true := by
  simp only [findKey, List.find?_isSome, decide_eq_true_eq]

theorem findKey_map_replace (d : List (Key × V)) (key : Key) (v : V) (k' : Key) :
    findKey (d.map (fun kv => if kv.1 = key then (key, v) else kv)) k' =
      if key = k' then (findKey d key).map (fun _ => (key, v)) else findKey d k' := by
  induction d with
  | nil => simp [findKey_nil]
  | cons a rest ih =>
    obtain ⟨ka, va⟩ := a
    rw [List.map_cons, findKey_cons, ih]
    by_cases h1 : ka = key
    · subst h1
      by_cases h2 : ka = k'
      · subst h2; simp [findKey_cons]
      · simp [findKey_cons, h2]
    · by_cases h2 : key = k'
      · subst h2
        simp [findKey_cons, h1]
      · simp only [h1, if_false, h2, findKey_cons]

theorem findKey_append_single (d : List (Key × V)) (a : Key × V) (k' : Key) :
    findKey (d ++ [a]) k' = match findKey d k' with
      | some x => some x
      | none => if a.1 = k' then some a else none := by
  induction d with
  | nil => simp [findKey_cons, findKey_nil]
  | cons b rest ih =>
    rw [List.cons_append, findKey_cons, findKey_cons, ih]
    by_cases h : b.1 = k' <;> simp [h]

theorem findKey_absInsert (d : List (Key × V)) (key : Key) (v : V) (hk : key ≠ []) (k' : Key) :
    findKey (absInsert d key v) k' = if key = k' then some (key, v) else findKey d k' := by
  unfold absInsert
  rw [if_neg hk]
  by_cases hany : d.any (fun kv => decide (kv.1 = key)) = true
  · rw [if_pos hany, findKey_map_replace]
    by_cases h2 : key = k'
    · subst h2
      have : (findKey d key).isSome = true := by
        apply (mem_keys_iff_findKey d key).mp
        simp only [List.any_eq_true, decide_eq_true_eq] at hany
        exact hany
      cases hf : findKey d key with
      | none => simp [hf] at this
      | some x => simp
    · simp [h2]
  · rw [if_neg hany, findKey_append_single]
    have hnone : findKey d key = none := by
      simp only [findKey, List.find?_eq_none]
      intro x hx
      simp only [Bool.not_eq_true, List.any_eq_false] at hany
      simpa using hany x hx
    by_cases h2 : key = k'
    · subst h2
      simp [hnone]
    · cases hf : findKey d k' with
      | none => simp [h2]
      | some x => simp [h2]

theorem absInsert_ne_nil (d : List (Key × V)) (key : Key) (v : V) (hk : key ≠ []) :
    absInsert d key v ≠ [] := by
  intro h
  have := findKey_absInsert d key v hk key
  rw [h, if_pos rfl] at this
  exact nomatch this

theorem absInsert_keys_ne (d : List (Key × V)) (key : Key) (v : V)
    (hd : ∀ kv ∈ d, kv.1 ≠ []) : ∀ kv ∈ absInsert d key v, kv.1 ≠ [] := by
  intro kv hkv
  by_cases hk : key = []
  · rw [absInsert, if_pos hk] at hkv
    exact hd kv hkv
  · have := (mem_keys_iff_findKey _ kv.1).mp ⟨kv, hkv, rfl⟩
    rw [findKey_absInsert d key v hk] at this
    split at this
    · next h => exact h ▸ hk
    · obtain ⟨kv', h1, h2⟩ := (mem_keys_iff_findKey d kv.1).mpr this
      exact h2 ▸ hd kv' h1

/-- The representation invariant between the concrete map and the list of pairs it stands for. -/
structure Rep (m : Ssm V) (d : List (Key × V)) : Prop where
  find : ∀ x k, findKey (vecOf m x) k = if x ∈ k then findKey d k else none
  empty : m = [] ↔ d = []
  keysNe : ∀ kv ∈ d, kv.1 ≠ []

theorem Rep.nil : Rep ([] : Ssm V) [] :=
  ⟨by intro x k; simp [vecOf, mapGet, findKey_nil], by simp, by simp⟩

theorem Rep.insert {m : Ssm V} {d : List (Key × V)} (h : Rep m d) (key : Key) (v : V) :
    Rep (ssmInsertKsorted m key v) (absInsert d key v) := by
  by_cases hk : key = []
  · subst hk
    simpa [ssmInsertKsorted, absInsert] using h
  · refine ⟨?_, ?_, absInsert_keys_ne d key v h.keysNe⟩
    · intro x k
      simp only [ssmInsertKsorted, findKey_vecOf_fold, findKey_absInsert d key v hk, h.find,
        List.contains_iff_mem]
      by_cases h1 : key = k
      · subst h1
        by_cases h2 : x ∈ key <;> simp [h2]
      · simp [h1]
    · -- neither is empty: both answer `some` for `key`
      obtain ⟨k0, r, rfl⟩ := List.exists_cons_of_ne_nil hk
      refine ⟨fun hm => ?_, fun hd => absurd hd (absInsert_ne_nil d _ v hk)⟩
      have := findKey_vecOf_fold (k0 :: r) v (k0 :: r) m k0 (k0 :: r)
      rw [← ssmInsertKsorted, hm] at this
      simp [vecOf, mapGet, findKey_nil] at this

theorem findKey_some_key {l : List (Key × V)} {k : Key} {kv : Key × V} (h : findKey l k = some kv) :
    kv.1 = k := by
  have := List.find?_some h
  simpa using this

theorem isSubsetOf_head {k0 : Nat} {r key : Key} (h : isSubsetOf (k0 :: r) key = true) :
    k0 ∈ key := by
  simp only [isSubsetOf, List.all_cons, Bool.and_eq_true] at h
  simpa using h.1

/-- Whether some stored key contains `k` depends only on which supersets of `k` are stored. -/
theorem any_subset_congr {l1 l2 : List (Key × V)} (k : Key)
    (h : ∀ k', isSubsetOf k k' = true → (findKey l1 k').isSome = (findKey l2 k').isSome) :
    l1.any (fun kv => isSubsetOf k kv.1) = l2.any (fun kv => isSubsetOf k kv.1) := by
  have key : ∀ {a b : List (Key × V)}, (∀ k', isSubsetOf k k' = true → (findKey a k').isSome = (findKey b k').isSome) →
      a.any (fun kv => isSubsetOf k kv.1) = true → b.any (fun kv => isSubsetOf k kv.1) = true := by
    intro a b hab ha
    obtain ⟨kv, hkv, hs⟩ := List.any_eq_true.mp ha
    obtain ⟨kv', hkv', hk'⟩ := (mem_keys_iff_findKey b kv.1).mpr
      (hab kv.1 hs ▸ (mem_keys_iff_findKey a kv.1).mp ⟨kv, hkv, rfl⟩)
    exact List.any_eq_true.mpr ⟨kv', hkv', hk' ▸ hs⟩
  exact Bool.eq_iff_iff.mpr ⟨key h, key fun k' hs => (h k' hs).symm⟩

theorem ssmGet_cons (m : Ssm V) (k0 : Nat) (r : Key) :
    ssmGet m (k0 :: r) = absGet (vecOf m k0) (k0 :: r) := by
  simp only [ssmGet, vecOf]
  cases mapGet m k0 with
  | none => rfl
  | some vec => rfl

/-- Lookups agree under the representation invariant. -/
theorem Rep.get {m : Ssm V} {d : List (Key × V)} (h : Rep m d) (k : Key) :
    ssmGet m k = absGet d k := by
  cases k with
  | nil =>
    have hf : findKey d [] = none := by
      rw [← Option.not_isSome_iff_eq_none, ← mem_keys_iff_findKey]
      exact fun ⟨kv, hkv, hk⟩ => h.keysNe kv hkv hk
    rw [absGet, ← findKey, hf, ssmGet]
    cases m with
    | nil => rw [h.empty.mp rfl]; rfl
    | cons a r =>
      cases d with
      | nil => exact absurd (h.empty.mpr rfl) (List.cons_ne_nil _ _)
      | cons b s => simp [isSubsetOf]
  | cons k0 r =>
    have hfind := h.find k0 (k0 :: r)
    rw [if_pos (List.mem_cons_self ..)] at hfind
    have hany := any_subset_congr (l1 := vecOf m k0) (l2 := d) (k0 :: r) fun k' hs => by
      rw [h.find k0 k', if_pos (isSubsetOf_head hs)]
    rw [ssmGet_cons, absGet, absGet, ← findKey, ← findKey, hfind, hany]

/-- The concrete and the abstract map built by the same insertions. -/
def ssmOf (ins : List (Key × V)) : Ssm V := ins.foldl (fun m kv => ssmInsertKsorted m kv.1 kv.2) []
def absOf (ins : List (Key × V)) : List (Key × V) := ins.foldl (fun d kv => absInsert d kv.1 kv.2) []

theorem rep_fold (ins : List (Key × V)) (m : Ssm V) (d : List (Key × V)) (h : Rep m d) :
    Rep (ins.foldl (fun m kv => ssmInsertKsorted m kv.1 kv.2) m)
        (ins.foldl (fun d kv => absInsert d kv.1 kv.2) d) := by
  induction ins generalizing m d with
  | nil => exact h
  | cons a r ih => exact ih _ _ (h.insert a.1 a.2)

theorem rep_of (ins : List (Key × V)) : Rep (ssmOf ins) (absOf ins) := rep_fold ins [] [] Rep.nil

/-- Insertions of pairwise distinct non-empty keys: the abstract list is the insertion list. -/
theorem absOf_fold_distinct (ins acc : List (Key × V))
    (hne : ∀ kv ∈ ins, kv.1 ≠ [])
    (hd : ins.Pairwise (fun a b => a.1 ≠ b.1))
    (hacc : ∀ a ∈ acc, ∀ b ∈ ins, a.1 ≠ b.1) :
    ins.foldl (fun d kv => absInsert d kv.1 kv.2) acc = acc ++ ins := by
  induction ins generalizing acc with
  | nil => simp
  | cons a r ih =>
    simp only [List.foldl_cons]
    have hk : a.1 ≠ [] := hne a (List.mem_cons_self ..)
    have hany : acc.any (fun kv => decide (kv.1 = a.1)) = false := by
      simp only [List.any_eq_false]
      intro x hx
      simpa using hacc x hx a (List.mem_cons_self ..)
    have hins : absInsert acc a.1 a.2 = acc ++ [a] := by
      simp [absInsert, hk, hany]
    rw [hins, ih]
    · simp
    · intro kv hkv; exact hne kv (List.mem_cons_of_mem _ hkv)
    · exact (List.pairwise_cons.mp hd).2
    · intro x hx b hb
      simp only [List.mem_append, List.mem_singleton] at hx
      rcases hx with hx | hx
      · exact hacc x hx b (List.mem_cons_of_mem _ hb)
      · subst hx
        exact (List.pairwise_cons.mp hd).1 b hb

theorem absOf_distinct (ins : List (Key × V)) (hne : ∀ kv ∈ ins, kv.1 ≠ [])
    (hd : ins.Pairwise (fun a b => a.1 ≠ b.1)) : absOf ins = ins := by
  exact (absOf_fold_distinct ins [] hne hd nofun).trans (List.nil_append ins)

/-! ### What the list of pairs contains, in terms of the insertions themselves -/

/-- the last insertion under exactly this (non-empty) key -/
def lastInsert (ins : List (Key × V)) (k : Key) : Option V :=
  (ins.reverse.find? (fun kv => kv.1 = k && !kv.1.isEmpty)).map (·.2)

theorem findKey_fold_absInsert (ins acc : List (Key × V)) (k : Key) :
    findKey (ins.foldl (fun d kv => absInsert d kv.1 kv.2) acc) k =
      match lastInsert ins k with
      | some v => some (k, v)
      | none => findKey acc k := by
  induction ins generalizing acc with
  | nil => simp [lastInsert]
  | cons a r ih =>
    rw [List.foldl_cons, ih]
    simp only [lastInsert, List.reverse_cons, List.find?_append]
    cases hr : List.find? (fun kv => decide (kv.1 = k) && !kv.1.isEmpty) r.reverse with
    | some kv => simp
    | none =>
      simp only [Option.map_none, Option.none_or, List.find?_cons, List.find?_nil]
      by_cases hk : a.1 = []
      · have : absInsert acc a.1 a.2 = acc := by simp [absInsert, hk]
        rw [this]
        simp [hk]
      · rw [findKey_absInsert _ _ _ hk]
        have hne : a.1.isEmpty = false := by simpa using hk
        by_cases h2 : a.1 = k
        · subst h2; simp [hne]
        · simp [h2]

/-- The meaning of a lookup after a sequence of insertions: the value of the last insertion under
exactly this key; else whether the key is a subset of some inserted key; else neither. -/
def lookupSpec (ins : List (Key × V)) (k : Key) : Lookup V :=
  match lastInsert ins k with
  | some v => .hasValue v
  | none => if ins.any (fun kv => !kv.1.isEmpty && isSubsetOf k kv.1) then .isSubset else .neither

theorem absGet_absOf (ins : List (Key × V)) (k : Key) : absGet (absOf ins) k = lookupSpec ins k := by
  have hfind : ∀ k', findKey (absOf ins) k' = (lastInsert ins k').map (k', ·) := fun k' => by
    rw [absOf, findKey_fold_absInsert, findKey_nil]; cases lastInsert ins k' <;> rfl
  -- the stored keys are the non-empty inserted keys
  have hany : (absOf ins).any (fun kv => isSubsetOf k kv.1) =
      (ins.filter (fun kv => !kv.1.isEmpty)).any (fun kv => isSubsetOf k kv.1) :=
    any_subset_congr k fun k' _ => by
      rw [hfind, Bool.eq_iff_iff, ← mem_keys_iff_findKey]
      simp only [lastInsert, Option.isSome_map, List.find?_isSome, List.mem_reverse, List.mem_filter,
        Bool.and_eq_true, decide_eq_true_eq]
      exact ⟨fun ⟨kv, h1, h2, h3⟩ => ⟨kv, ⟨h1, h3⟩, h2⟩, fun ⟨kv, ⟨h1, h3⟩, h2⟩ => ⟨kv, h1, h2, h3⟩⟩
  rw [absGet, ← findKey, hfind, hany, List.any_filter, lookupSpec]
  cases lastInsert ins k <;> rfl

end KVerif.Zippy
