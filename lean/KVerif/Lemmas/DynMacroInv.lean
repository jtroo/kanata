/-
Helper lemmas for C19: the state invariant `Good` (stored macros are balanced and marker-free, the
recursion guard tracks exactly the unfinished expansions, everything fed so far plus everything
still queued leaves no key down) and its preservation by every step of the glue.
-/
import KVerif.Lemmas.DynMacroReplay
namespace KVerif.DynMacro

/-- the `EndMacro` markers in a queue, in order -/
def markers (q : List Item) : List Nat :=
  q.filterMap fun i => match i with
    | .endMacro id => some id
    | _ => none

theorem markers_append (a b : List Item) : markers (a ++ b) = markers a ++ markers b :=
  List.filterMap_append

theorem markers_cons_end (id : Nat) (q : List Item) : markers (.endMacro id :: q) = id :: markers q :=
  rfl

theorem markers_cons_key {it : Item} {e : KeyEv} (h : evOf it = some e) (q : List Item) :
    markers (it :: q) = markers q := by
  cases it with
  | endMacro id => cases h
  | _ => rfl

theorem mem_markers (id : Nat) (q : List Item) : id ∈ markers q ↔ Item.endMacro id ∈ q := by
  simp only [markers, List.mem_filterMap]
  constructor
  · rintro ⟨i, hi, h⟩
    cases i with
    | endMacro j => cases h; exact hi
    | _ => cases h
  · exact fun h => ⟨_, h, rfl⟩

theorem markers_noEnd (l : List Item) (h : NoEnd l) : markers l = [] :=
  List.eq_nil_iff_forall_not_mem.mpr fun id hm => h _ ((mem_markers id l).mp hm) id rfl

/-- no marker, and no key left down: what every stored macro is -/
def Clean (items : List Item) : Prop := NoEnd items ∧ unreleased items = []

def StoreOK (s : Store) : Prop := ∀ id items, s.get id = some items → Clean items

def SavedOK : Saved → Prop
  | none => True
  | some (_, items) => Clean items

def RecOK : Option Rec → Prop
  | none => True
  | some r => NoEnd r.items

/-- the recursion guard: `active` is duplicate-free and consists of one top-level macro plus exactly
the macros whose end marker is still queued; markers are distinct -/
def RepOK : Option Replay → Prop
  | none => True
  | some st =>
    st.active.Nodup ∧ (markers st.queue).Nodup ∧
      ∃ top, top ∉ markers st.queue ∧ ∀ a, a ∈ st.active ↔ (a = top ∨ a ∈ markers st.queue)

variable {L : Type}

/-- everything the replay has fed so far, followed by everything still queued, leaves no key down -/
def Bal (k : K L) : Prop := scanEv [] (k.fed ++ planOf k.rep) = []

def Good (k : K L) : Prop := RecOK k.rcd ∧ StoreOK k.store ∧ RepOK k.rep ∧ Bal k

/-! ### the store -/

namespace Store

theorem get_insert (s : Store) (id j : Nat) (v : List Item) :
    (s.insert id v).get j = if j = id then some v else s.get j := by
  induction s with
  | nil => simp only [Store.insert, Store.get, eq_comm]
  | cons p r ih =>
    obtain ⟨k, w⟩ := p
    by_cases hk : k = id
    · rw [Store.insert, if_pos hk, Store.get, Store.get, hk]
      by_cases hj : j = id
      · rw [if_pos hj, if_pos hj.symm]
      · rw [if_neg hj, if_neg (Ne.symm hj), if_neg (Ne.symm hj)]
    · rw [Store.insert, if_neg hk, Store.get, Store.get, ih]
      by_cases hkj : k = j
      · rw [if_pos hkj, if_pos hkj, if_neg (hkj ▸ hk)]
      · rw [if_neg hkj, if_neg hkj]

end Store

theorem StoreOK.save {s : Store} (h : StoreOK s) {sv : Saved} (hsv : SavedOK sv) :
    StoreOK (s.save sv) := by
  cases sv with
  | none => exact h
  | some p =>
    intro j its hj
    simp only [Store.save, Store.get_insert] at hj
    split at hj
    · cases hj; exact hsv
    · exact h j its hj

theorem clean_addReleases (hint : List Nat) {items : List Item} (h : NoEnd items) :
    Clean (addReleases hint items) :=
  ⟨h.addReleases hint, unreleased_addReleases hint items⟩

/-! ### recording functions keep `RecOK` and save only clean macros -/

theorem removeLast_noEnd {fix : Bool} {site : Crash} {l l' : List Item}
    (h : removeLast fix site l = .ok l') (hl : NoEnd l) : NoEnd l' := by
  simp only [removeLast] at h
  split at h
  · cases h
  · cases h; exact hl.sublist fun _ hi => List.dropLast_subset _ hi

theorem noEnd_new (id : Nat) : NoEnd (Rec.new id).items := fun _ hi => nomatch hi

theorem beginRecord_ok {fix : Bool} {hint : List Nat} {id : Nat} {r r' : Option Rec} {sv : Saved}
    (hr : RecOK r) (h : beginRecord fix hint id r = .ok (r', sv)) : RecOK r' ∧ SavedOK sv := by
  cases r with
  | none => cases h; exact ⟨noEnd_new id, trivial⟩
  | some st =>
    simp only [beginRecord] at h
    split at h
    · cases h
    · rename_i items hi
      cases h
      refine ⟨?_, clean_addReleases hint (removeLast_noEnd hi hr.flush)⟩
      split
      · trivial
      · exact noEnd_new id

theorem stopMacro_ok {fix : Bool} {hint : List Nat} {n : Nat} {r r' : Option Rec} {sv : Saved}
    (hr : RecOK r) (h : stopMacro fix hint n r = .ok (r', sv)) : RecOK r' ∧ SavedOK sv := by
  cases r with
  | none => cases h; exact ⟨trivial, trivial⟩
  | some st =>
    simp only [stopMacro] at h
    split at h
    · cases h
    · rename_i items hi
      cases h
      exact ⟨trivial, clean_addReleases hint
        ((removeLast_noEnd hi hr.flush).sublist fun _ hi => List.take_subset _ _ hi)⟩

theorem recordPress_ok (hint : List Nat) (max osc : Nat) {r : Option Rec} (hr : RecOK r) :
    RecOK (recordPress hint max osc r).1 ∧ SavedOK (recordPress hint max osc r).2 := by
  cases r with
  | none => exact ⟨trivial, trivial⟩
  | some st =>
    simp only [recordPress]
    split
    · exact ⟨trivial, clean_addReleases hint hr⟩
    · exact ⟨NoEnd.flush hr, trivial⟩

theorem recordRelease_ok (osc : Nat) {r : Option Rec} (hr : RecOK r) : RecOK (recordRelease osc r) := by
  cases r with
  | none => trivial
  | some st => exact NoEnd.flush hr

theorem tickRecord_ok {r : Option Rec} (hr : RecOK r) : RecOK (tickRecord r) := by
  cases r with
  | none => trivial
  | some st => exact hr

/-! ### `play_macro` -/

/-- what `play_macro` does to the events still to be fed: nothing, or the stored macro's events are
put in front -/
theorem playMacro_plan (id : Nat) (store : Store) (rep : Option Replay) :
    planOf (playMacro id store rep) = planOf rep ∨
      ∃ items, store.get id = some items ∧
        planOf (playMacro id store rep) = evsQ items ++ planOf rep := by
  rcases playMacro_cases id store rep with h | ⟨items, hg, ⟨rfl, h⟩ | ⟨st, rfl, _, h⟩⟩ <;> rw [h]
  · exact .inl rfl
  · exact .inr ⟨items, hg, (List.append_nil _).symm⟩
  · exact .inr ⟨items, hg, evsQ_append _ _⟩

theorem playMacro_repOK {id : Nat} {store : Store} {rep : Option Replay} (hs : StoreOK store)
    (hr : RepOK rep) : RepOK (playMacro id store rep) := by
  rcases playMacro_cases id store rep with h | ⟨items, hg, ⟨rfl, h⟩ | ⟨st, rfl, hna, h⟩⟩ <;> rw [h]
  · exact hr
  · simp only [RepOK, markers_noEnd items (hs id items hg).1]
    exact ⟨List.nodup_cons.mpr ⟨List.not_mem_nil, List.nodup_nil⟩, List.nodup_nil, id, List.not_mem_nil,
      fun a => by simp only [List.mem_singleton, List.not_mem_nil, or_false]⟩
  · obtain ⟨h1, h2, top, h3, h4⟩ := hr
    have hidm : id ∉ markers st.queue := fun hc => hna ((h4 id).mpr (.inr hc))
    have htop : top ≠ id := fun e => hna ((h4 id).mpr (.inl e.symm))
    simp only [RepOK, markers_append, markers_noEnd items (hs id items hg).1, List.nil_append,
      markers_cons_end]
    refine ⟨?_, List.nodup_cons.mpr ⟨hidm, h2⟩, top, ?_, fun a => ?_⟩
    · exact List.nodup_append.mpr ⟨h1, List.nodup_cons.mpr ⟨List.not_mem_nil, List.nodup_nil⟩,
        fun a ha b hb hab => hna (List.mem_singleton.mp hb ▸ hab ▸ ha)⟩
    · exact fun hc => (List.mem_cons.mp hc).elim htop h3
    · simp only [List.mem_append, List.mem_cons, List.not_mem_nil, or_false, h4 a]
      exact or_assoc.trans (or_congr_right or_comm)

theorem playMacro_bal (id : Nat) {k : K L} (hs : StoreOK k.store) (hb : Bal k) :
    scanEv [] (k.fed ++ planOf (playMacro id k.store k.rep)) = [] := by
  rcases playMacro_plan id k.store k.rep with h | ⟨items, hg, h⟩
  · rw [h]; exact hb
  · rw [h, ← List.append_assoc]
    exact scanEv_insert_balanced _ _ _ ((scan_eq_scanEv [] items).symm.trans (hs id items hg).2) hb

/-! ### `tick_replay_state` keeps the guard invariant -/

theorem tickReplay_repOK (beh : Beh) {rep : Option Replay} (hr : RepOK rep) :
    RepOK (tickReplay beh rep).1 := by
  cases rep with
  | none => trivial
  | some st =>
    rcases tickReplay_cases beh st with ⟨_, h⟩ | ⟨_, _, h⟩ | ⟨it, q, e, dl, d, _, hq, he, _, _, h⟩ |
      ⟨id, q, _, hq, h⟩ <;> rw [h]
    · exact hr
    · trivial
    · simp only [RepOK, hq, markers_cons_key he] at hr ⊢
      exact hr
    · -- the marker of `id` leaves the queue and `id` leaves the guard set
      simp only [RepOK, hq, markers_cons_end, List.nodup_cons, List.mem_cons, not_or] at hr ⊢
      obtain ⟨h1, ⟨hid, h2⟩, top, ⟨htop, h3⟩, h4⟩ := hr
      refine ⟨h1.filter _, h2, top, h3, fun a => ?_⟩
      simp only [List.mem_filter, bne_iff_ne, ne_eq, h4 a]
      constructor
      · rintro ⟨h | h | h, hne⟩
        · exact .inl h
        · exact absurd h hne
        · exact .inr h
      · rintro (h | h)
        · exact ⟨.inl h, h ▸ htop⟩
        · exact ⟨.inr (.inr h), fun e => hid (e ▸ h)⟩

/-! ### every step of the glue keeps `Good` -/

theorem doAct_good {c : Cfg} {k k' : K L} {a : Act} (hg : Good k) (h : doAct c k a = .ok k') :
    Good k' := by
  obtain ⟨g1, g2, g3, g4⟩ := hg
  rcases doAct_cases h with ⟨r, sv, rfl, ⟨id, _, hb⟩ | ⟨n, _, hb⟩⟩ | ⟨id, _, rfl⟩
  · exact ⟨(beginRecord_ok g1 hb).1, g2.save (beginRecord_ok g1 hb).2, g3, g4⟩
  · exact ⟨(stopMacro_ok g1 hb).1, g2.save (stopMacro_ok g1 hb).2, g3, g4⟩
  · exact ⟨g1, g2, playMacro_repOK g2 g3, playMacro_bal id g2 g4⟩

theorem tickStates_good {I : LayoutI L} {c : Cfg} {k k' : K L} (hg : Good k)
    (h : tickStates I c k = .ok k') : Good k' := by
  obtain ⟨k2, ⟨g1, g2, g3, g4⟩, rfl⟩ := tickStates_inv Good (fun _ _ _ _ hx hxa => doAct_good hx hxa) hg h
  exact ⟨tickRecord_ok g1, g2, g3, g4⟩

theorem handleInput_good (I : LayoutI L) (c : Cfg) {k : K L} (e : KeyEv) (hg : Good k) :
    Good (handleInput I c k e) := by
  obtain ⟨g1, g2, g3, g4⟩ := hg
  simp only [handleInput]
  split
  · exact ⟨(recordPress_ok _ _ _ g1).1, g2.save (recordPress_ok _ _ _ g1).2, g3, g4⟩
  · exact ⟨recordRelease_ok _ g1, g2, g3, g4⟩

theorem feed_good (I : LayoutI L) (beh : Beh) {k : K L} (hg : Good k) : Good (feed I beh k) :=
  ⟨hg.1, hg.2.1, tickReplay_repOK beh hg.2.2.1, (congrArg (scanEv []) (feed_plan I beh k)).trans hg.2.2.2⟩

end KVerif.DynMacro
