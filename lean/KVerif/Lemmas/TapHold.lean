/-
C05 helper lemmas: one tap-hold waiting state (`WaitingState::tick_wt` / `handle_hold_tap`).

Part 1  the scans of the early triggers skip everything that is not a press; `whileDown`.
Part 2  `handle_hold_tap` = the queue-length shortcut, or the decision `htDecision`.
Part 3  one `tick_wt` of a tap-hold entry (`htStep`), what it keeps (`Counted`), when it must decide.
Part 4  the three `waiting_into_*` functions as one function of the decision (`resolveAct`), and the
        main stage of `tick` with a tap-hold entry in `waiting`.
-/
import KVerif.Lemmas.WaitingTick
namespace KVerif.C05
open KVerif.L

/-- no press event in the queue -/
def NoPress (q : List Queued) : Prop := ∀ x ∈ q, x.ev.isPress = false

theorem NoPress.head {x : Queued} {q : List Queued} (h : NoPress (x :: q)) : x.ev.isPress = false :=
  h x (List.mem_cons_self ..)

theorem NoPress.tail {x : Queued} {q : List Queued} (h : NoPress (x :: q)) : NoPress q :=
  fun y hy => h y (List.mem_cons_of_mem _ hy)

theorem any_noPress {q : List Queued} (h : NoPress q) : q.any (·.ev.isPress) = false := by
  rw [List.any_eq_false]
  intro x hx
  simp [h x hx]

theorem permissive_skip {pre : List Queued} (h : NoPress pre) (rest : List Queued) :
    permissiveHoldHit (pre ++ rest) = permissiveHoldHit rest := by
  induction pre with
  | nil => rfl
  | cons x xs ih =>
    simp only [List.cons_append, permissiveHoldHit, h.head, Bool.false_and, Bool.false_or]
    exact ih h.tail

theorem customRelease_skip (keys : List Nat) {pre : List Queued} (h : NoPress pre) (rest : List Queued) :
    customRelease keys (pre ++ rest) = customRelease keys rest := by
  induction pre with
  | nil => rfl
  | cons x xs ih =>
    simp only [List.cons_append, customRelease, h.head, Bool.false_eq_true, if_false]
    exact ih h.tail

theorem customExcept_skip (keys : List Nat) {pre : List Queued} (h : NoPress pre) (rest : List Queued) :
    customExcept keys (pre ++ rest) = customExcept keys rest := by
  induction pre with
  | nil => rfl
  | cons x xs ih =>
    simp only [List.cons_append, customExcept, h.head, Bool.false_eq_true, if_false]
    exact ih h.tail

theorem earlyTrigger_skip (cfg : HTConfig) {pre : List Queued} (h : NoPress pre) (rest : List Queued) :
    earlyTrigger cfg (pre ++ rest) = earlyTrigger cfg rest := by
  cases cfg <;>
    simp only [earlyTrigger, List.any_append, any_noPress h, Bool.false_or, permissive_skip h,
      customRelease_skip _ h, customExcept_skip _ h]

def skips : HTConfig → Bool
  | .customExcept _ => true
  | _ => false

/-- the early-trigger part of `handle_hold_tap` is silent while no other key is pressed -/
theorem early_noPress (cfg : HTConfig) {q : List Queued} (h : NoPress q) :
    earlyTrigger cfg q = (none, skips cfg) := by
  have := earlyTrigger_skip cfg h []
  rw [List.append_nil] at this
  rw [this]
  cases cfg <;> rfl

theorem earlyTrigger_skipTimeout (cfg : HTConfig) (q : List Queued) :
    (earlyTrigger cfg q).2 = (skips cfg && !q.any (·.ev.isPress)) := by
  cases cfg <;> simp only [earlyTrigger, skips, Bool.false_and]
  rename_i keys
  induction q with
  | nil => rfl
  | cons x xs ih =>
    simp only [customExcept, List.any_cons, Bool.true_and]
    cases hx : x.ev.isPress
    · simpa using ih
    · simp only [if_true]
      split <;> rfl

/-- [t8:while-down] the events before the key's own release are among the queued ones -/
theorem mem_whileDown (c : Coord) : ∀ {q : List Queued} {x : Queued}, x ∈ whileDown c q → x ∈ q
  | [], _, h => by simp [whileDown] at h
  | s :: rest, x, h => by
    simp only [whileDown] at h
    split at h
    · simp at h
    · rcases List.mem_cons.mp h with rfl | h'
      · simp
      · exact List.mem_cons_of_mem _ (mem_whileDown c h')

theorem whileDown_noPress (c : Coord) {q : List Queued} (h : NoPress q) : NoPress (whileDown c q) :=
  fun x hx => h x (mem_whileDown c hx)

theorem whileDown_append (c : Coord) (pre : List Queued) (h : ∀ x ∈ pre, (x.ev == .release c) = false)
    (rest : List Queued) : whileDown c (pre ++ rest) = pre ++ whileDown c rest := by
  induction pre with
  | nil => rfl
  | cons p ps ih =>
    simp only [List.cons_append, whileDown, h p (List.mem_cons_self ..), Bool.false_eq_true, if_false]
    rw [ih (fun y hy => h y (List.mem_cons_of_mem _ hy))]

theorem whileDown_of_no_release (c : Coord) (q : List Queued)
    (h : q.find? (fun s => s.ev == .release c) = none) : whileDown c q = q := by
  have := whileDown_append c q (by simpa using h) []
  simpa [whileDown] using this

theorem whileDown_split (c : Coord) (pre : List Queued) (r : Queued) (post : List Queued)
    (hpre : ∀ x ∈ pre, (x.ev == .release c) = false) (hr : (r.ev == .release c) = true) :
    whileDown c (pre ++ r :: post) = pre := by
  rw [whileDown_append c pre hpre]
  simp only [whileDown, hr, if_true, List.append_nil]

theorem customRelease_ne_noOp (keys : List Nat) : ∀ q, customRelease keys q ≠ some .noOp := by
  intro q
  induction q with
  | nil => simp [customRelease]
  | cons x xs ih =>
    simp only [customRelease]
    split
    · split
      · simp
      · split
        · simp
        · exact ih
    · exact ih

theorem customExcept_ne_noOp (keys : List Nat) : ∀ q, (customExcept keys q).1 ≠ some .noOp := by
  intro q
  induction q with
  | nil => simp [customExcept]
  | cons x xs ih =>
    simp only [customExcept]
    split
    · split <;> simp
    · exact ih

theorem earlyTrigger_ne_noOp (cfg : HTConfig) (q : List Queued) : (earlyTrigger cfg q).1 ≠ some .noOp := by
  cases cfg <;> simp only [earlyTrigger]
  · simp
  · split <;> simp
  · split <;> simp
  · exact customRelease_ne_noOp _ q
  · exact customExcept_ne_noOp _ q

/-- what `handle_hold_tap` answers when the queue-length shortcut does not fire: an early trigger of
the variant; else, with the key's own release queued, tap or timeout by the time comparison; else
the timeout once the countdown is at 0 (unless the variant says to skip it) -/
def htDecision (w : Waiting) (cfg : HTConfig) (q : List Queued) : Option WAct :=
  match earlyTrigger cfg (whileDown w.coord q) with
  | (some a, _) => some a
  | (none, skipTimeout) =>
    match q.find? (fun s => s.ev == .release w.coord) with
    | some r => if w.timeout > w.delay - r.since then some .tap else some .timeout
    | none => if w.timeout == 0 && !skipTimeout then some .timeout else none

theorem handleHoldTap_eq (w : Waiting) (cfg : HTConfig) (q : List Queued) :
    handleHoldTap w cfg q =
      if q.length % 256 == w.prevQueueLen && w.timeout > 0 then (w, none)
      else ({ w with prevQueueLen := q.length % 256 }, htDecision w cfg q) := by
  unfold handleHoldTap htDecision
  split
  · rfl
  · simp only [isCorrespondingRelease]
    generalize earlyTrigger cfg (whileDown w.coord q) = e
    generalize q.find? (fun s => s.ev == .release w.coord) = r
    obtain ⟨_ | a, sk⟩ := e
    · cases r <;> simp only [] <;> split <;> rfl
    · rfl

theorem handleHoldTap_fields (w : Waiting) (cfg : HTConfig) (q : List Queued) :
    (handleHoldTap w cfg q).1.timeout = w.timeout ∧ (handleHoldTap w cfg q).1.config = w.config ∧
    (handleHoldTap w cfg q).1.coord = w.coord ∧ (handleHoldTap w cfg q).1.delay = w.delay ∧
    (handleHoldTap w cfg q).1.hold = w.hold ∧ (handleHoldTap w cfg q).1.tap = w.tap ∧
    (handleHoldTap w cfg q).1.timeoutAction = w.timeoutAction ∧
    (handleHoldTap w cfg q).1.layerStack = w.layerStack ∧
    (handleHoldTap w cfg q).1.ticks = w.ticks := by
  rw [handleHoldTap_eq]
  split <;> exact ⟨rfl, rfl, rfl, rfl, rfl, rfl, rfl, rfl, rfl⟩

theorem htDecision_ne_noOp (w : Waiting) (cfg : HTConfig) (q : List Queued) :
    htDecision w cfg q ≠ some .noOp := by
  have he := earlyTrigger_ne_noOp cfg (whileDown w.coord q)
  unfold htDecision
  split
  · rename_i a sk heq
    simpa [heq] using he
  · split
    · split <;> simp
    · split <;> simp

/-- `handle_hold_tap` answers tap, hold, timeout or nothing — never "drop" -/
theorem handleHoldTap_ne_noOp (w : Waiting) (cfg : HTConfig) (q : List Queued) :
    (handleHoldTap w cfg q).2 ≠ some .noOp := by
  rw [handleHoldTap_eq]
  split
  · simp
  · exact htDecision_ne_noOp w cfg q

theorem handleHoldTap_noPress (w : Waiting) (cfg : HTConfig) (q : List Queued) (h : NoPress q) :
    handleHoldTap w cfg q =
      if q.length % 256 == w.prevQueueLen && w.timeout > 0 then (w, none)
      else
        match q.find? (fun s => s.ev == .release w.coord) with
        | some r =>
          if w.timeout > w.delay - r.since then ({ w with prevQueueLen := q.length % 256 }, some .tap)
          else ({ w with prevQueueLen := q.length % 256 }, some .timeout)
        | none =>
          if w.timeout == 0 && !skips cfg then ({ w with prevQueueLen := q.length % 256 }, some .timeout)
          else ({ w with prevQueueLen := q.length % 256 }, none) := by
  unfold handleHoldTap
  split
  · rfl
  · simp only [early_noPress cfg (whileDown_noPress _ h), isCorrespondingRelease]
    rfl

/-- the queue-length memo does not matter: when the shortcut fires the countdown is still running,
and the decision would have been "nothing" anyway -/
theorem handleHoldTap_quiet (w : Waiting) (cfg : HTConfig) (q : List Queued) (h : NoPress q)
    (hr : q.find? (fun s => s.ev == .release w.coord) = none) :
    (handleHoldTap w cfg q).2 = if w.timeout == 0 && !skips cfg then some .timeout else none := by
  rw [handleHoldTap_eq]
  split
  · rename_i hc
    have : (w.timeout == 0) = false := by
      simp only [Bool.and_eq_true, decide_eq_true_eq] at hc
      simp only [beq_eq_false_iff_ne]
      omega
    simp only [this, Bool.false_and, Bool.false_eq_true, if_false]
  · simp only [htDecision, early_noPress cfg (whileDown_noPress _ h), hr]

/-- a countdown at 0: only an except-keys entry that has seen no press and no release stays undecided -/
theorem htDecision_zero (w : Waiting) (cfg : HTConfig) (q : List Queued) (h0 : w.timeout = 0) :
    htDecision w cfg q =
      match earlyTrigger cfg (whileDown w.coord q) with
      | (some a, _) => some a
      | (none, skipTimeout) =>
        if (q.find? (fun s => s.ev == .release w.coord)).isNone && skipTimeout then none else some .timeout := by
  unfold htDecision
  generalize earlyTrigger cfg (whileDown w.coord q) = e
  generalize q.find? (fun s => s.ev == .release w.coord) = r
  obtain ⟨_ | a, sk⟩ := e
  · cases r <;> cases sk <;> simp [h0]
  · rfl

/-- also with the key's own release queued: at 0 the time comparison gives the timeout, not the tap -/
theorem handleHoldTap_overdue (w : Waiting) (cfg : HTConfig) (q : List Queued) (h0 : w.timeout = 0)
    (he : earlyTrigger cfg (whileDown w.coord q) = (none, false)) :
    (handleHoldTap w cfg q).2 = some .timeout := by
  rw [handleHoldTap_eq, htDecision_zero _ _ _ h0, he, h0]
  simp

theorem tickWt_holdTap (w : Waiting) (cfg : HTConfig) (hc : w.config = .holdTap cfg) (q : List Queued)
    (aq : ActionQueue) :
    tickWt w q aq =
      .ok ((handleHoldTap { w with timeout := w.timeout - 1, ticks := min (w.ticks + 1) U16_MAX } cfg q).1, q, aq,
           (handleHoldTap { w with timeout := w.timeout - 1, ticks := min (w.ticks + 1) U16_MAX } cfg q).2.map (·, none)) := by
  unfold tickWt
  simp only [hc]

/-- the entry was made by the `HoldTap` arm of `do_action` (the only arm that fills `extra_waiting`) -/
def isHT (w : Waiting) : Bool :=
  match w.config with
  | .holdTap _ => true
  | _ => false

def htCfg (w : Waiting) : HTConfig :=
  match w.config with
  | .holdTap c => c
  | _ => .default

theorem isHT_config {w : Waiting} (h : isHT w = true) : w.config = .holdTap (htCfg w) := by
  unfold isHT at h
  unfold htCfg
  split at h
  · rename_i c hc; simp only [hc]
  · cases h

/-- the countdown at the top of `tick_wt` -/
def cdown (w : Waiting) : Waiting :=
  { w with timeout := w.timeout - 1, ticks := min (w.ticks + 1) U16_MAX }

/-- `tick_wt` of a tap-hold entry against the queue `q` -/
def htStep (w : Waiting) (q : List Queued) : Waiting × Option WAct :=
  handleHoldTap (cdown w) (htCfg w) q

theorem tickWt_isHT (w : Waiting) (h : isHT w = true) (q : List Queued) (aq : ActionQueue) :
    tickWt w q aq = .ok ((htStep w q).1, q, aq, (htStep w q).2.map (·, none)) :=
  tickWt_holdTap w (htCfg w) (isHT_config h) q aq

/-- the queue-length memo changes too and is not listed -/
structure Counted (w w' : Waiting) : Prop where
  coord : w'.coord = w.coord
  timeout : w'.timeout = w.timeout - 1
  ticks : w'.ticks = min (w.ticks + 1) U16_MAX
  delay : w'.delay = w.delay
  hold : w'.hold = w.hold
  tap : w'.tap = w.tap
  timeoutAction : w'.timeoutAction = w.timeoutAction
  config : w'.config = w.config
  layerStack : w'.layerStack = w.layerStack

theorem htStep_counted (w : Waiting) (q : List Queued) : Counted w (htStep w q).1 := by
  obtain ⟨f1, f2, f3, f4, f5, f6, f7, f8, f9⟩ := handleHoldTap_fields (cdown w) (htCfg w) q
  exact ⟨f3, f1, f9, f4, f5, f6, f7, f2, f8⟩

theorem Counted.isHT {w w' : Waiting} (h : Counted w w') : isHT w' = isHT w := by
  unfold C05.isHT; rw [h.config]

theorem Counted.htCfg {w w' : Waiting} (h : Counted w w') : htCfg w' = htCfg w := by
  unfold C05.htCfg; rw [h.config]

theorem htStep_ne_noOp (w : Waiting) (q : List Queued) : (htStep w q).2 ≠ some .noOp :=
  handleHoldTap_ne_noOp _ _ _

/-- the timeout applies to this entry: not the except-keys variant, or some press is queued -/
def timeoutApplies (q : List Queued) (w : Waiting) : Bool :=
  !skips (htCfg w) || q.any (·.ev.isPress)

theorem skipTimeout_eq (w : Waiting) (q : List Queued) :
    (earlyTrigger (htCfg w) q).2 = !timeoutApplies q w := by
  rw [earlyTrigger_skipTimeout, timeoutApplies, Bool.not_or, Bool.not_not]

theorem htStep_decides (w : Waiting) (q : List Queued) (ht : w.timeout ≤ 1)
    (hs : timeoutApplies q w = true) : ∃ a, (htStep w q).2 = some a := by
  have h0 : (cdown w).timeout = 0 := by show w.timeout - 1 = 0; omega
  unfold htStep
  rw [handleHoldTap_eq, h0, htDecision_zero _ _ _ h0]
  simp only [Nat.lt_irrefl, gt_iff_lt, decide_false, Bool.and_false, Bool.false_eq_true, if_false]
  split
  · exact ⟨_, rfl⟩
  · rename_i sk heq
    cases hf : q.find? (fun s => s.ev == .release (cdown w).coord) with
    | some r => exact ⟨.timeout, rfl⟩
    | none =>
      -- [t8:while-down] not released: the early triggers saw the whole queue, where the timeout applies
      rw [whileDown_of_no_release _ q hf] at heq
      have hsk := skipTimeout_eq w q
      rw [heq, hs] at hsk
      obtain rfl : sk = false := hsk
      exact ⟨.timeout, rfl⟩

theorem htStep_undecided (w : Waiting) (q : List Queued) (hs : timeoutApplies q w = true)
    (h : (htStep w q).2 = none) : 2 ≤ w.timeout := by
  by_cases ht : w.timeout ≤ 1
  · obtain ⟨a, ha⟩ := htStep_decides w q ht hs
    rw [ha] at h; cases h
  · omega

theorem idle_tick (w : Waiting) (cfg : HTConfig) (hc : w.config = .holdTap cfg) (hk : skips cfg = false)
    (aq : ActionQueue) :
    ∃ w', Counted w w' ∧
      tickWt w [] aq = .ok (w', [], aq, if w.timeout ≤ 1 then some (.timeout, none) else none) := by
  have hh : isHT w = true := by unfold isHT; rw [hc]
  have hcfg : htCfg w = cfg := by unfold htCfg; rw [hc]
  refine ⟨(htStep w []).1, htStep_counted w [], ?_⟩
  rw [tickWt_isHT w hh, htStep, handleHoldTap_quiet _ _ [] (fun _ hx => nomatch hx) rfl, hcfg, hk]
  by_cases h1 : w.timeout ≤ 1
  · have h0 : (cdown w).timeout = 0 := by show w.timeout - 1 = 0; omega
    simp only [h0, h1, beq_self_eq_true, Bool.not_false, Bool.and_self, if_true, Option.map_some]
  · have h0 : ((cdown w).timeout == 0) = false := by
      show (w.timeout - 1 == 0) = false
      simp only [beq_eq_false_iff_ne]; omega
    simp only [h0, h1, Bool.false_and, Bool.false_eq_true, if_false, Option.map_none]

/-- the three actions a tap-hold waiting state can resolve to -/
def outcomes (w : Waiting) : List Action := [w.hold, w.tap, w.timeoutAction]

/-- the action a decision selects -/
def pick (w : Waiting) : WAct → Action
  | .hold => w.hold
  | .tap => w.tap
  | .timeout => w.timeoutAction
  | .noOp => .noOp

theorem pick_mem_outcomes (w : Waiting) (a : WAct) (h : a ≠ .noOp) : pick w a ∈ outcomes w := by
  cases a <;> simp [pick, outcomes] at h ⊢

theorem Counted.pick {w w' : Waiting} (h : Counted w w') (a : WAct) : pick w' a = pick w a := by
  cases a
  · exact h.hold
  · exact h.tap
  · exact h.timeoutAction
  · rfl

/-- `waiting_into_hold` / `waiting_into_tap` (no chord participants) / `waiting_into_timeout` /
`drop_waiting`, for the entry `w` already taken out of the layout `S` -/
def resolveAct (S : Layout) (w : Waiting) : WAct → Except Crash (Layout × CustomEv)
  | .hold => doAction 3999 (holdPrep S w) w.hold w.coord (waitingDelay w) false w.layerStack
  | .tap =>
    match doAction FUEL S w.tap w.coord (waitingDelay w) false w.layerStack with
    | .error e => .error e
    | .ok (s, ret) => .ok (tapPost s, ret)
  | .timeout => doAction FUEL (timeoutPrep S w) w.timeoutAction w.coord (waitingDelay w) false w.layerStack
  | .noOp => .ok ({ S with waiting := none }, .noEvent)

theorem resolve_none (S : Layout) (w : Waiting) (a : WAct) : resolve S w none a = resolveAct S w a := by
  cases a with
  | tap =>
    rw [resolve_tap_none, resolveAct]
    cases doAction FUEL S w.tap w.coord (waitingDelay w) false w.layerStack <;> rfl
  | _ => rfl

theorem apply_extra (s : Layout) (i : Nat) (w : Waiting) (a : WAct) (dflt : CustomEv)
    (hi : s.extraWaiting[i]? = some w) (ha : a ≠ .noOp) :
    applyWaitingAction s (some (a, none)) (some i) dflt =
      resolveAct { s with extraWaiting := s.extraWaiting.eraseIdx i } w a :=
  (applyWaitingAction_extra hi ha none dflt).trans (resolve_none _ w a)

theorem apply_main (s : Layout) (w : Waiting) (a : WAct) (dflt : CustomEv) (hw : s.waiting = some w) :
    applyWaitingAction s (some (a, none)) none dflt = resolveAct { s with waiting := none } w a :=
  (applyWaitingAction_main hw a none dflt).trans (resolve_none _ w a)

theorem waitingDelay_step (w : Waiting) (h : isHT w = true) (q : List Queued) :
    waitingDelay (htStep w q).1 = min (w.delay + min (w.ticks + 1) U16_MAX) U16_MAX := by
  have hc := htStep_counted w q
  unfold waitingDelay
  rw [hc.config, isHT_config h, hc.delay, hc.ticks]

theorem tickMain_ht (s : Layout) (w : Waiting) (hw : s.waiting = some w) (hh : isHT w = true) :
    tickMain s =
      match (htStep w s.queue).2 with
      | none => .ok ({ s with waiting := some (htStep w s.queue).1 }, .noEvent)
      | some a => resolveAct { s with waiting := none } (htStep w s.queue).1 a := by
  rw [tickMain_waiting hw (tickWt_isHT w hh s.queue s.actionQueue)]
  cases (htStep w s.queue).2 with
  | none => rfl
  | some a => exact resolve_none _ _ a

/-- what a resolution keeps (it may start the rapid-event pause, so the one-shot state is not
literally unchanged) -/
structure RFrame (s s' : Layout) : Prop where
  waiting : s'.waiting = s.waiting
  extra : s'.extraWaiting = s.extraWaiting
  queue : s'.queue = s.queue
  aq : s'.actionQueue = s.actionQueue
  osh : s.oneshot.keys = [] → s'.oneshot.keys = []

theorem RFrame.refl (s : Layout) : RFrame s s := ⟨rfl, rfl, rfl, rfl, fun h => h⟩

theorem RFrame.trans {a b c : Layout} (h1 : RFrame a b) (h2 : RFrame b c) : RFrame a c :=
  ⟨h2.waiting.trans h1.waiting, h2.extra.trans h1.extra, h2.queue.trans h1.queue, h2.aq.trans h1.aq,
   fun hk => h2.osh (h1.osh hk)⟩

theorem holdPrep_rframe (s : Layout) (w : Waiting) : RFrame s (holdPrep s w) ∧ (holdPrep s w).states = s.states := by
  unfold holdPrep
  simp only []
  split <;> exact ⟨⟨rfl, rfl, rfl, rfl, fun h => h⟩, rfl⟩

theorem timeoutPrep_rframe (s : Layout) (w : Waiting) :
    RFrame s (timeoutPrep s w) ∧ (timeoutPrep s w).states = s.states := by
  unfold timeoutPrep
  split <;> exact ⟨⟨rfl, rfl, rfl, rfl, fun h => h⟩, rfl⟩

theorem tapPost_rframe (s : Layout) : RFrame s (tapPost s) := ⟨rfl, rfl, rfl, rfl, fun h => h⟩

theorem resolveAct_spec {S : Layout} {w : Waiting} {a : WAct} (ha : a ≠ .noOp) {s' : Layout} {cu : CustomEv}
    (h : resolveAct S w a = .ok (s', cu)) :
    ∃ s0 s1 : Layout, ∃ fuel : Nat, 3999 ≤ fuel ∧ RFrame S s0 ∧ s0.states = S.states ∧
      doAction fuel s0 (pick w a) w.coord (waitingDelay w) false w.layerStack = .ok (s1, cu) ∧
      (s' = s1 ∨ s' = tapPost s1) := by
  cases a with
  | hold =>
    exact ⟨_, s', 3999, Nat.le_refl _, (holdPrep_rframe S w).1, (holdPrep_rframe S w).2, h, Or.inl rfl⟩
  | tap =>
    simp only [resolveAct] at h
    split at h
    · cases h
    · rename_i s1 ret hd
      injection h with h; injection h with e1 e2
      exact ⟨S, s1, FUEL, by decide, RFrame.refl S, rfl, e2 ▸ hd, Or.inr e1.symm⟩
  | timeout =>
    exact ⟨_, s', FUEL, by decide, (timeoutPrep_rframe S w).1, (timeoutPrep_rframe S w).2, h, Or.inl rfl⟩
  | noOp => exact absurd rfl ha

end KVerif.C05
