/-
Lemmas for Props/C03vars.lean.

* The work-list search of the `defvar` cycle check, as a relation `Search` between a work list and a
  verdict: its verdict decides reachability in the reference graph; both `reachesVar` and the
  loop-by-loop transcription `checkLoop` perform such a search (a counting argument bounds the number
  of rounds: every key is queued at most once).
* Inserting a variable into an acyclic table can only close a cycle through that variable.
* Induction along the references of an acyclic table with a depth budget (a duplicate-free list of
  keys is no longer than the table), and from it: chains of references end (`chase`,
  Lemmas/SExprVars.lean), the complete expansion returns, `push_all_atoms` returns.
* `parse_vars` as a sequence of stages (`Stage`): the tables it accepts (`Grows`), agreement of the
  two revisions on them, independence of the budget, totality.
-/
import KVerif.Model.VarCycle
import KVerif.Lemmas.SExprVars
namespace KVerif.SExpr

variable {vars : Vars}

/-! ## 1. the graph -/

theorem Defined.of_lookup {n : Bytes} {v : SExpr} (h : vars.lookup n = some v) : Defined vars n := by
  simp [Defined, h]

theorem Defined.lookup {n : Bytes} (h : Defined vars n) : ∃ v, vars.lookup n = some v :=
  Option.isSome_iff_exists.mp h

theorem mem_varSuccs {n : Bytes} {v : SExpr} (hv : vars.lookup n = some v) {m : Bytes} :
    m ∈ varSuccs vars n ↔ m ∈ v.refs ∧ Defined vars m := by
  simp [varSuccs, Defined, hv, List.mem_filter]

theorem edge_iff {n m : Bytes} :
    Edge vars n m ↔ ∃ v, vars.lookup n = some v ∧ m ∈ v.refs ∧ Defined vars m := by
  unfold Edge
  cases h : vars.lookup n with
  | none => simp [varSuccs, h]
  | some v => simp [mem_varSuccs h]

namespace Edge

theorem defined_left {n m : Bytes} (h : Edge vars n m) : Defined vars n :=
  let ⟨_, hv, _⟩ := edge_iff.mp h
  .of_lookup hv

theorem defined_right {n m : Bytes} (h : Edge vars n m) : Defined vars m :=
  let ⟨_, _, _, hd⟩ := edge_iff.mp h
  hd

end Edge

namespace Reaches

theorem trans {a b c : Bytes} (h1 : Reaches vars a b) (h2 : Reaches vars b c) :
    Reaches vars a c := by
  induction h1 with
  | one e => exact .step e h2
  | step e _ ih => exact .step e (ih h2)

theorem snoc {a b c : Bytes} (h1 : Reaches vars a b) (h2 : Edge vars b c) :
    Reaches vars a c := h1.trans (.one h2)

theorem defined_left {a b : Bytes} (h : Reaches vars a b) : Defined vars a := by
  cases h with
  | one e => exact e.defined_left
  | step e _ => exact e.defined_left

end Reaches

theorem Reaches.defined_right {vars : Vars} {a b : Bytes} (h : Reaches vars a b) : Defined vars b := by
  induction h with
  | one e => exact e.defined_right
  | step _ _ ih => exact ih

/-- a set of names that contains the successors of each of its members and has no edge into `t`
contains no name that reaches `t` -/
theorem closed_no_reach {t : Bytes} (D : List Bytes)
    (hD : ∀ q ∈ D, ∀ m ∈ varSuccs vars q, m ≠ t ∧ m ∈ D) {p : Bytes} (hp : p ∈ D) : ¬ Reaches vars p t := by
  intro h
  induction h with
  | one e => exact (hD _ hp _ e).1 rfl
  | step e _ ih => exact ih hD (hD _ hp _ e).2

/-! ## 2. counting -/

theorem defined_iff_mem_keys {n : Bytes} : Defined vars n ↔ n ∈ vars.map (·.1) := by
  rw [Defined, List.lookup_isSome_iff, List.mem_map]
  exact exists_congr fun p => and_congr_right fun _ => beq_iff_eq.trans eq_comm

/-- a duplicate-free list of keys is no longer than the table -/
theorem nodup_keys_length (vars : Vars) (l : List Bytes) (hn : l.Nodup) (hd : ∀ x ∈ l, Defined vars x) :
    l.length ≤ vars.length :=
  vars.length_map (·.1) ▸ hn.length_le_of_subset fun x hx => defined_iff_mem_keys.mp (hd x hx)

theorem nodup_eraseDups (l : List Bytes) : l.eraseDups.Nodup := by
  induction h : l.length using Nat.strongRecOn generalizing l with
  | _ n ih =>
    cases l with
    | nil => simp
    | cons a as =>
      rw [List.eraseDups_cons, List.nodup_cons]
      exact ⟨fun hm => by simpa using List.mem_eraseDups.mp hm,
        ih _ (h ▸ Nat.lt_succ_of_le (List.length_filter_le _ _)) _ rfl⟩

/-- the keys of the table that are not in `vis` -/
def unvisited (vars : Vars) (vis : List Bytes) : Nat :=
  ((vars.map (·.1)).filter (fun k => !vis.contains k)).length

theorem unvisited_nil (vars : Vars) : unvisited vars [] = vars.length := by
  rw [unvisited, List.filter_eq_self.mpr (by simp), List.length_map]

theorem unvisited_cons (vars : Vars) (vis : List Bytes) (a : Bytes) (ha : Defined vars a) (hv : a ∉ vis) :
    unvisited vars (a :: vis) + 1 ≤ unvisited vars vis := by
  have h : (fun k => !(a :: vis).contains k) = fun k => (!(k == a)) && !vis.contains k := by
    funext k; rw [List.contains_cons, Bool.not_or]
  rw [unvisited, h, ← List.filter_filter]
  exact List.length_filter_lt_length_iff_exists.mpr
    ⟨a, List.mem_filter.mpr ⟨defined_iff_mem_keys.mp ha, by simpa using hv⟩, by simp⟩

theorem unvisited_append (vars : Vars) {name : Bytes} (vis rest fresh : List Bytes) (hn : fresh.Nodup)
    (hf : ∀ x ∈ fresh, x ∈ varSuccs vars name ∧ x ∉ vis) :
    unvisited vars (fresh ++ vis) + (fresh ++ rest).length ≤ unvisited vars vis + rest.length := by
  induction fresh with
  | nil => exact Nat.le_refl _
  | cons a f ih =>
    have ⟨ha, hn'⟩ := List.nodup_cons.mp hn
    have ih' := ih hn' fun x hx => hf x (List.mem_cons_of_mem _ hx)
    have ⟨hd, hv⟩ := hf a List.mem_cons_self
    have := unvisited_cons vars (f ++ vis) a (Edge.defined_right hd) (by simp [ha, hv])
    rw [List.cons_append, List.cons_append, List.length_cons]
    omega

/-! ## 3. the work-list search of the cycle check -/

/-- A run of the work-list search for `t`, from the work list `pending` with `visited` already
queued, to its verdict. New references are queued in any order, so that both `reachesVar` and the
loop-by-loop `checkLoop` perform such a run. -/
inductive Search (vars : Vars) (t : Bytes) : List Bytes → List Bytes → Bool → Prop
  | done {visited} : Search vars t [] visited false
  | hit {name pending visited} : t ∈ varSuccs vars name → Search vars t (name :: pending) visited true
  | next {name pending visited new b} : t ∉ varSuccs vars name →
      (∀ x, x ∈ new ↔ x ∈ varSuccs vars name ∧ x ∉ visited) →
      Search vars t (new ++ pending) (new ++ visited) b → Search vars t (name :: pending) visited b

namespace Search

theorem reaches {t : Bytes} {pending visited : List Bytes}
    (h : Search vars t pending visited true) : ∃ p ∈ pending, Reaches vars p t := by
  generalize hb : true = b at h
  induction h with
  | done => cases hb
  | hit ht => exact ⟨_, List.mem_cons_self, .one ht⟩
  | @next name _ _ _ _ _ hnew _ ih =>
    obtain ⟨p, hp, hr⟩ := ih hb
    rcases List.mem_append.mp hp with hf | hp'
    · exact ⟨name, List.mem_cons_self, .step ((hnew p).mp hf).1 hr⟩
    · exact ⟨p, List.mem_cons_of_mem _ hp', hr⟩

/-- `done` is the names handled so far; at the end they are closed under references, so none of
them reaches the target -/
theorem no_reach {t : Bytes} {pending visited : List Bytes}
    (h : Search vars t pending visited false) (done : List Bytes)
    (hD : ∀ q ∈ done, ∀ m ∈ varSuccs vars q, m ≠ t ∧ (m ∈ done ∨ m ∈ pending))
    (hV : ∀ m ∈ visited, m ∈ done ∨ m ∈ pending) :
    ∀ p, p ∈ done ∨ p ∈ pending → ¬ Reaches vars p t := by
  generalize hb : false = b at h
  induction h generalizing done with
  | done =>
    exact fun p hp => closed_no_reach done
      (fun q hq m hm => ⟨(hD q hq m hm).1, (hD q hq m hm).2.resolve_right List.not_mem_nil⟩)
      (hp.resolve_right List.not_mem_nil)
  | hit => cases hb
  | @next name pending visited new _ ht hnew _ ih =>
    have shift : ∀ {m}, m ∈ done ∨ m ∈ name :: pending → m ∈ name :: done ∨ m ∈ new ++ pending := by
      simp only [List.mem_cons, List.mem_append]
      rintro m (h | rfl | h)
      · exact .inl (.inr h)
      · exact .inl (.inl rfl)
      · exact .inr (.inr h)
    refine fun p hp => ih (name :: done) ?_ ?_ hb p (shift hp)
    · intro q hq m hm
      rcases List.mem_cons.mp hq with rfl | hq
      · refine ⟨fun e => ht (e ▸ hm), ?_⟩
        by_cases hv : m ∈ visited
        · exact shift (hV m hv)
        · exact .inr (List.mem_append_left _ ((hnew m).mpr ⟨hm, hv⟩))
      · exact ⟨(hD q hq m hm).1, shift (hD q hq m hm).2⟩
    · intro m hm
      rcases List.mem_append.mp hm with h | h
      · exact .inr (List.mem_append_left _ h)
      · exact shift (hV m h)

theorem iff_reaches {s t : Bytes} {b : Bool} (h : Search vars t [s] [] b) :
    b = true ↔ Reaches vars s t := by
  cases b with
  | true =>
    obtain ⟨p, hp, hr⟩ := h.reaches
    cases List.mem_singleton.mp hp
    exact iff_of_true rfl hr
  | false => exact iff_of_false Bool.false_ne_true (h.no_reach [] nofun nofun s (.inr List.mem_cons_self))

end Search

/-- the references of `name` that are queued when `name` is taken off the work list -/
def freshOf (vars : Vars) (name : Bytes) (visited : List Bytes) : List Bytes :=
  ((varSuccs vars name).filter (fun n => !visited.contains n)).eraseDups

theorem reachesVar_succ (vars : Vars) (t : Bytes) (fuel : Nat) (name : Bytes) (pending visited : List Bytes) :
    reachesVar vars t (fuel + 1) (name :: pending) visited =
      if t ∈ varSuccs vars name then true
      else reachesVar vars t fuel (freshOf vars name visited ++ pending) (freshOf vars name visited ++ visited) := by
  unfold freshOf varSuccs
  rw [reachesVar]
  cases vars.lookup name with
  | none => rfl
  | some v => simp only [List.contains_iff_mem]

theorem mem_freshOf {name : Bytes} {visited : List Bytes} {x : Bytes} :
    x ∈ freshOf vars name visited ↔ x ∈ varSuccs vars name ∧ x ∉ visited := by
  simp [freshOf, List.mem_eraseDups, List.mem_filter]

theorem reachesVar_search (vars : Vars) (t : Bytes) (fuel : Nat) (pending visited : List Bytes)
    (hf : unvisited vars visited + pending.length ≤ fuel) :
    Search vars t pending visited (reachesVar vars t fuel pending visited) := by
  induction fuel generalizing pending visited with
  | zero =>
    cases pending with
    | nil => exact .done
    | cons => cases hf
  | succ fuel ih =>
    cases pending with
    | nil => exact .done
    | cons name pending =>
      rw [reachesVar_succ]
      by_cases ht : t ∈ varSuccs vars name
      · rw [if_pos ht]; exact .hit ht
      · rw [if_neg ht]
        exact .next ht (fun _ => mem_freshOf) (ih _ _ (Nat.le_trans
          (unvisited_append vars visited pending _ (nodup_eraseDups _) fun _ => mem_freshOf.mp)
          (Nat.le_of_succ_le_succ hf)))


theorem reachesVar_iff (vars : Vars) (name : Bytes) :
    reachesSelf vars name = true ↔ Reaches vars name name :=
  (reachesVar_search vars name _ _ _ (Nat.le_of_eq (congrArg (· + 1) (unvisited_nil vars)))).iff_reaches

/-! ## 4. the check loop by loop (`walkValue`, `checkLoop`) performs the same search -/

/-- what the inner loop of the check does with the references `refs` of the values it walks -/
def WalkSpec (vars : Vars) (t : Bytes) (refs : List Bytes) (st : ChkSt) (out : Option ChkSt) : Prop :=
  (out = none ∧ t ∈ refs ∧ Defined vars t) ∨
  (∃ new, out = some ⟨new ++ st.pending, new ++ st.visited⟩ ∧ new.Nodup ∧
    (∀ x, x ∈ new ↔ (x ∈ refs ∧ Defined vars x ∧ x ∉ st.visited)) ∧ ¬ (t ∈ refs ∧ Defined vars t))

namespace WalkSpec

theorem nil (vars : Vars) (t : Bytes) (st : ChkSt) : WalkSpec vars t [] st (some st) :=
  .inr ⟨[], by simp⟩

theorem atom (vars : Vars) (t n : Bytes) (st : ChkSt) :
    WalkSpec vars t [n] st
      (if (vars.lookup n).isSome then
        if n = t then none
        else if st.visited.contains n then some st
        else some ⟨n :: st.pending, n :: st.visited⟩
      else some st) := by
  have single {x : Bytes} (hx : x ∈ [n]) : x = n := List.mem_singleton.mp hx
  by_cases hd : (vars.lookup n).isSome = true
  · rw [if_pos hd]
    by_cases hn : n = t
    · rw [if_pos hn]; exact .inl ⟨rfl, hn ▸ List.mem_singleton_self n, hn ▸ hd⟩
    · rw [if_neg hn]
      have hnt : ¬ (t ∈ [n] ∧ Defined vars t) := fun h => hn (single h.1).symm
      by_cases hv : n ∈ st.visited
      · rw [if_pos (List.contains_iff_mem.mpr hv)]
        exact .inr ⟨[], rfl, .nil, fun x => ⟨nofun, fun h => absurd (single h.1 ▸ hv) h.2.2⟩, hnt⟩
      · rw [if_neg (mt List.contains_iff_mem.mp hv)]
        exact .inr ⟨[n], rfl, List.pairwise_singleton _ n,
          fun x => ⟨fun h => ⟨h, single h ▸ ⟨hd, hv⟩⟩, fun h => h.1⟩, hnt⟩
  · rw [if_neg hd]
    exact .inr ⟨[], rfl, .nil, fun x => ⟨nofun, fun h => absurd (single h.1 ▸ h.2.1) hd⟩,
      fun h => hd (single h.1 ▸ h.2)⟩

theorem append {t : Bytes} {x r : List Bytes} {st : ChkSt} {o : Option ChkSt}
    {w : ChkSt → Option ChkSt} (hr : WalkSpec vars t r st o) (hx : ∀ st', WalkSpec vars t x st' (w st')) :
    WalkSpec vars t (x ++ r) st (o.bind w) := by
  rcases hr with ⟨rfl, h1, h2⟩ | ⟨nr, rfl, hnd, hmem, hnt⟩
  · exact .inl ⟨rfl, List.mem_append_right _ h1, h2⟩
  · rcases hx ⟨nr ++ st.pending, nr ++ st.visited⟩ with ⟨g0, g1, g2⟩ | ⟨nx, g0, gnd, gmem, gnt⟩
    · exact .inl ⟨g0, List.mem_append_left _ g1, g2⟩
    · refine .inr ⟨nx ++ nr, by simp [g0, List.append_assoc], ?_, ?_, ?_⟩
      · exact List.nodup_append.mpr ⟨gnd, hnd, fun a ha b hb hab =>
          ((gmem a).mp ha).2.2 (List.mem_append_left _ (hab ▸ hb))⟩
      · intro y
        simp only [List.mem_append, gmem, hmem]
        constructor
        · rintro (⟨h1, h2, h3⟩ | ⟨h1, h2, h3⟩)
          · exact ⟨.inl h1, h2, fun h => h3 (.inr h)⟩
          · exact ⟨.inr h1, h2, h3⟩
        · rintro ⟨h1 | h1, h2, h3⟩
          · by_cases hy : y ∈ r
            · exact .inr ⟨hy, h2, h3⟩
            · exact .inl ⟨h1, h2, fun h => h.elim (fun h => hy h.1) h3⟩
          · exact .inr ⟨h1, h2, h3⟩
      · rintro ⟨h1, h2⟩
        exact (List.mem_append.mp h1).elim (fun h => gnt ⟨h, h2⟩) (fun h => hnt ⟨h, h2⟩)

end WalkSpec

theorem walk_spec (vars : Vars) (t : Bytes) :
    (∀ (e : SExpr) (st : ChkSt), WalkSpec vars t e.refs st (walkValue vars t e st)) ∧
    (∀ (xs : List SExpr) (st : ChkSt), WalkSpec vars t (SExpr.refsList xs) st (walkValuesRev vars t xs st)) := by
  refine SExpr.induction ?_ ?_ ?_ ?_
  · intro a sp st
    unfold walkValue SExpr.refs
    cases stripDollar a with
    | none => exact .nil vars t st
    | some n => exact .atom vars t n st
  · intro xs sp ih st
    unfold walkValue SExpr.refs
    exact ih st
  · intro st
    unfold walkValuesRev SExpr.refsList
    exact .nil vars t st
  · intro x r ihx ihr st
    have : walkValuesRev vars t (x :: r) st = (walkValuesRev vars t r st).bind (walkValue vars t x) := by
      rw [walkValuesRev]; cases walkValuesRev vars t r st <;> rfl
    rw [this, SExpr.refsList]
    exact (ihr st).append (ihx · )

theorem walkValue_spec (vars : Vars) (t : Bytes) : ∀ (e : SExpr) (st : ChkSt),
    WalkSpec vars t e.refs st (walkValue vars t e st) := (walk_spec vars t).1

theorem walkValuesRev_spec (vars : Vars) (t : Bytes) : ∀ (xs : List SExpr) (st : ChkSt),
    WalkSpec vars t (SExpr.refsList xs) st (walkValuesRev vars t xs st) := (walk_spec vars t).2

theorem checkLoop_nil (vars : Vars) (t : Bytes) (fuel : Nat) (visited : List Bytes) :
    checkLoop vars t fuel [] visited = .pass := by
  cases fuel <;> rfl

theorem checkLoop_succ (vars : Vars) (t : Bytes) (fuel : Nat) (name : Bytes) (pending visited : List Bytes)
    (v : SExpr) (hv : vars.lookup name = some v) :
    checkLoop vars t (fuel + 1) (name :: pending) visited =
      match walkValue vars t v ⟨pending, visited⟩ with
      | none => .bail
      | some st => checkLoop vars t fuel st.pending st.visited := by
  rw [checkLoop]
  simp only [hv]
  cases walkValue vars t v ⟨pending, visited⟩ <;> rfl

/-- the `vars[name]` index cannot panic (`hP`), the fuel does not run out (`hf`) -/
theorem checkLoop_search (vars : Vars) (t : Bytes) (fuel : Nat) (pending visited : List Bytes)
    (hf : unvisited vars visited + pending.length ≤ fuel) (hP : ∀ p ∈ pending, Defined vars p) :
    ∃ b, Search vars t pending visited b ∧
      checkLoop vars t fuel pending visited = if b then .bail else .pass := by
  induction fuel generalizing pending visited with
  | zero =>
    cases pending with
    | nil => exact ⟨false, .done, rfl⟩
    | cons => cases hf
  | succ fuel ih =>
    cases pending with
    | nil => exact ⟨false, .done, rfl⟩
    | cons name pending =>
      obtain ⟨v, hv⟩ := (hP name List.mem_cons_self).lookup
      rw [checkLoop_succ vars t fuel name pending visited v hv]
      rcases walkValue_spec vars t v ⟨pending, visited⟩ with ⟨h0, h1, h2⟩ | ⟨new, h0, hnd, hmem, hnt⟩
      · rw [h0]
        exact ⟨true, .hit ((mem_varSuccs hv).mpr ⟨h1, h2⟩), rfl⟩
      · rw [h0]
        have hnew : ∀ x, x ∈ new ↔ x ∈ varSuccs vars name ∧ x ∉ visited := fun x => by
          rw [hmem, mem_varSuccs hv, and_assoc]
        obtain ⟨b, hs, hb⟩ := ih (new ++ pending) (new ++ visited)
          (Nat.le_trans (unvisited_append vars visited pending new hnd fun x => (hnew x).mp)
            (Nat.le_of_succ_le_succ hf))
          (fun p hp => (List.mem_append.mp hp).elim (fun h => Edge.defined_right ((hnew p).mp h).1)
            (fun h => hP p (List.mem_cons_of_mem _ h)))
        exact ⟨b, .next (fun h => hnt ((mem_varSuccs hv).mp h)) hnew hs, hb⟩

/-- the loop-by-loop check and the search used by the model of `parse_vars` give the same verdict -/
theorem selfRefCheck_eq_reachesVar (vars : Vars) (name : Bytes) (hn : Defined vars name) :
    selfRefCheck vars name =
      if reachesVar vars name (vars.length + 1) [name] [] then .bail else .pass := by
  obtain ⟨b, hs, hb⟩ := checkLoop_search vars name (vars.length + 1) [name] []
    (Nat.le_of_eq (congrArg (· + 1) (unvisited_nil vars))) fun p hp => List.mem_singleton.mp hp ▸ hn
  rw [selfRefCheck, hb, Bool.eq_iff_iff.mpr (hs.iff_reaches.trans (reachesVar_iff vars name).symm)]
  rfl

/-! ## 5. inserting a variable -/

theorem lookup_append_some {more : Vars} {n : Bytes} {x : SExpr} (h : vars.lookup n = some x) :
    (vars ++ more).lookup n = some x := by
  rw [List.lookup_append, h]; rfl

theorem lookup_snoc_ne (vars : Vars) {name n : Bytes} (v : SExpr) (h : n ≠ name) :
    (vars ++ [(name, v)]).lookup n = vars.lookup n := by
  have : List.lookup n [(name, v)] = none := by rw [List.lookup, beq_false_of_ne h]; rfl
  rw [List.lookup_append, this, Option.or_none]

theorem lookup_snoc_self {vars : Vars} {name : Bytes} (v : SExpr) (h : vars.lookup name = none) :
    (vars ++ [(name, v)]).lookup name = some v := by
  rw [List.lookup_append, h]; simp [List.lookup]

theorem Defined.append (more : Vars) {n : Bytes} (h : Defined vars n) : Defined (vars ++ more) n :=
  let ⟨_, hv⟩ := h.lookup
  .of_lookup (lookup_append_some hv)

namespace Edge

theorem append (more : Vars) {n m : Bytes} (h : Edge vars n m) : Edge (vars ++ more) n m :=
  let ⟨v, hv, hm, hd⟩ := edge_iff.mp h
  edge_iff.mpr ⟨v, lookup_append_some hv, hm, hd.append more⟩

theorem of_snoc {name : Bytes} {v : SExpr} {n m : Bytes}
    (h : Edge (vars ++ [(name, v)]) n m) (hn : n ≠ name) (hm : m ≠ name) : Edge vars n m := by
  obtain ⟨x, hx, hr, hd⟩ := edge_iff.mp h
  rw [lookup_snoc_ne vars v hn] at hx
  rw [Defined, lookup_snoc_ne vars v hm] at hd
  exact edge_iff.mpr ⟨x, hx, hr, hd⟩

end Edge

namespace Reaches

/-- references are never lost when the table grows -/
theorem append (more : Vars) {a b : Bytes} (h : Reaches vars a b) :
    Reaches (vars ++ more) a b := by
  induction h with
  | one e => exact .one (e.append more)
  | step e _ ih => exact .step (e.append more) ih

/-- a path in the table with the new variable `name` either existed before or passes through `name` -/
theorem split_snoc {name : Bytes} {v : SExpr} {a b : Bytes}
    (h : Reaches (vars ++ [(name, v)]) a b) :
    Reaches vars a b ∨ a = name ∨ b = name ∨
      (Reaches (vars ++ [(name, v)]) a name ∧ Reaches (vars ++ [(name, v)]) name b) := by
  induction h with
  | @one n m e =>
    by_cases hn : n = name
    · exact .inr (.inl hn)
    · by_cases hm : m = name
      · exact .inr (.inr (.inl hm))
      · exact .inl (.one (e.of_snoc hn hm))
  | @step n k m e hr ih =>
    by_cases hn : n = name
    · exact .inr (.inl hn)
    · by_cases hk : k = name
      · exact .inr (.inr (.inr ⟨.one (hk ▸ e), hk ▸ hr⟩))
      · rcases ih with h | h | h | ⟨h1, h2⟩
        · exact .inl (.step (e.of_snoc hn hk) h)
        · exact absurd h hk
        · exact .inr (.inr (.inl h))
        · exact .inr (.inr (.inr ⟨.step e h1, h2⟩))

end Reaches

/-- inserting `name` into an acyclic table can only close a cycle through `name` -/
theorem acyclic_snoc {name : Bytes} {v : SExpr} (hac : Acyclic vars)
    (hself : ¬ Reaches (vars ++ [(name, v)]) name name) : Acyclic (vars ++ [(name, v)]) := by
  intro a ha
  rcases ha.split_snoc with h | h | h | ⟨h1, h2⟩
  · exact hac a h
  · exact hself (h ▸ ha)
  · exact hself (h ▸ ha)
  · exact hself (h2.trans h1)

theorem acyclic_nil : Acyclic [] :=
  fun _ h => nomatch h.defined_left

/-- a sub-table of an acyclic table is acyclic -/
theorem Acyclic.of_append {more : Vars} (h : Acyclic (vars ++ more)) : Acyclic vars :=
  fun n hn => h n (hn.append more)

/-! ## 6. depth of the reference graph of an acyclic table -/

theorem chain_cons (hac : Acyclic vars) {seen : List Bytes} {n m : Bytes} (hnd : seen.Nodup)
    (hre : ∀ s ∈ seen, Reaches vars s n) (e : Edge vars n m) :
    (n :: seen).Nodup ∧ ∀ s ∈ n :: seen, Reaches vars s m :=
  ⟨List.nodup_cons.mpr ⟨fun hx => hac n (hre n hx), hnd⟩,
    fun s hs => (List.mem_cons.mp hs).elim (fun h => h ▸ .one e) fun h => (hre s h).snoc e⟩

/-- **induction along the references of an acyclic table, with a depth budget**: a chain of
references (`seen`, the variables passed on the way to `n`) never revisits a variable, so it is
shorter than the table. -/
theorem acyclic_fuel_induction (hac : Acyclic vars) (P : Nat → Bytes → Prop)
    (h : ∀ d n, Defined vars n → (∀ m, Edge vars n m → ∃ d', d = d' + 1 ∧ P d' m) → P d n) :
    ∀ (d : Nat) (seen : List Bytes) (n : Bytes), seen.Nodup → (∀ s ∈ seen, Reaches vars s n) →
      Defined vars n → vars.length ≤ d + seen.length + 1 → P d n := by
  intro d
  induction d with
  | zero =>
    intro seen n hnd hre hn hlen
    refine h 0 n hn fun m e => ?_
    have ⟨hnd', hre'⟩ := chain_cons hac hnd hre e
    -- `m :: n :: seen` is a duplicate-free list of keys longer than the table
    have hm : m ∉ n :: seen := fun hx => hac m (hre' m hx)
    have := nodup_keys_length vars (m :: n :: seen) (List.nodup_cons.mpr ⟨hm, hnd'⟩) fun x hx =>
      (List.mem_cons.mp hx).elim (fun h => h ▸ e.defined_right) fun h => (hre' x h).defined_left
    simp only [List.length_cons] at this
    omega
  | succ d ih =>
    intro seen n hnd hre hn hlen
    refine h (d + 1) n hn fun m e => ?_
    have ⟨hnd', hre'⟩ := chain_cons hac hnd hre e
    exact ⟨d, rfl, ih (n :: seen) m hnd' hre' e.defined_right (by rw [List.length_cons]; omega)⟩

theorem defined_length_pos {n : Bytes} (h : Defined vars n) : ∃ k, vars.length = k + 1 := by
  cases vars with
  | nil => exact nomatch h
  | cons _ tl => exact ⟨tl.length, rfl⟩

theorem hop_induction (hac : Acyclic vars) (Q : Nat → SExpr → Prop)
    (h : ∀ f e, (∀ m ∈ e.refs, ∀ v, vars.lookup m = some v → ∃ f', f = f' + 1 ∧ Q f' v) → Q f e)
    (e : SExpr) (f : Nat) (hf : vars.length ≤ f) : Q f e := by
  refine h f e fun m _ v hv => ?_
  have hm : Defined vars m := .of_lookup hv
  obtain ⟨k, hk⟩ := defined_length_pos hm
  rw [hk] at hf
  cases f with
  | zero => cases hf
  | succ f =>
    refine ⟨f, rfl, ?_⟩
    refine acyclic_fuel_induction hac (fun d n => ∀ v, vars.lookup n = some v → ∀ f, d ≤ f → Q f v)
      ?_ k [] m .nil nofun hm (Nat.le_of_eq hk) v hv f (Nat.le_of_succ_le_succ hf)
    intro d n _ ih v hv f hf
    refine h f v fun m hm v' hv' => ?_
    obtain ⟨d', rfl, hP⟩ := ih m (edge_iff.mpr ⟨v, hv, hm, .of_lookup hv'⟩)
    cases f with
    | zero => cases hf
    | succ f => exact ⟨f, rfl, hP v' hv' f (Nat.le_of_succ_le_succ hf)⟩

/-! ## 7. resolving a reference: `SExpr::atom(vars)`, `SExpr::list(vars)` -/

theorem chase_of_refs (vars : Vars) (f : Nat) (e : SExpr)
    (h : ∀ m ∈ e.refs, ∀ v, vars.lookup m = some v → ∃ f', f = f' + 1 ∧ ∃ r, chase vars f' v = .ok r) :
    ∃ r, chase vars f e = .ok r := by
  rcases chase_cases vars e with h0 | ⟨t, sp, n, v, rfl, hs, hl⟩
  · exact ⟨e, h0 f⟩
  · obtain ⟨f', rfl, hr⟩ := h n (by simp [SExpr.refs, hs]) v hl
    rwa [chase_ref vars hs hl]

theorem chase_total (hac : Acyclic vars) (e : SExpr) (f : Nat) (hf : vars.length ≤ f) :
    ∃ r, chase vars f e = .ok r :=
  hop_induction hac (fun f e => ∃ r, chase vars f e = .ok r) (chase_of_refs vars) e f hf

/-- every expression resolves against an acyclic table with recursion depth `vars.length` -/
theorem resolves_of_acyclic (hac : Acyclic vars) (e : SExpr) (f : Nat) (hf : vars.length ≤ f) :
    (∃ r, e.atomV f (some vars) = .ok r) ∧ (∃ r, e.listV f (some vars) = .ok r) :=
  let ⟨_, hr⟩ := chase_total hac e f hf
  resolves_of_chase hr

/-! ## 8. the complete expansion -/

theorem expandW_total_aux (hop : SExpr → Except Crash SExpr) (vars : Vars) :
    (∀ e : SExpr, (∀ m ∈ e.refs, ∀ v, vars.lookup m = some v → ∃ r, hop v = .ok r) →
      ∃ r, e.expandW hop vars = .ok r) ∧
    (∀ xs : List SExpr, (∀ m ∈ SExpr.refsList xs, ∀ v, vars.lookup m = some v → ∃ r, hop v = .ok r) →
      ∃ r, SExpr.expandWL hop vars xs = .ok r) := by
  refine SExpr.induction ?_ ?_ ?_ ?_
  · intro t sp h
    unfold SExpr.expandW
    cases hs : stripDollar t with
    | none => exact ⟨_, rfl⟩
    | some m =>
      cases hl : vars.lookup m with
      | none => exact ⟨.atom t sp, by simp only [hl]⟩
      | some v => simpa only [hl] using h m (by simp [SExpr.refs, hs]) v hl
  · intro xs sp ih h
    obtain ⟨ys, hy⟩ := ih (by rwa [SExpr.refs] at h)
    exact ⟨.list ys sp, by rw [SExpr.expandW, hy]⟩
  · exact fun _ => ⟨[], rfl⟩
  · intro x r ihx ihr h
    rw [SExpr.refsList] at h
    obtain ⟨a, ha⟩ := ihx fun m hm => h m (List.mem_append_left _ hm)
    obtain ⟨b, hb⟩ := ihr fun m hm => h m (List.mem_append_right _ hm)
    exact ⟨a :: b, by rw [SExpr.expandWL, ha, hb]⟩

theorem expandW_total (hop : SExpr → Except Crash SExpr) (vars : Vars) :
    ∀ e : SExpr, (∀ m ∈ e.refs, ∀ v, vars.lookup m = some v → ∃ r, hop v = .ok r) →
      ∃ r, e.expandW hop vars = .ok r :=
  (expandW_total_aux hop vars).1

theorem expandWL_total (hop : SExpr → Except Crash SExpr) (vars : Vars) :
    ∀ xs : List SExpr, (∀ m ∈ SExpr.refsList xs, ∀ v, vars.lookup m = some v → ∃ r, hop v = .ok r) →
      ∃ r, SExpr.expandWL hop vars xs = .ok r :=
  (expandW_total_aux hop vars).2

/-- every expression expands completely against an acyclic table with a hop budget of `vars.length` -/
theorem expands_of_acyclic (hac : Acyclic vars) (e : SExpr) (f : Nat) (hf : vars.length ≤ f) :
    ∃ r, e.expand f vars = .ok r := by
  refine hop_induction hac (fun f e => ∃ r, e.expand f vars = .ok r) (fun f e h => ?_) e f hf
  cases f with
  | zero => exact expandW_total _ vars e fun m hm v hl => nomatch (h m hm v hl).choose_spec.1
  | succ f =>
    refine expandW_total _ vars e fun m hm v hl => ?_
    obtain ⟨f', hf', hr⟩ := h m hm v hl
    cases hf'
    exact hr

theorem expandW_no_refs_aux (hop : SExpr → Except Crash SExpr) (vars : Vars)
    (hh : ∀ v r, hop v = .ok r → ∀ m ∈ r.refs, ¬ Defined vars m) :
    (∀ (e r : SExpr), e.expandW hop vars = .ok r → ∀ m ∈ r.refs, ¬ Defined vars m) ∧
    (∀ (xs rs : List SExpr), SExpr.expandWL hop vars xs = .ok rs →
      ∀ m ∈ SExpr.refsList rs, ¬ Defined vars m) := by
  refine SExpr.induction ?_ ?_ ?_ ?_
  · intro t sp r h
    unfold SExpr.expandW at h
    cases hs : stripDollar t with
    | none =>
      simp only [hs] at h; cases h
      simp [SExpr.refs, hs]
    | some n =>
      cases hl : vars.lookup n with
      | none =>
        simp only [hs, hl] at h; cases h
        intro m hm
        cases List.mem_singleton.mp (by simpa [SExpr.refs, hs] using hm)
        simp [Defined, hl]
      | some v =>
        simp only [hs, hl] at h
        exact hh v r h
  · intro xs sp ih r h
    unfold SExpr.expandW at h
    cases hy : SExpr.expandWL hop vars xs with
    | error c => simp [hy] at h
    | ok ys =>
      simp only [hy] at h; cases h
      rw [SExpr.refs]
      exact ih ys hy
  · intro rs h
    cases h
    exact nofun
  · intro x r ihx ihr rs h
    unfold SExpr.expandWL at h
    cases ha : x.expandW hop vars with
    | error c => simp [ha] at h
    | ok a =>
      cases hb : SExpr.expandWL hop vars r with
      | error c => simp [ha, hb] at h
      | ok b =>
        simp only [ha, hb] at h; cases h
        intro m hm
        rw [SExpr.refsList] at hm
        exact (List.mem_append.mp hm).elim (ihx a ha m) (ihr b hb m)

/-- what `expand` returns mentions no defined variable any more -/
theorem expand_no_refs (vars : Vars) (f : Nat) : ∀ (e r : SExpr), e.expand f vars = .ok r →
    ∀ m ∈ r.refs, ¬ Defined vars m := by
  induction f with
  | zero =>
    exact fun e r h => (expandW_no_refs_aux (fun _ => .error .fuelOut) vars fun _ _ h => nomatch h).1 e r
      (by rwa [SExpr.expand] at h)
  | succ f ih => exact fun e r h => (expandW_no_refs_aux _ vars ih).1 e r (by rwa [SExpr.expand] at h)

/-! ## 9. `concat` inside `parse_vars`: `push_all_atoms` over an acyclic table returns -/


/-- from some recursion budget on, `push_all_atoms` over `xs` returns -/
def PushTotal (vars : Vars) (xs : List SExpr) : Prop :=
  ∃ F, ∀ f, F ≤ f → ∃ r, pushAllAtoms f vars xs = .ok r

/-- the list that `e` resolves to, if any, can be pushed -/
def ListPushTotal (vars : Vars) (e : SExpr) : Prop :=
  ∀ l, e.listV vars.length (some vars) = .ok (some l) → PushTotal vars l

theorem listPushTotal_atom {t : Bytes} {sp : Span}
    (h : ∀ m ∈ (SExpr.atom t sp).refs, ∀ v, vars.lookup m = some v → ListPushTotal vars v) :
    ListPushTotal vars (.atom t sp) := by
  intro l hl
  rw [(resolve_eq_chase vars _ _).2] at hl
  rcases chase_cases vars (.atom t sp) with h0 | ⟨t', sp', m, v, he, hs, hm⟩
  · rw [h0] at hl; cases hl
  · cases he
    obtain ⟨k, hk⟩ := defined_length_pos (.of_lookup hm)
    refine h m (by simp [SExpr.refs, hs]) v hm l ?_
    rw [hk, chase_ref vars hs hm] at hl
    rw [(resolve_eq_chase vars _ _).2, hk]
    cases hc : chase vars k v with
    | error c => rw [hc] at hl; cases hl
    | ok r => rw [chase_mono vars hc (Nat.le_succ k)]; rwa [hc] at hl

theorem elemAtoms_total_aux (hac : Acyclic vars) :
    (∀ e : SExpr, (∀ m ∈ e.refs, ∀ v, vars.lookup m = some v → ListPushTotal vars v) →
      ∃ F, ∀ f, F ≤ f → ∃ a, elemAtoms f vars e = .ok a) ∧
    (∀ xs : List SExpr, (∀ m ∈ SExpr.refsList xs, ∀ v, vars.lookup m = some v → ListPushTotal vars v) →
      PushTotal vars xs) := by
  refine SExpr.induction ?_ ?_ ?_ ?_
  · intro t sp h
    obtain ⟨r, hr⟩ := chase_total hac (.atom t sp) vars.length (Nat.le_refl _)
    cases r with
    | atom a _ =>
      exact ⟨vars.length, fun f hf => ⟨trimAtomQuotes a, by
        rw [elemAtoms_eq, chase_mono vars hr (Nat.le_succ_of_le hf)]⟩⟩
    | list l _ =>
      obtain ⟨F, hF⟩ := listPushTotal_atom h l (by rw [(resolve_eq_chase vars _ _).2, hr]; rfl)
      refine ⟨max vars.length F, fun f hf => ?_⟩
      rw [elemAtoms_eq, chase_mono vars hr (Nat.le_succ_of_le (Nat.le_trans (Nat.le_max_left ..) hf))]
      exact hF f (Nat.le_trans (Nat.le_max_right ..) hf)
  · intro xs sp ih h
    obtain ⟨F, hF⟩ := ih (by rwa [SExpr.refs] at h)
    exact ⟨F, fun f hf => by rw [elemAtoms_eq, chase]; exact hF f hf⟩
  · exact fun _ => ⟨0, fun f _ => ⟨[], pushAllAtoms_nil f vars⟩⟩
  · intro x r ihx ihr h
    rw [SExpr.refsList] at h
    obtain ⟨F1, h1⟩ := ihx fun m hm => h m (List.mem_append_left _ hm)
    obtain ⟨F2, h2⟩ := ihr fun m hm => h m (List.mem_append_right _ hm)
    refine ⟨max F1 F2 + 1, fun f hf => ?_⟩
    cases f with
    | zero => cases hf
    | succ f =>
      have hf := Nat.le_of_succ_le_succ hf
      obtain ⟨a, ha⟩ := h1 f (Nat.le_trans (Nat.le_max_left ..) hf)
      obtain ⟨b, hb⟩ := h2 f (Nat.le_trans (Nat.le_max_right ..) hf)
      exact ⟨a ++ b, by rw [pushAllAtoms_cons, ha, hb]; rfl⟩

theorem elemAtoms_total {vars : Vars} (hac : Acyclic vars) :
    ∀ e : SExpr, (∀ m ∈ e.refs, ∀ v, vars.lookup m = some v → ListPushTotal vars v) →
      ∃ F, ∀ f, F ≤ f → ∃ a, elemAtoms f vars e = .ok a :=
  (elemAtoms_total_aux hac).1

theorem pushAllAtoms_total (hac : Acyclic vars) :
    ∀ xs : List SExpr, (∀ m ∈ SExpr.refsList xs, ∀ v, vars.lookup m = some v → ListPushTotal vars v) →
      PushTotal vars xs :=
  (elemAtoms_total_aux hac).2

theorem listPushTotal_of_acyclic (hac : Acyclic vars) (e : SExpr) : ListPushTotal vars e := by
  refine hop_induction hac (fun _ e => ListPushTotal vars e) (fun f e h => ?_) e _ (Nat.le_refl _)
  have h' : ∀ m ∈ e.refs, ∀ v, vars.lookup m = some v → ListPushTotal vars v :=
    fun m hm v hv => (h m hm v hv).choose_spec.2
  cases e with
  | atom t sp => exact listPushTotal_atom h'
  | list xs sp =>
    intro l hl
    cases (by rwa [SExpr.listV] at hl : Except.ok (some xs) = Except.ok (some l))
    exact pushAllAtoms_total hac xs (by rwa [SExpr.refs] at h')

/-- `push_all_atoms` over any expressions returns when the table is acyclic -/
theorem pushAllAtoms_total_of_acyclic (hac : Acyclic vars) (xs : List SExpr) : PushTotal vars xs :=
  pushAllAtoms_total hac xs fun _ _ v _ => listPushTotal_of_acyclic hac v

/-! ## 10. accepted lists of definitions -/

/-- `out` is `vars` with definitions appended one at a time, each under a name not bound before and,
with the check on, not reaching itself in the table it joins -/
inductive Grows (chk : Bool) : Vars → Vars → Prop
  | refl (vars : Vars) : Grows chk vars vars
  | step {vars out : Vars} {name : Bytes} {v : SExpr} : vars.lookup name = none →
      (chk = true → reachesSelf (vars ++ [(name, v)]) name = false) →
      Grows chk (vars ++ [(name, v)]) out → Grows chk vars out

namespace Grows

theorem trans {chk : Bool} {a b c : Vars} (h1 : Grows chk a b) (h2 : Grows chk b c) : Grows chk a c := by
  induction h1 with
  | refl => exact h2
  | step hl hc _ ih => exact .step hl hc (ih h2)

theorem append {chk : Bool} {out : Vars} (h : Grows chk vars out) : ∃ more, out = vars ++ more := by
  induction h with
  | refl vars => exact ⟨[], (List.append_nil vars).symm⟩
  | step _ _ _ ih => exact let ⟨more, h⟩ := ih; ⟨_ :: more, h.trans (List.append_assoc ..)⟩

theorem acyclic {out : Vars} (h : Grows true vars out) (hac : Acyclic vars) : Acyclic out := by
  induction h with
  | refl => exact hac
  | step _ hc _ ih => exact ih (acyclic_snoc hac fun hr =>
      Bool.false_ne_true ((hc rfl).symm.trans ((reachesVar_iff _ _).mpr hr)))

end Grows

theorem defineVar_ok {fx : Fixes} {fuel : Nat} {name : Bytes} {sp : Span} {valE : SExpr} {mid : Vars}
    (h : defineVar fx fuel name sp valE vars = .ok (.ok mid)) :
    ∃ v, evalValue fuel vars valE = .ok v ∧ vars.lookup name = none ∧ mid = vars ++ [(name, v)] ∧
      (fx.varCycle = true →
        reachesSelf (vars ++ [(name, v)]) name = false) := by
  rw [defineVar] at h
  cases hv : evalValue fuel vars valE with
  | error c => rw [hv] at h; cases h
  | ok v => rw [hv] at h; exact ⟨v, rfl, insertVar_ok (Except.ok.inj h)⟩

theorem defineVar_grows {fx : Fixes} {fuel : Nat} {name : Bytes} {sp : Span} {valE : SExpr} {mid : Vars}
    (h : defineVar fx fuel name sp valE vars = .ok (.ok mid)) : Grows fx.varCycle vars mid :=
  let ⟨_, _, hl, hm, hc⟩ := defineVar_ok h
  hm ▸ .step hl hc (.refl _)

/-! ## 11. one definition: agreement of the revisions, the budget -/

theorem defineVar_agree {fx fx' : Fixes} {fuel : Nat} {name : Bytes} {sp : Span} {valE : SExpr} {mid : Vars}
    (h : defineVar fx fuel name sp valE vars = .ok (.ok mid)) (hac : fx'.varCycle = true → Acyclic mid) :
    defineVar fx' fuel name sp valE vars = .ok (.ok mid) := by
  obtain ⟨v, hv, hl, rfl, _⟩ := defineVar_ok h
  rw [defineVar, hv]
  refine congrArg Except.ok (insertVar_of sp hl ?_)
  cases hx : fx'.varCycle with
  | false => rfl
  | true => exact Bool.eq_false_iff.mpr fun hr => hac hx name ((reachesVar_iff _ _).mp hr)

/-- `parse_list_var` needs its budget only for a `concat` -/
theorem evalValue_cases (vars : Vars) (e : SExpr) :
    (∃ r, ∀ f, evalValue f vars e = .ok r) ∨
      ∃ rest sp, ∀ f, evalValue f vars e = (pushAllAtoms f vars rest).map (.atom · sp) := by
  match e with
  | .atom t sp | .list [] sp | .list (.list _ _ :: _) sp => exact .inl ⟨_, fun _ => rfl⟩
  | .list (.atom t s :: rest) sp =>
    by_cases hk : t = kw "concat"
    · exact .inr ⟨rest, sp, fun f => by rw [evalValue, parseListVar_atom, if_pos hk]⟩
    · exact .inl ⟨_, fun f => by rw [evalValue, parseListVar_atom, if_neg hk]⟩

theorem evalValue_mono (vars : Vars) {f : Nat} {e r : SExpr} (h : evalValue f vars e = .ok r) {f' : Nat}
    (hf : f ≤ f') : evalValue f' vars e = .ok r := by
  rcases evalValue_cases vars e with ⟨r0, h0⟩ | ⟨rest, sp, h0⟩
  · rwa [h0] at h ⊢
  · rw [h0] at h ⊢
    cases hp : pushAllAtoms f vars rest with
    | error c => rw [hp] at h; cases h
    | ok b => rw [pushAllAtoms_mono vars hp hf]; rwa [hp] at h

theorem evalValue_total (hac : Acyclic vars) (e : SExpr) :
    ∃ F, ∀ f, F ≤ f → ∃ r, evalValue f vars e = .ok r := by
  rcases evalValue_cases vars e with ⟨r0, h0⟩ | ⟨rest, sp, h0⟩
  · exact ⟨0, fun f _ => ⟨r0, h0 f⟩⟩
  · obtain ⟨F, hF⟩ := pushAllAtoms_total_of_acyclic hac rest
    exact ⟨F, fun f hf => let ⟨b, hb⟩ := hF f hf; ⟨.atom b sp, by rw [h0, hb]; rfl⟩⟩

theorem defineVar_mono (fx : Fixes) {f f' : Nat} (hf : f ≤ f') (name : Bytes) (sp : Span) (valE : SExpr) (vars : Vars)
    (r : Except Diag Vars) (h : defineVar fx f name sp valE vars = .ok r) :
    defineVar fx f' name sp valE vars = .ok r := by
  rw [defineVar] at h ⊢
  cases hv : evalValue f vars valE with
  | error c => rw [hv] at h; cases h
  | ok v => rw [evalValue_mono vars hv hf]; rwa [hv] at h

theorem andThen_mono {a a' : Except Crash (Except Diag Vars)} {k k' : Vars → Except Crash (Except Diag Vars)}
    (ha : ∀ r, a = .ok r → a' = .ok r) (hk : ∀ v r, k v = .ok r → k' v = .ok r) {r : Except Diag Vars}
    (h : andThen a k = .ok r) : andThen a' k' = .ok r := by
  cases a with
  | error c => cases h
  | ok x =>
    rw [ha x rfl]
    cases x with
    | error d => exact h
    | ok v => exact hk v r h

theorem andThen_returns {a : Nat → Except Crash (Except Diag Vars)} {k : Nat → Vars → Except Crash (Except Diag Vars)}
    (hm : ∀ f f', f ≤ f' → ∀ r, a f = .ok r → a f' = .ok r) (ha : ∃ F, ∀ f, F ≤ f → ∃ r, a f = .ok r)
    (hk : ∀ f v, a f = .ok (.ok v) → ∃ F, ∀ f, F ≤ f → ∃ r, k f v = .ok r) :
    ∃ F, ∀ f, F ≤ f → ∃ r, andThen (a f) (k f) = .ok r := by
  obtain ⟨F1, h1⟩ := ha
  obtain ⟨r1, hr1⟩ := h1 F1 (Nat.le_refl _)
  cases r1 with
  | error d => exact ⟨F1, fun f hf => ⟨.error d, by rw [hm F1 f hf _ hr1]; rfl⟩⟩
  | ok v =>
    obtain ⟨F2, h2⟩ := hk F1 v hr1
    refine ⟨max F1 F2, fun f hf => ?_⟩
    rw [hm F1 f (Nat.le_trans (Nat.le_max_left ..) hf) _ hr1]
    exact h2 f (Nat.le_trans (Nat.le_max_right ..) hf)

theorem defineVar_total (fx : Fixes) (name : Bytes) (sp : Span) (valE : SExpr) (hac : Acyclic vars) :
    ∃ F, ∀ f, F ≤ f → ∃ r, defineVar fx f name sp valE vars = .ok r :=
  let ⟨F, hF⟩ := evalValue_total hac valE
  ⟨F, fun f hf => let ⟨v, hv⟩ := hF f hf; ⟨_, by rw [defineVar, hv]; rfl⟩⟩

/-! ## 12. the loops of `parse_vars` -/

/-- What every level of `parse_vars` — one definition, the pair loop of a `defvar` item, the loop
over the items — guarantees, as a function of the revision, the budget and the table it starts
from.  The four facts depend on each other across a sequence (agreement needs the growth of what
follows, totality the growth and the monotonicity of what went before), so they are carried
together: `andThen` keeps them, and each loop is one induction. -/
structure Stage (a : Fixes → Nat → Vars → Except Crash (Except Diag Vars)) : Prop where
  grows : ∀ {fx f vars out}, a fx f vars = .ok (.ok out) → Grows fx.varCycle vars out
  /-- the revisions differ only in refusing cyclic tables -/
  agree : ∀ {fx f vars out} (fx' : Fixes), a fx f vars = .ok (.ok out) → (fx'.varCycle = true → Acyclic out) →
    a fx' f vars = .ok (.ok out)
  mono : ∀ {fx f f' vars r}, f ≤ f' → a fx f vars = .ok r → a fx f' vars = .ok r
  total : ∀ {fx vars}, fx.varCycle = true → Acyclic vars → ∃ F, ∀ f, F ≤ f → ∃ r, a fx f vars = .ok r

namespace Stage

/-- a stage that ends a loop: the table as it is, or a diagnostic, whatever the revision and budget -/
theorem const {a : Fixes → Nat → Vars → Except Crash (Except Diag Vars)}
    (h : ∀ vars, ∃ r : Except Diag Vars, (∀ out, r = .ok out → out = vars) ∧ ∀ fx f, a fx f vars = .ok r) :
    Stage a where
  grows {fx f vars out} ha := by
    obtain ⟨r, hr, h0⟩ := h vars
    cases hr out (Except.ok.inj ((h0 fx f).symm.trans ha))
    exact .refl _
  agree {fx f vars out} fx' ha _ := by
    obtain ⟨r, _, h0⟩ := h vars
    rwa [h0] at ha ⊢
  mono {fx f f' vars r} _ ha := by
    obtain ⟨r0, _, h0⟩ := h vars
    rwa [h0] at ha ⊢
  total {fx vars} _ _ :=
    let ⟨r, _, h0⟩ := h vars
    ⟨0, fun f _ => ⟨r, h0 fx f⟩⟩

theorem defineVar (name : Bytes) (sp : Span) (valE : SExpr) :
    Stage fun fx f vars => defineVar fx f name sp valE vars where
  grows := defineVar_grows
  agree _ h hac := defineVar_agree h hac
  mono hf h := defineVar_mono _ hf name sp valE _ _ h
  total _ hac := defineVar_total _ name sp valE hac

theorem andThen {a k : Fixes → Nat → Vars → Except Crash (Except Diag Vars)} (ha : Stage a) (hk : Stage k) :
    Stage fun fx f vars => andThen (a fx f vars) (k fx f) where
  grows h :=
    let ⟨_, h1, h2⟩ := andThen_ok h
    (ha.grows h1).trans (hk.grows h2)
  agree {fx f vars out} fx' h hac := by
    obtain ⟨mid, h1, h2⟩ := andThen_ok h
    -- a variable that reached itself after `a` would still do so in `out`, which extends that table
    obtain ⟨more, rfl⟩ := (hk.grows h2).append
    show SExpr.andThen (a fx' f vars) (k fx' f) = _
    rw [ha.agree fx' h1 fun hx => (hac hx).of_append]
    exact hk.agree fx' h2 hac
  mono hf h := andThen_mono (fun _ => ha.mono hf) (fun _ _ => hk.mono hf) h
  total hfx hac := andThen_returns (fun _ _ hf _ => ha.mono hf) (ha.total hfx hac)
    fun _ _ h => hk.total hfx ((hfx ▸ ha.grows h).acyclic hac)

end Stage

theorem parseVarsPairs_stage : ∀ xs, Stage fun fx f vars => parseVarsPairs fx f xs vars := by
  refine pairs_induction (fun xs hx => .const (parseVarsPairs_stop hx)) fun name sp valE rest ih => ?_
  simp only [parseVarsPairs_pair]
  exact (Stage.defineVar name sp valE).andThen ih

/-- `parse_vars` over any list of `defvar` items, from any table: the tables it accepts, agreement of
the two revisions on them, independence of the budget, and that it returns -/
theorem parseVars_stage (items : List (List SExpr)) : Stage fun fx f vars => parseVars fx f items vars := by
  induction items with
  | nil => exact .const fun vars => ⟨.ok vars, fun _ h => (Except.ok.inj h).symm, fun fx f => parseVars_nil fx f vars⟩
  | cons item items ih =>
    cases hc : checkFirstExpr "defvar" item with
    | error d => exact .const fun vars => ⟨.error d, nofun, fun fx f => parseVars_cons_error fx f items vars hc⟩
    | ok sub =>
      simp only [parseVars_cons_ok _ _ items _ hc]
      exact (parseVarsPairs_stage sub).andThen ih

end KVerif.SExpr
