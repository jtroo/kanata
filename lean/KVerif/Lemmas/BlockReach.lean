/-
C07 helper lemmas: the extra hypotheses of `block_silent` (`MayBlock`: OS key state equal to the wanted
list, no sequence-driven state, no override erasing keys, empty `cur_keys`) HOLD in every state the
kanata-level machine reaches, for configurations without custom actions and overrides whose layout
keeps a layout-level invariant (`LayoutInv`).  With the kanata-level components at rest (`KRest`)
`tick_states` and `handle_input_event` are given in closed form (`tickStates_rest_ok`,
`handleInput_press_eq`, ...); the invariant `KInv` and its step lemmas are generic in the layout
invariant; it is instantiated for the layered fragment of C04 (any history, including overflow of the
32-entry input queue; `Layout::tick` and `Layout::event` in closed form there), the one-shot fragment
of C06 and the tap-hold fragment of C05/C01 (events arrive while fewer than 32 are pending).
-/
import KVerif.Props.C07
import KVerif.Lemmas.KanataDynQuiet
import KVerif.Lemmas.OneShotStep
import KVerif.Lemmas.QuiesceTapHold
namespace KVerif.C07
open KVerif.L KVerif.K

/-! ## the kanata-level machine: steps, histories, reachable states -/

/-- what a run of the processing loop consists of: an input event handled, one `tick_states`, one
evaluation of the blocking decision (which updates `ticks_since_idle`) -/
inductive Step
  | input (i : Input)
  | tick
  | decide (msElapsed : Nat)
  deriving Repr

/-- the side condition `g` on the layout (e.g. "fewer than 32 events pending") holds whenever
`Layout::event` is called while handling input `i` -/
def inputOK (g : Layout → Bool) (k : KState) : Input → Bool
  | .press _ => g k.layout
  | .release _ => g k.layout
  | .rep _ => true
  | .tap code => g k.layout && (match k.layout.event (.press (0, code)) with
    | .ok l1 => g l1
    | .error _ => true)

/-- states reachable from `k0` by `handle_input_event`, `tick_states` and
`can_block_update_idle_waiting`, in any order and number; an input is only delivered when the side
condition `g` holds (`fun _ => true`: no side condition) -/
inductive Reach (g : Layout → Bool) (k0 : KState) : KState → Prop
  | init : Reach g k0 k0
  | input {k k' : KState} (i : Input) : Reach g k0 k → inputOK g k i = true →
      handleInputEvent k i = .ok k' → Reach g k0 k'
  | tick {k k' : KState} : Reach g k0 k → tickStates k = .ok k' → Reach g k0 k'
  | decide {k : KState} (ms : Nat) : Reach g k0 k → Reach g k0 (canBlockUpdateIdleWaiting k ms).1

/-- one step of a history; `none`: a crash, or the side condition violated -/
def stepK (g : Layout → Bool) (k : KState) : Step → Option KState
  | .input i =>
    if inputOK g k i then
      match handleInputEvent k i with
      | .ok k' => some k'
      | .error _ => none
    else none
  | .tick =>
    match tickStates k with
    | .ok k' => some k'
    | .error _ => none
  | .decide ms => some (canBlockUpdateIdleWaiting k ms).1

/-- a history run from `k` -/
def runSteps (g : Layout → Bool) : KState → List Step → Option KState
  | k, [] => some k
  | k, s :: rest =>
    match stepK g k s with
    | some k' => runSteps g k' rest
    | none => none

theorem reach_step (g : Layout → Bool) (k0 k k' : KState) (s : Step) (hr : Reach g k0 k)
    (h : stepK g k s = some k') : Reach g k0 k' := by
  cases s with
  | input i =>
    simp only [stepK] at h
    split at h
    · rename_i hok
      split at h
      · rename_i k1 he; injection h with h; subst h; exact .input i hr hok he
      · cases h
    · cases h
  | tick =>
    simp only [stepK] at h
    split at h
    · rename_i k1 he; injection h with h; subst h; exact .tick hr he
    · cases h
  | decide ms =>
    simp only [stepK] at h
    injection h with h; subst h; exact .decide ms hr

theorem reach_of_run (g : Layout → Bool) (k0 : KState) : ∀ (steps : List Step) (k k' : KState),
    Reach g k0 k → runSteps g k steps = some k' → Reach g k0 k' := by
  intro steps
  induction steps with
  | nil => intro k k' hr h; unfold runSteps at h; injection h with h; subst h; exact hr
  | cons s rest ih =>
    intro k k' hr h
    unfold runSteps at h
    split at h
    · rename_i k1 he; exact ih k1 k' (reach_step g k0 k k1 s hr he) h
    · cases h

/-- a Boolean test on the outcome of a run (for concrete examples) -/
def endsWith (r : Option KState) (p : KState → Bool) : Bool :=
  match r with
  | some k => p k
  | none => false

theorem exists_of_endsWith {r : Option KState} {p : KState → Bool} (h : endsWith r p = true) :
    ∃ k, r = some k ∧ p k = true := by
  cases r with
  | none => cases h
  | some k => exact ⟨k, rfl, h⟩

theorem reach_of_endsWith {g : Layout → Bool} {k0 : KState} {steps : List Step} {p : KState → Bool}
    (h : endsWith (runSteps g k0 steps) p = true) : ∃ k, Reach g k0 k ∧ p k = true := by
  obtain ⟨k, hk, hp⟩ := exists_of_endsWith h
  exact ⟨k, reach_of_run g k0 steps k0 k .init hk, hp⟩

def okWith (r : Except K.Crash KState) (p : KState → Bool) : Bool :=
  match r with
  | .ok k => p k
  | .error _ => false

theorem exists_of_okWith {r : Except K.Crash KState} {p : KState → Bool} (h : okWith r p = true) :
    ∃ k, r = .ok k ∧ p k = true := by
  cases r with
  | error c => cases h
  | ok k => exact ⟨k, rfl, h⟩

/-! ## the kanata-level components at rest -/

/-- the kanata-level components no configuration without custom actions and overrides ever moves:
no custom action table, no overrides, nothing left over from an override pass, `cur_keys` empty
(between ticks), no unmod / unshift keys, no caps-word, no scrolling or mouse movement, no on-idle
action pending, no timed virtual key, no cancel-on-press window, sequence mode off and no
`sequence-always-on` (without a custom action nothing can turn it on) -/
structure KRest (k : KState) : Prop where
  customs : k.customs = []
  noOvr : k.overrides.isEmpty = true
  ovrClean : k.overrideStates.toRemove = []
  cur : k.curKeys = []
  unmod : k.unmoddedKeys = []
  unshift : k.unshiftedKeys = []
  caps : k.capsWord = none
  scroll : k.scroll = none
  hscroll : k.hscroll = none
  moveV : k.moveV = none
  moveH : k.moveH = none
  wfi : k.waitingForIdle = []
  vk : k.vkeysPendingRelease = []
  mcd : k.macroOnPressCancelDuration = 0
  seqOff : k.seq.off = true      -- [seq] sequence mode off, `sequence-always-on` not configured
  noRec : k.dyn.rcd = none       -- [dyn] no dynamic macro is being recorded

/-- the fields of `KRest` other than `cur_keys` and the macro-cancel window: no step of a state at rest
writes them -/
def restFields (k : KState) :=
  (k.customs, k.overrides.isEmpty, k.overrideStates.toRemove, k.unmoddedKeys, k.unshiftedKeys, k.capsWord,
    k.scroll, k.hscroll, k.moveV, k.moveH, k.waitingForIdle, k.vkeysPendingRelease, k.seq.off, k.dyn.rcd)

theorem KRest.of_eq {k k' : KState} (h : KRest k) (e : restFields k' = restFields k)
    (hc : k'.curKeys = []) (hm : k'.macroOnPressCancelDuration = 0) : KRest k' := by
  simp only [restFields, Prod.mk.injEq] at e
  obtain ⟨e1, e2, e3, e4, e5, e6, e7, e8, e9, e10, e11, e12, e13, e14⟩ := e
  exact ⟨e1 ▸ h.customs, e2 ▸ h.noOvr, e3 ▸ h.ovrClean, hc, e4 ▸ h.unmod, e5 ▸ h.unshift, e6 ▸ h.caps,
    e7 ▸ h.scroll, e8 ▸ h.hscroll, e9 ▸ h.moveV, e10 ▸ h.moveH, e11 ▸ h.wfi, e12 ▸ h.vk, hm,
    e13 ▸ h.seqOff, e14 ▸ h.noRec⟩

/-- replace the layout -/
def setL (k : KState) (l : Layout) : KState := { k with layout := l }

theorem KRest.setL {k : KState} (h : KRest k) (l : Layout) : KRest (setL k l) := h.of_eq rfl h.cur h.mcd

theorem adjustKeys_rest (k : KState) (h1 : k.unmoddedKeys = []) (h2 : k.unshiftedKeys = [])
    (keys : List KeyCode) : adjustKeys k keys = keys := by
  unfold adjustKeys
  simp [h1, h2]

theorem overrideKeys_empty (t : Override.Overrides) (h : t.isEmpty = true) (kcs : List Nat)
    (st : Override.OverrideStates) : t.overrideKeys kcs st = .ok (kcs, st) := by
  unfold Override.Overrides.overrideKeys
  simp only [h, if_true]

theorem customActs_none (k : KState) (h : k.customs = []) (id : Nat) : customActs k id = .error .customId := by
  unfold customActs
  simp [h]

/-- the state after a whole `tick_states` whose layout tick returned `l'` and no custom event -/
def afterTick (k : KState) (l' : Layout) : KState :=
  { pressNew (releaseOld (setL k l') l'.keycodes false) l'.keycodes with
    macroOnPressCancelDuration := k.macroOnPressCancelDuration - 1, prevKeys := l'.keycodes, curKeys := [] }

/-- the key-list part of the tick: no unmod / unshift keys, no overrides, no caps-word, sequence mode
off, so the wanted list is the layout's key codes and what is left is the plain key diff -/
theorem hkc_rest_eq (k : KState) (hr : KRest k) (l' : Layout) (hl : tick k.layout = .ok (l', .noEvent)) :
    handleKeystateChanges k =
      .ok { pressNew (releaseOld (setL k l') l'.keycodes false) l'.keycodes with curKeys := l'.keycodes } := by
  have hov : k.overrides.overrideKeys (adjustKeys k (k.curKeys ++ l'.keycodes)) k.overrideStates
      = .ok (l'.keycodes, k.overrideStates) := by
    rw [adjustKeys_rest k hr.unmod hr.unshift, hr.cur]
    exact overrideKeys_empty _ hr.noOvr _ _
  exact handleKeystateChanges_noEvent k l' _ _ hl hr.caps hov hr.ovrClean
    (seqDiff_off { k with layout := l', overrideStates := k.overrideStates } _ _ hr.seqOff)

theorem afterTick_eq (k : KState) (l' : Layout) : ∃ o lp, afterTick k l' =
    { k with layout := l', out := o, lastPressedKey := lp, prevKeys := l'.keycodes, curKeys := [],
             macroOnPressCancelDuration := k.macroOnPressCancelDuration - 1 } := by
  obtain ⟨o, p, lp, e⟩ := diff_frame (setL k l') l'.keycodes false
  exact ⟨o, lp, by rw [afterTick, e]; rfl⟩

/-- the key-list part of a tick with the kanata-level components at rest and no custom event:
the wanted list is the layout's key codes; only output, `prev_keys` and `last_pressed_key` change -/
theorem handleKeystateChanges_rest (k : KState) (hr : KRest k) (l' : Layout)
    (hl : tick k.layout = .ok (l', .noEvent)) :
    ∃ o p lp, handleKeystateChanges k =
      .ok { k with layout := l', out := o, prevKeys := p, lastPressedKey := lp, curKeys := l'.keycodes } := by
  obtain ⟨o, p, lp, e⟩ := diff_frame (setL k l') l'.keycodes false
  exact ⟨o, p, lp, by rw [hkc_rest_eq k hr l' hl, e]; rfl⟩

theorem afterTick_layout (k : KState) (l' : Layout) : (afterTick k l').layout = l' := by
  obtain ⟨o, lp, e⟩ := afterTick_eq k l'
  rw [e]

theorem KRest.afterTick {k : KState} (hr : KRest k) (l' : Layout) : KRest (afterTick k l') := by
  obtain ⟨o, lp, e⟩ := afterTick_eq k l'
  rw [e]
  exact hr.of_eq rfl rfl (by show k.macroOnPressCancelDuration - 1 = 0; rw [hr.mcd])

theorem tickStates_rest_ok (k : KState) (hr : KRest k) (l' : Layout)
    (hl : tick k.layout = .ok (l', .noEvent)) : tickStates k = .ok (afterTick k l') := by
  have hkc := hkc_rest_eq k hr l' hl
  obtain ⟨o, p, lp, e⟩ := diff_frame (setL k l') l'.keycodes false
  rw [afterTick, e]
  rw [e] at hkc
  exact tickStates_of_hkc hkc hr.scroll hr.hscroll hr.moveV hr.moveH (off_inactive _ hr.seqOff) hr.wfi
    hr.noRec hr.vk

theorem tickStates_rest_err (k : KState) (e : L.Crash) (hl : tick k.layout = .error e) :
    tickStates k = .error (.layout e) := by
  unfold tickStates handleKeystateChanges
  simp only [hl]

/-- a custom event meets an empty custom-action table -/
theorem tickStates_rest_custom (k : KState) (hr : KRest k) (l' : Layout) (ce : CustomEv)
    (hl : tick k.layout = .ok (l', ce)) (hce : ce ≠ .noEvent) : tickStates k = .error .customId := by
  unfold tickStates handleKeystateChanges
  cases ce with
  | noEvent => exact absurd rfl hce
  | press id => simp only [hl, applyUnmodEvent, customActs_none { k with layout := l' } hr.customs id]
  | release id => simp only [hl, applyUnmodEvent, customActs_none { k with layout := l' } hr.customs id]

/-- **one whole `tick_states` with the kanata-level components at rest**: the layout's tick returned
no custom event (otherwise the empty custom-action table is a crash), the state afterwards holds the
ticked layout, its key codes as OS key state, and is at rest again; only output, `prev_keys`,
`last_pressed_key` and the layout changed. -/
theorem tickStates_rest (k k' : KState) (hr : KRest k) (ht : tickStates k = .ok k') :
    ∃ l', tick k.layout = .ok (l', .noEvent) ∧ k'.layout = l' ∧ k'.prevKeys = l'.keycodes ∧ KRest k' := by
  cases hl : tick k.layout with
  | error c => rw [tickStates_rest_err k c hl] at ht; cases ht
  | ok r =>
    obtain ⟨l', ce⟩ := r
    by_cases hce : ce = .noEvent
    · subst hce
      rw [tickStates_rest_ok k hr l' hl] at ht
      injection ht with ht
      subst ht
      obtain ⟨o, lp, e⟩ := afterTick_eq k l'
      exact ⟨l', rfl, afterTick_layout k l', by rw [e], hr.afterTick l'⟩
    · rw [tickStates_rest_custom k hr l' ce hl hce] at ht; cases ht

theorem handleInput_press_eq (k : KState) (hm : k.macroOnPressCancelDuration = 0) (hn : k.dyn.rcd = none) (code : Nat) :
    handleInputEvent k (.press code) =
      match k.layout.event (.press (0, code)) with
      | .error e => .error (.layout e)
      | .ok l => .ok (setL { k with ticksSinceIdle := 0 } l) := by
  unfold handleInputEvent
  simp only [dynRecord_none _ _ _ (show ({ k with ticksSinceIdle := 0 } : KState).dyn.rcd = none from hn)]
  simp only [hm, gt_iff_lt, Nat.lt_irrefl, if_false]
  rfl

theorem handleInput_release_eq (k : KState) (hn : k.dyn.rcd = none) (code : Nat) :
    handleInputEvent k (.release code) =
      match k.layout.event (.release (0, code)) with
      | .error e => .error (.layout e)
      | .ok l => .ok (setL { k with ticksSinceIdle := 0 } l) := by
  unfold handleInputEvent
  simp only [dynRecord_none _ _ _ (show ({ k with ticksSinceIdle := 0 } : KState).dyn.rcd = none from hn)]
  rfl

theorem handleInput_tap_eq (k : KState) (code : Nat) :
    handleInputEvent k (.tap code) =
      match k.layout.event (.press (0, code)) with
      | .error e => .error (.layout e)
      | .ok l => match l.event (.release (0, code)) with
        | .error e => .error (.layout e)
        | .ok l => .ok (setL { k with ticksSinceIdle := 0 } l) := rfl

theorem writeRepeat_fields (k : KState) (kc : KeyCode) :
    ∃ o, writeRepeat k kc = { k with out := o } := by
  unfold writeRepeat
  split
  · exact ⟨k.out, rfl⟩
  · exact ⟨k.out ++ [.down kc], rfl⟩

theorem handleRepeat_rest_eq (k : KState) (hn : k.overrides.isEmpty = true)
    (hs : k.seq.st.active = false) (code : Nat) :
    handleRepeat k code =
      match k.layout.transOrder with
      | .error e => .error (.layout e)
      | .ok order =>
        .ok { (match repeatTarget k (k.curKeys ++ k.layout.keycodes) order code with
               | some kc => writeRepeat k kc
               | none => k) with curKeys := [] } := by
  unfold handleRepeat
  simp only [hs, Bool.false_and, Bool.false_eq_true, if_false]
  rw [overrideKeys_empty k.overrides hn]
  rfl

theorem handleRepeat_rest {k k' : KState} (hn : k.overrides.isEmpty = true) (hs : k.seq.st.active = false)
    (code : Nat) (h : handleRepeat k code = .ok k') : ∃ o, k' = { k with out := o, curKeys := [] } := by
  rw [handleRepeat_rest_eq k hn hs] at h
  cases ho : k.layout.transOrder with
  | error e => simp only [ho] at h; cases h
  | ok order =>
    simp only [ho] at h
    cases h
    cases repeatTarget k (k.curKeys ++ k.layout.keycodes) order code with
    | none => exact ⟨k.out, rfl⟩
    | some kc =>
      obtain ⟨o, e⟩ := writeRepeat_fields k kc
      exact ⟨o, by simp only [e]⟩

/-- what `handle_input_event` does with the kanata-level components at rest: the layout's `event`
(twice for a tap, not at all for a repeat); `prev_keys` is untouched -/
theorem handleInput_rest (k k' : KState) (hr : KRest k) (i : Input) (h : handleInputEvent k i = .ok k') :
    KRest k' ∧ k'.prevKeys = k.prevKeys ∧
    (match i with
     | .press code => k.layout.event (.press (0, code)) = .ok k'.layout
     | .release code => k.layout.event (.release (0, code)) = .ok k'.layout
     | .tap code => ∃ l1, k.layout.event (.press (0, code)) = .ok l1 ∧ l1.event (.release (0, code)) = .ok k'.layout
     | .rep _ => k'.layout = k.layout) := by
  cases i with
  | press code =>
    rw [handleInput_press_eq k hr.mcd hr.noRec] at h
    cases he : k.layout.event (.press (0, code)) with
    | error e => simp only [he] at h; cases h
    | ok l => simp only [he] at h; cases h; exact ⟨hr.of_eq rfl hr.cur hr.mcd, rfl, he⟩
  | release code =>
    rw [handleInput_release_eq k hr.noRec] at h
    cases he : k.layout.event (.release (0, code)) with
    | error e => simp only [he] at h; cases h
    | ok l => simp only [he] at h; cases h; exact ⟨hr.of_eq rfl hr.cur hr.mcd, rfl, he⟩
  | tap code =>
    rw [handleInput_tap_eq] at h
    cases he : k.layout.event (.press (0, code)) with
    | error e => simp only [he] at h; cases h
    | ok l1 =>
      cases he2 : l1.event (.release (0, code)) with
      | error e => simp only [he, he2] at h; cases h
      | ok l => simp only [he, he2] at h; cases h; exact ⟨hr.of_eq rfl hr.cur hr.mcd, rfl, l1, he, he2⟩
  | rep code =>
    obtain ⟨o, rfl⟩ := handleRepeat_rest (k := { k with ticksSinceIdle := 0 }) hr.noOvr (off_inactive _ hr.seqOff) code h
    exact ⟨hr.of_eq rfl rfl hr.mcd, rfl, rfl⟩

/-! ## the invariant along reachable states -/

/-- the invariant of the kanata-level machine: components at rest, a property `Q` of the layout, and
— whenever no input event is pending — the OS key state IS the layout's key-code list -/
structure KInv (Q : Layout → Prop) (k : KState) : Prop where
  rest : KRest k
  lay : Q k.layout
  sync : k.layout.queue = [] → k.prevKeys = k.layout.keycodes

/-- an input event leaves something queued, so nothing is claimed about the OS key state -/
theorem KInv.of_event {Q : Layout → Prop} {k : KState} (hr : KRest k) (h : Q k.layout ∧ k.layout.queue ≠ []) :
    KInv Q k := ⟨hr, h.1, fun hq => absurd hq h.2⟩

theorem KInv.rep {Q : Layout → Prop} {k k' : KState} {code : Nat} (h : KInv Q k)
    (he : handleInputEvent k (.rep code) = .ok k') : KInv Q k' := by
  obtain ⟨r1, r2, r3⟩ := handleInput_rest k k' h.rest (.rep code) he
  simp only [] at r3
  exact ⟨r1, r3 ▸ h.lay, fun hq => by rw [r2, r3]; exact h.sync (r3 ▸ hq)⟩

theorem KInv.tick {Q Q' : Layout → Prop} {k k' : KState} (h : KInv Q k) (he : tickStates k = .ok k')
    (hQ : ∀ l' cu, tick k.layout = .ok (l', cu) → Q' l') : KInv Q' k' := by
  obtain ⟨l', hl, e1, e2, e3⟩ := tickStates_rest k k' h.rest he
  exact ⟨e3, e1 ▸ hQ _ _ hl, fun _ => by rw [e2, e1]⟩

theorem KInv.decide {Q : Layout → Prop} {k : KState} (h : KInv Q k) (ms : Nat) :
    KInv Q (canBlockUpdateIdleWaiting k ms).1 := by
  obtain ⟨t, ht⟩ := canBlock_fields k ms
  rw [ht]
  exact ⟨h.rest.of_eq rfl h.rest.cur h.rest.mcd, h.lay, h.sync⟩

/-- **the hypotheses of `block_silent` hold whenever the invariant does and kanata is idle** -/
theorem KInv.mayBlock {Q : Layout → Prop} {k : KState} (h : KInv Q k) (hp : PlainStates k.layout)
    (hidle : isIdle k = true) : MayBlock k k.layout.keycodes k.overrideStates := by
  refine ⟨hidle, h.rest.wfi, hp, h.rest.cur, ?_, h.rest.ovrClean, ?_, h.rest.noRec⟩
  · rw [adjustKeys_rest k h.rest.unmod h.rest.unshift]
    exact overrideKeys_empty _ h.rest.noOvr _ _
  · rw [Synced, h.sync (idle_covers_time_driven k hidle).1]
    exact ⟨fun _ hx => hx, fun _ hx => hx⟩

theorem KInv.block_unobservable {Q : Layout → Prop} {k : KState} (h : KInv Q k) (hp : PlainStates k.layout)
    (ms : Nat) (hb : (canBlockUpdateIdleWaiting k ms).2 = true) :
    (canBlockUpdateIdleWaiting k ms).1 = k ∧
    ∀ n, ∃ k', ticksN n k = .ok k' ∧ k'.out = k.out ∧ k'.layout.states = k.layout.states ∧
      (n > 0 → k'.prevKeys = k.layout.keycodes) ∧ MayBlock k' k.layout.keycodes k.overrideStates := by
  obtain ⟨h1, h2⟩ := canBlock_true k ms hb
  exact ⟨h2, fun n => block_silent_forever n k _ _ (h.mayBlock hp h1)⟩

/-- a layout-level invariant: kept by `Layout::event` (delivered while the side condition `g` holds;
the event is still queued afterwards), kept by `Layout::tick`, and excluding the states the sequence
machinery acts on by itself -/
structure LayoutInv (P : Layout → Prop) (g : Layout → Bool) : Prop where
  event : ∀ l e l', P l → g l = true → l.event e = .ok l' → P l' ∧ l'.queue ≠ []
  tick : ∀ l l' cu, P l → tick l = .ok (l', cu) → P l'
  plain : ∀ l, P l → PlainStates l

theorem reach_inv {P : Layout → Prop} {g : Layout → Bool} (hP : LayoutInv P g) {k0 k : KState}
    (h0 : KInv P k0) (hr : Reach g k0 k) : KInv P k := by
  induction hr with
  | init => exact h0
  | @input k k' i _ hok he ih =>
    cases i with
    | press code =>
      obtain ⟨r1, _, r3⟩ := handleInput_rest k k' ih.rest _ he
      exact .of_event r1 (hP.event _ _ _ ih.lay hok r3)
    | release code =>
      obtain ⟨r1, _, r3⟩ := handleInput_rest k k' ih.rest _ he
      exact .of_event r1 (hP.event _ _ _ ih.lay hok r3)
    | tap code =>
      obtain ⟨r1, _, l1, e1, e2⟩ := handleInput_rest k k' ih.rest _ he
      simp only [inputOK, Bool.and_eq_true, e1] at hok
      exact .of_event r1 (hP.event _ _ _ (hP.event _ _ _ ih.lay hok.1 e1).1 hok.2 e2)
    | rep code => exact ih.rep he
  | tick _ he ih => exact ih.tick he fun l' cu hl => hP.tick _ _ _ ih.lay hl
  | decide ms _ ih => exact ih.decide ms

/-! ## instance 1: the layered fragment of C04 — any history, no bound -/

theorem plain_of_stok {l : Layout} (h : ∀ st ∈ l.states, C04.StOK st) : PlainStates l := by
  intro st hst
  have := h st hst
  cases st <;> simp only [C04.StOK] at this <;> first | trivial | exact absurd this id

theorem tickPre_inert_eq {s : Layout} (hi : C04.Inert s) : tickPre s = tickPreI s :=
  tickPre_plain_eq hi.tde hi.seqs (plain_of_stok hi.states)

theorem takeWaiting_inert {s : Layout} (h : C04.Inert s) (idx : Option Nat) : takeWaiting s idx = none := by
  cases idx with
  | none => simp [takeWaiting, h.waiting]
  | some i => simp [takeWaiting, h.extra]

/-- nothing waits on the fragment, so the flush of waiting states on queue overflow does nothing -/
theorem flushWaitings_inert {s : Layout} (h : C04.Inert s) : ∀ (idxs : List (Option Nat)) (fuel : Nat),
    idxs.length + 1 < fuel → flushWaitings fuel s idxs = .ok s := by
  intro idxs
  induction idxs with
  | nil =>
    intro fuel hf
    obtain ⟨f, rfl⟩ : ∃ f, fuel = f + 1 := ⟨fuel - 1, by simp only [List.length_nil] at hf; omega⟩
    simp only [flushWaitings]
  | cons i rest ih =>
    intro fuel hf
    simp only [List.length_cons] at hf
    obtain ⟨f, rfl⟩ : ∃ f, fuel = f + 1 + 1 := ⟨fuel - 2, by omega⟩
    simp only [flushWaitings, waitingIntoHold, takeWaiting_inert h, bind, Except.bind]
    exact ih (f + 1) (by omega)

theorem dequeue_press_inert (fuel : Nat) {s : Layout} (hc : C04.CfgFrag s.cfg) (h : C04.Inert s) (c : Coord)
    (since : Nat) (s' : Layout) (cu : CustomEv) (hd : dequeue (fuel + 1) s ⟨.press c, since⟩ = .ok (s', cu)) :
    C04.Inert s' ∧ C04.Same s s' := by
  simp only [dequeue, h.tde, bind, Except.bind] at hd
  split at hd
  · cases hd
  · rename_i order ho
    obtain ⟨r1, r2, _, _⟩ := (C04.refines_all fuel).1 s .trans c since order s' cu hc h trivial hd
    exact ⟨r1, r2⟩

theorem dequeue_release_inert (fuel : Nat) {s : Layout} (h : C04.Inert s) (c : Coord) (since : Nat) :
    ∃ s', dequeue (fuel + 1) s ⟨.release c, since⟩ = .ok (s', .noEvent) ∧ C04.Inert s' ∧ s'.cfg = s.cfg ∧
      s'.queue = s.queue := by
  have hr := C04.releaseStates_spec c s.states h.states
  refine ⟨{ s with states := s.states.filter (fun st => st.coord != some c) }, ?_, ?_, rfl, rfl⟩
  · simp only [dequeue, OneShotState.handleRelease, h.osh, List.isEmpty_nil, if_true, hr]
  · exact ⟨h.waiting, h.extra, h.tde, h.aq, h.seqs, h.osh, h.pause, C04.stok_filter _ h.states⟩

theorem dequeue_inert (fuel : Nat) {s : Layout} (q : Queued)
    (s' : Layout) (cu : CustomEv) (hd : dequeue (fuel + 1) s q = .ok (s', cu)) (hc : C04.CfgFrag s.cfg) (h : C04.Inert s) :
    C04.Inert s' ∧ s'.cfg = s.cfg ∧ s'.queue = s.queue := by
  obtain ⟨ev, since⟩ := q
  cases ev with
  | press c =>
    obtain ⟨r1, r2⟩ := dequeue_press_inert fuel hc h c since s' cu hd
    exact ⟨r1, r2.cfg, r2.queue⟩
  | release c =>
    obtain ⟨sx, e1, e2, e3, e4⟩ := dequeue_release_inert fuel h c since
    rw [e1] at hd
    injection hd with hd; injection hd with h1 h2; subst h1
    exact ⟨e2, e3, e4⟩

theorem inert_setQueue {s : Layout} (h : C04.Inert s) (q : List Queued) : C04.Inert (s.setQueue q) :=
  h.of_eq rfl rfl rfl rfl rfl rfl rfl

theorem dequeue_head_inert {t : Layout} (hc : C04.CfgFrag t.cfg) (hi : C04.Inert t) {q : Queued}
    {rest : List Queued} {s' : Layout} {cu : CustomEv} (hd : dequeue FUEL (t.setQueue rest) q = .ok (s', cu)) :
    C04.Inert s' ∧ s'.cfg = t.cfg := by
  obtain ⟨r1, r2, _⟩ := dequeue_inert 3999 q s' cu hd hc (inert_setQueue hi rest)
  exact ⟨r1, r2⟩

/-- a layout tick on an inert layout of the layered fragment, in closed form: after `tickPre`, one
queued event is processed, and what follows the main stage finds nothing to do -/
theorem tick_inert_eq {s : Layout} (hc : C04.CfgFrag s.cfg) (hi : C04.Inert s) :
    tick s = match (tickPre s).queue with
      | [] => .ok (tickPre s, .noEvent)
      | q :: rest => dequeue FUEL ((tickPre s).setQueue rest) q := by
  obtain ⟨p1, p2, _⟩ := C04.tickPre_spec hi
  have hmain : tickMain (tickPre s) = match (tickPre s).queue with
      | [] => .ok (tickPre s, .noEvent)
      | q :: rest => dequeue FUEL ((tickPre s).setQueue rest) q := by
    unfold tickMain
    simp only [p1.waiting, p1.extra, List.isEmpty_nil, if_true, p1.pause, Nat.lt_irrefl, if_false]
    cases (tickPre s).queue <;> rfl
  have htail : ∀ (s2 : Layout) (c2 : CustomEv), C04.Inert s2 →
      (match processExtraWaitings s2 (CustomEv.noEvent.update c2) with
        | .error c => (.error c : Except L.Crash (Layout × CustomEv))
        | .ok (s3, c3) => .ok (processSequenceCustom s3 c3)) = .ok (s2, c2) := by
    intro s2 c2 h2
    rw [C04.processExtraWaitings_inert h2.extra]
    simp only [C04.processSequenceCustom_inert h2.states]
    cases c2 <;> rfl
  unfold tick
  simp only [hi.aq, C04.tickOneshot_spec p1, hmain]
  cases (tickPre s).queue with
  | nil => exact htail _ _ p1
  | cons q rest =>
    simp only []
    cases hd : dequeue FUEL ((tickPre s).setQueue rest) q with
    | error c => rfl
    | ok r => exact htail r.1 r.2 (dequeue_head_inert (p2.cfg.symm ▸ hc) p1 hd).1

/-- one tick of the layout on the layered fragment keeps inertness — no bound on held layers -/
theorem tick_inert {s : Layout} (hc : C04.CfgFrag s.cfg) (h : C04.Inert s) (s' : Layout) (cu : CustomEv)
    (ht : tick s = .ok (s', cu)) : C04.Inert s' ∧ s'.cfg = s.cfg := by
  obtain ⟨p1, p2, _⟩ := C04.tickPre_spec h
  rw [tick_inert_eq hc h] at ht
  cases hq : (tickPre s).queue with
  | nil =>
    rw [hq] at ht
    cases ht
    exact ⟨p1, p2.cfg⟩
  | cons q rest =>
    rw [hq] at ht
    obtain ⟨r1, r2⟩ := dequeue_head_inert (p2.cfg.symm ▸ hc) p1 ht
    exact ⟨r1, r2.trans p2.cfg⟩

theorem pushBackWrap_fst_ne_nil {α} (cap : Nat) (hcap : 0 < cap) (l : List α) (x : α) :
    (pushBackWrap cap l x).1 ≠ [] := by
  unfold pushBackWrap
  split
  · simp
  · cases l with
    | nil => rename_i hn; simp at hn; omega
    | cons a t => simp

/-- the history part of `Layout::event` -/
def evPre (s : Layout) (e : Ev) : Layout :=
  match e with
  | .press c => { s with histInputs := histPush s.histInputs c }
  | .release _ => s

/-- the layout with the event queued, and the event pushed out of a full queue -/
def evPush (s : Layout) (e : Ev) : Layout × Option Queued :=
  ({ evPre s e with queue := (pushBackWrap QUEUE_SIZE s.queue ⟨e, 0⟩).1 }, (pushBackWrap QUEUE_SIZE s.queue ⟨e, 0⟩).2)

theorem event_succ (fuel : Nat) (s : Layout) (e : Ev) :
    event (fuel + 1) s e =
      match (evPush s e).2 with
      | none => .ok (evPush s e).1
      | some ov =>
        (do let s1 ← flushWaitings fuel (evPush s e).1 (none :: (List.range EXTRA_WAITING_LEN).map some)
            let r ← dequeue fuel s1 ov
            pure r.1) := by
  cases e <;> rfl

theorem evPush_inert {s : Layout} (hi : C04.Inert s) (e : Ev) : C04.Inert (evPush s e).1 := by
  unfold evPush evPre
  cases e <;> exact hi.of_eq rfl rfl rfl rfl rfl rfl rfl

theorem evPush_cfg (s : Layout) (e : Ev) : (evPush s e).1.cfg = s.cfg := by
  cases e <;> rfl

/-- `Layout::event` on an inert layout, in closed form: the event is queued; when the queue of 32 is
full the oldest event is processed at once (nothing waits, so the flush does nothing) -/
theorem event_inert_eq {s : Layout} (hi : C04.Inert s) (e : Ev) :
    s.event e =
      match (evPush s e).2 with
      | none => .ok (evPush s e).1
      | some ov =>
        match dequeue 3999 (evPush s e).1 ov with
        | .error c => .error c
        | .ok r => .ok r.1 := by
  rw [Layout.event, FUEL_succ, event_succ, flushWaitings_inert (evPush_inert hi e) _ _ (by decide)]
  cases (evPush s e).2 with
  | none => rfl
  | some ov => cases hd : dequeue 3999 (evPush s e).1 ov <;> simp only [bind, Except.bind, hd] <;> rfl

/-- an input event on the layered fragment — also when the 32-entry queue is full (the oldest event
is then processed at once): inertness is kept and the new event is queued -/
theorem event_inert {s : Layout} (hc : C04.CfgFrag s.cfg) (h : C04.Inert s) (e : Ev) (s' : Layout)
    (he : s.event e = .ok s') : C04.Inert s' ∧ s'.cfg = s.cfg ∧ s'.queue ≠ [] := by
  have hcfg := evPush_cfg s e
  have hq : (evPush s e).1.queue ≠ [] := pushBackWrap_fst_ne_nil QUEUE_SIZE (by decide) _ _
  rw [event_inert_eq h] at he
  cases hov : (evPush s e).2 with
  | none =>
    simp only [hov] at he
    cases he
    exact ⟨evPush_inert h e, hcfg, hq⟩
  | some ov =>
    cases hd : dequeue 3999 (evPush s e).1 ov with
    | error c => simp only [hov, hd] at he; cases he
    | ok r =>
      simp only [hov, hd] at he
      cases he
      obtain ⟨r1, r2, r3⟩ := dequeue_inert 3998 ov r.1 r.2 hd (hcfg ▸ hc) (evPush_inert h e)
      exact ⟨r1, r2.trans hcfg, r3 ▸ hq⟩

/-- the invariant of the layered fragment: configuration in the fragment, layout inert -/
def LayeredInv (l : Layout) : Prop := C04.CfgFrag l.cfg ∧ C04.Inert l

theorem layered_layoutInv : LayoutInv LayeredInv (fun _ => true) where
  event := fun l e l' hp _ he => by
    obtain ⟨r1, r2, r3⟩ := event_inert hp.1 hp.2 e l' he
    exact ⟨⟨r2 ▸ hp.1, r1⟩, r3⟩
  tick := fun l l' cu hp ht => by
    obtain ⟨r1, r2⟩ := tick_inert hp.1 hp.2 l' cu ht
    exact ⟨r2 ▸ hp.1, r1⟩
  plain := fun l hp => plain_of_stok hp.2.states

/-! ## instances 2 and 3: the one-shot fragment of C06 and the tap-hold fragment — events arrive
while fewer than 32 are pending (the existing step lemmas of these fragments assume it) -/

/-- the side condition: fewer than 32 events pending -/
def hasRoom (l : Layout) : Bool := decide (l.queue.length < QUEUE_SIZE)

/-- the step lemmas of the other fragments give the layout after an event as an existential -/
theorem event_of_room {P : Layout → Prop} {l l' l1 : Layout} {e : Ev} (he : l.event e = .ok l')
    (h1 : l.event e = .ok l1) (hp : P l1) (hq : l1.queue ≠ []) : P l' ∧ l'.queue ≠ [] := by
  obtain rfl : l1 = l' := by rw [he] at h1; injection h1 with h1; exact h1.symm
  exact ⟨hp, hq⟩

/-- the invariant of the one-shot fragment (`C06.Inv`, for some set of keys physically down) -/
def OneShotInv (l : Layout) : Prop := ∃ down, C06.Inv l down

theorem oneshot_layoutInv : LayoutInv OneShotInv hasRoom where
  event := fun l e l' ⟨down, hi⟩ hg he => by
    obtain ⟨s1, e1, i1, q1, _⟩ := hi.input e (of_decide_eq_true hg)
    exact event_of_room he e1 ⟨_, i1⟩ (by simp [q1])
  tick := fun l l' cu ⟨down, hi⟩ ht => ⟨down, (hi.step l' cu ht).1⟩
  plain := fun l ⟨down, hi⟩ => plain_of_stok hi.calm.states

/-- the invariant of the tap-hold fragment (`Quiesce.HInv`, for some set of keys physically down) -/
def TapHoldInv (T I d : Nat) (l : Layout) : Prop := ∃ down, Quiesce.HInv T I d l down

theorem taphold_layoutInv (T I d : Nat) : LayoutInv (TapHoldInv T I d) hasRoom where
  event := fun l e l' ⟨down, hi⟩ hg he => by
    obtain ⟨s1, e1, i1, q1, _⟩ := hi.input e (of_decide_eq_true hg)
    exact event_of_room he e1 ⟨_, i1⟩ (by simp [q1])
  tick := fun l l' cu ⟨down, hi⟩ ht => ⟨down, (hi.tick l' cu ht).1⟩
  plain := fun l ⟨down, hi⟩ => plain_of_stok hi.states

/-! ## start states and the composed statements -/

/-- what the theorems ask of the start state: kanata-level components at rest and the OS key state
equal to the layout's key codes (both empty at start-up) -/
structure KStart (k0 : KState) : Prop where
  rest : KRest k0
  prev : k0.prevKeys = k0.layout.keycodes

/-- a freshly created layout -/
def freshLayout (cfg : LCfg) (tv2 dfl qth : Bool) (osd : Nat) : Layout :=
  { cfg := cfg, transV2 := tv2, delegateToFirstLayer := dfl, quickTapHoldTimeout := qth,
    oneshot := { pauseInputProcessingDelay := osd } }

/-- kanata at start-up for a configuration without custom actions and overrides -/
def freshK (cfg : LCfg) (tv2 dfl qth : Bool) (osd : Nat) (keyOutputs : List (List (Nat × List Nat)))
    (mods : ModCodes) : KState :=
  { layout := freshLayout cfg tv2 dfl qth osd, customs := [], keyOutputs := keyOutputs, mods := mods }

theorem freshK_start (cfg : LCfg) (tv2 dfl qth : Bool) (osd : Nat) (ko : List (List (Nat × List Nat)))
    (mods : ModCodes) : KStart (freshK cfg tv2 dfl qth osd ko mods) :=
  ⟨⟨rfl, rfl, rfl, rfl, rfl, rfl, rfl, rfl, rfl, rfl, rfl, rfl, rfl, rfl, rfl, rfl⟩, rfl⟩

theorem KStart.inv {Q : Layout → Prop} {k0 : KState} (hs : KStart k0) (hl : Q k0.layout) : KInv Q k0 :=
  ⟨hs.rest, hl, fun _ => hs.prev⟩

/-- generic: along every reachable state the hypotheses of `block_silent` hold when kanata is idle -/
theorem mayBlock_reachable {P : Layout → Prop} {g : Layout → Bool} (hP : LayoutInv P g) {k0 k : KState}
    (hs : KStart k0) (hl : P k0.layout) (hr : Reach g k0 k) (hidle : isIdle k = true) :
    MayBlock k k.layout.keycodes k.overrideStates :=
  have h := reach_inv hP (hs.inv hl) hr
  h.mayBlock (hP.plain _ h.lay) hidle

/-- generic: whenever the decision function says "block" in a reachable state, it left the state as
it was and any number of ticks from there is silent -/
theorem block_unobservable {P : Layout → Prop} {g : Layout → Bool} (hP : LayoutInv P g) {k0 k : KState}
    (hs : KStart k0) (hl : P k0.layout) (hr : Reach g k0 k) (ms : Nat)
    (hb : (canBlockUpdateIdleWaiting k ms).2 = true) :
    (canBlockUpdateIdleWaiting k ms).1 = k ∧
    ∀ n, ∃ k', ticksN n k = .ok k' ∧ k'.out = k.out ∧ k'.layout.states = k.layout.states ∧
      (n > 0 → k'.prevKeys = k.layout.keycodes) ∧ MayBlock k' k.layout.keycodes k.overrideStates :=
  have h := reach_inv hP (hs.inv hl) hr
  h.block_unobservable (hP.plain _ h.lay) ms hb

end KVerif.C07
