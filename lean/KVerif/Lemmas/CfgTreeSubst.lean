/-
Lemmas for C16: abstracting a subexpression into a template parameter and instantiating gives the
expression back — the one-parameter, one-occurrence case of `absTree` — and forests without
`concat` lists.
-/
import KVerif.Lemmas.CfgTreeAbstract
import KVerif.Lemmas.CfgTreeVars
namespace KVerif.CfgTree

/-- a forest that does not mention `$p` is a pattern of itself for the one parameter `p` -/
theorem absList_of_not_mem (p : Str) (e : Tree) (l : List Tree) (h : ('$' :: p) ∉ atomsOfList l) :
    absList [p] [e] l l :=
  absList_refl [p] [e] l fun a ha => by
    rw [paramIndex, if_neg fun h' : '$' :: p = a => h (h' ▸ ha)]
    rfl

/-- substitution leaves alone what does not mention the parameter -/
theorem substList_id (p : Str) (e : Tree) : ∀ (l : List Tree), ('$' :: p) ∉ atomsOfList l →
      substList [p] [e] l = l :=
  fun l h => substList_abs [p] [e] (List.pairwise_singleton _ p) l l (absList_of_not_mem p e l h)

/-- the body `C[$p]` is a pattern of `C[e]` with `e` for the parameter `p` -/
theorem absTree_plug (p : Str) (e : Tree) (c : Ctx) (hc : c.NoRef p) :
    absTree [p] [e] (c.plug (.atom ('$' :: p))) (c.plug e) := by
  induction c with
  | hole =>
    rw [Ctx.plug, Ctx.plug, absTree]
    exact .inr ⟨0, p, rfl, rfl, rfl⟩
  | node pre c post ih =>
    obtain ⟨hpre, hcc, hpost⟩ := hc
    rw [Ctx.plug, Ctx.plug, absTree]
    exact absList_append (absList_of_not_mem p e pre (not_mem_atomsOfList _ pre hpre))
      ⟨ih hcc, absList_of_not_mem p e post (not_mem_atomsOfList _ post hpost)⟩

mutual
  /-- no list headed by `concat` -/
  def noConcatTree : Tree → Bool
    | .atom _ => true
    | .list l => !headIs sConcat l && noConcatList l
  def noConcatList : List Tree → Bool
    | [] => true
    | t :: rest => noConcatTree t && noConcatList rest
end

mutual
  theorem concatTree_id : ∀ (t : Tree), noConcatTree t = true → concatTree t = t
    | .atom _, _ => rfl
    | .list l, h => by
      simp only [noConcatTree, Bool.and_eq_true, Bool.not_eq_true'] at h
      match l, h with
      | [], _ => simp [concatTree, concatList]
      | .list l0 :: rest, h =>
        simp only [concatTree]
        rw [concatList_id _ h.2]
      | .atom a :: rest, h =>
        have : ¬ a = sConcat := by
          intro ha; have := h.1; simp [headIs, ha] at this
        simp only [concatTree, this, if_false]
        rw [concatList_id _ h.2]
  theorem concatList_id : ∀ (l : List Tree), noConcatList l = true → concatList l = l
    | [], _ => rfl
    | t :: rest, h => by
      simp only [noConcatList, Bool.and_eq_true] at h
      simp only [concatList]
      rw [concatTree_id t h.1, concatList_id rest h.2]
end

end KVerif.CfgTree
