/-
C09 helper lemmas: `decompose_chord_into_action_queue` — the press-order scan (`decomposeFold`) and
the greedy loop (`decomposeLoop` / `shrinkEnd`), for all tables and key lists.
-/
import KVerif.Lemmas.Chord
namespace KVerif.C09
open KVerif.L

/-! ## The press-order list -/

/-- masks that contribute a new bit, in order (the `chord_key_order` array) -/
def newMasks (g : ChordsGroup) : Nat → List Queued → List Nat
  | _, [] => []
  | a, s :: l =>
    if a ||| maskOf g s != a then maskOf g s :: newMasks g (a ||| maskOf g s) l
    else newMasks g (a ||| maskOf g s) l

theorem decomposeFold_cons (w : Waiting) (g : ChordsGroup) (a : Nat) (order : List Nat) (dflt : Coord)
    (s : Queued) (rest : List Queued) :
    decomposeFold w g a order dflt (s :: rest) =
      if stops w g s then (order, (releasedBy g (s :: rest)).getD dflt)
      else if chordPress w g s then
        decomposeFold w g (a ||| maskOf g s) (if a ||| maskOf g s != a then order ++ [maskOf g s] else order) dflt rest
      else decomposeFold w g a order dflt rest := by
  rw [decomposeFold, releasedBy]
  unfold stops chordPress skipped maskOf
  by_cases hsk : w.delay - s.since > w.timeout
  · rw [if_pos hsk, decide_eq_true hsk]; rfl
  · rw [if_neg hsk, decide_eq_false hsk]
    cases g.getKeys s.ev.coord <;> cases s.ev <;> rfl

/-- closed form of the press-order scan, for every queue: the keys are the first key's mask followed
by the masks of the participating presses that add a new key, in queue (= press) order; the
coordinate is that of the chord-key release that stopped the scan, if any -/
theorem decomposeFold_closed (w : Waiting) (g : ChordsGroup) (q : List Queued) (a : Nat) (order : List Nat) (dflt : Coord) :
    decomposeFold w g a order dflt q =
      (order ++ newMasks g a (participants w g q), (releasedBy g (scanRest w g q)).getD dflt) := by
  induction q generalizing a order with
  | nil => exact congrArg (·, dflt) (List.append_nil order).symm
  | cons s q ih =>
    rw [decomposeFold_cons, scanRest_cons, participants_cons]
    cases stops w g s
    · cases chordPress w g s
      · exact ih a order
      · rw [if_neg Bool.false_ne_true, if_pos rfl, ih, if_neg Bool.false_ne_true, if_pos rfl, if_neg Bool.false_ne_true, newMasks]
        cases a ||| maskOf g s != a
        · rfl
        · exact congrArg (·, _) (List.append_assoc ..)
    · exact congrArg (·, _) (List.append_nil order).symm

/-! ## The greedy loop -/

/-- OR of the keys at positions `[s, e)` -/
def orSeg (keys : List Nat) (s e : Nat) : Nat := orMasks ((keys.drop s).take (e - s))

/-- no defined chord is a run of pressed keys starting at position `j` (so key `j` is dropped:
in particular it has no defined singleton) -/
def Undef (g : ChordsGroup) (keys : List Nat) (j : Nat) : Prop :=
  ∀ e, j < e → e ≤ keys.length → g.getChord (orSeg keys j e) = none

theorem shrinkEnd_spec (g : ChordsGroup) (keys : List Nat) (start : Nat) : ∀ n : Nat,
    match shrinkEnd g keys start n with
    | some (e, a) => start < e ∧ e ≤ n ∧ g.getChord (orSeg keys start e) = some a ∧
        ∀ e', e < e' → e' ≤ n → g.getChord (orSeg keys start e') = none
    | none => ∀ e', start < e' → e' ≤ n → g.getChord (orSeg keys start e') = none := by
  intro n
  induction n with
  | zero => exact fun e' h1 h2 => absurd (Nat.lt_of_lt_of_le h1 h2) (Nat.not_lt_zero _)
  | succ n ih =>
    rw [shrinkEnd]
    by_cases hlt : n + 1 > start
    · rw [if_pos hlt]
      cases hc : g.getChord (orMasks ((keys.drop start).take (n + 1 - start))) with
      | some a => exact ⟨hlt, Nat.le_refl _, hc, fun e' h1 h2 => absurd h1 (Nat.not_lt.mpr h2)⟩
      | none =>
        -- end `n + 1` is undefined, so what holds of the ends up to `n` holds up to `n + 1`
        have ext : ∀ lo, (∀ e', lo < e' → e' ≤ n → g.getChord (orSeg keys start e') = none) →
            ∀ e', lo < e' → e' ≤ n + 1 → g.getChord (orSeg keys start e') = none :=
          fun lo h e' h1 h2 =>
            if h3 : e' = n + 1 then h3 ▸ hc else h e' h1 (Nat.le_of_lt_succ (Nat.lt_of_le_of_ne h2 h3))
        show match shrinkEnd g keys start n with | some (e, a) => _ | none => _
        cases hs : shrinkEnd g keys start n with
        | some p =>
          rw [hs] at ih
          exact ⟨ih.1, Nat.le_succ_of_le ih.2.1, ih.2.2.1, ext _ ih.2.2.2⟩
        | none =>
          rw [hs] at ih
          exact ext _ ih
    · rw [if_neg hlt]
      exact fun e' h1 h2 => absurd (Nat.lt_of_lt_of_le h1 h2) hlt

/-- the segments `(start, end, action)` the loop pushes, in order -/
def segs (g : ChordsGroup) (keys : List Nat) : Nat → Nat → List (Nat × Nat × Action)
  | 0, _ => []
  | fuel + 1, start =>
    if start < keys.length then
      match g.getChord (orMasks (keys.drop start)) with
      | some a => (start, keys.length, a) :: segs g keys fuel keys.length
      | none =>
        match shrinkEnd g keys start (keys.length - 1) with
        | some (e, a) => (start, e, a) :: segs g keys fuel (if e ≤ start then start + 1 else e)
        | none => segs g keys fuel (start + 1)
    else []

theorem orSeg_full (keys : List Nat) (start : Nat) : orSeg keys start keys.length = orMasks (keys.drop start) := by
  unfold orSeg
  rw [List.take_of_length_le (by simp)]

theorem segs_succ (g : ChordsGroup) (keys : List Nat) (fuel start : Nat) (h : start < keys.length) :
    segs g keys (fuel + 1) start =
      match shrinkEnd g keys start keys.length with
      | some (e, a) => (start, e, a) :: segs g keys fuel e
      | none => segs g keys fuel (start + 1) := by
  have hsp := shrinkEnd_spec g keys start (keys.length - 1)
  rw [segs, if_pos h, ← orSeg_full, orSeg]
  cases hn : keys.length with
  | zero => exact absurd (hn ▸ h) (Nat.not_lt_zero _)
  | succ n =>
    rw [hn] at h hsp
    rw [shrinkEnd, if_pos h]
    cases g.getChord (orMasks ((keys.drop start).take (n + 1 - start))) with
    | some a => rfl
    | none =>
      revert hsp
      show (match shrinkEnd g keys start n with | some (e, a) => _ | none => _) →
        (match shrinkEnd g keys start n with | some (e, a) => _ | none => _) = _
      cases shrinkEnd g keys start n with
      | none => intro _; rfl
      | some p => exact fun hsp => congrArg (_ :: segs g keys fuel ·) (if_neg (Nat.not_le.mpr hsp.1))

/-- the action-queue entry of a segment -/
def entryOf (w : Waiting) (g : ChordsGroup) (dflt : Coord) (queued : List Queued) (keys : List Nat) (delay : Nat)
    (seg : Nat × Nat × Action) : Coord × Nat × Action :=
  (coordForChord w g dflt queued (orSeg keys seg.1 seg.2.1), delay, seg.2.2)

def pushAll (aq : ActionQueue) (es : List (Coord × Nat × Action)) : ActionQueue :=
  es.foldl (fun aq e => (pushBackWrap ACTION_QUEUE_LEN aq e).1) aq

/-- the loop pushes exactly the entries of `segs`, in order -/
theorem decomposeLoop_eq (w : Waiting) (g : ChordsGroup) (dflt : Coord) (queued : List Queued) (keys : List Nat)
    (delay : Nat) : ∀ (fuel start : Nat) (aq : ActionQueue),
    decomposeLoop w g dflt queued keys delay fuel start aq =
      pushAll aq ((segs g keys fuel start).map (entryOf w g dflt queued keys delay)) := by
  intro fuel
  induction fuel with
  | zero => intro start aq; rfl
  | succ fuel ih =>
    intro start aq
    simp only [decomposeLoop, segs]
    by_cases hlt : start < keys.length
    · simp only [hlt, if_true]
      cases hc : g.getChord (orMasks (keys.drop start)) with
      | some a =>
        simp only [ih, List.map_cons, pushAll, List.foldl_cons, entryOf, orSeg_full]
      | none =>
        simp only []
        cases hs : shrinkEnd g keys start (keys.length - 1) with
        | some p =>
          obtain ⟨e, a⟩ := p
          simp only [ih, List.map_cons, pushAll, List.foldl_cons, entryOf, orSeg]
        | none => simp only [ih]
    · simp only [hlt, if_false, List.map_nil, pushAll, List.foldl_nil]

/-- **the decomposition predicate**: from position `from` on, `l` lists disjoint runs of pressed keys
in increasing order; each run is a defined chord with the recorded action and is the LONGEST
defined run starting at its first key; every key outside the runs starts no defined run at all -/
def Covers (g : ChordsGroup) (keys : List Nat) : Nat → List (Nat × Nat × Action) → Prop
  | frm, [] => ∀ j, frm ≤ j → j < keys.length → Undef g keys j
  | frm, (s, e, a) :: rest =>
    frm ≤ s ∧ s < e ∧ e ≤ keys.length ∧ (∀ j, frm ≤ j → j < s → Undef g keys j) ∧
    g.getChord (orSeg keys s e) = some a ∧
    (∀ e', e < e' → e' ≤ keys.length → g.getChord (orSeg keys s e') = none) ∧
    Covers g keys e rest

theorem Covers_skip (g : ChordsGroup) (keys : List Nat) (frm : Nat) (l : List (Nat × Nat × Action))
    (hu : Undef g keys frm) (h : Covers g keys (frm + 1) l) : Covers g keys frm l := by
  have ext : ∀ hi, (∀ j, frm + 1 ≤ j → j < hi → Undef g keys j) → ∀ j, frm ≤ j → j < hi → Undef g keys j :=
    fun hi h j h1 h2 => if hj : j = frm then hj ▸ hu else h j (Nat.lt_of_le_of_ne h1 (Ne.symm hj)) h2
  cases l with
  | nil => exact ext _ h
  | cons x rest =>
    obtain ⟨s, e, a⟩ := x
    obtain ⟨c1, c2, c3, c4, c5, c6, c7⟩ := h
    exact ⟨Nat.le_of_succ_le c1, c2, c3, ext s c4, c5, c6, c7⟩

theorem segs_covers (g : ChordsGroup) (keys : List Nat) : ∀ (fuel start : Nat),
    keys.length - start ≤ fuel → Covers g keys start (segs g keys fuel start) := by
  intro fuel
  induction fuel with
  | zero => exact fun start h j h1 h2 => absurd h2 (by omega)
  | succ fuel ih =>
    intro start h
    -- the next round starts further right, so one unit of fuel less is enough for it
    have fuel_ok : ∀ e, start < e → keys.length - e ≤ fuel := fun e he => by omega
    by_cases hlt : start < keys.length
    · rw [segs_succ g keys fuel start hlt]
      have hsp := shrinkEnd_spec g keys start keys.length
      cases hs : shrinkEnd g keys start keys.length with
      | some p =>
        rw [hs] at hsp
        exact ⟨Nat.le_refl _, hsp.1, hsp.2.1, fun j h1 h2 => absurd h2 (Nat.not_lt.mpr h1), hsp.2.2.1, hsp.2.2.2,
          ih p.1 (fuel_ok _ hsp.1)⟩
      | none =>
        rw [hs] at hsp
        exact Covers_skip g keys start _ hsp (ih (start + 1) (fuel_ok _ (Nat.lt_succ_self _)))
    · rw [segs, if_neg hlt]
      exact fun j h1 h2 => absurd (Nat.lt_of_le_of_lt h1 h2) hlt

/-- `Covers` determines the list: the decomposition is THE greedy one -/
theorem Covers_unique (g : ChordsGroup) (keys : List Nat) : ∀ (l1 l2 : List (Nat × Nat × Action)) (frm : Nat),
    Covers g keys frm l1 → Covers g keys frm l2 → l1 = l2 := by
  have clash : ∀ {m : Nat} {a : Action}, g.getChord m = none → g.getChord m = some a → False :=
    fun h1 h2 => nomatch h1.symm.trans h2
  intro l1
  induction l1 with
  | nil =>
    intro l2 frm h1 h2
    cases l2 with
    | nil => rfl
    | cons x rest =>
      obtain ⟨s, e, a⟩ := x
      obtain ⟨c1, c2, c3, _, c5, _, _⟩ := h2
      exact (clash (h1 s c1 (Nat.lt_of_lt_of_le c2 c3) e c2 c3) c5).elim
  | cons x rest ih =>
    intro l2 frm h1 h2
    obtain ⟨s, e, a⟩ := x
    obtain ⟨c1, c2, c3, c4, c5, c6, c7⟩ := h1
    cases l2 with
    | nil => exact (clash (h2 s c1 (Nat.lt_of_lt_of_le c2 c3) e c2 c3) c5).elim
    | cons y rest2 =>
      obtain ⟨s', e', a'⟩ := y
      obtain ⟨d1, d2, d3, d4, d5, d6, d7⟩ := h2
      -- the run that starts earlier would start at a key that is undefined for the other list
      obtain rfl : s = s' := by
        rcases Nat.lt_trichotomy s s' with h | h | h
        · exact (clash (d4 s c1 h e c2 c3) c5).elim
        · exact h
        · exact (clash (c4 s' d1 h e' d2 d3) d5).elim
      -- the longer run contradicts that the shorter one is the longest defined
      obtain rfl : e = e' := by
        rcases Nat.lt_trichotomy e e' with h | h | h
        · exact (clash (c6 e' h d3) d5).elim
        · exact h
        · exact (clash (d6 e h c3) c5).elim
      obtain rfl : a = a' := Option.some.inj (c5.symm.trans d5)
      rw [ih rest2 e c7 d7]

/-- more fuel than keys changes nothing: the fuelled loop is the `while` loop -/
theorem segs_fuel_enough (g : ChordsGroup) (keys : List Nat) (f1 f2 start : Nat)
    (h1 : keys.length - start ≤ f1) (h2 : keys.length - start ≤ f2) :
    segs g keys f1 start = segs g keys f2 start :=
  Covers_unique g keys _ _ start (segs_covers g keys f1 start h1) (segs_covers g keys f2 start h2)

/-- one entry per run, the runs are disjoint and not empty -/
theorem Covers_length (g : ChordsGroup) (keys : List Nat) : ∀ (l : List (Nat × Nat × Action)) (frm : Nat),
    Covers g keys frm l → l.length ≤ keys.length - frm := by
  intro l
  induction l with
  | nil => exact fun _ _ => Nat.zero_le _
  | cons x rest ih =>
    obtain ⟨s, e, a⟩ := x
    intro frm ⟨c1, c2, c3, _, _, _, c7⟩
    have hfe : frm < e := Nat.lt_of_le_of_lt c1 c2
    exact Nat.lt_of_le_of_lt (ih e c7) (Nat.sub_lt_sub_left (Nat.lt_of_lt_of_le hfe c3) hfe)

theorem newMasks_sublist (g : ChordsGroup) : ∀ (l : List Queued) (a : Nat),
    (newMasks g a l).Sublist (l.map (maskOf g)) := by
  intro l
  induction l with
  | nil => intro a; simp [newMasks]
  | cons s l ih =>
    intro a
    simp only [newMasks, List.map_cons]
    split
    · exact (ih _).cons_cons _
    · exact (ih _).cons _

/-- every position is inside a run or starts no defined run -/
theorem Covers_total (g : ChordsGroup) (keys : List Nat) : ∀ (l : List (Nat × Nat × Action)) (frm : Nat),
    Covers g keys frm l → ∀ j, frm ≤ j → j < keys.length →
      (∃ seg ∈ l, seg.1 ≤ j ∧ j < seg.2.1) ∨ Undef g keys j := by
  intro l
  induction l with
  | nil => intro frm h j h1 h2; exact Or.inr (h j h1 h2)
  | cons x rest ih =>
    intro frm h j h1 h2
    obtain ⟨s, e, a⟩ := x
    obtain ⟨c1, c2, c3, c4, c5, c6, c7⟩ := h
    by_cases hjs : j < s
    · exact Or.inr (c4 j h1 hjs)
    · by_cases hje : j < e
      · exact Or.inl ⟨(s, e, a), List.mem_cons_self, Nat.le_of_not_lt hjs, hje⟩
      · rcases ih e c7 j (Nat.le_of_not_lt hje) h2 with ⟨seg, hm, hh⟩ | hu
        · exact Or.inl ⟨seg, List.mem_cons_of_mem _ hm, hh⟩
        · exact Or.inr hu

theorem orSeg_single (keys : List Nat) (j : Nat) (h : j < keys.length) : orSeg keys j (j + 1) = keys[j] := by
  unfold orSeg orMasks
  have : (keys.drop j).take (j + 1 - j) = [keys[j]] := by
    rw [Nat.add_sub_cancel_left]
    rw [List.drop_eq_getElem_cons h]
    simp only [List.take_succ_cons, List.take_zero]
  rw [this]
  simp

/-! ## `decompose_chord_into_action_queue` as a whole -/

/-- the masks the decomposition works on: the first key's, then each participating press that adds a key -/
def decompKeys (w : Waiting) (g : ChordsGroup) (q : List Queued) : List Nat :=
  (g.getKeys w.coord).getD 0 :: newMasks g ((g.getKeys w.coord).getD 0) (participants w g q)

/-- **closed form**: the entries of the segments of the pressed keys (`segs`: longest defined runs), pushed in order;
their default coordinate is the released key's if a release stopped the scan, else the first key's -/
theorem decomposeChord_closed (w : Waiting) (g : ChordsGroup) (q : List Queued) (aq : ActionQueue) :
    decomposeChord w g q aq =
      pushAll aq ((segs g (decompKeys w g q) (decompKeys w g q).length 0).map
        (entryOf w g ((releasedBy g (scanRest w g q)).getD w.coord) q (decompKeys w g q) (min (w.delay + w.ticks) U16_MAX))) := by
  unfold decomposeChord
  simp only [decomposeFold_closed]
  rw [decomposeLoop_eq]
  rfl

/-- `get_coord_for_chord` answers with the default, the first key, or a queued event on a key of the group -/
theorem coordForChord_cases (w : Waiting) (g : ChordsGroup) (dflt : Coord) (q : List Queued) (mask : Nat) :
    coordForChord w g dflt q mask = dflt ∨ coordForChord w g dflt q mask = w.coord ∨
      ∃ x ∈ q, coordForChord w g dflt q mask = x.ev.coord ∧ (g.getKeys x.ev.coord).isSome = true := by
  unfold coordForChord
  split
  · exact .inl rfl
  · split
    · exact .inr (.inl rfl)
    · split
      · next x hf =>
        refine .inr (.inr ⟨x, List.mem_of_find?_eq_some hf, rfl, ?_⟩)
        have h3 := List.find?_some hf
        cases hk : g.getKeys x.ev.coord with
        | none => simp [hk] at h3
        | some _ => rfl
      · exact .inl rfl

/-- every run the greedy loop pushes is a defined chord -/
theorem segs_defined (g : ChordsGroup) (keys : List Nat) : ∀ (fuel start : Nat),
    ∀ seg ∈ segs g keys fuel start, ∃ m, g.getChord m = some seg.2.2 := by
  intro fuel
  induction fuel with
  | zero => intro start seg h; cases h
  | succ fuel ih =>
    intro start seg h
    simp only [segs] at h
    split at h
    · split at h
      · next a hc =>
        rcases List.mem_cons.mp h with rfl | h
        · exact ⟨_, hc⟩
        · exact ih _ seg h
      · have hsp := shrinkEnd_spec g keys start (keys.length - 1)
        split at h
        · next e a hs =>
          rw [hs] at hsp
          rcases List.mem_cons.mp h with rfl | h
          · exact ⟨_, hsp.2.2.1⟩
          · exact ih _ seg h
        · exact ih _ seg h
    · cases h

theorem mem_pushAll : ∀ (es : List (Coord × Nat × Action)) (aq : ActionQueue) {y : Coord × Nat × Action},
    y ∈ pushAll aq es → y ∈ aq ∨ y ∈ es
  | [], _, _, h => .inl h
  | e :: es, aq, y, h => by
    rcases mem_pushAll es _ h with g | g
    · -- `push_back` on a full deque drops the front: what is there afterwards was there before, or is the new entry
      have g : y ∈ (pushBackWrap ACTION_QUEUE_LEN aq e).1 := g
      have : y ∈ aq ∨ y = e := by
        unfold pushBackWrap at g
        split at g
        · exact (List.mem_append.mp g).imp_right List.eq_of_mem_singleton
        · cases aq with
          | nil => cases g
          | cons a t => exact (List.mem_append.mp g).imp (List.mem_cons_of_mem _) List.eq_of_mem_singleton
      exact this.imp_right fun (g : y = e) => g ▸ List.mem_cons_self
    · exact .inr (List.mem_cons_of_mem _ g)

/-- **what the decomposition queues**: every new entry carries a defined chord's action, and the coordinate of the
first key or of a queued event on a key of the group -/
theorem mem_decomposeChord {w : Waiting} {g : ChordsGroup} {q : List Queued} {aq : ActionQueue} {y : Coord × Nat × Action}
    (hy : y ∈ decomposeChord w g q aq) :
    y ∈ aq ∨ ((∃ m, g.getChord m = some y.2.2) ∧
      (y.1 = w.coord ∨ ∃ x ∈ q, y.1 = x.ev.coord ∧ (g.getKeys y.1).isSome = true)) := by
  rw [decomposeChord_closed] at hy
  refine (mem_pushAll _ _ hy).imp_right fun hy => ?_
  obtain ⟨seg, hseg, rfl⟩ := List.mem_map.mp hy
  refine ⟨segs_defined g _ _ _ seg hseg, ?_⟩
  -- the default coordinate is the first key's unless the release of a group key stopped the scan
  have hdf : ∀ c, c = (releasedBy g (scanRest w g q)).getD w.coord →
      c = w.coord ∨ ∃ x ∈ q, c = x.ev.coord ∧ (g.getKeys c).isSome = true := by
    rintro c rfl
    cases hr : releasedBy g (scanRest w g q) with
    | none => exact .inl rfl
    | some c =>
      obtain ⟨⟨x, hx, hxe⟩, hk⟩ := releasedBy_scanRest hr
      exact .inr ⟨x, hx, hxe.symm, hk⟩
  show coordForChord w g _ q (orSeg (decompKeys w g q) seg.1 seg.2.1) = w.coord ∨
    ∃ x ∈ q, coordForChord w g _ q (orSeg (decompKeys w g q) seg.1 seg.2.1) = x.ev.coord ∧ _
  rcases coordForChord_cases w g ((releasedBy g (scanRest w g q)).getD w.coord) q
    (orSeg (decompKeys w g q) seg.1 seg.2.1) with g2 | g2 | ⟨x, hx, g2, hk⟩
  · exact hdf _ g2
  · exact .inl g2
  · exact .inr ⟨x, hx, g2, (congrArg (fun c => (g.getKeys c).isSome) g2).trans hk⟩

/-! ## Capacity of the action queue -/

theorem pushAll_fits (aq : ActionQueue) (es : List (Coord × Nat × Action))
    (h : aq.length + es.length ≤ ACTION_QUEUE_LEN) : pushAll aq es = aq ++ es := by
  induction es generalizing aq with
  | nil => exact (List.append_nil aq).symm
  | cons e es ih =>
    rw [List.length_cons] at h
    have h1 : (pushBackWrap ACTION_QUEUE_LEN aq e).1 = aq ++ [e] := by
      unfold pushBackWrap; rw [if_pos (by omega)]
    rw [pushAll, List.foldl_cons, h1]
    exact (ih (aq ++ [e]) (by rw [List.length_append, List.length_singleton]; omega)).trans (List.append_assoc ..)

end KVerif.C09
