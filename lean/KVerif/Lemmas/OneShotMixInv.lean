/-
C06 on the mixed fragment, helper lemmas: the invariant `MInv` — the C06 invariant `Inv`
extended with the pending tap-hold key (`waiting`) and the fact that `extra_waiting` stays empty —
is preserved by every event and every stage of a tick.
-/
import KVerif.Lemmas.OneShotMix
import KVerif.Lemmas.OneShotAccounted
namespace KVerif.C06
open KVerif.L

structure MInv (s : Layout) (down : List Coord) : Prop where
  /-- nothing is taken from the queue while a tap-hold key is pending, so a second one never joins -/
  extra : s.extraWaiting = []
  tde : s.tapDanceEager = none
  aq : s.actionQueue = []
  seqs : s.activeSequences = []
  states : ∀ st ∈ s.states, StOK st
  ignore : s.oneshot.ticksToIgnoreEvents = 0
  cfg : CfgM s.cfg
  qlen : s.queue.length ≤ QUEUE_SIZE
  /-- with no one-shot key active nothing is deferred and no release is requested -/
  idle : s.oneshot.keys = [] → s.oneshot.releasedKeys = [] ∧ s.oneshot.releaseOnNextTick = false
  qwf : QWF down s.queue
  /-- **no state is stranded** -/
  owned : ∀ st ∈ s.states, ∀ c, st.coord = some c →
    c ∈ down ∨ c ∈ s.oneshot.releasedKeys ∨ ∃ x ∈ s.queue, x.ev = .release c
  /-- the pending tap-hold key is of the fragment, and it is down or its release is queued -/
  wok : ∀ w, s.waiting = some w → WOKm w ∧ (w.coord ∈ down ∨ ∃ x ∈ s.queue, x.ev = .release w.coord)

namespace MInv
variable {s s' : Layout} {down down' : List Coord}

theorem accounted (h : MInv s down) : Accounted down s.states s.oneshot s.queue :=
  ⟨h.states, h.ignore, h.qlen, h.idle, h.qwf, fun st hst c hc => or_left_comm.mp (h.owned st hst c hc)⟩

theorem of_eq (h : MInv s down) (h1 : s'.extraWaiting = s.extraWaiting) (h2 : s'.tapDanceEager = s.tapDanceEager)
    (h3 : s'.actionQueue = s.actionQueue) (h4 : s'.activeSequences = s.activeSequences) (h5 : s'.cfg = s.cfg)
    (a : Accounted down' s'.states s'.oneshot s'.queue)
    (hw : ∀ w, s'.waiting = some w → WOKm w ∧ Held down' s'.queue w.coord) : MInv s' down' :=
  ⟨h1.trans h.extra, h2.trans h.tde, h3.trans h.aq, h4.trans h.seqs, a.states, a.ignore, h5 ▸ h.cfg, a.qlen,
   a.idle, a.qwf, fun st hst c hc => or_left_comm.mp (a.owned st hst c hc), hw⟩

theorem of_frame (h : MInv s down) (f : Frame s s') (a : Accounted down' s'.states s'.oneshot s'.queue)
    (hw : ∀ w, s'.waiting = some w → WOKm w ∧ Held down' s'.queue w.coord) : MInv s' down' :=
  h.of_eq f.extra f.tde f.aq f.seqs f.cfg a hw

theorem wok_of (h : MInv s down) (hw : s'.waiting = s.waiting)
    (hh : ∀ c, Held down s.queue c → Held down' s'.queue c) :
    ∀ w, s'.waiting = some w → WOKm w ∧ Held down' s'.queue w.coord :=
  fun w e => ⟨(h.wok w (hw ▸ e)).1, hh _ (h.wok w (hw ▸ e)).2⟩

end MInv

theorem wok_none {s : Layout} {down : List Coord} (hw : s.waiting = none) :
    ∀ w, s.waiting = some w → WOKm w ∧ Held down s.queue w.coord :=
  fun _ e => nomatch hw.symm.trans e

/-! ### events -/

theorem MInv.input {s : Layout} {down : List Coord} (h : MInv s down) (e : Ev)
    (hq : s.queue.length < QUEUE_SIZE) :
    ∃ s', s.event e = .ok s' ∧ MInv s' (downAfter down (.ev e)) ∧ s'.queue = s.queue ++ [⟨e, 0⟩] ∧
      s'.states = s.states ∧ s'.oneshot = s.oneshot ∧ s'.waiting = s.waiting := by
  unfold Layout.event
  rw [FUEL_succ]
  obtain ⟨s', e1, e2, e3, e4, e5⟩ := event_room 3999 s e hq
  refine ⟨s', e1, h.of_frame e5 ?_ (h.wok_of e5.waiting fun c hc => e2 ▸ hc.enqueue e), e2, e3, e4, e5.waiting⟩
  rw [e2, e3, e4]
  exact h.accounted.enqueue e hq

/-! ### the stages of a tick -/

theorem tickPre_M {s : Layout} {down : List Coord} (h : MInv s down) :
    tickPre s = { s with queue := age s.queue, lptTapHoldTimeout := s.lptTapHoldTimeout - 1,
                         histKeys := histTick s.histKeys, histInputs := histTick s.histInputs } := by
  unfold tickPre
  simp only [h.tde]
  simp (disch := first | exact h.seqs | exact h.states) only [C04.processSequences_inert]
  rfl

theorem MInv.pre {s : Layout} {down : List Coord} (h : MInv s down) :
    MInv (tickPre s) down ∧ (tickPre s).queue = age s.queue ∧ (tickPre s).waiting = s.waiting ∧
    (tickPre s).oneshot = s.oneshot ∧ (tickPre s).states = s.states := by
  rw [tickPre_M h]
  exact ⟨h.of_frame Frame.free h.accounted.age (h.wok_of rfl fun _ => Held.age),
    rfl, rfl, rfl, rfl⟩

/-- the second stage, whatever it does to the states and the `OneShotState`, never looks at the
pending tap-hold key -/
theorem MInv.with_osh {s : Layout} {down : List Coord} (h : MInv s down) {o : OneShotState} {sts : List St}
    (a : Accounted down sts o s.queue) : MInv { s with oneshot := o, states := sts } down :=
  h.of_frame Frame.free a (h.wok_of rfl fun _ hc => hc)

theorem osh_waits_eq (o : OneShotState) (hi : o.ticksToIgnoreEvents = 0) :
    ({ o with ticksToIgnoreEvents := o.ticksToIgnoreEvents - 1, timeout := o.timeout - 1 } : OneShotState) =
      { o with timeout := o.timeout - 1 } := by
  cases o; simp only at hi; subst hi; rfl

theorem MInv.osh_waits {s : Layout} {down : List Coord} (h : MInv s down) (hk : s.oneshot.keys ≠ [])
    (hr : s.oneshot.releaseOnNextTick = false) (h2 : 2 ≤ s.oneshot.timeout) :
    ∃ s1, tickOneshot s = .ok (s1, .noEvent) ∧ MInv s1 down ∧ s1.queue = s.queue ∧ s1.waiting = s.waiting ∧
      s1.states = s.states ∧ s1.oneshot = { s.oneshot with timeout := s.oneshot.timeout - 1 } := by
  refine ⟨{ s with oneshot := { s.oneshot with timeout := s.oneshot.timeout - 1 } }, ?_, h.with_osh
    (h.accounted.sub (fun _ hst => hst) h.ignore (fun hk' => absurd hk' hk) fun _ _ _ _ hc => hc), rfl, rfl, rfl, rfl⟩
  rw [tickOneshot_waits hk hr h2, osh_waits_eq _ h.ignore]

theorem MInv.osh_fires {s : Layout} {down : List Coord} (h : MInv s down) (hk : s.oneshot.keys ≠ [])
    (hf : s.oneshot.releaseOnNextTick = true ∨ s.oneshot.timeout ≤ 1) :
    ∃ s1, tickOneshot s = .ok (s1, .noEvent) ∧ MInv s1 down ∧ s1.queue = s.queue ∧ s1.waiting = s.waiting ∧
      s1.states = dropCoords s.oneshot.releasedKeys s.states ∧ s1.oneshot = OneShotState.cleared s.oneshot :=
  ⟨_, tickOneshot_fires h.states hk hf, h.with_osh
    (h.accounted.sub (fun _ hst => (mem_dropCoords.mp hst).1) rfl (fun _ => ⟨rfl, rfl⟩)
      fun _ hst c hc hcr => absurd hc ((mem_dropCoords.mp hst).2 c hcr)), rfl, rfl, rfl, rfl⟩

theorem MInv.osh {s : Layout} {down : List Coord} (h : MInv s down) :
    ∃ s1, tickOneshot s = .ok (s1, .noEvent) ∧ MInv s1 down := by
  by_cases hk : s.oneshot.keys = []
  · exact ⟨s, tickOneshot_inactive hk, h⟩
  · by_cases hf : s.oneshot.releaseOnNextTick = true ∨ s.oneshot.timeout ≤ 1
    · obtain ⟨s1, e1, i1, _⟩ := h.osh_fires hk hf
      exact ⟨s1, e1, i1⟩
    · obtain ⟨s1, e1, i1, _⟩ := h.osh_waits hk (by simpa using fun e => hf (Or.inl e))
        (Nat.lt_of_not_le fun e => hf (Or.inr e))
      exact ⟨s1, e1, i1⟩

/-- the result of a tick with the tap-hold key `w` pending, given the layout `s1` the first two
stages leave: counted down, or resolved on `s1` -/
def pendingResult (s1 : Layout) (w : Waiting) : Layout :=
  match (C05.htStep w s1.queue).2 with
  | none => { s1 with waiting := some (C05.htStep w s1.queue).1 }
  | some a => resolved { s1 with waiting := none } (C05.htStep w s1.queue).1 a

theorem pendingResult_none {s1 : Layout} {w : Waiting} (hd : (C05.htStep w s1.queue).2 = none) :
    pendingResult s1 w = { s1 with waiting := some (C05.htStep w s1.queue).1 } := by
  unfold pendingResult; rw [hd]

theorem pendingResult_some {s1 : Layout} {w : Waiting} {a : WAct} (hd : (C05.htStep w s1.queue).2 = some a) :
    pendingResult s1 w = resolved { s1 with waiting := none } (C05.htStep w s1.queue).1 a := by
  unfold pendingResult; rw [hd]

/-- **the main stage with a tap-hold key pending**: the key is counted down and nothing else
happens, or it is resolved — `resolved`, one `do_action` of the chosen action, which is where the
`handle_press(Other coord)` of the one-shot state happens -/
theorem tickMain_pending {s : Layout} {down : List Coord} (h : MInv s down) (w : Waiting)
    (hw : s.waiting = some w) : tickMain s = .ok (pendingResult s w, .noEvent) := by
  have wk := (h.wok w hw).1
  rw [C05.tickMain_ht s w hw wk.isHT]
  unfold pendingResult
  cases hd : (C05.htStep w s.queue).2 with
  | none => rfl
  | some a =>
    exact resolveAct_simple _ _ (wk.counted (C05.htStep_counted w s.queue)) a
      (fun h0 => C05.htStep_ne_noOp w s.queue (h0 ▸ hd))

theorem MInv.pending_step {s : Layout} {down : List Coord} (h : MInv s down) (w : Waiting)
    (hw : s.waiting = some w) : MInv ({ s with waiting := some (C05.htStep w s.queue).1 } : Layout) down := by
  have hc := C05.htStep_counted w s.queue
  refine h.of_eq rfl rfl rfl rfl rfl h.accounted fun w' hw' => ?_
  cases hw'
  exact ⟨(h.wok w hw).1.counted hc, hc.coord ▸ (h.wok w hw).2⟩

theorem MInv.resolve {s : Layout} {down : List Coord} (h : MInv s down) (w : Waiting)
    (hw : s.waiting = some w) (a : WAct) (ha : a ≠ .noOp) :
    MInv (resolved { s with waiting := none } (C05.htStep w s.queue).1 a) down ∧
    (resolved { s with waiting := none } (C05.htStep w s.queue).1 a).waiting = none := by
  obtain ⟨wk, wr⟩ := h.wok w hw
  have hc := C05.htStep_counted w s.queue
  obtain ⟨f, q, ad, o⟩ := resolved_spec { s with waiting := none } (C05.htStep w s.queue).1 (wk.counted hc) a ha
  rw [hc.coord] at ad o
  obtain ⟨k1, k2, k3, k4⟩ := resolvedOsh_fields s.oneshot w.coord a
  refine ⟨h.of_eq f.extra f.tde f.aq f.seqs f.cfg ?_ (wok_none f.waiting), f.waiting⟩
  rw [q, o]
  exact h.accounted.adds wr ad.new (k4.trans h.ignore) (by rw [k1, k2, k3]; exact h.idle)
    fun x hx => Or.inl (k2 ▸ hx)

theorem MInv.pending {s : Layout} {down : List Coord} (h : MInv s down) (w : Waiting)
    (hw : s.waiting = some w) : MInv (pendingResult s w) down := by
  unfold pendingResult
  cases hd : (C05.htStep w s.queue).2 with
  | none => exact h.pending_step w hw
  | some a => exact (h.resolve w hw a (fun h0 => C05.htStep_ne_noOp w s.queue (h0 ▸ hd))).1

theorem MInv.pop_press {s : Layout} {down : List Coord} (h : MInv s down) (hw : s.waiting = none) (c : Coord) (n : Nat)
    (rest : List Queued) (hq : s.queue = ⟨.press c, n⟩ :: rest) (s' : Layout) (cu : CustomEv)
    (hd : dequeue FUEL (s.setQueue rest) ⟨.press c, n⟩ = .ok (s', cu)) : MInv s' down ∧ cu = .noEvent := by
  obtain ⟨a, hc⟩ := (hq ▸ h.accounted).pop_press
  have hlen : rest.length < QUEUE_SIZE := by have := h.qlen; rw [hq] at this; exact this
  obtain ⟨r1, r2, r3⟩ := dequeue_press_M (s := s.setQueue rest) h.cfg h.tde hw hlen c n s' cu hd
  obtain ⟨ov, op, hqq⟩ := r2.osh
  obtain ⟨k1, _, k3, k4⟩ := op.keeps
  have hq' : s'.queue = rest ++ ovq ov := hqq
  refine ⟨h.of_eq r2.frame.extra r2.frame.tde r2.frame.aq r2.frame.seqs r2.frame.cfg ?_ ?_, r1⟩
  · rw [hq']
    exact (a.adds hc r2.adds.new (k1.trans h.ignore) (k4 h.idle) k3).append_ovq ov hlen
  · exact fun w e => ⟨(r3 w e).2, (r3 w e).1 ▸ hq' ▸ hc.append _⟩

theorem MInv.pop_release {s : Layout} {down : List Coord} (h : MInv s down) (hw : s.waiting = none) (c : Coord) (n : Nat)
    (rest : List Queued) (hq : s.queue = ⟨.release c, n⟩ :: rest) :
    ∃ s', dequeue FUEL (s.setQueue rest) ⟨.release c, n⟩ = .ok (s', .noEvent) ∧ MInv s' down ∧ s'.waiting = none :=
  ⟨_, dequeue_release_calm (s := s.setQueue rest) h.states c n,
    h.of_frame Frame.free (hq ▸ h.accounted).pop_release (wok_none hw), hw⟩

theorem MInv.main {s : Layout} {down : List Coord} (h : MInv s down) (s2 : Layout) (c2 : CustomEv)
    (hm : tickMain s = .ok (s2, c2)) : MInv s2 down ∧ c2 = .noEvent := by
  cases hw : s.waiting with
  | some w =>
    rw [tickMain_pending h w hw] at hm
    cases hm
    exact ⟨h.pending w hw, rfl⟩
  | none =>
    by_cases hp : 0 < s.oneshot.pauseInputProcessingTicks
    · rw [tickMain_paused hw h.extra hp] at hm
      cases hm
      exact ⟨h.of_eq rfl rfl rfl rfl rfl (h.accounted.sub (fun _ hst => hst) h.ignore h.idle fun _ _ _ _ hc => hc)
        (wok_none hw), rfl⟩
    · have hp0 : s.oneshot.pauseInputProcessingTicks = 0 := Nat.eq_zero_of_not_pos hp
      cases hq : s.queue with
      | nil =>
        rw [tickMain_empty hw h.extra hp0 hq] at hm
        cases hm
        exact ⟨h, rfl⟩
      | cons q rest =>
        rw [tickMain_pops hw h.extra hp0 q rest hq] at hm
        obtain ⟨ev, n⟩ := q
        cases ev with
        | press c => exact h.pop_press hw c n rest hq s2 c2 hm
        | release c =>
          obtain ⟨s', e1, e2, _⟩ := h.pop_release hw c n rest hq
          cases e1.symm.trans hm
          exact ⟨e2, rfl⟩

/-- **on the mixed fragment a tick is its three stages**: what the main stage returns on the layout
the first two leave — a state in the invariant or a crash (layer stack / coordinate range) — is what
the tick returns -/
theorem tick_eq_main {s s1 : Layout} {down : List Coord} (h : MInv s down)
    (e1 : tickOneshot (tickPre s) = .ok (s1, .noEvent)) (i1 : MInv s1 down) : tick s = tickMain s1 := by
  unfold tick
  simp only [h.aq, e1]
  cases hm : tickMain s1 with
  | error c => rfl
  | ok r =>
    obtain ⟨s2, c2⟩ := r
    obtain ⟨i2, rfl⟩ := i1.main s2 c2 hm
    simp only [C04.processExtraWaitings_inert i2.extra, C04.processSequenceCustom_inert i2.states]
    rfl

/-- **one tick keeps the invariant** -/
theorem MInv.step {s : Layout} {down : List Coord} (h : MInv s down) (s' : Layout) (cu : CustomEv)
    (ht : tick s = .ok (s', cu)) : MInv s' down ∧ cu = .noEvent := by
  obtain ⟨s1, e1, i1⟩ := h.pre.1.osh
  exact i1.main s' cu (tick_eq_main h e1 i1 ▸ ht)

end KVerif.C06
