/-
C09 helper lemmas for chords v2, arbitrary tables: the closed form of the loop of `process_presses`
on ANY press list (the undecided prefixes, the completing press, the backtracking arm), and what
`process_presses` returns in each case.
-/
import KVerif.Lemmas.ChordsV2Exact
namespace KVerif.C09
open KVerif.L

/-- a prefix of the press order after which the loop of `process_presses` goes on: some enabled chord
of the table entry still contains every key pressed so far, and if it is the only one it is not yet
complete -/
def Undecided (possible : List ChordV2) (layer : Nat) (pre : List Nat) : Prop :=
  Fk possible layer pre ≠ [] ∧ ∀ x, Fk possible layer pre = [x] → x.keys.all (pre.contains ·) = false

/-- the loop over undecided prefixes activates nothing and ends with the candidates of all presses -/
theorem ppLoop_undecided (possible : List ChordV2) (layer since : Nat) (relFound : Option Nat) (minIdle : Nat)
    (A0 : List ActiveChord) (T0 : Nat) :
    ∀ (rest pre : List Nat) (st : PP), Mid possible layer since A0 T0 pre st →
      (∀ r, r <+: rest → r ≠ [] → Undecided possible layer (pre ++ r)) →
      ∃ st', ppLoop possible layer since relFound minIdle rest st = .ok st' ∧
        Mid possible layer since A0 T0 (pre ++ rest) st' := by
  intro rest
  induction rest with
  | nil => intro pre st hm _; exact ⟨st, rfl, by rw [List.append_nil]; exact hm⟩
  | cons p rest ih =>
    intro pre st hm hu
    have hu1 : Undecided possible layer (pre ++ [p]) :=
      hu [p] (by exact ⟨rest, rfl⟩) (by simp)
    obtain ⟨st1, e1, hm1⟩ := ppStep_mid possible layer since relFound minIdle A0 T0 pre st p hm hu1.1 hu1.2
    obtain ⟨st', e', hm'⟩ := ih (pre ++ [p]) st1 hm1 (by
      intro r hr hne
      have : pre ++ [p] ++ r = pre ++ (p :: r) := by simp
      rw [this]
      refine hu (p :: r) ?_ (by simp)
      obtain ⟨t, ht⟩ := hr
      exact ⟨t, by rw [← ht]; rfl⟩)
    refine ⟨st', by simp only [ppLoop, e1, e'], ?_⟩
    have : pre ++ p :: rest = pre ++ [p] ++ rest := by simp
    rw [this]; exact hm'

theorem processPresses_ok_cases (s s' : ChV2) (layer : Nat) (h : processPresses s layer = .ok s') :
    s' = s ∨ s' = { s with ticksToIgnore := s.cfg.minIdle } ∨ ∃ f, s' = ppStore s f := by
  rcases processPresses_cases s layer with e | e | ⟨_, _, _, _, _, _, _, _, _, e⟩ <;> rw [e] at h <;> cases h
  · exact Or.inl rfl
  · exact Or.inr (Or.inl rfl)
  · exact Or.inr (Or.inr ⟨_, rfl⟩)

/-- `process_presses` touches neither the table nor the two fields the fast path of `drain_inputs` reads -/
theorem processPresses_frame (s s' : ChV2) (layer : Nat) (h : processPresses s layer = .ok s') :
    s'.cfg = s.cfg ∧ s'.prevActiveLayer = s.prevActiveLayer ∧ s'.prevQueueLen = s.prevQueueLen := by
  rcases processPresses_ok_cases s s' layer h with e | e | ⟨f, e⟩ <;> rw [e] <;> exact ⟨rfl, rfl, rfl⟩

theorem ppLoop_undecided_init (s : ChV2) (layer : Nat) (rf : Option Nat) (possible : List ChordV2) (pre : List Nat)
    (hu : ∀ r, r <+: pre → r ≠ [] → Undecided possible layer r) :
    ∃ st, ppLoop possible layer (sinceOf s) rf s.cfg.minIdle pre (ppInit s) = .ok st ∧
      Mid possible layer (sinceOf s) s.active s.ticksToIgnore pre st := by
  have := ppLoop_undecided possible layer (sinceOf s) rf s.cfg.minIdle s.active s.ticksToIgnore pre [] _
    (ppInit_mid possible layer (sinceOf s) s) hu
  rwa [List.nil_append] at this

theorem Mid.cands_of_ne {possible : List ChordV2} {layer since : Nat} {A0 : List ActiveChord} {T0 : Nat} {pre : List Nat} {st : PP}
    (hm : Mid possible layer since A0 T0 pre st) (hne : pre ≠ []) :
    st.cands = (Fk possible layer pre).take SMOL_Q_LEN ∧ st.ticksUntil = minPending (Fk possible layer pre) - since :=
  hm.cands.elim (fun h => absurd h.2.2 hne) fun h => h.2

/-- **waiting**: every non-empty prefix of the queued presses is undecided, the shortest timeout of
the remaining candidates has not run out and no participant was released: `process_presses` only sets
the countdown -/
theorem processPresses_wait {s : ChV2} {layer : Nat} {ps : List Nat} {p1 : Nat} {possible : List ChordV2}
    (hcp : collectPresses s.queue [] = .ok (ps, none)) (hhead : ps.head? = some p1)
    (hget : s.cfg.get p1 = some possible)
    (hu : ∀ r, r <+: ps → r ≠ [] → Undecided possible layer r)
    (htime : sinceOf s < minPending (Fk possible layer ps)) :
    ∃ nc, processPresses s layer =
      .ok { s with ticksUntilChange := minPending (Fk possible layer ps) - sinceOf s, nextCoord := nc } := by
  have hne : ps ≠ [] := by intro h; rw [h] at hhead; cases hhead
  obtain ⟨st, hl, hm⟩ := ppLoop_undecided_init s layer none possible ps hu
  obtain ⟨_, htu⟩ := hm.cands_of_ne hne
  rw [processPresses_loop hcp hhead hget hl, ppFinal_wait _ _ _ _ _ _ (by rw [htu]; omega),
    ppStore_same hm.active, hm.tti, htu]
  exact ⟨_, rfl⟩

theorem ppLoop_append (possible : List ChordV2) (layer since : Nat) (rf : Option Nat) (minIdle : Nat) :
    ∀ (l1 l2 : List Nat) (a b : PP), ppLoop possible layer since rf minIdle l1 a = .ok b →
      ppLoop possible layer since rf minIdle (l1 ++ l2) a = ppLoop possible layer since rf minIdle l2 b := by
  intro l1
  induction l1 with
  | nil => intro l2 a b h; cases h; rfl
  | cons x l1 ih =>
    intro l2 a b h
    simp only [ppLoop, List.cons_append] at h ⊢
    split at h
    · cases h
    · rename_i a' ha'
      exact ih l2 a' b h

theorem ppLoop_stop {possible : List ChordV2} {layer since : Nat} {rf : Option Nat} {minIdle : Nat}
    {pre : List Nat} (rest : List Nat) {p : Nat} {st0 st1 st2 : PP}
    (h1 : ppLoop possible layer since rf minIdle pre st0 = .ok st1)
    (h2 : ppStep possible layer since rf minIdle st1 p = .ok st2) (hd : st2.done = true) :
    ppLoop possible layer since rf minIdle (pre ++ p :: rest) st0 = .ok st2 := by
  rw [ppLoop_append possible layer since rf minIdle pre (p :: rest) _ _ h1]
  simp only [ppLoop, h2]
  exact ppLoop_done possible layer since rf minIdle rest st2 hd

/-- **backtracking**: the presses `acc` are undecided at every non-empty prefix and the next press `p`
leaves no candidate -/
theorem processPresses_backtrack {s : ChV2} {layer : Nat} {ps acc rest : List Nat} {p p1 : Nat} {rf : Option Nat}
    {possible : List ChordV2}
    (hcp : collectPresses s.queue [] = .ok (ps, rf)) (hhead : ps.head? = some p1)
    (hget : s.cfg.get p1 = some possible) (hps : ps = acc ++ p :: rest)
    (hu : ∀ r, r <+: acc → r ≠ [] → Undecided possible layer r)
    (hF : Fk possible layer (acc ++ [p]) = [])
    (hroom : s.active.length < ACTIVE_CHORDS_CAP) :
    ∃ s', processPresses s layer = .ok s' ∧
      match (possible.filter (enabledOn layer)).find? (exactMatch acc) with
      | some cch => ∃ coord, s'.active = s.active ++ [getActiveChord cch (sinceOf s) coord rf] ∧
          s'.queue = ppRetain s.queue acc ∧ s'.ticksToIgnore = s.ticksToIgnore
      | none => s'.active = s.active ∧ s'.queue = s.queue ∧ s'.ticksToIgnore = s.cfg.minIdle := by
  obtain ⟨st1, hl1, hm1⟩ := ppLoop_undecided_init s layer rf possible acc hu
  obtain ⟨st2, hs2, hd2, hacc2, hc2, hres⟩ := ppStep_backtrack possible layer (sinceOf s) rf s.cfg.minIdle
    s.active s.ticksToIgnore acc st1 p hm1 hF hroom
  rw [processPresses_loop hcp hhead hget (hps ▸ ppLoop_stop rest hl1 hs2 hd2)]
  cases hfind : (possible.filter (enabledOn layer)).find? (exactMatch acc) with
  | some cch =>
    rw [hfind] at hres
    obtain ⟨hact, htti⟩ := hres
    rw [ppFinal_grown _ _ _ _ _ _ _ (by rw [hact, List.length_append]; exact Nat.succ_ne_self _),
      ppStore_grown hact, hacc2]
    exact ⟨_, rfl, _, rfl, rfl, htti⟩
  | none =>
    rw [hfind] at hres
    obtain ⟨hact, htti⟩ := hres
    -- the block after the loop may run (no candidate is left, so it finds no chord): the cool-down either way
    have hfinal : (ppFinal possible layer (sinceOf s) rf s.cfg.minIdle s.active.length st2).active = s.active ∧
        (ppFinal possible layer (sinceOf s) rf s.cfg.minIdle s.active.length st2).ticksToIgnore = s.cfg.minIdle := by
      unfold ppFinal
      split
      · have hpool : (if st2.cands.length ≥ SMOL_Q_LEN then possible else st2.cands) = [] := by
          rw [hc2]; rfl
        simp only [hpool, List.filter_nil, List.find?_nil]
        exact ⟨hact, trivial⟩
      · exact ⟨hact, htti⟩
    rw [ppStore_same hfinal.1]
    exact ⟨_, rfl, rfl, rfl, hfinal.2⟩

/-- the first enabled chord with exactly the given key set, looked up in the whole table entry or in
the candidates that contain all those keys: the same chord -/
theorem find_exact_Fk (possible : List ChordV2) (layer : Nat) (ps : List Nat) :
    (Fk possible layer ps).find? (exactMatch ps) = (possible.filter (enabledOn layer)).find? (exactMatch ps) := by
  unfold Fk
  rw [List.find?_filter, List.find?_filter]
  congr 1
  funext c
  unfold exactMatch
  cases enabledOn layer c <;> cases ps.all (c.keys.contains ·) <;> rfl

/-- **resolution**: every non-empty prefix of the queued presses is undecided and the window has
closed (shortest timeout of the remaining candidates run out, or a participant released): the first
enabled chord with exactly the pressed key set is activated, else the cool-down starts -/
theorem processPresses_resolve {s : ChV2} {layer : Nat} {ps : List Nat} {p1 : Nat} {rf : Option Nat} {possible : List ChordV2}
    (hcp : collectPresses s.queue [] = .ok (ps, rf)) (hhead : ps.head? = some p1)
    (hget : s.cfg.get p1 = some possible)
    (hu : ∀ r, r <+: ps → r ≠ [] → Undecided possible layer r)
    (hclosed : minPending (Fk possible layer ps) ≤ sinceOf s ∨ rf.isSome = true)
    (hroom : s.active.length < ACTIVE_CHORDS_CAP) :
    ∃ s', processPresses s layer = .ok s' ∧
      match (possible.filter (enabledOn layer)).find? (exactMatch ps) with
      | some cch => ∃ coord, s'.active = s.active ++ [getActiveChord cch (sinceOf s) coord rf] ∧
          s'.queue = ppRetain s.queue ps ∧ s'.ticksToIgnore = s.ticksToIgnore
      | none => s'.active = s.active ∧ s'.queue = s.queue ∧ s'.ticksToIgnore = s.cfg.minIdle := by
  have hne : ps ≠ [] := by intro h; rw [h] at hhead; cases hhead
  obtain ⟨st, hl, hm⟩ := ppLoop_undecided_init s layer rf possible ps hu
  obtain ⟨hcands, htu⟩ := hm.cands_of_ne hne
  have hpp := processPresses_loop hcp hhead hget hl
  rw [← hm.active] at hpp
  have hc : st.ticksUntil = 0 ∨ rf.isSome = true := hclosed.imp_left (by rw [htu]; omega)
  -- with more than 16 candidates the whole table entry is searched, else the stored candidates: the same find
  have hpool : ((if st.cands.length ≥ SMOL_Q_LEN then possible else st.cands).filter (enabledOn layer)).find? (exactMatch st.acc) =
      (possible.filter (enabledOn layer)).find? (exactMatch ps) := by
    rw [hm.acc]
    split
    · rfl
    · rename_i hlen
      rw [hcands] at hlen ⊢
      have hle : (Fk possible layer ps).length ≤ SMOL_Q_LEN := by
        rw [List.length_take] at hlen; omega
      have hfe : (Fk possible layer ps).filter (enabledOn layer) = Fk possible layer ps :=
        List.filter_eq_self.mpr fun c hc => (mem_Fk.mp hc).2.1
      rw [List.take_of_length_le hle, hfe, find_exact_Fk]
  cases hfind : (possible.filter (enabledOn layer)).find? (exactMatch ps) with
  | some cch =>
    rw [ppFinal_closed possible layer (sinceOf s) rf s.cfg.minIdle st cch hc (hpool.trans hfind) (hm.active ▸ hroom),
      ppStore_grown (congrArg (· ++ _) hm.active)] at hpp
    exact ⟨_, hpp, _, rfl, by rw [hm.acc], hm.tti⟩
  | none =>
    rw [ppFinal_closed_none possible layer (sinceOf s) rf s.cfg.minIdle st hc (hpool.trans hfind),
      ppStore_same (st := { st with ticksToIgnore := s.cfg.minIdle }) hm.active] at hpp
    exact ⟨_, hpp, rfl, rfl, rfl⟩

/-- **completion inside the press list**: the presses `pre` are undecided at every non-empty prefix
and with the next press `p` exactly one candidate is left and it is complete: it is activated at once,
whatever the timeouts and whatever follows in the queue -/
theorem processPresses_complete {s : ChV2} {layer : Nat} {ps pre rest : List Nat} {p p1 : Nat} {rf : Option Nat}
    {possible : List ChordV2} {x : ChordV2}
    (hcp : collectPresses s.queue [] = .ok (ps, rf)) (hhead : ps.head? = some p1)
    (hget : s.cfg.get p1 = some possible) (hps : ps = pre ++ p :: rest)
    (hu : ∀ r, r <+: pre → r ≠ [] → Undecided possible layer r)
    (hF : Fk possible layer (pre ++ [p]) = [x]) (hcomp : x.keys.all ((pre ++ [p]).contains ·) = true)
    (hroom : s.active.length < ACTIVE_CHORDS_CAP) :
    ∃ s' coord, processPresses s layer = .ok s' ∧
      s'.active = s.active ++ [getActiveChord x (sinceOf s) coord rf] ∧
      s'.queue = ppRetain s.queue (pre ++ [p]) ∧ s'.ticksToIgnore = s.ticksToIgnore := by
  obtain ⟨st1, hl1, hm1⟩ := ppLoop_undecided_init s layer rf possible pre hu
  obtain ⟨st2, hs2, hd2, hacc2, htti2, _, hact2⟩ := ppStep_complete possible layer (sinceOf s) rf s.cfg.minIdle
    s.active s.ticksToIgnore pre st1 p x hm1 hF hcomp hroom
  rw [processPresses_loop hcp hhead hget (hps ▸ ppLoop_stop rest hl1 hs2 hd2),
    ppFinal_grown _ _ _ _ _ _ _ (by rw [hact2, List.length_append]; exact Nat.succ_ne_self _),
    ppStore_grown hact2, hacc2]
  exact ⟨_, _, rfl, rfl, rfl, htti2⟩

theorem decided_or_not_aux (possible : List ChordV2) (layer : Nat) :
    ∀ (rest pre : List Nat), (∀ r, r <+: pre → r ≠ [] → Undecided possible layer r) →
    (∀ r, r <+: pre ++ rest → r ≠ [] → Undecided possible layer r) ∨
    ∃ acc p rest', pre ++ rest = acc ++ p :: rest' ∧ (∀ r, r <+: acc → r ≠ [] → Undecided possible layer r) ∧
      ¬ Undecided possible layer (acc ++ [p]) := by
  intro rest
  induction rest with
  | nil => intro pre h; left; rw [List.append_nil]; exact h
  | cons a rest ih =>
    intro pre h
    by_cases hd : Undecided possible layer (pre ++ [a])
    · have h' : ∀ r, r <+: pre ++ [a] → r ≠ [] → Undecided possible layer r := by
        intro r hr hne
        rcases List.prefix_concat_iff.mp hr with e | h'
        · rw [e]; exact hd
        · exact h r h' hne
      have e : pre ++ a :: rest = pre ++ [a] ++ rest := by simp
      rw [e]
      exact ih (pre ++ [a]) h'
    · right; exact ⟨pre, a, rest, rfl, h, hd⟩

/-- every press list either stays undecided to its end or has a first decided prefix -/
theorem decided_or_not (possible : List ChordV2) (layer : Nat) (ps : List Nat) :
    (∀ r, r <+: ps → r ≠ [] → Undecided possible layer r) ∨
    ∃ acc p rest, ps = acc ++ p :: rest ∧ (∀ r, r <+: acc → r ≠ [] → Undecided possible layer r) ∧
      ¬ Undecided possible layer (acc ++ [p]) :=
  decided_or_not_aux possible layer ps [] fun _ hr hne => absurd (List.prefix_nil.mp hr) hne

theorem not_undecided (possible : List ChordV2) (layer : Nat) (q : List Nat) (h : ¬ Undecided possible layer q) :
    Fk possible layer q = [] ∨ ∃ x, Fk possible layer q = [x] ∧ x.keys.all (q.contains ·) = true := by
  match hF : Fk possible layer q with
  | [] => exact Or.inl rfl
  | [x] =>
    cases hx : x.keys.all (q.contains ·) with
    | true => exact Or.inr ⟨x, rfl, hx⟩
    | false => exact absurd ⟨by rw [hF]; exact List.cons_ne_nil _ _, fun y hy => by rw [hF] at hy; cases hy; exact hx⟩ h
  | x :: y :: l => exact absurd ⟨by rw [hF]; exact List.cons_ne_nil _ _, fun z hz => by rw [hF] at hz; cases hz⟩ h

/-- the key set of an enabled chord contains every candidate-free extension: once no enabled chord
contains all of `acc ++ [p]`, no longer prefix of the press order is the key set of an enabled chord -/
theorem no_longer_prefix (possible : List ChordV2) (layer : Nat) (acc rest : List Nat) (p : Nat)
    (hF : Fk possible layer (acc ++ [p]) = []) (r : List Nat) (hr : r <+: acc ++ p :: rest)
    (hlen : acc.length < r.length) :
    ¬ ∃ c ∈ possible, enabledOn layer c = true ∧ exactMatch r c = true := by
  rintro ⟨c, hc, hen, hex⟩
  have hpre : acc ++ [p] <+: r := by
    have h1 : acc ++ [p] <+: acc ++ p :: rest := ⟨rest, by simp⟩
    exact List.prefix_of_prefix_length_le h1 hr (by simp; omega)
  have : c ∈ Fk possible layer (acc ++ [p]) := by
    rw [mem_Fk]
    refine ⟨hc, hen, ?_⟩
    simp only [exactMatch, Bool.and_eq_true] at hex
    rw [List.all_eq_true] at hex ⊢
    intro k hk
    exact hex.1 k (hpre.subset hk)
  rw [hF] at this
  cases this

/-- the proper non-empty prefixes of the keys of a chord are undecided -/
theorem undecided_of_chord (possible : List ChordV2) (layer : Nat) (ps : List Nat) (C : ChordV2)
    (hnd : ps.Nodup) (hC : C ∈ possible) (hen : enabledOn layer C = true) (hex : exactMatch ps C = true)
    (r : List Nat) (hr : r <+: ps) (hlt : r.length < ps.length) :
    Undecided possible layer r := by
  have hsub : ps.all (C.keys.contains ·) = true := by
    simp only [exactMatch, Bool.and_eq_true] at hex; exact hex.1
  have hCin : C ∈ Fk possible layer r := by
    rw [mem_Fk]
    refine ⟨hC, hen, ?_⟩
    rw [List.all_eq_true] at hsub ⊢
    intro k hk
    exact hsub k (hr.subset hk)
  refine ⟨List.ne_nil_of_mem hCin, ?_⟩
  intro x hx
  have hxC : C = x := by rw [hx] at hCin; simpa using hCin
  subst hxC
  obtain ⟨t, ht⟩ := hr
  have htne : t ≠ [] := by
    intro h; rw [h, List.append_nil] at ht; rw [ht] at hlt; omega
  obtain ⟨q, hq⟩ := List.exists_mem_of_ne_nil _ htne
  have hqps : q ∈ ps := by rw [← ht]; exact List.mem_append_right _ hq
  have hqC : C.keys.contains q = true := (List.all_eq_true.mp hsub) q hqps
  have hqn : q ∉ r := by
    intro hmem
    rw [← ht] at hnd
    exact (List.nodup_append.mp hnd).2.2 q hmem q hq rfl
  cases hall : C.keys.all (r.contains ·) with
  | false => rfl
  | true =>
    exfalso
    have := (List.all_eq_true.mp hall) q (by simpa using hqC)
    exact hqn (by simpa using this)

theorem undecided_prefixes_of_chord (possible : List ChordV2) (layer : Nat) (ps : List Nat) (C : ChordV2)
    (hnd : ps.Nodup) (hC : C ∈ possible) (hen : enabledOn layer C = true) (hex : exactMatch ps C = true)
    (h2 : 2 ≤ (Fk possible layer ps).length) :
    ∀ r, r <+: ps → r ≠ [] → Undecided possible layer r := by
  intro r hr _
  by_cases hl : r.length < ps.length
  · exact undecided_of_chord possible layer ps C hnd hC hen hex r hr hl
  · have : r = ps := hr.eq_of_length_le (by omega)
    subst this
    exact ⟨fun h => by rw [h] at h2; simp at h2, fun x h => by rw [h] at h2; simp at h2⟩

end KVerif.C09
