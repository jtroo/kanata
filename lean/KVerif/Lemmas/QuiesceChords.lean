/-
C01 helper lemmas: quiescence on the chords-v1 fragment (C09): plain keys, output chords,
layer-while-held, transparent / unmapped positions, and `defchords` keys — any number of groups, any
timeout — whose chord actions are a key, an output chord or layer-while-held.

While a chord is undecided nothing is taken from the queue, so `extra_waiting` stays empty.  A decided
chord performs its action at the chord's coordinate and again at every participating coordinate; the
participating presses leave the queue without being dequeued.  An undefined key set is decomposed into
the action queue, which the following ticks drain one action per tick (and do nothing else).  Every
coordinate an action is performed at is that of the first key, of a queued event of the group, or of a
participating press: the key is down or its release is still queued — releases are never removed — so
every state is released again (`CInv.owned`).
-/
import KVerif.Lemmas.QuiesceTapDance
import KVerif.Lemmas.ChordLayout
namespace KVerif.Quiesce
open KVerif.L KVerif.C06

/-! ## the fragment -/

def FragC : Action → Prop
  | .noOp | .trans | .keyCode _ | .multipleKeyCodes _ | .layer _ => True
  | .chords _ chs _ => ∀ e ∈ chs, Simple e.2
  | _ => False

def CfgC (c : LCfg) : Prop :=
  (∀ tbl ∈ c.layers, ∀ e ∈ tbl, FragC e.2) ∧ (∀ e ∈ c.srcKeys, FragC e.2)

/-- the timeout of a chords action -/
def chT : Action → Nat
  | .chords _ _ T => T
  | _ => 0

def maxChordTimeout (c : LCfg) : Nat :=
  max (listMax (c.layers.map fun tbl => listMax (tbl.map fun e => chT e.2)))
      (listMax (c.srcKeys.map fun e => chT e.2))

/-- every chord timeout of the configuration is at most `T` -/
def CBound (c : LCfg) (T : Nat) : Prop :=
  (∀ tbl ∈ c.layers, ∀ e ∈ tbl, chT e.2 ≤ T) ∧ (∀ e ∈ c.srcKeys, chT e.2 ≤ T)

theorem cBound_max (c : LCfg) : CBound c (maxChordTimeout c) := le_max_actions chT c

def ActSafeC (L : Nat) : Action → Prop
  | .layer v => v < L
  | .chords _ chs _ => ∀ e ∈ chs, SimpleSafe L e.2
  | _ => True

structure CfgSafeC (c : LCfg) : Prop where
  pinned : c.pinnedLayerStack = false
  layers : 0 < c.layers.length
  refsL : ∀ tbl ∈ c.layers, ∀ e ∈ tbl, ActSafeC c.layers.length e.2
  refsS : ∀ e ∈ c.srcKeys, ActSafeC c.layers.length e.2 ∧ e.2 ≠ .trans

structure SafeC (s : Layout) : Prop where
  cfg : CfgSafeC s.cfg
  dl : s.defaultLayer < s.cfg.layers.length
  held : ∀ st ∈ s.states, ∀ v, st.getLayer = some v → v < s.cfg.layers.length
  queue : ∀ q ∈ s.queue, ∀ c, q.ev = .press c → CoordOK s.cfg c

/-- a pending chord of the fragment -/
structure CWOK (T L : Nat) (w : Waiting) : Prop where
  cfg : ∃ g, w.config = .chord g ∧ ∀ e ∈ g.chords, SimpleOK L e.2
  timeout : w.timeout ≤ T

/-! ## what a press does on the fragment -/

/-- the outcome of a press on the fragment -/
structure PressC (T : Nat) (c : Coord) (s s' : Layout) : Prop where
  frame : FrameH s s'
  adds : Adds c s s'
  lpt : s'.lptTapHoldTimeout ≤ s.lptTapHoldTimeout
  grows : GrowsL s.cfg.layers.length s.states s'.states
  waiting : s'.waiting = none ∨ ∃ w, s'.waiting = some w ∧ w.coord = c ∧ CWOK T s.cfg.layers.length w

theorem PressC.after_prelude {T : Nat} {c : Coord} {s s' : Layout} (h : PressC T c (prelude s c) s') :
    PressC T c s s' := by
  obtain ⟨pf, pa, _, pl, pg⟩ := prelude_frameH s c
  obtain ⟨f, a, l, g, w⟩ := h
  rw [pf.cfg] at g w
  exact ⟨pf.trans f, pa.trans a, Nat.le_trans l pl, (pg _).trans g, w⟩

theorem ActSafeC.simple {L : Nat} {a : Action} (h : ActSafeC L a) : SimpleSafe L a := fun v hv => by
  subst hv; exact h

theorem dispatch_C (fuel T : Nat) (s : Layout) (a : Action) (hf : FragC a) (hb : chT a ≤ T) (hnt : a ≠ .trans)
    (hs : ActSafeC s.cfg.layers.length a) (c : Coord) (dl : Nat) (ls : List Nat)
    (hls : ls.length ≤ MAX_ACTIVE_LAYERS) (hw : s.waiting = none) (hk : s.oneshot.keys = []) :
    ∃ s', dispatch (fuel + 3) s a c dl false ls = .ok (s', .noEvent) ∧ PressC T c s s' := by
  have plain : a = .noOp ∨ Simple a → ∃ s', dispatch (fuel + 3) s a c dl false ls = .ok (s', .noEvent) ∧ PressC T c s s' :=
    fun ha =>
      let ⟨s', e, f, ad, w, l, g⟩ := dispatch_plain (fuel + 2) s ha c dl ls hk
      ⟨s', e, f, ad, Nat.le_of_eq l, g _ hs.simple, Or.inl (w.trans hw)⟩
  cases a <;> simp only [FragC] at hf
  case noOp => exact plain (.inl rfl)
  case trans => exact absurd rfl hnt
  case chords coords chs T' =>
    simp only [chT] at hb
    simp only [ActSafeC] at hs
    obtain ⟨e1, e2, e3, e4, e5⟩ := armWait_spec s c dl T' (.chord ⟨coords, chs, T'⟩) ls
    refine ⟨armWait s c dl T' (.chord ⟨coords, chs, T'⟩) ls, ?_,
      ⟨e2.extra, e5, e2.aq, e2.seqs, e2.cfg, e2.dl, e2.queue, e2.osh⟩, Adds.of_states e3, Nat.le_of_eq e4,
      by rw [e3]; exact GrowsL.refl _ _,
      Or.inr ⟨_, e1, rfl, ⟨⟨coords, chs, T'⟩, rfl, fun e he => ⟨hf e he, hs e he⟩⟩, hb⟩⟩
    simp only [dispatch]
    rw [if_neg (Nat.not_lt.mpr hls)]
  all_goals exact plain (.inr trivial)

/-- **a press taken from the queue, nothing waiting, no eager tap-dance state** -/
theorem dequeue_press_C {T : Nat} {s : Layout} (hc : CfgC s.cfg) (hb : CBound s.cfg T) (hS : SafeC s)
    (hw : s.waiting = none) (hk : s.oneshot.keys = []) (htde : s.tapDanceEager = none) (c : Coord)
    (hco : CoordOK s.cfg c) (since : Nat) :
    ∃ s', dequeue FUEL s ⟨.press c, since⟩ = .ok (s', .noEvent) ∧ PressC T c s s' := by
  obtain ⟨order, ho, hol, hlen⟩ := transOrder_safe s hS.cfg.pinned hS.dl hS.cfg.layers hS.held
  obtain ⟨a, ls, hr, hP, hnt, hls⟩ := resolve_safe (fun a => FragC a ∧ chT a ≤ T ∧ ActSafeC s.cfg.layers.length a)
    ⟨trivial, Nat.zero_le _, trivial⟩ ⟨trivial, Nat.zero_le _, trivial⟩ hco
    (fun tbl ht e he => ⟨hc.1 tbl ht e he, hb.1 tbl ht e he, hS.cfg.refsL tbl ht e he⟩)
    (fun e he => ⟨⟨hc.2 e he, hb.2 e he, (hS.cfg.refsS e he).1⟩, (hS.cfg.refsS e he).2⟩) hol
  obtain ⟨p1, p2, p3, p4⟩ := prelude_spec s c
  have hcfg := p1.cfg
  obtain ⟨s', e1, r⟩ := dispatch_C 3995 T (prelude s c) a hP.1 hP.2.1 hnt (by rw [hcfg]; exact hP.2.2) c since ls
    (Nat.le_trans hls hlen) (p1.waiting.trans hw) (by rw [p2]; exact hk)
  refine ⟨s', ?_, r.after_prelude⟩
  rw [FUEL_5]
  simp only [dequeue, htde, bind, Except.bind, ho, doAction, hr]
  exact e1

/-! ## the queue: releases are never removed -/

/-- the key at `c` is down or its release is queued -/
def OwnedQ (down : List Coord) (q : List Queued) (c : Coord) : Prop := c ∈ down ∨ ∃ x ∈ q, x.ev = .release c

theorem OwnedQ.mono {down : List Coord} {q q' : List Queued} {c : Coord}
    (h : ∀ x ∈ q, x.ev.isPress = false → x ∈ q') (ho : OwnedQ down q c) : OwnedQ down q' c := by
  rcases ho with g | ⟨x, hx, hxe⟩
  · exact Or.inl g
  · exact Or.inr ⟨x, h x hx (by rw [hxe]; rfl), hxe⟩

/-- the coordinate of every queued event is that of a key that is down or whose release is queued -/
theorem QWF_event_owned {down : List Coord} : ∀ (q : List Queued), QWF down q → ∀ s ∈ q, OwnedQ down q s.ev.coord := by
  intro q
  induction q with
  | nil => intro _ s hs; cases hs
  | cons x rest ih =>
    intro hq s hs
    rcases List.mem_cons.mp hs with rfl | hs
    · have h1 := hq.1
      cases hx : s.ev with
      | press c =>
        simp only [hx] at h1
        rcases h1 with h1 | ⟨y, hy, hye⟩
        · exact Or.inl h1
        · exact Or.inr ⟨y, List.mem_cons_of_mem _ hy, hye⟩
      | release c => exact Or.inr ⟨s, List.mem_cons_self, hx⟩
    · rcases ih hq.2 s hs with g | ⟨y, hy, hye⟩
      · exact Or.inl g
      · exact Or.inr ⟨y, List.mem_cons_of_mem _ hy, hye⟩

/-- removing presses from the front part of the queue keeps it well-formed -/
theorem QWF_filter_append {down : List Coord} (p : Queued → Bool) (hp : ∀ x, x.ev.isPress = false → p x = true) :
    ∀ (a b : List Queued), QWF down (a ++ b) → QWF down (a.filter p ++ b) := by
  intro a
  induction a with
  | nil => intro b h; exact h
  | cons x rest ih =>
    intro b h
    simp only [List.cons_append] at h
    have hr := ih b h.2
    simp only [List.filter_cons]
    split
    · simp only [List.cons_append]
      refine ⟨?_, hr⟩
      have h1 := h.1
      cases hx : x.ev with
      | press c =>
        simp only [hx] at h1 ⊢
        rcases h1 with h1 | ⟨y, hy, hye⟩
        · exact Or.inl h1
        · refine Or.inr ⟨y, ?_, hye⟩
          rcases List.mem_append.mp hy with hy | hy
          · exact List.mem_append_left _ (List.mem_filter.mpr ⟨hy, hp y (by rw [hye]; rfl)⟩)
          · exact List.mem_append_right _ hy
      | release c => trivial
    · exact hr

theorem chordPress_isPress {w : Waiting} {g : ChordsGroup} {x : Queued} (h : x.ev.isPress = false) :
    (!C09.chordPress w g x) = true := by
  simp [C09.chordPress, h]

/-- what a decided chord leaves in the queue: still well-formed, every release still there -/
theorem keptQueue_spec {down : List Coord} (w : Waiting) (g : ChordsGroup) (q : List Queued) (h : QWF down q) :
    QWF down (C09.keptQueue w g q) ∧ (C09.keptQueue w g q).Sublist q ∧
    (∀ x ∈ q, x.ev.isPress = false → x ∈ C09.keptQueue w g q) := by
  refine ⟨?_, ?_, ?_⟩
  · unfold C09.keptQueue
    apply QWF_filter_append _ (fun x hx => chordPress_isPress hx)
    rw [C09.scan_append]; exact h
  · conv => rhs; rw [← C09.scan_append w g q]
    exact List.Sublist.append List.filter_sublist (List.Sublist.refl _)
  · intro x hx hpr
    have hx' : x ∈ C09.scanPre w g q ++ C09.scanRest w g q := by rw [C09.scan_append]; exact hx
    unfold C09.keptQueue
    rcases List.mem_append.mp hx' with h1 | h1
    · exact List.mem_append_left _ (List.mem_filter.mpr ⟨h1, chordPress_isPress hpr⟩)
    · exact List.mem_append_right _ h1

/-! ## the decomposition into the action queue -/

theorem mem_pushBackWrap {α} {cap : Nat} {l : List α} {x y : α} (h : y ∈ (pushBackWrap cap l x).1) : y ∈ l ∨ y = x := by
  unfold pushBackWrap at h
  split at h
  · rcases List.mem_append.mp h with h | h
    · exact Or.inl h
    · exact Or.inr (by simpa using h)
  · cases l with
    | nil => cases h
    | cons a t =>
      simp only at h
      rcases List.mem_append.mp h with h | h
      · exact Or.inl (List.mem_cons_of_mem _ h)
      · exact Or.inr (by simpa using h)

theorem length_pushBackWrap_le {α} {cap : Nat} {l : List α} (x : α) (h : l.length ≤ cap) :
    (pushBackWrap cap l x).1.length ≤ cap := by
  unfold pushBackWrap
  split
  · rename_i hlt
    rw [List.length_append]
    exact hlt
  · cases l with
    | nil => exact Nat.zero_le _
    | cons a t =>
      simp only [List.length_append, List.length_cons, List.length_nil] at h ⊢
      exact h

theorem pushAll_spec : ∀ (es : List (Coord × Nat × Action)) (aq : ActionQueue), aq.length ≤ ACTION_QUEUE_LEN →
    (C09.pushAll aq es).length ≤ ACTION_QUEUE_LEN ∧ ∀ y ∈ C09.pushAll aq es, y ∈ aq ∨ y ∈ es := by
  intro es
  induction es with
  | nil => intro aq h; exact ⟨h, fun y hy => Or.inl hy⟩
  | cons e rest ih =>
    intro aq h
    obtain ⟨i1, i2⟩ := ih (pushBackWrap ACTION_QUEUE_LEN aq e).1 (length_pushBackWrap_le e h)
    refine ⟨i1, fun y hy => ?_⟩
    rcases i2 y hy with g | g
    · rcases mem_pushBackWrap g with g | g
      · exact Or.inl g
      · exact Or.inr (g ▸ List.mem_cons_self)
    · exact Or.inr (List.mem_cons_of_mem _ g)

/-- every run the greedy loop pushes is a defined chord -/
theorem segs_defined (g : ChordsGroup) (keys : List Nat) : ∀ (fuel start : Nat),
    ∀ seg ∈ C09.segs g keys fuel start, ∃ m, g.getChord m = some seg.2.2 := by
  intro fuel
  induction fuel with
  | zero => intro start seg h; cases h
  | succ fuel ih =>
    intro start seg h
    simp only [C09.segs] at h
    split at h
    · split at h
      · rename_i a hc
        rcases List.mem_cons.mp h with rfl | h
        · exact ⟨_, hc⟩
        · exact ih _ seg h
      · have hsp := C09.shrinkEnd_spec g keys start (keys.length - 1)
        split at h
        · rename_i e a hs
          rw [hs] at hsp
          rcases List.mem_cons.mp h with rfl | h
          · exact ⟨_, hsp.2.2.1⟩
          · exact ih _ seg h
        · exact ih _ seg h
    · cases h

theorem coordForChord_mem (w : Waiting) (g : ChordsGroup) (dflt : Coord) (q : List Queued) (mask : Nat) :
    coordForChord w g dflt q mask = dflt ∨ coordForChord w g dflt q mask = w.coord ∨
      ∃ x ∈ q, coordForChord w g dflt q mask = x.ev.coord := by
  unfold coordForChord
  split
  · exact Or.inl rfl
  · split
    · exact Or.inr (Or.inl rfl)
    · split
      · rename_i x hf
        exact Or.inr (Or.inr ⟨x, List.mem_of_find?_eq_some hf, rfl⟩)
      · exact Or.inl rfl

theorem releasedBy_mem (g : ChordsGroup) (l : List Queued) (c : Coord) (h : C09.releasedBy g l = some c) :
    ∃ x ∈ l, c = x.ev.coord := by
  cases l with
  | nil => cases h
  | cons s rest =>
    simp only [C09.releasedBy] at h
    split at h
    · injection h with h; exact ⟨s, List.mem_cons_self, h.symm⟩
    · cases h

theorem scanRest_subset (w : Waiting) (g : ChordsGroup) (q : List Queued) : ∀ x ∈ C09.scanRest w g q, x ∈ q := by
  intro x hx
  rw [← C09.scan_append w g q]
  exact List.mem_append_right _ hx

/-- **what the decomposition queues**: at most 8 entries in all; every new entry carries a defined
chord's action and the coordinate of the first key or of a queued event -/
theorem decomposeChord_spec (w : Waiting) (g : ChordsGroup) (q : List Queued) (aq : ActionQueue)
    (h : aq.length ≤ ACTION_QUEUE_LEN) :
    (decomposeChord w g q aq).length ≤ ACTION_QUEUE_LEN ∧
    ∀ y ∈ decomposeChord w g q aq, y ∈ aq ∨
      ((∃ m, g.getChord m = some y.2.2) ∧ (y.1 = w.coord ∨ ∃ x ∈ q, y.1 = x.ev.coord)) := by
  unfold decomposeChord
  simp only [C09.decomposeFold_closed]
  rw [C09.decomposeLoop_eq]
  obtain ⟨p1, p2⟩ := pushAll_spec _ aq h
  refine ⟨p1, fun y hy => ?_⟩
  rcases p2 y hy with g1 | g1
  · exact Or.inl g1
  · right
    obtain ⟨seg, hseg, rfl⟩ := List.mem_map.mp g1
    refine ⟨segs_defined g _ _ _ seg hseg, ?_⟩
    have hdf : (C09.releasedBy g (C09.scanRest w g q)).getD w.coord = w.coord ∨
        ∃ x ∈ q, (C09.releasedBy g (C09.scanRest w g q)).getD w.coord = x.ev.coord := by
      cases hr : C09.releasedBy g (C09.scanRest w g q) with
      | none => exact Or.inl rfl
      | some c =>
        obtain ⟨x, hx, hxe⟩ := releasedBy_mem g _ c hr
        exact Or.inr ⟨x, scanRest_subset w g q x hx, hxe⟩
    show coordForChord w g _ q _ = w.coord ∨ ∃ x ∈ q, coordForChord w g _ q _ = x.ev.coord
    rcases coordForChord_mem w g ((C09.releasedBy g (C09.scanRest w g q)).getD w.coord) q
      (C09.orSeg _ seg.1 seg.2.1) with g2 | g2 | g2
    · rw [g2]; exact hdf
    · exact Or.inl g2
    · exact Or.inr g2

/-! ## a chord's action, performed at several coordinates -/

/-- how performing simple actions at the coordinates `cs` changes a state -/
structure ActsC (L : Nat) (cs : List Coord) (s s' : Layout) : Prop where
  frame : FrameH s s'
  new : ∀ st ∈ s'.states, st ∈ s.states ∨ ((∃ c ∈ cs, st.coord = some c) ∧ StOK st)
  lpt : s'.lptTapHoldTimeout ≤ s.lptTapHoldTimeout
  grows : GrowsL L s.states s'.states
  waiting : s'.waiting = s.waiting

theorem ActsC.refl (L : Nat) (cs : List Coord) (s : Layout) : ActsC L cs s s :=
  ⟨FrameH.refl s, fun _ h => Or.inl h, Nat.le_refl _, GrowsL.refl _ _, rfl⟩

theorem ActsC.trans {L : Nat} {cs1 cs2 cs : List Coord} {s1 s2 s3 : Layout} (h1 : ActsC L cs1 s1 s2)
    (h2 : ActsC L cs2 s2 s3) (hs1 : ∀ c ∈ cs1, c ∈ cs) (hs2 : ∀ c ∈ cs2, c ∈ cs) : ActsC L cs s1 s3 := by
  refine ⟨h1.frame.trans h2.frame, ?_, Nat.le_trans h2.lpt h1.lpt, h1.grows.trans h2.grows, h2.waiting.trans h1.waiting⟩
  intro st hst
  rcases h2.new st hst with g | ⟨⟨c, hc, hco⟩, hok⟩
  · rcases h1.new st g with g1 | ⟨⟨c, hc, hco⟩, hok⟩
    · exact Or.inl g1
    · exact Or.inr ⟨⟨c, hs1 c hc, hco⟩, hok⟩
  · exact Or.inr ⟨⟨c, hs2 c hc, hco⟩, hok⟩

/-- one simple action at `c` -/
theorem actsC_one (L : Nat) (s : Layout) (a : Action) (hs : Simple a) (hsafe : SimpleSafe L a) (c : Coord)
    (hk : s.oneshot.keys = []) : ActsC L [c] s (simpleArm (prelude s c) a c false) := by
  obtain ⟨f, ad, w, l⟩ := simple_step s a hs c hk
  refine ⟨f, fun st hst => (ad.new st hst).imp_right fun g => ⟨⟨c, List.mem_cons_self, g.1⟩, g.2⟩, l, ?_, w⟩
  refine GrowsL.trans ?_ (simpleArm_growsL L _ a hsafe c false)
  rw [(prelude_spec s c).2.2.2]
  exact GrowsL.filter _ _ _

theorem simple_simpleAction {a : Action} (h : Simple a) : simpleAction a = true := by
  cases a <;> simp only [Simple] at h <;> rfl

/-- `for other_coord in pq { do_action(..) }` for a simple action -/
theorem repeat_simple (L : Nat) (a : Action) (hs : Simple a) (hsafe : SimpleSafe L a) (d : Nat) (ls : List Nat) :
    ∀ (pq : List Coord) (s : Layout), s.oneshot.keys = [] →
    ∃ s', repeatForCoords a d ls pq s = .ok s' ∧ ActsC L pq s s' := by
  intro pq
  induction pq with
  | nil => intro s _; exact ⟨s, rfl, ActsC.refl _ _ _⟩
  | cons c rest ih =>
    intro s hk
    have a1 := actsC_one L s a hs hsafe c hk
    obtain ⟨s', e', a'⟩ := ih (simpleArm (prelude s c) a c false) (by rw [a1.frame.osh]; exact hk)
    refine ⟨s', ?_, a1.trans a' (fun x hx => by
      simp only [List.mem_cons, List.mem_nil_iff, or_false] at hx; subst hx; exact List.mem_cons_self)
      (fun x hx => List.mem_cons_of_mem _ hx)⟩
    simp only [repeatForCoords]
    rw [C17.FUEL_two, doAction_simple 3998 s a hs]
    exact e'

/-- **`waiting_into_tap` for a chord with a simple action**: once at the chord's coordinate, then at
every coordinate of the pressed queue, then the input pause -/
theorem tap_chord (L : Nat) (S : Layout) (w1 : Waiting) (hS : S.waiting = some w1) (ha : Simple w1.tap)
    (hsafe : SimpleSafe L w1.tap) (hk : S.oneshot.keys = []) (pq : List Coord) :
    ∃ s2, waitingIntoTap S (some pq) none = .ok (tapPost s2, .noEvent) ∧ ActsC L (w1.coord :: pq) S.clearWaiting s2 := by
  have a1 := actsC_one L S.clearWaiting w1.tap ha hsafe w1.coord hk
  obtain ⟨s2, e2, a2⟩ := repeat_simple L w1.tap ha hsafe (waitingDelay w1) w1.layerStack pq
    (simpleArm (prelude S.clearWaiting w1.coord) w1.tap w1.coord false) (by rw [a1.frame.osh]; exact hk)
  refine ⟨s2, ?_, a1.trans a2 (fun x hx => by
    simp only [List.mem_cons, List.mem_nil_iff, or_false] at hx; subst hx; exact List.mem_cons_self)
    (fun x hx => List.mem_cons_of_mem _ hx)⟩
  simp only [waitingIntoTap, takeWaiting, hS, Option.map_some]
  rw [C17.FUEL_two, doAction_simple 3998 _ w1.tap ha]
  simp only [chordRepeat, simple_simpleAction ha, if_true, e2]

/-! ## the invariant and the potential -/

structure CInv (T d : Nat) (s : Layout) (down : List Coord) : Prop where
  extra : s.extraWaiting = []
  tde : s.tapDanceEager = none
  seqs : s.activeSequences = []
  states : ∀ st ∈ s.states, StOK st
  osh : s.oneshot.keys = []
  delay : s.oneshot.pauseInputProcessingDelay = d
  pause : s.oneshot.pauseInputProcessingTicks ≤ d
  lpt : s.lptTapHoldTimeout = 0
  cfg : CfgC s.cfg
  bound : CBound s.cfg T
  qlen : s.queue.length ≤ QUEUE_SIZE
  qwf : QWF down s.queue
  /-- **no state is stranded**: every state belongs to a key that is down or whose release is queued -/
  owned : ∀ st ∈ s.states, ∀ c, st.coord = some c → OwnedQ down s.queue c
  /-- the pending chord: of the fragment, input not paused, its first key down or its release queued,
  and no decomposed action outstanding -/
  wok : ∀ w, s.waiting = some w → CWOK T s.cfg.layers.length w ∧ s.oneshot.pauseInputProcessingTicks = 0 ∧
    OwnedQ down s.queue w.coord ∧ s.actionQueue = []
  aqlen : s.actionQueue.length ≤ ACTION_QUEUE_LEN
  /-- the decomposed actions still to perform: chord actions of the fragment, at coordinates of keys
  that are down or whose release is queued -/
  aqok : ∀ e ∈ s.actionQueue, SimpleOK s.cfg.layers.length e.2.2 ∧ OwnedQ down s.queue e.1

theorem init_cinv (cfg : LCfg) (hc : CfgC cfg) (T : Nat) (hb : CBound cfg T) (tv2 dfl qth : Bool) (osd : Nat) :
    CInv T osd ({ cfg := cfg, transV2 := tv2, delegateToFirstLayer := dfl, quickTapHoldTimeout := qth,
                  oneshot := { pauseInputProcessingDelay := osd } } : Layout) [] :=
  ⟨rfl, rfl, rfl, fun _ h => (by cases h), rfl, rfl, Nat.zero_le _, rfl, hc, hb, Nat.zero_le _, trivial,
   fun _ h => (by cases h), fun _ h => (by cases h), Nat.zero_le _, fun _ h => (by cases h)⟩

theorem init_safe_C (cfg : LCfg) (hc : CfgSafeC cfg) (tv2 dfl qth : Bool) (osd : Nat) :
    SafeC ({ cfg := cfg, transV2 := tv2, delegateToFirstLayer := dfl, quickTapHoldTimeout := qth,
             oneshot := { pauseInputProcessingDelay := osd } } : Layout) :=
  ⟨hc, hc.layers, fun _ h => (by cases h), fun _ h => (by cases h)⟩

/-- what the pending chord still costs: its countdown, the decision tick, the input pause after a
chord that fires — or the up to 8 decomposed actions, one per tick -/
def cLoad (d : Nat) : Option Waiting → Nat
  | some w => w.timeout + d + 1 + ACTION_QUEUE_LEN
  | none => 0

/-- an upper bound for the ticks until the layout is at rest: a queued press weighs `T + d + 10` (it
may start a chord), a queued release 1, a queued decomposed action 1 -/
def cPot (T d : Nat) (s : Layout) : Nat :=
  queueLoad (T + d + 8) s.queue + cLoad d s.waiting + s.oneshot.pauseInputProcessingTicks + s.actionQueue.length

section
variable {T d : Nat} {s : Layout} {down : List Coord}

theorem cLoad_none (d : Nat) : cLoad d none = 0 := rfl

theorem cPot_none (hw : s.waiting = none) :
    cPot T d s = queueLoad (T + d + 8) s.queue + s.oneshot.pauseInputProcessingTicks + s.actionQueue.length := by
  unfold cPot; rw [hw]; rfl

theorem cPot_some {w : Waiting} (hw : s.waiting = some w) :
    cPot T d s = queueLoad (T + d + 8) s.queue + (w.timeout + d + 1 + ACTION_QUEUE_LEN) +
      s.oneshot.pauseInputProcessingTicks + s.actionQueue.length := by
  unfold cPot; rw [hw]; rfl

theorem CInv.requeue (h : CInv T d s down) (hS : SafeC s)
    {q : List Queued} (hsub : q.Sublist s.queue) (hrel : ∀ x ∈ s.queue, x.ev.isPress = false → x ∈ q)
    (hwf : QWF down q) {w : Option Waiting} {aq : ActionQueue}
    (hw : w = none ∨ ∃ w', w = some w' ∧ CWOK T s.cfg.layers.length w' ∧
      s.oneshot.pauseInputProcessingTicks = 0 ∧ OwnedQ down q w'.coord ∧ aq = [])
    (hlen : aq.length ≤ ACTION_QUEUE_LEN)
    (hok : ∀ e ∈ aq, e ∈ s.actionQueue ∨ (SimpleOK s.cfg.layers.length e.2.2 ∧ OwnedQ down q e.1)) :
    CInv T d { s with waiting := w, queue := q, actionQueue := aq } down ∧
      SafeC { s with waiting := w, queue := q, actionQueue := aq } ∧
      cPot T d { s with waiting := w, queue := q, actionQueue := aq } =
        queueLoad (T + d + 8) q + cLoad d w + s.oneshot.pauseInputProcessingTicks + aq.length := by
  refine ⟨⟨h.extra, h.tde, h.seqs, h.states, h.osh, h.delay, h.pause, h.lpt, h.cfg, h.bound,
    Nat.le_trans hsub.length_le h.qlen, hwf, fun st hst c hc => (h.owned st hst c hc).mono hrel, ?_, hlen, ?_⟩,
    ⟨hS.cfg, hS.dl, hS.held, fun x hx => hS.queue x (hsub.subset hx)⟩, rfl⟩
  · intro w1 e
    rcases hw with h0 | ⟨w', e', r⟩
    · exact nomatch h0.symm.trans e
    · cases e'.symm.trans e; exact r
  · intro e he
    rcases hok e he with g | g
    · exact ⟨(h.aqok e g).1, (h.aqok e g).2.mono hrel⟩
    · exact g

theorem CInv.perform {s' : Layout} {cs : List Coord} (h : CInv T d s down) (hS : SafeC s)
    (f : FrameH s s') (new : ∀ st ∈ s'.states, st ∈ s.states ∨ ((∃ c ∈ cs, st.coord = some c) ∧ StOK st))
    (lpt : s'.lptTapHoldTimeout ≤ s.lptTapHoldTimeout) (grows : GrowsL s.cfg.layers.length s.states s'.states)
    (hcs : ∀ c ∈ cs, OwnedQ down s.queue c)
    (hw : s'.waiting = s.waiting ∨ (s.oneshot.pauseInputProcessingTicks = 0 ∧ s.actionQueue = [] ∧
      ∃ w, s'.waiting = some w ∧ w.coord ∈ cs ∧ CWOK T s.cfg.layers.length w)) :
    CInv T d s' down ∧ SafeC s' ∧ cPot T d s' = queueLoad (T + d + 8) s.queue + cLoad d s'.waiting +
      s.oneshot.pauseInputProcessingTicks + s.actionQueue.length := by
  obtain ⟨fe, ft, fa, fs, fc, fd, fq, fo⟩ := f
  refine ⟨⟨fe.trans h.extra, ft.trans h.tde, fs.trans h.seqs, fun st hst => (new st hst).elim (h.states st) (·.2),
    fo ▸ h.osh, fo ▸ h.delay, fo ▸ h.pause, Nat.le_zero.mp (h.lpt ▸ lpt), fc ▸ h.cfg, fc ▸ h.bound, fq ▸ h.qlen,
    fq ▸ h.qwf, ?_, ?_, fa ▸ h.aqlen, ?_⟩, ⟨fc ▸ hS.cfg, ?_, ?_, ?_⟩, ?_⟩
  · intro st hst c hc
    rw [fq]
    rcases new st hst with g | ⟨⟨c', hc', e⟩, _⟩
    · exact h.owned st g c hc
    · cases hc.symm.trans e; exact hcs _ hc'
  · intro w e
    rw [fc, fo, fq, fa]
    rcases hw with g | ⟨hp, ha, w', e', hc', ok⟩
    · exact h.wok w (g.symm.trans e)
    · cases e'.symm.trans e; exact ⟨ok, hp, hcs _ hc', ha⟩
  · rw [fa, fc, fq]; exact h.aqok
  · rw [fc, fd]; exact hS.dl
  · intro st hst v hv
    rw [fc]
    exact (grows st hst).elim (fun g => hS.held st g v hv) (fun g => g v hv)
  · rw [fc, fq]; exact hS.queue
  · unfold cPot; rw [fq, fo, fa]

theorem CInv.acts {s' : Layout} {cs : List Coord} (h : CInv T d s down) (hS : SafeC s)
    (a : ActsC s.cfg.layers.length cs s s') (hcs : ∀ c ∈ cs, OwnedQ down s.queue c) :
    CInv T d s' down ∧ SafeC s' ∧ cPot T d s' = cPot T d s := by
  obtain ⟨i, S, P⟩ := h.perform hS a.frame a.new a.lpt a.grows hcs (Or.inl a.waiting)
  exact ⟨i, S, P.trans (by rw [a.waiting]; rfl)⟩

theorem CInv.pause_set (h : CInv T d s down) (hS : SafeC s) (hw : s.waiting = none) {p : Nat} (hp : p ≤ d) :
    CInv T d { s with oneshot := { s.oneshot with pauseInputProcessingTicks := p } } down ∧
      SafeC { s with oneshot := { s.oneshot with pauseInputProcessingTicks := p } } ∧
      cPot T d { s with oneshot := { s.oneshot with pauseInputProcessingTicks := p } } =
        queueLoad (T + d + 8) s.queue + cLoad d s.waiting + p + s.actionQueue.length :=
  ⟨⟨h.extra, h.tde, h.seqs, h.states, h.osh, h.delay, hp, h.lpt, h.cfg, h.bound, h.qlen, h.qwf, h.owned,
    (fun _ e => nomatch hw.symm.trans e), h.aqlen, h.aqok⟩, ⟨hS.cfg, hS.dl, hS.held, hS.queue⟩, rfl⟩

theorem tickPre_C (h : CInv T d s down) :
    tickPre s = { s with queue := age s.queue, lptTapHoldTimeout := s.lptTapHoldTimeout - 1,
                         histKeys := histTick s.histKeys, histInputs := histTick s.histInputs } := by
  unfold tickPre
  simp only [h.tde]
  simp (disch := first | exact h.seqs | exact h.states) only [C04.processSequences_inert]
  rfl

theorem OwnedQ.age {down : List Coord} {q : List Queued} {c : Coord} (h : OwnedQ down q c) : OwnedQ down (age q) c :=
  h.imp_right mem_age_release

theorem CInv.pre (h : CInv T d s down) (hS : SafeC s) :
    CInv T d (tickPre s) down ∧ SafeC (tickPre s) ∧ (tickPre s).queue.length = s.queue.length ∧
    (tickPre s).cfg = s.cfg ∧ (tickPre s).actionQueue = s.actionQueue ∧ cPot T d (tickPre s) = cPot T d s := by
  rw [tickPre_C h]
  refine ⟨⟨h.extra, h.tde, h.seqs, h.states, h.osh, h.delay, h.pause, ?_, h.cfg, h.bound,
    Nat.le_trans (Nat.le_of_eq (age_length _)) h.qlen, QWF_age _ h.qwf, fun st hst c hc => (h.owned st hst c hc).age, ?_, h.aqlen,
    fun e he => ⟨(h.aqok e he).1, (h.aqok e he).2.age⟩⟩, ⟨hS.cfg, hS.dl, hS.held, ?_⟩, age_length _, rfl, rfl, ?_⟩
  · show s.lptTapHoldTimeout - 1 = 0
    rw [h.lpt]
  · intro w hw
    obtain ⟨w1, w2, w3, w4⟩ := h.wok w hw
    exact ⟨w1, w2, w3.age, w4⟩
  · intro q hq' c hc
    obtain ⟨y, hy, rfl⟩ := List.mem_map.mp (show q ∈ age s.queue from hq')
    exact hS.queue y hy c hc
  · show queueLoad (T + d + 8) (age s.queue) + _ + _ + _ = cPot T d s
    rw [queueLoad_age]; rfl

/-! ## the third stage of a tick -/

theorem tickMain_waiting {s : Layout} {w w' : Waiting} {q : List Queued} {aq : ActionQueue}
    {r : Option (WAct × Option (List Coord))} (hw : s.waiting = some w)
    (e : tickWt w s.queue s.actionQueue = .ok (w', q, aq, r)) :
    tickMain s = applyWaitingAction { s with waiting := some w', queue := q, actionQueue := aq } r none .noEvent := by
  unfold tickMain
  simp only [hw, e]

theorem pressedQueue_mem (w : Waiting) (g : ChordsGroup) (q : List Queued) :
    ∀ c ∈ C09.pressedQueue w g q, c = w.coord ∨ ∃ x ∈ q, c = x.ev.coord := by
  intro c hc
  unfold C09.pressedQueue at hc
  rcases List.mem_cons.mp (List.mem_of_mem_take hc) with h | h
  · exact Or.inl h
  · obtain ⟨x, hx, hxe⟩ := List.mem_map.mp h
    unfold C09.participants at hx
    have hx1 : x ∈ C09.scanPre w g q := (List.mem_filter.mp hx).1
    have hx2 : x ∈ q := by
      rw [← C09.scan_append w g q]; exact List.mem_append_left _ hx1
    exact Or.inr ⟨x, hx2, hxe.symm⟩

/-- the three outcomes of a tick for a pending chord: it stays undecided; a chord of the group fires, at
the first key's coordinate or at that of a queued event; or no chord is defined for the key set, which is
decomposed into the action queue -/
theorem chord_outcomes (w : Waiting) (g : ChordsGroup) (hc : w.config = .chord g) (q : List Queued) (aq : ActionQueue) :
    (∃ p, tickWt w q aq = .ok ({ C09.ticked w with prevQueueLen := p }, q, aq, none) ∧
      (C09.ticked w).timeout < w.timeout) ∨
    (∃ a c0, (∃ m, (m, a) ∈ g.chords) ∧ (c0 = w.coord ∨ ∃ x ∈ q, c0 = x.ev.coord) ∧
      tickWt w q aq = .ok ({ C09.ticked w with prevQueueLen := q.length % 256, coord := c0, tap := a },
        C09.keptQueue (C09.ticked w) g q, aq, some (.tap, some (C09.pressedQueue (C09.ticked w) g q)))) ∨
    tickWt w q aq = .ok ({ C09.ticked w with prevQueueLen := q.length % 256, tap := .noOp },
      C09.keptQueue (C09.ticked w) g q, decomposeChord { C09.ticked w with prevQueueLen := q.length % 256 } g q aq,
      some (.noOp, some (C09.pressedQueue (C09.ticked w) g q))) := by
  -- while a chord stays undecided its countdown has not reached the first key's queueing delay
  have pos : 0 < (C09.ticked w).timeout - (C09.ticked w).delay → (C09.ticked w).timeout < w.timeout :=
    fun h => Nat.sub_lt (Nat.lt_of_lt_of_le h (Nat.le_trans (Nat.sub_le _ _) (Nat.sub_le _ _))) Nat.one_pos
  have e := C09.tickWt_chord w g hc q aq
  rw [C09.handleChord_closed] at e
  by_cases hf : C09.fastPath (C09.ticked w) q = true
  · rw [if_pos hf] at e
    simp only [C09.fastPath, Bool.and_eq_true, decide_eq_true_eq] at hf
    exact Or.inl ⟨w.prevQueueLen, e, pos hf.2⟩
  · rw [if_neg hf] at e
    by_cases hcond : ((C09.scanRest (C09.ticked w) g q).isEmpty &&
        !((C09.ticked w).timeout - (C09.ticked w).delay == 0)) = true
    · rw [if_pos hcond] at e
      simp only [Bool.and_eq_true, Bool.not_eq_true', beq_eq_false_iff_ne] at hcond
      cases hg : g.getChordIfUnambiguous (C09.chordActive (C09.ticked w) g q) with
      | none => rw [hg] at e; exact Or.inl ⟨_, e, pos (Nat.pos_of_ne_zero hcond.2)⟩
      | some a =>
        rw [hg] at e
        exact Or.inr (Or.inl ⟨a, w.coord, ⟨_, C09.unambiguous_mem g _ a hg⟩, Or.inl rfl, e⟩)
    · rw [if_neg hcond] at e
      cases hg : g.getChord (C09.chordActive (C09.ticked w) g q) with
      | none => rw [hg] at e; exact Or.inr (Or.inr e)
      | some a =>
        rw [hg] at e
        cases hr : C09.releasedBy g (C09.scanRest (C09.ticked w) g q) with
        | none =>
          rw [hr] at e
          exact Or.inr (Or.inl ⟨a, w.coord, ⟨_, C09.getChord_mem g _ a hg⟩, Or.inl rfl, e⟩)
        | some c =>
          rw [hr] at e
          obtain ⟨x, hx, hxe⟩ := releasedBy_mem g _ c hr
          exact Or.inr (Or.inl ⟨a, c, ⟨_, C09.getChord_mem g _ a hg⟩,
            Or.inr ⟨x, scanRest_subset _ g q x hx, hxe⟩, e⟩)

structure Advances (T d : Nat) (down : List Coord) (s s' : Layout) : Prop where
  inv : CInv T d s' down
  safe : SafeC s'
  cfg : s'.cfg = s.cfg
  qlen : s'.queue.length ≤ s.queue.length
  pot : cPot T d s' < cPot T d s

theorem CInv.chord_waits (h : CInv T d s down) (hS : SafeC s)
    {w w' : Waiting} (hw : s.waiting = some w) (hc : w'.config = w.config) (hco : w'.coord = w.coord)
    (ht : w'.timeout < w.timeout) : Advances T d down s { s with waiting := some w' } := by
  obtain ⟨⟨⟨g, hg, hok⟩, wto⟩, wp, wown, wa⟩ := h.wok w hw
  obtain ⟨i1, S1, P1⟩ := h.requeue hS (List.Sublist.refl _) (fun _ hx _ => hx) h.qwf
    (Or.inr ⟨w', rfl, ⟨⟨g, hc.trans hg, hok⟩, Nat.le_trans (Nat.le_of_lt ht) wto⟩, wp, hco ▸ wown, wa⟩)
    h.aqlen (fun _ he => Or.inl he)
  refine ⟨i1, S1, rfl, Nat.le_refl _, ?_⟩
  rw [P1]; unfold cPot; rw [hw]
  exact Nat.add_lt_add_right (Nat.add_lt_add_right (Nat.add_lt_add_left
    (Nat.add_lt_add_right (Nat.add_lt_add_right (Nat.add_lt_add_right ht d) 1) ACTION_QUEUE_LEN) _) _) _

/-- the pending chord fires: its action at the coordinate of `w1` and at the participating keys `pq`,
then the input pause; `kq` is what it leaves in the queue -/
theorem CInv.chord_fires (h : CInv T d s down) (hS : SafeC s)
    {w : Waiting} (hw : s.waiting = some w) {kq : List Queued} (k1 : QWF down kq) (k2 : kq.Sublist s.queue)
    (k3 : ∀ x ∈ s.queue, x.ev.isPress = false → x ∈ kq) (w1 : Waiting) (ha : SimpleOK s.cfg.layers.length w1.tap)
    (pq : List Coord) (hcs : ∀ c ∈ w1.coord :: pq, OwnedQ down kq c) :
    ∃ s2, waitingIntoTap { s with waiting := some w1, queue := kq, actionQueue := s.actionQueue } (some pq) none =
        .ok (s2, .noEvent) ∧ Advances T d down s s2 := by
  obtain ⟨_, wp, _, wa⟩ := h.wok w hw
  obtain ⟨i1, S1, _⟩ := h.requeue hS k2 k3 k1 (Or.inl rfl) h.aqlen (fun _ he => Or.inl he)
  obtain ⟨s2, e2, r⟩ := tap_chord s.cfg.layers.length
    { s with waiting := some w1, queue := kq, actionQueue := s.actionQueue } w1 rfl ha.1 ha.2 h.osh pq
  obtain ⟨i2, S2, _⟩ := i1.acts S1 r hcs
  obtain ⟨i3, S3, P3⟩ := i2.pause_set S2 r.waiting (Nat.le_of_eq i2.delay)
  refine ⟨tapPost s2, e2, i3, S3, r.frame.cfg, ?_, ?_⟩
  · exact Nat.le_trans (Nat.le_of_eq (congrArg List.length r.frame.queue)) k2.length_le
  · have hk := queueLoad_sublist (T + d + 8) k2
    have hq2 : s2.queue = kq := r.frame.queue
    have hw2 : s2.waiting = none := r.waiting
    have ha2 : s2.actionQueue = s.actionQueue := r.frame.aq
    replace P3 : cPot T d (tapPost s2) = _ := P3
    rw [P3, hq2, hw2, ha2, i2.delay, cPot_some hw, wp, wa, cLoad_none, List.length_nil]
    simp only [Nat.add_zero]
    -- the pause `d` is paid for by the chord's load `timeout + d + 1 + 8`
    exact Nat.add_lt_add_of_le_of_lt hk
      (Nat.lt_of_lt_of_le (Nat.lt_succ_of_le (Nat.le_add_left d _)) (Nat.le_add_right _ _))

/-- no chord is defined for the key set: `kq` is left in the queue, and the decomposition `aq` waits in
the action queue -/
theorem CInv.chord_decomposed (h : CInv T d s down) (hS : SafeC s)
    {w : Waiting} (hw : s.waiting = some w) {kq : List Queued} (k1 : QWF down kq) (k2 : kq.Sublist s.queue)
    (k3 : ∀ x ∈ s.queue, x.ev.isPress = false → x ∈ kq) {aq : ActionQueue} (hlen : aq.length ≤ ACTION_QUEUE_LEN)
    (hok : ∀ e ∈ aq, e ∈ s.actionQueue ∨ (SimpleOK s.cfg.layers.length e.2.2 ∧ OwnedQ down kq e.1)) :
    Advances T d down s { s with waiting := none, queue := kq, actionQueue := aq } := by
  obtain ⟨i1, S1, P1⟩ := h.requeue hS k2 k3 k1 (Or.inl rfl) hlen hok
  refine ⟨i1, S1, rfl, k2.length_le, ?_⟩
  have hk := queueLoad_sublist (T + d + 8) k2
  rw [P1, cPot_some hw, cLoad_none, (h.wok w hw).2.1, (h.wok w hw).2.2.2, List.length_nil]
  simp only [Nat.add_zero]
  -- the at most 8 queued actions are paid for by the chord's load `timeout + d + 1 + 8`
  exact Nat.add_lt_add_of_le_of_lt hk (Nat.lt_of_le_of_lt hlen (Nat.lt_add_of_pos_left (Nat.succ_pos _)))

/-- the release a state of another key is owned through is not this one -/
theorem CInv.pop_release (h : CInv T d s down) (hS : SafeC s)
    (hw : s.waiting = none) (haq : s.actionQueue = []) {c : Coord} {n : Nat} {rest : List Queued}
    (hq : s.queue = ⟨.release c, n⟩ :: rest) :
    Advances T d down s { s with queue := rest, states := s.states.filter fun st => st.coord != some c } := by
  have hsub : ∀ x ∈ rest, x ∈ s.queue := fun x hx => hq ▸ List.mem_cons_of_mem _ hx
  refine ⟨⟨h.extra, h.tde, h.seqs, C04.stok_filter _ h.states, h.osh, h.delay, h.pause, h.lpt, h.cfg, h.bound,
    ?_, (hq ▸ h.qwf).2, ?_, (fun _ e => nomatch hw.symm.trans e), h.aqlen,
    fun e (he : e ∈ s.actionQueue) => by rw [haq] at he; cases he⟩,
    ⟨hS.cfg, hS.dl, fun st hst => hS.held st (List.mem_filter.mp hst).1, fun x hx => hS.queue x (hsub x hx)⟩, rfl, ?_, ?_⟩
  · have := h.qlen; rw [hq] at this; exact Nat.le_of_succ_le this
  · intro st hst c' hc'
    obtain ⟨m1, m2⟩ := List.mem_filter.mp hst
    rcases h.owned st m1 c' hc' with g | ⟨x, hx, hxe⟩
    · exact Or.inl g
    · rcases List.mem_cons.mp (hq ▸ hx) with rfl | hx
      · cases hxe; simp [hc'] at m2
      · exact Or.inr ⟨x, hx, hxe⟩
  · rw [hq]; exact Nat.le_succ _
  · show queueLoad (T + d + 8) rest + _ + _ + _ < _
    unfold cPot
    rw [hq, queueLoad_cons]
    exact Nat.add_lt_add_right (Nat.add_lt_add_right (Nat.add_lt_add_right (Nat.lt_add_of_pos_left Nat.one_pos) _) _) _

theorem CInv.pop_press (h : CInv T d s down) (hS : SafeC s)
    (hw : s.waiting = none) (haq : s.actionQueue = []) (hp0 : s.oneshot.pauseInputProcessingTicks = 0)
    {c : Coord} {n : Nat} {rest : List Queued} (hq : s.queue = ⟨.press c, n⟩ :: rest) :
    ∃ s2, dequeue FUEL (s.setQueue rest) ⟨.press c, n⟩ = .ok (s2, .noEvent) ∧ Advances T d down s s2 := by
  have hwf : OwnedQ down rest c ∧ QWF down rest := by
    have := h.qwf; rw [hq] at this; exact this
  have hrel : ∀ x ∈ s.queue, x.ev.isPress = false → x ∈ rest := by
    intro x hx hx'
    rcases List.mem_cons.mp (hq ▸ hx) with rfl | hx
    · cases hx'
    · exact hx
  obtain ⟨i1, S1, _⟩ := h.requeue hS (hq ▸ List.sublist_cons_self _ rest) hrel hwf.2 (Or.inl hw) h.aqlen
    (fun _ he => Or.inl he)
  obtain ⟨s2, e2, r⟩ := dequeue_press_C (T := T) (s := s.setQueue rest) h.cfg h.bound S1 hw h.osh h.tde c
    (hS.queue ⟨.press c, n⟩ (hq ▸ List.mem_cons_self) c rfl) n
  obtain ⟨i2, S2, P2⟩ := i1.perform S1 r.frame
    (fun st hst => (r.adds.new st hst).imp_right fun g => ⟨⟨c, List.mem_cons_self, g.1⟩, g.2⟩) r.lpt r.grows
    (fun c' hc' => List.mem_singleton.mp hc' ▸ hwf.1)
    (r.waiting.imp (·.trans hw.symm) fun ⟨w, e, ec, ok⟩ => ⟨hp0, haq, w, e, ec ▸ List.mem_cons_self, ok⟩)
  refine ⟨s2, e2, i2, S2, r.frame.cfg, ?_, ?_⟩
  · rw [hq]; exact Nat.le_trans (Nat.le_of_eq (congrArg List.length r.frame.queue)) (Nat.le_succ _)
  · have hl : cLoad d s2.waiting ≤ T + d + 9 := by
      rcases r.waiting with g | ⟨w, g, _, ok⟩
      · rw [g]; exact Nat.zero_le _
      · rw [g]; exact Nat.add_le_add_right (Nat.add_le_add_right ok.timeout d) 9
    -- a queued press weighs `T + d + 10`, one more than the chord it may leave pending
    rw [P2, cPot_none hw, hq, queueLoad_cons, Nat.add_comm (queueLoad _ rest)]
    exact Nat.add_lt_add_right (Nat.add_lt_add_right (Nat.add_lt_add_right (Nat.lt_succ_of_le hl) _) _) _

/-- **the third stage of a tick** (no decomposed action outstanding): it never crashes, raises no custom
event, and advances, unless nothing is left for this stage to do -/
theorem CInv.main (h : CInv T d s down) (hS : SafeC s) (haq : s.actionQueue = []) :
    ∃ s2, tickMain s = .ok (s2, .noEvent) ∧ (Advances T d down s s2 ∨
      (s.queue = [] ∧ s.waiting = none ∧ s.oneshot.pauseInputProcessingTicks = 0 ∧ s2 = s)) := by
  cases hw : s.waiting with
  | some w =>
    obtain ⟨⟨⟨g, hc, hok⟩, _⟩, _, wown, _⟩ := h.wok w hw
    obtain ⟨k1, k2, k3⟩ := keptQueue_spec (C09.ticked w) g s.queue h.qwf
    -- the first key and the keys of queued events are still owned after the chord's presses have gone
    have own : ∀ c, (c = w.coord ∨ ∃ x ∈ s.queue, c = x.ev.coord) →
        OwnedQ down (C09.keptQueue (C09.ticked w) g s.queue) c := by
      rintro c (rfl | ⟨x, hx, rfl⟩)
      · exact wown.mono k3
      · exact (QWF_event_owned s.queue h.qwf x hx).mono k3
    rcases chord_outcomes w g hc s.queue s.actionQueue with ⟨p, e, ht⟩ | ⟨a, c0, ⟨m, hm⟩, hc0, e⟩ | e
    · exact ⟨_, tickMain_waiting hw e, Or.inl (h.chord_waits hS hw rfl rfl ht)⟩
    · obtain ⟨s2, e2, r⟩ := h.chord_fires hS hw k1 k2 k3
        { C09.ticked w with prevQueueLen := s.queue.length % 256, coord := c0, tap := a } (hok _ hm)
        (C09.pressedQueue (C09.ticked w) g s.queue) fun c hc' => (List.mem_cons.mp hc').elim (· ▸ own c0 hc0)
          fun hc' => own c (pressedQueue_mem (C09.ticked w) g s.queue c hc')
      exact ⟨s2, (tickMain_waiting hw e).trans e2, Or.inl r⟩
    · obtain ⟨d1, d2⟩ := decomposeChord_spec { C09.ticked w with prevQueueLen := s.queue.length % 256 } g s.queue
        s.actionQueue h.aqlen
      exact ⟨_, tickMain_waiting hw e, Or.inl (h.chord_decomposed hS hw k1 k2 k3 d1 fun y hy => (d2 y hy).imp_right
        fun ⟨⟨m, hm⟩, g2⟩ => ⟨hok (m, y.2.2) (C09.getChord_mem g m _ hm), own y.1 g2⟩)⟩
  | none =>
    by_cases hp : 0 < s.oneshot.pauseInputProcessingTicks
    ·
      obtain ⟨i1, S1, P1⟩ := h.pause_set hS hw (Nat.le_trans (Nat.sub_le _ 1) h.pause)
      exact ⟨_, tickMain_paused hw h.extra hp, Or.inl ⟨i1, S1, rfl, Nat.le_refl _,
        P1 ▸ Nat.add_lt_add_right (Nat.add_lt_add_left (Nat.sub_lt hp Nat.one_pos) _) _⟩⟩
    · have hp0 : s.oneshot.pauseInputProcessingTicks = 0 := Nat.eq_zero_of_not_pos hp
      cases hq : s.queue with
      | nil => exact ⟨s, tickMain_empty hw h.extra hp0 hq, Or.inr ⟨rfl, rfl, hp0, rfl⟩⟩
      | cons q rest =>
        rw [tickMain_pops hw h.extra hp0 q rest hq]
        obtain ⟨ev, n⟩ := q
        cases ev with
        | release c =>
          rw [dequeue_release_calm (s := s.setQueue rest) h.states c n,
            handleRelease_inactive (s.setQueue rest).oneshot c h.osh]
          exact ⟨_, rfl, Or.inl (h.pop_release hS hw haq hq)⟩
        | press c =>
          obtain ⟨s2, e2, r⟩ := h.pop_press hS hw haq hp0 hq
          exact ⟨s2, e2, Or.inl r⟩

/-! ## a whole tick, an event, runs -/

theorem CInv.queued_action (h : CInv T d s down) (hS : SafeC s)
    {coord : Coord} {delay : Nat} {action : Action} {rest : ActionQueue}
    (haq : s.actionQueue = (coord, delay, action) :: rest) :
    Simple action ∧
      Advances T d down s (simpleArm (prelude ({ s with actionQueue := rest } : Layout) coord) action coord false) := by
  have hwn : s.waiting = none := by
    cases hw : s.waiting with
    | none => rfl
    | some w => exact nomatch haq.symm.trans (h.wok w hw).2.2.2
  obtain ⟨hok, hown⟩ := h.aqok (coord, delay, action) (haq ▸ List.mem_cons_self)
  obtain ⟨i1, S1, P1⟩ := h.requeue hS (List.Sublist.refl _) (fun _ hx _ => hx) h.qwf (w := s.waiting) (aq := rest)
    (Or.inl hwn) (by have := h.aqlen; rw [haq] at this; exact Nat.le_of_succ_le this)
    (fun _ he => Or.inl (haq ▸ List.mem_cons_of_mem _ he))
  have a1 := actsC_one s.cfg.layers.length ({ s with actionQueue := rest } : Layout) action hok.1 hok.2 coord h.osh
  obtain ⟨i2, S2, P2⟩ := i1.acts S1 a1 fun c hc => List.mem_singleton.mp hc ▸ hown
  refine ⟨hok.1, i2, S2, a1.frame.cfg, Nat.le_of_eq (congrArg List.length a1.frame.queue), ?_⟩
  rw [P2, P1]
  unfold cPot
  rw [haq]
  exact Nat.add_lt_add_left (Nat.lt_succ_self _) _

/-- **a tick on the chords fragment** never crashes, raises no custom event, keeps the invariant and the
no-crash conditions, and lowers the potential by one (it stays at zero once it is there): with a
decomposed action outstanding it performs that action and nothing else; otherwise its three stages -/
theorem CInv.tick (h : CInv T d s down) (hS : SafeC s) :
    ∃ s', tick s = .ok (s', .noEvent) ∧ CInv T d s' down ∧ SafeC s' ∧ s'.cfg = s.cfg ∧
      s'.queue.length ≤ s.queue.length ∧ cPot T d s' ≤ cPot T d s - 1 := by
  cases haq : s.actionQueue with
  | nil =>
    obtain ⟨i0, S0, q0, c0, a0, p0⟩ := h.pre hS
    have e1 : tickOneshot (tickPre s) = .ok (tickPre s, .noEvent) := tickOneshot_inactive i0.osh
    obtain ⟨s2, hm, r⟩ := i0.main S0 (a0.trans haq)
    have i2 : CInv T d s2 down := r.elim (·.inv) fun g => g.2.2.2 ▸ i0
    refine ⟨s2, ?_, ?_⟩
    · unfold KVerif.L.tick
      simp only [haq, e1, hm, C04.processExtraWaitings_inert i2.extra, C04.processSequenceCustom_inert i2.states]
      rfl
    · rcases r with r | ⟨g1, g2, g3, rfl⟩
      · exact ⟨r.inv, r.safe, r.cfg.trans c0, Nat.le_trans r.qlen (Nat.le_of_eq q0),
          Nat.le_sub_one_of_lt (p0 ▸ r.pot)⟩
      · refine ⟨i0, S0, c0, Nat.le_of_eq q0, ?_⟩
        rw [cPot_none g2, g1, g3, a0, haq]
        exact Nat.zero_le _
  | cons e rest =>
    obtain ⟨coord, delay, action⟩ := e
    obtain ⟨hs, r⟩ := h.queued_action hS haq
    obtain ⟨order, ho, _⟩ := transOrder_total ({ s with actionQueue := rest } : Layout) s.cfg.layers.length
      hS.cfg.pinned hS.dl hS.cfg.layers hS.held
    refine ⟨_, ?_, r.inv, r.safe, r.cfg, r.qlen, Nat.le_sub_one_of_lt r.pot⟩
    unfold KVerif.L.tick
    simp only [haq, ho]
    rw [C17.FUEL_two, doAction_simple 3998 _ action hs]

theorem CInv.input (h : CInv T d s down) (hS : SafeC s) (e : Ev)
    (hq : s.queue.length < QUEUE_SIZE) (hco : ∀ c, e = .press c → CoordOK s.cfg c) :
    ∃ s', s.event e = .ok s' ∧ CInv T d s' (downAfter down (.ev e)) ∧ SafeC s' ∧
      s'.queue.length = s.queue.length + 1 ∧ s'.cfg = s.cfg := by
  unfold Layout.event
  rw [FUEL_succ]
  obtain ⟨s', e1, e2, e3, e4, e5⟩ := event_room 3999 s e hq
  have e6 := event_room_lpt 3999 s e hq s' e1
  have hrel : ∀ c, OwnedQ down s.queue c → OwnedQ (downAfter down (.ev e)) (s.queue ++ [⟨e, 0⟩]) c := by
    intro c hc
    rcases hc with h1 | ⟨x, hx, hxe⟩
    · cases e with
      | press c' => exact Or.inl (List.mem_cons_of_mem _ h1)
      | release c' =>
        by_cases hcc : c = c'
        · subst hcc; exact Or.inr ⟨⟨.release c, 0⟩, by simp, rfl⟩
        · exact Or.inl (List.mem_filter.mpr ⟨h1, by simpa using hcc⟩)
    · exact Or.inr ⟨x, List.mem_append_left _ hx, hxe⟩
  refine ⟨s', e1, ⟨e5.extra.trans h.extra, e5.tde.trans h.tde, e5.seqs.trans h.seqs, e3 ▸ h.states, e4 ▸ h.osh,
    e4 ▸ h.delay, e4 ▸ h.pause, e6.trans h.lpt, e5.cfg ▸ h.cfg, e5.cfg ▸ h.bound,
    by rw [e2, List.length_append]; exact hq, ?_, ?_, ?_,
    by rw [e5.aq]; exact h.aqlen, ?_⟩,
    ⟨e5.cfg ▸ hS.cfg, by rw [e5.cfg, e5.dl]; exact hS.dl, by rw [e3, e5.cfg]; exact hS.held, ?_⟩,
    by rw [e2]; simp, e5.cfg⟩
  · rw [e2]
    cases e with
    | press c =>
      exact QWF_append _ _ (QWF_mono (fun x hx => List.mem_cons_of_mem _ hx) _ h.qwf) (by simp [downAfter])
    | release c => exact QWF_release c 0 _ h.qwf
  · intro st hst c hc
    rw [e3] at hst
    rw [e2]
    exact hrel c (h.owned st hst c hc)
  · intro w hw
    rw [e5.waiting] at hw
    obtain ⟨w1, w2, w3, w4⟩ := h.wok w hw
    rw [e5.cfg, e4, e2, e5.aq]
    exact ⟨w1, w2, hrel _ w3, w4⟩
  · intro e' he'
    rw [e5.aq] at he'
    rw [e5.cfg, e2]
    exact ⟨(h.aqok e' he').1, hrel _ (h.aqok e' he').2⟩
  · intro q hq' c hc
    rw [e5.cfg]
    rw [e2] at hq'
    rcases List.mem_append.mp hq' with hq' | hq'
    · exact hS.queue q hq' c hc
    · simp only [List.mem_cons, List.mem_nil_iff, or_false] at hq'
      subst hq'
      exact hco c hc


theorem cPot_le (h : CInv T d s down) :
    cPot T d s ≤ (T + d + 10) * s.queue.length + T + d + 9 := by
  have h1 : queueLoad (T + d + 8) s.queue ≤ (T + d + 10) * s.queue.length := queueLoad_le (T + d + 8) s.queue
  have h8 : ACTION_QUEUE_LEN = 8 := rfl
  have := h.pause
  have := h.aqlen
  cases hw : s.waiting with
  | none => rw [cPot_none hw]; omega
  | some w =>
    obtain ⟨w1, w2, _, w4⟩ := h.wok w hw
    have := w1.timeout
    rw [cPot_some hw, w2, w4, List.length_nil]
    omega

theorem cPot_le_cap (h : CInv T d s down) : cPot T d s ≤ (T + d + 10) * QUEUE_SIZE + T + d + 9 :=
  Nat.le_trans (cPot_le h)
    (Nat.add_le_add_right (Nat.add_le_add_right (Nat.add_le_add_right (Nat.mul_le_mul_left _ h.qlen) _) _) _)

/-- at potential zero with no key down the layout is at rest -/
theorem CInv.atRest (h : CInv T d s []) (hz : cPot T d s = 0) : LayoutAtRest s := by
  have z2 : s.waiting = none := by
    cases hw : s.waiting with
    | none => rfl
    | some w => rw [cPot_some hw] at hz; omega
  rw [cPot_none z2] at hz
  obtain ⟨hz', z4⟩ := Nat.add_eq_zero_iff.mp hz
  obtain ⟨zq, z3⟩ := Nat.add_eq_zero_iff.mp hz'
  have z1 : s.queue = [] := queueLoad_zero (T + d + 8) _ zq
  exact ⟨states_nil_of_owned h.states z1 h.owned, z1, z2, h.extra, h.lpt, h.osh, z3, h.seqs, h.tde,
    List.eq_nil_of_length_eq_zero z4⟩

end

theorem stepInv_C (T d : Nat) (cfg : LCfg) :
    StepInv (fun s down => CInv T d s down ∧ SafeC s ∧ s.cfg = cfg) (pressOK cfg) where
  ev := by
    intro s down e ⟨h, hS, hc⟩ hq hA
    obtain ⟨s1, e1, i1, S1, q1, c1⟩ := h.input hS e hq (fun c hc' => hc ▸ hA c (by rw [hc']))
    exact ⟨s1, e1, ⟨i1, S1, c1.trans hc⟩, q1⟩
  tick := by
    intro s down ⟨h, hS, hc⟩
    obtain ⟨s1, e1, i1, S1, c1, l1, _⟩ := h.tick hS
    exact ⟨s1, _, e1, ⟨i1, S1, c1.trans hc⟩, l1⟩

theorem cPot_tick {T d : Nat} {cfg : LCfg} {down : List Coord} (s s' : Layout) (cu : CustomEv)
    (h : CInv T d s down ∧ SafeC s ∧ s.cfg = cfg) (ht : tick s = .ok (s', cu)) : cPot T d s' ≤ cPot T d s - 1 := by
  obtain ⟨s1, e1, _, _, _, _, p1⟩ := h.1.tick h.2.1
  cases e1.symm.trans ht
  exact p1

/-- a history of at most 32 events in all never meets a full queue -/
theorem run_defined_C {T d : Nat} : ∀ (ins : List In) (s : Layout) (down : List Coord), CInv T d s down → SafeC s →
    PressesOK s.cfg ins → evCount ins + s.queue.length ≤ QUEUE_SIZE → run s down ins ≠ none := by
  intro ins s down h hS hP hn
  obtain ⟨s', hr, _⟩ := (stepInv_C T d s.cfg).run_defined ins s down ⟨h, hS, rfl⟩ (hP.admitted down) hn
  rw [hr]; exact fun h => nomatch h

end KVerif.Quiesce
