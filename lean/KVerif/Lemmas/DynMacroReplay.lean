/-
Helper lemmas for C19, replay side and the glue of `tick_ms`: the cases of `tick_replay_state` and
what each does to the queued events, to the countdown and to the bound `mu`; the shape of what the
custom actions and `tick_states` can change; and the induction principle for `tick_ms`
(`tickMs_inv`), which contains the slack argument showing that the `extra_ticks` loop never pops an
event.
-/
import KVerif.Lemmas.DynMacro
namespace KVerif.DynMacro

/-! ### `tick_replay_state` -/

/-- the key events still to be fed -/
def planOf : Option Replay → List KeyEv
  | none => []
  | some st => evsQ st.queue

def outEv : Option (KeyEv × Nat) → List KeyEv
  | none => []
  | some (e, _) => [e]

/-- ticks that can still pass before the next pop, minus one -/
def slack : Option Replay → Nat
  | none => 0
  | some st => st.delay - 1

/-- an upper bound on the number of `tick_replay_state` calls until the replay is over -/
def wItem (beh : Beh) : Item → Nat
  | .press _ d => match beh with | .constant => 5 | .recorded => max d 1
  | .release _ d => match beh with | .constant => 5 | .recorded => max d 1
  | .endMacro _ => 5

def mu (beh : Beh) : Option Replay → Nat
  | none => 0
  | some st => max st.delay 1 + (st.queue.map (wItem beh)).sum

theorem tickReplay_wait (beh : Beh) {st : Replay} (h : st.delay - 1 ≠ 0) :
    tickReplay beh (some st) = (some { st with delay := st.delay - 1 }, none) := by
  simp only [tickReplay, h, if_false]

theorem tickReplay_cases (beh : Beh) (st : Replay) :
    (st.delay - 1 ≠ 0 ∧ tickReplay beh (some st) = (some { st with delay := st.delay - 1 }, none)) ∨
    (st.delay - 1 = 0 ∧ st.queue = [] ∧ tickReplay beh (some st) = (none, none)) ∨
    (∃ it q e dl d, st.delay - 1 = 0 ∧ st.queue = it :: q ∧ evOf it = some e ∧ d ≤ dl ∧
      max dl 1 ≤ wItem beh it ∧
      tickReplay beh (some st) = (some { st with delay := dl, queue := q }, some (e, d))) ∨
    (∃ id q, st.delay - 1 = 0 ∧ st.queue = .endMacro id :: q ∧
      tickReplay beh (some st) =
        (some { active := st.active.filter (· != id), delay := 5, queue := q }, none)) := by
  by_cases h0 : st.delay - 1 = 0
  · refine .inr ?_
    cases hq : st.queue with
    | nil => exact .inl ⟨h0, rfl, by simp only [tickReplay, h0, hq, if_true]⟩
    | cons it q =>
      refine .inr ?_
      cases it with
      | press o d | release o d =>
        cases beh
        · exact .inl ⟨_, _, _, 5, 0, h0, rfl, rfl, Nat.zero_le _, Nat.le_refl _,
            by simp only [tickReplay, h0, hq, if_true]⟩
        · exact .inl ⟨_, _, _, d, d, h0, rfl, rfl, Nat.le_refl _, Nat.le_refl _,
            by simp only [tickReplay, h0, hq, if_true]⟩
      | endMacro id => exact .inr ⟨id, q, h0, rfl, by simp only [tickReplay, h0, hq, if_true]⟩
  · exact .inl ⟨h0, tickReplay_wait beh h0⟩

theorem evsQ_cons_end (id : Nat) (q : List Item) : evsQ (.endMacro id :: q) = evsQ q := rfl

theorem evsQ_cons_key {it : Item} {e : KeyEv} (h : evOf it = some e) (q : List Item) :
    evsQ (it :: q) = e :: evsQ q := by
  simp only [evsQ, List.filterMap_cons, h]

theorem tickReplay_plan (beh : Beh) (rep : Option Replay) :
    planOf rep = outEv (tickReplay beh rep).2 ++ planOf (tickReplay beh rep).1 := by
  cases rep with
  | none => rfl
  | some st =>
    rcases tickReplay_cases beh st with ⟨_, h⟩ | ⟨_, hq, h⟩ | ⟨it, q, e, dl, d, _, hq, he, _, _, h⟩ |
      ⟨id, q, _, hq, h⟩ <;> rw [h] <;> simp only [planOf, outEv]
    · rfl
    · rw [hq]; rfl
    · rw [hq]; exact evsQ_cons_key he q
    · rw [hq]; rfl

/-- `extra_ticks` after the replay step of the first loop -/
def bump (extra : Nat) : Option (KeyEv × Nat) → Nat
  | none => extra
  | some (_, d) => satAdd extra d

theorem bump_le_max {extra : Nat} (h : extra ≤ U16_MAX) (o : Option (KeyEv × Nat)) :
    bump extra o ≤ U16_MAX := by
  cases o with
  | none => exact h
  | some p => exact satAdd_le_max _ _

/-- the arithmetic heart of "the extra loop never overshoots": one main-loop iteration keeps
`extra ≤ i + slack` -/
theorem tickReplay_slack (beh : Beh) (rep : Option Replay) (i e : Nat) (h : e ≤ i + slack rep) :
    bump e (tickReplay beh rep).2 ≤ (i + 1) + slack (tickReplay beh rep).1 := by
  cases rep with
  | none => exact Nat.le_succ_of_le h
  | some st =>
    simp only [slack] at h
    rcases tickReplay_cases beh st with ⟨h0, h1⟩ | ⟨h0, _, h1⟩ | ⟨it, q, ev, dl, d, h0, _, _, _, _, h1⟩ |
      ⟨id, q, h0, _, h1⟩ <;> rw [h1] <;> simp only [bump, slack]
    · -- counting down: one more iteration made, one less to go
      rw [Nat.add_assoc, Nat.add_sub_cancel' (Nat.one_le_iff_ne_zero.mpr h0)]; exact h
    · rw [h0] at h; exact Nat.le_succ_of_le h
    · -- a pop happens at slack 0; the delay it adds is at most the new countdown
      have := satAdd_le e d; omega
    · rw [h0] at h; exact Nat.le_trans h (Nat.le_add_right i 5)

/-- with positive slack nothing is popped and the slack goes down by one -/
theorem tickReplay_no_pop (beh : Beh) (rep : Option Replay) (n : Nat) (h : n + 1 ≤ slack rep) :
    (tickReplay beh rep).2 = none ∧ n ≤ slack (tickReplay beh rep).1 := by
  cases rep with
  | none => cases h
  | some st =>
    simp only [slack] at h
    rcases tickReplay_cases beh st with ⟨_, h1⟩ | ⟨h0, _⟩ | ⟨_, _, _, _, _, h0, _⟩ | ⟨_, _, h0, _⟩
    · rw [h1]; exact ⟨rfl, Nat.le_sub_one_of_lt h⟩
    all_goals exact absurd (h0 ▸ h) (Nat.not_succ_le_zero n)

/-- a pop replaces the countdown (1 at that moment) and the weight `w` of the popped item by a new
countdown of at most `w` -/
theorem mu_pop {m w : Nat} (h : m ≤ w) (d S : Nat) : m + S ≤ max d 1 + (w + S) - 1 :=
  Nat.le_trans (Nat.add_le_add_right h S) (Nat.le_sub_of_add_le
    (Nat.add_comm 1 (w + S) ▸ Nat.add_le_add_right (Nat.le_max_right d 1) (w + S)))

theorem tickReplay_mu (beh : Beh) (rep : Option Replay) :
    mu beh (tickReplay beh rep).1 ≤ mu beh rep - 1 := by
  cases rep with
  | none => exact Nat.zero_le _
  | some st =>
    rcases tickReplay_cases beh st with ⟨h0, h⟩ | ⟨_, hq, h⟩ | ⟨it, q, e, dl, d, _, hq, _, _, hw, h⟩ |
      ⟨id, q, _, hq, h⟩ <;> rw [h] <;> simp only [mu]
    · have h1 : 1 < st.delay := Nat.lt_of_sub_ne_zero h0
      rw [Nat.max_eq_left (Nat.le_sub_one_of_lt h1), Nat.max_eq_left (Nat.le_of_lt h1),
        Nat.sub_add_comm (Nat.le_of_lt h1)]
      exact Nat.le_refl _
    · exact Nat.zero_le _
    · rw [hq, List.map_cons, List.sum_cons]; exact mu_pop hw _ _
    · rw [hq, List.map_cons, List.sum_cons]; exact mu_pop (Nat.le_refl 5) _ _

theorem mu_eq_zero (beh : Beh) (rep : Option Replay) (h : mu beh rep = 0) : rep = none := by
  cases rep with
  | none => rfl
  | some st => simp only [mu] at h; omega

theorem rep_none_of_mu_le {beh : Beh} {rep : Option Replay} {m n : Nat} (h : mu beh rep ≤ m - n)
    (hn : m ≤ n) : rep = none :=
  mu_eq_zero beh rep (Nat.le_zero.mp (Nat.le_trans h (Nat.le_of_eq (Nat.sub_eq_zero_of_le hn))))

theorem tickReplay_some_of_ev (beh : Beh) (rep : Option Replay) (p : KeyEv × Nat)
    (h : (tickReplay beh rep).2 = some p) : (tickReplay beh rep).1 ≠ none := by
  cases rep with
  | none => cases h
  | some st =>
    rcases tickReplay_cases beh st with ⟨_, h1⟩ | ⟨_, _, h1⟩ | ⟨_, _, _, _, _, _, _, _, _, _, h1⟩ |
      ⟨_, _, _, _, h1⟩ <;> rw [h1] at h ⊢
    · cases h
    · cases h
    · exact Option.some_ne_none _
    · cases h

theorem playMacro_cases (id : Nat) (store : Store) (rep : Option Replay) :
    playMacro id store rep = rep ∨
      ∃ items, store.get id = some items ∧
        ((rep = none ∧ playMacro id store rep = some { active := [id], delay := 0, queue := items }) ∨
          ∃ st, rep = some st ∧ id ∉ st.active ∧ playMacro id store rep =
            some { st with active := st.active ++ [id], queue := items ++ .endMacro id :: st.queue }) := by
  cases rep with
  | none =>
    cases h : store.get id with
    | none => exact .inl (by simp only [playMacro, h])
    | some items => exact .inr ⟨items, rfl, .inl ⟨rfl, by simp only [playMacro, h]⟩⟩
  | some st =>
    by_cases ha : id ∈ st.active
    · exact .inl (by simp only [playMacro, ha, if_true])
    · cases h : store.get id with
      | none => exact .inl (by simp only [playMacro, ha, h, if_false])
      | some items =>
        exact .inr ⟨items, rfl, .inr ⟨st, rfl, ha, by simp only [playMacro, ha, h, if_false]⟩⟩

theorem playMacro_slack (id : Nat) (store : Store) (rep : Option Replay) :
    slack (playMacro id store rep) = slack rep := by
  rcases playMacro_cases id store rep with h | ⟨_, _, ⟨rfl, h⟩ | ⟨st, rfl, _, h⟩⟩ <;> rw [h] <;> rfl

variable {L : Type}

theorem doAct_cases {c : Cfg} {k k' : K L} {a : Act} (h : doAct c k a = .ok k') :
    (∃ r sv, k' = { k with rcd := r, store := k.store.save sv } ∧
      ((∃ id, a = .record id ∧ beginRecord c.fix k.hint id k.rcd = .ok (r, sv)) ∨
        ∃ n, a = .stop n ∧ stopMacro c.fix k.hint n k.rcd = .ok (r, sv))) ∨
    ∃ id, a = .play id ∧ k' = { k with rep := playMacro id k.store k.rep } := by
  cases a with
  | record id =>
    simp only [doAct] at h
    split at h
    · cases h
    · rename_i r sv hb
      cases h
      exact .inl ⟨r, sv, rfl, .inl ⟨id, rfl, hb⟩⟩
  | stop n =>
    simp only [doAct] at h
    split at h
    · cases h
    · rename_i r sv hb
      cases h
      exact .inl ⟨r, sv, rfl, .inr ⟨n, rfl, hb⟩⟩
  | play id => cases h; exact .inr ⟨id, rfl, rfl⟩

theorem doActs_inv {c : Cfg} {acts : List Act} (Q : K L → Prop)
    (hact : ∀ x a x', a ∈ acts → Q x → doAct c x a = .ok x' → Q x') {k k' : K L} (hq : Q k)
    (h : doActs c k acts = .ok k') : Q k' := by
  induction acts generalizing k with
  | nil => cases h; exact hq
  | cons a r ih =>
    simp only [doActs] at h
    split at h
    · cases h
    · rename_i k1 hk1
      exact ih (fun x b x' hb => hact x b x' (List.mem_cons_of_mem _ hb))
        (hact k a k1 List.mem_cons_self hq hk1) h

/-- `tick_states` is: the layout's tick with its output logged, the custom actions it fired, then
`tick_record_state` -/
theorem tickStates_inv {I : LayoutI L} {c : Cfg} {k k' : K L} (Q : K L → Prop)
    (hact : ∀ x a x', a ∈ (I.tick k.lay).2.1 → Q x → doAct c x a = .ok x' → Q x')
    (h0 : Q { k with lay := (I.tick k.lay).1,
                     os := k.os ++ (I.tick k.lay).2.2.map fun e => (k.nticks, e) })
    (h : tickStates I c k = .ok k') :
    ∃ k2, Q k2 ∧ k' = { k2 with rcd := tickRecord k2.rcd, nticks := k2.nticks + 1 } := by
  simp only [tickStates] at h
  split at h
  · cases h
  · rename_i k2 hk2
    cases h
    exact ⟨k2, doActs_inv Q hact h0 hk2, rfl⟩

theorem tickStates_fields {I : LayoutI L} {c : Cfg} {k k' : K L} (h : tickStates I c k = .ok k') :
    ∃ r s p, k' = { k with lay := (I.tick k.lay).1,
                           os := k.os ++ (I.tick k.lay).2.2.map (fun e => (k.nticks, e)),
                           rcd := r, store := s, rep := p, nticks := k.nticks + 1 } := by
  obtain ⟨k2, ⟨r, s, p, rfl⟩, rfl⟩ := tickStates_inv
    (fun x => ∃ r s p, x = { k with
      lay := (I.tick k.lay).1, os := k.os ++ (I.tick k.lay).2.2.map (fun e => (k.nticks, e)),
      rcd := r, store := s, rep := p })
    (fun x a x' _ ⟨r, s, p, hx⟩ hxa => by
      subst hx
      rcases doAct_cases hxa with ⟨r', sv, rfl, _⟩ | ⟨id, _, rfl⟩
      · exact ⟨_, _, _, rfl⟩
      · exact ⟨_, _, _, rfl⟩)
    ⟨_, _, _, rfl⟩ h
  exact ⟨_, _, _, rfl⟩

theorem tickStates_slack {I : LayoutI L} {c : Cfg} {k k' : K L} (h : tickStates I c k = .ok k') :
    slack k'.rep = slack k.rep := by
  obtain ⟨k2, h2, rfl⟩ := tickStates_inv (fun x => slack x.rep = slack k.rep)
    (fun x a x' _ hx hxa => by
      rcases doAct_cases hxa with ⟨_, _, rfl, _⟩ | ⟨id, _, rfl⟩
      · exact hx
      · exact (playMacro_slack _ _ _).trans hx) rfl h
  exact h2

/-- The body of the loops of `tick_ms` after `tick_states`: the replay step, with the popped event
(if any) handed to the layout and logged.  The second loop does this as long as nothing is popped. -/
def feed (I : LayoutI L) (beh : Beh) (k : K L) : K L :=
  { k with rep := (tickReplay beh k.rep).1,
           lay := (outEv (tickReplay beh k.rep).2).foldl I.event k.lay,
           fed := k.fed ++ outEv (tickReplay beh k.rep).2 }

theorem feed_plan (I : LayoutI L) (beh : Beh) (k : K L) :
    (feed I beh k).fed ++ planOf (feed I beh k).rep = k.fed ++ planOf k.rep := by
  simp only [feed, List.append_assoc, ← tickReplay_plan]

theorem mainLoop_succ (I : LayoutI L) (c : Cfg) (n : Nat) (k : K L) (extra : Nat) :
    mainLoop I c (n + 1) k extra =
      match tickStates I c k with
      | .error e => .error e
      | .ok k1 => mainLoop I c n (feed I c.beh k1) (bump extra (tickReplay c.beh k1.rep).2) := by
  simp only [mainLoop]
  cases tickStates I c k with
  | error e => rfl
  | ok k1 =>
    simp only [feed]
    rcases tickReplay c.beh k1.rep with ⟨rep', _ | ⟨e, d⟩⟩
    · simp only [outEv, List.append_nil, List.foldl_nil, bump]
    · rfl

theorem extraLoop_succ (I : LayoutI L) (c : Cfg) (n : Nat) (k : K L) :
    extraLoop I c (n + 1) k =
      match tickStates I c k with
      | .error e => .error e
      | .ok k1 =>
        match (tickReplay c.beh k1.rep).2 with
        | none => extraLoop I c n (feed I c.beh k1)
        | some (e, _) => .ok { k1 with rep := (tickReplay c.beh k1.rep).1, lost := k1.lost ++ [e] } := by
  simp only [extraLoop]
  cases tickStates I c k with
  | error e => rfl
  | ok k1 =>
    simp only [feed]
    rcases tickReplay c.beh k1.rep with ⟨rep', _ | ⟨e, d⟩⟩
    · simp only [outEv, List.append_nil, List.foldl_nil]
    · rfl

/-- the number of iterations of the second loop never exceeds the slack: for the fixed code always,
for the pinned code when `ms_elapsed < 65536` -/
theorem extra_count_le (fix : Bool) (ms e s : Nat) (h : fix = true ∨ ms < 65536)
    (h1 : e ≤ ms + s) (h2 : e ≤ U16_MAX) : e - msAsU16 fix ms ≤ s := by
  rw [Nat.sub_le_iff_le_add, Nat.add_comm]
  cases fix with
  | true =>
    -- clamped: `min ms U16_MAX`
    show e ≤ min ms U16_MAX + s
    rcases Nat.le_total ms U16_MAX with hm | hm
    · rw [Nat.min_eq_left hm]; exact h1
    · rw [Nat.min_eq_right hm]; exact Nat.le_trans h2 (Nat.le_add_right _ _)
  | false =>
    -- wrapped: `ms % 65536`, which is `ms` below 65536
    show e ≤ ms % 65536 + s
    rw [Nat.mod_eq_of_lt (h.resolve_left Bool.false_ne_true)]; exact h1

section
variable {I : LayoutI L} {c : Cfg} (P : Nat → K L → Prop)
  (hstep : ∀ i x x1, P i x → tickStates I c x = .ok x1 → P (i + 1) (feed I c.beh x1))
include hstep

theorem mainLoop_inv (n : Nat) : ∀ (i : Nat) (k : K L) (e : Nat) (k' : K L) (e' : Nat), P i k →
    e ≤ i + slack k.rep → e ≤ U16_MAX → mainLoop I c n k e = .ok (k', e') →
    P (i + n) k' ∧ e' ≤ i + n + slack k'.rep ∧ e' ≤ U16_MAX := by
  induction n with
  | zero => intro i k e k' e' hp he hm h; cases h; exact ⟨hp, he, hm⟩
  | succ n ih =>
    intro i k e k' e' hp he hm h
    rw [mainLoop_succ] at h
    split at h
    · cases h
    · rename_i k1 h1
      rw [← Nat.add_assoc i n 1, Nat.add_right_comm i n 1]
      exact ih (i + 1) _ _ k' e' (hstep i k k1 hp h1)
        (tickReplay_slack c.beh k1.rep i e (by rw [tickStates_slack h1]; exact he))
        (bump_le_max hm _) h

theorem extraLoop_inv (n : Nat) : ∀ (i : Nat) (k k' : K L), P i k → n ≤ slack k.rep →
    extraLoop I c n k = .ok k' → P (i + n) k' := by
  induction n with
  | zero => intro i k k' hp _ h; cases h; exact hp
  | succ n ih =>
    intro i k k' hp hn h
    rw [extraLoop_succ] at h
    split at h
    · cases h
    · rename_i k1 h1
      obtain ⟨t1, t2⟩ := tickReplay_no_pop c.beh k1.rep n (by rw [tickStates_slack h1]; exact hn)
      rw [t1] at h
      rw [← Nat.add_assoc i n 1, Nat.add_right_comm i n 1]
      exact ih (i + 1) _ k' (hstep i k k1 hp h1) t2 h

/-- **Induction principle for `tick_ms`** (fixed code: every `ms_elapsed`; pinned code:
`ms_elapsed < 65536`).  Both loops together are `n ≥ ms_elapsed` rounds of `tick_states` followed by
`feed`: the second loop runs at most as long as the countdown of the replay allows, so it never
reaches its `break`. -/
theorem tickMs_inv {ms : Nat} {k k' : K L} (hms : c.fix = true ∨ ms < 65536) (h0 : P 0 k)
    (h : tickMs I c ms k = .ok k') : ∃ n, ms ≤ n ∧ P n k' := by
  simp only [tickMs] at h
  split at h
  · cases h
  · rename_i k1 extra h1
    obtain ⟨hp, he, hm⟩ := mainLoop_inv P hstep ms 0 k 0 k1 extra h0 (Nat.zero_le _) (Nat.zero_le _) h1
    rw [Nat.zero_add] at hp he
    exact ⟨_, Nat.le_add_right _ _, extraLoop_inv P hstep _ _ k1 k' hp
      (extra_count_le c.fix ms extra _ hms he hm) h⟩

end

end KVerif.DynMacro
