/-
The path from `Kanata` to zippychord (`Sim`, the model that is compared with the real code) hands
zippychord exactly a zippychord-level history (`zRun`, what the theorems quantify over): for a
physically consistent user history on a pass-through layout, each tick is "the queued event, if
any, then a zippychord tick".
-/
import KVerif.Lemmas.ZippyForm
namespace KVerif.Zippy
open KVerif.TextBuf

/-- the zippychord-level events of `n` layout ticks with queue `q` -/
def zOfTicks : List InEv → Nat → List ZEv
  | _, 0 => []
  | [], n + 1 => .tick :: zOfTicks [] n
  | .press k :: q, n + 1 => .press k :: .tick :: zOfTicks q n
  | .release k :: q, n + 1 => .release k :: .tick :: zOfTicks q n

/-- the zippychord-level history a user history amounts to -/
def zOfHist : List InEv → List HEv → List ZEv
  | _, [] => []
  | q, .press k :: r => zOfHist (q ++ [.press k]) r
  | q, .release k :: r => zOfHist (q ++ [.release k]) r
  | q, .ticks n :: r => zOfTicks q n ++ zOfHist (q.drop n) r

/-- the key events of a simulated output log, oldest first -/
def traceEvents (tr : List TraceItem) : List OsEv :=
  (tr.filterMap fun | .ev e => some e | .ticks _ => none).reverse

def inIgnoreRange (k : Nat) : Bool := KEY_IGNORE_MIN ≤ k && k ≤ KEY_IGNORE_MAX

/-- Every queued press is of a key that is not active, every queued release of one that is (after
the events before it), and no key is in the ignored range. -/
def QueueOK : List Nat → List InEv → Prop
  | _, [] => True
  | act, .press k :: q => k ∉ act ∧ inIgnoreRange k = false ∧ QueueOK (act ++ [k]) q
  | act, .release k :: q => k ∈ act ∧ inIgnoreRange k = false ∧ QueueOK (act.filter (· ≠ k)) q

/-- The same for a whole user history (events are appended to the queue). -/
def HistOK : List Nat → List InEv → List HEv → Prop
  | act, q, [] => QueueOK act q
  | act, q, .press k :: r => HistOK act (q ++ [.press k]) r
  | act, q, .release k :: r => HistOK act (q ++ [.release k]) r
  | act, q, .ticks n :: r =>
    QueueOK act q ∧ HistOK (activeAfter act (q.take n)) (q.drop n) r
where
  activeAfter : List Nat → List InEv → List Nat
    | act, [] => act
    | act, .press k :: q => activeAfter (act ++ [k]) q
    | act, .release k :: q => activeAfter (act.filter (· ≠ k)) q

theorem emit_eq (m : Sim) (evs : List OsEv) :
    ∃ tr t, m.emit evs = { m with trace := tr, ticks := t } ∧ traceEvents tr = traceEvents m.trace ++ evs := by
  induction evs generalizing m with
  | nil => exact ⟨m.trace, m.ticks, rfl, (List.append_nil _).symm⟩
  | cons e es ih =>
    obtain ⟨tr, t, he, htr⟩ := ih (m.emit1 e)
    refine ⟨tr, t, he, ?_⟩
    rw [htr, Sim.emit1, traceEvents, traceEvents]
    split <;> simp

theorem pressKey_eq (cfg : Cfg) (m : Sim) (k : Nat) (h : inIgnoreRange k = false) :
    ∃ tr t, m.pressKey cfg k = { m with zch := (zchPressKey cfg m.zch k).1, trace := tr, ticks := t } ∧
      traceEvents tr = traceEvents m.trace ++ (zchPressKey cfg m.zch k).2 := by
  rw [Sim.pressKey, if_neg (by simpa [inIgnoreRange] using h)]
  exact emit_eq { m with zch := (zchPressKey cfg m.zch k).1 } _

theorem releaseKey_eq (cfg : Cfg) (m : Sim) (k : Nat) (h : inIgnoreRange k = false) :
    ∃ tr t, m.releaseKey cfg k = { m with zch := (zchReleaseKey cfg m.zch k).1, trace := tr, ticks := t } ∧
      traceEvents tr = traceEvents m.trace ++ (zchReleaseKey cfg m.zch k).2 := by
  rw [Sim.releaseKey, if_neg (by simpa [inIgnoreRange] using h)]
  exact emit_eq { m with zch := (zchReleaseKey cfg m.zch k).1 } _

theorem releaseFold_skip (cfg : Cfg) (cur l : List Nat) (m : Sim) (h : ∀ x ∈ l, x ∈ cur) :
    l.foldl (fun m k => if cur.contains k then m else m.releaseKey cfg k) m = m := by
  induction l with
  | nil => rfl
  | cons a r ih =>
    rw [List.foldl_cons, if_pos (by simpa using h a (List.mem_cons_self ..))]
    exact ih (fun x hx => h x (List.mem_cons_of_mem _ hx))

theorem releaseFold_single (cfg : Cfg) (cur l : List Nat) (k : Nat) (m : Sim) (hnd : l.Nodup) (hk : k ∈ l)
    (hc : k ∉ cur) (h : ∀ x ∈ l, x ≠ k → x ∈ cur) :
    l.foldl (fun m k => if cur.contains k then m else m.releaseKey cfg k) m = m.releaseKey cfg k := by
  induction l with
  | nil => simp at hk
  | cons a r ih =>
    have hnd' := List.nodup_cons.mp hnd
    rw [List.foldl_cons]
    by_cases ha : a = k
    · subst ha
      rw [if_neg (by simpa using hc)]
      exact releaseFold_skip cfg cur r _ fun x hx =>
        h x (List.mem_cons_of_mem _ hx) (fun hxa => hnd'.1 (hxa ▸ hx))
    · rw [if_pos (by simpa using h a (List.mem_cons_self ..) ha)]
      exact ih hnd'.2 ((List.mem_cons.mp hk).resolve_left (Ne.symm ha))
        (fun x hx => h x (List.mem_cons_of_mem _ hx))

theorem pressFold_skip (cfg : Cfg) (l : List Nat) (m : Sim) (h : ∀ x ∈ l, x ∈ m.prevKeys) :
    l.foldl (fun m k => if m.prevKeys.contains k then m
      else ({ m with prevKeys := m.prevKeys ++ [k] }).pressKey cfg k) m = m := by
  induction l with
  | nil => rfl
  | cons a r ih =>
    rw [List.foldl_cons, if_pos (by simpa using h a (List.mem_cons_self ..))]
    exact ih (fun x hx => h x (List.mem_cons_of_mem _ hx))

/-- What the layout ticks maintain. -/
structure SimOK (m : Sim) : Prop where
  prev : m.prevKeys = m.active
  nodup : m.active.Nodup
  queue : QueueOK m.active m.queue

theorem queueOK_step {act : List Nat} {q : List InEv} (hnd : act.Nodup) (hq : QueueOK act q) :
    (HistOK.activeAfter act (q.take 1)).Nodup ∧ QueueOK (HistOK.activeAfter act (q.take 1)) (q.drop 1) := by
  cases q with
  | nil => exact ⟨hnd, trivial⟩
  | cons e r =>
    cases e with
    | press k =>
      refine ⟨?_, hq.2.2⟩
      simp only [List.take_succ_cons, List.take_zero, HistOK.activeAfter]
      exact List.nodup_append.mpr ⟨hnd, by simp, by
        intro a ha b hb; simp at hb; subst hb; intro h; subst h; exact hq.1 ha⟩
    | release k => exact ⟨hnd.filter _, hq.2.2⟩

theorem sim_tick (cfg : Cfg) (m : Sim) (h : SimOK m) :
    (m.tick cfg).zch = (zRun cfg m.zch (zOfTicks m.queue 1)).1 ∧
    traceEvents (m.tick cfg).trace = traceEvents m.trace ++ (zRun cfg m.zch (zOfTicks m.queue 1)).2 ∧
    (m.tick cfg).prevKeys = (m.tick cfg).active ∧ (m.tick cfg).queue = m.queue.drop 1 ∧
    (m.tick cfg).active = HistOK.activeAfter m.active (m.queue.take 1) := by
  obtain ⟨queue, active, prev, zch, ticks, trace⟩ := m
  obtain ⟨hp, hnd, hq⟩ := h
  simp only at hp hnd hq
  subst hp
  cases queue with
  | nil =>
    simp only [Sim.tick, zOfTicks, zRun, zStep, List.append_nil]
    rw [releaseFold_skip cfg _ _ _ (fun x hx => hx), pressFold_skip cfg _ _ (fun x hx => hx)]
    exact ⟨rfl, rfl, rfl, rfl, rfl⟩
  | cons e q =>
    cases e with
    | press k =>
      obtain ⟨hk, hig, _⟩ := hq
      simp only [Sim.tick, zOfTicks, zRun, zStep, List.append_nil]
      rw [releaseFold_skip cfg _ _ _ (fun x hx => List.mem_append_left _ hx), List.foldl_append,
        pressFold_skip cfg _ _ (fun x hx => hx)]
      simp only [List.foldl_cons, List.foldl_nil]
      rw [if_neg (by simpa using hk)]
      obtain ⟨tr, t, he, htr⟩ := pressKey_eq cfg
        { queue := q, active := prev ++ [k], prevKeys := prev ++ [k], zch := zch, ticks := ticks, trace := trace } k hig
      rw [he]
      exact ⟨rfl, htr, rfl, rfl, rfl⟩
    | release k =>
      obtain ⟨hk, hig, _⟩ := hq
      simp only [Sim.tick, zOfTicks, zRun, zStep, List.append_nil]
      rw [releaseFold_single cfg _ _ k _ hnd hk (by simp) (fun x hx hxk => by simp [hx, hxk])]
      obtain ⟨tr, t, he, htr⟩ := releaseKey_eq cfg
        { queue := q, active := prev.filter (fun x => x ≠ k), prevKeys := prev, zch := zch, ticks := ticks,
          trace := trace } k hig
      rw [he, pressFold_skip cfg _ _ (fun x hx => (List.mem_filter.mp hx).1)]
      exact ⟨rfl, htr, rfl, rfl, rfl⟩

theorem zOfTicks_succ (q : List InEv) (n : Nat) :
    zOfTicks q (n + 1) = zOfTicks q 1 ++ zOfTicks (q.drop 1) n := by
  cases q with
  | nil => simp [zOfTicks]
  | cons e r => cases e <;> simp [zOfTicks]

theorem activeAfter_append (act : List Nat) (q1 q2 : List InEv) :
    HistOK.activeAfter act (q1 ++ q2) = HistOK.activeAfter (HistOK.activeAfter act q1) q2 := by
  induction q1 generalizing act with
  | nil => rfl
  | cons e r ih => cases e <;> simp [HistOK.activeAfter, ih]

/-- `n` layout ticks. -/
theorem sim_ticksN (cfg : Cfg) (n : Nat) (m : Sim) (h : SimOK m) :
    SimOK (m.ticksN cfg n) ∧
    (m.ticksN cfg n).zch = (zRun cfg m.zch (zOfTicks m.queue n)).1 ∧
    traceEvents (m.ticksN cfg n).trace = traceEvents m.trace ++ (zRun cfg m.zch (zOfTicks m.queue n)).2 ∧
    (m.ticksN cfg n).queue = m.queue.drop n ∧
    (m.ticksN cfg n).active = HistOK.activeAfter m.active (m.queue.take n) := by
  induction n generalizing m with
  | zero => exact ⟨h, rfl, (List.append_nil _).symm, rfl, rfl⟩
  | succ n ih =>
    obtain ⟨t1, t2, t3, t4, t5⟩ := sim_tick cfg m h
    obtain ⟨hnd', hq'⟩ := queueOK_step h.nodup h.queue
    rw [← t5] at hnd' hq'
    rw [← t4] at hq'
    obtain ⟨i0, i1, i2, i4, i5⟩ := ih (m.tick cfg) ⟨t3, hnd', hq'⟩
    rw [Sim.ticksN, zOfTicks_succ, zRun_append]
    refine ⟨i0, ?_, ?_, ?_, ?_⟩
    · rw [i1, t1, t4]
    · rw [i2, t2, t1, t4, List.append_assoc]
    · rw [i4, t4, List.drop_drop, Nat.add_comm]
    · rw [i5, t5, t4, ← activeAfter_append]
      congr 1
      cases m.queue <;> simp [List.take_succ_cons]

/-- A whole user history: the machine that is compared with the real `Kanata` feeds zippychord the
zippychord-level history `zOfHist`, and its output log holds exactly the events `zRun` returns. -/
theorem sim_hist (cfg : Cfg) (h : List HEv) : ∀ (m : Sim), m.prevKeys = m.active → m.active.Nodup →
    HistOK m.active m.queue h →
    (m.hist cfg h).zch = (zRun cfg m.zch (zOfHist m.queue h)).1 ∧
    traceEvents (m.hist cfg h).trace = traceEvents m.trace ++ (zRun cfg m.zch (zOfHist m.queue h)).2 := by
  induction h with
  | nil => intro m _ _ _; exact ⟨rfl, (List.append_nil _).symm⟩
  | cons e r ih =>
    intro m hp hnd hok
    cases e with
    | press k => exact ih { m with queue := m.queue ++ [InEv.press k] } hp hnd hok
    | release k => exact ih { m with queue := m.queue ++ [InEv.release k] } hp hnd hok
    | ticks n =>
      obtain ⟨i0, i1, i2, i4, i5⟩ := sim_ticksN cfg n m ⟨hp, hnd, hok.1⟩
      have := ih (m.ticksN cfg n) i0.prev i0.nodup (by rw [i5, i4]; exact hok.2)
      rw [Sim.hist, zOfHist, zRun_append, this.1, this.2, i1, i2, i4, List.append_assoc]
      exact ⟨rfl, rfl⟩

end KVerif.Zippy
