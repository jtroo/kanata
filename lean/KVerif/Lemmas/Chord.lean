/-
C09 helper lemmas: the chord-v1 waiting state (`WaitingState::handle_chord`): the queue scan
(`chordFold`), the final `retain` (`chordRetain`) and the mask accumulation, for all queues.
-/
import KVerif.Model.Layout
namespace KVerif.C09
open KVerif.L

/-! ## Classification of a queued event relative to a pending chord -/

/-- the event arrived more than the timeout after the chord's first key (the `delay − since >
timeout` rule): it is ignored by the scan and stays in the queue -/
def skipped (w : Waiting) (s : Queued) : Bool := decide (w.delay - s.since > w.timeout)

/-- key mask of the event's coordinate in the group (0 if it is not a chord key) -/
def maskOf (g : ChordsGroup) (s : Queued) : Nat := (g.getKeys s.ev.coord).getD 0

/-- a press of a key of the group, inside the window: it takes part in the chord -/
def chordPress (w : Waiting) (g : ChordsGroup) (s : Queued) : Bool :=
  !skipped w s && s.ev.isPress && (g.getKeys s.ev.coord).isSome

/-- an event that ends chording: the release of a key of the group, or the press of another key -/
def stops (w : Waiting) (g : ChordsGroup) (s : Queued) : Bool :=
  !skipped w s && (if (g.getKeys s.ev.coord).isSome then !s.ev.isPress else s.ev.isPress)

/-- the coordinate `handle_chord` moves the chord to when a stop event is a chord-key release -/
def releasedBy (g : ChordsGroup) : List Queued → Option Coord
  | s :: _ => if (g.getKeys s.ev.coord).isSome then some s.ev.coord else none
  | [] => none

/-- masks accumulated left to right, as the `try_fold` does -/
def accMask (g : ChordsGroup) (a : Nat) (l : List Queued) : Nat := l.foldl (fun a s => a ||| maskOf g s) a

theorem chordPress_not_stops {w g s} (h : chordPress w g s = true) : stops w g s = false := by
  simp only [chordPress, Bool.and_eq_true, Bool.not_eq_true'] at h
  simp [stops, h.1.1, h.1.2, h.2]

/-! ## Splitting a queue at the first stop event -/

/-- events before the first stop event -/
def scanPre (w : Waiting) (g : ChordsGroup) (q : List Queued) : List Queued := q.takeWhile (fun s => !stops w g s)
/-- the first stop event and everything after it -/
def scanRest (w : Waiting) (g : ChordsGroup) (q : List Queued) : List Queued := q.dropWhile (fun s => !stops w g s)

theorem scan_append (w : Waiting) (g : ChordsGroup) (q : List Queued) : scanPre w g q ++ scanRest w g q = q :=
  List.takeWhile_append_dropWhile

/-- the participating presses of a queue: presses of keys of the group, inside the window, before
the first stop event -/
def participants (w : Waiting) (g : ChordsGroup) (q : List Queued) : List Queued :=
  (scanPre w g q).filter (chordPress w g)

/-- what stays in the queue when the chord is decided -/
def keptQueue (w : Waiting) (g : ChordsGroup) (q : List Queued) : List Queued :=
  (scanPre w g q).filter (fun s => !chordPress w g s) ++ scanRest w g q

/-! ## One more event at the head of the queue -/

theorem scanRest_cons (w : Waiting) (g : ChordsGroup) (s : Queued) (q : List Queued) :
    scanRest w g (s :: q) = if stops w g s then s :: q else scanRest w g q := by
  simp only [scanRest, List.dropWhile_cons]
  cases stops w g s <;> rfl

theorem participants_cons (w : Waiting) (g : ChordsGroup) (s : Queued) (q : List Queued) :
    participants w g (s :: q) =
      if stops w g s then [] else if chordPress w g s then s :: participants w g q else participants w g q := by
  unfold participants scanPre
  rw [List.takeWhile_cons]
  cases stops w g s
  · exact List.filter_cons
  · rfl

theorem keptQueue_cons (w : Waiting) (g : ChordsGroup) (s : Queued) (q : List Queued) :
    keptQueue w g (s :: q) =
      if stops w g s then s :: q else if chordPress w g s then keptQueue w g q else s :: keptQueue w g q := by
  unfold keptQueue scanPre scanRest
  rw [List.takeWhile_cons, List.dropWhile_cons]
  cases stops w g s
  · show List.filter _ (s :: _) ++ _ = _
    rw [List.filter_cons]
    cases chordPress w g s <;> rfl
  · rfl

/-! ## `chordFold` -/

theorem chordFold_cons (w : Waiting) (g : ChordsGroup) (st : ChordFold) (s : Queued) (rest : List Queued) :
    chordFold w g st (s :: rest) =
      if stops w g s then (⟨st.active, st.handled, (releasedBy g (s :: rest)).or st.released⟩, false)
      else if chordPress w g s then chordFold w g ⟨st.active ||| maskOf g s, st.handled + 1, st.released⟩ rest
      else chordFold w g st rest := by
  rw [chordFold, releasedBy]
  unfold stops chordPress skipped maskOf
  by_cases hsk : w.delay - s.since > w.timeout
  · rw [if_pos hsk, decide_eq_true hsk]; rfl
  · -- inside the window: (key of the group or not) × (press or release), each case computes
    rw [if_neg hsk, decide_eq_false hsk]
    cases g.getKeys s.ev.coord <;> cases s.ev <;> rfl

theorem chordFold_closed (w : Waiting) (g : ChordsGroup) (q : List Queued) : ∀ (a h : Nat) (r : Option Coord),
    chordFold w g ⟨a, h, r⟩ q =
      (⟨accMask g a (participants w g q), h + (participants w g q).length, (releasedBy g (scanRest w g q)).or r⟩,
       (scanRest w g q).isEmpty) := by
  induction q with
  | nil => intro a h r; rfl
  | cons s q ih =>
    intro a h r
    rw [chordFold_cons, scanRest_cons, participants_cons]
    cases stops w g s
    · cases chordPress w g s
      · simp only [Bool.false_eq_true, if_false, ih]
      · simp only [Bool.false_eq_true, if_false, if_true, ih, List.length_cons, Nat.add_assoc, Nat.add_comm 1]; rfl
    · rfl

/-! ## `chordRetain` -/

theorem chordRetain_cons (w : Waiting) (g : ChordsGroup) (h : Nat) (s : Queued) (rest : List Queued) :
    chordRetain w g h (s :: rest) =
      if chordPress w g s && decide (h > 0) then
        ((chordRetain w g (h - 1) rest).1, s.ev.coord :: (chordRetain w g (h - 1) rest).2)
      else (s :: (chordRetain w g h rest).1, (chordRetain w g h rest).2) := by
  rw [chordRetain]
  unfold chordPress skipped
  by_cases hsk : w.delay - s.since > w.timeout
  · rw [if_pos hsk, decide_eq_true hsk]; rfl
  · rw [if_neg hsk, decide_eq_false hsk]; rfl

theorem chordRetain_zero (w : Waiting) (g : ChordsGroup) (q : List Queued) : chordRetain w g 0 q = (q, []) := by
  induction q with
  | nil => rfl
  | cons s q ih => rw [chordRetain_cons, ih, Bool.and_comm]; rfl

/-- closed form of the final `retain`: exactly the participating presses leave the queue, their
coordinates are reported in queue order, everything else stays in its original order -/
theorem chordRetain_closed (w : Waiting) (g : ChordsGroup) (q : List Queued) :
    chordRetain w g (participants w g q).length q =
      (keptQueue w g q, (participants w g q).map (·.ev.coord)) := by
  induction q with
  | nil => rfl
  | cons s q ih =>
    rw [chordRetain_cons, participants_cons, keptQueue_cons]
    cases stops w g s
    · cases chordPress w g s
      · simp only [Bool.false_eq_true, if_false, Bool.false_and, ih]
      · simp only [Bool.false_eq_true, if_false, if_true, List.length_cons, Nat.zero_lt_succ, decide_true, Bool.and_self,
          Nat.add_sub_cancel, ih, List.map_cons]
    · simp only [if_true, List.length_nil, Nat.lt_irrefl, decide_false, Bool.and_false, Bool.false_eq_true, if_false,
        chordRetain_zero, List.map_nil]

/-! ## `handleChord` -/

/-- the OR of the first key's mask and the masks of the participating presses -/
def chordActive (w : Waiting) (g : ChordsGroup) (q : List Queued) : Nat :=
  accMask g ((g.getKeys w.coord).getD 0) (participants w g q)

/-- the pressed queue handed to `waiting_into_tap`: the first key, then the participating presses
in queue order (an `ArrayDeque` of 32: further pushes are refused) -/
def pressedQueue (w : Waiting) (g : ChordsGroup) (q : List Queued) : List Coord :=
  (w.coord :: (participants w g q).map (·.ev.coord)).take QUEUE_SIZE

def moveTo (w : Waiting) : Option Coord → Waiting
  | some c => { w with coord := c }
  | none => w

def fastPath (w : Waiting) (q : List Queued) : Bool := q.length % 256 == w.prevQueueLen && w.timeout - w.delay > 0

/-- **closed form of `handle_chord`**, for every waiting state, group, queue and action queue -/
theorem handleChord_closed (w : Waiting) (g : ChordsGroup) (q : List Queued) (aq : ActionQueue) :
    handleChord w g q aq =
      if fastPath w q then (w, q, aq, none) else
      if (scanRest w g q).isEmpty && !(w.timeout - w.delay == 0) then
        match g.getChordIfUnambiguous (chordActive w g q) with
        | some a => ({ w with prevQueueLen := q.length % 256 }, keptQueue w g q, aq, some (.tap, a, pressedQueue w g q))
        | none => ({ w with prevQueueLen := q.length % 256 }, q, aq, none)
      else
        match g.getChord (chordActive w g q) with
        | some a => (moveTo { w with prevQueueLen := q.length % 256 } (releasedBy g (scanRest w g q)), keptQueue w g q, aq,
                     some (.tap, a, pressedQueue w g q))
        | none => ({ w with prevQueueLen := q.length % 256 }, keptQueue w g q,
                   decomposeChord { w with prevQueueLen := q.length % 256 } g q aq,
                   some (.noOp, .noOp, pressedQueue w g q)) := by
  -- the window rule reads only `delay` and `timeout`, so the queue is classified in the same way
  -- (by unfolding) for the waiting state with `prevQueueLen` or `coord` replaced
  have hfold : chordFold { w with prevQueueLen := q.length % 256 } g ⟨(g.getKeys w.coord).getD 0, 0, none⟩ q =
      (⟨chordActive w g q, (participants w g q).length, releasedBy g (scanRest w g q)⟩, (scanRest w g q).isEmpty) := by
    rw [chordFold_closed, Nat.zero_add, Option.or_none]; rfl
  have hret : ∀ c p, chordRetain { w with coord := c, prevQueueLen := p } g (participants w g q).length q =
      (keptQueue w g q, (participants w g q).map (·.ev.coord)) := fun c p => chordRetain_closed _ g q
  rw [handleChord, fastPath]
  by_cases h : (q.length % 256 == w.prevQueueLen && w.timeout - w.delay > 0) = true
  · rw [if_pos h, if_pos h]
  · rw [if_neg h, if_neg h]
    simp only [hfold]
    by_cases hok : ((scanRest w g q).isEmpty && !(w.timeout - w.delay == 0)) = true
    · have hre : releasedBy g (scanRest w g q) = none := by
        rw [List.isEmpty_iff.mp (Bool.and_eq_true_iff.mp hok).1]; rfl
      rw [if_pos hok, if_pos hok, hre]
      simp only [hret]
      cases g.getChordIfUnambiguous (chordActive w g q) <;> rfl
    · rw [if_neg hok, if_neg hok]
      cases releasedBy g (scanRest w g q) <;> simp only [hret] <;> cases g.getChord (chordActive w g q) <;> rfl

/-- what `handle_chord` decides (nothing yet / tap with an action / decomposition) depends on the queue
only through its length, whether the scan met a stop event, and the accumulated key set -/
theorem handleChord_decision (w : Waiting) (g : ChordsGroup) (q : List Queued) (aq : ActionQueue) :
    (handleChord w g q aq).2.2.2.map (fun r => (r.1, r.2.1)) =
      if fastPath w q then none
      else if (scanRest w g q).isEmpty && !(w.timeout - w.delay == 0) then
        (g.getChordIfUnambiguous (chordActive w g q)).map (WAct.tap, ·)
      else some (match g.getChord (chordActive w g q) with | some a => (.tap, a) | none => (.noOp, .noOp)) := by
  rw [handleChord_closed]
  by_cases hf : fastPath w q = true
  · rw [if_pos hf, if_pos hf]; rfl
  · rw [if_neg hf, if_neg hf]
    by_cases hopen : ((scanRest w g q).isEmpty && !(w.timeout - w.delay == 0)) = true
    · rw [if_pos hopen, if_pos hopen]
      cases g.getChordIfUnambiguous (chordActive w g q) <;> rfl
    · rw [if_neg hopen, if_neg hopen]
      cases g.getChord (chordActive w g q) <;> rfl

/-! ## What the parts of a decision consist of -/

theorem releasedBy_eq_some {g : ChordsGroup} {l : List Queued} {c : Coord} (h : releasedBy g l = some c) :
    ∃ s rest, l = s :: rest ∧ s.ev.coord = c ∧ (g.getKeys c).isSome = true := by
  cases l with
  | nil => cases h
  | cons s rest =>
    rw [releasedBy] at h
    split at h
    · next hs => cases h; exact ⟨s, rest, rfl, rfl, hs⟩
    · cases h

theorem mem_of_mem_scanRest {w : Waiting} {g : ChordsGroup} {q : List Queued} {x : Queued} (h : x ∈ scanRest w g q) :
    x ∈ q := by
  rw [← scan_append w g q]; exact List.mem_append_right _ h

/-- the coordinate a deciding chord moves to is that of a queued event on a key of the group -/
theorem releasedBy_scanRest {w : Waiting} {g : ChordsGroup} {q : List Queued} {c : Coord}
    (h : releasedBy g (scanRest w g q) = some c) : (∃ x ∈ q, x.ev.coord = c) ∧ (g.getKeys c).isSome = true := by
  obtain ⟨s, rest, hl, hs, hk⟩ := releasedBy_eq_some h
  exact ⟨⟨s, mem_of_mem_scanRest (hl ▸ List.mem_cons_self), hs⟩, hk⟩

theorem keptQueue_sublist (w : Waiting) (g : ChordsGroup) (q : List Queued) : (keptQueue w g q).Sublist q := by
  conv => rhs; rw [← scan_append w g q]
  exact List.Sublist.append List.filter_sublist (List.Sublist.refl _)

theorem mem_participants {w : Waiting} {g : ChordsGroup} {q : List Queued} {x : Queued} (h : x ∈ participants w g q) :
    x ∈ q ∧ x.ev = .press x.ev.coord ∧ (g.getKeys x.ev.coord).isSome = true := by
  obtain ⟨h1, h2⟩ := List.mem_filter.mp h
  rw [chordPress, Bool.and_eq_true, Bool.and_eq_true] at h2
  refine ⟨?_, ?_, h2.2⟩
  · rw [← scan_append w g q]; exact List.mem_append_left _ h1
  · cases hev : x.ev with
    | press c => rfl
    | release c => rw [hev] at h2; cases h2.1.2

/-- the pressed queue holds the first key and presses of keys of the group that were queued -/
theorem mem_pressedQueue {w : Waiting} {g : ChordsGroup} {q : List Queued} {c : Coord} (h : c ∈ pressedQueue w g q) :
    c = w.coord ∨ (∃ x ∈ q, x.ev = .press c) ∧ (g.getKeys c).isSome = true := by
  rcases List.mem_cons.mp (List.mem_of_mem_take h) with h | h
  · exact .inl h
  · obtain ⟨x, hx, rfl⟩ := List.mem_map.mp h
    obtain ⟨h1, h2, h3⟩ := mem_participants hx
    exact .inr ⟨⟨x, h1, h2⟩, h3⟩

/-! ## Masks: the accumulated OR does not depend on the order -/

theorem foldl_or (l : List Nat) : ∀ a : Nat, l.foldl (· ||| ·) a = a ||| orMasks l := by
  unfold orMasks
  induction l with
  | nil => intro a; simp
  | cons x l ih =>
    intro a
    simp only [List.foldl_cons, Nat.zero_or]
    rw [ih (a ||| x), ih x, Nat.or_assoc]

theorem accMask_eq (g : ChordsGroup) (l : List Queued) (a : Nat) :
    accMask g a l = a ||| orMasks (l.map (maskOf g)) := by
  rw [← foldl_or]
  unfold accMask
  rw [List.foldl_map]

theorem orMasks_perm {l1 l2 : List Nat} (h : l1.Perm l2) : orMasks l1 = orMasks l2 := by
  unfold orMasks
  apply h.foldl_eq'
  intro x _ y _ z
  rw [Nat.or_assoc, Nat.or_assoc, Nat.or_comm x]

theorem accMask_perm (g : ChordsGroup) {l1 l2 : List Queued} (h : l1.Perm l2) (a : Nat) :
    accMask g a l1 = accMask g a l2 := by
  rw [accMask_eq, accMask_eq, orMasks_perm (h.map _)]

/-! ## `get_chord_if_unambiguous` -/

/-- `m` has a defined strict superset in the table -/
def hasSuperset (chords : List (Nat × Action)) (m : Nat) : Prop :=
  ∃ e ∈ chords, e.1 ≠ m ∧ e.1 ||| m = e.1

theorem unamb_go_cons (m ck : Nat) (a : Action) (l : List (Nat × Action)) (res : Option Action) :
    ChordsGroup.getChordIfUnambiguous.go m ((ck, a) :: l) res =
      if ck == m then ChordsGroup.getChordIfUnambiguous.go m l (some a)
      else if ck ||| m == ck then none else ChordsGroup.getChordIfUnambiguous.go m l res := rfl

theorem unamb_go_superset (m : Nat) : ∀ (l : List (Nat × Action)) (res : Option Action),
    hasSuperset l m → ChordsGroup.getChordIfUnambiguous.go m l res = none := by
  intro l
  induction l with
  | nil => exact fun res ⟨e, he, _⟩ => nomatch he
  | cons x l ih =>
    intro res ⟨e, he, hne, hsup⟩
    obtain ⟨ck, a⟩ := x
    rw [unamb_go_cons]
    -- the superset is the head (then the scan aborts here) or lies in the tail
    rcases List.mem_cons.mp he with rfl | hmem
    · rw [if_neg (fun h => hne (eq_of_beq h)), if_pos (beq_of_eq hsup)]
    · have := fun res => ih res ⟨e, hmem, hne, hsup⟩
      rw [this, this, ite_self, ite_self]

/-- with a defined strict superset the chord is ambiguous: no early decision -/
theorem unambiguous_none_of_superset (g : ChordsGroup) (m : Nat) (h : hasSuperset g.chords m) :
    g.getChordIfUnambiguous m = none := by
  unfold ChordsGroup.getChordIfUnambiguous
  exact unamb_go_superset m g.chords none h

theorem unamb_go_nosuperset (m : Nat) : ∀ (l : List (Nat × Action)) (res : Option Action),
    ¬ hasSuperset l m → (l.map (·.1)).Nodup →
    ChordsGroup.getChordIfUnambiguous.go m l res =
      match l.find? (·.1 == m) with
      | some x => some x.2
      | none => res := by
  intro l
  induction l with
  | nil => exact fun res _ _ => rfl
  | cons x l ih =>
    intro res hns hnd
    obtain ⟨ck, a⟩ := x
    have hns' : ¬ hasSuperset l m := fun ⟨e, he, h⟩ => hns ⟨e, List.mem_cons_of_mem _ he, h⟩
    rw [List.map_cons, List.nodup_cons] at hnd
    rw [unamb_go_cons, List.find?_cons, ih _ hns' hnd.2, ih _ hns' hnd.2]
    cases h1 : ck == m
    · -- not the entry looked for, and not a superset either
      have h2 : (ck ||| m == ck) = false :=
        Bool.eq_false_iff.mpr fun h => hns ⟨(ck, a), List.mem_cons_self, ne_of_beq_false h1, eq_of_beq h⟩
      rw [if_neg Bool.false_ne_true, h2, if_neg Bool.false_ne_true]
    · -- the entry looked for; the masks are distinct, so there is no second one behind it
      have : l.find? (·.1 == m) = none :=
        List.find?_eq_none.mpr fun y hy hym =>
          hnd.1 (List.mem_map.mpr ⟨y, hy, (eq_of_beq hym).trans (eq_of_beq h1).symm⟩)
      rw [if_pos rfl, this]

theorem unamb_go_mem (m : Nat) : ∀ (l : List (Nat × Action)) (res : Option Action) (a : Action),
    ChordsGroup.getChordIfUnambiguous.go m l res = some a → (m, a) ∈ l ∨ res = some a := by
  intro l
  induction l with
  | nil => exact fun res a h => Or.inr h
  | cons x l ih =>
    intro res a h
    obtain ⟨ck, b⟩ := x
    rw [unamb_go_cons] at h
    split at h
    · rename_i heq
      rcases ih _ a h with h1 | h1
      · exact Or.inl (List.mem_cons_of_mem _ h1)
      · exact Or.inl (eq_of_beq heq ▸ Option.some.inj h1 ▸ List.mem_cons_self)
    · split at h
      · cases h
      · exact (ih _ a h).imp_left (List.mem_cons_of_mem _)

/-- an early decision is always an entry of the table for exactly the accumulated key set -/
theorem unambiguous_mem (g : ChordsGroup) (m : Nat) (a : Action) (h : g.getChordIfUnambiguous m = some a) :
    (m, a) ∈ g.chords := by
  unfold ChordsGroup.getChordIfUnambiguous at h
  rcases unamb_go_mem m g.chords none a h with h1 | h1
  · exact h1
  · cases h1

theorem getChord_mem (g : ChordsGroup) (m : Nat) (a : Action) (h : g.getChord m = some a) : (m, a) ∈ g.chords := by
  unfold ChordsGroup.getChord at h
  obtain ⟨⟨m', a'⟩, hf, rfl⟩ := Option.map_eq_some_iff.mp h
  have h1 := List.find?_some hf
  exact eq_of_beq h1 ▸ List.mem_of_find?_eq_some hf
/-- without a defined strict superset (and with the table's masks distinct, which the parser's hash
map guarantees) the early decision is the chord defined for exactly this key set -/
theorem unambiguous_eq_getChord (g : ChordsGroup) (m : Nat) (h : ¬ hasSuperset g.chords m)
    (hnd : (g.chords.map (·.1)).Nodup) : g.getChordIfUnambiguous m = g.getChord m := by
  unfold ChordsGroup.getChordIfUnambiguous ChordsGroup.getChord
  rw [unamb_go_nosuperset m g.chords none h hnd]
  cases g.chords.find? (·.1 == m) <;> rfl

end KVerif.C09
