/-
The run loop `C06.run` (key events and millisecond ticks fed to the layout, stopping when an event
meets a full queue), reasoned about once: its equations, and the inductions over a history that every
fragment needs — an invariant of the steps is an invariant of the run, a history that fits the queue
returns a state, quiet ticks return a state and use up a potential.  The fragments (one-shot, macro,
tap-hold, tap-dance, chords, their unions) supply the step facts and instantiate these.
-/
import KVerif.Lemmas.OneShotRun
namespace KVerif.Quiesce
open KVerif.L KVerif.C06

def evCount : List In → Nat
  | [] => 0
  | .ev _ :: r => evCount r + 1
  | .tick :: r => evCount r

/-- which keys are physically down after a history -/
def downs : List Coord → List In → List Coord
  | down, [] => down
  | down, i :: r => downs (downAfter down i) r

theorem downs_ticks (down : List Coord) : ∀ N, downs down (List.replicate N .tick) = down
  | 0 => rfl
  | N + 1 => downs_ticks down N

theorem run_ev {s s' : Layout} {e : Ev} (hq : s.queue.length < QUEUE_SIZE) (he : s.event e = .ok s')
    (down : List Coord) (rest : List In) :
    run s down (.ev e :: rest) = run s' (downAfter down (.ev e)) rest := by
  have hov : overflows s (.ev e) = false := by simp only [overflows, decide_eq_false_iff_not]; omega
  simp only [run, hov, Bool.false_eq_true, if_false, stepIn, he]

theorem run_ev_full {s : Layout} (e : Ev) (hq : QUEUE_SIZE ≤ s.queue.length) (down : List Coord)
    (rest : List In) : run s down (.ev e :: rest) = none := by
  simp only [run, overflows, hq, decide_true, if_true]

theorem run_tick {s s' : Layout} {cu : CustomEv} (ht : tick s = .ok (s', cu)) (down : List Coord)
    (rest : List In) : run s down (.tick :: rest) = run s' down rest := by
  simp only [run, overflows, Bool.false_eq_true, if_false, stepIn, ht, downAfter]

theorem run_tick_error {s : Layout} {c : Crash} (ht : tick s = .error c) (down : List Coord)
    (rest : List In) : run s down (.tick :: rest) = some (.error c) := by
  simp only [run, overflows, Bool.false_eq_true, if_false, stepIn, ht]

theorem run_cons_ok {s : Layout} {down : List Coord} {i : In} {rest : List In} {r : Layout × List Coord}
    (h : run s down (i :: rest) = some (.ok r)) :
    overflows s i = false ∧ ∃ s', stepIn s i = .ok s' ∧ run s' (downAfter down i) rest = some (.ok r) := by
  simp only [run] at h
  split at h
  · cases h
  · rename_i hov
    split at h
    · cases h
    · rename_i s' hs
      exact ⟨by simpa using hov, s', hs, h⟩

theorem stepIn_tick_ok {s s' : Layout} (h : stepIn s .tick = .ok s') : ∃ cu, tick s = .ok (s', cu) := by
  simp only [stepIn] at h
  cases ht : tick s with
  | error c => simp only [ht] at h; cases h
  | ok x => simp only [ht] at h; cases h; exact ⟨x.2, rfl⟩

theorem run_append : ∀ (a b : List In) (s : Layout) (down : List Coord) (r : Layout × List Coord),
    run s down (a ++ b) = some (.ok r) →
    ∃ s1 d1, run s down a = some (.ok (s1, d1)) ∧ run s1 d1 b = some (.ok r)
  | [], _, s, down, _, h => ⟨s, down, rfl, h⟩
  | i :: rest, b, s, down, r, h => by
    obtain ⟨hov, s', hs, hr⟩ := run_cons_ok (List.cons_append ▸ h)
    obtain ⟨s1, d1, h1, h2⟩ := run_append rest b s' _ r hr
    exact ⟨s1, d1, by simp only [run, hov, Bool.false_eq_true, if_false, hs]; exact h1, h2⟩

section preserved
variable {P : Layout → List Coord → Prop}

theorem run_preserves
    (hev : ∀ s down e s', P s down → s.queue.length < QUEUE_SIZE → s.event e = .ok s' →
      P s' (downAfter down (.ev e)))
    (htick : ∀ s down s' cu, P s down → tick s = .ok (s', cu) → P s' down) :
    ∀ (ins : List In) (s : Layout) (down : List Coord), P s down →
      ∀ s' down', run s down ins = some (.ok (s', down')) → P s' down'
  | [], s, down, h, s', down', hr => by cases hr; exact h
  | .ev e :: rest, s, down, h, s', down', hr => by
    obtain ⟨hov, s1, hs, hr⟩ := run_cons_ok hr
    have hq : s.queue.length < QUEUE_SIZE := by
      simp only [overflows, decide_eq_false_iff_not] at hov; omega
    exact run_preserves hev htick rest s1 _ (hev s down e s1 h hq hs) s' down' hr
  | .tick :: rest, s, down, h, s', down', hr => by
    obtain ⟨_, s1, hs, hr⟩ := run_cons_ok hr
    obtain ⟨cu, ht⟩ := stepIn_tick_ok hs
    exact run_preserves hev htick rest s1 _ (htick s down s1 cu h ht) s' down' hr

theorem quiet_preserves {Q : Layout → Prop} {pot : Layout → Nat} (down : List Coord)
    (htick : ∀ s s' cu, Q s → tick s = .ok (s', cu) → Q s' ∧ pot s' ≤ pot s - 1) :
    ∀ (N : Nat) (s : Layout), Q s → ∀ s' down', run s down (List.replicate N .tick) = some (.ok (s', down')) →
      down' = down ∧ Q s' ∧ pot s' ≤ pot s - N
  | 0, s, h, s', down', hr => by cases hr; exact ⟨rfl, h, Nat.le_refl _⟩
  | N + 1, s, h, s', down', hr => by
    obtain ⟨_, s1, hs, hr⟩ := run_cons_ok (List.replicate_succ ▸ hr)
    obtain ⟨cu, ht⟩ := stepIn_tick_ok hs
    obtain ⟨h1, p1⟩ := htick s s1 cu h ht
    obtain ⟨r1, r2, r3⟩ := quiet_preserves down htick N s1 h1 s' down' hr
    exact ⟨r1, r2, by omega⟩

end preserved

/-- `A` admits every input of a history; it sees the keys that are down when the input arrives. -/
def Admitted (A : List Coord → In → Prop) : List Coord → List In → Prop
  | _, [] => True
  | down, i :: r => A down i ∧ Admitted A (downAfter down i) r

/-- `P` is kept by the run loop, and every step from a state in `P` returns a state. -/
structure StepInv (P : Layout → List Coord → Prop) (A : List Coord → In → Prop) : Prop where
  ev : ∀ {s down} (e : Ev), P s down → s.queue.length < QUEUE_SIZE → A down (.ev e) →
    ∃ s', s.event e = .ok s' ∧ P s' (downAfter down (.ev e)) ∧ s'.queue.length = s.queue.length + 1
  tick : ∀ {s down}, P s down →
    ∃ s' cu, tick s = .ok (s', cu) ∧ P s' down ∧ s'.queue.length ≤ s.queue.length

namespace StepInv
variable {P : Layout → List Coord → Prop} {A : List Coord → In → Prop}

theorem and (h : StepInv P A) {Q : Layout → List Coord → Prop}
    (hev : ∀ {s down s'} (e : Ev), P s down → Q s down → s.queue.length < QUEUE_SIZE → s.event e = .ok s' →
      Q s' (downAfter down (.ev e)))
    (htick : ∀ {s down s' cu}, P s down → Q s down → L.tick s = .ok (s', cu) → Q s' down) :
    StepInv (fun s down => P s down ∧ Q s down) A where
  ev := by
    intro s down e ⟨hP, hQ⟩ hq hA
    obtain ⟨s', e1, P1, q1⟩ := h.ev e hP hq hA
    exact ⟨s', e1, ⟨P1, hev e hP hQ hq e1⟩, q1⟩
  tick := by
    intro s down ⟨hP, hQ⟩
    obtain ⟨s', cu, e1, P1, q1⟩ := h.tick hP
    exact ⟨s', cu, e1, ⟨P1, htick hP hQ e1⟩, q1⟩

theorem run_never_crashes (h : StepInv P A) : ∀ (ins : List In) (s : Layout) (down : List Coord),
    P s down → Admitted A down ins →
    run s down ins = none ∨ ∃ s', run s down ins = some (.ok (s', downs down ins)) ∧ P s' (downs down ins)
  | [], s, _, hP, _ => Or.inr ⟨s, rfl, hP⟩
  | .ev e :: rest, s, down, hP, hA => by
    by_cases hq : s.queue.length < QUEUE_SIZE
    · obtain ⟨s1, e1, P1, _⟩ := h.ev e hP hq hA.1
      rw [run_ev hq e1]
      exact h.run_never_crashes rest s1 _ P1 hA.2
    · exact Or.inl (run_ev_full e (by omega) down rest)
  | .tick :: rest, s, down, hP, hA => by
    obtain ⟨s1, cu, e1, P1, _⟩ := h.tick hP
    rw [run_tick e1]
    exact h.run_never_crashes rest s1 _ P1 hA.2

theorem run_defined (h : StepInv P A) : ∀ (ins : List In) (s : Layout) (down : List Coord),
    P s down → Admitted A down ins → evCount ins + s.queue.length ≤ QUEUE_SIZE →
    ∃ s', run s down ins = some (.ok (s', downs down ins)) ∧ P s' (downs down ins)
  | [], s, _, hP, _, _ => ⟨s, rfl, hP⟩
  | .ev e :: rest, s, down, hP, hA, hn => by
    have hq : s.queue.length < QUEUE_SIZE := by simp only [evCount] at hn; omega
    obtain ⟨s1, e1, P1, q1⟩ := h.ev e hP hq hA.1
    rw [run_ev hq e1]
    exact h.run_defined rest s1 _ P1 hA.2 (by simp only [evCount] at hn; omega)
  | .tick :: rest, s, down, hP, hA, hn => by
    obtain ⟨s1, cu, e1, P1, q1⟩ := h.tick hP
    rw [run_tick e1]
    exact h.run_defined rest s1 _ P1 hA.2 (by simp only [evCount] at hn; omega)

theorem quiet_pot (h : StepInv P A) (pot : Layout → Nat) (down : List Coord)
    (hdec : ∀ s s' cu, P s down → L.tick s = .ok (s', cu) → pot s' ≤ pot s - 1) :
    ∀ (N : Nat) (s : Layout), P s down →
      ∃ s', run s down (List.replicate N .tick) = some (.ok (s', down)) ∧ P s' down ∧ pot s' ≤ pot s - N
  | 0, s, hP => ⟨s, rfl, hP, Nat.le_refl _⟩
  | N + 1, s, hP => by
    obtain ⟨s1, cu, e1, P1, _⟩ := h.tick hP
    obtain ⟨s', r1, r2, r3⟩ := h.quiet_pot pot down hdec N s1 P1
    exact ⟨s', by rw [List.replicate_succ, run_tick e1]; exact r1, r2, by have := hdec s s1 cu hP e1; omega⟩

theorem quiet (h : StepInv P A) (N : Nat) {s : Layout} {down : List Coord} (hP : P s down) :
    ∃ s', run s down (List.replicate N .tick) = some (.ok (s', down)) ∧ P s' down := by
  obtain ⟨s', r1, r2, _⟩ := h.quiet_pot (fun _ => 0) down (fun _ _ _ _ _ => Nat.le_refl _) N s hP
  exact ⟨s', r1, r2⟩

theorem of_run (h : StepInv P A) {ins : List In} {s s' : Layout} {down down' : List Coord} (hP : P s down)
    (hA : Admitted A down ins) (hr : run s down ins = some (.ok (s', down'))) : P s' down' := by
  rcases h.run_never_crashes ins s down hP hA with hn | ⟨s1, h1, P1⟩
  · rw [hn] at hr; cases hr
  · rw [h1] at hr; cases hr; exact P1

/-- **quiescence, in general.**  After a history that leaves no key down, as many quiet ticks as the
potential of the state reached bring the potential to zero; what "potential zero" means for the layout
is the fragment's business. -/
theorem quiesce (h : StepInv P A) (pot : Layout → Nat)
    (hdec : ∀ s s' cu, P s [] → L.tick s = .ok (s', cu) → pot s' ≤ pot s - 1)
    {ins : List In} {s0 s1 : Layout} (h0 : P s0 []) (hA : Admitted A [] ins)
    (hrun : run s0 [] ins = some (.ok (s1, []))) {N : Nat} (hN : pot s1 ≤ N) :
    ∃ s2, run s1 [] (List.replicate N .tick) = some (.ok (s2, [])) ∧ P s2 [] ∧ pot s2 = 0 := by
  obtain ⟨s2, r1, r2, r3⟩ := h.quiet_pot pot [] hdec N s1 (h.of_run h0 hA hrun)
  exact ⟨s2, r1, r2, by omega⟩

theorem quiesce_balanced (h : StepInv P A) (pot : Layout → Nat)
    (hdec : ∀ s s' cu, P s [] → L.tick s = .ok (s', cu) → pot s' ≤ pot s - 1)
    {ins : List In} {s0 : Layout} (h0 : P s0 []) (hA : Admitted A [] ins) (hbal : downs [] ins = [])
    (hroom : run s0 [] ins ≠ none) {N : Nat} (hN : ∀ s, P s [] → pot s ≤ N) :
    ∃ s1 s2, run s0 [] ins = some (.ok (s1, [])) ∧
      run s1 [] (List.replicate N .tick) = some (.ok (s2, [])) ∧ P s2 [] ∧ pot s2 = 0 := by
  rcases h.run_never_crashes ins s0 [] h0 hA with hn | ⟨s1, hr, P1⟩
  · exact absurd hn hroom
  · rw [hbal] at hr P1
    obtain ⟨s2, r⟩ := h.quiesce pot hdec h0 hA hr (hN s1 P1)
    exact ⟨s1, s2, hr, r⟩

end StepInv

end KVerif.Quiesce
