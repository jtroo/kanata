/-
Small facts about the kanata-level tick stages when their component is at rest (used by Props/C07),
and what the blocking decision does to the state.
-/
import KVerif.Model.Kanata
import KVerif.Lemmas.KanataSeqOff
namespace KVerif.C07
open KVerif.L KVerif.K

theorem markEager_nil (states : List St) : markEager [] states = states :=
  (List.map_congr_left fun s _ => by cases s <;> rfl).trans (List.map_id states)

theorem eraseOverridden_nil (k : KState) : eraseOverridden k [] = k := by
  unfold eraseOverridden
  have hf : ∀ (l : List St), l.filter (fun _ => true) = l := fun l => List.filter_eq_self.mpr (fun _ _ => rfl)
  simp only [markEager_nil, List.any_nil, Bool.not_false, hf]
  split <;> rfl

theorem handleScrolling_none (k : KState) (h1 : k.scroll = none) (h2 : k.hscroll = none) :
    handleScrolling k = .ok k := by
  cases k; cases h1; cases h2; rfl

theorem handleMoveMouse_none (k : KState) (h1 : k.moveV = none) (h2 : k.moveH = none) :
    handleMoveMouse k = .ok k := by
  cases k; cases h1; cases h2; rfl

theorem tickIdleTimeout_nil (k : KState) (h : k.waitingForIdle = []) : tickIdleTimeout k = .ok k := by
  cases k; cases h; rfl

theorem tickHeldVkeys_nil (k : KState) (h : k.vkeysPendingRelease = []) : tickHeldVkeys k = .ok k := by
  cases k; cases h; rfl

/-- the blocking decision only updates `ticks_since_idle` -/
theorem canBlock_fields (k : KState) (ms : Nat) :
    ∃ t, (canBlockUpdateIdleWaiting k ms).1 = { k with ticksSinceIdle := t } := by
  unfold canBlockUpdateIdleWaiting
  cases isIdle k <;> cases (!k.waitingForIdle.isEmpty || k.liveReloadRequested) <;> exact ⟨_, rfl⟩

/-- when the decision is "block", kanata is idle, nothing waits for idleness, and the state is unchanged -/
theorem canBlock_true (k : KState) (ms : Nat) (h : (canBlockUpdateIdleWaiting k ms).2 = true) :
    isIdle k = true ∧ (canBlockUpdateIdleWaiting k ms).1 = k := by
  unfold canBlockUpdateIdleWaiting at h ⊢
  simp only [Bool.and_eq_true, Bool.not_eq_true'] at h
  obtain ⟨⟨⟨h1, h2⟩, _⟩, _⟩ := h
  refine ⟨h1, ?_⟩
  simp only [h1, h2, Bool.not_true, Bool.false_eq_true, if_false]

end KVerif.C07
