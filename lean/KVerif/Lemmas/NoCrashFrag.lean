/-
C02 helper lemmas: the layout model never takes a crash branch on fragments larger than the layered
fragment of C04 — one-shot keys, macros, custom actions, tap-hold keys, `fork`, and their union with
the layered fragment — for EVERY history, including the overflow path of `Layout::event` (an event
arriving while 32 are pending: every waiting state is flushed into its hold action and the oldest
event is processed at once, which — with one-shot keys — can re-enter `event` through the overflow
of the 16-entry one-shot table).

Other property files prove invariants of these fragments under the proviso "if `tick` returns `.ok`"
and stop at a full queue (`C06.run … = none`).  Here the missing half is proved with one invariant
(`NC`) that holds only what a crash branch can depend on:
* whatever waits is an undecided tap-hold key whose hold / tap / timeout actions are keys, output
  chords or layer-while-held; no eager tap-dance, no queued action (so the only recursion is
  `do_action` through `multi` / `fork` / transparent and use-defsrc items / the one-shot overflow
  into `event`);
* base layer and held layers exist; queued presses lie inside the layer table; ≤ 32 events queued.
The recursion budget is accounted for explicitly (`ucost`, `Eres`): see `engine`.
-/
import KVerif.Lemmas.NoCrash04
import KVerif.Lemmas.QuiesceMacro
import KVerif.Lemmas.QuiesceTapHold
import KVerif.Props.C02
namespace KVerif.NCF
open KVerif.L
open KVerif.C04 (coordOK evOK allActions mem_allActions_layer mem_allActions_src)
open KVerif.Quiesce (GrowsL listMax le_listMax)

/-! ## the union fragment -/

/-- what may sit inside `one-shot` (the parser accepts nothing else); a layer must exist -/
def simpleIn (n : Nat) : Action → Bool
  | .keyCode _ | .multipleKeyCodes _ => true
  | .layer l => decide (l < n)
  | _ => false

mutual
  /-- **the union fragment** (`n` = number of layers): the layered fragment of C04 (keys, output
  chords, `multi`, no-op, transparent, use-defsrc, layer-while-held on a layer that exists,
  layer-switch, release-key / release-layer), the one-shot fragment of C06, the macro fragment of C08
  (macros, custom actions, cancel), the tap-hold fragment of C05 (every variant, any timeout and
  tap-hold interval; hold, tap and timeout actions a key, an output chord or layer-while-held),
  `one-shot-pause-processing` and `fork` — arbitrarily nested. -/
  def UAct (n : Nat) : Action → Bool
    | .noOp | .trans | .src | .keyCode _ | .multipleKeyCodes _ | .defaultLayer _ | .releaseState _
    | .custom _ | .sequence _ | .repeatableSequence _ | .cancelSequences
    | .oneShotIgnoreEventsTicks _ => true
    | .layer l => decide (l < n)
    | .oneShot inner _ _ => simpleIn n inner
    | .holdTap _ hold tap to _ _ => simpleIn n hold && simpleIn n tap && simpleIn n to
    | .multipleActions acs => UActL n acs
    | .fork l r _ => UAct n l && UAct n r
    | _ => false
  def UActL (n : Nat) : List Action → Bool
    | [] => true
    | a :: rest => UAct n a && UActL n rest
end

mutual
  /-- fuel `doAction` needs for an action, not counting what a transparent / use-defsrc leaf resolves
  to and not counting a re-entered `event`: one unit for `doAction`, one for `dispatch`; a `multi`
  adds one unit per member already run; a `fork` runs one branch; a one-shot key runs its inner key, a
  tap-hold key (inside its tap-hold interval) its tap action -/
  def ucost : Action → Nat
    | .multipleActions acs => 2 + ucostL acs
    | .fork l r _ => 2 + max (ucost l) (ucost r)
    | .oneShot _ _ _ => 4
    | .holdTap _ _ _ _ _ _ => 4
    | _ => 2
  def ucostL : List Action → Nat
    | [] => 1
    | a :: rest => 1 + max (ucost a) (ucostL rest)
end

mutual
  /-- no transparent and no use-defsrc item anywhere inside -/
  def rfree : Action → Bool
    | .trans | .src => false
    | .multipleActions acs => rfreeL acs
    | .fork l r _ => rfree l && rfree r
    | _ => true
  def rfreeL : List Action → Bool
    | [] => true
    | a :: rest => rfree a && rfreeL rest
end

mutual
  /-- a one-shot key somewhere inside -/
  def hasOsh : Action → Bool
    | .oneShot _ _ _ => true
    | .multipleActions acs => hasOshL acs
    | .fork l r _ => hasOsh l || hasOsh r
    | _ => false
  def hasOshL : List Action → Bool
    | [] => false
    | a :: rest => hasOsh a || hasOshL rest
end

theorem ucost_ge (a : Action) : 2 ≤ ucost a := by
  unfold ucost
  split <;> first | exact Nat.le_add_right _ _ | decide

theorem ucostL_ge (acs : List Action) : 1 ≤ ucostL acs := by
  cases acs <;> first | exact Nat.le_refl _ | exact Nat.le_add_right _ _

theorem simpleIn_simple {n : Nat} {a : Action} (h : simpleIn n a = true) : C06.Simple a := by
  cases a <;> first | trivial | exact Bool.noConfusion h

theorem simpleIn_layer {n : Nat} {a : Action} (h : simpleIn n a = true) : ∀ v, a = .layer v → v < n := by
  intro v hv; subst hv; simpa [simpleIn] using h

/-! ## what a crash branch can depend on -/

/-- number of presses among the queued events -/
def presses (q : List Queued) : Nat := q.countP (fun x => x.ev.isPress)

/-- an undecided tap-hold key: its hold, tap and timeout actions are a key, an output chord or
layer-while-held on a layer below `L` -/
structure WOK (L : Nat) (w : Waiting) : Prop where
  cfg : ∃ c, w.config = .holdTap c
  hold : simpleIn L w.hold = true
  tap : simpleIn L w.tap = true
  to : simpleIn L w.timeoutAction = true

/-- **the state invariant** (relative to the configuration `cfg`): whatever waits is an undecided
tap-hold key (`waiting` and the up to 8 `extra_waiting` slots); no eager tap-dance, no queued action;
the base layer and every held layer exist; at most 32 events are queued and every queued press lies
inside the layer table.  Nothing is assumed of the one-shot state, the active sequences, the key
states or the histories. -/
structure NC (cfg : LCfg) (s : Layout) : Prop where
  cfgEq : s.cfg = cfg
  wok : ∀ w, s.waiting = some w → WOK cfg.layers.length w
  eok : ∀ w ∈ s.extraWaiting, WOK cfg.layers.length w
  tde : s.tapDanceEager = none
  aq : s.actionQueue = []
  dl : s.defaultLayer < cfg.layers.length
  held : ∀ st ∈ s.states, ∀ v, st.getLayer = some v → v < cfg.layers.length
  qlen : s.queue.length ≤ QUEUE_SIZE
  queue : ∀ q ∈ s.queue, evOK cfg q.ev = true

/-- what the steps of the layout on the fragment leave alone; states only grow by states whose layer
(if any) is below `L`; the base layer moves only to a layer below `L`; a new waiting state is an
undecided tap-hold key -/
structure Keep (L : Nat) (s s' : Layout) : Prop where
  cfg : s'.cfg = s.cfg
  wait : ∀ w, s'.waiting = some w → s.waiting = some w ∨ WOK L w
  extra : ∀ w ∈ s'.extraWaiting, w ∈ s.extraWaiting ∨ WOK L w
  tde : s'.tapDanceEager = s.tapDanceEager
  aq : s'.actionQueue = s.actionQueue
  queue : s'.queue = s.queue
  dl : s'.defaultLayer = s.defaultLayer ∨ s'.defaultLayer < L
  states : GrowsL L s.states s'.states

theorem Keep.refl (L : Nat) (s : Layout) : Keep L s s :=
  ⟨rfl, fun _ h => Or.inl h, fun _ h => Or.inl h, rfl, rfl, rfl, Or.inl rfl, GrowsL.refl _ _⟩

theorem Keep.trans {L : Nat} {a b c : Layout} (h1 : Keep L a b) (h2 : Keep L b c) : Keep L a c :=
  ⟨h2.cfg.trans h1.cfg, fun w hw => (h2.wait w hw).elim (h1.wait w) Or.inr,
    fun w hw => (h2.extra w hw).elim (h1.extra w) Or.inr, h2.tde.trans h1.tde, h2.aq.trans h1.aq,
    h2.queue.trans h1.queue, h2.dl.elim (· ▸ h1.dl) Or.inr, h1.states.trans h2.states⟩

/-- every waiting state is an undecided tap-hold key -/
structure AllW (L : Nat) (s : Layout) : Prop where
  wok : ∀ w, s.waiting = some w → WOK L w
  eok : ∀ w ∈ s.extraWaiting, WOK L w

theorem NC.allW {cfg : LCfg} {s : Layout} (h : NC cfg s) : AllW cfg.layers.length s := ⟨h.wok, h.eok⟩

theorem AllW.keep {L : Nat} {s s' : Layout} (h : AllW L s) (k : Keep L s s') : AllW L s' :=
  ⟨fun w hw => (k.wait w hw).elim (h.wok w) id, fun w hw => (k.extra w hw).elim (h.eok w) id⟩

theorem NC.keep {cfg : LCfg} {s s' : Layout} (h : NC cfg s) (k : Keep cfg.layers.length s s') : NC cfg s' :=
  have hA := h.allW.keep k
  ⟨k.cfg.trans h.cfgEq, hA.wok, hA.eok, k.tde.trans h.tde, k.aq.trans h.aq, k.dl.elim (· ▸ h.dl) id,
    fun st hst v hv => (k.states st hst).elim (fun g => h.held st g v hv) (fun g => g v hv),
    k.queue ▸ h.qlen, k.queue ▸ h.queue⟩

/-- `Keep` from field equalities, when the states are filtered / grown -/
theorem Keep.of_states {L : Nat} {s s' : Layout} (h1 : s'.cfg = s.cfg) (h2 : s'.waiting = s.waiting)
    (h3 : s'.extraWaiting = s.extraWaiting) (h4 : s'.tapDanceEager = s.tapDanceEager)
    (h5 : s'.actionQueue = s.actionQueue) (h6 : s'.queue = s.queue) (h7 : s'.defaultLayer = s.defaultLayer)
    (h8 : GrowsL L s.states s'.states) : Keep L s s' :=
  ⟨h1, fun _ h => Or.inl (h2 ▸ h), fun _ h => Or.inl (h3 ▸ h), h4, h5, h6, Or.inl h7, h8⟩

theorem Keep.ite {L : Nat} {s a b : Layout} {c : Prop} [Decidable c] (ha : Keep L s a) (hb : Keep L s b) :
    Keep L s (if c then a else b) := by
  split <;> assumption

section
variable (L : Nat)

theorem keep_states (s : Layout) {sts : List St} (h : GrowsL L s.states sts) :
    Keep L s { s with states := sts } :=
  Keep.of_states rfl rfl rfl rfl rfl rfl rfl h

/-! ### the pieces of the arms -/

theorem keep_updateCoord (s : Layout) (c : Coord) : Keep L s (updateCoord s c) :=
  Keep.ite (Keep.of_states rfl rfl rfl rfl rfl rfl rfl (GrowsL.refl _ _)) (Keep.refl L s)

theorem keep_filter (s : Layout) (p : St → Bool) : Keep L s { s with states := s.states.filter p } :=
  keep_states L s (GrowsL.filter _ _ _)

theorem keep_prelude (s : Layout) (c : Coord) : Keep L s (prelude s c) := by
  unfold prelude
  refine Keep.trans ?_ (keep_filter L _ _)
  exact Keep.ite (Keep.of_states rfl rfl rfl rfl rfl rfl rfl (GrowsL.refl _ _)) (Keep.refl L s)

theorem keep_oshPress (s : Layout) (k : OshKey) : Keep L s (s.oshPress k).1 := by
  unfold Layout.oshPress
  exact Keep.of_states rfl rfl rfl rfl rfl rfl rfl (GrowsL.refl _ _)

theorem keep_oshOther (s : Layout) (os : Bool) (c : Coord) : Keep L s (oshOther s os c).1 := by
  unfold oshOther; split
  · exact keep_oshPress L s _
  · exact Keep.refl L s

theorem keep_pushState (s : Layout) (st : St) (h : ∀ v, st.getLayer = some v → v < L) :
    Keep L s (s.pushState st) :=
  keep_states L s (GrowsL.push _ _ _ h)

theorem keep_setRpt (s : Layout) (a : Option Action) : Keep L s { s with rptAction := a } :=
  Keep.of_states rfl rfl rfl rfl rfl rfl rfl (GrowsL.refl _ _)

theorem keep_setHist (s : Layout) (h : List (KeyCode × Nat)) : Keep L s { s with histKeys := h } :=
  Keep.of_states rfl rfl rfl rfl rfl rfl rfl (GrowsL.refl _ _)

/-! ### the arms -/

theorem keep_armNoOp (s : Layout) (a : Action) (c : Coord) (os : Bool) : Keep L s (armNoOp s a c os) :=
  Keep.trans (Keep.ite (keep_oshPress L s _) (Keep.refl L s)) (keep_setRpt L _ _)

theorem keep_pressKey (s : Layout) (kc : KeyCode) (c : Coord) (fl : Nat) :
    Keep L s (({ s with histKeys := histPush s.histKeys kc } : Layout).pushState (.normalKey kc c fl)) :=
  (keep_setHist L s _).trans (keep_pushState L _ _ (fun _ h => nomatch h))

theorem keep_armKeyCode (s : Layout) (a : Action) (kc : KeyCode) (c : Coord) (os : Bool) :
    Keep L s (armKeyCode s a kc c os) :=
  (((keep_updateCoord L s c).trans (keep_pressKey L _ kc c 0)).trans (keep_oshOther L _ os c)).trans
    (Keep.ite (keep_setRpt L _ _) (keep_setRpt L _ _))

theorem keep_pushKeyCodes (kcs : List KeyCode) (c : Coord) (fl : Nat) :
    ∀ s : Layout, Keep L s (pushKeyCodes s kcs c fl) := by
  induction kcs with
  | nil => exact Keep.refl L
  | cons kc rest ih => exact fun s => (keep_pressKey L s kc c fl).trans (ih _)

theorem keep_armMultipleKeyCodes (s : Layout) (a : Action) (kcs : List KeyCode) (c : Coord) (os : Bool) :
    Keep L s (armMultipleKeyCodes s a kcs c os) :=
  (((keep_updateCoord L s c).trans (keep_pushKeyCodes L kcs c _ _)).trans (keep_oshOther L _ os c)).trans
    (Keep.ite (keep_setRpt L _ _) (keep_setRpt L _ _))

theorem keep_armLayer (s : Layout) (v : Nat) (hv : v < L) (c : Coord) (os : Bool) :
    Keep L s (armLayer s v c os) :=
  ((keep_updateCoord L s c).trans (keep_pushState L _ (.layerModifier v c) (fun _ hw => Option.some.inj hw ▸ hv))).trans
    (keep_oshOther L _ os c)

theorem keep_armDefaultLayer (s : Layout) (hL : s.cfg.layers.length = L) (v : Nat) (c : Coord) (os : Bool) :
    Keep L s (armDefaultLayer s v c os) := by
  have f1 := keep_updateCoord L s c
  have f2 : Keep L (updateCoord s c)
      (if v < (updateCoord s c).cfg.layers.length then { updateCoord s c with defaultLayer := v } else updateCoord s c) := by
    split
    · rename_i h
      rw [f1.cfg, hL] at h
      exact ⟨rfl, fun _ h => Or.inl h, fun _ h => Or.inl h, rfl, rfl, rfl, Or.inr h, GrowsL.refl _ _⟩
    · exact Keep.refl L _
  exact (f1.trans f2).trans (keep_oshOther L _ os c)

theorem keep_armReleaseState (s : Layout) (a : Action) (rs : RelState) (c : Coord) (os : Bool) :
    Keep L s (armReleaseState s a rs c os) :=
  ((keep_filter L s _).trans (keep_oshOther L _ os c)).trans (keep_setRpt L _ _)

theorem keep_armCustom (s : Layout) (a : Action) (id : Nat) (c : Coord) (os : Bool) :
    Keep L s (armCustom s a id c os).1 := by
  have f := ((keep_updateCoord L s c).trans (keep_oshOther L _ os c)).trans (keep_setRpt L _ (some a))
  unfold armCustom
  simp only []
  split
  · exact f.trans (keep_pushState L _ _ (fun _ h => nomatch h))
  · exact f

theorem growsL_releaseEvicted (q : SeqState) (states : List St) :
    GrowsL L states (releaseEvicted states q) := by
  unfold releaseEvicted
  generalize seqOwedKeys q = ks
  induction ks generalizing states with
  | nil => exact GrowsL.refl _ _
  | cons k rest ih => exact (GrowsL.filter L states _).trans (ih _)

theorem keep_startSequence (s : Layout) (evs : List SeqEv) : Keep L s (startSequence s evs) := by
  unfold startSequence
  refine Keep.of_states rfl rfl rfl rfl rfl rfl rfl ?_
  simp only []
  split
  · exact growsL_releaseEvicted _ _ _
  · exact GrowsL.refl _ _

theorem keep_armSequence (s : Layout) (a : Action) (evs : List SeqEv) (c : Coord) (os rep : Bool) :
    Keep L s (armSequence s a evs c os rep) :=
  (((keep_startSequence L s evs).trans (Keep.ite (keep_pushState L _ (.repeatingSequence evs c) (fun _ h => nomatch h))
    (Keep.refl L _))).trans (keep_oshOther L _ os c)).trans (keep_setRpt L _ _)

theorem keep_armCancelSequences (s : Layout) (a : Action) (c : Coord) (os : Bool) :
    Keep L s (armCancelSequences s a c os) := by
  have f1 : Keep L s { s with activeSequences := [], states := s.states.filter (fun st => !(match st with | .fakeKey _ => true | _ => false)) } :=
    Keep.of_states rfl rfl rfl rfl rfl rfl rfl (GrowsL.filter _ _ _)
  exact (f1.trans (keep_oshOther L _ os c)).trans (keep_setRpt L _ _)

theorem keep_simpleArm (s : Layout) (a : Action) (ha : ∀ v, a = .layer v → v < L) (c : Coord)
    (os : Bool) : Keep L s (C06.simpleArm s a c os) := by
  unfold C06.simpleArm
  split
  · exact keep_armKeyCode L s _ _ c os
  · exact keep_armMultipleKeyCodes L s _ _ c os
  · exact keep_armLayer L s _ (ha _ rfl) c os
  · exact Keep.refl L s

theorem keep_armOneShotPost (s : Layout) (a : Action) (c : Coord) (T : Nat) (v : OneShotEnd) :
    Keep L s (armOneShotPost s a c T v).1 := by
  unfold armOneShotPost Layout.oshPress
  exact Keep.of_states rfl rfl rfl rfl rfl rfl rfl (GrowsL.refl _ _)

/-! ### waiting states: the tap-hold arm, decisions, the flush -/

/-- the new-waiting-state branch of the tap-hold arm: the key waits in `waiting`, or — when another
one is undecided — in `extra_waiting` (a ring of 8: the oldest is dropped) -/
theorem keep_armHoldTapWait (s : Layout) (c : Coord) (d T : Nat) (hold tap to : Action) (cfg : HTConfig)
    (iv : Nat) (ls : List Nat) (h1 : simpleIn L hold = true) (h2 : simpleIn L tap = true)
    (h3 : simpleIn L to = true) : Keep L s (armHoldTapWait s c d T hold tap to cfg iv ls) := by
  unfold armHoldTapWait
  refine Keep.trans ?_ (keep_updateCoord L _ c)
  cases hw : s.waiting with
  | none =>
    exact ⟨rfl, fun w h => Or.inr (Option.some.inj h ▸ ⟨⟨cfg, rfl⟩, h1, h2, h3⟩), fun _ h => Or.inl h, rfl, rfl, rfl,
      Or.inl rfl, GrowsL.refl _ _⟩
  | some w1 =>
    exact ⟨rfl, fun _ h => Or.inl (hw ▸ h), fun w h => (Quiesce.mem_pushBackWrap_fst _ _ _ _ h).imp_right
      fun g : w = _ => g ▸ ⟨⟨cfg, rfl⟩, h1, h2, h3⟩, rfl, rfl, rfl, Or.inl rfl, GrowsL.refl _ _⟩

theorem keep_timeoutPrep (s : Layout) (w : Waiting) : Keep L s (timeoutPrep s w) :=
  Keep.ite (Keep.of_states rfl rfl rfl rfl rfl rfl rfl (GrowsL.refl _ _)) (Keep.refl L s)

theorem keep_tapPost (s : Layout) : Keep L s (tapPost s) := by
  unfold tapPost
  exact Keep.of_states rfl rfl rfl rfl rfl rfl rfl (GrowsL.refl _ _)

theorem keep_holdPrep (s : Layout) (w : Waiting) : Keep L s (holdPrep s w) :=
  (keep_timeoutPrep L s w).trans (keep_tapPost L _)

end

theorem takeWaiting_keep (L : Nat) {s : Layout} {idx : Option Nat} {w : Waiting} {s1 : Layout}
    (h : takeWaiting s idx = some (w, s1)) :
    Keep L s s1 ∧ ((idx = none ∧ s.waiting = some w) ∨ w ∈ s.extraWaiting) := by
  cases idx with
  | none =>
    obtain ⟨w', hw', he⟩ := Option.map_eq_some_iff.mp h
    cases he
    exact ⟨⟨rfl, (fun _ h => by cases h), fun _ h => Or.inl h, rfl, rfl, rfl, Or.inl rfl, GrowsL.refl _ _⟩,
      Or.inl ⟨rfl, hw'⟩⟩
  | some i =>
    obtain ⟨w', hw', he⟩ := Option.map_eq_some_iff.mp h
    cases he
    exact ⟨⟨rfl, fun _ h => Or.inl h, fun _ h => Or.inl (List.mem_of_mem_eraseIdx h), rfl, rfl, rfl, Or.inl rfl,
      GrowsL.refl _ _⟩, Or.inr (List.mem_of_getElem? hw')⟩

/-- a simple action performed on `s`: the prelude, then its arm -/
theorem keep_simple (L : Nat) (s : Layout) (a : Action) (ha : simpleIn L a = true) (c : Coord) (os : Bool) :
    Keep L s (C06.simpleArm (prelude s c) a c os) :=
  (keep_prelude L s c).trans (keep_simpleArm L _ a (simpleIn_layer ha) c os)

theorem taken_ok {L : Nat} {s : Layout} (hA : AllW L s) (idx : Option Nat)
    {F : Waiting → Layout → Except Crash (Layout × CustomEv)}
    (hF : ∀ w s1, WOK L w → ∃ s' cu, F w s1 = .ok (s', cu) ∧ Keep L s1 s') :
    ∃ s' cu, (match takeWaiting s idx with
      | none => Except.ok (s, CustomEv.noEvent)
      | some (w, s1) => F w s1) = .ok (s', cu) ∧ Keep L s s' := by
  cases ht : takeWaiting s idx with
  | none => exact ⟨s, _, rfl, Keep.refl L s⟩
  | some r =>
    obtain ⟨k1, ho⟩ := takeWaiting_keep L ht
    have hw : WOK L r.1 := ho.elim (fun g => hA.wok _ g.2) (hA.eok _)
    obtain ⟨s', cu, e, k⟩ := hF r.1 r.2 hw
    exact ⟨s', cu, e, k1.trans k⟩

theorem doAction_keep {L : Nat} (f : Nat) (s : Layout) {a : Action} (h : simpleIn L a = true ∨ a = .noOp) (c : Coord)
    (d : Nat) (os : Bool) (ls : List Nat) : ∃ s' cu, doAction (f + 2) s a c d os ls = .ok (s', cu) ∧ Keep L s s' := by
  rcases h with h | rfl
  · exact ⟨_, _, C06.doAction_simple f s a (simpleIn_simple h) c d os ls, keep_simple L s a h c os⟩
  · exact ⟨armNoOp (prelude s c) .noOp c os, .noEvent, by simp only [doAction, dispatch],
      (keep_prelude L s c).trans (keep_armNoOp L _ _ c os)⟩

/-- `hT`: the hold action is simple (a tap-hold key of the fragment) or absent (tap-dance, chord) -/
theorem waitingIntoHold_keep {L : Nat} (f : Nat) {s : Layout} (idx : Option Nat)
    (hT : ∀ w s1, takeWaiting s idx = some (w, s1) → simpleIn L w.hold = true ∨ w.hold = .noOp) :
    ∃ s' cu, waitingIntoHold (f + 3) s idx = .ok (s', cu) ∧ Keep L s s' := by
  rw [waitingIntoHold]
  cases ht : takeWaiting s idx with
  | none => exact ⟨s, _, rfl, Keep.refl L s⟩
  | some r =>
    obtain ⟨w, s1⟩ := r
    obtain ⟨s', cu, e, k⟩ := doAction_keep f (holdPrep s1 w) (hT w s1 ht) w.coord (waitingDelay w) false w.layerStack
    exact ⟨s', cu, e, ((takeWaiting_keep L ht).1.trans (keep_holdPrep L s1 w)).trans k⟩

theorem AllW.hold_taken {L : Nat} {s : Layout} (hA : AllW L s) {idx : Option Nat} (w : Waiting) (s1 : Layout)
    (h : takeWaiting s idx = some (w, s1)) : simpleIn L w.hold = true ∨ w.hold = .noOp :=
  Or.inl ((takeWaiting_keep L h).2.elim (fun g => hA.wok w g.2) (hA.eok w)).hold

theorem waitingIntoTap_ok {L : Nat} {s : Layout} (hA : AllW L s) (idx : Option Nat) :
    ∃ s' cu, waitingIntoTap s none idx = .ok (s', cu) ∧ Keep L s s' := by
  simp only [waitingIntoTap]
  refine taken_ok hA idx fun w s1 hw => ?_
  simp only [Quiesce.FUEL_2, C06.doAction_simple 3998 _ w.tap (simpleIn_simple hw.tap)]
  exact ⟨_, _, rfl, (keep_simple L _ _ hw.tap _ _).trans (keep_tapPost L _)⟩

theorem waitingIntoTimeout_ok {L : Nat} {s : Layout} (hA : AllW L s) (idx : Option Nat) :
    ∃ s' cu, waitingIntoTimeout s idx = .ok (s', cu) ∧ Keep L s s' := by
  simp only [waitingIntoTimeout]
  refine taken_ok hA idx fun w s1 hw => ?_
  simp only [Quiesce.FUEL_2, C06.doAction_simple 3998 _ w.timeoutAction (simpleIn_simple hw.to)]
  exact ⟨_, _, rfl, (keep_timeoutPrep L s1 w).trans (keep_simple L _ _ hw.to _ _)⟩

/-- **the decision of a tap-hold key is carried out without a crash**: exactly one of its hold, tap
and timeout actions runs (or nothing yet) -/
theorem applyWaitingAction_ok {L : Nat} {s : Layout} (hA : AllW L s) (ra : Option WAct) (idx : Option Nat)
    (dflt : CustomEv) :
    ∃ s' cu, applyWaitingAction s (ra.map (·, none)) idx dflt = .ok (s', cu) ∧ Keep L s s' := by
  cases ra with
  | none => exact ⟨s, dflt, rfl, Keep.refl L s⟩
  | some a =>
    cases a with
    | hold => exact waitingIntoHold_keep 3997 idx hA.hold_taken
    | tap => exact waitingIntoTap_ok hA idx
    | timeout => exact waitingIntoTimeout_ok hA idx
    | noOp =>
      exact ⟨_, _, rfl, rfl, (fun _ h => by cases h), fun _ h => Or.inl h, rfl, rfl, rfl, Or.inl rfl, GrowsL.refl _ _⟩

/-- the flush of `Layout::event` on a full queue: `waiting_into_hold` for `waiting` and every
`extra_waiting` slot -/
theorem flushWaitings_keep {L : Nat} {I : Layout → Prop} (hk : ∀ {s s'}, I s → Keep L s s' → I s')
    (hT : ∀ {s}, I s → ∀ {idx : Option Nat} (w : Waiting) (s1 : Layout), takeWaiting s idx = some (w, s1) →
      simpleIn L w.hold = true ∨ w.hold = .noOp) :
    ∀ (l : List (Option Nat)) (fuel : Nat) (s : Layout), l.length + 4 ≤ fuel → I s →
      ∃ s', flushWaitings fuel s l = .ok s' ∧ Keep L s s' := by
  intro l
  induction l with
  | nil =>
    intro fuel s hf _
    obtain ⟨f, rfl⟩ := Nat.exists_eq_add_of_le' (Nat.le_of_add_left_le hf)
    exact ⟨s, by rw [flushWaitings], Keep.refl _ s⟩
  | cons i rest ih =>
    intro fuel s hf hN
    obtain ⟨f, rfl⟩ := Nat.exists_eq_add_of_le' (Nat.le_of_add_left_le hf)
    obtain ⟨s1, cu, e1, k1⟩ := waitingIntoHold_keep f i (hT hN)
    obtain ⟨s2, e2, k2⟩ := ih (f + 3) s1 (Nat.le_of_succ_le_succ hf) (hk hN k1)
    exact ⟨s2, by simp only [flushWaitings, bind, Except.bind, e1, e2], k1.trans k2⟩

/-- one tick of an undecided tap-hold key: it never crashes, leaves the queue and the action queue
alone, and decides hold / tap / timeout or nothing -/
theorem tickWt_wok {L : Nat} {w : Waiting} (hw : WOK L w) (q : List Queued) (aq : ActionQueue) :
    ∃ w' ra, tickWt w q aq = .ok (w', q, aq, Option.map (·, none) ra) ∧ WOK L w' := by
  obtain ⟨cfg, hc⟩ := hw.cfg
  obtain ⟨_, f2, _, _, f5, f6, f7, _, _⟩ :=
    C05.handleHoldTap_fields { w with timeout := w.timeout - 1, ticks := min (w.ticks + 1) U16_MAX } cfg q
  refine ⟨_, _, C05.tickWt_holdTap w cfg hc q aq, ⟨cfg, f2.trans hc⟩, ?_, ?_, ?_⟩
  · rw [f5]; exact hw.hold
  · rw [f6]; exact hw.tap
  · rw [f7]; exact hw.to

/-- the scan of `process_extra_waitings` -/
theorem tickExtraWaitings_ok {Q : Waiting → Prop} (q : List Queued) (aq : ActionQueue)
    (hQ : ∀ w, Q w → ∃ w' ra, tickWt w q aq = .ok (w', q, aq, Option.map (·, none) ra) ∧ Q w') :
    ∀ (ws done : List Waiting), (∀ w ∈ ws, Q w) → (∀ w ∈ done, Q w) →
      ∃ ews r, tickExtraWaitings ws q aq done =
          .ok (ews, q, aq, Option.map (fun (p : Nat × WAct) => (p.1, (p.2, none))) r) ∧
        (∀ w ∈ ews, Q w)
  | [], done, _, hd => ⟨done.reverse, none, rfl, fun w hw => hd w (List.mem_reverse.mp hw)⟩
  | w :: rest, done, hws, hd => by
    obtain ⟨w', ra, e1, hw'⟩ := hQ w (hws w List.mem_cons_self)
    have hrest : ∀ x ∈ rest, Q x := fun x hx => hws x (List.mem_cons_of_mem _ hx)
    cases ra with
    | none =>
      obtain ⟨ews, r, e2, h2⟩ := tickExtraWaitings_ok q aq hQ rest (w' :: done) hrest fun x hx =>
        (List.mem_cons.mp hx).elim (· ▸ hw') (hd x)
      exact ⟨ews, r, by simp only [tickExtraWaitings, e1, Option.map_none]; exact e2, h2⟩
    | some a =>
      refine ⟨done.reverse ++ w' :: rest, some (done.length, a), by simp only [tickExtraWaitings, e1, Option.map_some],
        fun x hx => ?_⟩
      rcases List.mem_append.mp hx with hx | hx
      · exact hd x (List.mem_reverse.mp hx)
      · exact (List.mem_cons.mp hx).elim (· ▸ hw') (hrest x)

/-! ## conditions on the configuration -/

/-- what the proofs use of a configured action: it is in the fragment, its fuel cost is at most `C`,
the whole cost of pressing it (with the reserve for transparent / use-defsrc items nested in it: the
cost bound once per layer of the stack, 12, plus the defsrc row) is at most `P`, and `osh` is set
when a one-shot key occurs -/
structure ActOK (cfg : LCfg) (C P : Nat) (osh : Bool) (a : Action) : Prop where
  act : UAct cfg.layers.length a = true
  cost : ucost a ≤ C
  press : a ≠ .trans → ucost a + (if rfree a then 0 else C * 13) ≤ P
  osh : hasOsh a = true → osh = true

structure CfgOK (cfg : LCfg) (C P : Nat) (osh : Bool) : Prop where
  pinned : cfg.pinnedLayerStack = false
  pos : 0 < cfg.layers.length
  ok : ∀ a ∈ allActions cfg, ActOK cfg C P osh a
  src : ∀ e ∈ cfg.srcKeys, rfree e.2 = true
  cmin : 2 ≤ C
  pmin : 2 ≤ P

theorem actOK_noOp {cfg : LCfg} {C P : Nat} {osh : Bool} (h : CfgOK cfg C P osh) : ActOK cfg C P osh .noOp :=
  ⟨rfl, h.cmin, fun _ => by simp only [ucost, rfree, if_true]; exact h.pmin, fun h => by cases h⟩

theorem actOK_trans {cfg : LCfg} {C P : Nat} {osh : Bool} (h : CfgOK cfg C P osh) : ActOK cfg C P osh .trans :=
  ⟨rfl, h.cmin, fun h => absurd rfl h, fun h => by cases h⟩

theorem srcKey_ok {cfg : LCfg} {C P : Nat} {osh : Bool} (h : CfgOK cfg C P osh) (y : Nat) :
    ActOK cfg C P osh (cfg.srcKey y) ∧ rfree (cfg.srcKey y) = true := by
  unfold LCfg.srcKey
  split
  · rename_i a hf
    have hm := List.mem_of_find?_eq_some hf
    exact ⟨h.ok _ (mem_allActions_src hm), h.src _ hm⟩
  · exact ⟨actOK_noOp h, rfl⟩

theorem coordOK_iff {cfg : LCfg} {co : Coord} (h : coordOK cfg co = true) : Quiesce.CoordOK cfg co := by
  simpa [coordOK, Quiesce.CoordOK] using h

theorem resolve_shape (s : Layout) (c : Coord) (ls : List Nat) : ∀ {a : Action} {rest : List Nat},
    s.resolveCoord c ls = .ok (a, rest) →
      (a = .noOp ∨ a = s.cfg.srcKey c.2 ∨ rest.length < ls.length) ∧ ∀ l ∈ rest, l ∈ ls := by
  fun_induction Layout.resolveCoord s c ls <;> intro a rest h
  -- the branch that searches on below a transparent entry
  case case9 ih =>
    obtain ⟨i1, i2⟩ := ih h
    exact ⟨i1.imp_right (.imp_right Nat.lt_succ_of_lt), fun x hx => List.mem_cons_of_mem _ (i2 x hx)⟩
  -- the others fail, or return the defsrc key, no-op, the entry found
  all_goals cases h
  · exact ⟨Or.inr (Or.inl rfl), fun _ h => h⟩
  · exact ⟨Or.inl rfl, fun _ h => h⟩
  · exact ⟨Or.inr (Or.inr (Nat.lt_succ_self _)), fun _ hx => List.mem_cons_of_mem _ hx⟩

/-- **resolution never crashes** on a coordinate inside the table and layers that exist, and what it
finds is a configured action (or no-op), not transparent -/
theorem resolve_ok {cfg : LCfg} {s : Layout} {C P : Nat} {osh : Bool} (hcfg : s.cfg = cfg) (hC : CfgOK cfg C P osh)
    {co : Coord} (hco : coordOK cfg co = true) (ls : List Nat) (hls : ∀ l ∈ ls, l < cfg.layers.length) :
    ∃ a ls', s.resolveCoord co ls = .ok (a, ls') ∧ a ≠ .trans ∧ ActOK cfg C P osh a ∧
      (rfree a = true ∨ ls'.length < ls.length) ∧ (∀ l ∈ ls', l ∈ ls) := by
  subst hcfg
  obtain ⟨a, ls', hr⟩ := Quiesce.resolve_total s co (coordOK_iff hco) ls hls
  have h1 := Quiesce.resolve_ne_trans s co (fun e he h => Bool.noConfusion ((h ▸ hC.src e he : rfree .trans = true)))
    ls a ls' hr
  have h2 := Quiesce.resolve_pred (ActOK s.cfg C P osh) (actOK_noOp hC) (actOK_trans hC) s co
    (fun tbl ht e he => hC.ok _ (mem_allActions_layer ht he))
    (fun e he => hC.ok _ (mem_allActions_src he)) ls a ls' hr
  obtain ⟨h3, h4⟩ := resolve_shape s co ls hr
  refine ⟨a, ls', hr, h1, h2, ?_, h4⟩
  rcases h3 with rfl | rfl | h3
  · exact Or.inl rfl
  · exact Or.inl (srcKey_ok hC _).2
  · exact Or.inr h3

/-- the layer order exists (after fix 31b82c0), holds at most 12 layers, all of which exist -/
theorem transOrder_ok {cfg : LCfg} {s : Layout} {C P : Nat} {osh : Bool} (hC : CfgOK cfg C P osh)
    (hN : NC cfg s) : ∃ order, s.transOrder = .ok order ∧ (∀ l ∈ order, l < cfg.layers.length) ∧
      order.length ≤ MAX_ACTIVE_LAYERS := by
  have hp : s.cfg.pinnedLayerStack = false := by rw [hN.cfgEq]; exact hC.pinned
  obtain ⟨order, ho, hol⟩ := Quiesce.transOrder_total s cfg.layers.length hp hN.dl hC.pos hN.held
  obtain ⟨v, hv, hl⟩ := C02.layer_stack_never_overflows s hp
  rw [ho] at hv; injection hv with hv; subst hv
  exact ⟨order, ho, hol, hl⟩

/-! ## releases, the queue, waiting states -/

/-- **a release taken from the queue never crashes** (any state, any fuel ≥ 1) and only removes states -/
theorem dequeue_release_ok (L : Nat) (fuel : Nat) (s : Layout) (c : Coord) (since : Nat) :
    ∃ s' cu, dequeue (fuel + 1) s ⟨.release c, since⟩ = .ok (s', cu) ∧ Keep L s s' := by
  simp only [dequeue]
  generalize s.oneshot.handleRelease c = r
  obtain ⟨o, dr, ov⟩ := r
  refine ⟨_, _, rfl, Keep.of_states rfl rfl rfl rfl rfl rfl rfl fun x hx => Or.inl ?_⟩
  -- the key's own states go, then those of a one-shot key pushed out
  have sub := Macro.releaseStates_sub
  revert hx
  cases dr <;> cases ov <;> intro hx
  · exact hx
  · exact sub _ _ _ _ x hx
  · exact sub _ _ _ _ x hx
  · exact sub _ _ _ _ x (sub _ _ _ _ x hx)

/-- the two outcomes of pushing onto a ring that is not over-full -/
theorem pbw_cases {α} (cap : Nat) (hc : 0 < cap) (l : List α) (x : α) (h : l.length ≤ cap) :
    (l.length < cap ∧ pushBackWrap cap l x = (l ++ [x], none)) ∨
    (∃ h0 t, l = h0 :: t ∧ pushBackWrap cap l x = (t ++ [x], some h0)) := by
  unfold pushBackWrap
  by_cases hl : l.length < cap
  · exact Or.inl ⟨hl, by rw [if_pos hl]⟩
  · right
    rw [if_neg hl]
    cases l with
    | nil => simp at hl; omega
    | cons h0 t => exact ⟨h0, t, rfl, rfl⟩

theorem presses_append (a b : List Queued) : presses (a ++ b) = presses a + presses b := by
  simp [presses, List.countP_append]

theorem presses_cons (x : Queued) (q : List Queued) :
    presses (x :: q) = presses q + (if x.ev.isPress then 1 else 0) := by
  simp only [presses, List.countP_cons]

theorem presses_snoc (q : List Queued) (x : Queued) :
    presses (q ++ [x]) = presses q + (if x.ev.isPress then 1 else 0) := by
  rw [presses_append, presses_cons]; exact congrArg _ (Nat.zero_add _)

theorem presses_le_length (q : List Queued) : presses q ≤ q.length := List.countP_le_length

/-! ## outcomes -/

/-- outcome of processing something on an invariant state: the invariant again, the same
configuration, no more presses queued than before -/
structure Post (cfg : LCfg) (s s' : Layout) : Prop where
  nc : NC cfg s'
  pr : presses s'.queue ≤ presses s.queue

theorem Post.of_keep {cfg : LCfg} {s s' : Layout} (h : NC cfg s) (k : Keep cfg.layers.length s s') : Post cfg s s' :=
  ⟨h.keep k, by rw [k.queue]; exact Nat.le_refl _⟩

theorem Post.after_keep {cfg : LCfg} {a b c : Layout} (k : Keep cfg.layers.length a b) (h : Post cfg b c) : Post cfg a c :=
  ⟨h.nc, by have := h.pr; rw [k.queue] at this; exact this⟩

theorem Post.then_keep {cfg : LCfg} {a b c : Layout} (h : Post cfg a b) (k : Keep cfg.layers.length b c) : Post cfg a c :=
  ⟨h.nc.keep k, by rw [k.queue]; exact h.pr⟩

theorem Post.trans {cfg : LCfg} {a b c : Layout} (h1 : Post cfg a b) (h2 : Post cfg b c) : Post cfg a c :=
  ⟨h2.nc, Nat.le_trans h2.pr h1.pr⟩

/-- `event` after the input history has been updated -/
def eventTail (fuel : Nat) (s0 : Layout) (ev : Ev) : Except Crash Layout :=
  let (q, ov) := pushBackWrap QUEUE_SIZE s0.queue ⟨ev, 0⟩
  let s := { s0 with queue := q }
  match ov with
  | none => pure s
  | some overflow => do
    let s ← flushWaitings fuel s (none :: (List.range EXTRA_WAITING_LEN).map some)
    let (s, _) ← dequeue fuel s overflow
    pure s

theorem event_press (fuel : Nat) (s : Layout) (c : Coord) :
    event (fuel + 1) s (.press c) = eventTail fuel { s with histInputs := histPush s.histInputs c } (.press c) := by
  simp only [event]; rfl

theorem event_release (fuel : Nat) (s : Layout) (c : Coord) :
    event (fuel + 1) s (.release c) = eventTail fuel s (.release c) := by
  simp only [event]; rfl

/-- the event is queued; when 32 are pending already the waiting states are flushed (every undecided
tap-hold key takes its hold action) and the oldest event is processed at once.  `hd` is what is needed
of `dequeue` for a press (a release never crashes). -/
theorem eventTail_via {cfg : LCfg} (f : Nat) (hf : 13 ≤ f) (s : Layout) (e : Ev) (hN : NC cfg s)
    (he : evOK cfg e = true)
    (hd : ∀ (s1 : Layout) (c : Coord) (since : Nat), NC cfg s1 → coordOK cfg c = true →
      presses s1.queue + 1 ≤ presses s.queue + (if e.isPress then 1 else 0) →
      ∃ s' cu, dequeue f s1 ⟨.press c, since⟩ = .ok (s', cu) ∧ Post cfg s1 s') :
    ∃ s', eventTail f s e = .ok s' ∧ NC cfg s' ∧
      presses s'.queue ≤ presses s.queue + (if e.isPress then 1 else 0) := by
  have mk : ∀ q : List Queued, q.length ≤ QUEUE_SIZE → (∀ x ∈ q, evOK cfg x.ev = true) →
      NC cfg ({ s with queue := q } : Layout) := fun q h1 h2 => { hN with qlen := h1, queue := h2 }
  have hnew : ∀ t : List Queued, (∀ x ∈ t, x ∈ s.queue) → ∀ x ∈ t ++ [(⟨e, 0⟩ : Queued)], evOK cfg x.ev = true := by
    intro t ht x hx
    rcases List.mem_append.mp hx with hx | hx
    · exact hN.queue x (ht x hx)
    · cases List.mem_singleton.mp hx; exact he
  unfold eventTail
  rcases pbw_cases QUEUE_SIZE (by decide) s.queue ⟨e, 0⟩ hN.qlen with ⟨hl, hp⟩ | ⟨h0, t, hl, hp⟩
  · rw [hp]
    exact ⟨_, rfl, mk _ (by rw [List.length_append]; exact hl) (hnew _ fun _ h => h), Nat.le_of_eq (presses_snoc _ _)⟩
  · rw [hp]
    have hqlen := hN.qlen
    rw [hl] at hqlen
    have hN1 := mk (t ++ [⟨e, 0⟩]) (by rw [List.length_append]; exact hqlen)
      (hnew t fun x hx => hl ▸ List.mem_cons_of_mem _ hx)
    obtain ⟨f, rfl⟩ : ∃ g, f = g + 9 + 4 := ⟨f - 13, by omega⟩
    obtain ⟨sf, hfl, kf⟩ := flushWaitings_keep (I := AllW cfg.layers.length) AllW.keep (fun h => h.hold_taken)
      (none :: (List.range EXTRA_WAITING_LEN).map some) _ _ hf hN1.allW
    have hNf := hN1.keep kf
    have hqf : sf.queue = t ++ [⟨e, 0⟩] := kf.queue
    have hpr : presses sf.queue + (if h0.ev.isPress then 1 else 0) =
        presses s.queue + (if e.isPress then 1 else 0) := by
      rw [hqf, hl, presses_snoc, presses_cons]; exact Nat.add_right_comm _ _ _
    simp only [bind, Except.bind, hfl, pure, Except.pure]
    obtain ⟨ev0, n0⟩ := h0
    cases ev0 with
    | release c =>
      obtain ⟨s', cu, e1, k1⟩ := dequeue_release_ok cfg.layers.length (f + 12) sf c n0
      rw [e1]
      exact ⟨s', rfl, hNf.keep k1, by rw [k1.queue]; exact Nat.le_of_eq hpr⟩
    | press c =>
      obtain ⟨s', cu, e1, p1⟩ := hd sf c n0 hNf (hN.queue ⟨.press c, n0⟩ (hl ▸ List.mem_cons_self))
        (Nat.le_of_eq hpr)
      rw [e1]
      exact ⟨s', rfl, p1.nc, Nat.le_trans p1.pr (Nat.le_trans (Nat.le_add_right _ _) (Nat.le_of_eq hpr))⟩

theorem event_via {cfg : LCfg} (f : Nat) (hf : 13 ≤ f) (s : Layout) (e : Ev) (hN : NC cfg s)
    (he : evOK cfg e = true)
    (hd : ∀ (s1 : Layout) (c : Coord) (since : Nat), NC cfg s1 → coordOK cfg c = true →
      presses s1.queue + 1 ≤ presses s.queue + (if e.isPress then 1 else 0) →
      ∃ s' cu, dequeue f s1 ⟨.press c, since⟩ = .ok (s', cu) ∧ Post cfg s1 s') :
    ∃ s', event (f + 1) s e = .ok s' ∧ NC cfg s' ∧
      presses s'.queue ≤ presses s.queue + (if e.isPress then 1 else 0) := by
  cases e with
  | press c =>
    rw [event_press]
    exact eventTail_via f hf _ (.press c) (hN.keep (Keep.of_states rfl rfl rfl rfl rfl rfl rfl (GrowsL.refl _ _))) he hd
  | release c =>
    rw [event_release]
    exact eventTail_via f hf s (.release c) hN he hd

/-- the one-shot arm for any value of the is-one-shot flag (it does not look at it) -/
theorem dispatch_oneShot' (fuel : Nat) (s : Layout) (inner : Action) (hs : C06.Simple inner) (T : Nat)
    (v : OneShotEnd) (c : Coord) (d : Nat) (os : Bool) (ls : List Nat) :
    dispatch (fuel + 3) s (.oneShot inner T v) c d os ls =
      match C06.oneShotArm s inner T v c with
      | (s2, some ov) =>
        match event (fuel + 2) s2 (.release ov) with
        | .error e => .error e
        | .ok s3 => .ok (s3, .noEvent)
      | (s2, none) => .ok (s2, .noEvent) := by
  simp only [dispatch, C06.doAction_simple fuel _ inner hs, C06.oneShotArm]
  rfl

/-! ## the recursion: `do_action`, `dequeue`, `event` -/

/-- the part of the recursion budget reserved for re-entering `event` from the one-shot arm (the
17th active one-shot key pushes the oldest out, which is released through `event`; if 32 events are
pending, `event` processes the oldest one at once, which may be the press of another one-shot key …):
14 units for `event` itself and the flush of the 9 waiting slots, and `P + 3` for each press
that is still queued.  Zero for a configuration without one-shot keys. -/
def Eres (osh : Bool) (P n : Nat) : Nat := if osh then 14 + n * (P + 3) else 0

/-- `hM`: the budget covers `C` for every layer still to search and for the defsrc row, or the cost `P`
of a press -/
theorem doAction_trans_fits {cfg : LCfg} {C P : Nat} {osh : Bool} (hC : CfgOK cfg C P osh) {s : Layout} (hN : NC cfg s)
    {coord : Coord} (hco : coordOK cfg coord = true) {ls : List Nat} (hls : ∀ l ∈ ls, l < cfg.layers.length)
    (hlen : ls.length ≤ MAX_ACTIVE_LAYERS) {M : Nat} (hM : C * (ls.length + 1) ≤ M ∨ P ≤ M) (fuel delay : Nat)
    (os : Bool) :
    ∃ a ls' x, doAction (fuel + 1) s .trans coord delay os ls = dispatch fuel (prelude s coord) a coord delay os ls' ∧
      a ≠ .trans ∧ UAct cfg.layers.length a = true ∧ (hasOsh a = true → osh = true) ∧
      (∀ l ∈ ls', l < cfg.layers.length) ∧ ls'.length ≤ MAX_ACTIVE_LAYERS ∧
      (rfree a = true ∨ C * (ls'.length + 1) ≤ x) ∧ ucost a + x ≤ M := by
  obtain ⟨a, ls', e1, e2, e3, e4, e5⟩ := resolve_ok hN.cfgEq hC hco ls hls
  have hle := Quiesce.resolve_rest_le s coord ls a ls' e1
  have hca := e3.cost
  have hp := e3.press e2
  have hC1 : C ≤ C * (ls.length + 1) := Nat.le_mul_of_pos_right _ (Nat.succ_pos _)
  refine ⟨a, ls', if rfree a then 0 else C * (ls'.length + 1), by simp only [doAction, e1], e2, e3.act, e3.osh,
    fun l hl => hls l (e5 l hl), Nat.le_trans hle hlen, ?_, ?_⟩
  · by_cases hr : rfree a = true
    · exact Or.inl hr
    · exact Or.inr (by rw [if_neg hr]; exact Nat.le_refl _)
  · by_cases hr : rfree a = true
    · rw [if_pos hr] at hp ⊢
      omega
    · rw [if_neg hr] at hp ⊢
      -- a layer was used up: `C` pays for the action found, the rest for the layers below
      have hl : ls'.length + 1 ≤ ls.length := e4.resolve_left hr
      have h1 : C * (ls'.length + 1) + C ≤ C * (ls.length + 1) := Nat.mul_le_mul_left C (Nat.succ_le_succ hl)
      have h2 : C * (ls'.length + 1) ≤ C * 13 := Nat.mul_le_mul_left C (Nat.le_trans hl (Nat.le_succ_of_le hlen))
      omega

/-- **no crash branch and no fuel exhaustion in `do_action` / `dequeue` / the re-entered `event`**,
and the invariant is kept.  `x` is the part of the budget reserved for what transparent and
use-defsrc leaves nested in the action resolve to (`C` per layer still to search plus the defsrc
row), `n` bounds the presses that are queued. -/
theorem engine (cfg : LCfg) (C P : Nat) (osh : Bool) (hC : CfgOK cfg C P osh) : ∀ fuel : Nat,
    (∀ (s : Layout) (a : Action) (coord : Coord) (delay : Nat) (os : Bool) (ls : List Nat) (x n : Nat),
      NC cfg s → UAct cfg.layers.length a = true → (hasOsh a = true → osh = true) →
      coordOK cfg coord = true → (∀ l ∈ ls, l < cfg.layers.length) → ls.length ≤ MAX_ACTIVE_LAYERS →
      (rfree a = true ∨ C * (ls.length + 1) ≤ x) → presses s.queue ≤ n →
      ucost a + x + Eres osh P n ≤ fuel →
      ∃ s' cu, doAction fuel s a coord delay os ls = .ok (s', cu) ∧ Post cfg s s') ∧
    (∀ (s : Layout) (a : Action) (coord : Coord) (delay : Nat) (os : Bool) (ls : List Nat) (x n : Nat),
      NC cfg s → UAct cfg.layers.length a = true → (hasOsh a = true → osh = true) →
      coordOK cfg coord = true → (∀ l ∈ ls, l < cfg.layers.length) → ls.length ≤ MAX_ACTIVE_LAYERS → a ≠ .trans →
      (rfree a = true ∨ C * (ls.length + 1) ≤ x) → presses s.queue ≤ n →
      ucost a + x + Eres osh P n ≤ fuel + 1 →
      ∃ s' cu, dispatch fuel s a coord delay os ls = .ok (s', cu) ∧ Post cfg s s') ∧
    (∀ (s : Layout) (acs : List Action) (coord : Coord) (delay : Nat) (os : Bool) (ls : List Nat)
      (cu0 : CustomEv) (x n : Nat),
      NC cfg s → UActL cfg.layers.length acs = true → (hasOshL acs = true → osh = true) →
      coordOK cfg coord = true → (∀ l ∈ ls, l < cfg.layers.length) → ls.length ≤ MAX_ACTIVE_LAYERS →
      (rfreeL acs = true ∨ C * (ls.length + 1) ≤ x) → presses s.queue ≤ n →
      ucostL acs + x + Eres osh P n ≤ fuel →
      ∃ s' cu, doActions fuel s acs coord delay os ls cu0 = .ok (s', cu) ∧ Post cfg s s') ∧
    (∀ (s : Layout) (coord : Coord) (delay : Nat) (os : Bool) (order : List Nat) (n : Nat),
      NC cfg s → coordOK cfg coord = true → (∀ l ∈ order, l < cfg.layers.length) →
      order.length ≤ MAX_ACTIVE_LAYERS → presses s.queue ≤ n → P + 1 + Eres osh P n ≤ fuel →
      ∃ s' cu, doAction fuel s .trans coord delay os order = .ok (s', cu) ∧ Post cfg s s') ∧
    (∀ (s : Layout) (c : Coord) (since n : Nat),
      NC cfg s → coordOK cfg c = true → presses s.queue ≤ n → P + 2 + Eres osh P n ≤ fuel →
      ∃ s' cu, dequeue fuel s ⟨.press c, since⟩ = .ok (s', cu) ∧ Post cfg s s') ∧
    (∀ (s : Layout) (c : Coord) (n : Nat),
      NC cfg s → osh = true → presses s.queue ≤ n → 14 + n * (P + 3) ≤ fuel →
      ∃ s', event fuel s (.release c) = .ok s' ∧ Post cfg s s') := by
  intro fuel
  induction fuel with
  | zero =>
    refine ⟨?_, ?_, ?_, ?_, ?_, ?_⟩
    · intro s a _ _ _ _ _ _ _ _ _ _ _ _ _ _ h; have := ucost_ge a; omega
    · intro s a _ _ _ _ _ _ _ _ _ _ _ _ _ _ _ h; have := ucost_ge a; omega
    · intro s acs _ _ _ _ _ _ _ _ _ _ _ _ _ _ _ h; have := ucostL_ge acs; omega
    · intro s _ _ _ _ _ _ _ _ _ _ h; omega
    · intro s _ _ _ _ _ _ h; omega
    · intro s _ _ _ _ _ h; omega
  | succ fuel ih =>
    obtain ⟨ih1, ih2, ih3, ih4, ih5, ih6⟩ := ih
    -- a transparent item, below a layer stack or at the top of one
    have htrans : ∀ (s : Layout) (coord : Coord) (delay : Nat) (os : Bool) (ls : List Nat) (M n : Nat), NC cfg s →
        coordOK cfg coord = true → (∀ l ∈ ls, l < cfg.layers.length) → ls.length ≤ MAX_ACTIVE_LAYERS →
        (C * (ls.length + 1) ≤ M ∨ P ≤ M) → presses s.queue ≤ n → M + Eres osh P n ≤ fuel + 1 →
        ∃ s' cu, doAction (fuel + 1) s .trans coord delay os ls = .ok (s', cu) ∧ Post cfg s s' := by
      intro s coord delay os ls M n hN hco hls hlen hM hn hfuel
      obtain ⟨a, ls', x, e, h1, h2, h3, h4, h5, h6, h7⟩ := doAction_trans_fits hC hN hco hls hlen hM fuel delay os
      have kp := keep_prelude cfg.layers.length s coord
      obtain ⟨s', cu, r1, r2⟩ := ih2 (prelude s coord) a coord delay os ls' x n (hN.keep kp) h2 h3 hco h4 h5 h1 h6
        (kp.queue ▸ hn) (by omega)
      exact ⟨s', cu, e ▸ r1, Post.after_keep kp r2⟩
    refine ⟨?_, ?_, ?_, ?_, ?_, ?_⟩
    · -- doAction
      intro s a coord delay os ls x n hN hU hO hco hls hlen hx hn hfuel
      by_cases hat : a = .trans
      · subst hat
        exact htrans s coord delay os ls x n hN hco hls hlen (Or.inl (hx.resolve_left (by simp only [rfree]; decide))) hn
          (by simp only [ucost] at hfuel; omega)
      · have kp := keep_prelude cfg.layers.length s coord
        obtain ⟨s', cu, r1, r2⟩ := ih2 (prelude s coord) a coord delay os ls x n (hN.keep kp) hU hO hco hls hlen hat hx
          (kp.queue ▸ hn) (by omega)
        exact ⟨s', cu, (C04.doAction_of_ne hat ..).trans r1, Post.after_keep kp r2⟩
    · -- dispatch
      intro s a coord delay os ls x n hN hU hO hco hls hlen hnt hx hn hfuel
      have hL : s.cfg.layers.length = cfg.layers.length := by rw [hN.cfgEq]
      cases a
      case noOp => exact ⟨_, _, rfl, Post.of_keep hN (keep_armNoOp _ s _ coord os)⟩
      case trans => exact absurd rfl hnt
      case keyCode kc => exact ⟨_, _, rfl, Post.of_keep hN (keep_armKeyCode _ s _ kc coord os)⟩
      case multipleKeyCodes kcs => exact ⟨_, _, rfl, Post.of_keep hN (keep_armMultipleKeyCodes _ s _ kcs coord os)⟩
      case layer l => exact ⟨_, _, rfl, Post.of_keep hN (keep_armLayer _ s l (of_decide_eq_true hU) coord os)⟩
      case defaultLayer l => exact ⟨_, _, rfl, Post.of_keep hN (keep_armDefaultLayer _ s hL l coord os)⟩
      case releaseState rs => exact ⟨_, _, rfl, Post.of_keep hN (keep_armReleaseState _ s _ rs coord os)⟩
      case custom id => exact ⟨_, _, rfl, Post.of_keep hN (keep_armCustom _ s _ id coord os)⟩
      case sequence evs => exact ⟨_, _, rfl, Post.of_keep hN (keep_armSequence _ s _ evs coord os false)⟩
      case repeatableSequence evs => exact ⟨_, _, rfl, Post.of_keep hN (keep_armSequence _ s _ evs coord os true)⟩
      case cancelSequences => exact ⟨_, _, rfl, Post.of_keep hN (keep_armCancelSequences _ s _ coord os)⟩
      case oneShotIgnoreEventsTicks t =>
        exact ⟨_, _, rfl, Post.of_keep hN ((keep_updateCoord _ s coord).trans
          (Keep.of_states rfl rfl rfl rfl rfl rfl rfl (GrowsL.refl _ _)))⟩
      case src =>
        have hx' : C * (ls.length + 1) ≤ x := hx.resolve_left (by simp only [rfree]; decide)
        have hC1 : C ≤ C * (ls.length + 1) := Nat.le_mul_of_pos_right _ (Nat.succ_pos _)
        simp only [ucost] at hfuel
        obtain ⟨k1, k2⟩ := srcKey_ok hC coord.2
        have hk := k1.cost
        obtain ⟨s', cu, r1, r2⟩ := ih1 s (cfg.srcKey coord.2) coord delay os [] 0 n hN k1.act k1.osh hco
          (fun _ hl => nomatch hl) (Nat.zero_le _) (Or.inl k2) hn (by omega)
        simp only [dispatch]
        rw [if_neg (Nat.not_le.mpr (hN.cfgEq ▸ (coordOK_iff hco).2)), hN.cfgEq, r1]
        exact ⟨s', .noEvent, rfl, r2⟩
      case multipleActions acs =>
        have ku := keep_updateCoord cfg.layers.length s coord
        obtain ⟨s1, c1, r1, r2⟩ := ih3 (updateCoord s coord) acs coord delay os ls .noEvent x n (hN.keep ku) hU hO hco hls hlen
          hx (ku.queue ▸ hn) (by simp only [ucost] at hfuel; omega)
        simp only [dispatch, r1]
        exact ⟨_, _, rfl, (Post.after_keep ku r2).then_keep (keep_setRpt _ _ _)⟩
      case fork l r ks =>
        simp only [UAct, Bool.and_eq_true] at hU
        simp only [hasOsh, Bool.or_eq_true] at hO
        simp only [rfree, Bool.and_eq_true] at hx
        simp only [ucost] at hfuel
        simp only [dispatch]
        by_cases hh : forkHit s ks = true
        · obtain ⟨s1, c1, r1, r2⟩ := ih1 s r coord delay false ls x n hN hU.2 (fun h => hO (Or.inr h)) hco hls hlen
            (hx.imp (·.2) id) hn (by omega)
          rw [if_pos hh, r1]
          exact ⟨_, _, rfl, r2.then_keep (keep_setRpt _ _ _)⟩
        · obtain ⟨s1, c1, r1, r2⟩ := ih1 s l coord delay false ls x n hN hU.1 (fun h => hO (Or.inl h)) hco hls hlen
            (hx.imp (·.1) id) hn (by omega)
          rw [if_neg hh, r1]
          exact ⟨_, _, rfl, r2.then_keep (keep_setRpt _ _ _)⟩
      case holdTap T hold tap to hcfg iv =>
        simp only [UAct, Bool.and_eq_true] at hU
        simp only [ucost] at hfuel
        obtain ⟨g, rfl⟩ : ∃ g, fuel = g + 2 := ⟨fuel - 2, by omega⟩
        simp only [dispatch, C06.doAction_simple g _ tap (simpleIn_simple hU.1.2)]
        by_cases hq : (iv == 0 || coord != s.lptCoord || s.lptTapHoldTimeout == 0) = true
        · rw [if_pos hq, if_neg (Nat.not_lt.mpr hlen)]
          exact ⟨_, _, rfl, Post.of_keep hN (keep_armHoldTapWait _ s coord delay T hold tap to hcfg iv ls hU.1.1 hU.1.2 hU.2)⟩
        · rw [if_neg hq]
          refine ⟨_, _, rfl, Post.of_keep hN ?_⟩
          have k0 : Keep cfg.layers.length s { s with lptTapHoldTimeout := 0 } :=
            Keep.of_states rfl rfl rfl rfl rfl rfl rfl (GrowsL.refl _ _)
          exact (k0.trans (keep_simple _ _ tap hU.1.2 coord os)).trans (keep_updateCoord _ _ coord)
      case oneShot inner T v =>
        simp only [UAct] at hU
        simp only [ucost] at hfuel
        obtain ⟨g, rfl⟩ : ∃ g, fuel = g + 2 := ⟨fuel - 2, by omega⟩
        rw [dispatch_oneShot' g s inner (simpleIn_simple hU)]
        have ko : Keep cfg.layers.length s (C06.oneShotArm s inner T v coord).1 :=
          (((keep_updateCoord _ s coord).trans (keep_prelude _ _ coord)).trans
            (keep_simpleArm _ _ inner (simpleIn_layer hU) coord true)).trans (keep_armOneShotPost _ _ _ coord T v)
        generalize C06.oneShotArm s inner T v coord = r at ko
        obtain ⟨s2, ov⟩ := r
        cases ov with
        | none => exact ⟨s2, .noEvent, rfl, Post.of_keep hN ko⟩
        | some k =>
          have hosh : osh = true := hO rfl
          simp only [Eres, hosh, if_true] at hfuel
          obtain ⟨s3, r1, r2⟩ := ih6 s2 k n (hN.keep ko) hosh (ko.queue ▸ hn) (by omega)
          simp only [r1]
          exact ⟨s3, .noEvent, rfl, Post.after_keep ko r2⟩
      all_goals exact Bool.noConfusion hU
    · -- doActions
      intro s acs coord delay os ls cu0 x n hN hU hO hco hls hlen hx hn hfuel
      cases acs with
      | nil => exact ⟨s, cu0, rfl, Post.of_keep hN (Keep.refl _ s)⟩
      | cons a rest =>
        simp only [UActL, Bool.and_eq_true] at hU
        simp only [hasOshL, Bool.or_eq_true] at hO
        simp only [rfreeL, Bool.and_eq_true] at hx
        simp only [ucostL] at hfuel
        obtain ⟨s1, c1, r1, p1⟩ := ih1 s a coord delay os ls x n hN hU.1 (fun h => hO (Or.inl h)) hco hls hlen
          (hx.imp (·.1) id) hn (by omega)
        obtain ⟨s2, c2, r2, p2⟩ := ih3 s1 rest coord delay os ls (cu0.update c1) x n p1.nc hU.2 (fun h => hO (Or.inr h))
          hco hls hlen (hx.imp (·.2) id) (Nat.le_trans p1.pr hn) (by omega)
        exact ⟨s2, c2, by simp only [doActions, r1, r2], p1.trans p2⟩
    · -- a press taken from the queue: resolution from the top of the layer order
      intro s coord delay os order n hN hco hol hlen hn hfuel
      exact htrans s coord delay os order P n hN hco hol hlen (Or.inr (Nat.le_refl _)) hn (by omega)
    · -- dequeue of a press
      intro s c since n hN hco hn hfuel
      obtain ⟨order, ho, hol, hlen⟩ := transOrder_ok hC hN
      simp only [dequeue, bind, Except.bind, ho, hN.tde]
      exact ih4 s c since false order n hN hco hol hlen hn (by omega)
    · -- the re-entered event
      intro s c n hN hosh hn hfuel
      obtain ⟨s', r1, r2, r3⟩ := event_via fuel (by omega) s (.release c) hN rfl (fun s1 c1 since hN1 hco1 hp => by
        have hp' : presses s1.queue + 1 ≤ presses s.queue + 0 := hp
        obtain ⟨m, rfl⟩ : ∃ m, n = m + 1 := ⟨n - 1, by omega⟩
        rw [Nat.succ_mul] at hfuel
        refine ih5 s1 c1 since m hN1 hco1 (by omega) ?_
        simp only [Eres, hosh, if_true]
        omega)
      have r3' : presses s'.queue ≤ presses s.queue + 0 := r3
      exact ⟨s', r1, r2, by omega⟩

/-! ## one tick -/

section
variable (L : Nat)

theorem keep_applyEff (s : Layout) (e : Macro.Eff) : Keep L s (Macro.applyEff s e) := by
  have hfake : ∀ kc, Keep L s (Macro.fakePress s kc) := by
    intro kc
    unfold Macro.fakePress
    exact ((keep_pushState L s (.fakeKey kc) (by intro v h; cases h)).trans (keep_setHist L _ _)).trans
      (keep_oshPress L _ _)
  cases e with
  | idle => exact Keep.refl L s
  | untap k => exact keep_filter L s _
  | perform ev =>
    cases ev with
    | press kc => exact hfake kc
    | tap kc => exact hfake kc
    | release kc => exact Keep.of_states rfl rfl rfl rfl rfl rfl rfl (GrowsL.filter _ _ _)
    | custom id => exact keep_pushState L s _ (by intro v h; cases h)
    | noOp => exact Keep.refl L s
    | delay d => exact Keep.refl L s
    | complete => exact Keep.refl L s

theorem keep_putBack (s : Layout) (q : SeqState) : Keep L s (Macro.putBack s q) := by
  unfold Macro.putBack; split
  · exact Keep.of_states rfl rfl rfl rfl rfl rfl rfl (GrowsL.refl _ _)
  · exact Keep.refl L s

theorem keep_seqLoop : ∀ (n : Nat) (s : Layout), Keep L s (Macro.seqLoop n s) := by
  intro n
  induction n with
  | zero => intro s; exact Keep.refl L s
  | succ n ih =>
    intro s
    unfold Macro.seqLoop
    split
    · exact Keep.refl L s
    · rename_i q rest _
      have h1 : Keep L s { s with activeSequences := rest } :=
        Keep.of_states rfl rfl rfl rfl rfl rfl rfl (GrowsL.refl _ _)
      exact ((h1.trans (keep_applyEff L _ _)).trans (keep_putBack L _ _)).trans (ih _)

theorem keep_processSequences (s : Layout) : Keep L s (processSequences s) := by
  rw [Macro.processSequences_eq]
  refine (keep_seqLoop L s.activeSequences.length s).trans ?_
  unfold Macro.restartRepeating
  split
  · split
    · exact Keep.of_states rfl rfl rfl rfl rfl rfl rfl (GrowsL.refl _ _)
    · exact Keep.refl L _
  · exact Keep.refl L _

/-- first stage of a tick: the queue ages, sequences advance -/
theorem nc_tickPre {cfg : LCfg} {s : Layout} (hN : NC cfg s) : NC cfg (tickPre s) := by
  have h1 : NC cfg { s with queue := s.queue.map fun q => { q with since := min (q.since + 1) U16_MAX },
                            lptTapHoldTimeout := s.lptTapHoldTimeout - 1 } :=
    { hN with
      qlen := by rw [List.length_map]; exact hN.qlen
      queue := fun q hq => by obtain ⟨y, hy, rfl⟩ := List.mem_map.mp hq; exact hN.queue y hy }
  unfold tickPre
  simp only []
  split
  · next tde heq => exact nomatch hN.tde.symm.trans heq
  · exact h1.keep ((keep_processSequences _ _).trans (Keep.of_states rfl rfl rfl rfl rfl rfl rfl (GrowsL.refl _ _)))

/-- second stage: the deferred one-shot releases -/
theorem releaseOneshotKeys_ok : ∀ (keys : List Coord) (s : Layout) (cu : CustomEv),
    ∃ s' cu', releaseOneshotKeys keys s cu = .ok (s', cu') ∧ Keep L s s' := by
  intro keys
  induction keys with
  | nil => intro s cu; exact ⟨s, cu, rfl, Keep.refl L s⟩
  | cons k rest ih =>
    intro s cu
    obtain ⟨s1, c1, e1, k1⟩ := dequeue_release_ok L 3999 s k 0
    obtain ⟨s2, c2, e2, k2⟩ := ih s1 (cu.update c1)
    refine ⟨s2, c2, ?_, k1.trans k2⟩
    simp only [releaseOneshotKeys, FUEL_succ, e1, e2]

theorem tickOneshot_ok (s : Layout) : ∃ s' cu, tickOneshot s = .ok (s', cu) ∧ Keep L s s' := by
  unfold tickOneshot
  generalize s.oneshot.tick = r
  obtain ⟨o, ks⟩ := r
  have k0 : Keep L s { s with oneshot := o } := Keep.of_states rfl rfl rfl rfl rfl rfl rfl (GrowsL.refl _ _)
  cases ks with
  | none => exact ⟨_, _, rfl, k0⟩
  | some keys =>
    obtain ⟨s', cu, e1, k1⟩ := releaseOneshotKeys_ok L keys { s with oneshot := o } .noEvent
    exact ⟨s', cu, e1, k0.trans k1⟩

end

/-- **the recursion budget of a configuration**: `P` (the cost of pressing any configured key) for the
event taken from the queue, and — with one-shot keys — the reserve for re-entering `event` with up to
32 presses pending -/
def Budget (P : Nat) (osh : Bool) : Prop := P + 2 + Eres osh P 32 ≤ 3999

/-- 32 bounds the presses still queued -/
theorem dequeue_press_ok {cfg : LCfg} {C P : Nat} {osh : Bool} (hC : CfgOK cfg C P osh) (hB : Budget P osh)
    {fuel : Nat} (hf : 3999 ≤ fuel) {s : Layout} (hN : NC cfg s) {c : Coord} (hco : coordOK cfg c = true) (since : Nat) :
    ∃ s' cu, dequeue fuel s ⟨.press c, since⟩ = .ok (s', cu) ∧ Post cfg s s' :=
  (engine cfg C P osh hC fuel).2.2.2.2.1 s c since 32 hN hco (Nat.le_trans (presses_le_length _) hN.qlen)
    (Nat.le_trans hB hf)

theorem dequeue_ok {cfg : LCfg} {C P : Nat} {osh : Bool} (hC : CfgOK cfg C P osh) (hB : Budget P osh)
    {s : Layout} (hN : NC cfg s) (q : Queued) (hq : evOK cfg q.ev = true) :
    ∃ s' cu, dequeue FUEL s q = .ok (s', cu) ∧ NC cfg s' := by
  obtain ⟨ev, since⟩ := q
  cases ev with
  | release c =>
    obtain ⟨s', cu, e1, k1⟩ := dequeue_release_ok cfg.layers.length 3999 s c since
    exact ⟨s', cu, e1, hN.keep k1⟩
  | press c =>
    obtain ⟨s', cu, e1, p1⟩ := dequeue_press_ok hC hB (Nat.le_succ _) hN hq since
    exact ⟨s', cu, e1, p1.nc⟩

/-- third stage: the undecided tap-hold key is ticked and, if it decides, its action performed; with
nothing waiting, input processing pauses or the oldest event is processed -/
theorem tickMain_ok {cfg : LCfg} {C P : Nat} {osh : Bool} (hC : CfgOK cfg C P osh) (hB : Budget P osh)
    {s : Layout} (hN : NC cfg s) : ∃ s' cu, tickMain s = .ok (s', cu) ∧ NC cfg s' := by
  cases hw : s.waiting with
  | some w =>
    obtain ⟨w', ra, e1, hw'⟩ := tickWt_wok (hN.wok w hw) s.queue s.actionQueue
    have hN' : NC cfg ({ s with waiting := some w', queue := s.queue, actionQueue := s.actionQueue } : Layout) :=
      { hN with wok := fun x hx => Option.some.inj hx ▸ hw' }
    obtain ⟨s', cu, e2, k2⟩ := applyWaitingAction_ok hN'.allW ra none .noEvent
    refine ⟨s', cu, ?_, hN'.keep k2⟩
    unfold tickMain
    simp only [hw, e1]
    exact e2
  | none =>
  cases hex : s.extraWaiting with
  | cons x xs =>
    refine ⟨s, .noEvent, ?_, hN⟩
    unfold tickMain
    simp only [hw, hex, List.isEmpty_cons, Bool.false_eq_true, if_false]
  | nil =>
    by_cases hp : 0 < s.oneshot.pauseInputProcessingTicks
    · rw [C06.tickMain_paused hw hex hp]
      exact ⟨_, _, rfl, hN.keep (Keep.of_states rfl rfl rfl rfl rfl rfl rfl (GrowsL.refl _ _))⟩
    · cases hq : s.queue with
      | nil =>
        rw [C06.tickMain_empty hw hex (Nat.eq_zero_of_not_pos hp) hq]
        exact ⟨_, _, rfl, hN⟩
      | cons q rest =>
        rw [C06.tickMain_pops hw hex (Nat.eq_zero_of_not_pos hp) q rest hq]
        have hqlen := hN.qlen
        rw [hq] at hqlen
        exact dequeue_ok hC hB (s := s.setQueue rest)
          { hN with qlen := Nat.le_of_succ_le hqlen, queue := fun x hx => hN.queue x (hq ▸ List.mem_cons_of_mem _ hx) }
          q (hN.queue q (hq ▸ List.mem_cons_self))

/-- fourth stage: the tap-hold keys waiting in `extra_waiting` are ticked; the first that decides has
its action performed -/
theorem processExtraWaitings_ok {cfg : LCfg} {s : Layout} (hN : NC cfg s) (cur : CustomEv) :
    ∃ s' cu, processExtraWaitings s cur = .ok (s', cu) ∧ NC cfg s' := by
  unfold processExtraWaitings
  split
  · exact ⟨s, cur, rfl, hN⟩
  · obtain ⟨ews, r, e1, h1⟩ := tickExtraWaitings_ok (Q := WOK cfg.layers.length) s.queue s.actionQueue
      (fun _ hw => tickWt_wok hw _ _) s.extraWaiting [] hN.eok (fun _ h => nomatch h)
    have hN' : NC cfg ({ s with extraWaiting := ews, queue := s.queue, actionQueue := s.actionQueue } : Layout) :=
      ⟨hN.cfgEq, hN.wok, h1, hN.tde, hN.aq, hN.dl, hN.held, hN.qlen, hN.queue⟩
    simp only [e1]
    cases r with
    | none => exact ⟨_, _, rfl, hN'⟩
    | some p =>
      obtain ⟨s', cu, e2, k2⟩ := applyWaitingAction_ok hN'.allW (some p.2) (some p.1) cur
      exact ⟨s', cu, e2, hN'.keep k2⟩

/-- last stage: custom items of sequences -/
theorem keep_psc (L : Nat) (s : Layout) (cu : CustomEv) : Keep L s (processSequenceCustom s cu).1 := by
  obtain ⟨_, p2, _, p4, p5, _⟩ := Quiesce.psc_spec s cu
  have f := (Macro.processSequenceCustom_frame s cu).st
  refine Keep.of_states f.cfg f.waiting f.extra f.tde f.aq p2 p4 fun st hst => ?_
  rcases p5 st hst with g | ⟨id, rfl⟩ | rfl
  · exact Or.inl g
  · exact Or.inr fun v hv => nomatch hv
  · exact Or.inr fun v hv => nomatch hv

/-- **one tick never crashes and keeps the invariant** -/
theorem tick_ok {cfg : LCfg} {C P : Nat} {osh : Bool} (hC : CfgOK cfg C P osh) (hB : Budget P osh)
    {s : Layout} (hN : NC cfg s) : ∃ s' cu, tick s = .ok (s', cu) ∧ NC cfg s' := by
  have hN0 := nc_tickPre hN
  obtain ⟨s1, c1, e1, k1⟩ := tickOneshot_ok cfg.layers.length (tickPre s)
  have hN1 := hN0.keep k1
  obtain ⟨s2, c2, e2, hN2⟩ := tickMain_ok hC hB hN1
  obtain ⟨s3, c3, e3, hN3⟩ := processExtraWaitings_ok hN2 (c1.update c2)
  refine ⟨(processSequenceCustom s3 c3).1, (processSequenceCustom s3 c3).2, ?_, hN3.keep (keep_psc _ s3 c3)⟩
  unfold tick
  simp only [hN.aq, e1, e2, e3]

/-- **an event never crashes and keeps the invariant** — also when 32 events are pending -/
theorem event_ok {cfg : LCfg} {C P : Nat} {osh : Bool} (hC : CfgOK cfg C P osh) (hB : Budget P osh)
    {s : Layout} (hN : NC cfg s) (e : Ev) (he : evOK cfg e = true) :
    ∃ s', s.event e = .ok s' ∧ NC cfg s' := by
  unfold Layout.event
  rw [FUEL_succ]
  obtain ⟨s', r1, r2, _⟩ := event_via 3999 (by decide) s e hN he
    (fun s1 c since hN1 hco _ => dequeue_press_ok hC hB (Nat.le_refl _) hN1 hco since)
  exact ⟨s', r1, r2⟩

/-! ## decidable conditions -/

/-- **indices in range and fragment membership** (decidable): the repaired layer stack (fix 31b82c0);
there is a layer; every configured action is in the union fragment, with every `layer-while-held` /
one-shot-layer target an existing layer; the defsrc row holds no transparent / use-defsrc item -/
def RangeU (c : LCfg) : Prop :=
  (!c.pinnedLayerStack && decide (0 < c.layers.length) && (allActions c).all (UAct c.layers.length) &&
    c.srcKeys.all (fun e => rfree e.2)) = true

instance (c : LCfg) : Decidable (RangeU c) := by unfold RangeU; exact inferInstance

structure RangeU' (c : LCfg) : Prop where
  pinned : c.pinnedLayerStack = false
  pos : 0 < c.layers.length
  act : ∀ a ∈ allActions c, UAct c.layers.length a = true
  src : ∀ e ∈ c.srcKeys, rfree e.2 = true

theorem RangeU.unpack {c : LCfg} (h : RangeU c) : RangeU' c := by
  unfold RangeU at h
  simp only [Bool.and_eq_true, Bool.not_eq_true', decide_eq_true_eq, List.all_eq_true] at h
  exact ⟨h.1.1.1, h.1.1.2, h.1.2, h.2⟩

/-- the largest fuel cost of a configured action (at least 2: an unmapped position is a no-op) -/
def maxCost (c : LCfg) : Nat := max 2 (listMax ((allActions c).map ucost))

/-- what pressing a key whose position holds `a` costs: its fuel cost, plus — when a transparent or
use-defsrc item is nested inside it — `C` for each of the up to 12 layers it may fall through and
for the defsrc row -/
def pressOf (C : Nat) (a : Action) : Nat :=
  match a with
  | .trans => 0
  | a => ucost a + (if rfree a then 0 else C * 13)

def pressCost (c : LCfg) : Nat := max 2 (listMax ((allActions c).map (pressOf (maxCost c))))

/-- some configured action contains a one-shot key -/
def cfgOsh (c : LCfg) : Bool := (allActions c).any hasOsh

/-- **the recursion budget of a configuration** (decidable, a closed formula in the configuration):
`pressCost + 2`, plus `14 + 32 * (pressCost + 3)` if there is a one-shot key, must stay below the
model's recursion budget `FUEL - 1 = 3999` -/
def FuelU (c : LCfg) : Prop := pressCost c + 2 + Eres (cfgOsh c) (pressCost c) 32 ≤ 3999

instance (c : LCfg) : Decidable (FuelU c) := by unfold FuelU; exact inferInstance

theorem pressOf_eq (C : Nat) {a : Action} (h : a ≠ .trans) :
    pressOf C a = ucost a + (if rfree a then 0 else C * 13) := by
  unfold pressOf
  split
  · exact absurd rfl h
  · rfl

theorem cfgOK_of_range {c : LCfg} (h : RangeU c) : CfgOK c (maxCost c) (pressCost c) (cfgOsh c) := by
  obtain ⟨h1, h2, h3, h4⟩ := h.unpack
  refine ⟨h1, h2, fun a ha => ⟨h3 a ha, ?_, ?_, ?_⟩, h4, Nat.le_max_left _ _, Nat.le_max_left _ _⟩
  · exact Nat.le_trans (le_listMax (List.mem_map.mpr ⟨a, ha, rfl⟩)) (Nat.le_max_right _ _)
  · intro hnt
    rw [← pressOf_eq _ hnt]
    exact Nat.le_trans (le_listMax (List.mem_map.mpr ⟨a, ha, rfl⟩)) (Nat.le_max_right _ _)
  · intro ho
    exact List.any_eq_true.mpr ⟨a, ha, ho⟩

/-- decidable form of `WOK` -/
def wokB (L : Nat) (w : Waiting) : Bool :=
  (match w.config with | .holdTap _ => true | _ => false) && simpleIn L w.hold && simpleIn L w.tap &&
    simpleIn L w.timeoutAction

theorem wokB_wok {L : Nat} {w : Waiting} (h : wokB L w = true) : WOK L w := by
  unfold wokB at h
  simp only [Bool.and_eq_true] at h
  obtain ⟨⟨⟨h1, h2⟩, h3⟩, h4⟩ := h
  refine ⟨?_, h2, h3, h4⟩
  cases hc : w.config with
  | holdTap c => exact ⟨c, rfl⟩
  | tapDance a t n => rw [hc] at h1; cases h1
  | chord g => rw [hc] at h1; cases h1

/-- **the state conditions** (decidable): whatever waits is an undecided tap-hold key with simple
actions; no eager tap-dance, no queued action; the base layer and every held layer exist; at most 32
events are queued, the queued presses inside the table.  A freshly created layout meets them, and
`NC` (which they amount to) is kept by every event and every tick. -/
def StartU (s : Layout) : Prop :=
  (s.waiting.all (wokB s.cfg.layers.length) && s.extraWaiting.all (wokB s.cfg.layers.length) &&
    s.tapDanceEager.isNone && s.actionQueue.isEmpty &&
    decide (s.defaultLayer < s.cfg.layers.length) &&
    (s.states.all fun st => match st.getLayer with | some v => decide (v < s.cfg.layers.length) | none => true) &&
    decide (s.queue.length ≤ QUEUE_SIZE) && (s.queue.all fun q => evOK s.cfg q.ev)) = true

instance (s : Layout) : Decidable (StartU s) := by unfold StartU; exact inferInstance

theorem StartU.nc {s : Layout} (h : StartU s) : NC s.cfg s := by
  unfold StartU at h
  simp only [Bool.and_eq_true, decide_eq_true_eq, List.all_eq_true, Option.isNone_iff_eq_none,
    List.isEmpty_iff] at h
  obtain ⟨⟨⟨⟨⟨⟨⟨a1, a2⟩, a3⟩, a4⟩, a5⟩, a6⟩, a7⟩, a8⟩ := h
  refine ⟨rfl, ?_, fun w hw => wokB_wok (a2 w hw), a3, a4, a5, ?_, a7, a8⟩
  · intro w hw
    rw [hw] at a1
    exact wokB_wok a1
  · intro st hst v hv
    have := a6 st hst
    rw [hv] at this
    simpa using this

/-- a freshly created layout meets the state conditions when there is a layer -/
theorem startU_init (cfg : LCfg) (hp : 0 < cfg.layers.length) (tv2 dfl qth : Bool) (osd : Nat) :
    StartU ({ cfg := cfg, transV2 := tv2, delegateToFirstLayer := dfl, quickTapHoldTimeout := qth,
              oneshot := { pauseInputProcessingDelay := osd } } : Layout) := by
  unfold StartU
  simp [hp]

/-- any predicate that holds of every entry of the layer tables and of the defsrc row holds of every
configured action -/
theorem allActions_forall {c : LCfg} {Q : Action → Prop} (h1 : ∀ tbl ∈ c.layers, ∀ e ∈ tbl, Q e.2)
    (h2 : ∀ e ∈ c.srcKeys, Q e.2) : ∀ a ∈ allActions c, Q a := by
  intro a ha
  unfold allActions at ha
  rcases List.mem_append.mp ha with ha | ha
  · obtain ⟨tbl, ht, hm⟩ := List.mem_flatMap.mp ha
    obtain ⟨e, he, rfl⟩ := List.mem_map.mp hm
    exact h1 tbl ht e he
  · obtain ⟨e, he, rfl⟩ := List.mem_map.mp ha
    exact h2 e he

/-! ## the fragments of C04, C05, C06 and C08 lie inside the union fragment -/

theorem frag06_facts {n : Nat} {a : Action} (hf : C06.Frag a) :
    ucost a ≤ 4 ∧ (a ≠ .trans → rfree a = true) ∧ (Quiesce.ActSafe n a → UAct n a = true) := by
  cases a
  case trans => exact ⟨Nat.le_of_ble_eq_true rfl, fun h => absurd rfl h, fun _ => rfl⟩
  case layer l => exact ⟨Nat.le_of_ble_eq_true rfl, fun _ => rfl, fun hs => decide_eq_true (hs l rfl)⟩
  case oneShot inner T v =>
    refine ⟨Nat.le_of_ble_eq_true rfl, fun _ => rfl, fun hs => ?_⟩
    cases inner
    case layer l => exact decide_eq_true (hs l rfl)
    all_goals first | exact False.elim hf | rfl
  all_goals first | exact False.elim hf | exact ⟨Nat.le_of_ble_eq_true rfl, fun _ => rfl, fun _ => rfl⟩

mutual
  theorem frag08_facts (L : Nat) (a : Action) (hf : Macro.MFrag a) :
      UAct L a = true ∧ hasOsh a = false ∧ (a ≠ .trans → rfree a = true) := by
    cases a
    case trans => exact ⟨rfl, rfl, fun h => absurd rfl h⟩
    case multipleActions acs =>
      obtain ⟨h1, h2, h3⟩ := frag08_factsL L acs hf
      exact ⟨h1, h2, fun _ => h3⟩
    all_goals first | exact False.elim hf | exact ⟨rfl, rfl, fun _ => rfl⟩
  theorem frag08_factsL (L : Nat) (acs : List Action) (hf : Macro.MFragL acs) :
      UActL L acs = true ∧ hasOshL acs = false ∧ rfreeL acs = true := by
    cases acs with
    | nil => exact ⟨rfl, rfl, rfl⟩
    | cons a rest =>
      obtain ⟨a1, a2, a3⟩ := frag08_facts L a hf.1
      obtain ⟨r1, r2, r3⟩ := frag08_factsL L rest hf.2.2
      simp only [UActL, hasOshL, rfreeL, a1, a2, a3 hf.2.1, r1, r2, r3, Bool.and_self, Bool.or_self, and_self]
end

mutual
  theorem frag04_facts (L : Nat) (a : Action) (hf : C04.Frag a) (hl : C04.layersIn L a = true) :
      UAct L a = true ∧ hasOsh a = false := by
    cases a
    case multipleActions acs => exact frag04_factsL L acs hf hl
    case layer => exact ⟨hl, rfl⟩
    all_goals first | exact False.elim hf | exact ⟨rfl, rfl⟩
  theorem frag04_factsL (L : Nat) (acs : List Action) (hf : C04.FragL acs) (hl : C04.layersInL L acs = true) :
      UActL L acs = true ∧ hasOshL acs = false := by
    cases acs with
    | nil => exact ⟨rfl, rfl⟩
    | cons a rest =>
      simp only [C04.layersInL, Bool.and_eq_true] at hl
      obtain ⟨a1, a2⟩ := frag04_facts L a hf.1 hl.1
      obtain ⟨r1, r2⟩ := frag04_factsL L rest hf.2 hl.2
      simp only [UActL, hasOshL, a1, a2, r1, r2, Bool.and_self, Bool.or_self, and_self]
end

theorem simple_simpleIn {L : Nat} {a : Action} (hs : C06.Simple a) (hl : Quiesce.SimpleSafe L a) :
    simpleIn L a = true := by
  cases a
  case layer l => exact decide_eq_true (hl l rfl)
  all_goals first | exact False.elim hs | rfl

theorem frag05_facts {n : Nat} {a : Action} (hf : Quiesce.FragH a) :
    ucost a ≤ 4 ∧ (a ≠ .trans → rfree a = true) ∧ hasOsh a = false ∧ (Quiesce.ActSafeH n a → UAct n a = true) := by
  cases a
  case trans => exact ⟨Nat.le_of_ble_eq_true rfl, fun h => absurd rfl h, rfl, fun _ => rfl⟩
  case layer l => exact ⟨Nat.le_of_ble_eq_true rfl, fun _ => rfl, rfl, fun hs => decide_eq_true hs⟩
  case holdTap T hold tap to c iv =>
    refine ⟨Nat.le_of_ble_eq_true rfl, fun _ => rfl, rfl, fun hs => ?_⟩
    simp only [UAct, simple_simpleIn hf.1 hs.1, simple_simpleIn hf.2.1 hs.2.1, simple_simpleIn hf.2.2 hs.2.2,
      Bool.and_self]
  all_goals first | exact False.elim hf | exact ⟨Nat.le_of_ble_eq_true rfl, fun _ => rfl, rfl, fun _ => rfl⟩

/-- the cost bound of a configuration (decidable) -/
def CostU (C : Nat) (c : LCfg) : Prop := ((allActions c).all fun a => decide (ucost a ≤ C)) = true

instance (C : Nat) (c : LCfg) : Decidable (CostU C c) := by unfold CostU; exact inferInstance

theorem CostU.le {C : Nat} {c : LCfg} (h : CostU C c) {a : Action} (ha : a ∈ allActions c) : ucost a ≤ C := by
  have := List.all_eq_true.mp h a ha
  simpa using this

theorem cfgOK_flat {c : LCfg} {C : Nat} {osh : Bool} (hr : RangeU c) (h2 : 2 ≤ C)
    (h : ∀ a ∈ allActions c, ucost a ≤ C ∧ (a ≠ .trans → rfree a = true) ∧ (hasOsh a = true → osh = true)) :
    CfgOK c C C osh := by
  obtain ⟨h1, hp, h3, h4⟩ := hr.unpack
  refine ⟨h1, hp, fun a ha => ?_, h4, h2, h2⟩
  obtain ⟨f1, f2, f3⟩ := h a ha
  exact ⟨h3 a ha, f1, fun hnt => by rw [if_pos (f2 hnt)]; exact f1, f3⟩

/-- configurations of the one-shot fragment: cost 4 per press, the one-shot reserve -/
theorem cfgOK_06 {c : LCfg} (hf : C06.CfgFrag c) (hr : RangeU c) : CfgOK c 4 4 true :=
  cfgOK_flat hr (by decide) fun a ha =>
    have f := frag06_facts (n := c.layers.length) (allActions_forall hf.1 hf.2 a ha)
    ⟨f.1, f.2.1, fun _ => rfl⟩

theorem budget_06 : Budget 4 true := by unfold Budget Eres; decide

/-- configurations of the macro fragment: no reference nested in a `multi`, no one-shot key — the
cost bound is the whole budget -/
theorem cfgOK_08 {c : LCfg} {C : Nat} (hf : Macro.CfgM c) (hr : RangeU c) (hc : CostU C c) (h2 : 2 ≤ C) :
    CfgOK c C C false :=
  cfgOK_flat hr h2 fun a ha =>
    have f := frag08_facts c.layers.length a (allActions_forall hf.1 hf.2 a ha)
    ⟨hc.le ha, f.2.2, fun h => f.2.1.symm.trans h⟩

theorem budget_08 {C : Nat} (h : C ≤ 3997) : Budget C false := by unfold Budget Eres; simp; omega

/-- configurations of the tap-hold fragment: cost 4 per press, no one-shot reserve -/
theorem cfgOK_05 {c : LCfg} (hf : Quiesce.CfgH c) (hr : RangeU c) : CfgOK c 4 4 false :=
  cfgOK_flat hr (by decide) fun a ha =>
    have f := frag05_facts (n := c.layers.length) (allActions_forall hf.1 hf.2 a ha)
    ⟨f.1, f.2.1, fun h => f.2.2.1.symm.trans h⟩

theorem budget_05 : Budget 4 false := by unfold Budget Eres; decide

/-- the layout model run on a history, returning the state reached -/
def runL : Layout → List C04.In → Except Crash Layout
  | s, [] => .ok s
  | s, .ev e :: r =>
    match s.event e with
    | .error c => .error c
    | .ok s' => runL s' r
  | s, .tick :: r =>
    match tick s with
    | .error c => .error c
    | .ok (s', _) => runL s' r

theorem runL_steps {cfg : LCfg} {I : Layout → Prop}
    (hev : ∀ s e, I s → evOK cfg e = true → ∃ s', s.event e = .ok s' ∧ I s')
    (htick : ∀ s, I s → ∃ s' cu, tick s = .ok (s', cu) ∧ I s') :
    ∀ (ins : List C04.In) (s : Layout), I s → C02.InTable cfg ins → ∃ s', runL s ins = .ok s' ∧ I s' := by
  intro ins
  induction ins with
  | nil => intro s h _; exact ⟨s, rfl, h⟩
  | cons i rest ih =>
    intro s h ht
    unfold C02.InTable at ht
    simp only [List.all_cons, Bool.and_eq_true] at ht
    cases i with
    | ev e =>
      obtain ⟨s1, e1, h1⟩ := hev s e h ht.1
      obtain ⟨s', r, h'⟩ := ih s1 h1 ht.2
      exact ⟨s', by simp only [runL, e1, r], h'⟩
    | tick =>
      obtain ⟨s1, cu, e1, h1⟩ := htick s h
      obtain ⟨s', r, h'⟩ := ih s1 h1 ht.2
      exact ⟨s', by simp only [runL, e1, r], h'⟩

theorem runM_of_runL : ∀ (ins : List C04.In) (s s' : Layout), runL s ins = .ok s' → ∃ t, C04.runM s ins = .ok t
  | [], _, _ => fun _ => ⟨[], rfl⟩
  | .ev e :: rest, s, s' => by
    unfold runL C04.runM
    cases s.event e with
    | error c => exact fun h => nomatch h
    | ok s1 => exact runM_of_runL rest s1 s'
  | .tick :: rest, s, s' => by
    unfold runL C04.runM
    cases tick s with
    | error c => exact fun h => nomatch h
    | ok r =>
      intro h
      obtain ⟨t, e⟩ := runM_of_runL rest r.1 s' h
      exact ⟨r.1.keycodes :: t, by simp only [e]⟩

/-- **every history is processed**: from an invariant state, every list of events (presses inside the
layer table) and ticks — any order, any timing, any number of events between two ticks — runs without
a crash outcome, and the invariant holds of the state reached -/
theorem runL_ok {cfg : LCfg} {C P : Nat} {osh : Bool} (hC : CfgOK cfg C P osh) (hB : Budget P osh) :
    ∀ (ins : List C04.In) (s : Layout), NC cfg s → C02.InTable cfg ins → ∃ s', runL s ins = .ok s' ∧ NC cfg s' :=
  runL_steps (fun _ e h he => event_ok hC hB h e he) (fun _ h => tick_ok hC hB h)

theorem run_ok {cfg : LCfg} {C P : Nat} {osh : Bool} (hC : CfgOK cfg C P osh) (hB : Budget P osh)
    (ins : List C04.In) (s : Layout) (hN : NC cfg s) (ht : C02.InTable cfg ins) : ∃ t, C04.runM s ins = .ok t := by
  obtain ⟨s', h, _⟩ := runL_ok hC hB ins s hN ht
  exact runM_of_runL ins s s' h

theorem wok_wokB {L : Nat} {w : Waiting} (h : WOK L w) : wokB L w = true := by
  obtain ⟨c, hc⟩ := h.cfg
  unfold wokB
  simp only [hc, h.hold, h.tap, h.to, Bool.and_self]

/-- the invariant, back in decidable form -/
theorem NC.startU {s : Layout} (h : NC s.cfg s) : StartU s := by
  unfold StartU
  simp only [Bool.and_eq_true, decide_eq_true_eq, List.all_eq_true, Option.isNone_iff_eq_none,
    List.isEmpty_iff]
  refine ⟨⟨⟨⟨⟨⟨⟨?_, fun w hw => wok_wokB (h.eok w hw)⟩, h.tde⟩, h.aq⟩, h.dl⟩, ?_⟩, h.qlen⟩, h.queue⟩
  · cases hw : s.waiting with
    | none => rfl
    | some w => exact wok_wokB (h.wok w hw)
  · intro st hst
    cases hv : st.getLayer with
    | none => rfl
    | some v => simpa using h.held st hst v hv

end KVerif.NCF
