/-
C06 helper lemmas: the invariant `Inv` (no stranded state) is preserved by every event and
every tick of the layout model on the C06 fragment.  `Inv` says: a calm layout of the fragment whose
states, `OneShotState` and queue are `Accounted` (Lemmas/OneShotAccounted.lean); each event and each
stage of a tick leaves a frame and is one of the lemmas of `Accounted`.
-/
import KVerif.Lemmas.OneShotAccounted
namespace KVerif.C06
open KVerif.L

/-! ### what the `OneShotState` operations keep -/

theorem handlePress_other_fields (o : OneShotState) (c : Coord) :
    (o.handlePress (.other c)).1.keys = o.keys ∧
    (o.handlePress (.other c)).1.releasedKeys = o.releasedKeys ∧
    (o.handlePress (.other c)).1.releaseOnNextTick = o.releaseOnNextTick ∧
    (o.handlePress (.other c)).1.ticksToIgnoreEvents = o.ticksToIgnoreEvents ∧
    (o.handlePress (.other c)).1.endConfig = o.endConfig ∧
    (o.handlePress (.other c)).1.pauseInputProcessingDelay = o.pauseInputProcessingDelay := by
  rw [handlePress_other]
  split
  · exact ⟨rfl, rfl, rfl, rfl, rfl, rfl⟩
  · split <;> exact ⟨rfl, rfl, rfl, rfl, rfl, rfl⟩

theorem handlePress_osk_fields (o : OneShotState) (c : Coord) :
    (o.handlePress (.oneShotKey c)).1.keys = o.keys ∧
    (o.handlePress (.oneShotKey c)).1.ticksToIgnoreEvents = o.ticksToIgnoreEvents ∧
    (o.handlePress (.oneShotKey c)).1.pauseInputProcessingDelay = o.pauseInputProcessingDelay ∧
    (∀ x ∈ o.releasedKeys, x ∈ (o.handlePress (.oneShotKey c)).1.releasedKeys ∨ x = c) ∧
    (∀ x ∈ (o.handlePress (.oneShotKey c)).1.releasedKeys, x ∈ o.releasedKeys) ∧
    (o.ticksToIgnoreEvents = 0 → c ∈ (o.handlePress (.oneShotKey c)).1.releasedKeys → o.keys = []) := by
  rw [handlePress_oneShotKey_fst]
  split
  · rename_i h
    exact ⟨rfl, rfl, rfl, fun x hx => Or.inl hx, fun x hx => hx, fun h0 _ => by simpa [h0] using h⟩
  · refine ⟨rfl, rfl, rfl, fun x hx => ?_, fun x hx => (List.mem_filter.mp hx).1, fun _ hx => ?_⟩
    · by_cases hxc : x = c
      · exact Or.inr hxc
      · exact Or.inl (List.mem_filter.mpr ⟨hx, by simpa using hxc⟩)
    · simp at hx

theorem activate_fields (o : OneShotState) (c : Coord) (T : Nat) (v : OneShotEnd) :
    (activate o c T v).keys ≠ [] ∧ (activate o c T v).timeout = T ∧ (activate o c T v).endConfig = v ∧
    (activate o c T v).ticksToIgnoreEvents = o.ticksToIgnoreEvents ∧
    (activate o c T v).pauseInputProcessingDelay = o.pauseInputProcessingDelay ∧
    (activate o c T v).releasedKeys = (o.handlePress (.oneShotKey c)).1.releasedKeys ∧
    (activate o c T v).releaseOnNextTick = (o.handlePress (.oneShotKey c)).1.releaseOnNextTick ∧
    (activate o c T v).keys = (pushBackWrap ONE_SHOT_MAX_ACTIVE o.keys c).1 := by
  obtain ⟨f1, f2, f3, _⟩ := handlePress_osk_fields o c
  unfold activate
  refine ⟨?_, ?_, ?_, f2, f3, ?_, ?_, by rw [← f1]⟩
  · exact pushBackWrap_ne_nil _ (by decide) _ _
  all_goals rfl

theorem OshOp.keeps {o o' : OneShotState} {c : Coord} {ov : Option Coord} (h : OshOp o c o' ov) :
    o'.ticksToIgnoreEvents = o.ticksToIgnoreEvents ∧
    o'.pauseInputProcessingDelay = o.pauseInputProcessingDelay ∧
    (∀ x ∈ o.releasedKeys, x ∈ o'.releasedKeys ∨ x = c) ∧
    ((o.keys = [] → o.releasedKeys = [] ∧ o.releaseOnNextTick = false) →
      (o'.keys = [] → o'.releasedKeys = [] ∧ o'.releaseOnNextTick = false)) := by
  cases h with
  | other =>
    obtain ⟨f1, f2, f3, f4, _, f6⟩ := handlePress_other_fields o c
    exact ⟨f4, f6, fun x hx => Or.inl (f2 ▸ hx), fun hi hk => by rw [f2, f3]; exact hi (f1 ▸ hk)⟩
  | activate T v =>
    obtain ⟨a1, _, _, a4, a5, a6, _, _⟩ := activate_fields o c T v
    refine ⟨a4, a5, fun x hx => ?_, fun _ hk => absurd hk a1⟩
    rw [a6]
    exact (handlePress_osk_fields o c).2.2.2.1 x hx
  | skip => exact ⟨rfl, rfl, fun x hx => Or.inl hx, fun hi => hi⟩

theorem Calm.setQueue {s : Layout} (h : Calm s) (q : List Queued) : Calm (s.setQueue q) :=
  h.of_eq rfl rfl rfl rfl rfl h.states h.ignore

theorem Inv.accounted {s : Layout} {down : List Coord} (h : Inv s down) :
    Accounted down s.states s.oneshot s.queue :=
  ⟨h.calm.states, h.calm.ignore, h.qlen, h.idle, h.qwf, fun st hst c hc => or_left_comm.mp (h.owned st hst c hc)⟩

theorem Inv.of_accounted {s : Layout} {down : List Coord} (hc : Calm s) (hcfg : CfgFrag s.cfg)
    (a : Accounted down s.states s.oneshot s.queue) : Inv s down :=
  ⟨hc, hcfg, a.qlen, a.idle, a.qwf, fun st hst c hc => or_left_comm.mp (a.owned st hst c hc)⟩

theorem Inv.frame {s s' : Layout} {down down' : List Coord} (h : Inv s down) (f : Frame s s')
    (a : Accounted down' s'.states s'.oneshot s'.queue) : Inv s' down' :=
  .of_accounted (h.calm.frame f a.states a.ignore) (f.cfg ▸ h.cfg) a

/-! ### events -/

theorem Inv.input {s : Layout} {down : List Coord} (h : Inv s down) (e : Ev)
    (hq : s.queue.length < QUEUE_SIZE) :
    ∃ s', s.event e = .ok s' ∧ Inv s' (downAfter down (.ev e)) ∧ s'.queue = s.queue ++ [⟨e, 0⟩] ∧
      s'.states = s.states ∧ s'.oneshot = s.oneshot := by
  unfold Layout.event
  rw [FUEL_succ]
  obtain ⟨s', e1, e2, e3, e4, e5⟩ := event_room 3999 s e hq
  refine ⟨s', e1, h.frame e5 ?_, e2, e3, e4⟩
  rw [e2, e3, e4]
  exact h.accounted.enqueue e hq

/-! ### the stages of a tick -/

theorem Inv.pre {s : Layout} {down : List Coord} (h : Inv s down) : Inv (tickPre s) down := by
  obtain ⟨t1, t2, t3, t4, t5, _⟩ := tickPre_fields h.calm
  refine .of_accounted t1 (t5 ▸ h.cfg) ?_
  rw [t2, t3, t4]
  exact h.accounted.age

theorem Inv.osh_tick {s : Layout} {down : List Coord} (h : Inv s down) :
    ∃ s1, tickOneshot s = .ok (s1, .noEvent) ∧ Inv s1 down ∧ s1.queue = s.queue ∧ Frame s s1 ∧
      s1.oneshot = s.oneshot.tick.1 ∧ s1.states = dropCoords (s.oneshot.tick.2.getD []) s.states := by
  by_cases hk : s.oneshot.keys = []
  · have e := tick_inactive _ hk
    exact ⟨s, tickOneshot_inactive hk, h, rfl, Frame.refl s, by rw [e], by rw [e]; exact (dropCoords_nil _).symm⟩
  · by_cases hf : s.oneshot.releaseOnNextTick = true ∨ s.oneshot.timeout ≤ 1
    · -- it fires: the states whose release was deferred go with the deferred releases
      have e := tick_fires _ hk hf
      exact ⟨_, tickOneshot_fires h.calm.states hk hf, h.frame Frame.free
        (h.accounted.sub (fun _ hst => (mem_dropCoords.mp hst).1) rfl (fun _ => ⟨rfl, rfl⟩)
          fun _ hst c hc hcr => absurd hc ((mem_dropCoords.mp hst).2 c hcr)),
        rfl, Frame.free, by rw [e], by rw [e]; rfl⟩
    · have h1 : s.oneshot.releaseOnNextTick = false := Bool.eq_false_iff.mpr fun e => hf (Or.inl e)
      have h2 : 2 ≤ s.oneshot.timeout := Nat.lt_of_not_le fun e => hf (Or.inr e)
      have e := tick_waits _ hk h1 h2
      exact ⟨_, tickOneshot_waits hk h1 h2, h.frame Frame.free
        (h.accounted.sub (fun _ hst => hst) (congrArg (· - 1) h.calm.ignore) (fun hk' => absurd hk' hk)
          fun _ _ _ _ hc => hc),
        rfl, Frame.free, by rw [e], by rw [e]; exact (dropCoords_nil _).symm⟩

theorem Inv.osh {s : Layout} {down : List Coord} (h : Inv s down) :
    ∃ s1, tickOneshot s = .ok (s1, .noEvent) ∧ Inv s1 down ∧ s1.queue = s.queue ∧ Frame s s1 :=
  let ⟨s1, e, i, q, f, _⟩ := h.osh_tick
  ⟨s1, e, i, q, f⟩

theorem Inv.pop_press {s : Layout} {down : List Coord} (h : Inv s down) (c : Coord) (n : Nat)
    (rest : List Queued) (hq : s.queue = ⟨.press c, n⟩ :: rest) (s' : Layout) (cu : CustomEv)
    (hd : dequeue FUEL (s.setQueue rest) ⟨.press c, n⟩ = .ok (s', cu)) : Inv s' down ∧ cu = .noEvent := by
  obtain ⟨a, hc⟩ := (hq ▸ h.accounted).pop_press
  have hlen : rest.length < QUEUE_SIZE := by have := h.qlen; rw [hq] at this; exact this
  obtain ⟨r1, r2⟩ := dequeue_press_frag (s := s.setQueue rest) h.cfg (h.calm.setQueue rest) hlen c n s' cu hd
  obtain ⟨ov, op, hqq⟩ := r2.osh
  obtain ⟨k1, _, k3, k4⟩ := op.keeps
  have hq' : s'.queue = rest ++ ovq ov := hqq
  refine ⟨h.frame (Frame.free.trans r2.frame) ?_, r1⟩
  rw [hq']
  exact (a.adds hc r2.adds.new (k1.trans h.calm.ignore) (k4 h.idle) k3).append_ovq ov hlen

theorem Inv.pop_release {s : Layout} {down : List Coord} (h : Inv s down) (c : Coord) (n : Nat)
    (rest : List Queued) (hq : s.queue = ⟨.release c, n⟩ :: rest) :
    ∃ s', dequeue FUEL (s.setQueue rest) ⟨.release c, n⟩ = .ok (s', .noEvent) ∧ Inv s' down :=
  ⟨_, dequeue_release_calm (s := s.setQueue rest) h.calm.states c n,
    h.frame Frame.free (hq ▸ h.accounted).pop_release⟩

theorem Inv.main {s : Layout} {down : List Coord} (h : Inv s down) (s2 : Layout) (c2 : CustomEv)
    (hm : tickMain s = .ok (s2, c2)) : Inv s2 down ∧ c2 = .noEvent := by
  by_cases hp : 0 < s.oneshot.pauseInputProcessingTicks
  · rw [tickMain_paused h.calm.waiting h.calm.extra hp] at hm
    injection hm with hm; injection hm with h1 h2; subst h1; subst h2
    exact ⟨h.frame Frame.free (h.accounted.sub (fun _ hst => hst) h.calm.ignore h.idle fun _ _ _ _ hc => hc), rfl⟩
  · have hp0 : s.oneshot.pauseInputProcessingTicks = 0 := by omega
    cases hq : s.queue with
    | nil =>
      rw [tickMain_empty h.calm.waiting h.calm.extra hp0 hq] at hm
      injection hm with hm; injection hm with h1 h2; subst h1; subst h2
      exact ⟨h, rfl⟩
    | cons q rest =>
      rw [tickMain_pops h.calm.waiting h.calm.extra hp0 q rest hq] at hm
      obtain ⟨ev, n⟩ := q
      cases ev with
      | press c => exact h.pop_press c n rest hq s2 c2 hm
      | release c =>
        obtain ⟨s', e1, e2⟩ := h.pop_release c n rest hq
        rw [e1] at hm
        injection hm with hm; injection hm with h1 h2; subst h1; subst h2
        exact ⟨e2, rfl⟩

/-- **a tick on the fragment** is its first two stages — they return `s1`: the queue has aged,
`tick_osh` has run and the states of the coordinates it handed back have gone — and then the main
stage on `s1` -/
theorem Inv.tick_eq {s : Layout} {down : List Coord} (h : Inv s down) :
    ∃ s1, tickOneshot (tickPre s) = .ok (s1, .noEvent) ∧ Inv s1 down ∧ s1.queue = age s.queue ∧
      s1.oneshot = s.oneshot.tick.1 ∧ s1.states = dropCoords (s.oneshot.tick.2.getD []) s.states ∧
      tick s = tickMain s1 := by
  obtain ⟨_, t2, t3, t4, _⟩ := tickPre_fields h.calm
  obtain ⟨s1, e1, i1, q1, _, o1, st1⟩ := h.pre.osh_tick
  refine ⟨s1, e1, i1, q1.trans t4, t2 ▸ o1, t2 ▸ t3 ▸ st1, ?_⟩
  cases hm : tickMain s1 with
  | error c =>
    unfold KVerif.L.tick
    simp only [h.calm.aq, e1, hm]
  | ok r =>
    obtain ⟨s2, c2⟩ := r
    obtain ⟨i2, rfl⟩ := i1.main s2 c2 hm
    exact tick_calm h.calm e1 hm i2.calm

theorem Inv.step {s : Layout} {down : List Coord} (h : Inv s down) (s' : Layout) (cu : CustomEv)
    (ht : tick s = .ok (s', cu)) : Inv s' down ∧ cu = .noEvent := by
  obtain ⟨s1, _, i1, _, _, _, e⟩ := h.tick_eq
  exact i1.main s' cu (e ▸ ht)

end KVerif.C06
