/-
A waiting key's decision when the action it selects is a simple one (key, key list, layer-while-held): `do_action`
is then one arm, so the decision performed is a layout written out, with no custom event.
-/
import KVerif.Lemmas.WaitingTick
import KVerif.Lemmas.TapHold
import KVerif.Lemmas.OneShotPress
namespace KVerif.L
open KVerif.C06 (Simple simpleArm doAction_simple)

/-- the layout after the decision `a` for the entry `w`, already taken out of `S`, when the action selected is simple -/
def resolvedSimple (S : Layout) (w : Waiting) : WAct → Layout
  | .hold => simpleArm (prelude (holdPrep S w) w.coord) w.hold w.coord false
  | .tap => tapPost (simpleArm (prelude S w.coord) w.tap w.coord false)
  | .timeout => simpleArm (prelude (timeoutPrep S w) w.coord) w.timeoutAction w.coord false
  | .noOp => { S with waiting := none }

theorem resolve_simple (S : Layout) (w : Waiting) (a : WAct) (hs : a = .noOp ∨ Simple (C05.pick w a)) :
    resolve S w none a = .ok (resolvedSimple S w a, .noEvent) := by
  cases a with
  | hold => rw [resolve, show (3999 : Nat) = 3997 + 2 from rfl, doAction_simple 3997 _ w.hold (hs.resolve_left nofun)]; rfl
  | tap => rw [resolve_tap_none, show FUEL = 3998 + 2 from rfl, doAction_simple 3998 _ w.tap (hs.resolve_left nofun)]; rfl
  | timeout =>
    rw [resolve, show FUEL = 3998 + 2 from rfl, doAction_simple 3998 _ w.timeoutAction (hs.resolve_left nofun)]; rfl
  | noOp => rfl

end KVerif.L
