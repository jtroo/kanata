/-
C09 helper lemmas: what the simple action kinds do to `states` (so that a chord's action is held at
every participating coordinate), and what a release removes (a filter of `states`).
-/
import KVerif.Lemmas.ChordTick
namespace KVerif.C09
open KVerif.L

theorem updateCoord_states (s : Layout) (c : Coord) : (updateCoord s c).states = s.states := by
  unfold updateCoord; split <;> rfl

theorem oshOther_states (s : Layout) (o : Bool) (c : Coord) : (oshOther s o c).1.states = s.states := by
  unfold oshOther Layout.oshPress; split <;> rfl

theorem prelude_states (s : Layout) (c : Coord) :
    (prelude s c).states = s.states.filter (fun st => !st.clearOnNextAction) := by
  unfold prelude; split <;> rfl

theorem armKeyCode_states (s : Layout) (a : Action) (kc : KeyCode) (c : Coord) (o : Bool) :
    (armKeyCode s a kc c o).states = pushCap STATES_CAP s.states (.normalKey kc c 0) := by
  unfold armKeyCode
  simp only []
  split <;>
  · show (oshOther _ o c).1.states = _
    rw [oshOther_states]
    simp only [Layout.pushState, updateCoord_states]

theorem doAction_keyCode (f : Nat) (s : Layout) (kc : KeyCode) (c : Coord) (d : Nat) (o : Bool) (ls : List Nat) :
    doAction (f + 2) s (.keyCode kc) c d o ls = .ok (armKeyCode (prelude s c) (.keyCode kc) kc c o, .noEvent) := by
  simp only [doAction, dispatch]

theorem FUEL_succ2 : FUEL = 3998 + 2 := rfl

/-- the states after a key-code action has been performed on each coordinate in turn -/
def pushAllKeys (kc : KeyCode) : List Coord → List St → List St
  | [], sts => sts
  | c :: cs, sts =>
    pushAllKeys kc cs (pushCap STATES_CAP (sts.filter (fun st => !st.clearOnNextAction)) (.normalKey kc c 0))

theorem doAction_keyCode_states (s : Layout) (kc : KeyCode) (c : Coord) (d : Nat) (ls : List Nat) :
    ∃ s', doAction FUEL s (.keyCode kc) c d false ls = .ok (s', .noEvent) ∧
      s'.states = pushCap STATES_CAP (s.states.filter (fun st => !st.clearOnNextAction)) (.normalKey kc c 0) := by
  rw [FUEL_succ2, doAction_keyCode]
  exact ⟨_, rfl, by rw [armKeyCode_states, prelude_states]⟩

theorem repeat_keyCode_states (kc : KeyCode) (d : Nat) (ls : List Nat) : ∀ (cs : List Coord) (s : Layout),
    ∃ s', repeatForCoords (.keyCode kc) d ls cs s = .ok s' ∧ s'.states = pushAllKeys kc cs s.states := by
  intro cs
  induction cs with
  | nil => intro s; exact ⟨s, rfl, rfl⟩
  | cons c cs ih =>
    intro s
    obtain ⟨s1, e1, h1⟩ := doAction_keyCode_states s kc c d ls
    obtain ⟨s2, e2, h2⟩ := ih s1
    refine ⟨s2, ?_, ?_⟩
    · simp only [repeatForCoords, e1, e2]
    · rw [h2, h1]; rfl

/-- a chord whose action is a plain key: `waiting_into_tap` presses that key once per participating
coordinate (the chord's own coordinate, then the pressed queue) and nothing else changes `states` -/
theorem keyCode_chord_tap (s : Layout) (w : Waiting) (kc : KeyCode) (pq : List Coord)
    (hw : s.waiting = some w) (ht : w.tap = .keyCode kc) :
    ∃ s', waitingIntoTap s (some pq) none = .ok (s', .noEvent) ∧
      s'.states = pushAllKeys kc (w.coord :: pq) s.states := by
  simp only [waitingIntoTap, takeWaiting, hw, Option.map_some, ht]
  obtain ⟨s1, e1, h1⟩ := doAction_keyCode_states s.clearWaiting kc w.coord (waitingDelay w) w.layerStack
  obtain ⟨s2, e2, h2⟩ := repeat_keyCode_states kc (waitingDelay w) w.layerStack pq s1
  simp only [e1, chordRepeat, simpleAction, if_true, e2]
  refine ⟨tapPost s2, rfl, ?_⟩
  show s2.states = _
  rw [h2, h1]; rfl

theorem mem_pushCap {α} {cap : Nat} {l : List α} {x y : α} (h : y ∈ pushCap cap l x) : y ∈ l ∨ y = x := by
  unfold pushCap at h
  split at h
  · simpa using h
  · exact Or.inl h

/-- every state after the chord fired is an old one or the chord's key at a participating coordinate -/
theorem pushAllKeys_new (kc : KeyCode) : ∀ (cs : List Coord) (sts : List St) (st : St),
    st ∈ pushAllKeys kc cs sts → st ∈ sts ∨ ∃ c ∈ cs, st = .normalKey kc c 0 := by
  intro cs
  induction cs with
  | nil => intro sts st h; exact Or.inl h
  | cons c cs ih =>
    intro sts st h
    rcases ih _ st h with h1 | ⟨c', hc', e⟩
    · rcases mem_pushCap h1 with h2 | h2
      · exact Or.inl (List.mem_filter.mp h2).1
      · exact Or.inr ⟨c, by simp, h2⟩
    · exact Or.inr ⟨c', by simp [hc'], e⟩

theorem pushAllKeys_length (kc : KeyCode) : ∀ (cs : List Coord) (sts : List St),
    (pushAllKeys kc cs sts).length ≤ sts.length + cs.length := by
  intro cs
  induction cs with
  | nil => exact fun sts => Nat.le_refl _
  | cons c cs ih =>
    intro sts
    have h1 := ih (pushCap STATES_CAP (sts.filter (fun st => !st.clearOnNextAction)) (.normalKey kc c 0))
    have h2 : (pushCap STATES_CAP (sts.filter (fun st => !st.clearOnNextAction)) (St.normalKey kc c 0)).length ≤
        (sts.filter (fun st => !st.clearOnNextAction)).length + 1 := by
      unfold pushCap; split
      · exact Nat.le_of_eq List.length_append
      · exact Nat.le_succ _
    have h3 := List.length_filter_le (fun st => !st.clearOnNextAction) sts
    rw [pushAllKeys, List.length_cons]
    omega

theorem pushAllKeys_keeps (kc : KeyCode) : ∀ (cs : List Coord) (sts : List St) (st : St),
    st ∈ sts → st.clearOnNextAction = false → st ∈ pushAllKeys kc cs sts := by
  intro cs
  induction cs with
  | nil => intro sts st h _; exact h
  | cons c cs ih =>
    intro sts st h hf
    apply ih _ st _ hf
    unfold pushCap
    have : st ∈ sts.filter (fun st => !st.clearOnNextAction) := List.mem_filter.mpr ⟨h, by simp [hf]⟩
    split
    · exact List.mem_append_left _ this
    · exact this

/-- with room in `states` (64 entries) the key is held at EVERY participating coordinate -/
theorem pushAllKeys_all (kc : KeyCode) : ∀ (cs : List Coord) (sts : List St),
    sts.length + cs.length ≤ STATES_CAP → ∀ c ∈ cs, St.normalKey kc c 0 ∈ pushAllKeys kc cs sts := by
  intro cs
  induction cs with
  | nil => exact fun sts _ c hc => nomatch hc
  | cons c0 cs ih =>
    intro sts hlen c hc
    rw [List.length_cons] at hlen
    have hfl := List.length_filter_le (fun st => !st.clearOnNextAction) sts
    -- there is room, so the push is an append
    have hpush : pushCap STATES_CAP (sts.filter (fun st => !st.clearOnNextAction)) (St.normalKey kc c0 0) =
        sts.filter (fun st => !st.clearOnNextAction) ++ [St.normalKey kc c0 0] := if_pos (by omega)
    rw [pushAllKeys, hpush]
    rcases List.mem_cons.mp hc with rfl | hc'
    · exact pushAllKeys_keeps kc cs _ _ (List.mem_append_right _ List.mem_cons_self) rfl
    · exact ih _ (by rw [List.length_append, List.length_singleton]; omega) c hc'

/-- `waiting_into_tap` for a decided chord: one `do_action` at the chord's coordinate, then the
repetition on the pressed queue, then the rapid-event pause -/
theorem waitingIntoTap_chord {S s' : Layout} {w1 : Waiting} {g : ChordsGroup} {pq : List Coord} {cu : CustomEv}
    (h : waitingIntoTap S (some pq) none = .ok (s', cu)) (hS : S.waiting = some w1) (hc : w1.config = .chord g) :
    ∃ s1 s2, doAction FUEL S.clearWaiting w1.tap w1.coord (min (w1.delay + w1.ticks) U16_MAX) false w1.layerStack = .ok (s1, cu) ∧
      chordRepeat w1.tap pq (min (w1.delay + w1.ticks) U16_MAX) w1.layerStack s1 = .ok s2 ∧ s' = tapPost s2 := by
  simp only [waitingIntoTap, takeWaiting, hS, Option.map_some, waitingDelay, hc] at h
  split at h
  · cases h
  · rename_i s1 ret hd
    split at h
    · cases h
    · rename_i s2 hrep
      injection h with h; injection h with e1 e2
      subst e2
      exact ⟨s1, s2, hd, hrep, e1.symm⟩

/-! ## Release -/

theorem release_fst (st : St) (c : Coord) (cu : CustomEv) :
    (st.release c cu).1 = if st.coord == some c then none else some st := by
  cases st with
  | normalKey _ coord _ | layerModifier _ coord | custom _ coord | repeatingSequence _ coord =>
    exact apply_ite Prod.fst ..
  | _ => rfl

/-- releasing coordinate `c` is a filter: the states at `c` go, and (when asked for) the flagged ones -/
theorem releaseStates_fst (b : Bool) (c : Coord) : ∀ (sts : List St) (cu : CustomEv),
    (releaseStates b c sts cu).1 = sts.filter fun st => !(b && st.clearOnNextRelease) && !(st.coord == some c) := by
  intro sts
  induction sts with
  | nil => intro cu; rfl
  | cons x sts ih =>
    intro cu
    rw [releaseStates, List.filter_cons]
    cases b && x.clearOnNextRelease
    · have hx := release_fst x c cu
      cases hc : x.coord == some c <;> rw [hc] at hx
      · simp only [Bool.false_eq_true, if_false, Bool.not_false, Bool.and_self, if_true, hx, ih]
      · simp only [Bool.false_eq_true, if_false, Bool.not_false, Bool.not_true, Bool.and_false, if_true, hx, ih]
    · exact ih cu

theorem mem_releaseStates {b : Bool} {c : Coord} {sts : List St} {cu : CustomEv} {st : St} :
    st ∈ (releaseStates b c sts cu).1 ↔ st ∈ sts ∧ (b && st.clearOnNextRelease) = false ∧ st.coord ≠ some c := by
  rw [releaseStates_fst, List.mem_filter, Bool.and_eq_true, Bool.not_eq_true', Bool.not_eq_true', beq_eq_false_iff_ne]

/-- `dequeue` of a release while no one-shot key is active -/
theorem dequeue_release (f : Nat) (s : Layout) (c : Coord) (since : Nat) (ho : s.oneshot.keys = []) :
    ∃ cu, dequeue (f + 1) s ⟨.release c, since⟩ =
      .ok ({ s with states := (releaseStates true c s.states .noEvent).1 }, cu) := by
  simp only [dequeue, OneShotState.handleRelease, ho, List.isEmpty_nil, if_true]
  exact ⟨_, rfl⟩

end KVerif.C09
