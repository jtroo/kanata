/-
C09 helper lemmas for chords v2: what one tick hands to the layout, as lists - `drain_inputs` and the
tail of the tick split the queue without reordering real-key events.
-/
import KVerif.Lemmas.ChordsV2Sched
import KVerif.Lemmas.ChordsV2Cap
namespace KVerif.C09
open KVerif.L

/-- chords v2's own events at the end of a tick: the two tap-hold trigger events and the releases of the
virtual coordinates of the chords that end -/
def tailExtra (prevLen : Nat) (s1 : ChV2) : List Queued := tailTriggers prevLen s1 ++ tailReleases s1.active

theorem tickTail_split (prevLen : Nat) (s1 s' : ChV2) (dq1 dq : List Queued)
    (h : tickTail prevLen s1 dq1 = .ok (s', dq)) (hl : dq1.length + 2 ≤ DRAIN_Q_LEN) :
    ∃ extra, dq = dq1 ++ extra ∧ s'.queue = s1.queue ∧
      s'.active = s1.active.filter (fun a => !(a.status == .released)) ∧
      ∀ x ∈ extra, x.ev = .press (0, 0) ∨ ∃ n, x.ev = .release (0, n) := by
  obtain ⟨rfl, rfl⟩ := tickTail_ok h
  rw [tickNoops_fits prevLen s1 dq1 hl, List.append_assoc]
  refine ⟨tailExtra prevLen s1, rfl, rfl, rfl, fun x hx => ?_⟩
  simp only [tailExtra, tailTriggers, tailReleases, List.mem_append, List.mem_map] at hx
  rcases hx with (hx | hx) | ⟨a, _, e⟩
  · split at hx
    · rw [List.mem_singleton.mp hx]; exact Or.inl rfl
    · cases hx
  · split at hx
    · rw [List.mem_singleton.mp hx]; exact Or.inr ⟨0, rfl⟩
    · cases hx
  · rw [← e]; exact Or.inr ⟨a.coordinate, rfl⟩

theorem ppRetain_sublist (q : List Queued) (acc : List Nat) : (ppRetain q acc).Sublist q := by
  unfold ppRetain; exact List.filter_sublist

theorem mem_ppRetain_or (q : List Queued) (acc : List Nat) (x : Queued) (hx : x ∈ q) :
    x ∈ ppRetain q acc ∨ ∃ c, x.ev = .press c ∧ acc.contains c.2 = true := by
  cases hev : x.ev with
  | release c => left; unfold ppRetain; exact List.mem_filter.mpr ⟨hx, by rw [hev]⟩
  | press c =>
    cases hc : acc.contains c.2 with
    | true => right; exact ⟨c, rfl, hc⟩
    | false => left; unfold ppRetain; exact List.mem_filter.mpr ⟨hx, by rw [hev]; simp only [hc]; rfl⟩

/-- the queue after `process_presses` is the queue before it minus the presses of the keys of the chord
it activated -/
theorem processPresses_queue (s s' : ChV2) (layer : Nat) (h : processPresses s layer = .ok s') :
    s'.queue.Sublist s.queue ∧ ∀ x ∈ s.queue, x ∈ s'.queue ∨
      ∃ c, x.ev = .press c ∧ ∃ a ∈ s'.active, unreadClass a.status = true ∧ a.keys.contains c.2 = true := by
  rcases processPresses_spec _ _ _ h with ⟨_, h2⟩ | ⟨_, rf, _, _, cch, coord, acc, _, _, _, _, _, hex, _, _, h9, h10⟩
  · rw [h2]; exact ⟨List.Sublist.refl _, fun x hx => Or.inl hx⟩
  · rw [h10]
    refine ⟨ppRetain_sublist _ _, fun x hx => (mem_ppRetain_or s.queue acc x hx).imp_right ?_⟩
    rintro ⟨c, hc1, hc2⟩
    refine ⟨c, hc1, _, by rw [h9]; exact List.mem_append_right _ (List.mem_singleton_self _),
      getActiveChord_unread _ _ _ _, ?_⟩
    simp only [exactMatch, Bool.and_eq_true] at hex
    exact List.all_eq_true.mp hex.1 c.2 (List.contains_iff_mem.mp hc2)

/-- **what `drain_inputs` hands over**, as lists -/
theorem drainInputs_split (A s1 : ChV2) (dq1 : List Queued) (layer : Nat)
    (h : drainInputs A [] layer = .ok (s1, dq1)) (hl : A.queue.length ≤ DRAIN_Q_LEN) :
    dq1.length ≤ A.queue.length ∧
    ((dq1 ++ s1.queue).filter row0).Sublist (A.queue.filter row0) ∧
    (∀ x ∈ dq1, x ∈ A.queue) ∧
    (∀ x ∈ A.queue, row0 x = true → x ∈ dq1 ∨ x ∈ s1.queue ∨
      ∃ c, x.ev = .press c ∧ ∃ a ∈ s1.active, unreadClass a.status = true ∧ a.keys.contains c.2 = true) := by
  rcases Nat.eq_zero_or_pos A.ticksToIgnore with h0 | h0
  · by_cases hf : FastCond A layer
    · rw [drainInputs_fast A [] layer h0 hf] at h
      cases h
      exact ⟨Nat.zero_le _, List.Sublist.refl _, (fun x hx => nomatch hx), fun x hx _ => Or.inr (Or.inl hx)⟩
    · rw [drainInputs_scan_fits A [] layer h0 hf (by simpa using hl)] at h
      split at h
      · cases h
      · rename_i s2 hpp
        cases h
        have hparts := scanParts_length A layer
        obtain ⟨hsub, hkept⟩ := processPresses_queue _ _ _ hpp
        -- the queue is `virt`, then `lead`: the releases before the first press, then what `process_presses` sees
        generalize hvirt : (A.queue.filter fun x => !row0 x) = virt at hparts ⊢
        generalize hlead : (A.queue.filter row0).takeWhile isRel = lead at hparts ⊢
        have hq0 : A.queue.filter row0 = lead ++ (scanInput A layer).queue := by
          rw [← hlead]; exact List.takeWhile_append_dropWhile.symm
        have hrow_lead : ∀ x ∈ lead, row0 x = true := fun x hx =>
          (List.mem_filter.mp (by rw [hq0]; exact List.mem_append_left _ hx)).2
        show ([] ++ virt ++ lead).length ≤ _ ∧ (([] ++ virt ++ lead ++ s2.queue).filter row0).Sublist _ ∧ _ ∧
          ∀ x ∈ A.queue, row0 x = true → x ∈ [] ++ virt ++ lead ∨ x ∈ s2.queue ∨ _
        rw [List.nil_append]
        refine ⟨?_, ?_, ?_, ?_⟩
        · rw [List.length_append]; omega
        · have hvf : virt.filter row0 = [] := by
            rw [← hvirt, List.filter_filter, List.filter_eq_nil_iff]
            intro x _; cases row0 x <;> decide
          rw [List.filter_append, List.filter_append, hvf, List.nil_append, List.filter_eq_self.mpr hrow_lead, hq0]
          exact List.Sublist.append (List.Sublist.refl _) (List.Sublist.trans List.filter_sublist hsub)
        · intro x hx
          rcases List.mem_append.mp hx with h' | h'
          · rw [← hvirt] at h'; exact (List.mem_filter.mp h').1
          · exact (List.mem_filter.mp (by rw [hq0]; exact List.mem_append_left _ h')).1
        · intro x hx hr0
          have : x ∈ lead ++ (scanInput A layer).queue := by rw [← hq0]; exact List.mem_filter.mpr ⟨hx, hr0⟩
          rcases List.mem_append.mp this with h' | h'
          · exact Or.inl (List.mem_append_right _ h')
          · exact Or.inr (hkept x h')
  · rw [drainInputs_cool A [] layer h0] at h
    cases h
    rw [drainExtend_fits [] A.queue (by simpa using hl)]
    simp only [List.nil_append, List.append_nil]
    exact ⟨Nat.le_refl _, List.Sublist.refl _, fun x hx => hx, fun x hx _ => Or.inl hx⟩

end KVerif.C09
