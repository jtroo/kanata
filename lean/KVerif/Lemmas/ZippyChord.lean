/-
The equations of `zch_press_key`, `zch_release_key` and `zch_tick` the C20 proofs work with: what a
lookup in one map of the chord tree answers, read off the entries of that map; a press case by case
(no chords, a modifier, an ignored key, a character key through the punctuation stage and the
lookups); a release; a tick while enabled.
-/
import KVerif.Lemmas.ZippySsm
import KVerif.Lemmas.ZippySend
namespace KVerif.Zippy
open KVerif.TextBuf

/-! ### Lookups through the faithful SubsetMap, read off the entry list -/

theorem lookupLevel_eq (d : Dict) (p : Path) (k : Key) :
    lookupLevel d p k = lookupSpec (level d p) k := by
  unfold lookupLevel levelSsm
  have h := (rep_of (level d p)).get k
  unfold ssmOf at h
  rw [h, absGet_absOf]

theorem lastInsert_some_mem {V : Type} {ins : List (Key × V)} {k : Key} {v : V}
    (h : lastInsert ins k = some v) : (k, v) ∈ ins ∧ k ≠ [] := by
  unfold lastInsert at h
  cases hf : List.find? (fun kv => decide (kv.1 = k) && !kv.1.isEmpty) ins.reverse with
  | none => simp [hf] at h
  | some kv =>
    simp only [hf, Option.map_some, Option.some.injEq] at h
    have h1 := List.find?_some hf
    have h2 := List.mem_of_find?_eq_some hf
    simp only [Bool.and_eq_true, decide_eq_true_eq, Bool.not_eq_true', List.isEmpty_eq_false_iff] at h1
    obtain ⟨hk, hne⟩ := h1
    subst h
    constructor
    · rw [← hk]; simpa using h2
    · rw [← hk]; exact hne

theorem lastInsert_none_of_not_mem {V : Type} {ins : List (Key × V)} {k : Key}
    (h : ∀ kv ∈ ins, kv.1 ≠ k) : lastInsert ins k = none := by
  unfold lastInsert
  have : List.find? (fun kv => decide (kv.1 = k) && !kv.1.isEmpty) ins.reverse = none := by
    simp only [List.find?_eq_none, List.mem_reverse]
    intro x hx
    simp [h x hx]
  rw [this]; rfl

/-- The value stored under a key that occurs exactly once (with a non-empty key). -/
theorem lastInsert_unique {V : Type} {ins : List (Key × V)} {k : Key} {v : V}
    (hmem : (k, v) ∈ ins) (hne : k ≠ []) (huniq : ∀ v', (k, v') ∈ ins → v' = v) :
    lastInsert ins k = some v := by
  cases h : lastInsert ins k with
  | some v' =>
    have := (lastInsert_some_mem h).1
    rw [huniq v' this]
  | none =>
    exfalso
    unfold lastInsert at h
    simp only [Option.map_eq_none_iff, List.find?_eq_none, List.mem_reverse] at h
    have := h (k, v) hmem
    simp [hne] at this

theorem isSubsetOf_iff (a b : Key) : isSubsetOf a b = true ↔ ∀ x ∈ a, x ∈ b := by
  simp [isSubsetOf, List.all_eq_true]

theorem lookupLevel_hasValue {d : Dict} {p : Path} {S : Key} {a : List ZchOut}
    (h : lookupLevel d p S = .hasValue a) : (S, a) ∈ level d p ∧ S ≠ [] := by
  rw [lookupLevel_eq] at h
  unfold lookupSpec at h
  cases hl : lastInsert (level d p) S with
  | none => rw [hl] at h; simp only at h; split at h <;> cases h
  | some v => rw [hl] at h; cases h; exact lastInsert_some_mem hl

theorem lookupLevel_unique {d : Dict} {p : Path} {K : Key} {out : List ZchOut}
    (hmem : (K, out) ∈ level d p) (hne : K ≠ []) (huniq : ∀ out', (K, out') ∈ level d p → out' = out) :
    lookupLevel d p K = .hasValue out := by
  rw [lookupLevel_eq]
  unfold lookupSpec
  rw [lastInsert_unique hmem hne huniq]

theorem lookupLevel_inside {d : Dict} {p : Path} {S K : Key} {out : List ZchOut}
    (hmem : (K, out) ∈ level d p) (hne : K ≠ []) (hsub : ∀ x ∈ S, x ∈ K)
    (hnot : ∀ kv ∈ level d p, kv.1 ≠ S) : lookupLevel d p S = .isSubset := by
  have hany : (level d p).any (fun kv => !kv.1.isEmpty && isSubsetOf S kv.1) = true :=
    List.any_eq_true.mpr ⟨(K, out), hmem, by simp [hne, (isSubsetOf_iff S K).mpr hsub]⟩
  rw [lookupLevel_eq]
  unfold lookupSpec
  rw [lastInsert_none_of_not_mem hnot, hany]
  rfl

theorem lookupLevel_hasValue_mem {d : Dict} {p : Path} {k : Key} {a : List ZchOut}
    (h : lookupLevel d p k = .hasValue a) : ∃ n ∈ d, n.out = a := by
  have := (lookupLevel_hasValue h).1
  simp only [level, List.mem_map, List.mem_filter] at this
  obtain ⟨n, ⟨hn, _⟩, heq⟩ := this
  exact ⟨n, hn, (Prod.mk.inj heq).2⟩

/-- A top-level chord `K` with expansion `out`, stored once, and no other top-level chord whose
keys all lie in `K`. -/
structure BasicEntry (d : Dict) (K : Key) (out : List ZchOut) : Prop where
  mem : (K, out) ∈ level d []
  ne : K ≠ []
  sorted : StrictSorted K
  uniq : ∀ out', (K, out') ∈ level d [] → out' = out
  noShorter : ∀ kv ∈ level d [], isSubsetOf kv.1 K = true → kv.1 = K

theorem BasicEntry.lookup_full {d : Dict} {K : Key} {out : List ZchOut} (h : BasicEntry d K out) :
    lookupLevel d [] K = .hasValue out :=
  lookupLevel_unique h.mem h.ne h.uniq

theorem BasicEntry.lookup_part {d : Dict} {K : Key} {out : List ZchOut} (h : BasicEntry d K out)
    (S : Key) (hsub : ∀ x ∈ S, x ∈ K) (hneq : S ≠ K) :
    lookupLevel d [] S = .isSubset :=
  lookupLevel_inside h.mem h.ne hsub fun kv hkv heq =>
    hneq (heq ▸ h.noShorter kv hkv (heq ▸ (isSubsetOf_iff S K).mpr hsub))

theorem BasicEntry.root_nonempty {d : Dict} {K : Key} {out : List ZchOut} (h : BasicEntry d K out) :
    ssmIsEmpty (levelSsm d []) = false := by
  have hfull := h.lookup_full
  unfold lookupLevel at hfull
  unfold ssmIsEmpty
  cases hm : levelSsm d [] with
  | nil =>
    rw [hm] at hfull
    obtain _ | ⟨k0, r⟩ := K
    · exact absurd rfl h.ne
    · simp [ssmGet, mapGet] at hfull
  | cons a r => rfl

theorem not_ignored_ne {k : Nat} (h : isZippyIgnored k = false) :
    k ≠ KEY_LEFTSHIFT ∧ k ≠ KEY_RIGHTSHIFT ∧ k ≠ KEY_RIGHTALT ∧ k ≠ KEY_BACKSPACE ∧ CharKey k := by
  have hne : ∀ x ∈ zippyIgnored, k ≠ x := by
    rintro x hx rfl
    rw [isZippyIgnored, List.contains_eq_mem, decide_eq_false_iff_not] at h
    exact h hx
  have hom : otherMods.contains k = false := by
    rw [List.contains_eq_mem, decide_eq_false_iff_not]
    exact fun hk => hne k ((by decide : ∀ x ∈ otherMods, x ∈ zippyIgnored) k hk) rfl
  exact ⟨hne _ (by decide), hne _ (by decide), hne _ (by decide), hne _ (by decide),
    hne _ (by decide), hne _ (by decide), hne _ (by decide), hom⟩

/-- The part of `zch_press_key` before the lookup, for a key that is not ignored while enabled. -/
def preLookup (cfg : Cfg) (s : Zchd) (k : Nat) : Zchd :=
  { s with smartSpaceState := .inactive,
           ticksUntilDisable := if s.ticksUntilDisable = 0 then cfg.ticksChordDeadline else s.ticksUntilDisable,
           ticksSinceStateChange := 0,
           ticksUntilEnabled := cfg.ticksWaitEnable,
           inputKeys := sortedInsert k s.inputKeys }

theorem enterKey_eq (cfg : Cfg) (s : Zchd) (k : Nat) :
    enterKey cfg { s with smartSpaceState := .inactive } k = preLookup cfg s k := by
  unfold enterKey preLookup Zchd.activateChordDeadline Zchd.stateChange
  by_cases h : s.ticksUntilDisable = 0 <;> simp [h]

/-- whether the punctuation erasure of the smart space applies to this press -/
def punctFires (cfg : Cfg) (s : Zchd) (k : Nat) : Bool :=
  s.smartSpaceState = .sent && cfg.punctuation.contains (puncOf s k)

theorem punctFires_false_iff (cfg : Cfg) (s : Zchd) (k : Nat) :
    punctFires cfg s k = false ↔
      (s.smartSpaceState = .inactive ∨ cfg.punctuation.contains (puncOf s k) = false) := by
  unfold punctFires
  cases s.smartSpaceState <;> simp

theorem punctStage_none (cfg : Cfg) (s : Zchd) (k : Nat)
    (hss : s.smartSpaceState = .inactive ∨ cfg.punctuation.contains (puncOf s k) = false) :
    punctStage cfg s k = (s, []) :=
  if_neg (Bool.not_eq_true _ ▸ (punctFires_false_iff cfg s k).mpr hss)

/-- the state the punctuation erasure leaves -/
def punctState (s : Zchd) : Zchd :=
  { s with charsToDelete := if s.inputKeys.isEmpty then s.charsToDelete else s.charsToDelete - 1,
           priorActivationOutputCount :=
             if s.prioritized.isSome then s.priorActivationOutputCount - 1 else s.priorActivationOutputCount }

theorem punctStage_fires (cfg : Cfg) (s : Zchd) (k : Nat) (h : punctFires cfg s k = true) :
    punctStage cfg s k = (punctState s, bspc) := by
  unfold punctFires at h
  rw [punctStage, if_pos h, punctState]
  cases s.inputKeys.isEmpty <;> cases hp : s.prioritized.isSome <;> simp [hp]

theorem findChordK_none (cfg : Cfg) (keys : Key) :
    findChordK cfg none keys =
      match lookupLevel cfg.dict [] keys with
      | .hasValue a => .top a
      | .isSubset => .subset
      | .neither => .neither := by
  unfold findChordK
  cases lookupLevel cfg.dict [] keys <;> rfl

theorem findChord_top (cfg : Cfg) (s : Zchd) (hpr : s.prioritized = none) :
    findChord cfg s =
      match lookupLevel cfg.dict [] s.inputKeys with
      | .hasValue a => .top a
      | .isSubset => .subset
      | .neither => .neither := by
  rw [findChord, hpr, findChordK_none]

/-- the activation a lookup result stands for: (map it was found in, output, prioritised?) -/
def Found.act : Found → Option (Path × List ZchOut × Bool)
  | .prio p a => some (p, a, true)
  | .top a => some ([], a, false)
  | _ => none

theorem findChordK_act {cfg : Cfg} {pr : Option Path} {keys : Key} {ctx : Path} {a : List ZchOut} {isPrio : Bool}
    (h : (findChordK cfg pr keys).act = some (ctx, a, isPrio)) :
    lookupLevel cfg.dict ctx keys = .hasValue a := by
  unfold findChordK at h
  revert h
  cases pr with
  | none => cases h0 : lookupLevel cfg.dict [] keys <;> intro h <;> cases h <;> assumption
  | some p =>
    dsimp only
    cases hp : lookupLevel cfg.dict p keys <;> cases h0 : lookupLevel cfg.dict [] keys <;>
      intro h <;> cases h <;> assumption

/-- The lookups of `zch_press_key` and what follows them, from the state with the key entered. -/
def pressLookup (cfg : Cfg) (s : Zchd) (k : Nat) : Zchd × List OsEv :=
  match findChord cfg s with
  | .prio p a => activate cfg s k a p true
  | .top a => activate cfg s k a [] false
  | .subset => ({ s with lastPress := .notChord, charsToDelete := s.charsToDelete + 1 }, [.down k])
  | .neither => (s.softReset, [.down k])

theorem pressLookup_subset {cfg : Cfg} {s : Zchd} (k : Nat) (h : findChord cfg s = .subset) :
    pressLookup cfg s k =
      ({ s with lastPress := .notChord, charsToDelete := s.charsToDelete + 1 }, [.down k]) := by
  rw [pressLookup, h]

theorem pressLookup_act {cfg : Cfg} {s : Zchd} (k : Nat) {ctx : Path} {a : List ZchOut} {isPrio : Bool}
    (h : (findChord cfg s).act = some (ctx, a, isPrio)) :
    pressLookup cfg s k = activate cfg s k a ctx isPrio := by
  unfold pressLookup
  revert h
  cases findChord cfg s <;> intro h <;> cases h <;> rfl

theorem zchPressKey_of_empty {cfg : Cfg} (s : Zchd) (k : Nat) (h : ssmIsEmpty (levelSsm cfg.dict []) = true) :
    zchPressKey cfg s k = (s, [.down k]) := by
  rw [zchPressKey, if_pos h]

theorem zchPressKey_lsft {cfg : Cfg} (s : Zchd) (hne : ssmIsEmpty (levelSsm cfg.dict []) = false) :
    zchPressKey cfg s KEY_LEFTSHIFT = ({ s with lsft := true }, [.down KEY_LEFTSHIFT]) := by
  rw [zchPressKey, if_neg (by simp [hne]), if_pos rfl]

theorem zchPressKey_rsft {cfg : Cfg} (s : Zchd) (hne : ssmIsEmpty (levelSsm cfg.dict []) = false) :
    zchPressKey cfg s KEY_RIGHTSHIFT = ({ s with rsft := true }, [.down KEY_RIGHTSHIFT]) := by
  rw [zchPressKey, if_neg (by simp [hne]), if_neg (by decide), if_pos rfl]

theorem zchPressKey_ralt {cfg : Cfg} (s : Zchd) (hne : ssmIsEmpty (levelSsm cfg.dict []) = false) :
    zchPressKey cfg s KEY_RIGHTALT = ({ s with altgr := true }, [.down KEY_RIGHTALT]) := by
  rw [zchPressKey, if_neg (by simp [hne]), if_neg (by decide), if_neg (by decide), if_pos rfl]

theorem zchPressKey_ignored {cfg : Cfg} (s : Zchd) {k : Nat} (h1 : k ≠ KEY_LEFTSHIFT) (h2 : k ≠ KEY_RIGHTSHIFT)
    (h3 : k ≠ KEY_RIGHTALT) (h : isZippyIgnored k = true) : zchPressKey cfg s k = (s, [.down k]) := by
  rw [zchPressKey, if_neg h1, if_neg h2, if_neg h3, if_pos h, ite_self]

theorem press_char (cfg : Cfg) (s : Zchd) (k : Nat)
    (hne : ssmIsEmpty (levelSsm cfg.dict []) = false) (hk : isZippyIgnored k = false) :
    zchPressKey cfg s k =
      if (punctStage cfg s k).1.enabledState ≠ .enabled then
        ({ (punctStage cfg s k).1 with smartSpaceState := .inactive }, (punctStage cfg s k).2 ++ [.down k])
      else
        ((pressLookup cfg (enterKey cfg { (punctStage cfg s k).1 with smartSpaceState := .inactive } k) k).1,
         (punctStage cfg s k).2 ++
           (pressLookup cfg (enterKey cfg { (punctStage cfg s k).1 with smartSpaceState := .inactive } k) k).2) := by
  obtain ⟨h1, h2, h3, _, _⟩ := not_ignored_ne hk
  rw [zchPressKey, if_neg (by simp [hne]), if_neg h1, if_neg h2, if_neg h3, if_neg (by simp [hk])]
  refine ite_congr rfl (fun _ => rfl) (fun _ => ?_)
  unfold pressLookup
  dsimp only
  cases findChord cfg _ <;> rfl

/-- The press of a key that is not ignored, while enabled, without the punctuation erasure. -/
theorem press_enabled (cfg : Cfg) (s : Zchd) (k : Nat)
    (hne : ssmIsEmpty (levelSsm cfg.dict []) = false)
    (hk : isZippyIgnored k = false)
    (hen : s.enabledState = .enabled)
    (hss : s.smartSpaceState = .inactive ∨ cfg.punctuation.contains (puncOf s k) = false) :
    zchPressKey cfg s k = pressLookup cfg (preLookup cfg s k) k := by
  rw [press_char cfg s k hne hk, punctStage_none cfg s k hss, if_neg (by simp [hen]), enterKey_eq]
  rfl

/-- With the punctuation erasure: the same press from the state the erasure leaves, after the
backspace. -/
theorem press_punct (cfg : Cfg) (s : Zchd) (k : Nat)
    (hne : ssmIsEmpty (levelSsm cfg.dict []) = false) (hk : isZippyIgnored k = false)
    (h : punctFires cfg s k = true) :
    zchPressKey cfg s k =
      ((zchPressKey cfg { punctState s with smartSpaceState := .inactive } k).1,
       bspc ++ (zchPressKey cfg { punctState s with smartSpaceState := .inactive } k).2) := by
  rw [press_char cfg s k hne hk, press_char cfg _ k hne hk, punctStage_fires cfg s k h,
    punctStage_none _ _ _ (Or.inl rfl)]
  split <;> rfl

theorem press_subset (cfg : Cfg) (s : Zchd) (k : Nat)
    (hne : ssmIsEmpty (levelSsm cfg.dict []) = false)
    (hk : isZippyIgnored k = false)
    (hen : s.enabledState = .enabled)
    (hss : s.smartSpaceState = .inactive ∨ cfg.punctuation.contains (puncOf s k) = false)
    (hfc : findChordK cfg s.prioritized (sortedInsert k s.inputKeys) = .subset) :
    zchPressKey cfg s k =
      ({ preLookup cfg s k with lastPress := .notChord, charsToDelete := s.charsToDelete + 1 },
       [.down k]) := by
  rw [press_enabled cfg s k hne hk hen hss, pressLookup_subset (s := preLookup cfg s k) k hfc]
  rfl

theorem press_found (cfg : Cfg) (s : Zchd) (k : Nat) (out : List ZchOut) (ctx : Path) (isPrio : Bool)
    (hne : ssmIsEmpty (levelSsm cfg.dict []) = false)
    (hk : isZippyIgnored k = false)
    (hen : s.enabledState = .enabled)
    (hss : s.smartSpaceState = .inactive ∨ cfg.punctuation.contains (puncOf s k) = false)
    (hfc : (findChordK cfg s.prioritized (sortedInsert k s.inputKeys)).act = some (ctx, out, isPrio)) :
    zchPressKey cfg s k = activate cfg (preLookup cfg s k) k out ctx isPrio := by
  rw [press_enabled cfg s k hne hk hen hss, pressLookup_act (s := preLookup cfg s k) k hfc]

theorem zchReleaseKey_lsft {cfg : Cfg} (s : Zchd) (hne : ssmIsEmpty (levelSsm cfg.dict []) = false) :
    zchReleaseKey cfg s KEY_LEFTSHIFT = ({ s with lsft := false }, [.up KEY_LEFTSHIFT]) := by
  rw [zchReleaseKey, if_neg (by simp [hne])]; rfl

theorem zchReleaseKey_rsft {cfg : Cfg} (s : Zchd) (hne : ssmIsEmpty (levelSsm cfg.dict []) = false) :
    zchReleaseKey cfg s KEY_RIGHTSHIFT = ({ s with rsft := false }, [.up KEY_RIGHTSHIFT]) := by
  rw [zchReleaseKey, if_neg (by simp [hne])]; rfl

theorem zchReleaseKey_ralt {cfg : Cfg} (s : Zchd) (hne : ssmIsEmpty (levelSsm cfg.dict []) = false) :
    zchReleaseKey cfg s KEY_RIGHTALT = ({ s with altgr := false }, [.up KEY_RIGHTALT]) := by
  rw [zchReleaseKey, if_neg (by simp [hne])]; rfl

theorem zchReleaseKey_other {cfg : Cfg} (s : Zchd) {k : Nat} (h1 : k ≠ KEY_LEFTSHIFT) (h2 : k ≠ KEY_RIGHTSHIFT)
    (h3 : k ≠ KEY_RIGHTALT) (hne : ssmIsEmpty (levelSsm cfg.dict []) = false) :
    zchReleaseKey cfg s k =
      (if isZippyIgnored k then s else (s.stateChange cfg).releaseKey k, [.up k]) := by
  rw [zchReleaseKey, if_neg (by simp [hne])]
  simp only [if_neg h1, if_neg h2, if_neg h3]
  split <;> rfl

theorem release_not_ignored (cfg : Cfg) (s : Zchd) (k : Nat)
    (hne : ssmIsEmpty (levelSsm cfg.dict []) = false) (hk : isZippyIgnored k = false) :
    zchReleaseKey cfg s k = ((s.stateChange cfg).releaseKey k, [.up k]) := by
  obtain ⟨h1, h2, h3, _, _⟩ := not_ignored_ne hk
  rw [zchReleaseKey_other s h1 h2 h3 hne, hk]
  rfl

/-- an idle deadline counter stays at 0 -/
theorem tick_enabled (s : Zchd) (cw : Bool) (hen : s.enabledState = .enabled)
    (hc : s.ticksSinceStateChange < TICKS_UNTIL_FORCE_STATE_RESET) (hd : s.ticksUntilDisable ≠ 1) :
    s.tick cw = { s with ticksSinceStateChange := s.ticksSinceStateChange + 1, capsWord := cw,
                         ticksUntilDisable := s.ticksUntilDisable - 1 } := by
  have hnr : ¬ (s.ticksSinceStateChange + 1 > TICKS_UNTIL_FORCE_STATE_RESET) := by omega
  unfold Zchd.tick Zchd.tickCore
  by_cases h0 : s.ticksUntilDisable = 0
  · simp [hen, h0, hnr]
  · have hne : ¬ (s.ticksUntilDisable - 1 = 0) := by omega
    simp [hen, Nat.pos_of_ne_zero h0, hne, hnr]

end KVerif.Zippy
