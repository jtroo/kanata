/-
Helper lemmas for Props/C12kan.lean, on the composed kanata-level model (Model/Kanata.lean +
Model/KanataSeq.lean):

* what `emitSeq` (the OS events of a sequence function, sent through `press_key` / `release_key`)
  changes and what it commutes with;
* one `tick_states` when everything but the sequence state is at rest (`SeqQuiet`);
* one key of the press loop in the hidden input modes;
* the sequence hooks one call at a time (`kanSeqStep`, `kanSeqRun`) follow the stand-alone engine
  run on the view of the layout, as long as it taps no virtual key and stays in sequence mode.
-/
import KVerif.Lemmas.KanataDynQuiet
import KVerif.Lemmas.KanataQuiet
import KVerif.Props.C07
import KVerif.Props.C12
import KVerif.Lemmas.SeqFrame
namespace KVerif.K
open KVerif.L KVerif.C07

theorem pressKey_outFrame (k : KState) (x : KeyCode) : ∃ o, pressKey k x = { k with out := o } := by
  unfold pressKey
  split
  · exact ⟨k.out, rfl⟩
  · split
    · exact ⟨_, rfl⟩
    · split <;> exact ⟨_, rfl⟩

theorem releaseKey_outFrame (k : KState) (x : KeyCode) : ∃ o, releaseKey k x = { k with out := o } := by
  unfold releaseKey
  split
  · exact ⟨k.out, rfl⟩
  · split
    · exact ⟨_, rfl⟩
    · split
      · exact ⟨k.out, rfl⟩
      · exact ⟨_, rfl⟩

theorem emitSeq_outFrame (k : KState) (outs : List Seq.Out) : ∃ o, emitSeq k outs = { k with out := o } := by
  induction outs generalizing k with
  | nil => exact ⟨k.out, rfl⟩
  | cons e r ih =>
    cases e with
    | down c =>
      obtain ⟨o1, h1⟩ := pressKey_outFrame k c
      rw [emitSeq, h1]
      exact ih _
    | up c =>
      obtain ⟨o1, h1⟩ := releaseKey_outFrame k c
      rw [emitSeq, h1]
      exact ih _

theorem emitSeq_nil (k : KState) : emitSeq k [] = k := rfl

theorem emitSeq_append (k : KState) (a b : List Seq.Out) : emitSeq k (a ++ b) = emitSeq (emitSeq k a) b := by
  induction a generalizing k with
  | nil => rfl
  | cons e r ih =>
    cases e with
    | down c => simp only [List.cons_append, emitSeq, ih]
    | up c => simp only [List.cons_append, emitSeq, ih]

/-! `press_key` and `release_key` read the four output tables and append to `out`: they commute with
every change `f` of the state that keeps the tables and commutes with appending to `out`. -/
section
variable (f : KState → KState) (h1 : ∀ k, (f k).ignoreMin = k.ignoreMin) (h2 : ∀ k, (f k).ignoreMax = k.ignoreMax)
  (h3 : ∀ k, (f k).btnCodes = k.btnCodes) (h4 : ∀ k, (f k).wheelCodes = k.wheelCodes)
  (he : ∀ k e, (f k).emit e = f (k.emit e))
include h1 h2 h3 h4 he

theorem pressKey_comm (k : KState) (x : KeyCode) : pressKey (f k) x = f (pressKey k x) := by
  unfold pressKey
  rw [h1, h2, h3, h4]
  split
  · rfl
  · split
    · exact he _ _
    · split <;> exact he _ _

theorem releaseKey_comm (k : KState) (x : KeyCode) : releaseKey (f k) x = f (releaseKey k x) := by
  unfold releaseKey
  rw [h1, h2, h3, h4]
  split
  · rfl
  · split
    · exact he _ _
    · split
      · rfl
      · exact he _ _

theorem emitSeq_comm (k : KState) (outs : List Seq.Out) : emitSeq (f k) outs = f (emitSeq k outs) := by
  induction outs generalizing k with
  | nil => rfl
  | cons e r ih =>
    cases e with
    | down c => rw [emitSeq, emitSeq, pressKey_comm f h1 h2 h3 h4 he, ih]
    | up c => rw [emitSeq, emitSeq, releaseKey_comm f h1 h2 h3 h4 he, ih]
end

theorem emitSeq_setSeq (k : KState) (outs : List Seq.Out) (s : SeqK) :
    emitSeq { k with seq := s } outs = { emitSeq k outs with seq := s } :=
  emitSeq_comm (fun k => { k with seq := s }) (fun _ => rfl) (fun _ => rfl) (fun _ => rfl) (fun _ => rfl)
    (fun _ _ => rfl) k outs

theorem tickStates_stages {k k1 k2 k3 k4 k5 k6 : KState} (h1 : handleKeystateChanges k = .ok k1)
    (h2 : handleScrolling k1 = .ok k2) (h3 : handleMoveMouse k2 = .ok k3)
    (h4 : tickSequenceState k3 = .ok k4) (h5 : tickIdleTimeout k4 = .ok k5)
    (h6 : dynTickRecord { k5 with macroOnPressCancelDuration := k5.macroOnPressCancelDuration - 1 } = k6) :
    tickStates k = tickHeldVkeys { k6 with prevKeys := k6.curKeys, curKeys := [] } := by
  simp only [tickStates, h1, h2, h3, h4, h5, h6]

/-- the override pass does not depend on the scratch state it is given: run again from the one it
left behind it gives the same answer -/
theorem overrideKeys_again {t : Override.Overrides} {kcs cur' : List Nat} {st ost : Override.OverrideStates}
    (h : t.overrideKeys kcs st = .ok (cur', ost)) : t.overrideKeys kcs ost = .ok (cur', ost) := by
  unfold Override.Overrides.overrideKeys at h ⊢
  split
  · rename_i he
    rw [if_pos he] at h
    injection h with h; injection h with h1 h2
    rw [h1]
  · rename_i he
    rw [if_neg he] at h
    exact h

/-- `tick_sequence_state` with more than one tick left: the timer goes down by one, nothing else -/
theorem seqTick_running (s : SeqK) (n : Nat) (ha : s.st.active = true) (hb : s.st.ticksUntilTimeout = n + 2) :
    seqTick s = .ok ({ s with st := { s.st with ticksUntilTimeout := n + 1 } }, []) := by
  unfold seqTick Seq.tickSeq
  simp [ha, hb]

/-- `tick_sequence_state` with one tick left: the sequence is cancelled -/
theorem seqTick_last (s : SeqK) (ha : s.st.active = true) (hb : s.st.ticksUntilTimeout = 1) :
    ∃ st' outs, seqTick s = .ok ({ s with st := st' }, outs) ∧ st'.active = false := by
  unfold seqTick Seq.tickSeq
  simp only [ha, hb]
  exact ⟨_, _, rfl, (Seq.cancelSequence_fields _).1⟩

/-- everything but the sequence state is at rest: the hypotheses of C07's `MayBlock` without
`is_idle`'s verdict (which sequence mode makes false) -/
structure SeqQuiet (k : KState) (cur' : List KeyCode) (ost : Override.OverrideStates) : Prop where
  quiet : QuietLayout k.layout
  caps : k.capsWord = none
  curEmpty : k.curKeys = []
  wanted : k.overrides.overrideKeys (adjustKeys k k.layout.keycodes) k.overrideStates = .ok (cur', ost)
  noErase : ost.toRemove = []
  synced : Synced k cur'
  scroll : k.scroll = none
  hscroll : k.hscroll = none
  moveV : k.moveV = none
  moveH : k.moveH = none
  wfi : k.waitingForIdle = []
  vk : k.vkeysPendingRelease = []
  noRec : k.dyn.rcd = none      -- [dyn] no dynamic macro is being recorded (its delay counter would tick)

/-- one `tick_states` with everything but the sequence state at rest: the layout ages, the sequence
timer ticks (`seqTick`), the OS gets what `tick_sequence_state` sends and nothing else -/
theorem seqQuiet_tick (k : KState) (cur' : List KeyCode) (ost : Override.OverrideStates)
    (h : SeqQuiet k cur' ost) (sk : SeqK) (outs : List Seq.Out) (hs : seqTick k.seq = .ok (sk, outs)) :
    ∃ o, tickStates k = .ok { afterQuietTick k cur' ost with seq := sk, out := o } ∧
      (outs = [] → o = k.out) ∧
      SeqQuiet { afterQuietTick k cur' ost with seq := sk, out := o } cur' ost := by
  obtain ⟨l', ht, hst, hq', hk⟩ :=
    handleKeystateChanges_quiet k h.quiet h.caps h.curEmpty cur' ost h.wanted h.noErase h.synced
  obtain rfl : tickPre k.layout = l' := by
    have := tick_quiet_eq k.layout h.quiet
    rw [ht] at this; injection this with this; injection this with this; exact this.symm
  let k1 : KState := { k with layout := tickPre k.layout, overrideStates := ost, curKeys := cur' }
  obtain ⟨o, ho⟩ := emitSeq_outFrame ({ k1 with seq := sk } : KState) outs
  have e4 : tickSequenceState k1 = .ok { k1 with seq := sk, out := o } := by
    show (match seqTick k.seq with
      | .error c => Except.error (Crash.seq c)
      | .ok (sk, outs) => Except.ok (emitSeq { k1 with seq := sk } outs)) = _
    rw [hs, ← ho]
  refine ⟨o, ?_, ?_, ?_⟩
  · exact (tickStates_stages hk (handleScrolling_none k1 h.scroll h.hscroll)
      (handleMoveMouse_none k1 h.moveV h.moveH) e4 (tickIdleTimeout_nil _ h.wfi)
      (dynTickRecord_none _ h.noRec)).trans (tickHeldVkeys_nil _ h.vk)
  · rintro rfl
    exact (congrArg KState.out ho).symm
  · -- the wanted list is the same next time: same states, same unmod lists
    have hw : k.overrides.overrideKeys (adjustKeys k (tickPre k.layout).keycodes) ost = .ok (cur', ost) := by
      unfold Layout.keycodes; rw [hst]; exact overrideKeys_again h.wanted
    exact ⟨hq', h.caps, rfl, hw, h.noErase, ⟨fun _ hx => hx, fun _ hx => hx⟩, h.scroll, h.hscroll,
      h.moveV, h.moveH, h.wfi, h.vk, h.noRec⟩

theorem seqKeyPress_fields {s s' : SeqK} {l l' : Layout} {x : KeyCode} {mm : Nat} {outs : List Seq.Out}
    (h : seqKeyPress s l x mm = .ok (s', l', outs)) :
    s' = { s with st := (Seq.doSeqPress s.trie s.modcancel (engOf s l) x mm).st } ∧
    outs = (Seq.doSeqPress s.trie s.modcancel (engOf s l) x mm).out := by
  unfold seqKeyPress applyEng at h
  split at h
  · cases h
  · injection h with h
    injection h with h1 h2
    injection h2 with h2 h3
    exact ⟨h1.symm, h3.symm⟩

/-- a key typed in a hidden mode: the table, always-on and the mode stay, and if sequence mode is
still on afterwards nothing was sent (`hidden_presses_nothing`: only a failed sequence in
hidden-delay-type mode sends anything, and it ends sequence mode) -/
theorem seqKeyPress_hidden {s s' : SeqK} {l l' : Layout} {x : KeyCode} {mm : Nat} {outs : List Seq.Out}
    (h : seqKeyPress s l x mm = .ok (s', l', outs)) (hm : s.st.mode ≠ .visibleBackspaced)
    (hne : ∀ j, s.trie.getOrDescendant [] ≠ .hasValue j) :
    s'.trie = s.trie ∧ s'.alwaysOn = s.alwaysOn ∧ s'.st.mode = s.st.mode ∧ (s'.st.active = true → outs = []) := by
  obtain ⟨rfl, rfl⟩ := seqKeyPress_fields h
  refine ⟨rfl, rfl, Seq.doSeqPress_mode _ _ _ _ _, fun hact => ?_⟩
  rcases (Seq.hidden_presses_nothing s.trie hne s.modcancel (engOf s l) hm).1 x mm with h1 | h1
  · exact h1
  · exact absurd (hact.symm.trans h1.2.1) (by simp)

theorem pressLoop_off_stays (cur xs : List KeyCode) (k k' : KState) (hoff : k.seq.off = true)
    (h : pressLoop cur xs k = .ok k') : k'.seq.st.active = false := by
  rw [pressLoop_off _ _ _ hoff] at h
  injection h with h
  rw [← h, pressNew_seq]
  exact off_inactive _ hoff

/-- the sequence hooks as `tick_states` drives them, one call at a time (the composed counterpart of
`Seq.engStep`): a newly pressed key reaches the press loop with no modifier held, one
`tick_sequence_state`, the all-released hook -/
def kanSeqStep (k : KState) : Seq.Inp → Except Crash KState
  | .key x =>
    if k.seq.st.active then
      match seqKeyPress k.seq k.layout x 0 with
      | .error e => .error (.layout e)
      | .ok (sk, l, outs) => .ok (emitSeq { k with seq := sk, layout := l } outs)
    else .ok (pressKey k x)
  | .tick => tickSequenceState k
  | .released =>
    match seqAllReleased k.seq k.layout with
    | .error e => .error (.layout e)
    | .ok (sk, l, outs) => .ok (emitSeq { k with seq := sk, layout := l } outs)

def kanSeqRun : KState → List Seq.Inp → Except Crash KState
  | k, [] => .ok k
  | k, i :: is =>
    match kanSeqStep k i with
    | .error c => .error c
    | .ok k' => kanSeqRun k' is

theorem kanSeqRun_append : ∀ (a b : List Seq.Inp) (k : KState),
    kanSeqRun k (a ++ b) = (match kanSeqRun k a with | .error c => .error c | .ok k1 => kanSeqRun k1 b)
  | [], b, k => rfl
  | i :: a, b, k => by
    simp only [List.cons_append, kanSeqRun]
    cases kanSeqStep k i with
    | error c => rfl
    | ok k1 => exact kanSeqRun_append a b k1

theorem retainStates_self (states : List St) : retainStates (states.map viewSt) states = states := by
  unfold retainStates
  apply List.filter_eq_self.mpr
  intro s hs
  simp only [List.contains_eq_mem, List.mem_map, decide_eq_true_eq]
  exact ⟨s, hs, rfl⟩

/-- carrying back a result that tapped nothing and kept the states: only the sequence state and the
OS output change -/
theorem applyEng_notap (s : SeqK) (l : Layout) (r : Seq.Eng) (ht : r.taps = []) (hs : r.states = l.states.map viewSt) :
    applyEng s l r = .ok ({ s with st := r.st }, l, r.out) := by
  unfold applyEng
  rw [ht, hs, retainStates_self]
  rfl

/-- `seqTick` runs `tick_sequence_state` without the layout; `Seq.tickSeq_frame` says it does not look -/
theorem seqTick_of_engine (s : SeqK) (l : Layout) (r : Seq.Eng) (h : Seq.tickSeq (engOf s l) = .ok r) :
    seqTick s = .ok ({ s with st := r.st }, r.out) := by
  have := Seq.tickSeq_frame (engOf s l) [] [] []
  rw [h] at this
  have this : Seq.tickSeq { st := s.st, states := [] } = .ok { st := r.st, states := [], out := r.out } := this
  unfold seqTick
  rw [this]

/-- one engine step on the view of `k` that taps nothing, while sequence mode is on: the composed
step changes the sequence state and the OS output as the engine says, and nothing else -/
theorem kanSeqStep_of_engStep (k : KState) (i : Seq.Inp) (r : Seq.Eng) (ha : k.seq.st.active = true)
    (h : Seq.engStep k.seq.trie k.seq.modcancel (engOf k.seq k.layout) i = .ok r) (ht : r.taps = []) :
    kanSeqStep k i = .ok (emitSeq { k with seq := { k.seq with st := r.st } } r.out) := by
  have hs : r.states = k.layout.states.map viewSt :=
    Seq.engStep_notap _ _ _ r i h (by rw [ht]; rfl)
  cases i with
  | key x =>
    simp only [Seq.engStep, engOf, ha, if_true] at h
    injection h with h
    simp only [kanSeqStep, ha, if_true, seqKeyPress, engOf, h, applyEng_notap _ _ r ht hs]
  | tick =>
    simp only [Seq.engStep] at h
    simp only [kanSeqStep, tickSequenceState, seqTick_of_engine _ _ r h]
  | released =>
    simp only [Seq.engStep] at h
    injection h with h
    simp only [kanSeqStep, seqAllReleased, ha, Bool.not_true, Bool.false_eq_true, if_false, h,
      applyEng_notap _ _ r ht hs]

/-- one step in the middle of a run: the engine, started on the view of `k`, has reached `e`, and the
composed model has followed it to `emitSeq { k with seq.st := e.st } e.out`.  The engine's next
step is its step from the view of that state with `e.out` in front (`engStep_pre`); the composed
model sends the new part. -/
theorem kanSeqStep_follows (k : KState) (i : Seq.Inp) (e r : Seq.Eng) (hs : e.states = k.layout.states.map viewSt)
    (ht : e.taps = []) (ha : e.st.active = true)
    (h : Seq.engStep k.seq.trie k.seq.modcancel e i = .ok r) (hr : r.taps = []) :
    kanSeqStep (emitSeq { k with seq := { k.seq with st := e.st } } e.out) i =
      .ok (emitSeq { k with seq := { k.seq with st := r.st } } r.out) ∧ r.states = e.states := by
  obtain ⟨st, states, out, taps⟩ := e
  simp only at hs ht ha
  subst hs ht
  obtain ⟨o, ho⟩ := emitSeq_outFrame { k with seq := { k.seq with st := st } } out
  let k1 : KState := { k with seq := { k.seq with st := st }, out := o }
  have hE : (⟨st, k.layout.states.map viewSt, out, []⟩ : Seq.Eng) = (engOf k1.seq k1.layout).pre out [] := by
    simp [Seq.Eng.pre, engOf, k1]
  rw [hE, Seq.engStep_pre] at h
  cases h0 : Seq.engStep k.seq.trie k.seq.modcancel (engOf k1.seq k1.layout) i with
  | error c => rw [h0] at h; cases h
  | ok r0 =>
    rw [h0] at h
    injection h with h
    subst h
    refine ⟨?_, Seq.engStep_notap _ _ (engOf k1.seq k1.layout) r0 i h0 hr⟩
    rw [ho, kanSeqStep_of_engStep k1 i r0 ha h0 hr]
    show _ = Except.ok (emitSeq _ (out ++ r0.out))
    rw [emitSeq_append, emitSeq_setSeq { k with seq := { k.seq with st := st } }, ho]
    rfl

/-- the whole run, from any point of it (`kan_refines_engine` of Props/C12kan.lean is the run from
the start, `e = engOf k.seq k.layout`).  Sequence mode is on and nothing has been tapped at the end,
hence all along (`engRun_active_back`, `engRun_notap_back`). -/
theorem kanSeqRun_of_engRun (k : KState) (is : List Seq.Inp) (e e' : Seq.Eng)
    (hs : e.states = k.layout.states.map viewSt) (ht : e.taps = [])
    (h : Seq.engRun k.seq.trie k.seq.modcancel e is = .ok e') (ht' : e'.taps = []) (ha' : e'.st.active = true) :
    kanSeqRun (emitSeq { k with seq := { k.seq with st := e.st } } e.out) is =
      .ok (emitSeq { k with seq := { k.seq with st := e'.st } } e'.out) := by
  induction is generalizing e with
  | nil => injection h with h; subst h; rfl
  | cons i is ih =>
    rw [Seq.engRun] at h
    cases h1 : Seq.engStep k.seq.trie k.seq.modcancel e i with
    | error c => rw [h1] at h; cases h
    | ok r =>
      rw [h1] at h
      have hrt := Seq.engRun_notap_back _ _ is r e' h ht'
      have hea := Seq.engStep_active_back _ _ e r i h1 (Seq.engRun_active_back _ _ is r e' h ha')
      obtain ⟨hstep, hrs⟩ := kanSeqStep_follows k i e r hs ht hea h1 hrt
      rw [kanSeqRun, hstep]
      exact ih r (hrs.trans hs) hrt h

/-- what `kanSeqStep (.key x)` stands for: the press loop of `handle_keystate_changes` with `x` as the
only new key and no modifier in the wanted list (`prev_keys` and `last_pressed_key` are updated before
the sequence code runs) -/
theorem pressLoop_single (k : KState) (cur : List KeyCode) (x : KeyCode) (hx : k.prevKeys.contains x = false)
    (hm : Seq.modMaskOf cur = 0) (hao : k.seq.alwaysOn = false ∨ k.seq.st.active = true) :
    pressLoop cur [x] k = kanSeqStep { k with prevKeys := k.prevKeys ++ [x], lastPressedKey := x } (.key x) := by
  have haos : k.seq.alwaysOnStep = k.seq := by
    unfold SeqK.alwaysOnStep
    rcases hao with h | h <;> simp [h]
  unfold pressLoop
  simp only [hx, Bool.false_eq_true, if_false, haos, hm, kanSeqStep]
  cases ha : k.seq.st.active with
  | false => simp only [Bool.false_eq_true, if_false, pressLoop]
  | true =>
    simp only [if_true]
    cases seqKeyPress k.seq k.layout x 0 with
    | error e => rfl
    | ok r => obtain ⟨sk, l, outs⟩ := r; simp only [pressLoop]

/-- what `kanSeqStep .released` stands for: the block run when the last held key has been released -/
theorem seqReleasedHook_step (k : KState) (hp : k.prevKeys ≠ []) :
    seqReleasedHook k [] = kanSeqStep k .released := by
  unfold seqReleasedHook
  have : k.prevKeys.isEmpty = false := by
    cases h : k.prevKeys with
    | nil => exact absurd h hp
    | cons a b => rfl
  simp only [List.isEmpty_nil, this, Bool.not_false, Bool.and_self, if_true, kanSeqStep]
  cases seqAllReleased k.seq k.layout with
  | error e => rfl
  | ok r => rfl

end KVerif.K
