/-
C09 helper lemmas for chords v2: whole ticks of the v2 machine (`tick_chv2`) while the keys of a chord
arrive - the scan tick on a queue that starts with a press, the fast path, and the tail of the tick
for zero / one freshly activated chord.
-/
import KVerif.Props.C09V2
namespace KVerif.C09
open KVerif.L

def pressEv (k : Nat) : Ev := .press (0, k)

/-- `Layout::event` on the chords-v2 state -/
def pushV2 (s : ChV2) (ev : Ev) : ChV2 := { s with queue := (pushBackWrap QUEUE_SIZE s.queue ⟨ev, 0⟩).1 }

/-! ## The shortest timeout of a candidate list -/

theorem lt_foldl_min_iff : ∀ (l : List ChordV2) (m t : Nat),
    t < l.foldl (fun m c => min m c.pending) m ↔ t < m ∧ ∀ c ∈ l, t < c.pending
  | [], m, t => ⟨fun h => ⟨h, fun _ hc => nomatch hc⟩, fun h => h.1⟩
  | x :: l, m, t => by
    rw [List.foldl_cons, lt_foldl_min_iff l, Nat.lt_min, List.forall_mem_cons, and_assoc]

/-- the shortest timeout of a candidate list exceeds `t` iff every candidate's does -/
theorem lt_minPending_iff (l : List ChordV2) (t : Nat) : t < minPending l ↔ t < U16_MAX ∧ ∀ c ∈ l, t < c.pending :=
  lt_foldl_min_iff l _ t

theorem lt_minPending (l : List ChordV2) (t : Nat) (h : t < U16_MAX) (hall : ∀ c ∈ l, t < c.pending) : t < minPending l :=
  (lt_minPending_iff l t).mpr ⟨h, hall⟩

theorem minPending_le (l : List ChordV2) : minPending l ≤ U16_MAX :=
  Nat.le_of_not_lt fun h => Nat.lt_irrefl _ ((lt_minPending_iff l _).mp h).1

/-- fewer candidates, later deadline -/
theorem minPending_mono (l1 l2 : List ChordV2) (h : ∀ c ∈ l2, c ∈ l1) : minPending l1 ≤ minPending l2 :=
  Nat.le_of_not_lt fun hlt =>
    have ⟨h1, h2⟩ := (lt_minPending_iff l1 _).mp hlt
    Nat.lt_irrefl _ (lt_minPending l2 _ h1 fun c hc => h2 c (h c hc))

theorem Fk_prefix_subset (possible : List ChordV2) (layer : Nat) (r ps : List Nat) (hr : r <+: ps) :
    ∀ c ∈ Fk possible layer ps, c ∈ Fk possible layer r := by
  intro c hc
  rw [mem_Fk] at hc ⊢
  refine ⟨hc.1, hc.2.1, ?_⟩
  rw [List.all_eq_true] at *
  intro k hk
  exact hc.2.2 k (hr.subset hk)

/-! ## The tail of the tick -/

theorem tickTail_none (s1 : ChV2) (ha : s1.active = []) :
    tickTail 0 s1 [] = .ok ({ s1 with active := [], ticksToIgnore := s1.ticksToIgnore - 1 }, []) := by
  simp only [tickTail, tickNoops, ha, List.length_nil, bne_self_eq_false, Bool.false_eq_true, if_false, List.any_nil, clearReleased]

theorem drainPush_nil (x : Queued) : drainPush [] x = [x] := rfl

theorem tickTail_one (s1 : ChV2) (a : ActiveChord) (ha : s1.active = [a]) (hst : a.status = .unread ∨ a.status = .unreadReleased) :
    tickTail 0 s1 [] = .ok ({ s1 with active := [a], ticksToIgnore := s1.ticksToIgnore - 1 },
      ⟨.press (0, 0), 0⟩ :: (if a.status = .unreadReleased then [⟨.release (0, 0), 0⟩] else [])) := by
  rcases hst with h | h
  · simp [tickTail, tickNoops, ha, h, clearReleased, drainPush_nil]
  · simp [tickTail, tickNoops, ha, h, clearReleased, drainPush_nil]
    rfl

/-! ## A tick on a queue of real-key events that starts with a press, no chord active -/

theorem applyReleases_nil (q : List Queued) : applyReleases q [] = [] := by
  rw [applyReleases_eq]; rfl

/-- nothing is handed over and `process_presses` sees the queue as it is -/
theorem scanInput_press_first (A : ChV2) (layer : Nat) (hrow : ∀ qd ∈ A.queue, row0 qd = true)
    (c : Coord) (t : Nat) (rest : List Queued) (hq : A.queue = ⟨.press c, t⟩ :: rest) (ha : A.active = []) :
    A.queue.filter (fun x => !row0 x) = [] ∧ (A.queue.filter row0).takeWhile isRel = [] ∧
    scanInput A layer = { A with ticksUntilChange := 0, prevActiveLayer := layer } := by
  have hfr : A.queue.filter row0 = A.queue := List.filter_eq_self.mpr hrow
  refine ⟨List.filter_eq_nil_iff.mpr fun x hx => by rw [hrow x hx]; decide, by rw [hfr, hq]; rfl, ?_⟩
  have e1 : (A.queue.filter row0).dropWhile isRel = A.queue := by rw [hfr, hq]; rfl
  have e2 : applyReleases (A.queue.filter row0) A.active = A.active := by rw [ha, applyReleases_nil]
  unfold scanInput
  rw [e1, e2]

/-- the state `process_presses` runs on in a scan tick -/
def scanState (s : ChV2) (layer : Nat) : ChV2 :=
  { agedV2 s with ticksUntilChange := 0, prevActiveLayer := layer }

theorem scanState_queue (s : ChV2) (layer : Nat) : (scanState s layer).queue = (agedV2 s).queue := rfl
theorem scanState_cfg (s : ChV2) (layer : Nat) : (scanState s layer).cfg = s.cfg := rfl
theorem scanState_tti (s : ChV2) (layer : Nat) : (scanState s layer).ticksToIgnore = s.ticksToIgnore := rfl

theorem agedV2_evs (s : ChV2) : (agedV2 s).queue.map (·.ev) = s.queue.map (·.ev) := by
  simp only [agedV2, List.map_map]
  rfl

theorem sinceOf_aged (s : ChV2) (h : s.queue ≠ []) : sinceOf (agedV2 s) = min (sinceOf s + 1) U16_MAX := by
  unfold sinceOf agedV2
  cases hq : s.queue with
  | nil => exact absurd hq h
  | cons a l => rfl

/-- **the scan tick**: no cool-down, no active chord, not the fast path, only real-key events queued
and a press first: the tick is `process_presses` on the aged queue followed by the tail of the tick -/
theorem tick_scan (s : ChV2) (layer : Nat) (h0 : s.ticksToIgnore = 0) (ha : s.active = [])
    (hscan : ¬ FastCond s layer) (hrow : ∀ qd ∈ s.queue, qd.ev.coord.1 = 0)
    (c : Coord) (t : Nat) (rest : List Queued) (hq : s.queue = ⟨.press c, t⟩ :: rest) :
    tickChv2 s layer =
      match processPresses (scanState s layer) layer with
      | .error c => .error c
      | .ok s1 => tickTail 0 (afterScan s1) [] := by
  have haa : (agedV2 s).active = [] := by simp only [agedV2, ha, List.map_nil]
  have hrow' : ∀ qd ∈ (agedV2 s).queue, row0 qd = true := by
    intro qd hqd
    obtain ⟨x, hx, e⟩ := List.mem_map.mp hqd
    rw [← e]
    exact beq_iff_eq.mpr (hrow x hx)
  obtain ⟨e1, e2, e3⟩ := scanInput_press_first (agedV2 s) layer hrow' c _ _
    (by rw [show (agedV2 s).queue = s.queue.map _ from rfl, hq]; rfl) haa
  have e3 : scanInput (agedV2 s) layer = scanState s layer := e3
  rw [tickChv2_eq, agedV2_active_length, ha,
    drainInputs_scan (agedV2 s) [] layer h0 (fun h => hscan ((fastCond_aged s layer).mp h)), e1, e2, e3]
  cases processPresses (scanState s layer) layer <;> rfl

/-- **the fast path**: nothing is looked at, the countdown goes down by one -/
theorem tick_fast (s : ChV2) (layer : Nat) (h0 : s.ticksToIgnore = 0) (ha : s.active = [])
    (hfast : FastCond s layer) :
    tickChv2 s layer = .ok ({ agedV2 s with ticksUntilChange := s.ticksUntilChange - 1, active := [], ticksToIgnore := 0 }, []) := by
  have haa : (agedV2 s).active = [] := by simp only [agedV2, ha, List.map_nil]
  rw [tickChv2_eq, agedV2_active_length, ha,
    drainInputs_fast (agedV2 s) [] layer h0 ((fastCond_aged s layer).mpr hfast)]
  refine (tickTail_none { agedV2 s with ticksUntilChange := (agedV2 s).ticksUntilChange - 1 } haa).trans ?_
  show Except.ok (({ agedV2 s with ticksUntilChange := s.ticksUntilChange - 1, active := [],
                                   ticksToIgnore := s.ticksToIgnore - 1 } : ChV2), ([] : List Queued)) = _
  rw [h0]

/-! ## While the keys of a chord arrive -/

theorem collectPresses_presses : ∀ (ks : List Nat) (q1 q2 : List Queued) (acc : List Nat),
    q1.map (·.ev) = ks.map pressEv → acc.length + ks.length ≤ SMOL_Q_LEN →
    collectPresses (q1 ++ q2) acc = collectPresses q2 (acc ++ ks) := by
  intro ks
  induction ks with
  | nil =>
    intro q1 q2 acc h _
    have : q1 = [] := by simpa using h
    subst this
    simp
  | cons k ks ih =>
    intro q1 q2 acc h hl
    cases q1 with
    | nil => simp at h
    | cons qd q1 =>
      simp only [List.map_cons, List.cons.injEq] at h
      obtain ⟨he, h'⟩ := h
      simp only [List.length_cons] at hl
      have hnl : ¬ acc.length ≥ SMOL_Q_LEN := by omega
      have he' : qd.ev = .press (0, k) := he
      simp only [List.cons_append, collectPresses, he', if_neg hnl]
      rw [ih q1 q2 (acc ++ [k]) h' (by simp; omega)]
      simp

/-- the v2 state while the keys `pre` are queued (followed by the events `tail`), the first of them
`t` ticks old, nothing active, no cool-down -/
structure Entry (cfg : ChV2Cfg) (pre : List Nat) (tail : List Ev) (t : Nat) (s : ChV2) : Prop where
  cfg : s.cfg = cfg
  evs : s.queue.map (·.ev) = pre.map pressEv ++ tail
  since : sinceOf s = t
  active : s.active = []
  tti : s.ticksToIgnore = 0

/-- the last scan saw a queue no longer than the present one (or no countdown is running) -/
def Sync (s : ChV2) : Prop := s.ticksUntilChange = 0 ∨ s.prevQueueLen ≤ s.queue.length
/-- an event arrived since the last scan (or no countdown is running): the next tick is a scan -/
def SyncStrict (s : ChV2) : Prop := s.ticksUntilChange = 0 ∨ s.prevQueueLen < s.queue.length

theorem SyncStrict.not_fast {s : ChV2} (h : SyncStrict s) (layer : Nat) : ¬ FastCond s layer := by
  intro hf
  rcases h with h | h
  · have := hf.1; omega
  · have := hf.2.2; omega

theorem SyncStrict.sync {s : ChV2} (h : SyncStrict s) : Sync s := h.imp id Nat.le_of_lt

/-- at rest: nothing queued, nothing active, no cool-down -/
theorem Entry.rest (s0 : ChV2) (hq : s0.queue = []) (ha : s0.active = []) (ht : s0.ticksToIgnore = 0) :
    Entry s0.cfg [] [] 0 s0 :=
  ⟨rfl, by rw [hq]; rfl, by unfold sinceOf; rw [hq]; rfl, ha, ht⟩

theorem Entry.queue_length {cfg : ChV2Cfg} {pre : List Nat} {t : Nat} {s : ChV2} (he : Entry cfg pre [] t s) :
    s.queue.length = pre.length := by
  have := congrArg List.length he.evs
  simpa using this

/-- one more event arrives (the age of the first queued key is that of the first event ever queued) -/
theorem Entry.push {cfg : ChV2Cfg} {pre : List Nat} {t : Nat} {s : ChV2} (he : Entry cfg pre [] t s)
    (hne : pre = [] → t = 0) (hlen : pre.length < QUEUE_SIZE) (ev : Ev) :
    Entry cfg pre [ev] t (pushV2 s ev) ∧ (Sync s → SyncStrict (pushV2 s ev)) := by
  have hql := he.queue_length
  have hq : (pushV2 s ev).queue = s.queue ++ [⟨ev, 0⟩] :=
    congrArg Prod.fst (pushBackWrap_fits _ (by rw [hql]; exact hlen))
  refine ⟨⟨he.cfg, by rw [hq, List.map_append, he.evs, List.append_nil]; rfl, ?_, he.active, he.tti⟩, ?_⟩
  · have hs := he.since
    unfold sinceOf at hs ⊢
    rw [hq]
    cases hqq : s.queue with
    | nil =>
      rw [hqq] at hql
      exact (hne (List.eq_nil_of_length_eq_zero hql.symm)).symm
    | cons a l => rw [hqq] at hs; exact hs
  · intro hsy
    refine hsy.imp id fun h => ?_
    show s.prevQueueLen < (pushV2 s ev).queue.length
    rw [hq, List.length_append]
    exact Nat.lt_succ_of_le h

theorem Entry.snoc {cfg : ChV2Cfg} {pre : List Nat} {t k : Nat} {s : ChV2} (he : Entry cfg pre [pressEv k] t s) :
    Entry cfg (pre ++ [k]) [] t s :=
  ⟨he.cfg, by rw [he.evs]; simp, he.since, he.active, he.tti⟩

theorem Entry.row0 {cfg : ChV2Cfg} {pre : List Nat} {tail : List Ev} {t : Nat} {s : ChV2} (he : Entry cfg pre tail t s)
    (htail : ∀ e ∈ tail, e.coord.1 = 0) : ∀ qd ∈ s.queue, qd.ev.coord.1 = 0 := by
  intro qd hqd
  have : qd.ev ∈ pre.map pressEv ++ tail := by rw [← he.evs]; exact List.mem_map_of_mem hqd
  rcases List.mem_append.mp this with h | h
  · obtain ⟨k, _, e⟩ := List.mem_map.mp h
    rw [← e]; rfl
  · exact htail _ h

theorem Entry.head_press {cfg : ChV2Cfg} {pre : List Nat} {tail : List Ev} {t : Nat} {s : ChV2} (he : Entry cfg pre tail t s)
    (k1 : Nat) (hhead : pre.head? = some k1) : ∃ rest, s.queue = ⟨.press (0, k1), t⟩ :: rest := by
  have hs := he.since
  have hev := he.evs
  cases pre with
  | nil => cases hhead
  | cons k pre =>
    simp only [List.head?_cons, Option.some.injEq] at hhead
    subst hhead
    cases hq : s.queue with
    | nil => rw [hq] at hev; simp at hev
    | cons a l =>
      rw [hq] at hev
      simp only [List.map_cons, List.cons_append, List.cons.injEq] at hev
      unfold sinceOf at hs
      rw [hq] at hs
      simp only [List.head?_cons, Option.map_some, Option.getD_some] at hs
      refine ⟨l, ?_⟩
      congr 1
      cases a
      simp only at hs hev
      rw [hs, hev.1]; rfl

/-- the scan state of an `Entry` state -/
theorem Entry.scan {cfg : ChV2Cfg} {pre : List Nat} {tail : List Ev} {t : Nat} {s : ChV2} (he : Entry cfg pre tail t s)
    (hne : pre ≠ []) (ht16 : t + 1 ≤ U16_MAX) (layer : Nat) :
    Entry cfg pre tail (t + 1) (scanState s layer) := by
  refine ⟨he.cfg, ?_, ?_, ?_, he.tti⟩
  · rw [scanState_queue, agedV2_evs, he.evs]
  · show sinceOf (agedV2 s) = t + 1
    have hqne : s.queue ≠ [] := by
      intro h
      have := he.evs
      rw [h] at this
      cases pre with
      | nil => exact hne rfl
      | cons a l => simp at this
    rw [sinceOf_aged s hqne, he.since]; omega
  · show (agedV2 s).active = []
    simp only [agedV2, he.active, List.map_nil]

theorem Entry.collect {cfg : ChV2Cfg} {pre : List Nat} {t : Nat} {s : ChV2} (he : Entry cfg pre [] t s)
    (hlen : pre.length ≤ SMOL_Q_LEN) : collectPresses s.queue [] = .ok (pre, none) := by
  have := collectPresses_presses pre s.queue [] [] (by rw [he.evs]; simp) (by simpa using hlen)
  rw [List.append_nil] at this
  rw [this]; rfl

/-- **one tick while the keys arrive**: the keys `pre` queued so far are undecided at every prefix and
(if this tick scans) the shortest timeout of the remaining candidates has not run out: nothing is
handed to the layout, nothing is activated, the queue only ages -/
theorem entry_tick {cfg : ChV2Cfg} {layer : Nat} {pre : List Nat} {t : Nat} {s : ChV2} {k1 : Nat} {possible : List ChordV2}
    (he : Entry cfg pre [] t s) (hhead : pre.head? = some k1) (hget : cfg.get k1 = some possible)
    (hu : ∀ r, r <+: pre → r ≠ [] → Undecided possible layer r) (hlen : pre.length ≤ SMOL_Q_LEN)
    (ht16 : t + 1 ≤ U16_MAX) (htime : ¬ FastCond s layer → t + 1 < minPending (Fk possible layer pre)) :
    ∃ s', tickChv2 s layer = .ok (s', []) ∧ Entry cfg pre [] (t + 1) s' ∧ s'.queue.length = s.queue.length ∧
      (FastCond s layer → s'.ticksUntilChange = s.ticksUntilChange - 1 ∧
        s'.prevActiveLayer = s.prevActiveLayer ∧ s'.prevQueueLen = s.prevQueueLen) ∧
      (¬ FastCond s layer → s'.ticksUntilChange = minPending (Fk possible layer pre) - (t + 1) ∧
        s'.prevActiveLayer = layer ∧ s'.prevQueueLen = s.queue.length % 256) := by
  have hne : pre ≠ [] := by intro h; rw [h] at hhead; cases hhead
  have hsc := he.scan hne ht16 layer
  by_cases hf : FastCond s layer
  · rw [tick_fast s layer he.tti he.active hf]
    refine ⟨_, rfl, ⟨he.cfg, hsc.evs, hsc.since, rfl, rfl⟩, agedV2_queue_length s, fun _ => ⟨rfl, rfl, rfl⟩,
      fun h => absurd hf h⟩
  · obtain ⟨rest, hq⟩ := he.head_press k1 hhead
    rw [tick_scan s layer he.tti he.active hf (he.row0 (by intro e h; cases h)) (0, k1) t rest hq]
    obtain ⟨nc, hp⟩ := processPresses_wait (s := scanState s layer)
      (hsc.collect hlen) hhead (by rw [hsc.cfg]; exact hget) hu (by rw [hsc.since]; exact htime hf)
    rw [hp]
    simp only []
    rw [tickTail_none]
    -- the state is `scanState s layer` but for the countdown, `next_coord` and the remembered length
    · refine ⟨_, rfl, ⟨hsc.cfg, hsc.evs, hsc.since, rfl, by show s.ticksToIgnore - 1 = 0; rw [he.tti]⟩,
        agedV2_queue_length s, fun h => absurd h hf, fun _ => ⟨congrArg (minPending (Fk possible layer pre) - ·) hsc.since, rfl, ?_⟩⟩
      show (agedV2 s).queue.length % 256 = _
      rw [agedV2_queue_length]
    · exact hsc.active

end KVerif.C09
