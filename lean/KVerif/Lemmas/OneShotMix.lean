/-
C06 on the mixed fragment, helper lemmas: the fragment C06 ∪ tap-hold keys (`FragM`), what a
dequeued press does on it, and what the resolution of a pending tap-hold key does — in particular
which `OneShotState` operation it performs (`handle_press(Other coord)`, by the resolved action's
arm, at resolution time and not before).
-/
import KVerif.Lemmas.OneShotStep
import KVerif.Lemmas.QuiesceTapHold
namespace KVerif.C06
open KVerif.L

/-- the mixed fragment: plain keys, output chords, layer-while-held, transparent / unmapped
positions, one-shot of the first three (all four end variants), and tap-hold keys of every variant
whose hold, tap and timeout actions are one of the first three -/
def FragM : Action → Prop
  | .noOp | .trans | .keyCode _ | .multipleKeyCodes _ | .layer _ => True
  | .oneShot inner _ _ => Simple inner
  | .holdTap _ hold tap to _ _ => Simple hold ∧ Simple tap ∧ Simple to
  | _ => False

def CfgM (c : LCfg) : Prop :=
  (∀ tbl ∈ c.layers, ∀ e ∈ tbl, FragM e.2) ∧ (∀ e ∈ c.srcKeys, FragM e.2)

/-- a pending tap-hold key of the fragment -/
structure WOKm (w : Waiting) : Prop where
  cfg : ∃ c, w.config = .holdTap c
  hold : Simple w.hold
  tap : Simple w.tap
  to : Simple w.timeoutAction

theorem WOKm.isHT {w : Waiting} (h : WOKm w) : C05.isHT w = true := by
  obtain ⟨c, hc⟩ := h.cfg
  unfold C05.isHT; rw [hc]

theorem WOKm.counted {w w' : Waiting} (h : WOKm w) (hc : C05.Counted w w') : WOKm w' :=
  ⟨by obtain ⟨c, hcc⟩ := h.cfg; exact ⟨c, hc.config.trans hcc⟩, hc.hold ▸ h.hold, hc.tap ▸ h.tap,
   hc.timeoutAction ▸ h.to⟩

theorem PressOut.clearW {c : Coord} {s s' : Layout} (h : PressOut c s s') (hw : s.waiting = none) :
    PressOut c s { s' with waiting := none } :=
  ⟨⟨hw.symm, h.frame.extra, h.frame.tde, h.frame.aq, h.frame.seqs, h.frame.cfg, h.frame.dl, h.frame.tv2,
    h.frame.dfl⟩, ⟨h.adds.old, h.adds.new⟩, h.osh⟩

theorem fragM_frag {a : Action} (hf : FragM a) :
    Frag a ∨ ∃ T hold tap to cf iv, a = .holdTap T hold tap to cf iv := by
  cases a <;> first | exact Or.inl hf | exact Or.inr ⟨_, _, _, _, _, _, rfl⟩

theorem simplePress_spec (S : Layout) (a : Action) (hs : Simple a) (c : Coord) :
    Frame S (simpleArm (prelude S c) a c false) ∧ (simpleArm (prelude S c) a c false).queue = S.queue ∧
    Adds c S (simpleArm (prelude S c) a c false) ∧
    (simpleArm (prelude S c) a c false).oneshot = (S.oneshot.handlePress (.other c)).1 := by
  obtain ⟨p1, p2, p3, _⟩ := prelude_spec S c
  have sp := simpleArm_spec (prelude S c) a hs c false
  exact ⟨p1.trans sp.frame, sp.queue.trans p3, (prelude_adds S c).trans sp.adds, by rw [sp.osh, p2]; rfl⟩

/-- what a press on the mixed fragment does, nothing pending: as on the C06 fragment (`PressOut`),
except that a tap-hold key creates a waiting state and does *nothing else* — no state, no
`OneShotState` operation -/
theorem dispatch_M (fuel : Nat) (s : Layout) (a : Action) (hf : FragM a) (c : Coord) (d : Nat)
    (ls : List Nat) (s' : Layout) (cu : CustomEv) (hq : s.queue.length < QUEUE_SIZE) (hw : s.waiting = none)
    (h : dispatch (fuel + 3) s a c d false ls = .ok (s', cu)) :
    cu = .noEvent ∧ PressOut c s { s' with waiting := none } ∧
    ∀ w, s'.waiting = some w → w.coord = c ∧ WOKm w := by
  rcases fragM_frag hf with hfa | ⟨T, hold, tap, to, cf, iv, rfl⟩
  · obtain ⟨r1, r2⟩ := dispatch_frag fuel s a hfa c d ls s' cu hq h
    exact ⟨r1, r2.clearW hw, fun w' hw' => nomatch (r2.frame.waiting.trans hw).symm.trans hw'⟩
  · rw [Quiesce.dispatch_holdTap fuel s T hold tap to cf iv c d ls hf.2.1] at h
    split at h
    · split at h
      · cases h
      · cases h
        obtain ⟨w, e1, e2, _, e4, e5, e6, e7, e8, e9, e10, e11, _⟩ :=
          Quiesce.armHoldTapWait_spec s c d T hold tap to cf iv ls hw
        refine ⟨rfl, ⟨e8, Adds.of_states e10, none, e11 ▸ .skip, e9.trans (List.append_nil _).symm⟩, fun w' hw' => ?_⟩
        cases e1.symm.trans hw'
        exact ⟨e2, ⟨cf, e7⟩, e4 ▸ hf.1, e5 ▸ hf.2.1, e6 ▸ hf.2.2⟩
    · cases h
      -- a repeated tap inside the tap-hold interval: the tap action at once
      obtain ⟨f, q, ad, o⟩ := simplePress_spec { s with lptTapHoldTimeout := 0 } tap hf.2.1 c
      obtain ⟨u1, u2, u3, u4⟩ := updateCoord_spec (simpleArm (prelude { s with lptTapHoldTimeout := 0 } c) tap c false) c
      have po : PressOut c s (updateCoord (simpleArm (prelude { s with lptTapHoldTimeout := 0 } c) tap c false) c) :=
        ⟨Frame.trans ⟨f.waiting, f.extra, f.tde, f.aq, f.seqs, f.cfg, f.dl, f.tv2, f.dfl⟩ u1,
          Adds.trans ⟨ad.old, ad.new⟩ (Adds.of_states u4), none, (u2.trans o) ▸ .other,
          (u3.trans q).trans (List.append_nil _).symm⟩
      exact ⟨rfl, po.clearW hw, fun w' hw' => nomatch (po.frame.waiting.trans hw).symm.trans hw'⟩

/-- **a press taken from the queue on the mixed fragment**, nothing pending -/
theorem dequeue_press_M {s : Layout} (hc : CfgM s.cfg) (htde : s.tapDanceEager = none) (hw : s.waiting = none)
    (hq : s.queue.length < QUEUE_SIZE) (c : Coord) (since : Nat) (s' : Layout) (cu : CustomEv)
    (hd : dequeue FUEL s ⟨.press c, since⟩ = .ok (s', cu)) :
    cu = .noEvent ∧ PressOut c s { s' with waiting := none } ∧
    ∀ w, s'.waiting = some w → w.coord = c ∧ WOKm w := by
  rw [FUEL_5] at hd
  simp only [dequeue, htde, bind, Except.bind] at hd
  split at hd
  · cases hd
  · rename_i order ho
    simp only [doAction] at hd
    split at hd
    · cases hd
    · rename_i a ls hm
      have hfa : FragM a := Quiesce.resolve_pred FragM trivial trivial s c hc.1 hc.2 _ _ _ hm
      obtain ⟨p1, p2, p3, p4⟩ := prelude_spec s c
      obtain ⟨r1, r2, r3⟩ := dispatch_M 3995 (prelude s c) a hfa c since ls s' cu (by rw [p3]; exact hq)
        (p1.waiting.trans hw) hd
      refine ⟨r1, ⟨p1.trans r2.frame, (prelude_adds s c).trans r2.adds, ?_⟩, r3⟩
      obtain ⟨ov, q1, q2⟩ := r2.osh
      exact ⟨ov, p2 ▸ q1, by rw [q2, p3]⟩

/-! ### the resolution of a pending tap-hold key -/

/-- the layout after the decision `a` for the entry `w`, already taken out of `S` -/
def resolved (S : Layout) (w : Waiting) : WAct → Layout
  | .hold => simpleArm (prelude (holdPrep S w) w.coord) w.hold w.coord false
  | .tap => tapPost (simpleArm (prelude S w.coord) w.tap w.coord false)
  | .timeout => simpleArm (prelude (timeoutPrep S w) w.coord) w.timeoutAction w.coord false
  | .noOp => S

theorem resolveAct_simple (S : Layout) (w : Waiting) (hw : WOKm w) (a : WAct) (ha : a ≠ .noOp) :
    C05.resolveAct S w a = .ok (resolved S w a, .noEvent) := by
  cases a with
  | hold =>
    simp only [C05.resolveAct, resolved]
    rw [show (3999 : Nat) = 3997 + 2 from rfl, doAction_simple 3997 _ w.hold hw.hold]
  | tap =>
    simp only [C05.resolveAct, resolved]
    rw [show FUEL = 3998 + 2 from rfl, doAction_simple 3998 _ w.tap hw.tap]
  | timeout =>
    simp only [C05.resolveAct, resolved]
    rw [show FUEL = 3998 + 2 from rfl, doAction_simple 3998 _ w.timeoutAction hw.to]
  | noOp => exact absurd rfl ha

/-- the `OneShotState` after the resolution: the resolved action's arm calls
`handle_press(Other coord)`, and `waiting_into_hold` / `waiting_into_tap` start the tap-hold's own input
pause (`waiting_into_timeout` does not) -/
def resolvedOsh (o : OneShotState) (c : Coord) (a : WAct) : OneShotState :=
  { (o.handlePress (.other c)).1 with
    pauseInputProcessingTicks :=
      if a = .timeout then (o.handlePress (.other c)).1.pauseInputProcessingTicks else o.pauseInputProcessingDelay }

/-- `waiting_into_hold` starts the pause before the action, `waiting_into_tap` after it: the same,
since `handle_press(Other)` reads no pause and writes only the one it is started with -/
theorem handlePress_other_paused (o : OneShotState) (c : Coord) :
    ({ o with pauseInputProcessingTicks := o.pauseInputProcessingDelay }.handlePress (.other c)).1 =
      { (o.handlePress (.other c)).1 with pauseInputProcessingTicks := o.pauseInputProcessingDelay } := by
  simp only [OneShotState.handlePress]
  split
  · rfl
  · split <;> rfl

theorem holdPrep_frame (S : Layout) (w : Waiting) :
    Frame S (holdPrep S w) ∧ (holdPrep S w).queue = S.queue ∧ (holdPrep S w).states = S.states ∧
    (holdPrep S w).oneshot = { S.oneshot with pauseInputProcessingTicks := S.oneshot.pauseInputProcessingDelay } := by
  unfold holdPrep
  split <;> exact ⟨Frame.free, rfl, rfl, rfl⟩

theorem timeoutPrep_frame (S : Layout) (w : Waiting) :
    Frame S (timeoutPrep S w) ∧ (timeoutPrep S w).queue = S.queue ∧ (timeoutPrep S w).states = S.states ∧
    (timeoutPrep S w).oneshot = S.oneshot := by
  unfold timeoutPrep
  split <;> exact ⟨Frame.free, rfl, rfl, rfl⟩

theorem tapPost_frame (S : Layout) :
    Frame S (tapPost S) ∧ (tapPost S).queue = S.queue ∧ (tapPost S).states = S.states ∧
    (tapPost S).oneshot = { S.oneshot with pauseInputProcessingTicks := S.oneshot.pauseInputProcessingDelay } :=
  ⟨Frame.free, rfl, rfl, rfl⟩

/-- **what a resolution does**: everything pending / static is untouched, the queue is untouched,
states are only added (at the key's coordinate), and the `OneShotState` changes by exactly
`resolvedOsh` -/
theorem resolved_spec (S : Layout) (w : Waiting) (hw : WOKm w) (a : WAct) (ha : a ≠ .noOp) :
    Frame S (resolved S w a) ∧ (resolved S w a).queue = S.queue ∧ Adds w.coord S (resolved S w a) ∧
    (resolved S w a).oneshot = resolvedOsh S.oneshot w.coord a := by
  cases a with
  | hold =>
    obtain ⟨h1, h2, h3, h4⟩ := holdPrep_frame S w
    obtain ⟨f, q, ad, o⟩ := simplePress_spec (holdPrep S w) w.hold hw.hold w.coord
    exact ⟨h1.trans f, q.trans h2, (Adds.of_states h3).trans ad,
      o.trans (h4 ▸ handlePress_other_paused S.oneshot w.coord)⟩
  | tap =>
    obtain ⟨f, q, ad, o⟩ := simplePress_spec S w.tap hw.tap w.coord
    obtain ⟨t1, t2, t3, t4⟩ := tapPost_frame (simpleArm (prelude S w.coord) w.tap w.coord false)
    exact ⟨f.trans t1, t2.trans q, ad.trans (Adds.of_states t3),
      t4.trans (by rw [o, (handlePress_other_fields S.oneshot w.coord).2.2.2.2.2]; rfl)⟩
  | timeout =>
    obtain ⟨h1, h2, h3, h4⟩ := timeoutPrep_frame S w
    obtain ⟨f, q, ad, o⟩ := simplePress_spec (timeoutPrep S w) w.timeoutAction hw.to w.coord
    exact ⟨h1.trans f, q.trans h2, (Adds.of_states h3).trans ad, o.trans (h4 ▸ rfl)⟩
  | noOp => exact absurd rfl ha

/-- what `resolvedOsh` keeps, whatever the variant -/
theorem resolvedOsh_fields (o : OneShotState) (c : Coord) (a : WAct) :
    (resolvedOsh o c a).keys = o.keys ∧ (resolvedOsh o c a).releasedKeys = o.releasedKeys ∧
    (resolvedOsh o c a).releaseOnNextTick = o.releaseOnNextTick ∧
    (resolvedOsh o c a).ticksToIgnoreEvents = o.ticksToIgnoreEvents := by
  unfold resolvedOsh
  obtain ⟨f1, f2, f3, f4, _⟩ := handlePress_other_fields o c
  exact ⟨f1, f2, f3, f4⟩

/-- press variants, one-shot keys active: the countdown is capped at the rapid-event delay and
input processing pauses for the same number of ticks — for each of the three decisions -/
theorem resolvedOsh_pressEnd (o : OneShotState) (c : Coord) (a : WAct) (hk : o.keys ≠ [])
    (hi : o.ticksToIgnoreEvents = 0) (he : isPressEnd o.endConfig = true) :
    resolvedOsh o c a = { o with timeout := min o.pauseInputProcessingDelay o.timeout,
                                 pauseInputProcessingTicks := o.pauseInputProcessingDelay } := by
  rw [resolvedOsh, handlePress_other_pressEnd o c hk hi he]
  simp only [ite_self]

/-- release variants, one-shot keys active: the key is remembered in `other_pressed_keys`; the
countdown goes on; (the input pause is the tap-hold's own: after hold and tap, not after timeout) -/
theorem resolvedOsh_releaseEnd (o : OneShotState) (c : Coord) (a : WAct) (hk : o.keys ≠ [])
    (hi : o.ticksToIgnoreEvents = 0) (he : isPressEnd o.endConfig = false) :
    resolvedOsh o c a = { o with
      otherPressedKeys := (pushBackWrap ONE_SHOT_MAX_ACTIVE o.otherPressedKeys c).1,
      pauseInputProcessingTicks := if a = .timeout then o.pauseInputProcessingTicks else o.pauseInputProcessingDelay } := by
  rw [resolvedOsh, handlePress_other_releaseEnd o c hk hi he]

/-- no one-shot key active: the resolution does not touch the `OneShotState` beyond the tap-hold's
own input pause -/
theorem resolvedOsh_inactive (o : OneShotState) (c : Coord) (a : WAct) (ha : a ≠ .noOp) (hk : o.keys = []) :
    resolvedOsh o c a = { o with
      pauseInputProcessingTicks := if a = .hold ∨ a = .tap then o.pauseInputProcessingDelay else o.pauseInputProcessingTicks } := by
  rw [resolvedOsh, handlePress_inactive o _ hk]
  cases a <;> first | rfl | exact absurd rfl ha

end KVerif.C06
