/-
C01 helper lemmas: quiescence on the tap-dance fragment (C17): plain keys, output chords,
layer-while-held, transparent / unmapped positions, and tap-dance keys — lazy and eager, any number of
them, any timeout — whose listed actions are a key, an output chord or layer-while-held.

While a lazy tap-dance key is undecided nothing is taken from the queue, so `extra_waiting` stays
empty.  The dance ends by eviction: the counted taps' presses and releases leave the queue, and the
chosen action is performed once at the key's coordinate.  That the state this creates is released
again needs what no other fragment needed: the history must be physically possible (a key is pressed
only while it is up and released only while it is down), so that the key's queued events alternate
and the eviction removes whole release/press pairs.  `PhysQ` is that condition on the queue, relative
to the set `front` of keys whose press has been taken from the queue and whose release has not.
-/
import KVerif.Lemmas.QuiesceTapHold
import KVerif.Lemmas.TapDanceLayout
import KVerif.Props.C07
namespace KVerif.Quiesce
open KVerif.L KVerif.C06

/-! ## the fragment -/

def FragD : Action → Prop
  | .noOp | .trans | .keyCode _ | .multipleKeyCodes _ | .layer _ => True
  | .tapDance acts _ _ => acts ≠ [] ∧ ∀ a ∈ acts, Simple a
  | _ => False

def CfgD (c : LCfg) : Prop :=
  (∀ tbl ∈ c.layers, ∀ e ∈ tbl, FragD e.2) ∧ (∀ e ∈ c.srcKeys, FragD e.2)

/-- the timeout of a tap-dance action -/
def tdT : Action → Nat
  | .tapDance _ T _ => T
  | _ => 0

def maxDanceTimeout (c : LCfg) : Nat :=
  max (listMax (c.layers.map fun tbl => listMax (tbl.map fun e => tdT e.2)))
      (listMax (c.srcKeys.map fun e => tdT e.2))

/-- every tap-dance timeout of the configuration is at most `T` -/
def DBound (c : LCfg) (T : Nat) : Prop :=
  (∀ tbl ∈ c.layers, ∀ e ∈ tbl, tdT e.2 ≤ T) ∧ (∀ e ∈ c.srcKeys, tdT e.2 ≤ T)

theorem dBound_max (c : LCfg) : DBound c (maxDanceTimeout c) := le_max_actions tdT c

/-! ## physically possible histories -/

/-- a key is pressed only while it is up and released only while it is down -/
def physical : List Coord → List In → Bool
  | _, [] => true
  | down, .ev (.press c) :: r => !down.contains c && physical (c :: down) r
  | down, .ev (.release c) :: r => down.contains c && physical (down.filter (· != c)) r
  | down, .tick :: r => physical down r

/-- an event the keys that are down allow -/
def possible (down : List Coord) : Ev → Prop
  | .press c => c ∉ down
  | .release c => c ∈ down

/-- the queue is physically possible: starting from the keys `front` that are logically down (their
press has been taken from the queue, their release has not), every queued press is of a key that is
up at that point, every queued release of a key that is down, and at the end the keys `down` are down -/
def PhysQ : List Coord → List Queued → List Coord → Prop
  | front, [], down => ∀ c, c ∈ front ↔ c ∈ down
  | front, q :: rest, down =>
    match q.ev with
    | .press c => c ∉ front ∧ PhysQ (c :: front) rest down
    | .release c => c ∈ front ∧ PhysQ (front.filter (· != c)) rest down

theorem PhysQ_congr : ∀ (q : List Queued) (f1 f2 down : List Coord), (∀ c, c ∈ f1 ↔ c ∈ f2) →
    PhysQ f1 q down → PhysQ f2 q down
  | [], _, _, _, h, hp => fun c => (h c).symm.trans (hp c)
  | ⟨.press c, _⟩ :: rest, _, _, _, h, hp =>
    ⟨fun hc => hp.1 ((h c).mpr hc), PhysQ_congr rest _ _ _ (fun y => by simp only [List.mem_cons, h y]) hp.2⟩
  | ⟨.release c, _⟩ :: rest, _, _, _, h, hp =>
    ⟨(h c).mp hp.1, PhysQ_congr rest _ _ _ (fun y => by simp only [List.mem_filter, h y]) hp.2⟩

theorem PhysQ_age : ∀ (q : List Queued) (front down : List Coord), PhysQ front q down → PhysQ front (age q) down
  | [], _, _, h => h
  | ⟨.press _, _⟩ :: rest, _, _, h => ⟨h.1, PhysQ_age rest _ _ h.2⟩
  | ⟨.release _, _⟩ :: rest, _, _, h => ⟨h.1, PhysQ_age rest _ _ h.2⟩

/-- an event that is possible for the keys that are down is appended -/
theorem PhysQ_append (e : Ev) (n : Nat) : ∀ (q : List Queued) (front down : List Coord), PhysQ front q down →
    possible down e → PhysQ front (q ++ [⟨e, n⟩]) (downAfter down (.ev e))
  | [], front, down, hp, he => by
    cases e with
    | press c => exact ⟨fun hc => he ((hp c).mp hc), fun y => by simp only [downAfter, List.mem_cons, hp y]⟩
    | release c => exact ⟨(hp c).mpr he, fun y => by simp only [downAfter, List.mem_filter, hp y]⟩
  | ⟨.press _, _⟩ :: rest, _, _, hp, he => ⟨hp.1, PhysQ_append e n rest _ _ hp.2 he⟩
  | ⟨.release _, _⟩ :: rest, _, _, hp, he => ⟨hp.1, PhysQ_append e n rest _ _ hp.2 he⟩

/-- a key that is logically down is physically down or its release is queued -/
theorem PhysQ_owned : ∀ (q : List Queued) (front down : List Coord), PhysQ front q down →
    ∀ c, c ∈ front → c ∈ down ∨ ∃ x ∈ q, x.ev = .release c := by
  intro q
  induction q with
  | nil => intro front down hp c hc; exact Or.inl ((hp c).mp hc)
  | cons x rest ih =>
    intro front down hp c hc
    have later : ∀ front', PhysQ front' rest down → c ∈ front' → c ∈ down ∨ ∃ y ∈ x :: rest, y.ev = .release c :=
      fun front' hp' hc' => (ih front' down hp' c hc').imp_right fun ⟨y, hy, hye⟩ => ⟨y, List.mem_cons_of_mem _ hy, hye⟩
    obtain ⟨ev, n⟩ := x
    cases ev with
    | press c' => exact later _ hp.2 (List.mem_cons_of_mem _ hc)
    | release c' =>
      by_cases hcc : c = c'
      · exact Or.inr ⟨_, List.mem_cons_self, hcc ▸ rfl⟩
      · exact later _ hp.2 (List.mem_filter.mpr ⟨hc, by simpa using hcc⟩)

/-! ### the eviction keeps the queue physically possible -/

theorem nPr_cons_pr {w : Waiting} {s : Queued} (h : C17.isPr w s = true) (rest : List Queued) :
    C17.nPr w (s :: rest) = C17.nPr w rest + 1 := by
  simp [C17.nPr, h]

theorem nPr_cons_other {w : Waiting} {s : Queued} (h : C17.isPr w s = false) (rest : List Queued) :
    C17.nPr w (s :: rest) = C17.nPr w rest := by
  simp [C17.nPr, h]

theorem evict_cons_other {w : Waiting} {x : Queued} (h1 : C17.isRel w x = false) (h2 : C17.isPr w x = false)
    (r p : Nat) (rest : List Queued) : evictSameCoord w r p (x :: rest) = x :: evictSameCoord w r p rest := by
  rw [C17.evict_cons, h1, h2]
  rfl

/-- with the dance key logically down: removing the first `j` release/press pairs of the key keeps
the queue possible; with a release more removed than presses, the key counts as down for the rest -/
theorem PhysQ_evict_aux (w : Waiting) : ∀ (q : List Queued) (j : Nat) (front down : List Coord),
    (w.coord ∈ front → PhysQ front q down → j ≤ C17.nPr w q → PhysQ front (evictSameCoord w j j q) down) ∧
    (w.coord ∉ front → PhysQ front q down → j + 1 ≤ C17.nPr w q →
      PhysQ (w.coord :: front) (evictSameCoord w j (j + 1) q) down) := by
  intro q
  induction q with
  | nil => exact fun j _ _ => ⟨fun _ hp _ => hp, fun _ _ hj => absurd hj (Nat.not_succ_le_zero j)⟩
  | cons s rest ih =>
    intro j front down
    obtain ⟨ev, m⟩ := s
    cases ev with
    | press c =>
      by_cases hc : c = w.coord
      · -- a press of the key: the key is up before it; it goes, and the key counts as down for the rest
        subst hc
        have hpr : C17.isPr w ⟨.press w.coord, m⟩ = true := (C17.isPr_iff w _).mpr rfl
        rw [nPr_cons_pr hpr, C17.evict_cons w j (j + 1), if_neg (by rw [C17.isRel_iff]; nofun), hpr]
        exact ⟨fun hin hp _ => absurd hin hp.1, fun _ hp hj =>
          (ih j (w.coord :: front) down).1 List.mem_cons_self hp.2 (Nat.le_of_succ_le_succ hj)⟩
      · have hpr : C17.isPr w ⟨.press c, m⟩ = false :=
          Bool.eq_false_iff.mpr fun h => hc (Ev.press.inj ((C17.isPr_iff w _).mp h))
        rw [nPr_cons_other hpr, evict_cons_other rfl hpr, evict_cons_other rfl hpr]
        refine ⟨fun hin hp hj => ⟨hp.1, (ih j _ down).1 (List.mem_cons_of_mem _ hin) hp.2 hj⟩, fun hnin hp hj =>
          ⟨fun h => (List.mem_cons.mp h).elim hc hp.1, ?_⟩⟩
        exact PhysQ_congr _ _ _ _ (fun y => by simp only [List.mem_cons, or_left_comm])
          ((ih j _ down).2 (fun h => (List.mem_cons.mp h).elim (fun h => hc h.symm) hnin) hp.2 hj)
    | release c =>
      by_cases hc : c = w.coord
      · -- a release of the key: the key is down before it; unless none is left to remove it goes, and
        -- the key, up for the rest, counts as down there
        subst hc
        have hrel : C17.isRel w ⟨.release w.coord, m⟩ = true := (C17.isRel_iff w _).mpr rfl
        rw [nPr_cons_other (C17.isPr_false_of_isRel hrel)]
        refine ⟨fun hin hp hj => ?_, fun hnin hp _ => absurd hp.1 hnin⟩
        cases j with
        | zero => rw [C17.evict_zero]; exact hp
        | succ i =>
          rw [C17.evict_cons, if_pos hrel, if_pos (Nat.succ_pos i), Nat.add_sub_cancel]
          refine PhysQ_congr _ _ _ _ (fun y => ?_) ((ih i _ down).2 (by simp) hp.2 hj)
          by_cases hy : y = w.coord
          · simp only [hy, List.mem_cons, true_or, hin]
          · simp only [List.mem_cons, hy, false_or, List.mem_filter, bne_iff_ne, ne_eq, not_false_eq_true, and_true]
      · have hrel : C17.isRel w ⟨.release c, m⟩ = false :=
          Bool.eq_false_iff.mpr fun h => hc (Ev.release.inj ((C17.isRel_iff w _).mp h))
        have hwc : (w.coord != c) = true := by simpa using fun h => hc h.symm
        rw [nPr_cons_other rfl, evict_cons_other hrel rfl, evict_cons_other hrel rfl]
        refine ⟨fun hin hp hj => ⟨hp.1, (ih j _ down).1 (List.mem_filter.mpr ⟨hin, hwc⟩) hp.2 hj⟩, fun hnin hp hj =>
          ⟨List.mem_cons_of_mem _ hp.1, ?_⟩⟩
        rw [List.filter_cons_of_pos (p := (· != c)) hwc]
        exact (ih j _ down).2 (fun h => hnin (List.mem_filter.mp h).1) hp.2 hj

/-- **ending a dance keeps the queue physically possible**: with the dance key logically down and at
most as many taps counted as presses of the key are queued -/
theorem PhysQ_evictTaps (w : Waiting) (q : List Queued) (front down : List Coord) (hc : w.coord ∈ front)
    (hp : PhysQ front q down) (n : Nat) (hn : n - 1 ≤ C17.nPr w q) : PhysQ front (evictTaps w n q) down :=
  (PhysQ_evict_aux w q (n - 1) front down).1 hc hp hn

/-! ## what a press does on the fragment -/

/-- a listed action: simple, and a layer it names exists -/
def SimpleOK (L : Nat) (a : Action) : Prop := Simple a ∧ SimpleSafe L a

def ActSafeD (L : Nat) : Action → Prop
  | .layer v => v < L
  | .tapDance acts _ _ => ∀ a ∈ acts, SimpleSafe L a
  | _ => True

structure CfgSafeD (c : LCfg) : Prop where
  pinned : c.pinnedLayerStack = false
  layers : 0 < c.layers.length
  refsL : ∀ tbl ∈ c.layers, ∀ e ∈ tbl, ActSafeD c.layers.length e.2
  refsS : ∀ e ∈ c.srcKeys, ActSafeD c.layers.length e.2 ∧ e.2 ≠ .trans

/-- the eager tap-dance state: listed actions of the fragment, countdown and restart value bounded -/
structure TOK (T L : Nat) (t : TDE) : Prop where
  acts : ∀ a ∈ t.actions, SimpleOK L a
  timeout : t.timeout ≤ T
  orig : t.origTimeout ≤ T

/-- the undecided lazy tap-dance key: listed actions of the fragment, countdown and restart value
bounded, and no more taps counted than presses of the key are queued -/
structure DWOK (T L : Nat) (w : Waiting) (q : List Queued) : Prop where
  cfg : ∃ acts T' k, w.config = .tapDance acts T' k ∧ acts ≠ [] ∧ (∀ a ∈ acts, SimpleOK L a) ∧ T' ≤ T ∧
    k - 1 ≤ C17.nPr w q
  timeout : w.timeout ≤ T

/-- what a press on the fragment leaves alone -/
structure FrameD (s s' : Layout) : Prop where
  extra : s'.extraWaiting = s.extraWaiting
  aq : s'.actionQueue = s.actionQueue
  seqs : s'.activeSequences = s.activeSequences
  cfg : s'.cfg = s.cfg
  dl : s'.defaultLayer = s.defaultLayer
  queue : s'.queue = s.queue
  osh : s'.oneshot = s.oneshot

theorem FrameD.refl (s : Layout) : FrameD s s := ⟨rfl, rfl, rfl, rfl, rfl, rfl, rfl⟩
theorem FrameD.trans {a b c : Layout} (h1 : FrameD a b) (h2 : FrameD b c) : FrameD a c :=
  ⟨h2.extra.trans h1.extra, h2.aq.trans h1.aq, h2.seqs.trans h1.seqs, h2.cfg.trans h1.cfg, h2.dl.trans h1.dl,
   h2.queue.trans h1.queue, h2.osh.trans h1.osh⟩
theorem FrameD.of_H {s s' : Layout} (f : FrameH s s') : FrameD s s' :=
  ⟨f.extra, f.aq, f.seqs, f.cfg, f.dl, f.queue, f.osh⟩

/-- what the eager tap-dance state still costs: its countdown and the tick that forgets it -/
def tdeLoad : Option TDE → Nat
  | some t => t.timeout + 1
  | none => 0

theorem tdeLoad_le {T L : Nat} : ∀ {t : Option TDE}, (∀ x, t = some x → TOK T L x) → tdeLoad t ≤ T + 1
  | none, _ => Nat.zero_le _
  | some x, h => Nat.succ_le_succ (h x rfl).timeout

/-- the outcome of a press on the fragment -/
structure PressD (T : Nat) (c : Coord) (s s' : Layout) : Prop where
  frame : FrameD s s'
  adds : Adds c s s'
  lpt : s'.lptTapHoldTimeout ≤ s.lptTapHoldTimeout
  grows : GrowsL s.cfg.layers.length s.states s'.states
  waiting : s'.waiting = none ∨ ∃ w acts T', s'.waiting = some w ∧ w.coord = c ∧ w.config = .tapDance acts T' 1 ∧
    acts ≠ [] ∧ (∀ a ∈ acts, SimpleOK s.cfg.layers.length a) ∧ T' ≤ T ∧ w.timeout = T' ∧
    tdeLoad s'.tapDanceEager ≤ tdeLoad s.tapDanceEager
  tde : ∀ t, s'.tapDanceEager = some t → TOK T s.cfg.layers.length t

/-- the waiting state `do_action` creates for a lazy tap-dance (and a chord) -/
def freshWaiting (c : Coord) (d T : Nat) (cfg : WCfg) (ls : List Nat) : Waiting :=
  { coord := c, timeout := T, delay := d, ticks := 0, hold := .noOp, tap := .noOp, timeoutAction := .noOp,
    config := cfg, layerStack := ls, prevQueueLen := 255 }

theorem armWait_spec (s : Layout) (c : Coord) (d T : Nat) (cfg : WCfg) (ls : List Nat) :
    (armWait s c d T cfg ls).waiting = some (freshWaiting c d T cfg ls) ∧
    FrameD s (armWait s c d T cfg ls) ∧ (armWait s c d T cfg ls).states = s.states ∧
    (armWait s c d T cfg ls).lptTapHoldTimeout = s.lptTapHoldTimeout ∧
    (armWait s c d T cfg ls).tapDanceEager = s.tapDanceEager := by
  unfold armWait updateCoord freshWaiting
  split <;> exact ⟨rfl, ⟨rfl, rfl, rfl, rfl, rfl, rfl, rfl⟩, rfl, rfl, rfl⟩

theorem armEager_spec (s : Layout) (c : Coord) (acts : List Action) (T : Nat) :
    Frame { s with tapDanceEager := (armEager s c acts T).tapDanceEager } (armEager s c acts T) ∧
    (armEager s c acts T).queue = s.queue ∧ (armEager s c acts T).oneshot = s.oneshot ∧
    (armEager s c acts T).states = s.states ∧
    (armEager s c acts T).lptTapHoldTimeout = s.lptTapHoldTimeout ∧
    ((armEager s c acts T).tapDanceEager = some { coord := c, actions := acts, timeout := T, origTimeout := T, numTaps := 1 } ∨
     (armEager s c acts T).tapDanceEager = s.tapDanceEager) := by
  obtain ⟨u1, u2, u3, u4⟩ := updateCoord_spec s c
  have u5 := updateCoord_lpt s c
  unfold armEager
  simp only []
  generalize updateCoord s c = u at u1 u2 u3 u4 u5
  cases ht : u.tapDanceEager with
  | none =>
    exact ⟨⟨u1.waiting, u1.extra, rfl, u1.aq, u1.seqs, u1.cfg, u1.dl, u1.tv2, u1.dfl⟩, u3, u2, u4, u5, Or.inl rfl⟩
  | some t =>
    simp only []
    split
    · exact ⟨⟨u1.waiting, u1.extra, rfl, u1.aq, u1.seqs, u1.cfg, u1.dl, u1.tv2, u1.dfl⟩, u3, u2, u4, u5, Or.inl rfl⟩
    · exact ⟨⟨u1.waiting, u1.extra, rfl, u1.aq, u1.seqs, u1.cfg, u1.dl, u1.tv2, u1.dfl⟩, u3, u2, u4, u5, Or.inr u1.tde⟩

/-- a simple action performed at `c` on a state `base` that a press at `c` has led to -/
theorem pressD_arm (T : Nat) (s base : Layout) (a : Action) (hs : Simple a)
    (hsafe : SimpleSafe s.cfg.layers.length a) (c : Coord) (hf : FrameD s base) (hadds : Adds c s base)
    (hl : base.lptTapHoldTimeout ≤ s.lptTapHoldTimeout) (hg : GrowsL s.cfg.layers.length s.states base.states)
    (hw : base.waiting = none) (hk : s.oneshot.keys = [])
    (ht : ∀ t, base.tapDanceEager = some t → TOK T s.cfg.layers.length t) :
    PressD T c s (simpleArm base a c false) := by
  obtain ⟨f, ad, w, l⟩ := simpleArm_frameH base a hs c (hf.osh ▸ hk)
  exact ⟨hf.trans (.of_H f), hadds.trans ad, l ▸ hl, hg.trans (simpleArm_growsL _ base a hsafe c false),
    Or.inl (w.trans hw), fun t h => ht t (f.tde ▸ h)⟩

theorem ActSafeD.simple {L : Nat} {a : Action} (h : ActSafeD L a) : SimpleSafe L a := fun v hv => by
  subst hv; exact h

theorem dispatch_D (fuel T : Nat) (s : Layout) (a : Action) (hf : FragD a) (hb : tdT a ≤ T) (hnt : a ≠ .trans)
    (hs : ActSafeD s.cfg.layers.length a) (c : Coord) (dl : Nat) (ls : List Nat)
    (hls : ls.length ≤ MAX_ACTIVE_LAYERS) (hw : s.waiting = none) (hk : s.oneshot.keys = [])
    (ht : ∀ t, s.tapDanceEager = some t → TOK T s.cfg.layers.length t) :
    ∃ s', dispatch (fuel + 3) s a c dl false ls = .ok (s', .noEvent) ∧ PressD T c s s' := by
  have plain : a = .noOp ∨ Simple a → ∃ s', dispatch (fuel + 3) s a c dl false ls = .ok (s', .noEvent) ∧ PressD T c s s' :=
    fun ha =>
      let ⟨s', e, f, ad, w, l, g⟩ := dispatch_plain (fuel + 2) s ha c dl ls hk
      ⟨s', e, .of_H f, ad, Nat.le_of_eq l, g _ hs.simple, Or.inl (w.trans hw), fun t h => ht t (f.tde ▸ h)⟩
  cases a <;> simp only [FragD] at hf
  case noOp => exact plain (.inl rfl)
  case trans => exact absurd rfl hnt
  case tapDance acts T' eager =>
    simp only [tdT] at hb
    simp only [ActSafeD] at hs
    have hok : ∀ a ∈ acts, SimpleOK s.cfg.layers.length a := fun a ha => ⟨hf.2 a ha, hs a ha⟩
    cases eager with
    | false =>
      obtain ⟨e1, e2, e3, e4, e5⟩ := armWait_spec s c dl T' (.tapDance acts T' 1) ls
      refine ⟨armWait s c dl T' (.tapDance acts T' 1) ls, ?_, e2, Adds.of_states e3, Nat.le_of_eq e4,
        by rw [e3]; exact GrowsL.refl _ _, Or.inr ⟨_, acts, T', e1, rfl, rfl, hf.1, hok, hb, rfl, by rw [e5]; exact Nat.le_refl _⟩, ?_⟩
      · simp only [dispatch, Bool.not_false, if_true]
        rw [if_neg (by omega)]
      · intro t h; rw [e5] at h; exact ht t h
    | true =>
      rw [C17.eager_first_press (fuel + 2)]
      cases acts with
      | nil => exact absurd rfl hf.1
      | cons a0 rest =>
        have h0 := hok a0 List.mem_cons_self
        simp only [List.getElem?_cons_zero]
        rw [doAction_simple fuel _ a0 h0.1]
        obtain ⟨g1, g2, g3, g4, g5, g6⟩ := armEager_spec s c (a0 :: rest) T'
        obtain ⟨p1, p2, p3, p4⟩ := prelude_spec (armEager s c (a0 :: rest) T') c
        refine ⟨_, rfl, pressD_arm T s _ a0 h0.1 h0.2 c ?_ ?_ ?_ ?_ ?_ hk ?_⟩
        · exact ⟨p1.extra.trans g1.extra, p1.aq.trans g1.aq, p1.seqs.trans g1.seqs, p1.cfg.trans g1.cfg,
            p1.dl.trans g1.dl, p3.trans g2, p2.trans g3⟩
        · exact (Adds.of_states g4).trans (prelude_adds _ c)
        · exact Nat.le_trans (prelude_lpt _ c) (Nat.le_of_eq g5)
        · rw [p4, g4]; exact GrowsL.filter _ _ _
        · rw [p1.waiting, g1.waiting]; exact hw
        · intro t h
          rw [p1.tde] at h
          rcases g6 with g | g
          · rw [g] at h
            injection h with h; subst h
            exact ⟨hok, hb, hb⟩
          · rw [g] at h; exact ht t h
  all_goals exact plain (.inr trivial)

theorem PressD.after_prelude {T : Nat} {c : Coord} {s s' : Layout} (h : PressD T c (prelude s c) s') :
    PressD T c s s' := by
  obtain ⟨pf, pa, _, pl, pg⟩ := prelude_frameH s c
  obtain ⟨f, a, l, g, w, t⟩ := h
  rw [pf.cfg, pf.tde] at w
  rw [pf.cfg] at g t
  exact ⟨(FrameD.of_H pf).trans f, pa.trans a, Nat.le_trans l pl, (pg _).trans g, w, t⟩

theorem pressD_simple (T : Nat) {s : Layout} {a : Action} (ha : SimpleOK s.cfg.layers.length a) (c : Coord)
    (hw : s.waiting = none) (hk : s.oneshot.keys = [])
    (ht : ∀ t, s.tapDanceEager = some t → TOK T s.cfg.layers.length t) :
    PressD T c s (simpleArm (prelude s c) a c false) ∧ (simpleArm (prelude s c) a c false).waiting = none ∧
    (simpleArm (prelude s c) a c false).tapDanceEager = s.tapDanceEager := by
  obtain ⟨p1, p2, _, _⟩ := prelude_spec s c
  have sp := simpleArm_spec (prelude s c) a ha.1 c false
  exact ⟨(pressD_arm T (prelude s c) (prelude s c) a ha.1 (by rw [p1.cfg]; exact ha.2) c (FrameD.refl _)
    (Adds.refl c _) (Nat.le_refl _) (GrowsL.refl _ _) (p1.waiting.trans hw) (by rw [p2]; exact hk)
    (by rw [p1.cfg, p1.tde]; exact ht)).after_prelude, sp.frame.waiting.trans (p1.waiting.trans hw),
    sp.frame.tde.trans p1.tde⟩

structure SafeD (s : Layout) : Prop where
  cfg : CfgSafeD s.cfg
  dl : s.defaultLayer < s.cfg.layers.length
  held : ∀ st ∈ s.states, ∀ v, st.getLayer = some v → v < s.cfg.layers.length
  queue : ∀ q ∈ s.queue, ∀ c, q.ev = .press c → CoordOK s.cfg c

/-- the key's own action, found through the layers, performed -/
theorem doTrans_D {T : Nat} {s : Layout} (hc : CfgD s.cfg) (hb : DBound s.cfg T) (hcs : CfgSafeD s.cfg)
    (hw : s.waiting = none) (hk : s.oneshot.keys = [])
    (ht : ∀ t, s.tapDanceEager = some t → TOK T s.cfg.layers.length t) (c : Coord) (hco : CoordOK s.cfg c)
    (since : Nat) (order : List Nat) (hol : ∀ l ∈ order, l < s.cfg.layers.length)
    (hlen : order.length ≤ MAX_ACTIVE_LAYERS) :
    ∃ s', doAction (3995 + 4) s .trans c since false order = .ok (s', .noEvent) ∧ PressD T c s s' := by
  obtain ⟨a, ls, hr, hP, hnt, hls⟩ := resolve_safe (fun a => FragD a ∧ tdT a ≤ T ∧ ActSafeD s.cfg.layers.length a)
    ⟨trivial, Nat.zero_le _, trivial⟩ ⟨trivial, Nat.zero_le _, trivial⟩ hco
    (fun tbl ht e he => ⟨hc.1 tbl ht e he, hb.1 tbl ht e he, hcs.refsL tbl ht e he⟩)
    (fun e he => ⟨⟨hc.2 e he, hb.2 e he, (hcs.refsS e he).1⟩, (hcs.refsS e he).2⟩) hol
  obtain ⟨p1, p2, p3, p4⟩ := prelude_spec s c
  have hcfg := p1.cfg
  obtain ⟨s', e1, r⟩ := dispatch_D 3995 T (prelude s c) a hP.1 hP.2.1 hnt (by rw [hcfg]; exact hP.2.2) c since ls
    (Nat.le_trans hls hlen) (p1.waiting.trans hw) (by rw [p2]; exact hk) (by rw [hcfg, p1.tde]; exact ht)
  refine ⟨s', ?_, r.after_prelude⟩
  simp only [doAction, hr]
  exact e1

theorem PressD.of_tde {T : Nat} {c : Coord} {s s' : Layout} {x : Option TDE} (hx : tdeLoad x ≤ tdeLoad s.tapDanceEager)
    (h : PressD T c { s with tapDanceEager := x } s') : PressD T c s s' :=
  ⟨⟨h.frame.extra, h.frame.aq, h.frame.seqs, h.frame.cfg, h.frame.dl, h.frame.queue, h.frame.osh⟩,
    ⟨h.adds.old, h.adds.new⟩, h.lpt, h.grows,
    h.waiting.imp_right fun ⟨w, acts, T', g1, g2, g3, g4, g5, g6, g7, g8⟩ =>
      ⟨w, acts, T', g1, g2, g3, g4, g5, g6, g7, Nat.le_trans g8 hx⟩,
    h.tde⟩

/-- **a press taken from the queue, nothing waiting**: the three paths of `dequeue` (no eager state;
a live eager state and the last pressed key again: its next listed action; otherwise the key's own
action, an eager state being marked expired by a real key) -/
theorem dequeue_press_D {T : Nat} {s : Layout} (hc : CfgD s.cfg) (hb : DBound s.cfg T) (hS : SafeD s)
    (hw : s.waiting = none) (hk : s.oneshot.keys = [])
    (ht : ∀ t, s.tapDanceEager = some t → TOK T s.cfg.layers.length t) (c : Coord) (hco : CoordOK s.cfg c)
    (since : Nat) :
    ∃ s', dequeue FUEL s ⟨.press c, since⟩ = .ok (s', .noEvent) ∧ PressD T c s s' := by
  obtain ⟨order, ho, hol, hlen⟩ := transOrder_safe s hS.cfg.pinned hS.dl hS.cfg.layers hS.held
  -- the key's own action, on `s` or on `s` with the eager state marked expired
  have own : ∀ x : Option TDE, tdeLoad x ≤ tdeLoad s.tapDanceEager → (∀ t, x = some t → TOK T s.cfg.layers.length t) →
      ∃ s', doAction (3995 + 4) { s with tapDanceEager := x } .trans c since false order = .ok (s', .noEvent) ∧
        PressD T c s s' := fun x hx hx' =>
    let ⟨s', e, r⟩ := doTrans_D (s := { s with tapDanceEager := x }) hc hb hS.cfg hw hk hx' c hco since order hol hlen
    ⟨s', e, r.of_tde hx⟩
  cases htde : s.tapDanceEager with
  | none =>
    obtain ⟨s', e, r⟩ := own s.tapDanceEager (Nat.le_refl _) ht
    refine ⟨s', ?_, r⟩
    rw [FUEL_5]
    simp only [dequeue, htde, bind, Except.bind, ho]
    exact e
  | some t =>
    have tk := ht t htde
    by_cases hlive : (c == s.lptCoord && !t.isExpired) = true
    · have hexp : t.isExpired = false := by
        simp only [Bool.and_eq_true, Bool.not_eq_true'] at hlive
        exact hlive.2
      obtain ⟨a, ha⟩ := C17.eager_live_index_ok hexp
      have hok := tk.acts a (List.mem_of_getElem? ha)
      obtain ⟨r, hw1, ht1⟩ := pressD_simple T hok c hw hk ht
      refine ⟨{ simpleArm (prelude s c) a c false with
                tapDanceEager := (simpleArm (prelude s c) a c false).tapDanceEager.map TDE.incrTaps }, ?_, ?_⟩
      · rw [FUEL_succ]
        simp only [dequeue, htde, bind, Except.bind, ho, hlive, if_true, ha, pure, Except.pure]
        rw [show (3999 : Nat) = 3997 + 2 from rfl, doAction_simple 3997 s a hok.1]
      · refine ⟨⟨r.frame.extra, r.frame.aq, r.frame.seqs, r.frame.cfg, r.frame.dl, r.frame.queue, r.frame.osh⟩,
          ⟨r.adds.old, r.adds.new⟩, r.lpt, r.grows, Or.inl hw1, ?_⟩
        intro t' h'
        have h2 : (simpleArm (prelude s c) a c false).tapDanceEager.map TDE.incrTaps = some t' := h'
        rw [ht1, htde] at h2
        cases h2
        exact ⟨tk.acts, tk.orig, tk.orig⟩
    · have hlive' : (c == s.lptCoord && !t.isExpired) = false := by simpa using hlive
      by_cases hreal : (c.1 == 0) = true
      · obtain ⟨s', e, r⟩ := own (some t.setExpired) (htde ▸ Nat.succ_le_succ (Nat.zero_le _))
          fun t' h' => by cases h'; exact ⟨tk.acts, Nat.zero_le _, tk.orig⟩
        refine ⟨s', ?_, r⟩
        rw [FUEL_5]
        simp only [dequeue, htde, bind, Except.bind, ho, hlive', Bool.false_eq_true, if_false, hreal, if_true]
        exact e
      · obtain ⟨s', e, r⟩ := own s.tapDanceEager (Nat.le_refl _) ht
        refine ⟨s', ?_, r⟩
        rw [FUEL_5]
        simp only [dequeue, htde, bind, Except.bind, ho, hlive', Bool.false_eq_true, if_false, hreal]
        exact e

/-! ## the invariant and the potential -/

structure DInv (T d : Nat) (s : Layout) (down : List Coord) : Prop where
  extra : s.extraWaiting = []
  aq : s.actionQueue = []
  seqs : s.activeSequences = []
  states : ∀ st ∈ s.states, StOK st
  osh : s.oneshot.keys = []
  delay : s.oneshot.pauseInputProcessingDelay = d
  pause : s.oneshot.pauseInputProcessingTicks ≤ d
  lpt : s.lptTapHoldTimeout = 0
  cfg : CfgD s.cfg
  bound : DBound s.cfg T
  qlen : s.queue.length ≤ QUEUE_SIZE
  tde : ∀ t, s.tapDanceEager = some t → TOK T s.cfg.layers.length t
  /-- the undecided tap-dance key: well-formed, input not paused -/
  wok : ∀ w, s.waiting = some w → DWOK T s.cfg.layers.length w s.queue ∧ s.oneshot.pauseInputProcessingTicks = 0
  /-- the queue is physically possible from the keys `front` that are logically down; every state, and
  the undecided key, belongs to one of them -/
  phys : ∃ front, PhysQ front s.queue down ∧ (∀ st ∈ s.states, ∀ c, st.coord = some c → c ∈ front) ∧
    (∀ w, s.waiting = some w → w.coord ∈ front)

/-- a freshly created layout satisfies the invariant -/
theorem init_dinv (cfg : LCfg) (hc : CfgD cfg) (T : Nat) (hb : DBound cfg T) (tv2 dfl qth : Bool) (osd : Nat) :
    DInv T osd ({ cfg := cfg, transV2 := tv2, delegateToFirstLayer := dfl, quickTapHoldTimeout := qth,
                  oneshot := { pauseInputProcessingDelay := osd } } : Layout) [] :=
  ⟨rfl, rfl, rfl, fun _ h => (by cases h), rfl, rfl, Nat.zero_le _, rfl, hc, hb, Nat.zero_le _,
   fun _ h => (by cases h), fun _ h => (by cases h),
   ⟨[], fun _ => Iff.rfl, fun _ h => (by cases h), fun _ h => (by cases h)⟩⟩

theorem init_safe_D (cfg : LCfg) (hc : CfgSafeD cfg) (tv2 dfl qth : Bool) (osd : Nat) :
    SafeD ({ cfg := cfg, transV2 := tv2, delegateToFirstLayer := dfl, quickTapHoldTimeout := qth,
             oneshot := { pauseInputProcessingDelay := osd } } : Layout) :=
  ⟨hc, hc.layers, fun _ h => (by cases h), fun _ h => (by cases h)⟩

/-- what the undecided tap-dance key still costs: its countdown — or a whole new one plus the tick
that starts it, while the queue has changed since it was last read — the decision tick, and the input
pause that follows the decision -/
def dLoad (T d : Nat) (q : List Queued) : Option Waiting → Nat
  | some w => (if w.prevQueueLen = q.length % 256 then w.timeout else T + 1) + d + 1
  | none => 0

/-- what the third stage of a tick still has to do: a queued press weighs `T + d + 3` (it may start a
lazy dance: `T + 1` ticks to its decision and the pause `d` after it — or an eager countdown of `T + 1`),
a queued release 1 -/
def mainPot (T d : Nat) (s : Layout) : Nat :=
  queueLoad (T + d + 1) s.queue + dLoad T d s.queue s.waiting + s.oneshot.pauseInputProcessingTicks

/-- an upper bound for the ticks until the layout is at rest -/
def dPot (T d : Nat) (s : Layout) : Nat := mainPot T d s + tdeLoad s.tapDanceEager

theorem dLoad_none (T d : Nat) (q : List Queued) : dLoad T d q none = 0 := rfl

theorem dLoad_le {T d : Nat} (q : List Queued) (w : Waiting) (h : w.timeout ≤ T) : dLoad T d q (some w) ≤ T + d + 2 := by
  unfold dLoad
  simp only []
  split <;> omega

theorem dLoad_ge (T d : Nat) (q : List Queued) (w : Waiting) : d + 1 ≤ dLoad T d q (some w) := by
  unfold dLoad
  simp only []
  omega

theorem age_length (q : List Queued) : (age q).length = q.length := by simp [age]

theorem nPr_age (w : Waiting) : ∀ q : List Queued, C17.nPr w (age q) = C17.nPr w q := by
  intro q
  induction q with
  | nil => rfl
  | cons x rest ih =>
    have hx : C17.isPr w { x with since := min (x.since + 1) U16_MAX } = C17.isPr w x := rfl
    show C17.nPr w ({ x with since := min (x.since + 1) U16_MAX } :: age rest) = _
    cases hp : C17.isPr w x with
    | true => rw [nPr_cons_pr (hx.trans hp), nPr_cons_pr hp, ih]
    | false => rw [nPr_cons_other (hx.trans hp), nPr_cons_other hp, ih]

theorem nPr_append (w : Waiting) (q r : List Queued) : C17.nPr w (q ++ r) = C17.nPr w q + C17.nPr w r := by
  simp [C17.nPr, List.filter_append]

theorem nPr_takeWhile_le (w : Waiting) (p : Queued → Bool) (q : List Queued) :
    C17.nPr w (q.takeWhile p) ≤ C17.nPr w q :=
  ((List.takeWhile_prefix p).sublist.filter _).length_le

theorem queueLoad_sublist (d : Nat) {l1 l2 : List Queued} (h : l1.Sublist l2) : queueLoad d l1 ≤ queueLoad d l2 := by
  induction h with
  | slnil => exact Nat.le_refl _
  | cons x _ ih => rw [queueLoad_cons]; omega
  | cons_cons x _ ih => rw [queueLoad_cons, queueLoad_cons]; omega

/-- the eager countdown: one tick costs one, the bounds stay -/
theorem tdeTick_load (t : TDE) : tdeLoad (tdeTick t) + 1 ≤ tdeLoad (some t) := by
  unfold tdeTick
  split
  · show 0 + 1 ≤ t.timeout + 1; omega
  · rename_i h
    have h0 : t.timeout - 1 ≠ 0 := by
      intro h0
      apply h
      simp [TDE.isExpired, TDE.tick, h0]
    show (t.timeout - 1) + 1 + 1 ≤ t.timeout + 1
    omega

theorem tdeTick_tok {T L : Nat} {t t' : TDE} (h : TOK T L t) (ht : tdeTick t = some t') : TOK T L t' := by
  unfold tdeTick at ht
  split at ht
  · cases ht
  · injection ht with ht; subst ht
    exact ⟨h.acts, Nat.le_trans (Nat.sub_le _ _) h.timeout, h.orig⟩

theorem tickPre_D {T d : Nat} {s : Layout} {down : List Coord} (h : DInv T d s down) :
    tickPre s = { s with queue := age s.queue, lptTapHoldTimeout := s.lptTapHoldTimeout - 1,
                         tapDanceEager := s.tapDanceEager.bind tdeTick,
                         histKeys := histTick s.histKeys, histInputs := histTick s.histInputs } := by
  unfold tickPre
  cases ht : s.tapDanceEager with
  | none =>
    simp only []
    simp (disch := first | exact h.seqs | exact h.states) only [C04.processSequences_inert]
    simp only [Option.bind_none]
    rw [← ht]
    rfl
  | some t =>
    simp only []
    simp (disch := first | exact h.seqs | exact h.states) only [C04.processSequences_inert]
    rfl

theorem DInv.pre {T d : Nat} {s : Layout} {down : List Coord} (h : DInv T d s down) (hS : SafeD s) :
    DInv T d (tickPre s) down ∧ SafeD (tickPre s) ∧ (tickPre s).queue = age s.queue ∧
    (tickPre s).cfg = s.cfg ∧ mainPot T d (tickPre s) = mainPot T d s ∧
    tdeLoad (tickPre s).tapDanceEager ≤ tdeLoad s.tapDanceEager - 1 := by
  rw [tickPre_D h]
  obtain ⟨front, f1, f2, f3⟩ := h.phys
  refine ⟨⟨h.extra, h.aq, h.seqs, h.states, h.osh, h.delay, h.pause, ?_, h.cfg, h.bound,
    Nat.le_trans (Nat.le_of_eq (age_length s.queue)) h.qlen, ?_, ?_, ⟨front, PhysQ_age _ _ _ f1, f2, f3⟩⟩,
    ⟨hS.cfg, hS.dl, hS.held, ?_⟩, rfl, rfl, ?_, ?_⟩
  · show s.lptTapHoldTimeout - 1 = 0
    rw [h.lpt]
  · intro t ht
    have ht' : s.tapDanceEager.bind tdeTick = some t := ht
    obtain ⟨t0, hs, ht0⟩ := Option.bind_eq_some_iff.mp ht'
    exact tdeTick_tok (h.tde t0 hs) ht0
  · intro w hw
    obtain ⟨⟨⟨acts, T', k, c1, c2, c3, c4, c5⟩, w2⟩, w3⟩ := h.wok w hw
    exact ⟨⟨⟨acts, T', k, c1, c2, c3, c4, (nPr_age w s.queue).symm ▸ c5⟩, w2⟩, w3⟩
  · intro q hq c hc
    obtain ⟨y, hy, hyq⟩ := List.mem_map.mp (show q ∈ age s.queue from hq)
    exact hS.queue y hy c (by rw [← hc, ← hyq])
  · show queueLoad (T + d + 1) (age s.queue) + dLoad T d (age s.queue) s.waiting + _ = _
    rw [queueLoad_age]
    unfold dLoad
    rw [age_length]
    rfl
  · show tdeLoad (s.tapDanceEager.bind tdeTick) ≤ _
    cases hs : s.tapDanceEager with
    | none => exact Nat.zero_le _
    | some t0 => have := tdeTick_load t0; simp only [Option.bind_some]; omega

/-! ## the third stage of a tick -/

theorem decidesOn_some {w : Waiting} {len k n : Nat} {q : List Queued} (h : C17.decidesOn w len k q = some n) :
    n = k ∨ n ≤ C17.seenTaps w q := by
  unfold C17.decidesOn at h
  split at h
  · cases h
  · split at h
    · injection h with h; exact Or.inl h.symm
    · split at h
      · injection h with h; exact Or.inr (by rw [← h]; exact Nat.min_le_left _ _)
      · cases h

/-- an undecided tick of the `TapDance` arm: either the queue length is what it was when last read —
only the countdown moves — or the queue is read again: the count is what the queue shows and the
countdown restarts iff the count grew -/
theorem tickWtTd_undecided (w : Waiting) (acts : List Action) (T k : Nat) (q : List Queued)
    (h : C17.decidesOn w acts.length k q = none) :
    (q.length % 256 = w.prevQueueLen ∧ 0 < w.timeout ∧
      tickWtTd w acts T k q = .ok ({ w with prevQueueLen := q.length % 256, config := .tapDance acts T k }, q, none)) ∨
    (q.length % 256 ≠ w.prevQueueLen ∧ 0 < w.timeout ∧
      tickWtTd w acts T k q =
        .ok ({ w with prevQueueLen := q.length % 256,
                      timeout := if C17.seenTaps w q > k then T else w.timeout,
                      config := .tapDance acts T (C17.seenTaps w q) }, q, none)) := by
  unfold C17.decidesOn at h
  unfold tickWtTd
  rw [C17.handleTapDance_spec]
  by_cases h1 : (q.length % 256 == w.prevQueueLen && decide (w.timeout > 0)) = true
  · left
    simp only [h1, if_true]
    simp only [Bool.and_eq_true, decide_eq_true_eq, beq_iff_eq] at h1
    refine ⟨h1.1, h1.2, ?_⟩
    have : (if k > k then T else w.timeout) = w.timeout := by simp
    rw [this]
  · simp only [h1, Bool.false_eq_true, if_false] at h ⊢
    by_cases h2 : (w.timeout == 0) = true
    · simp only [h2, if_true] at h; cases h
    · simp only [h2, Bool.false_eq_true, if_false] at h ⊢
      by_cases h3 : (C17.interrupted w q || decide (C17.seenTaps w q ≥ acts.length)) = true
      · simp only [h3, if_true] at h; cases h
      · right
        simp only [h3, Bool.false_eq_true, if_false]
        have ht : 0 < w.timeout := by
          have : w.timeout ≠ 0 := by simpa using h2
          omega
        refine ⟨?_, ht, by first | rfl | trivial⟩
        intro heq
        apply h1
        simp [heq, ht]

theorem tickMain_td_undecided (s : Layout) (w : Waiting) (acts : List Action) (T k : Nat)
    (hw : s.waiting = some w) (hc : w.config = .tapDance acts T k) (w' : Waiting)
    (he : tickWtTd (C17.cd w) acts T k s.queue = .ok (w', s.queue, none)) :
    tickMain s = .ok ({ s with waiting := some w' }, .noEvent) := by
  unfold tickMain
  simp only [hw, C17.tickWt_td w acts T k hc, he, Option.map_none, applyWaitingAction]

theorem tickMain_td_decided (s : Layout) (w : Waiting) (acts : List Action) (T k n : Nat) (a : Action)
    (hw : s.waiting = some w) (hc : w.config = .tapDance acts T k)
    (hd : C17.decidesOn (C17.cd w) acts.length k s.queue = some n) (ha : tdPick acts n = some a) (hs : Simple a) :
    tickMain s = .ok (tapPost (simpleArm (prelude { s with waiting := none, queue := evictTaps w n s.queue } w.coord)
      a w.coord false), .noEvent) := by
  rcases C17.lazy_tick_cases s w acts T k hw hc with ⟨hn, _⟩ | ⟨n', hn', hrest⟩
  · cases hd.symm.trans hn
  · cases hd.symm.trans hn'
    rcases hrest with ⟨a', ha', ht⟩ | ⟨he, _⟩
    · cases ha.symm.trans ha'
      rw [ht, C17.FUEL_two, doAction_simple 3998 _ a hs]
    · cases ha.symm.trans ((C17.tdPick_none_iff acts n).mpr he)

theorem nPr_coord_congr {w w' : Waiting} (h : w'.coord = w.coord) (q : List Queued) : C17.nPr w' q = C17.nPr w q := by
  have : C17.isPr w' = C17.isPr w := by
    funext x; simp only [C17.isPr, isCorrespondingPress, h]
  unfold C17.nPr
  rw [this]

/-- an undecided tick of a pending dance costs one unit of its load: the countdown moves, or the queue
is read again and a whole countdown `≤ T` replaces the `T + 1` set aside for it -/
theorem undecided_step {T d : Nat} (w : Waiting) (acts : List Action) (T' k : Nat) (q : List Queued)
    (hd : C17.decidesOn (C17.cd w) acts.length k q = none) (hT : T' ≤ T) (hto : w.timeout ≤ T)
    (hk : k - 1 ≤ C17.nPr w q) :
    ∃ w' k', tickWtTd (C17.cd w) acts T' k q = .ok (w', q, none) ∧ w'.coord = w.coord ∧
      w'.config = .tapDance acts T' k' ∧ k' - 1 ≤ C17.nPr w q ∧ w'.timeout ≤ T ∧
      dLoad T d q (some w') + 1 ≤ dLoad T d q (some w) := by
  rcases tickWtTd_undecided (C17.cd w) acts T' k q hd with ⟨e1, e2, e3⟩ | ⟨e1, e2, e3⟩
  · have e1' : q.length % 256 = w.prevQueueLen := e1
    have e2' : 0 < w.timeout - 1 := e2
    refine ⟨_, k, e3, rfl, rfl, hk, Nat.le_trans (Nat.sub_le _ _) hto, ?_⟩
    unfold dLoad
    simp only []
    rw [if_pos trivial, if_pos e1'.symm]
    exact Nat.add_lt_add_right (Nat.add_lt_add_right (Nat.pred_lt (Nat.ne_of_gt (Nat.lt_of_lt_pred e2'))) d) 1
  · have e1' : q.length % 256 ≠ w.prevQueueLen := e1
    have hle : (if C17.seenTaps (C17.cd w) q > k then T' else (C17.cd w).timeout) ≤ T := by
      split
      · exact hT
      · exact Nat.le_trans (Nat.sub_le _ _) hto
    refine ⟨_, _, e3, rfl, rfl, ?_, hle, ?_⟩
    · show 1 + C17.nPr w (q.takeWhile fun x => !C17.otherPress w x) - 1 ≤ C17.nPr w q
      rw [Nat.add_sub_cancel_left]
      exact nPr_takeWhile_le w _ q
    · unfold dLoad
      simp only []
      rw [if_pos trivial, if_neg (show ¬ (w.prevQueueLen = q.length % 256) from fun hh => e1' hh.symm)]
      exact Nat.succ_le_succ (Nat.add_lt_add_right (Nat.lt_succ_of_le hle) d)

theorem decided_count {w : Waiting} {len k n : Nat} {q : List Queued}
    (hd : C17.decidesOn (C17.cd w) len k q = some n) (hk : k - 1 ≤ C17.nPr w q) : n - 1 ≤ C17.nPr w q := by
  rcases decidesOn_some hd with hh | hh
  · rw [hh]; exact hk
  · exact Nat.le_trans (Nat.sub_le_iff_le_add'.mpr hh) (nPr_takeWhile_le w (fun x => !C17.otherPress w x) q)

theorem tickMain_release {s : Layout} (hw : s.waiting = none) (hx : s.extraWaiting = [])
    (hp : s.oneshot.pauseInputProcessingTicks = 0) (hk : s.oneshot.keys = []) (hst : ∀ st ∈ s.states, StOK st)
    {c : Coord} {n : Nat} {rest : List Queued} (hq : s.queue = ⟨.release c, n⟩ :: rest) :
    tickMain s = .ok ({ s with queue := rest, states := s.states.filter fun st => st.coord != some c }, .noEvent) := by
  rw [tickMain_pops hw hx hp _ rest hq, dequeue_release_calm (s := s.setQueue rest) hst c n,
    handleRelease_inactive (s.setQueue rest).oneshot c hk]
  rfl

/-- **what the invariant depends on**: events taken off the queue, states dropped, the input pause
lowered, the waiting state replaced — the invariant stays, for any `front` the remaining queue is
possible from and the remaining states belong to, if a waiting state that is left is well-formed, belongs
to `front`, and input is not paused -/
theorem DInv.update {T d : Nat} {s : Layout} {down : List Coord} (h : DInv T d s down) {wt : Option Waiting}
    {q' : List Queued} {st' : List St} {p : Nat} {front : List Coord} (hq : q'.length ≤ s.queue.length)
    (hst : ∀ st ∈ st', st ∈ s.states) (hp : p ≤ s.oneshot.pauseInputProcessingTicks) (f1 : PhysQ front q' down)
    (f2 : ∀ st ∈ st', ∀ c, st.coord = some c → c ∈ front)
    (hw : ∀ w, wt = some w → DWOK T s.cfg.layers.length w q' ∧ p = 0 ∧ w.coord ∈ front) :
    DInv T d { s with waiting := wt, queue := q', states := st',
                      oneshot := { s.oneshot with pauseInputProcessingTicks := p } } down :=
  ⟨h.extra, h.aq, h.seqs, fun st hs => h.states st (hst st hs), h.osh, h.delay, Nat.le_trans hp h.pause, h.lpt, h.cfg,
    h.bound, Nat.le_trans hq h.qlen, h.tde, fun w hw' => ⟨(hw w hw').1, (hw w hw').2.1⟩,
    ⟨front, f1, f2, fun w hw' => (hw w hw').2.2⟩⟩

theorem DInv.dropped {T d : Nat} {s : Layout} {down : List Coord} (h : DInv T d s down) {wt : Option Waiting}
    (hwt : wt = none) {q' : List Queued} {st' : List St} {front : List Coord} (hq : q'.length ≤ s.queue.length)
    (hst : ∀ st ∈ st', st ∈ s.states) (f1 : PhysQ front q' down)
    (f2 : ∀ st ∈ st', ∀ c, st.coord = some c → c ∈ front) :
    DInv T d { s with waiting := wt, queue := q', states := st' } down :=
  h.update hq hst (Nat.le_refl _) f1 f2 fun w hw => (Option.some_ne_none w (hw.symm.trans hwt)).elim

theorem SafeD.dropped {s : Layout} (hS : SafeD s) (wt : Option Waiting) {q' : List Queued} {st' : List St}
    (hq : ∀ x ∈ q', x ∈ s.queue) (hst : ∀ st ∈ st', st ∈ s.states) :
    SafeD { s with waiting := wt, queue := q', states := st' } :=
  ⟨hS.cfg, hS.dl, fun st hs => hS.held st (hst st hs), fun x hx => hS.queue x (hq x hx)⟩

theorem DInv.pressed {T d : Nat} {b s2 : Layout} {down front : List Coord} {c : Coord} (h : DInv T d b down)
    (hS : SafeD b) (hp : b.oneshot.pauseInputProcessingTicks = 0)
    (f1 : PhysQ front b.queue down) (f2 : ∀ st ∈ b.states, ∀ c', st.coord = some c' → c' ∈ front) (hc : c ∈ front)
    (r : PressD T c b s2) : DInv T d s2 down ∧ SafeD s2 := by
  have hq := r.frame.queue
  have ho := r.frame.osh
  have hcf := r.frame.cfg
  refine ⟨⟨r.frame.extra.trans h.extra, r.frame.aq.trans h.aq, r.frame.seqs.trans h.seqs, ?_, ho ▸ h.osh, ho ▸ h.delay,
    ho ▸ h.pause, Nat.le_zero.mp (h.lpt ▸ r.lpt), hcf ▸ h.cfg, hcf ▸ h.bound, hq ▸ h.qlen, fun t ht => hcf ▸ r.tde t ht,
    ?_, front, hq ▸ f1, ?_, ?_⟩, hcf ▸ hS.cfg, ?_, ?_, ?_⟩
  · intro st hst
    rcases r.adds.new st hst with g | g
    · exact h.states st g
    · exact g.2
  · intro w' hw'
    rcases r.waiting with g | ⟨w0, acts, T', g1, _, g3, g4, g5, g6, g7, _⟩
    · cases g.symm.trans hw'
    · cases g1.symm.trans hw'
      exact ⟨⟨⟨acts, T', 1, g3, g4, hcf ▸ g5, g6, Nat.zero_le _⟩, g7 ▸ g6⟩, ho ▸ hp⟩
  · intro st hst c' hc'
    rcases r.adds.new st hst with g | g
    · exact f2 st g c' hc'
    · cases g.1.symm.trans hc'
      exact hc
  · intro w' hw'
    rcases r.waiting with g | ⟨w0, _, _, g1, g2, _⟩
    · cases g.symm.trans hw'
    · cases g1.symm.trans hw'
      exact g2 ▸ hc
  · rw [hcf, r.frame.dl]; exact hS.dl
  · intro st hst v hv
    rw [hcf]
    rcases r.grows st hst with g | g
    · exact hS.held st g v hv
    · exact g v hv
  · intro x hx
    rw [hcf]
    exact hS.queue x (hq ▸ hx)

/-- what a press adds to the potential is covered by the weight `T + d + 3` of the queued press -/
theorem PressD.load {T d : Nat} {c : Coord} {b s2 : Layout} (r : PressD T c b s2) :
    dLoad T d s2.queue s2.waiting + tdeLoad s2.tapDanceEager ≤ T + d + 2 + tdeLoad b.tapDanceEager := by
  rcases r.waiting with g | ⟨w0, _, _, g1, _, _, _, _, g6, g7, g8⟩
  · rw [g, dLoad_none, Nat.zero_add]
    exact Nat.le_add_right_of_le (Nat.le_trans (tdeLoad_le r.tde) (Nat.succ_le_succ (Nat.le_add_right_of_le (Nat.le_add_right T d))))
  · rw [g1]
    exact Nat.add_le_add (dLoad_le s2.queue w0 (g7 ▸ g6)) g8

theorem DInv.paused {T d : Nat} {s : Layout} {down : List Coord} (h : DInv T d s down) (hw : s.waiting = none) :
    DInv T d (tapPost s) down :=
  ⟨h.extra, h.aq, h.seqs, h.states, h.osh, h.delay, Nat.le_of_eq h.delay, h.lpt, h.cfg, h.bound, h.qlen, h.tde,
    fun w hw' => (Option.some_ne_none w (hw'.symm.trans hw)).elim, h.phys⟩

theorem SafeD.paused {s : Layout} (h : SafeD s) : SafeD (tapPost s) := ⟨h.cfg, h.dl, h.held, h.queue⟩

/-- **the third stage of a tick**: it never crashes, raises no custom event, keeps the invariant, and
lowers the potential — unless nothing is left for this stage to do — reckoned with the eager countdown
as it was before: what a press may add to it is paid for by the press -/
theorem DInv.main {T d : Nat} {s : Layout} {down : List Coord} (h : DInv T d s down) (hS : SafeD s) :
    ∃ s2, tickMain s = .ok (s2, .noEvent) ∧ DInv T d s2 down ∧ SafeD s2 ∧ s2.cfg = s.cfg ∧
      s2.queue.length ≤ s.queue.length ∧
      (dPot T d s2 < mainPot T d s + tdeLoad s.tapDanceEager ∨ (mainPot T d s = 0 ∧ s2 = s)) := by
  obtain ⟨front, f1, f2, f3⟩ := h.phys
  unfold mainPot
  cases hw : s.waiting with
  | some w =>
    obtain ⟨⟨⟨acts, T', k, c1, c2, c3, c4, c5⟩, wto⟩, wp⟩ := h.wok w hw
    rw [wp]
    cases hd : C17.decidesOn (C17.cd w) acts.length k s.queue with
    | none =>
      obtain ⟨w', k', e, hco, hk1, hk2, hto, hload⟩ := undecided_step (T := T) (d := d) w acts T' k s.queue hd c4 wto c5
      refine ⟨_, tickMain_td_undecided s w acts T' k hw c1 w' e,
        h.update (wt := some w') (st' := s.states) (Nat.le_refl _) (fun _ hst => hst) (Nat.le_refl _) f1 f2 ?_,
        ⟨hS.cfg, hS.dl, hS.held, hS.queue⟩, rfl, Nat.le_refl _, Or.inl ?_⟩
      · intro w'' hw''
        cases hw''
        exact ⟨⟨⟨acts, T', k', hk1, c2, c3, c4, nPr_coord_congr hco s.queue ▸ hk2⟩, hto⟩, wp, hco ▸ f3 w hw⟩
      · show queueLoad (T + d + 1) s.queue + dLoad T d s.queue (some w') + s.oneshot.pauseInputProcessingTicks +
          tdeLoad s.tapDanceEager < _
        rw [wp]
        exact Nat.add_lt_add_right (Nat.add_lt_add_left hload _) _
    | some n =>
      obtain ⟨a, ha, hmem⟩ := C17.tdPick_some c2 n
      have hok := c3 a hmem
      have hsub := C17.evictTaps_sublist w n s.queue
      have fb := PhysQ_evictTaps w s.queue front down (f3 w hw) f1 n (decided_count hd c5)
      have ib := h.dropped (wt := none) (st' := s.states) rfl hsub.length_le (fun _ hst => hst) fb f2
      have Sb := hS.dropped none (st' := s.states) (fun _ hx => hsub.subset hx) (fun _ hst => hst)
      obtain ⟨r, hw1, ht1⟩ := pressD_simple T (s := { s with waiting := none, queue := evictTaps w n s.queue }) hok
        w.coord rfl h.osh h.tde
      rw [tickMain_td_decided s w acts T' k n a hw c1 hd ha hok.1]
      generalize simpleArm _ a w.coord false = s1 at r hw1 ht1 ⊢
      obtain ⟨i1, S1⟩ := ib.pressed Sb wp fb f2 (f3 w hw) r
      refine ⟨_, rfl, i1.paused hw1, S1.paused, r.frame.cfg,
        Nat.le_trans (Nat.le_of_eq (congrArg _ r.frame.queue)) hsub.length_le, Or.inl ?_⟩
      -- the queue has not grown, and the load of the waiting state pays for the pause and this tick
      show queueLoad (T + d + 1) s1.queue + dLoad T d s1.queue s1.waiting + s1.oneshot.pauseInputProcessingDelay +
        tdeLoad s1.tapDanceEager < _
      rw [hw1, ht1, r.frame.queue, r.frame.osh, dLoad_none]
      exact Nat.add_lt_add_right (Nat.add_lt_add_of_le_of_lt (queueLoad_sublist _ hsub)
        (h.delay ▸ dLoad_ge T d s.queue w)) _
  | none =>
    rw [dLoad_none]
    by_cases hp : 0 < s.oneshot.pauseInputProcessingTicks
    · rw [tickMain_paused hw h.extra hp]
      refine ⟨_, rfl, h.update (wt := s.waiting) (st' := s.states) (Nat.le_refl _) (fun _ hst => hst) (Nat.sub_le _ 1)
        f1 f2 fun w hw' => (Option.some_ne_none w (hw'.symm.trans hw)).elim,
        ⟨hS.cfg, hS.dl, hS.held, hS.queue⟩, rfl, Nat.le_refl _, Or.inl ?_⟩
      show queueLoad (T + d + 1) s.queue + dLoad T d s.queue s.waiting + (s.oneshot.pauseInputProcessingTicks - 1) +
        tdeLoad s.tapDanceEager < _
      rw [hw, dLoad_none]
      exact Nat.add_lt_add_right (Nat.add_lt_add_left (Nat.sub_one_lt (Nat.ne_of_gt hp)) _) _
    · have hp0 : s.oneshot.pauseInputProcessingTicks = 0 := Nat.eq_zero_of_not_pos hp
      rw [hp0]
      cases hq : s.queue with
      | nil =>
        rw [tickMain_empty hw h.extra hp0 hq]
        exact ⟨s, rfl, h, hS, rfl, Nat.le_of_eq (congrArg _ hq), Or.inr ⟨rfl, rfl⟩⟩
      | cons x rest =>
        have hsub : ∀ y ∈ rest, y ∈ s.queue := fun y hy => hq ▸ List.mem_cons_of_mem _ hy
        have hlen : rest.length ≤ s.queue.length := hq ▸ Nat.le_succ _
        rw [hq] at f1
        rw [queueLoad_cons]
        obtain ⟨ev, n⟩ := x
        cases ev with
        | release c =>
          rw [tickMain_release hw h.extra hp0 h.osh h.states hq]
          refine ⟨_, rfl, h.dropped hw hlen (fun _ hst => (List.mem_filter.mp hst).1) f1.2 ?_,
            hS.dropped _ hsub (fun _ hst => (List.mem_filter.mp hst).1), rfl, Nat.le_succ _, Or.inl ?_⟩
          · intro st hst c' hc'
            obtain ⟨m1, m2⟩ := List.mem_filter.mp hst
            exact List.mem_filter.mpr ⟨f2 st m1 c' hc', by rw [hc'] at m2; simpa using m2⟩
          · show queueLoad (T + d + 1) rest + dLoad T d rest s.waiting + s.oneshot.pauseInputProcessingTicks +
              tdeLoad s.tapDanceEager < _
            rw [hw, dLoad_none, hp0]
            exact Nat.add_lt_add_right (Nat.lt_add_of_pos_left Nat.one_pos) _
        | press c =>
          have f2' : ∀ st ∈ s.states, ∀ c', st.coord = some c' → c' ∈ c :: front :=
            fun st hst c' hc' => List.mem_cons_of_mem _ (f2 st hst c' hc')
          have ib := h.dropped (st' := s.states) hw hlen (fun _ hst => hst) f1.2 f2'
          have Sb := hS.dropped s.waiting (st' := s.states) hsub fun _ hst => hst
          obtain ⟨s2, e2, r⟩ := dequeue_press_D (T := T) (s := s.setQueue rest) h.cfg h.bound Sb hw h.osh h.tde c
            (hS.queue ⟨.press c, n⟩ (hq ▸ List.mem_cons_self) c rfl) n
          obtain ⟨i2, S2⟩ := ib.pressed Sb hp0 f1.2 f2' List.mem_cons_self r
          rw [tickMain_pops hw h.extra hp0 _ rest hq]
          refine ⟨s2, e2, i2, S2, r.frame.cfg, Nat.le_trans (Nat.le_of_eq (congrArg _ r.frame.queue)) (Nat.le_succ _),
            Or.inl ?_⟩
          have e1 : queueLoad (T + d + 1) s2.queue = queueLoad (T + d + 1) rest := congrArg _ r.frame.queue
          have e3 := (congrArg OneShotState.pauseInputProcessingTicks r.frame.osh).trans hp0
          have e4 : dLoad T d s2.queue s2.waiting + tdeLoad s2.tapDanceEager ≤ T + d + 2 + tdeLoad s.tapDanceEager := r.load
          show queueLoad (T + d + 1) s2.queue + dLoad T d s2.queue s2.waiting + s2.oneshot.pauseInputProcessingTicks +
            tdeLoad s2.tapDanceEager < T + d + 1 + 2 + _ + 0 + 0 + _
          rw [e1, e3]
          omega

/-! ## a whole tick, an event, runs -/

/-- **a tick on the tap-dance fragment** never crashes, raises no custom event, keeps the invariant and
the no-crash conditions, and lowers the potential by one (it stays at zero once it is there) -/
theorem DInv.tick {T d : Nat} {s : Layout} {down : List Coord} (h : DInv T d s down) (hS : SafeD s) :
    ∃ s', tick s = .ok (s', .noEvent) ∧ DInv T d s' down ∧ SafeD s' ∧ s'.cfg = s.cfg ∧
      s'.queue.length ≤ s.queue.length ∧ dPot T d s' ≤ dPot T d s - 1 := by
  obtain ⟨i0, S0, q0, c0, p0, p1⟩ := h.pre hS
  have e1 : tickOneshot (tickPre s) = .ok (tickPre s, .noEvent) := tickOneshot_inactive i0.osh
  obtain ⟨s2, hm, i2, S2, c2, l2, pot⟩ := i0.main S0
  refine ⟨s2, ?_, i2, S2, c2.trans c0, by rw [q0, age_length] at l2; exact l2, ?_⟩
  · unfold KVerif.L.tick
    simp only [h.aq, e1, hm, C04.processExtraWaitings_inert i2.extra, C04.processSequenceCustom_inert i2.states]
    rfl
  · -- the first stage has lowered the eager countdown's part, or that part was zero
    rw [p0] at pot
    rcases pot with g | ⟨g1, rfl⟩
    · exact Nat.le_sub_one_of_lt (Nat.lt_of_lt_of_le g (Nat.add_le_add_left (Nat.le_trans p1 (Nat.sub_le _ _)) _))
    · show mainPot T d (tickPre s) + _ ≤ _
      rw [p0, g1, Nat.zero_add]
      exact Nat.le_trans p1 (Nat.sub_le_sub_right (Nat.le_add_left _ _) 1)

theorem DInv.input {T d : Nat} {s : Layout} {down : List Coord} (h : DInv T d s down) (hS : SafeD s) (e : Ev)
    (hq : s.queue.length < QUEUE_SIZE) (hco : ∀ c, e = .press c → CoordOK s.cfg c)
    (hph : possible down e) :
    ∃ s', s.event e = .ok s' ∧ DInv T d s' (downAfter down (.ev e)) ∧ SafeD s' ∧
      s'.queue.length = s.queue.length + 1 ∧ s'.cfg = s.cfg := by
  unfold Layout.event
  rw [FUEL_succ]
  obtain ⟨s', e1, e2, e3, e4, e5⟩ := event_room 3999 s e hq
  have e6 := event_room_lpt 3999 s e hq s' e1
  obtain ⟨front, f1, f2, f3⟩ := h.phys
  refine ⟨s', e1, ⟨e5.extra.trans h.extra, e5.aq.trans h.aq, e5.seqs.trans h.seqs, e3 ▸ h.states, e4 ▸ h.osh,
    e4 ▸ h.delay, e4 ▸ h.pause, e6.trans h.lpt, e5.cfg ▸ h.cfg, e5.cfg ▸ h.bound,
    by rw [e2, List.length_append]; exact hq, ?_, ?_,
    ⟨front, by rw [e2]; exact PhysQ_append e 0 _ _ _ f1 hph, by rw [e3]; exact f2, by rw [e5.waiting]; exact f3⟩⟩,
    ⟨e5.cfg ▸ hS.cfg, by rw [e5.cfg, e5.dl]; exact hS.dl, by rw [e3, e5.cfg]; exact hS.held, ?_⟩,
    by rw [e2]; simp, e5.cfg⟩
  · intro t ht
    rw [e5.tde] at ht
    rw [e5.cfg]; exact h.tde t ht
  · intro w hw
    rw [e5.waiting] at hw
    obtain ⟨⟨⟨acts, T', k, c1, c2, c3, c4, c5⟩, w2⟩, w3⟩ := h.wok w hw
    rw [e5.cfg, e2, e4]
    exact ⟨⟨⟨acts, T', k, c1, c2, c3, c4, by rw [nPr_append]; exact Nat.le_add_right_of_le c5⟩, w2⟩, w3⟩
  · intro q hq' c hc
    rw [e5.cfg]
    rw [e2] at hq'
    rcases List.mem_append.mp hq' with hq' | hq'
    · exact hS.queue q hq' c hc
    · simp only [List.mem_cons, List.mem_nil_iff, or_false] at hq'
      subst hq'
      exact hco c hc

theorem physical_ev {down : List Coord} {e : Ev} {rest : List In} (h : physical down (.ev e :: rest) = true) :
    possible down e ∧ physical (downAfter down (.ev e)) rest = true := by
  cases e <;> simpa [physical, possible, downAfter] using h

/-- what the run loop asks of an input on this fragment: a press lies inside the layer tables, and an
event is one that the keys that are down allow -/
def admitD (cfg : LCfg) (down : List Coord) (i : In) : Prop :=
  pressOK cfg down i ∧ ∀ e, i = .ev e → possible down e

theorem admitted_D {cfg : LCfg} : ∀ {ins : List In} (down : List Coord), PressesOK cfg ins →
    physical down ins = true → Admitted (admitD cfg) down ins
  | [], _, _, _ => trivial
  | .tick :: _, down, hP, hph =>
    ⟨⟨nofun, nofun⟩, admitted_D down (fun c hc => hP c (List.mem_cons_of_mem _ hc)) hph⟩
  | .ev _ :: _, _, hP, hph =>
    ⟨⟨fun c hc => hP c (hc ▸ List.mem_cons_self), fun _ he => In.ev.inj he ▸ (physical_ev hph).1⟩,
      admitted_D _ (fun c hc => hP c (List.mem_cons_of_mem _ hc)) (physical_ev hph).2⟩

theorem stepInv_D (T d : Nat) (cfg : LCfg) :
    StepInv (fun s down => DInv T d s down ∧ SafeD s ∧ s.cfg = cfg) (admitD cfg) where
  ev := by
    intro s down e ⟨h, hS, hc⟩ hq hA
    obtain ⟨s1, e1, i1, S1, q1, c1⟩ := h.input hS e hq (fun c hc' => hc ▸ hA.1 c (by rw [hc'])) (hA.2 e rfl)
    exact ⟨s1, e1, ⟨i1, S1, c1.trans hc⟩, q1⟩
  tick := by
    intro s down ⟨h, hS, hc⟩
    obtain ⟨s1, e1, i1, S1, c1, l1, _⟩ := h.tick hS
    exact ⟨s1, _, e1, ⟨i1, S1, c1.trans hc⟩, l1⟩

/-- a history of at most 32 events in all never meets a full queue -/
theorem run_defined_D {T d : Nat} : ∀ (ins : List In) (s : Layout) (down : List Coord), DInv T d s down → SafeD s →
    PressesOK s.cfg ins → physical down ins = true → evCount ins + s.queue.length ≤ QUEUE_SIZE →
    run s down ins ≠ none := by
  intro ins s down h hS hP hph hn
  obtain ⟨s', hr, _⟩ := (stepInv_D T d s.cfg).run_defined ins s down ⟨h, hS, rfl⟩ (admitted_D down hP hph) hn
  rw [hr]
  exact nofun

theorem dPot_tick {T d : Nat} {cfg : LCfg} {down : List Coord} (s s' : Layout) (cu : CustomEv)
    (h : DInv T d s down ∧ SafeD s ∧ s.cfg = cfg) (ht : tick s = .ok (s', cu)) : dPot T d s' ≤ dPot T d s - 1 := by
  obtain ⟨s1, e1, _, _, _, _, p1⟩ := h.1.tick h.2.1
  cases e1.symm.trans ht
  exact p1

theorem dPot_le {T d : Nat} {s : Layout} {down : List Coord} (h : DInv T d s down) :
    dPot T d s ≤ (T + d + 3) * s.queue.length + 2 * T + d + 3 := by
  have h1 : queueLoad (T + d + 1) s.queue ≤ (T + d + 3) * s.queue.length := queueLoad_le (T + d + 1) s.queue
  have h2 : dLoad T d s.queue s.waiting + s.oneshot.pauseInputProcessingTicks ≤ T + d + 2 := by
    cases hw : s.waiting with
    | none =>
      rw [dLoad_none, Nat.zero_add]
      exact Nat.le_trans h.pause (Nat.le_add_right_of_le (Nat.le_add_left d T))
    | some w => rw [(h.wok w hw).2]; exact dLoad_le s.queue w (h.wok w hw).1.timeout
  have h3 := tdeLoad_le h.tde
  unfold dPot mainPot
  omega

theorem dPot_le_cap {T d : Nat} {s : Layout} {down : List Coord} (h : DInv T d s down) :
    dPot T d s ≤ (T + d + 3) * QUEUE_SIZE + 2 * T + d + 3 :=
  Nat.le_trans (dPot_le h)
    (Nat.add_le_add_right (Nat.add_le_add_right (Nat.add_le_add_right (Nat.mul_le_mul_left _ h.qlen) _) _) _)

theorem dLoad_eq_zero {T d : Nat} {q : List Queued} : ∀ {w : Option Waiting}, dLoad T d q w = 0 → w = none
  | none, _ => rfl
  | some w, h => absurd (h ▸ dLoad_ge T d q w) (Nat.not_succ_le_zero d)

theorem tdeLoad_eq_zero : ∀ {t : Option TDE}, tdeLoad t = 0 → t = none
  | none, _ => rfl
  | some _, h => nomatch h

/-- at potential zero with no key down the layout is at rest -/
theorem DInv.atRest {T d : Nat} {s : Layout} (h : DInv T d s []) (hz : dPot T d s = 0) : LayoutAtRest s := by
  obtain ⟨hm, z4⟩ := Nat.add_eq_zero_iff.mp hz
  obtain ⟨hm, z3⟩ := Nat.add_eq_zero_iff.mp hm
  obtain ⟨z1, z2⟩ := Nat.add_eq_zero_iff.mp hm
  have z1 := queueLoad_zero (T + d + 1) _ z1
  refine ⟨?_, z1, dLoad_eq_zero z2, h.extra, h.lpt, h.osh, z3, h.seqs, tdeLoad_eq_zero z4, h.aq⟩
  -- a state belongs to a key that is logically down, and with an empty queue that key is physically down
  obtain ⟨front, f1, f2, _⟩ := h.phys
  rw [z1] at f1
  refine List.eq_nil_iff_forall_not_mem.mpr fun st hst => ?_
  obtain ⟨c, hc⟩ := stok_coord (h.states st hst)
  exact nomatch (f1 c).mp (f2 _ hst c hc)

/-! ## why the history must be physically possible -/

/-- a quiet layout keeps its states for ever -/
theorem quiet_forever : ∀ (N : Nat) (l : Layout), C07.QuietLayout l →
    ∃ l', run l [] (List.replicate N .tick) = some (.ok (l', [])) ∧ l'.states = l.states := by
  intro N
  induction N with
  | zero => intro l _; exact ⟨l, rfl, rfl⟩
  | succ N ih =>
    intro l h
    obtain ⟨l1, e1, st1, _, _, _, _, _, _, _, _, _, q1⟩ := C07.layout_tick_silent_when_quiet l h
    obtain ⟨l', e', st'⟩ := ih l1 q1
    refine ⟨l', ?_, st'.trans st1⟩
    simp only [List.replicate, run, overflows, Bool.false_eq_true, if_false, stepIn, e1, downAfter]
    exact e'

/-- the dance key pressed a second time without having been released, then released once: the press
and the release are both evicted as the second tap -/
theorem evict_double_press (w : Waiting) (n1 n2 : Nat) :
    evictTaps w 2 [⟨.press w.coord, n1⟩, ⟨.release w.coord, n2⟩] = [] := by
  simp [evictTaps, evictSameCoord, isCorrespondingRelease, isCorrespondingPress]

/-- the tick that decides such a dance on two taps, the second action a plain key: the key is pressed at
the coordinate, nothing is left in the queue that would release it, and the layout is quiet -/
theorem double_press_tick (s : Layout) (w : Waiting) (acts : List Action) (T k : Nat) (kc : KeyCode) (n1 n2 : Nat)
    (hw : s.waiting = some w) (hc : w.config = .tapDance acts T k)
    (hq : s.queue = [⟨.press w.coord, n1⟩, ⟨.release w.coord, n2⟩])
    (hd : C17.decidesOn (C17.cd w) acts.length k s.queue = some 2) (hp : tdPick acts 2 = some (.keyCode kc))
    (hst : s.states = []) (hex : s.extraWaiting = []) (hk : s.oneshot.keys = [])
    (hdl : s.oneshot.pauseInputProcessingDelay = 0) (hsq : s.activeSequences = []) (hte : s.tapDanceEager = none)
    (haq : s.actionQueue = []) :
    ∃ s', tickMain s = .ok (s', .noEvent) ∧ s'.states = [.normalKey kc w.coord 0] ∧ C07.QuietLayout s' := by
  rw [tickMain_td_decided s w acts T k 2 (.keyCode kc) hw hc hd hp trivial]
  obtain ⟨p1, p2, p3, p4⟩ := prelude_spec ({ s with waiting := none, queue := evictTaps w 2 s.queue } : Layout) w.coord
  have sp := simpleArm_spec (prelude ({ s with waiting := none, queue := evictTaps w 2 s.queue } : Layout) w.coord)
    (.keyCode kc) trivial w.coord false
  have ho := sp.osh
  rw [if_neg Bool.false_ne_true, handlePress_inactive _ _ (by rw [p2]; exact hk)] at ho
  replace ho : _ = s.oneshot := ho.trans p2
  have hs1 : (simpleArm (prelude ({ s with waiting := none, queue := evictTaps w 2 s.queue } : Layout) w.coord)
      (.keyCode kc) w.coord false).states = [.normalKey kc w.coord 0] := by
    show (armKeyCode _ _ _ _ _).states = _
    rw [(C17.armKeyCode_fields _ _ _ _ _).2.2.2.2, p4]
    show pushCap STATES_CAP (s.states.filter _) _ = _
    rw [hst]
    rfl
  have hq1 := sp.queue.trans (p3.trans ((congrArg (evictTaps w 2) hq).trans (evict_double_press w n1 n2)))
  have fr := p1.trans sp.frame
  generalize simpleArm _ (.keyCode kc) w.coord false = s1 at ho hs1 hq1 fr
  refine ⟨tapPost s1, rfl, hs1, hq1, fr.waiting, fr.extra.trans hex, (congrArg _ ho).trans hk,
    (congrArg _ ho).trans hdl, fr.seqs.trans hsq,
    fr.tde.trans hte, fr.aq.trans haq, ?_⟩
  intro st hst'
  cases List.mem_singleton.mp (hs1 ▸ (hst' : st ∈ s1.states))
  trivial

end KVerif.Quiesce
