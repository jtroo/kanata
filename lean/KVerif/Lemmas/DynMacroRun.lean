/-
Helper lemmas for C19 at the level of whole histories (`run`): invariant, totality of the fixed
code, conservation of the replay plan and completion of a replay when the layout fires no
`dynamic-macro-play`.
-/
import KVerif.Lemmas.DynMacroInv
namespace KVerif.DynMacro

variable {L : Type}

/-- every `tick_ms` call of the history has `ms_elapsed < 65536`, or the code is the fixed one -/
def MsOK (c : Cfg) : List Input → Prop
  | [] => True
  | .tick ms :: r => (c.fix = true ∨ ms < 65536) ∧ MsOK c r
  | _ :: r => MsOK c r

theorem msOK_of_fix (c : Cfg) (hf : c.fix = true) (inputs : List Input) : MsOK c inputs := by
  induction inputs with
  | nil => trivial
  | cons i r ih =>
    cases i with
    | tick ms => exact ⟨.inl hf, ih⟩
    | _ => exact ih

def totalMs : List Input → Nat
  | [] => 0
  | .tick ms :: r => ms + totalMs r
  | _ :: r => totalMs r

theorem msOK_ticks (c : Cfg) (ticks : List Nat) (h : ∀ ms ∈ ticks, c.fix = true ∨ ms < 65536) :
    MsOK c (ticks.map .tick) := by
  induction ticks with
  | nil => trivial
  | cons ms r ih => exact ⟨h ms List.mem_cons_self, ih fun m hm => h m (List.mem_cons_of_mem _ hm)⟩

theorem totalMs_ticks (ticks : List Nat) : totalMs (ticks.map .tick) = ticks.sum := by
  induction ticks with
  | nil => rfl
  | cons ms r ih => simp only [List.map_cons, totalMs, ih, List.sum_cons]

/-- `handle_input_event` touches the record state, the store and the layout -/
theorem handleInput_fields (I : LayoutI L) (c : Cfg) (k : K L) (e : KeyEv) :
    ∃ r s, handleInput I c k e = { k with rcd := r, store := s, lay := I.event k.lay e } := by
  simp only [handleInput]
  split
  · exact ⟨_, _, rfl⟩
  · exact ⟨_, _, rfl⟩

theorem run_tick (I : LayoutI L) (c : Cfg) (k : K L) (ms : Nat) :
    run I c k [.tick ms] = tickMs I c ms k := by
  simp only [run, step]
  cases tickMs I c ms k <;> rfl

/-- **Induction principle for histories.**  The index counts the rounds of `tick_states ; feed` made
so far (`tickMs_inv`); a history makes at least as many as its `tick_ms` calls have milliseconds.
The key and hint hypotheses are asked only for inputs that occur. -/
theorem run_rounds {I : LayoutI L} {c : Cfg} (P : Nat → K L → Prop)
    (hround : ∀ n k k1, P n k → tickStates I c k = .ok k1 → P (n + 1) (feed I c.beh k1))
    (inputs : List Input) :
    (∀ n k e, .key e ∈ inputs → P n k → P n (handleInput I c k e)) →
    (∀ n k h, .hint h ∈ inputs → P n k → P n { k with hint := h }) →
    ∀ (n : Nat) (k k' : K L), MsOK c inputs → P n k → run I c k inputs = .ok k' →
      ∃ m, n + totalMs inputs ≤ m ∧ P m k' := by
  induction inputs with
  | nil => intro _ _ n k k' _ hp h; cases h; exact ⟨n, Nat.le_refl _, hp⟩
  | cons i r ih =>
    intro hkey hhint n k k' hm hp h
    have ih := ih (fun n k e he => hkey n k e (List.mem_cons_of_mem _ he))
      (fun n k e he => hhint n k e (List.mem_cons_of_mem _ he))
    simp only [run] at h
    split at h
    · cases h
    · rename_i k1 h1
      cases i with
      | key e => cases h1; exact ih n _ k' hm (hkey n k e List.mem_cons_self hp) h
      | hint hh => cases h1; exact ih n _ k' hm (hhint n k hh List.mem_cons_self hp) h
      | tick ms =>
        obtain ⟨j, hj, hp1⟩ :=
          tickMs_inv (fun i => P (n + i)) (fun i x x1 => hround (n + i) x x1) hm.1 hp h1
        obtain ⟨m, hle, hpm⟩ := ih (n + j) k1 k' hm.2 hp1 h
        refine ⟨m, Nat.le_trans ?_ hle, hpm⟩
        rw [totalMs, ← Nat.add_assoc]
        exact Nat.add_le_add_right (Nat.add_le_add_left hj n) _

theorem run_good (I : LayoutI L) (c : Cfg) (inputs : List Input) (k k' : K L) (hm : MsOK c inputs)
    (hg : Good k) (h : run I c k inputs = .ok k') : Good k' :=
  (run_rounds (fun _ => Good) (fun _ _ _ hx h1 => feed_good I c.beh (tickStates_good hx h1)) inputs
    (fun _ _ e _ hx => handleInput_good I c e hx) (fun _ _ _ _ hx => hx) 0 k k' hm hg h).elim
    fun _ hn => hn.2

theorem run_lost (I : LayoutI L) (c : Cfg) (inputs : List Input) (k k' : K L) (hm : MsOK c inputs)
    (h : run I c k inputs = .ok k') : k'.lost = k.lost :=
  (run_rounds (fun _ x => x.lost = k.lost)
    (fun _ x x1 hx h1 => by obtain ⟨r, s, p, rfl⟩ := tickStates_fields h1; exact hx) inputs
    (fun _ x e _ hx => by obtain ⟨r, s, he⟩ := handleInput_fields I c x e; rw [he]; exact hx)
    (fun _ _ _ _ hx => hx) 0 k k' hm rfl h).elim fun _ hn => hn.2

/-! ### the fixed code is total -/

theorem doAct_total (c : Cfg) (hf : c.fix = true) (k : K L) (a : Act) : ∃ k', doAct c k a = .ok k' := by
  cases a with
  | record id =>
    simp only [doAct]
    cases k.rcd with
    | none => exact ⟨_, rfl⟩
    | some st => simp only [beginRecord, removeLast, hf, Bool.not_true, Bool.and_false]; exact ⟨_, rfl⟩
  | stop n =>
    simp only [doAct]
    cases k.rcd with
    | none => exact ⟨_, rfl⟩
    | some st => simp only [stopMacro, removeLast, hf, Bool.not_true, Bool.and_false]; exact ⟨_, rfl⟩
  | play id => exact ⟨_, rfl⟩

theorem doActs_total (c : Cfg) (hf : c.fix = true) (acts : List Act) (k : K L) :
    ∃ k', doActs c k acts = .ok k' := by
  induction acts generalizing k with
  | nil => exact ⟨k, rfl⟩
  | cons a r ih =>
    obtain ⟨k1, h1⟩ := doAct_total c hf k a
    simp only [doActs, h1]
    exact ih k1

theorem tickStates_total (I : LayoutI L) (c : Cfg) (hf : c.fix = true) (k : K L) :
    ∃ k', tickStates I c k = .ok k' := by
  simp only [tickStates]
  obtain ⟨k2, h2⟩ := doActs_total c hf (I.tick k.lay).2.1
    { k with lay := (I.tick k.lay).1, os := k.os ++ (I.tick k.lay).2.2.map (fun e => (k.nticks, e)) }
  rw [h2]; exact ⟨_, rfl⟩

theorem mainLoop_total (I : LayoutI L) (c : Cfg) (hf : c.fix = true) (n : Nat) (k : K L) (e : Nat) :
    ∃ p, mainLoop I c n k e = .ok p := by
  induction n generalizing k e with
  | zero => exact ⟨_, rfl⟩
  | succ n ih =>
    obtain ⟨k1, h1⟩ := tickStates_total I c hf k
    rw [mainLoop_succ, h1]
    exact ih _ _

theorem extraLoop_total (I : LayoutI L) (c : Cfg) (hf : c.fix = true) (n : Nat) (k : K L) :
    ∃ k', extraLoop I c n k = .ok k' := by
  induction n generalizing k with
  | zero => exact ⟨_, rfl⟩
  | succ n ih =>
    obtain ⟨k1, h1⟩ := tickStates_total I c hf k
    simp only [extraLoop_succ, h1]
    split
    · exact ih _
    · exact ⟨_, rfl⟩

theorem tickMs_total (I : LayoutI L) (c : Cfg) (hf : c.fix = true) (ms : Nat) (k : K L) :
    ∃ k', tickMs I c ms k = .ok k' := by
  obtain ⟨⟨k1, e1⟩, h1⟩ := mainLoop_total I c hf ms k 0
  simp only [tickMs, h1]
  exact extraLoop_total I c hf _ k1

theorem run_total (I : LayoutI L) (c : Cfg) (hf : c.fix = true) (inputs : List Input) (k : K L) :
    ∃ k', run I c k inputs = .ok k' := by
  induction inputs generalizing k with
  | nil => exact ⟨k, rfl⟩
  | cons i r ih =>
    have : ∃ k1, step I c k i = .ok k1 := by
      cases i with
      | tick ms => exact tickMs_total I c hf ms k
      | _ => exact ⟨_, rfl⟩
    obtain ⟨k1, h1⟩ := this
    simp only [run, h1]
    exact ih k1

/-! ### layouts that fire no `dynamic-macro-play` -/

/-- no tick of the layout yields a `DynamicMacroPlay` action (e.g. the keys being replayed are not
play keys) -/
def NoPlay (I : LayoutI L) : Prop := ∀ l a, a ∈ (I.tick l).2.1 → ∀ id, a ≠ .play id

theorem tickStates_rep_noPlay {I : LayoutI L} {c : Cfg} (hn : NoPlay I) {k k' : K L}
    (h : tickStates I c k = .ok k') : k'.rep = k.rep := by
  obtain ⟨k2, h2, rfl⟩ := tickStates_inv (fun x => x.rep = k.rep)
    (fun x a x' ha hx hxa => by
      rcases doAct_cases hxa with ⟨_, _, rfl, _⟩ | ⟨id, rfl, _⟩
      · exact hx
      · exact absurd rfl (hn k.lay _ ha id)) rfl h
  exact h2

/-- a layout that does nothing -/
def unitI : LayoutI Unit := { event := fun _ _ => (), tick := fun _ => ((), [], []) }

theorem noPlay_unit : NoPlay unitI := fun _ _ ha => nomatch ha

/-- what a history does to the replay when the layout fires no play action: the events fed plus the
events still queued stay the same, and at least `totalMs` steps of the countdown are made -/
theorem run_noPlay (I : LayoutI L) (c : Cfg) (hn : NoPlay I) (inputs : List Input) (k k' : K L)
    (hm : MsOK c inputs) (h : run I c k inputs = .ok k') :
    k'.fed ++ planOf k'.rep = k.fed ++ planOf k.rep ∧
      mu c.beh k'.rep ≤ mu c.beh k.rep - totalMs inputs := by
  obtain ⟨m, hle, hp, hmu⟩ := run_rounds
    (fun n x => x.fed ++ planOf x.rep = k.fed ++ planOf k.rep ∧ mu c.beh x.rep ≤ mu c.beh k.rep - n)
    (fun i x x1 ⟨hp, hmu⟩ h1 => by
      have hrep := tickStates_rep_noPlay hn h1
      obtain ⟨r, s, p, rfl⟩ := tickStates_fields h1
      refine ⟨(feed_plan I c.beh _).trans ?_, Nat.le_trans (tickReplay_mu c.beh _) ?_⟩
      · rw [hrep]; exact hp
      · rw [hrep, Nat.sub_add_eq]; exact Nat.sub_le_sub_right hmu 1)
    inputs
    (fun _ x e _ hx => by obtain ⟨r, s, he⟩ := handleInput_fields I c x e; rw [he]; exact hx)
    (fun _ _ _ _ hx => hx) 0 k k' hm ⟨rfl, Nat.le_refl _⟩ h
  rw [Nat.zero_add] at hle
  exact ⟨hp, Nat.le_trans hmu (Nat.sub_le_sub_left hle _)⟩

/-- A concrete run succeeds with a given observation: the run and the observation are evaluated
once, by the kernel, as one Boolean. -/
theorem exists_ok_of_check {ε α β : Type} [DecidableEq β] (r : Except ε α) (f : α → β) (b : β)
    (h : (match r with | .ok a => decide (f a = b) | .error _ => false) = true) :
    ∃ a, r = .ok a ∧ f a = b := by
  cases r with
  | error e => cases h
  | ok a => exact ⟨a, rfl, of_decide_eq_true h⟩

/-- the state `Kanata::new` starts with -/
def K.init {L} (lay : L) : K L := { lay := lay }

theorem good_init {L} (lay : L) : Good (K.init lay) :=
  ⟨trivial, fun _ _ h => (by cases h), trivial, rfl⟩

end KVerif.DynMacro
