/-
Helper lemmas for C15: two runs of the processing loop side by side.  `Follows` says what it means for
one run to go the way of another when both may crash; a relation between states that one `tick_states`
and one replayed event preserve in that sense is preserved by the loops of `tick_ms`, and one that an
iteration preserves is preserved by a whole history.  The failure half (ReloadSim) and the success half
(ReloadEqv) instantiate the relation.
-/
import KVerif.Lemmas.ReloadLoop
namespace KVerif.Reload
open KVerif.Gen.Reload

variable {W : World}

/-- both crash in the same way, or both succeed with related results -/
def ExRel {α : Type} (P : α → α → Prop) : Except Crash α → Except Crash α → Prop
  | .ok x, .ok y => P x y
  | .error e, .error e' => e = e'
  | _, _ => False

@[simp] theorem exRel_ok {α : Type} (P : α → α → Prop) (x y : α) :
    ExRel P (.ok x : Except Crash α) (.ok y) ↔ P x y := Iff.rfl

@[simp] theorem exRel_error {α : Type} (P : α → α → Prop) (e e' : Crash) :
    ExRel P (.error e : Except Crash α) (.error e') ↔ e = e' := Iff.rfl

theorem ExRel.cases {α : Type} {P : α → α → Prop} {x y : Except Crash α} (h : ExRel P x y) :
    (∃ e, x = .error e ∧ y = .error e) ∨ (∃ u v, x = .ok u ∧ y = .ok v ∧ P u v) := by
  cases x <;> cases y
  · exact .inl ⟨_, rfl, h ▸ rfl⟩
  · exact h.elim
  · exact h.elim
  · exact .inr ⟨_, _, rfl, rfl, h⟩

theorem rel_ite {α : Type} {R : α → α → Prop} {c : Prop} [Decidable c] {x y x' y' : α}
    (ht : R x y) (he : R x' y') : R (if c then x else x') (if c then y else y') := by
  by_cases hc : c
  · rw [if_pos hc, if_pos hc]; exact ht
  · rw [if_neg hc, if_neg hc]; exact he

/-- The run without reload requests follows the run with failing ones only loosely (a reload action can
crash in its log line); a reloaded and a fresh instance follow each other strictly, which is `ExRel`. -/
def Follows (strict : Prop) {α : Type} (P : α → α → Prop) (x y : Except Crash α) : Prop :=
  match x with
  | .ok u => ∃ v, y = .ok v ∧ P u v
  | .error e => strict → y = .error e

section
variable {strict : Prop} {α β : Type} {P : α → α → Prop} {Q : β → β → Prop} {x y : Except Crash α}

theorem Follows.of_ok (h : ∀ u, x = .ok u → ∃ v, y = .ok v ∧ P u v) : Follows False P x y := by
  cases x with
  | error e => exact False.elim
  | ok u => exact h u rfl

theorem Follows.ok (h : Follows strict P x y) {u : α} (hx : x = .ok u) : ∃ v, y = .ok v ∧ P u v := by
  subst hx; exact h

theorem Follows.mono {P' : α → α → Prop} (h : Follows strict P x y) (hP : ∀ u v, P u v → P' u v) :
    Follows strict P' x y := by
  cases x with
  | error e => exact h
  | ok u => obtain ⟨v, hv, huv⟩ := h; exact ⟨v, hv, hP u v huv⟩

theorem ExRel.follows (h : ExRel P x y) : Follows True P x y := by
  rcases h.cases with ⟨e, rfl, rfl⟩ | ⟨u, v, rfl, rfl, huv⟩
  · exact fun _ => rfl
  · exact ⟨v, rfl, huv⟩

theorem Follows.exRel (h : Follows True P x y) : ExRel P x y := by
  cases x with
  | error e => rw [h trivial]; exact rfl
  | ok u => obtain ⟨v, rfl, huv⟩ := h; exact huv

theorem Follows.bind {f g : α → Except Crash β} (h : Follows strict P x y)
    (hfg : ∀ u v, P u v → Follows strict Q (f u) (g v)) : Follows strict Q (x.bind f) (y.bind g) := by
  cases x with
  | error e => exact fun hs => by rw [h hs]; rfl
  | ok u => obtain ⟨v, rfl, huv⟩ := h; exact hfg u v huv

end

variable (R : KSt W → KSt W → Prop)

def StOut {β : Type} (x y : KSt W × β) : Prop := R x.1 y.1 ∧ x.2 = y.2

def HOut (x y : HRes W.toTypes) : Prop := R x.st y.st ∧ x.os = y.os ∧ x.msgs = y.msgs

def IterOut (x y : IterRes W.toTypes) : Prop :=
  R x.st y.st ∧ x.os = y.os ∧ x.msgs = y.msgs ∧ x.msNext = y.msNext

variable {R} {strict : Prop} {nra nrb : Bool}

/-- `tick_states`; `hk`: both sides get the same actions and OS events from `handle_keystate_changes` -/
theorem follows_tickStates {a b : KSt W} (hk : (W.ksc a).2 = (W.ksc b).2)
    (hA : Follows strict R (applyActs (frame a (W.ksc a).1) (selActs nra (W.ksc a).2.1))
      (applyActs (frame b (W.ksc b).1) (selActs nrb (W.ksc a).2.1)))
    (hR : ∀ {u v : KSt W}, R u v → R (tickRest u).1 (tickRest v).1 ∧ (tickRest u).2 = (tickRest v).2) :
    Follows strict (StOut R) (tickStatesG nra a) (tickStatesG nrb b) := by
  rw [tickStatesG_eq, tickStatesG_eq, ← hk]
  exact hA.bind fun u v h => ⟨_, rfl, (hR h).1, by rw [(hR h).2]⟩

/-- `check_handle_layer_change` reads the layout, `prev_layer` and `layer_info`, and writes `prev_layer` -/
theorem follows_checkLayerChange (tx : Bool) {a b : KSt W} (h : R a b) (hl : a .layout = b .layout)
    (hp : a .prev_layer = b .prev_layer) (hi : a .layer_info = b .layer_info)
    (hs : ∀ v : Nat, R (a.set .prev_layer v) (b.set .prev_layer v)) :
    Follows strict (StOut R) (checkLayerChange tx a) (checkLayerChange tx b) := by
  unfold checkLayerChange
  rw [hl, hp, hi]
  refine rel_ite ?_ ⟨_, rfl, h, rfl⟩
  cases W.layerName (b .layer_info) (W.currentLayer (b .layout)) with
  | none => exact fun _ => rfl
  | some name => exact ⟨_, rfl, hs _, rfl⟩

section
variable (hT : ∀ {a b : KSt W}, R a b → Follows strict (StOut R) (tickStatesG nra a) (tickStatesG nrb b))
  (hP : ∀ {a b : KSt W}, R a b →
    R (frameK a (W.replay a).1) (frameK b (W.replay b).1) ∧ (W.replay a).2 = (W.replay b).2)
include hT hP

theorem follows_tickLoop1 (n : Nat) {a b : KSt W} (h : R a b) (extra : Nat) (os : List W.Os) :
    Follows strict (StOut R) (tickLoop1G nra n a extra os) (tickLoop1G nrb n b extra os) := by
  induction n generalizing a b extra os with
  | zero => exact ⟨_, rfl, h, rfl⟩
  | succ n ih =>
    rw [tickLoop1G_succ, tickLoop1G_succ]
    refine (hT h).bind fun u v ⟨h1, ho⟩ => ?_
    obtain ⟨h2, he⟩ := hP h1
    rw [ho, he]
    exact ih h2 _ _

theorem follows_tickLoop2 (n : Nat) {a b : KSt W} (h : R a b) (os : List W.Os) :
    Follows strict (StOut R) (tickLoop2G nra n a os) (tickLoop2G nrb n b os) := by
  induction n generalizing a b os with
  | zero => exact ⟨_, rfl, h, rfl⟩
  | succ n ih =>
    rw [tickLoop2G_succ, tickLoop2G_succ]
    refine (hT h).bind fun u v ⟨h1, ho⟩ => ?_
    obtain ⟨h2, he⟩ := hP h1
    rw [ho, he]
    cases (W.replay v.1).2 with
    | some d => exact ⟨_, rfl, h2, rfl⟩
    | none => exact ih h2 _

theorem follows_tickMs (ms : Nat) {a b : KSt W} (h : R a b) :
    Follows strict (StOut R) (tickMsG nra ms a) (tickMsG nrb ms b) := by
  rw [tickMsG_eq, tickMsG_eq]
  refine (follows_tickLoop1 hT hP ms h 0 []).bind fun u v ⟨h1, ho⟩ => ?_
  rw [ho]
  exact follows_tickLoop2 hT hP _ h1 _

theorem follows_decisionState {env : Env W.toTypes}
    (hC : ∀ {a b : KSt W}, R a b →
      Follows strict (StOut R) (checkLayerChange env.tx a) (checkLayerChange env.tx b))
    (ms : Nat) {a b : KSt W} (h : R a b) :
    Follows strict (StOut R) (decisionStateG nra env ms a) (decisionStateG nrb env ms b) := by
  rw [decisionStateG_eq, decisionStateG_eq]
  exact (follows_tickMs hT hP ms h).bind fun u v ⟨h1, ho⟩ =>
    (hC h1).bind fun p q ⟨h2, hm⟩ => ⟨_, rfl, h2, by rw [ho, hm]⟩

end

theorem follows_loopIterNB {env : Env W.toTypes} {inp : Option W.Input} {ms msPrev : Nat} {a b : KSt W}
    (eo : (preTicks inp msPrev a).2 = (preTicks inp msPrev b).2)
    (hH : Follows strict (HOut R) (handleTimeTicksG nra env ms (preTicks inp msPrev a).1)
      (handleTimeTicksG nrb env ms (preTicks inp msPrev b).1)) :
    Follows strict (IterOut R) (loopIterNB nra env inp ms msPrev a) (loopIterNB nrb env inp ms msPrev b) := by
  rw [loopIterNB_eq, loopIterNB_eq]
  exact hH.bind fun u v ⟨r1, r2, r3⟩ => ⟨_, rfl, r1, by rw [eo, r2], r3, rfl⟩

theorem follows_runNB (script : List (Tick W.toTypes))
    (hI : ∀ t ∈ script, ∀ (msPrev : Nat) {a b : KSt W}, R a b →
      Follows strict (IterOut R) (loopIterNB nra t.env t.inp t.ms msPrev a) (loopIterNB nrb t.env t.inp t.ms msPrev b))
    (msPrev : Nat) {a b : KSt W} (h : R a b) :
    Follows strict (StOut R) (runNB nra script msPrev a) (runNB nrb script msPrev b) := by
  induction script generalizing a b msPrev with
  | nil => exact ⟨_, rfl, h, rfl⟩
  | cons t rest ih =>
    rw [runNB_cons, runNB_cons]
    refine (hI t (List.mem_cons_self ..) msPrev h).bind fun u v ⟨r1, r2, r3, r4⟩ => ?_
    rw [r2, r3, r4]
    refine (ih (fun t' ht' => hI t' (List.mem_cons_of_mem _ ht')) _ r1).bind fun p q ⟨h2, ho⟩ => ?_
    rw [ho]
    exact ⟨_, rfl, h2, rfl⟩

end KVerif.Reload
