/-
C13 helper lemmas: the `u8` modifier masks of key_override.rs read as sets of modifiers.
-/
import KVerif.Model.Override
namespace KVerif.Override

/-- The eight modifiers of `mask_for_key`, each at the index of its bit. -/
def modKeys : List Nat := [29, 42, 56, 125, 97, 54, 100, 126]

theorem isMod_iff_mem (k : Nat) : isMod k = true ↔ k ∈ modKeys := by
  simp [isMod, maskForKey, modKeys, apply_ite Option.isSome]

theorem isMod_false_iff (k : Nat) : isMod k = false ↔ maskForKey k = none := by
  simp [isMod]

/-- bit index of a modifier in `mask_for_key` -/
def bitOf (k : Nat) : Option Nat := modKeys.idxOf? k

theorem isMod_iff (k : Nat) : isMod k = true ↔ ∃ i, bitOf k = some i := by
  rw [isMod_iff_mem, ← List.isSome_idxOf?, Option.isSome_iff_exists, bitOf]

/-- Off the table both sides are `none`; on it, the eight arms are compared one by one. -/
theorem maskForKey_eq (k : Nat) : maskForKey k = (bitOf k).map (2 ^ ·) := by
  by_cases h : k ∈ modKeys
  · exact (by decide : ∀ k ∈ modKeys, maskForKey k = (bitOf k).map (2 ^ ·)) k h
  · have hk : isMod k = false := by rw [← Bool.not_eq_true, isMod_iff_mem]; exact h
    rw [(isMod_false_iff k).mp hk, bitOf, List.idxOf?_eq_none_iff.mpr h, Option.map_none]

/-- distinct modifiers have distinct mask bits -/
theorem bitOf_inj {a b i : Nat} (ha : bitOf a = some i) (hb : bitOf b = some i) : a = b := by
  obtain ⟨_, ha, _⟩ := List.idxOf?_eq_some_iff.mp ha
  obtain ⟨_, hb, _⟩ := List.idxOf?_eq_some_iff.mp hb
  rw [← ha, ← hb]

/-- `mods_pressed` after the keys `pre` have been visited, starting from `acc` -/
def modsOf (pre : List Nat) (acc : Nat) : Nat :=
  pre.foldl (fun a k => match maskForKey k with | some m => a ||| m | none => a) acc

theorem modsOf_cons (k : Nat) (rest : List Nat) (acc : Nat) :
    modsOf (k :: rest) acc =
      modsOf rest (match maskForKey k with | some m => acc ||| m | none => acc) := rfl

theorem modsOf_append (a b : List Nat) (acc : Nat) : modsOf (a ++ b) acc = modsOf b (modsOf a acc) := by
  simp [modsOf, List.foldl_append]

theorem modsOf_snoc (pre : List Nat) (k acc : Nat) :
    modsOf (pre ++ [k]) acc =
      match maskForKey k with | some m => modsOf pre acc ||| m | none => modsOf pre acc := by
  rw [modsOf_append]; rfl

theorem modsOf_testBit (pre : List Nat) (acc i : Nat) :
    (modsOf pre acc).testBit i = (acc.testBit i || pre.any (fun k => bitOf k == some i)) := by
  induction pre generalizing acc with
  | nil => simp [modsOf]
  | cons k rest ih =>
    rw [modsOf_cons, ih, maskForKey_eq]
    cases hb : bitOf k <;> simp [hb, Nat.testBit_two_pow, Bool.or_assoc, Bool.beq_eq_decide_eq]

/-- `Override::get_mod_mask` panics exactly when a non-modifier sits in `in_mod_oscs`. -/
theorem orMasks_eq (l : List Nat) (acc : Nat) :
    orMasks l acc = if l.all isMod then .ok (modsOf l acc) else .error .modOnly := by
  induction l generalizing acc with
  | nil => simp [orMasks, modsOf]
  | cons k rest ih =>
    rw [orMasks, modsOf_cons]
    cases hm : maskForKey k <;> simp [hm, isMod, ih]

theorem and_eq_left_iff (a b : Nat) : a &&& b = a ↔ ∀ i, a.testBit i = true → b.testBit i = true := by
  constructor
  · intro h i hi
    rw [← h, Nat.testBit_and] at hi
    exact (Bool.and_eq_true _ _ ▸ hi).2
  · intro h
    apply Nat.eq_of_testBit_eq
    intro i
    rw [Nat.testBit_and, Bool.and_eq_left_iff_imp]
    exact h i

/-- or-ing `b` in sets every bit of `b` -/
theorem or_and_of_and {b c : Nat} (h : b &&& c = c) (a : Nat) : (a ||| b) &&& c = c := by
  rw [Nat.and_or_distrib_right, h]
  apply Nat.eq_of_testBit_eq
  intro i
  rw [Nat.testBit_or, Nat.testBit_and]
  cases a.testBit i <;> cases c.testBit i <;> rfl

/-- `mask & active_mod_mask == mask`, for an override whose input modifiers are modifiers: every
input modifier is among the keys visited before. -/
theorem mask_match_iff (mods pre : List Nat) (hm : ∀ m ∈ mods, isMod m = true) :
    (modsOf mods 0 &&& modsOf pre 0 = modsOf mods 0) ↔ ∀ m ∈ mods, m ∈ pre := by
  rw [and_eq_left_iff]
  simp only [modsOf_testBit, Nat.zero_testBit, Bool.false_or, List.any_eq_true, beq_iff_eq]
  constructor
  · intro h m hmem
    obtain ⟨i, hi⟩ := (isMod_iff m).mp (hm m hmem)
    obtain ⟨k, hk, hki⟩ := h i ⟨m, hmem, hi⟩
    rw [bitOf_inj hi hki]; exact hk
  · rintro h i ⟨m, hmem, hi⟩
    exact ⟨m, h m hmem, hi⟩

end KVerif.Override
