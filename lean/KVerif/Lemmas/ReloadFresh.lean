/-
Helper lemmas for C15 (success half): the state a complete `do_live_reload` leaves, compared field by
field with `Kanata::new` of the new configuration (both INTERPRETED from the regenerated lists), and
what the first tick after a reload does with the keys that were still down.
-/
import KVerif.Lemmas.ReloadLoop
namespace KVerif.Reload
open KVerif.Gen.Reload

variable {W : World}

/-! ### the fields a successful reload does not bring to the constructor's value -/

/-- plumbing: the output sink handle (`kbd_out`, re-configured in place by `update_kbd_out`), the
command line (`cfg_paths`) and the position in it (`cur_cfg_idx`: it selects the file that was just
loaded), the wall clock (`last_tick`, `time_remainder`) and the TCP server address (a command-line
argument; the `tx` notification handle is a parameter, not a field) -/
def retainedPlumbing : List Field :=
  [.kbd_out, .cfg_paths, .cur_cfg_idx, .last_tick, .time_remainder, .tcp_server_address]

/-- options that are read once, before the processing loop starts (device selection, the stored X11
repeat rate, `allow-hardware-repeat`); documented as not reloadable -/
def retainedStartupOnly : List Field :=
  [.kbd_in_paths, .continue_if_no_devices, .include_names, .exclude_names, .x11_repeat_rate,
   .device_detect_mode, .allow_hardware_repeat]

/-- what the user produced while kanata ran: the dynamic macros recorded before the reload and the
saved clipboard contents; kept (recorded as probably intended) -/
def retainedUserData : List Field := [.dynamic_macros, .saved_clipboard_content]

/-- THE list of fields on which a reloaded instance may differ from a freshly constructed one -/
def retainedOnReload : List Field := retainedPlumbing ++ retainedStartupOnly ++ retainedUserData

/-- the retained fields that the reload bookkeeping itself does not read -/
def retainedOpaque : List Field :=
  [.kbd_out, .last_tick, .time_remainder, .tcp_server_address] ++ retainedStartupOnly ++ retainedUserData

/-- the three fields `do_live_reload` leaves alone that are nevertheless in the constructor's
condition when it runs: the key lists (nothing is down) and the request flag (`handle_time_ticks`
clears it just before the call) -/
def coveredByIdle : List Field := [.cur_keys, .prev_keys, .live_reload_requested]

/-- Check, on the regenerated lists only, that field `f` of a completely reloaded instance holds what
`Kanata::new` stores in it: either it is reset to a constant and the constructor's initialiser does not
mention `cfg` either, or it is assigned from `cfg` (and not reset afterwards) and the constructor
computes it from `cfg` too, or it is one of the three fields covered by the idle hypothesis. -/
def freshCheck (f : Field) : Bool :=
  if f ∈ assignedReset resetPart then
    ctorNew.lookup f != some true && f != .cfg_paths && f != .cur_cfg_idx
  else if f ∈ assignedFromCfg silentPart then ctorNew.lookup f == some true
  else f ∈ coveredByIdle && ctorNew.lookup f != some true && f != .cfg_paths && f != .cur_cfg_idx

/-- every field outside the retained list passes the check (a field added to `struct Kanata` without
a reset in `do_live_reload` appears in `Gen.Reload.Field`, is in neither list, and stops this proof) -/
theorem freshCheck_all (f : Field) (h : f ∉ retainedOnReload) : freshCheck f = true := by
  revert f; exact forall_fields (by decide +kernel)

/-- the retained list is tight: it is exactly the set of fields that `do_live_reload` never assigns,
minus the three covered by the idle hypothesis -/
theorem retained_exact (f : Field) :
    f ∈ retainedOnReload ↔ (f ∉ assigned reloadSteps ∧ f ∉ coveredByIdle) := by
  revert f; exact forall_fields (by decide +kernel)

theorem retainedOpaque_eq (f : Field) :
    f ∈ retainedOpaque ↔ (f ∈ retainedOnReload ∧ f ≠ .cfg_paths ∧ f ≠ .cur_cfg_idx) := by
  revert f; exact forall_fields (by decide +kernel)

/-- field by field: a complete reload leaves what the constructor stores, wherever `freshCheck` holds -/
theorem reloaded_get_fresh (hW0 : ∀ c, W.currentLayer (W.cfgVal .layout c) = 0) (c : W.Cfg) (s : KSt W)
    (paths : List Nat) (idx : Nat)
    (hreq : s .live_reload_requested = false) (hprev : s .prev_keys = ([] : List Nat))
    (hcur : s .cur_keys = ([] : List Nat)) (f : Field) (hf : freshCheck f = true) :
    (reloaded c s) f = (freshAt (W := W) ctorNew paths idx c) f := by
  rw [reloaded_get]
  unfold freshCheck at hf
  split at hf
  · rename_i h1
    simp only [Bool.and_eq_true, bne_iff_ne, ne_eq] at hf
    rw [if_pos h1, freshAt_const _ _ _ _ _ hf.1.1, constVal_eq _ _ f hf.1.2 hf.2]
    by_cases hpl : f = .prev_layer
    · subst hpl; exact hW0 c
    · exact resetVal_eq _ f hpl
  · rename_i h1
    rw [if_neg h1]
    split at hf
    · rename_i h2
      rw [if_pos h2, freshAt_cfg _ _ _ _ _ (beq_iff_eq.1 hf)]
    · rename_i h2
      simp only [Bool.and_eq_true, bne_iff_ne, ne_eq, decide_eq_true_eq] at hf
      rw [if_neg h2, freshAt_const _ _ _ _ _ hf.1.1.2, constVal_eq _ _ f hf.1.2 hf.2]
      simp only [coveredByIdle, List.mem_cons, List.mem_nil_iff, or_false] at hf
      rcases hf.1.1.1 with rfl | rfl | rfl
      · exact hcur
      · exact hprev
      · exact hreq

/-! ### the first tick after a reload -/

/-- after `tick_states` the list of keys held at the OS is what `handle_keystate_changes` computed -/
theorem tickStates_prev_keys (nr : Bool) (s s' : KSt W) (os : List W.Os)
    (h : tickStatesG nr s = .ok (s', os)) :
    s' .prev_keys = (W.ksc s).1 .cur_keys ∧ s' .cur_keys = ([] : List Nat) ∧
    ∃ l2 : List W.Os, os = (W.ksc s).2.2 ++ l2 := by
  obtain ⟨s2, h2, rfl, rfl⟩ := tickStatesG_ok h
  obtain ⟨pk, ck⟩ := tickRest_keys s2
  -- the custom actions do not touch `cur_keys`, and the frame lets the computed value through
  exact ⟨pk.trans ((applyActs_other h2 _ (by decide)).trans (frame_out _ _ _ (by decide))), ck, _, rfl⟩

/-- What "the OS release pass" of `handle_keystate_changes` means for an abstract world: every key
that the previous tick left pressed at the OS (`prev_keys`) and that the layout does not hold any
more (`cur_keys` as computed by this call) is released in this call; `up k` is the OS event "release
`k`". -/
structure ReleasePass (W : World) (up : Nat → W.Os) : Prop where
  rel : ∀ (s : KSt W) (k : Nat), k ∈ (s .prev_keys : List Nat) →
    k ∉ ((W.ksc s).1 .cur_keys : List Nat) → up k ∈ (W.ksc s).2.2

/-- the first tick after a state in which keys were still down: each of them is either held by the
layout itself in that tick or released at the OS -/
theorem tickStates_releases (up : Nat → W.Os) (hR : ReleasePass W up) (nr : Bool) (s s' : KSt W)
    (os : List W.Os) (h : tickStatesG nr s = .ok (s', os)) (k : Nat)
    (hk : k ∈ (s .prev_keys : List Nat)) : k ∈ (s' .prev_keys : List Nat) ∨ up k ∈ os := by
  obtain ⟨e1, _, l2, rfl⟩ := tickStates_prev_keys nr s s' os h
  rw [e1]
  exact (Decidable.em _).imp_right fun hm => List.mem_append_left _ (hR.rel s k hk hm)

end KVerif.Reload
