/-
Helper lemmas for C15: index selection, what a tick, `tick_ms`, `check_handle_layer_change` and
`handle_time_ticks` preserve of the reload bookkeeping, the loops and `handle_time_ticks` as `bind`
equations, and the closed form of `do_live_reload` on the generated statement list.
-/
import KVerif.Lemmas.Reload
namespace KVerif.Reload
open KVerif.Gen.Reload

variable {W : World}

/-! ### index selection -/

theorem findPath_some (paths : List Nat) (p i : Nat) (h : findPath paths p = some i) :
    i < paths.length ∧ paths[i]? = some p ∧ ∀ j, j < i → paths[j]? ≠ some p := by
  unfold findPath at h
  simp only at h
  split at h <;> cases h
  rename_i hlt
  refine ⟨hlt, ?_, fun j hj e => ?_⟩
  · rw [List.getElem?_eq_getElem hlt]; exact congrArg some (beq_iff_eq.1 (List.findIdx_getElem (w := hlt)))
  · rw [List.getElem?_eq_getElem (Nat.lt_trans hj hlt)] at e
    exact Bool.false_ne_true ((List.not_of_lt_findIdx hj).symm.trans (beq_iff_eq.2 (Option.some.inj e)))

theorem findPath_none (paths : List Nat) (p : Nat) (h : findPath paths p = none) : p ∉ paths := by
  unfold findPath at h
  simp only at h
  split at h <;> cases h
  rename_i hlt
  exact fun hm => hlt (List.findIdx_lt_length_of_exists ⟨p, hm, beq_self_eq_true p⟩)

section
variable {paths : List Nat} {idx : Nat}

theorem selectIndex_cur (hidx : idx < paths.length) : selectIndex paths idx .cur = .ok (idx, true) :=
  if_pos hidx

theorem selectIndex_next (hidx : idx < paths.length) :
    selectIndex paths idx .next = .ok ((idx + 1) % paths.length, true) := by
  have hne : paths.length ≠ 0 := by omega
  simp only [selectIndex, hne, if_false]
  by_cases he : idx = paths.length - 1
  · have h0 : (idx + 1) % paths.length = 0 := by
      rw [show idx + 1 = paths.length by omega]; exact Nat.mod_self _
    rw [if_pos he, if_pos (by omega), h0]
  · have hlt : idx + 1 < paths.length := by omega
    rw [if_neg he, if_pos hlt, Nat.mod_eq_of_lt hlt]

theorem selectIndex_prev (hidx : idx < paths.length) :
    selectIndex paths idx .prev = .ok ((idx + paths.length - 1) % paths.length, true) := by
  cases idx with
  | zero =>
    have hne : paths.length ≠ 0 := by omega
    rw [Nat.zero_add, Nat.mod_eq_of_lt (by omega)]
    simp only [selectIndex, hne, if_false]
  | succ i =>
    have hi : i < paths.length := by omega
    rw [show i + 1 + paths.length - 1 = i + paths.length by omega, Nat.add_mod_right, Nat.mod_eq_of_lt hi]
    simp only [selectIndex, hi, if_true]

theorem selectIndex_num (n : Nat) :
    selectIndex paths idx (.num n) = .ok (if n < paths.length then n else idx, true) := by
  simp only [selectIndex]
  split <;> rfl

theorem selectIndex_file_mem {p : Nat} (hm : p ∈ paths) :
    ∃ i, selectIndex paths idx (.file p) = .ok (i, true) ∧ i < paths.length ∧
      paths[i]? = some p ∧ ∀ j, j < i → paths[j]? ≠ some p := by
  simp only [selectIndex]
  cases hf : findPath paths p with
  | none => exact absurd hm (findPath_none paths p hf)
  | some i => exact ⟨i, rfl, findPath_some paths p i hf⟩

theorem selectIndex_file_not_mem {p : Nat} (hn : p ∉ paths) :
    selectIndex paths idx (.file p) = .ok (idx, false) := by
  simp only [selectIndex]
  cases hf : findPath paths p with
  | none => rfl
  | some i => exact absurd (List.mem_of_getElem? (findPath_some paths p i hf).2.1) hn

/-- every arm keeps the index inside `cfg_paths` -/
theorem selectIndex_range {r : ReloadAct} {i : Nat} {b : Bool}
    (hidx : idx < paths.length) (h : selectIndex paths idx r = .ok (i, b)) : i < paths.length := by
  have hpos : 0 < paths.length := by omega
  cases r with
  | cur => rw [selectIndex_cur hidx] at h; cases h; exact hidx
  | next => rw [selectIndex_next hidx] at h; cases h; exact Nat.mod_lt _ hpos
  | prev => rw [selectIndex_prev hidx] at h; cases h; exact Nat.mod_lt _ hpos
  | num n => rw [selectIndex_num] at h; cases h; split <;> assumption
  | file p =>
    by_cases hm : p ∈ paths
    · obtain ⟨j, hj, hlt, _⟩ := selectIndex_file_mem (idx := idx) hm
      rw [hj] at h; cases h; exact hlt
    · rw [selectIndex_file_not_mem hm] at h; cases h; exact hidx

end

section
variable {nr : Bool} {s s' : KSt W} {a : KAct W.toTypes} {as : List (KAct W.toTypes)} {os : List W.Os}

theorem applyAct_reload {r : ReloadAct} (h : applyAct s (.reload r) = .ok s') :
    ∃ i req, selectIndex (s .cfg_paths) (s .cur_cfg_idx) r = .ok (i, req) ∧
      s' = if req then (s.set .cur_cfg_idx i).set .live_reload_requested true else s.set .cur_cfg_idx i := by
  simp only [applyAct] at h
  split at h
  · cases h
  · rename_i i req hsel; cases h; exact ⟨i, req, hsel, rfl⟩

theorem applyAct_other (h : applyAct s a = .ok s') (g : Field)
    (hg : g ∉ [Field.cur_cfg_idx, .live_reload_requested, .ticks_since_idle, .waiting_for_idle]) :
    s' g = s g := by
  have n1 : g ≠ .cur_cfg_idx := ne_of_mem_of_not_mem (by decide) hg |>.symm
  have n2 : g ≠ .live_reload_requested := ne_of_mem_of_not_mem (by decide) hg |>.symm
  cases a with
  | reload r =>
    obtain ⟨i, req, _, rfl⟩ := applyAct_reload h
    cases req
    · exact St.set_other _ _ _ _ n1
    · exact (St.set_other _ _ _ _ n2).trans (St.set_other _ _ _ _ n1)
  | onIdle w =>
    cases h
    exact (St.set_other _ _ _ _ (ne_of_mem_of_not_mem (by decide) hg).symm).trans
      (St.set_other _ _ _ _ (ne_of_mem_of_not_mem (by decide) hg).symm)

theorem applyActs_cons_ok (h : applyActs s (a :: as) = .ok s') :
    ∃ s1, applyAct s a = .ok s1 ∧ applyActs s1 as = .ok s' := by
  simp only [applyActs] at h
  split at h
  · cases h
  · rename_i s1 h1; exact ⟨s1, h1, h⟩

theorem applyActs_other (h : applyActs s as = .ok s') (g : Field)
    (hg : g ∉ [Field.cur_cfg_idx, .live_reload_requested, .ticks_since_idle, .waiting_for_idle]) :
    s' g = s g := by
  induction as generalizing s with
  | nil => cases h; rfl
  | cons a rest ih =>
    obtain ⟨s1, h1, h2⟩ := applyActs_cons_ok h
    exact (ih h2).trans (applyAct_other h1 g hg)

/-! ### what a tick preserves -/

/-- relation between the state before and after ticks (no reload attempt in between) -/
structure TickRel (s s' : KSt W) : Prop where
  paths : s' .cfg_paths = s .cfg_paths
  req : s .live_reload_requested = true → s' .live_reload_requested = true
  idx : (s .cur_cfg_idx : Nat) < (s .cfg_paths : List Nat).length →
    (s' .cur_cfg_idx : Nat) < (s .cfg_paths : List Nat).length
  tsi : (s' .ticks_since_idle : Nat) ≤ s .ticks_since_idle

theorem TickRel.of_eq (h1 : s' .cfg_paths = s .cfg_paths)
    (h2 : s' .live_reload_requested = s .live_reload_requested) (h3 : s' .cur_cfg_idx = s .cur_cfg_idx)
    (h4 : s' .ticks_since_idle = s .ticks_since_idle) : TickRel s s' :=
  ⟨h1, fun h => h2.trans h, fun h => by rw [h3]; exact h, Nat.le_of_eq h4⟩

theorem TickRel.of_framed (h : ∀ g ∈ framed, s' g = s g) : TickRel s s' :=
  .of_eq (h _ (by decide)) (h _ (by decide)) (h _ (by decide)) (h _ (by decide))

theorem TickRel.refl (s : KSt W) : TickRel s s := .of_eq rfl rfl rfl rfl

theorem TickRel.trans {a b c : KSt W} (h1 : TickRel a b) (h2 : TickRel b c) : TickRel a c :=
  ⟨h2.paths.trans h1.paths, fun h => h2.req (h1.req h),
   fun h => by
     have h3 := h2.idx (by rw [h1.paths]; exact h1.idx h)
     rw [h1.paths] at h3; exact h3,
   Nat.le_trans h2.tsi h1.tsi⟩

theorem set_rel (s : KSt W) (f : Field) (v : Val W.toTypes f) (hf : f ∉ framed) : TickRel s (s.set f v) :=
  .of_framed fun _ hg => St.set_other _ _ _ _ (ne_of_mem_of_not_mem hg hf)

theorem frame_rel (s n : KSt W) : TickRel s (frame s n) := .of_framed (frame_in s n)

theorem frameK_rel (s n : KSt W) : TickRel s (frameK s n) :=
  .of_framed fun g hg => frameK_in s n g (List.mem_append_left _ hg)

theorem frameK_keys (s n : KSt W) :
    (frameK s n) .cur_keys = s .cur_keys ∧ (frameK s n) .prev_keys = s .prev_keys :=
  ⟨frameK_in s n _ (by decide), frameK_in s n _ (by decide)⟩

theorem applyAct_rel (h : applyAct s a = .ok s') : TickRel s s' := by
  cases a with
  | reload r =>
    obtain ⟨i, req, hsel, rfl⟩ := applyAct_reload h
    have hi := fun hlt => selectIndex_range hlt hsel
    cases req
    · exact ⟨rfl, id, hi, Nat.le_refl _⟩
    · exact ⟨rfl, fun _ => rfl, hi, Nat.le_refl _⟩
  | onIdle w => cases h; exact ⟨rfl, id, id, Nat.zero_le _⟩

theorem applyActs_rel (h : applyActs s as = .ok s') : TickRel s s' := by
  induction as generalizing s with
  | nil => cases h; exact .refl _
  | cons a rest ih =>
    obtain ⟨s1, h1, h2⟩ := applyActs_cons_ok h
    exact (applyAct_rel h1).trans (ih h2)

theorem tickIdleTimeout_other (s : KSt W) (g : Field) (h1 : g ≠ .layout) (h2 : g ≠ .waiting_for_idle) :
    (tickIdleTimeout s) g = s g := by
  unfold tickIdleTimeout
  split
  · rfl
  · exact (St.set_other _ _ _ _ h2).trans (St.set_other _ _ _ _ h1)

theorem tickIdleTimeout_rel (s : KSt W) : TickRel s (tickIdleTimeout s) :=
  have o := fun g => tickIdleTimeout_other s g
  .of_eq (o _ (by decide) (by decide)) (o _ (by decide) (by decide)) (o _ (by decide) (by decide))
    (o _ (by decide) (by decide))

/-- the part of `tick_states` after the custom actions: state and OS events -/
def tickRest (s2 : KSt W) : KSt W × List W.Os :=
  let s3 := tickIdleTimeout s2
  let s4 := s3.set .macro_on_press_cancel_duration ((s3 .macro_on_press_cancel_duration : Nat) - 1)
  let l := W.late s4
  let s5 := frameK s4 l.1
  ((s5.set .prev_keys (s5 .cur_keys)).set .cur_keys ([] : List Nat), l.2)

/-! The model sequences its steps by matching on `Except`; the equations below say so with `bind`. -/

theorem bind_ok {α β : Type} {x : Except Crash α} {f : α → Except Crash β} {r : β} (h : x.bind f = .ok r) :
    ∃ u, x = .ok u ∧ f u = .ok r := by
  cases x with
  | error e => cases h
  | ok u => exact ⟨u, rfl, h⟩

theorem tickStatesG_eq (nr : Bool) (s : KSt W) :
    tickStatesG nr s = (applyActs (frame s (W.ksc s).1) (selActs nr (W.ksc s).2.1)).bind fun s2 =>
      .ok ((tickRest s2).1, (W.ksc s).2.2 ++ (tickRest s2).2) := by
  unfold tickStatesG
  dsimp only
  cases applyActs (frame s (W.ksc s).1) (selActs nr (W.ksc s).2.1) <;> rfl

theorem tickStatesG_ok (h : tickStatesG nr s = .ok (s', os)) :
    ∃ s2, applyActs (frame s (W.ksc s).1) (selActs nr (W.ksc s).2.1) = .ok s2 ∧
      s' = (tickRest s2).1 ∧ os = (W.ksc s).2.2 ++ (tickRest s2).2 := by
  rw [tickStatesG_eq] at h
  obtain ⟨s2, h2, h⟩ := bind_ok h
  cases h; exact ⟨s2, h2, rfl, rfl⟩

theorem tickRest_rel (s : KSt W) : TickRel s (tickRest s).1 :=
  (tickIdleTimeout_rel s).trans <| (set_rel _ _ _ (by decide)).trans <| (frameK_rel _ _).trans <|
    (set_rel _ _ _ (by decide)).trans (set_rel _ _ _ (by decide))

/-- the final move of the key lists: whatever `cur_keys` held after the custom actions is now in
`prev_keys` (no stage in between touches it), and `cur_keys` is empty -/
theorem tickRest_keys (s : KSt W) :
    (tickRest s).1 .prev_keys = s .cur_keys ∧ (tickRest s).1 .cur_keys = ([] : List Nat) :=
  ⟨(St.set_other _ _ _ _ (by decide)).trans <| (St.set_same _ _ _).trans <| (frameK_keys _ _).1.trans <|
    (St.set_other _ _ _ _ (by decide)).trans (tickIdleTimeout_other s _ (by decide) (by decide)),
   St.set_same _ _ _⟩

theorem tickStates_rel (h : tickStatesG nr s = .ok (s', os)) :
    TickRel s s' ∧ s' .cur_keys = ([] : List Nat) := by
  obtain ⟨s2, h2, rfl, _⟩ := tickStatesG_ok h
  exact ⟨(frame_rel s _).trans ((applyActs_rel h2).trans (tickRest_rel s2)), (tickRest_keys s2).2⟩

theorem tickReplay_rel (h : tickStatesG nr s = .ok (s', os)) :
    TickRel s (frameK s' (W.replay s').1) ∧ (frameK s' (W.replay s').1) .cur_keys = ([] : List Nat) :=
  have ⟨r, ck⟩ := tickStates_rel h
  ⟨r.trans (frameK_rel _ _), (frameK_keys _ _).1.trans ck⟩

theorem tickLoop1G_succ (nr : Bool) (n : Nat) (s : KSt W) (extra : Nat) (os : List W.Os) :
    tickLoop1G nr (n + 1) s extra os = (tickStatesG nr s).bind fun r =>
      tickLoop1G nr n (frameK r.1 (W.replay r.1).1)
        (match (W.replay r.1).2 with | some d => satAdd16 extra d | none => extra) (os ++ r.2) := by
  simp only [tickLoop1G]; cases tickStatesG nr s <;> rfl

theorem tickLoop2G_succ (nr : Bool) (n : Nat) (s : KSt W) (os : List W.Os) :
    tickLoop2G nr (n + 1) s os = (tickStatesG nr s).bind fun r =>
      match (W.replay r.1).2 with
      | some _ => .ok (frameK r.1 (W.replay r.1).1, os ++ r.2)
      | none => tickLoop2G nr n (frameK r.1 (W.replay r.1).1) (os ++ r.2) := by
  simp only [tickLoop2G]; cases tickStatesG nr s <;> rfl

theorem tickMsG_eq (nr : Bool) (ms : Nat) (s : KSt W) :
    tickMsG nr ms s = (tickLoop1G nr ms s 0 []).bind fun r =>
      tickLoop2G nr (r.2.1 - min ms 65535) r.1 r.2.2 := by
  unfold tickMsG; cases tickLoop1G nr ms s 0 [] <;> rfl

theorem tickLoop1_rel {n extra e' : Nat} {os' : List W.Os} (h : tickLoop1G nr n s extra os = .ok (s', e', os')) :
    TickRel s s' ∧ ((s .cur_keys = ([] : List Nat) ∨ 0 < n) → s' .cur_keys = ([] : List Nat)) := by
  induction n generalizing s extra os with
  | zero => cases h; exact ⟨.refl _, fun hc => hc.resolve_right (Nat.lt_irrefl 0)⟩
  | succ n ih =>
    rw [tickLoop1G_succ] at h
    obtain ⟨⟨s1, o1⟩, h1, h2⟩ := bind_ok h
    obtain ⟨r1, c1⟩ := tickReplay_rel h1
    obtain ⟨r2, c2⟩ := ih h2
    exact ⟨r1.trans r2, fun _ => c2 (.inl c1)⟩

theorem tickLoop2_rel {n : Nat} {os' : List W.Os} (h : tickLoop2G nr n s os = .ok (s', os')) :
    TickRel s s' ∧ (s .cur_keys = ([] : List Nat) → s' .cur_keys = ([] : List Nat)) := by
  induction n generalizing s os with
  | zero => cases h; exact ⟨.refl _, id⟩
  | succ n ih =>
    rw [tickLoop2G_succ] at h
    obtain ⟨⟨s1, o1⟩, h1, h2⟩ := bind_ok h
    obtain ⟨r1, c1⟩ := tickReplay_rel h1
    split at h2
    · cases h2; exact ⟨r1, fun _ => c1⟩
    · obtain ⟨r2, c2⟩ := ih h2
      exact ⟨r1.trans r2, fun _ => c2 c1⟩

/-- `tick_ms` -/
theorem tickMs_rel {ms : Nat} (h : tickMsG nr ms s = .ok (s', os)) :
    TickRel s s' ∧ ((s .cur_keys = ([] : List Nat) ∨ 0 < ms) → s' .cur_keys = ([] : List Nat)) := by
  rw [tickMsG_eq] at h
  obtain ⟨⟨s1, extra, o1⟩, h1, h2⟩ := bind_ok h
  obtain ⟨r1, c1⟩ := tickLoop1_rel h1
  obtain ⟨r2, c2⟩ := tickLoop2_rel h2
  exact ⟨r1.trans r2, fun hc => c2 (c1 hc)⟩

variable {tx : Bool} {m : List Msg}

theorem checkLayerChange_ok (h : checkLayerChange tx s = .ok (s', m)) :
    (W.currentLayer (s .layout) = s .prev_layer ∧ s' = s ∧ m = []) ∨
    (W.currentLayer (s .layout) ≠ s .prev_layer ∧ s' = s.set .prev_layer (W.currentLayer (s .layout)) ∧
      ∃ name, W.layerName (s .layer_info) (W.currentLayer (s .layout)) = some name ∧
        m = if tx then [.layerChange name] else []) := by
  unfold checkLayerChange at h
  simp only at h
  split at h
  · rename_i hne
    split at h
    · cases h
    · rename_i name hn; cases h; exact .inr ⟨hne, rfl, name, hn, rfl⟩
  · rename_i heq; cases h; exact .inl ⟨Decidable.not_not.1 heq, rfl, rfl⟩

theorem checkLayerChange_frame
    (h : checkLayerChange tx s = .ok (s', m)) (g : Field) (hg : g ≠ .prev_layer) : s' g = s g := by
  rcases checkLayerChange_ok h with ⟨_, rfl, _⟩ | ⟨_, rfl, _⟩
  · rfl
  · exact St.set_other _ _ _ _ hg

/-- after `check_handle_layer_change`, `prev_layer` is the current layer; it sends at most one
`LayerChange`, and only when the layer differs from the last one notified -/
theorem checkLayerChange_spec (tx : Bool) (s s' : KSt W) (m : List Msg)
    (h : checkLayerChange tx s = .ok (s', m)) :
    s' .prev_layer = W.currentLayer (s .layout) ∧
    (W.currentLayer (s .layout) = s .prev_layer → m = []) ∧ m.length ≤ 1 := by
  rcases checkLayerChange_ok h with ⟨heq, rfl, rfl⟩ | ⟨hne, rfl, name, _, rfl⟩
  · exact ⟨heq.symm, fun _ => rfl, Nat.zero_le _⟩
  · exact ⟨St.set_same _ _ _, fun e => absurd e hne, by cases tx <;> simp⟩

end

theorem doLiveReloadWith_ok {body : List RStep} {env : Env W.toTypes} {s : KSt W} {r : RRes W.toTypes}
    (h : doLiveReloadWith (.parse :: body) env s = .ok r) :
    ∃ p, (s .cfg_paths : List Nat)[(s .cur_cfg_idx : Nat)]? = some p ∧
      ((newFromFile env p = none ∧ r = ⟨s, [], false⟩) ∨
       ∃ c, newFromFile env p = some c ∧ runSteps env c body none s [] = .ok r) := by
  unfold doLiveReloadWith at h
  simp only at h
  split at h
  · cases h
  · rename_i p hp
    refine ⟨p, hp, ?_⟩
    split at h
    · rename_i hn; cases h; exact .inl ⟨hn, rfl⟩
    · rename_i c hc; exact .inr ⟨c, hc, h⟩

theorem doLiveReload_eq (env : Env W.toTypes) (s : KSt W) :
    doLiveReload env s = doLiveReloadWith (.parse :: reloadSteps.tail) env s := rfl

theorem falliblesOf_reloadSteps : falliblesOf reloadSteps = falliblesOf reloadSteps.tail := rfl

theorem doLiveReload_fail (env : Env W.toTypes) (s : KSt W) (p : Nat)
    (hp : (s .cfg_paths : List Nat)[(s .cur_cfg_idx : Nat)]? = some p)
    (hfail : newFromFile env p = none) :
    doLiveReload env s = .ok ⟨s, [], false⟩ := by
  simp only [doLiveReload_eq, doLiveReloadWith, hp, hfail]

/-- the interpreted `do_live_reload` never touches a field outside its assignment list -/
theorem doLiveReload_frame (env : Env W.toTypes) (s : KSt W) (r : RRes W.toTypes) (g : Field)
    (h : doLiveReload env s = .ok r) (hg : g ∉ assigned reloadSteps) : r.st g = s g := by
  obtain ⟨p, _, ⟨_, rfl⟩ | ⟨c, _, hrun⟩⟩ := doLiveReloadWith_ok (body := reloadSteps.tail) h
  · rfl
  · exact runSteps_frame env c _ none s [] r g hrun ((assigned_cons .parse _ g).1 hg).2

/-! ### closed form of a complete run of `do_live_reload` -/

/-- the `callee(..)?; … self.f = <cfg …>; …` part after the parse step -/
def silentPart : List RStep := reloadSteps.tail.takeWhile isSilent
/-- the rest: notifications, `let cur_layer`, the resets -/
def tailPart : List RStep := reloadSteps.tail.dropWhile isSilent
/-- `self.prev_layer = cur_layer; self.f = <constant>; …` -/
def resetPart : List RStep := (tailPart.drop 2).takeWhile isReset

/-- after the silent part: `ConfigFileReload`, `let cur_layer`, the resets, `LayerChange` -/
theorem tailPart_eq :
    tailPart = .notify "ConfigFileReload" :: .bindCurLayer :: (resetPart ++ [.notify "LayerChange"]) := by
  decide +kernel

theorem silent_keeps (c : W.Cfg) (s : KSt W) :
    (applyCfg c silentPart s) .cfg_paths = s .cfg_paths ∧
    (applyCfg c silentPart s) .cur_cfg_idx = s .cur_cfg_idx ∧
    (applyCfg c silentPart s) .layout = W.cfgVal .layout c ∧
    (applyCfg c silentPart s) .layer_info = W.cfgVal .layer_info c := by
  refine ⟨?_, ?_, ?_, ?_⟩ <;> rw [applyCfg_get]
  · exact if_neg (by decide)
  · exact if_neg (by decide)
  · exact if_pos (by decide)
  · exact if_pos (by decide)

/-- the state a complete run of `do_live_reload` on configuration `c` leaves -/
def reloaded (c : W.Cfg) (s : KSt W) : KSt W :=
  applyReset (W.currentLayer (W.cfgVal .layout c)) resetPart (applyCfg c silentPart s)

theorem reloaded_get (c : W.Cfg) (s : KSt W) (f : Field) :
    (reloaded c s) f =
      if f ∈ assignedReset resetPart then resetVal (W := W) (W.currentLayer (W.cfgVal .layout c)) f
      else if f ∈ assignedFromCfg silentPart then W.cfgVal f c else s f := by
  rw [reloaded, applyReset_get, applyCfg_get]

theorem reloaded_keeps (c : W.Cfg) (s : KSt W) :
    (reloaded c s) .cfg_paths = s .cfg_paths ∧ (reloaded c s) .cur_cfg_idx = s .cur_cfg_idx ∧
    (reloaded c s) .layout = W.cfgVal .layout c ∧ (reloaded c s) .layer_info = W.cfgVal .layer_info c ∧
    (reloaded c s) .prev_layer = W.currentLayer (W.cfgVal .layout c) := by
  obtain ⟨k1, k2, k3, k4⟩ := silent_keeps c s
  refine ⟨?_, ?_, ?_, ?_, ?_⟩ <;> rw [reloaded, applyReset_get]
  · exact (if_neg (by decide)).trans k1
  · exact (if_neg (by decide)).trans k2
  · exact (if_neg (by decide)).trans k3
  · exact (if_neg (by decide)).trans k4
  · exact if_pos (by decide)

/-- closed form of `do_live_reload` when the file parses and no fallible call fails -/
theorem doLiveReload_success (env : Env W.toTypes) (s : KSt W) (p : Nat) (c : W.Cfg)
    (hp : (s .cfg_paths : List Nat)[(s .cur_cfg_idx : Nat)]? = some p)
    (hc : newFromFile env p = some c)
    (hf : ∀ callee ∈ falliblesOf reloadSteps, env.callFails callee c = false) :
    doLiveReload env s =
      if env.tx then
        match W.layerName (W.cfgVal .layer_info c) (W.currentLayer (W.cfgVal .layout c)) with
        | none => .error (.indexOOB "do_live_reload layer_info[cur_layer]")
        | some name => .ok ⟨reloaded c s, [.configFileReload p, .layerChange name], true⟩
      else .ok ⟨reloaded c s, [], true⟩ := by
  have hf' : ∀ callee ∈ falliblesOf silentPart, env.callFails callee c = false := fun callee hm =>
    hf callee ((falliblesOf_cons ..).2 (.inr ((mem_falliblesOf ..).2
      (List.Sublist.mem ((mem_falliblesOf ..).1 hm) (List.takeWhile_sublist _)))))
  obtain ⟨k1, k2, k3, _⟩ := silent_keeps c s
  have k4 := (reloaded_keeps c s).2.2.2.1
  simp only [doLiveReload_eq, doLiveReloadWith, hp, hc]
  rw [← List.takeWhile_append_dropWhile (p := isSilent) (l := reloadSteps.tail)]
  rw [runSteps_silent env c _ _ none s [] List.all_takeWhile hf']
  show runSteps env c tailPart none (applyCfg c silentPart s) [] = _
  rw [tailPart_eq]
  cases htx : env.tx
  · simp only [runSteps, stepOne, htx, k3, reduceCtorEq, if_false, if_true]
    rw [runSteps_resets env c resetPart _ _ _ _ List.all_takeWhile]
    simp only [runSteps, stepOne, htx, reduceCtorEq, if_false, if_true]
    rfl
  · simp only [runSteps, stepOne, htx, k1, k2, k3, hp, if_true]
    rw [runSteps_resets env c resetPart _ _ _ _ List.all_takeWhile]
    simp only [runSteps, stepOne, htx, if_true]
    rw [show (applyReset (W.currentLayer (W.cfgVal .layout c)) resetPart (applyCfg c silentPart s)) .layer_info =
      W.cfgVal .layer_info c from k4]
    cases W.layerName (W.cfgVal .layer_info c) (W.currentLayer (W.cfgVal .layout c)) <;> rfl

/-- the fallible calls that a statement list makes after its first assignment -/
def lateFalliblesOf (steps : List RStep) : List String :=
  falliblesOf (steps.dropWhile fun | .assign _ _ => false | _ => true)

/-- all-or-nothing for ANY statement list of the shape `parse; fallible calls; statements without
fallible calls`: a reported failure leaves the state as it was and nothing has been sent -/
theorem doLiveReloadWith_atomic (F rest : List RStep) (hF : F.all isFallible = true)
    (hrest : falliblesOf rest = []) (env : Env W.toTypes) (s : KSt W) (r : RRes W.toTypes)
    (h : doLiveReloadWith (.parse :: (F ++ rest)) env s = .ok r) (hr : r.ok = false) :
    r.st = s ∧ r.msgs = [] := by
  obtain ⟨p, _, ⟨_, rfl⟩ | ⟨c, _, hrun⟩⟩ := doLiveReloadWith_ok h
  · exact ⟨rfl, rfl⟩
  · -- the call that failed is one of `F`, and those return before anything is written
    obtain ⟨callee, hm, hc⟩ := (runSteps_fail_iff hrun).1 hr
    have hmF : callee ∈ falliblesOf F := by
      rw [mem_falliblesOf, List.mem_append] at hm
      rcases hm with hm | hm
      · exact (mem_falliblesOf ..).2 hm
      · rw [← mem_falliblesOf, hrest] at hm; cases hm
    rw [runSteps_fallibles_fail env c F rest none s [] hF ⟨callee, hmF, hc⟩] at hrun
    cases hrun; exact ⟨rfl, rfl⟩

/-- the fallible calls of the generated list come first: nothing can fail after the first assignment -/
theorem reloadSteps_fallibles_first :
    falliblesOf (reloadSteps.tail.dropWhile isFallible) = [] ∧
    falliblesOf (reloadSteps.tail.takeWhile isFallible) = falliblesOf reloadSteps := by decide +kernel

theorem canBlockUpdate_shape (m : Nat) (s : KSt W) :
    ∃ x : Nat, (canBlockUpdate m s).1 = s.set .ticks_since_idle x := by
  simp only [canBlockUpdate]
  split
  · exact ⟨_, rfl⟩
  · split
    · exact ⟨_, rfl⟩
    · exact ⟨_, (St.set_self s _).symm⟩

theorem canBlockUpdate_other (m : Nat) (s : KSt W) (g : Field) (hg : g ≠ .ticks_since_idle) :
    (canBlockUpdate m s).1 g = s g := by
  obtain ⟨x, e⟩ := canBlockUpdate_shape m s
  rw [e, St.set_other _ _ _ _ hg]

theorem handleInput_framed (s : KSt W) (e : W.Input) (g : Field) (hg : g ∈ framedK) :
    (handleInput s e).1 g = (s.set .ticks_since_idle (0 : Nat)) g :=
  frameK_in _ _ g hg

/-! ### `handle_time_ticks` -/

theorem decisionStateG_eq (nr : Bool) (env : Env W.toTypes) (ms : Nat) (s : KSt W) :
    decisionStateG nr env ms s = (tickMsG nr ms s).bind fun r =>
      (checkLayerChange env.tx r.1).bind fun q => .ok (q.1, r.2, q.2) := by
  unfold decisionStateG
  rcases tickMsG nr ms s with c | ⟨s1, os⟩
  · rfl
  · dsimp only [Except.bind]
    cases checkLayerChange env.tx s1 <;> rfl

theorem handleTimeTicksG_eq (nr : Bool) (env : Env W.toTypes) (ms : Nat) (s : KSt W) :
    handleTimeTicksG nr env ms s = (decisionStateG nr env ms s).bind fun d =>
      if reloadDue d.1 then
        (doLiveReload env (d.1.set .live_reload_requested false)).bind fun r =>
          .ok ⟨r.st, d.2.1, d.2.2 ++ r.msgs, some r.ok⟩
      else .ok ⟨d.1, d.2.1, d.2.2, none⟩ := by
  unfold handleTimeTicksG handleTimeTicksWithG decisionStateG
  rcases tickMsG nr ms s with c | ⟨s1, os⟩
  · rfl
  · dsimp only [Except.bind]
    rcases checkLayerChange env.tx s1 with c | ⟨s2, m1⟩
    · rfl
    · dsimp only
      split
      · cases doLiveReload env (s2.set .live_reload_requested false) <;> rfl
      · rfl

theorem handleTimeTicks_inv (nr : Bool) (env : Env W.toTypes) (ms : Nat) (s : KSt W) (r : HRes W.toTypes)
    (h : handleTimeTicksG nr env ms s = .ok r) :
    ∃ s2 os m1, decisionStateG nr env ms s = .ok (s2, os, m1) ∧ r.os = os ∧
      ((reloadDue s2 = false ∧ r.attempt = none ∧ r.st = s2 ∧ r.msgs = m1) ∨
       (reloadDue s2 = true ∧ ∃ rr, doLiveReload env (s2.set .live_reload_requested false) = .ok rr ∧
          r.attempt = some rr.ok ∧ r.st = rr.st ∧ r.msgs = m1 ++ rr.msgs)) := by
  rw [handleTimeTicksG_eq] at h
  obtain ⟨⟨s2, os, m1⟩, hd, h⟩ := bind_ok h
  refine ⟨s2, os, m1, hd, ?_⟩
  split at h
  · rename_i hdue
    obtain ⟨rr, hrr, h⟩ := bind_ok h
    cases h; exact ⟨rfl, .inr ⟨hdue, rr, hrr, rfl, rfl, rfl⟩⟩
  · rename_i hdue; cases h; exact ⟨rfl, .inl ⟨Bool.eq_false_iff.2 hdue, rfl, rfl, rfl⟩⟩

theorem decisionState_rel {nr : Bool} {env : Env W.toTypes} {ms : Nat} {s s2 : KSt W} {os : List W.Os}
    {m1 : List Msg} (h : decisionStateG nr env ms s = .ok (s2, os, m1)) :
    TickRel s s2 ∧ ((s .cur_keys = ([] : List Nat) ∨ 0 < ms) → s2 .cur_keys = ([] : List Nat)) := by
  rw [decisionStateG_eq] at h
  obtain ⟨⟨s1, os1⟩, h1, h⟩ := bind_ok h
  obtain ⟨⟨s2', m1'⟩, h2, h⟩ := bind_ok h
  cases h
  obtain ⟨rel, ck⟩ := tickMs_rel h1
  have fr := checkLayerChange_frame h2
  exact ⟨rel.trans (.of_eq (fr _ (by decide)) (fr _ (by decide)) (fr _ (by decide)) (fr _ (by decide))),
    fun hc => (fr _ (by decide)).trans (ck hc)⟩

/-- what an iteration does before `handle_time_ticks`: the idle counter, then the input event if there
is one; the state, and the OS events of the input -/
def preTicks (inp : Option W.Input) (msPrev : Nat) (s : KSt W) : KSt W × List W.Os :=
  match inp with
  | some e => handleInput (canBlockUpdate msPrev s).1 e
  | none => ((canBlockUpdate msPrev s).1, [])

theorem preTicks_framed (inp : Option W.Input) (msPrev : Nat) (s : KSt W) (g : Field) (hg : g ∈ framedK)
    (hne : g ≠ .ticks_since_idle) : (preTicks inp msPrev s).1 g = s g := by
  cases inp with
  | none => exact canBlockUpdate_other msPrev s g hne
  | some e =>
    exact (handleInput_framed _ e g hg).trans ((St.set_other _ _ _ _ hne).trans (canBlockUpdate_other msPrev s g hne))

theorem loopIterNB_eq (nr : Bool) (env : Env W.toTypes) (inp : Option W.Input) (ms msPrev : Nat) (s : KSt W) :
    loopIterNB nr env inp ms msPrev s =
      (handleTimeTicksG nr env ms (preTicks inp msPrev s).1).bind fun h =>
        .ok ⟨h.st, (preTicks inp msPrev s).2 ++ h.os, h.msgs, h.attempt, false, ms % 65536⟩ := by
  unfold loopIterNB
  cases inp <;> dsimp only [preTicks] <;> cases handleTimeTicksG nr env ms _ <;> rfl

theorem runNB_cons (nr : Bool) (t : Tick W.toTypes) (rest : List (Tick W.toTypes)) (msPrev : Nat) (s : KSt W) :
    runNB nr (t :: rest) msPrev s = (loopIterNB nr t.env t.inp t.ms msPrev s).bind fun r =>
      (runNB nr rest r.msNext r.st).bind fun q => .ok (q.1, (r.os, r.msgs) :: q.2) := by
  simp only [runNB]
  cases loopIterNB nr t.env t.inp t.ms msPrev s with
  | error c => rfl
  | ok r =>
    dsimp only [Except.bind]
    cases runNB nr rest r.msNext r.st <;> rfl

theorem loopIter_ok {env : Env W.toTypes} {inp : Option W.Input} {ms msPrev : Nat} {s : KSt W}
    {r : IterRes W.toTypes} (h : loopIter env inp ms msPrev s = .ok r) :
    (inp = none ∧ r = ⟨(canBlockUpdate msPrev s).1, [], [], none, true, msPrev⟩) ∨
    ∃ hr, handleTimeTicks env ms (preTicks inp msPrev s).1 = .ok hr ∧
      r = ⟨hr.st, (preTicks inp msPrev s).2 ++ hr.os, hr.msgs, hr.attempt, false, ms % 65536⟩ := by
  unfold loopIter loopIterWith at h
  cases inp with
  | some e =>
    simp only at h
    split at h
    · cases h
    · rename_i hr hh; cases h; exact .inr ⟨hr, hh, rfl⟩
  | none =>
    simp only at h
    split at h
    · cases h; exact .inl ⟨rfl, rfl⟩
    · split at h
      · cases h
      · rename_i hr hh; cases h; exact .inr ⟨hr, hh, rfl⟩

theorem parts_assign :
    assignedFromCfg silentPart = assignedFromCfg reloadSteps ∧
    assignedReset resetPart = assignedReset reloadSteps := by decide +kernel

theorem resetVal_eq (l : Nat) (f : Field) (h : f ≠ .prev_layer) :
    resetVal (W := W) l f = typedInit W f := by
  unfold resetVal
  split
  · exact absurd rfl h
  · rfl

theorem constVal_eq (paths : List Nat) (idx : Nat) (f : Field) (h1 : f ≠ .cfg_paths) (h2 : f ≠ .cur_cfg_idx) :
    constVal W paths idx f = typedInit W f := by
  unfold constVal
  split
  · exact absurd rfl h1
  · exact absurd rfl h2
  · rfl

theorem freshAt_cfg (ctor : List (Field × Bool)) (paths : List Nat) (idx : Nat) (c : W.Cfg) (f : Field)
    (h : ctor.lookup f = some true) : (freshAt (W := W) ctor paths idx c) f = W.cfgVal f c := by
  simp only [freshAt, h]

theorem freshAt_const (ctor : List (Field × Bool)) (paths : List Nat) (idx : Nat) (c : W.Cfg) (f : Field)
    (h : ctor.lookup f ≠ some true) : (freshAt (W := W) ctor paths idx c) f = constVal W paths idx f := by
  simp only [freshAt]

end KVerif.Reload
