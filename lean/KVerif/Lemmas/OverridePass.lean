/-
C13 helper lemmas: the single pass of `override_keys` over the key list, in closed form.
-/
import KVerif.Lemmas.OverrideSelect
namespace KVerif.Override

/-! ### push-if-absent -/

theorem mem_pushUnique {l : List Nat} {x y : Nat} : x ∈ pushUnique l y ↔ x ∈ l ∨ x = y := by
  unfold pushUnique
  split
  · exact ⟨.inl, fun h => h.elim id (· ▸ ‹y ∈ l›)⟩
  · simp

theorem nodup_pushUnique {l : List Nat} {y : Nat} (h : l.Nodup) : (pushUnique l y).Nodup := by
  unfold pushUnique
  split
  · exact h
  · exact List.nodup_append.mpr ⟨h, by simp,
      fun a ha b hb hab => ‹y ∉ l› (List.mem_singleton.mp hb ▸ hab ▸ ha)⟩

/-- pushing keeps what is there, in place -/
theorem pushUnique_prefix (l : List Nat) (y : Nat) : l <+: pushUnique l y := by
  unfold pushUnique
  split
  · exact List.prefix_rfl
  · exact List.prefix_append l [y]

theorem mem_foldl_pushUnique {ys l : List Nat} {x : Nat} :
    x ∈ ys.foldl pushUnique l ↔ x ∈ l ∨ x ∈ ys := by
  induction ys generalizing l with
  | nil => simp
  | cons y rest ih => rw [List.foldl_cons, ih, mem_pushUnique, List.mem_cons, or_assoc]

theorem nodup_foldl_pushUnique {ys l : List Nat} (h : l.Nodup) : (ys.foldl pushUnique l).Nodup := by
  induction ys generalizing l with
  | nil => exact h
  | cons y rest ih => exact ih (nodup_pushUnique h)

theorem foldl_pushUnique_prefix (ys l : List Nat) : l <+: ys.foldl pushUnique l := by
  induction ys generalizing l with
  | nil => exact List.prefix_rfl
  | cons y rest ih => exact (pushUnique_prefix l y).trans (ih _)

theorem foldl_pushUnique_of_nodup {ys l : List Nat} (h : ys.Nodup) (hd : ∀ y ∈ ys, y ∉ l) :
    ys.foldl pushUnique l = l ++ ys := by
  induction ys generalizing l with
  | nil => simp
  | cons y rest ih =>
    have ⟨hy, hd⟩ := List.forall_mem_cons.mp hd
    have ⟨hyr, h⟩ := List.nodup_cons.mp h
    have hd' : ∀ z ∈ rest, z ∉ l ++ [y] := fun z hz hzl =>
      (List.mem_append.mp hzl).elim (hd z hz) fun hzy => hyr (List.mem_singleton.mp hzy ▸ hz)
    rw [List.foldl_cons, pushUnique, if_neg hy, ih h hd', List.append_assoc]; rfl

theorem foldl_pushUnique_of_subset {ys l : List Nat} (h : ∀ y ∈ ys, y ∈ l) :
    ys.foldl pushUnique l = l := by
  induction ys with
  | nil => rfl
  | cons y rest ih =>
    have ⟨hy, h⟩ := List.forall_mem_cons.mp h
    rw [List.foldl_cons, pushUnique, if_pos hy, ih h]

theorem addOverrideKeys_eq (o : Override) (a : List Nat) :
    o.addOverrideKeys a = o.outs.foldl pushUnique a := by
  rw [Override.outs, List.foldl_append]; rfl

theorem addRemovedKeys_eq (o : Override) (r : List Nat) :
    o.addRemovedKeys r = o.combo.foldl pushUnique r := by
  rw [Override.combo, List.foldl_append]; rfl

theorem mem_addOverrideKeys {o : Override} {a : List Nat} {x : Nat} :
    x ∈ o.addOverrideKeys a ↔ x ∈ a ∨ x ∈ o.outs := by
  rw [addOverrideKeys_eq, mem_foldl_pushUnique]

theorem mem_addRemovedKeys {o : Override} {r : List Nat} {x : Nat} :
    x ∈ o.addRemovedKeys r ↔ x ∈ r ∨ x ∈ o.combo := by
  rw [addRemovedKeys_eq, mem_foldl_pushUnique]

theorem nodup_addOverrideKeys {o : Override} {a : List Nat} (h : a.Nodup) :
    (o.addOverrideKeys a).Nodup :=
  addOverrideKeys_eq o a ▸ nodup_foldl_pushUnique h

theorem nodup_addRemovedKeys {o : Override} {r : List Nat} (h : r.Nodup) :
    (o.addRemovedKeys r).Nodup :=
  addRemovedKeys_eq o r ▸ nodup_foldl_pushUnique h

theorem addOverrideKeys_prefix (o : Override) (a : List Nat) : ∃ t, o.addOverrideKeys a = a ++ t := by
  obtain ⟨t, h⟩ := addOverrideKeys_eq o a ▸ foldl_pushUnique_prefix o.outs a
  exact ⟨t, h.symm⟩

/-- an output list written without repetition is added as written -/
theorem addOverrideKeys_nil_of_nodup (o : Override) (h : o.outs.Nodup) :
    o.addOverrideKeys [] = o.outs := by
  rw [addOverrideKeys_eq, foldl_pushUnique_of_nodup h (fun _ _ => List.not_mem_nil), List.nil_append]

/-- pushing keys that are all there already changes nothing -/
theorem addOverrideKeys_idem (o : Override) (a : List Nat) (h : ∀ x ∈ o.outs, x ∈ a) :
    o.addOverrideKeys a = a := by
  rw [addOverrideKeys_eq, foldl_pushUnique_of_subset h]

/-! ### the pass -/

/-- the override chosen for a non-modifier key `k` when the keys `pre` precede it -/
def winnerAt (tbl : List Override) (pre : List Nat) (k : Nat) : Option Override :=
  selectPure pre (tbl.filter (fun o => o.inKey == k)) 0 none

/-- the overrides that fire while `ks` is traversed after `pre`, in firing order -/
def applied (tbl : List Override) : List Nat → List Nat → List Override
  | _, [] => []
  | pre, k :: ks =>
    (if isMod k then [] else (winnerAt tbl pre k).toList) ++ applied tbl (pre ++ [k]) ks

/-- `oscs_to_remove` / `oscs_to_add` after the overrides `ws` have fired in turn -/
def remOf (ws : List Override) (rem : List Nat) : List Nat :=
  (ws.flatMap Override.combo).foldl pushUnique rem
def addOf (ws : List Override) (add : List Nat) : List Nat :=
  (ws.flatMap Override.outs).foldl pushUnique add

theorem remOf_cons (w : Override) (ws : List Override) (rem : List Nat) :
    remOf (w :: ws) rem = remOf ws (w.addRemovedKeys rem) := by
  rw [remOf, List.flatMap_cons, List.foldl_append, ← addRemovedKeys_eq, remOf]

theorem addOf_cons (w : Override) (ws : List Override) (add : List Nat) :
    addOf (w :: ws) add = addOf ws (w.addOverrideKeys add) := by
  rw [addOf, List.flatMap_cons, List.foldl_append, ← addOverrideKeys_eq, addOf]

theorem updateKeys_eq (tbl : List Override) (hwf : ∀ o ∈ tbl, o.WF) (k : Nat) (pre add rem : List Nat) :
    (Overrides.new tbl).updateKeys k (modsOf pre 0) add rem =
      .ok (match winnerAt tbl pre k with
           | some w => (w.addOverrideKeys add, w.addRemovedKeys rem)
           | none => (add, rem)) := by
  have hsel : selectLoop (modsOf pre 0) (tbl.filter (fun o => o.inKey == k)) 0 none =
      .ok (winnerAt tbl pre k) :=
    selectLoop_eq pre _ (fun o ho => hwf o (List.mem_filter.mp ho).1) 0 none
  rw [← get_new] at hsel
  unfold Overrides.updateKeys
  cases h : (Overrides.new tbl).get k <;> rw [h] at hsel
  · rw [← Except.ok.inj hsel]
  · simp only [Option.getD_some] at hsel
    simp only [hsel]
    cases winnerAt tbl pre k <;> rfl

theorem pass_eq (tbl : List Override) (hwf : ∀ o ∈ tbl, o.WF) (ks pre add rem : List Nat) :
    pass (Overrides.new tbl) ks ⟨modsOf pre 0, rem, add⟩ =
      .ok ⟨modsOf (pre ++ ks) 0, remOf (applied tbl pre ks) rem, addOf (applied tbl pre ks) add⟩ := by
  induction ks generalizing pre add rem with
  | nil => simp [pass, applied, remOf, addOf]
  | cons k rest ih =>
    have ih := ih (pre ++ [k])
    rw [modsOf_snoc, List.append_assoc] at ih
    have hmod : isMod k = (maskForKey k).isSome := rfl
    simp only [pass, OverrideStates.update, applied, hmod]
    cases hm : maskForKey k <;> simp only [hm] at ih
    · rw [updateKeys_eq tbl hwf]
      cases winnerAt tbl pre k <;> simp [ih, remOf_cons, addOf_cons]
    · simp [ih]

theorem applied_nil_tbl (pre ks : List Nat) : applied [] pre ks = [] := by
  induction ks generalizing pre with
  | nil => rfl
  | cons k rest ih => rw [applied, ih]; cases isMod k <;> rfl

/-- **closed form of `override_keys`** for a table produced by `try_new`.  The empty table takes
the early exit; the closed form gives the same keys there because nothing fires, and only the
scratch state tells the two apart. -/
theorem overrideKeys_eq (tbl : List Override) (hwf : ∀ o ∈ tbl, o.WF) (ks : List Nat)
    (st : OverrideStates) :
    (Overrides.new tbl).overrideKeys ks st =
      .ok (ks.filter (fun k => !((remOf (applied tbl [] ks) []).contains k)) ++ addOf (applied tbl [] ks) [],
           if tbl = [] then st
           else ⟨modsOf ks 0, remOf (applied tbl [] ks) [], addOf (applied tbl [] ks) []⟩) := by
  by_cases hne : tbl = []
  · subst hne
    rw [if_pos rfl, applied_nil_tbl]
    exact congrArg (fun l => Except.ok (l, st))
      ((List.filter_eq_self.mpr fun _ _ => rfl).symm.trans (List.append_nil _).symm)
  · have he : (Overrides.new tbl).isEmpty = false := by
      rw [isEmpty_new, List.isEmpty_eq_false_iff]; exact hne
    have hp : pass (Overrides.new tbl) ks OverrideStates.new = _ := pass_eq tbl hwf ks [] [] []
    rw [Overrides.overrideKeys, he, hp, if_neg hne]; rfl

/-! ### what was removed, what was added -/

theorem addOf_all_same (o : Override) (ws : List Override) (hall : ∀ o' ∈ ws, o' = o)
    (hne : ws ≠ []) : addOf ws [] = o.addOverrideKeys [] := by
  obtain ⟨w, rest, rfl⟩ := List.exists_cons_of_ne_nil hne
  obtain ⟨rfl, hrest⟩ := List.forall_mem_cons.mp hall
  rw [addOf, List.flatMap_cons, List.foldl_append, ← addOverrideKeys_eq]
  apply foldl_pushUnique_of_subset
  intro y hy
  obtain ⟨o', ho', hy⟩ := List.mem_flatMap.mp hy
  exact mem_addOverrideKeys.mpr (.inr (hrest o' ho' ▸ hy))

theorem winnerAt_inKey {tbl : List Override} {pre : List Nat} {k : Nat} {w : Override}
    (h : winnerAt tbl pre k = some w) : w ∈ tbl ∧ w.inKey = k := by
  obtain ⟨l1, l2, hl, _⟩ := (selectPure_some_iff pre _ w).mp h
  have : w ∈ tbl.filter (fun o => o.inKey == k) := by rw [hl]; simp
  simpa using List.mem_filter.mp this

/-- an override fires iff its (non-modifier) key occurs somewhere in the list and it is the one
selected there, given the keys before that occurrence -/
theorem mem_applied {tbl : List Override} {pre ks : List Nat} {o : Override} :
    o ∈ applied tbl pre ks ↔
      ∃ l1 l2, ks = l1 ++ o.inKey :: l2 ∧ isMod o.inKey = false ∧
        winnerAt tbl (pre ++ l1) o.inKey = some o := by
  induction ks generalizing pre with
  | nil => simp [applied]
  | cons k rest ih =>
    rw [applied, List.mem_append, ih]
    constructor
    · rintro (h | ⟨l1, l2, rfl, hm, hw⟩)
      · cases hk : isMod k <;> simp [hk] at h
        obtain rfl := (winnerAt_inKey h).2
        exact ⟨[], rest, rfl, hk, by simpa using h⟩
      · exact ⟨k :: l1, l2, rfl, hm, by simpa using hw⟩
    · rintro ⟨l1, l2, hl, hm, hw⟩
      rcases List.cons_eq_append_iff.mp hl with ⟨rfl, h⟩ | ⟨l1', rfl, rfl⟩
      · obtain ⟨rfl, rfl⟩ := List.cons.inj h
        exact .inl (by simpa [hm] using hw)
      · exact .inr ⟨l1', l2, rfl, hm, by simpa using hw⟩

/-- `o` fires on the key list `ks`: its (non-modifier) key occurs in `ks`, and among the overrides
of that key, in table order, `o` is the first of the longest ones all of whose modifiers occur
*before that occurrence*. -/
def Fires (tbl : List Override) (ks : List Nat) (o : Override) : Prop :=
  ∃ l1 l2, ks = l1 ++ o.inKey :: l2 ∧ isMod o.inKey = false ∧
    FirstLongest l1 (tbl.filter (fun o' => o'.inKey == o.inKey)) o

theorem fires_iff_applied {tbl : List Override} {ks : List Nat} {o : Override} :
    Fires tbl ks o ↔ o ∈ applied tbl [] ks := by
  rw [mem_applied]
  simp only [Fires, List.nil_append, winnerAt, selectPure_some_iff]

theorem Fires.modsBefore {tbl : List Override} {ks : List Nat} {o : Override} (h : Fires tbl ks o) :
    o ∈ tbl ∧ ∃ l1 l2, ks = l1 ++ o.inKey :: l2 ∧ o.modsIn l1 = true := by
  obtain ⟨l1, l2, hks, _, g1, g2, hg, hm, _⟩ := h
  have hmem : o ∈ tbl.filter (fun o' => o'.inKey == o.inKey) :=
    hg ▸ List.mem_append_right _ List.mem_cons_self
  exact ⟨(List.mem_filter.mp hmem).1, l1, l2, hks, hm⟩

theorem mem_remOf_applied {tbl : List Override} {ks : List Nat} {x : Nat} :
    x ∈ remOf (applied tbl [] ks) [] ↔ ∃ o, Fires tbl ks o ∧ x ∈ o.combo := by
  simp [remOf, mem_foldl_pushUnique, fires_iff_applied]

theorem mem_addOf_applied {tbl : List Override} {ks : List Nat} {x : Nat} :
    x ∈ addOf (applied tbl [] ks) [] ↔ ∃ o, Fires tbl ks o ∧ x ∈ o.outs := by
  simp [addOf, mem_foldl_pushUnique, fires_iff_applied]

/-- `hwf`: the table consists of `try_new` results. -/
theorem overrideKeys_keys (tbl : List Override) (hwf : ∀ o ∈ tbl, o.WF) (ks : List Nat)
    (st : OverrideStates) :
    ∃ (R A : List Nat) (st' : OverrideStates), (Overrides.new tbl).overrideKeys ks st =
        .ok (ks.filter (fun k => !R.contains k) ++ A, st') ∧
      (∀ x, x ∈ R ↔ ∃ o, Fires tbl ks o ∧ x ∈ o.combo) ∧
      (∀ x, x ∈ A ↔ ∃ o, Fires tbl ks o ∧ x ∈ o.outs) :=
  ⟨_, _, _, overrideKeys_eq tbl hwf ks st, fun _ => mem_remOf_applied, fun _ => mem_addOf_applied⟩

/-- **the keys `override_keys` returns, as a set**: the held keys outside every firing override's
combination, and the firing overrides' output keys. -/
theorem mem_overrideKeys {tbl : List Override} (hwf : ∀ o ∈ tbl, o.WF) {ks ks' : List Nat}
    {st st' : OverrideStates} (h : (Overrides.new tbl).overrideKeys ks st = .ok (ks', st')) {x : Nat} :
    x ∈ ks' ↔ (x ∈ ks ∧ ¬ ∃ o, Fires tbl ks o ∧ x ∈ o.combo) ∨ ∃ o, Fires tbl ks o ∧ x ∈ o.outs := by
  obtain ⟨R, A, _, h', hR, hA⟩ := overrideKeys_keys tbl hwf ks st
  cases h'.symm.trans h
  simp only [List.mem_append, List.mem_filter, Bool.not_eq_true', List.contains_eq_mem,
    decide_eq_false_iff_not, hR, hA]

end KVerif.Override
