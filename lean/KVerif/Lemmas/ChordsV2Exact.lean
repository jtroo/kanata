/-
C09 helper lemmas for chords v2, arbitrary tables (the 16-slot candidate list may overflow): the
candidates after the presses accumulated so far (`Fk`), the loop state of `process_presses` while
nothing has been activated (`Mid`), and one step of the loop from such a state - going on, completing
the only candidate left, or finding none left.
-/
import KVerif.Lemmas.ChordsV2Release
namespace KVerif.C09
open KVerif.L

/-- the enabled chords of the first key's table entry that contain all of `acc` -/
def Fk (possible : List ChordV2) (layer : Nat) (acc : List Nat) : List ChordV2 :=
  possible.filter fun pch => enabledOn layer pch && acc.all (pch.keys.contains ·)

theorem Fk_snoc (possible : List ChordV2) (layer : Nat) (acc : List Nat) (p : Nat) :
    (Fk possible layer acc).filter (·.keys.contains p) = Fk possible layer (acc ++ [p]) := by
  unfold Fk
  rw [List.filter_filter]
  congr 1
  funext pch
  simp only [List.all_append, List.all_cons, List.all_nil, Bool.and_true]
  cases enabledOn layer pch <;> cases acc.all (pch.keys.contains ·) <;> cases pch.keys.contains p <;> rfl

theorem mem_Fk {possible : List ChordV2} {layer : Nat} {acc : List Nat} {c : ChordV2} :
    c ∈ Fk possible layer acc ↔ c ∈ possible ∧ enabledOn layer c = true ∧ acc.all (c.keys.contains ·) = true := by
  unfold Fk
  simp only [List.mem_filter, Bool.and_eq_true]

/-- the loop state while nothing has been activated and `pre` has been accumulated -/
structure Mid (possible : List ChordV2) (layer since : Nat) (A0 : List ActiveChord) (T0 : Nat) (pre : List Nat) (st : PP) : Prop where
  done : st.done = false
  acc : st.acc = pre
  active : st.active = A0
  tti : st.ticksToIgnore = T0
  cands : (st.prevCount = none ∧ st.cands = [] ∧ pre = []) ∨
          (st.prevCount = some (Fk possible layer pre).length ∧ st.cands = (Fk possible layer pre).take SMOL_Q_LEN ∧
           st.ticksUntil = minPending (Fk possible layer pre) - since)

theorem ppInit_mid (possible : List ChordV2) (layer since : Nat) (s : ChV2) :
    Mid possible layer since s.active s.ticksToIgnore [] (ppInit s) :=
  ⟨rfl, rfl, rfl, rfl, Or.inl ⟨rfl, rfl, rfl⟩⟩

theorem Fk_snoc_length_le (possible : List ChordV2) (layer : Nat) (acc : List Nat) (p : Nat) :
    (Fk possible layer (acc ++ [p])).length ≤ (Fk possible layer acc).length := by
  rw [← Fk_snoc]; exact List.length_filter_le _ _

theorem ppCands_mid (possible : List ChordV2) (layer since : Nat) (A0 : List ActiveChord) (T0 : Nat) (pre : List Nat) (st : PP)
    (p : Nat) (hm : Mid possible layer since A0 T0 pre st) :
    ppCands possible layer st p =
      ((Fk possible layer (pre ++ [p])).take SMOL_Q_LEN, (Fk possible layer (pre ++ [p])).length,
       minPending (Fk possible layer (pre ++ [p]))) := by
  unfold ppCands
  rcases hm.cands with ⟨h1, h2, h3⟩ | ⟨h1, h2, _⟩
  · have : (st.prevCount == some st.cands.length) = false := by rw [h1]; rfl
    simp only [this, Bool.false_eq_true, if_false, hm.acc]
    rfl
  · by_cases hle : (Fk possible layer pre).length ≤ SMOL_Q_LEN
    · -- the stored list is the whole candidate set: narrow it
      have htake : (Fk possible layer pre).take SMOL_Q_LEN = Fk possible layer pre := List.take_of_length_le hle
      have : (st.prevCount == some (Fk possible layer pre).length) = true := by rw [h1]; simp
      have hle' : (Fk possible layer (pre ++ [p])).length ≤ SMOL_Q_LEN :=
        Nat.le_trans (Fk_snoc_length_le possible layer pre p) hle
      simp only [h2, htake, this, if_true, Fk_snoc, List.take_of_length_le hle']
    · -- more candidates than slots: the list is rebuilt from the table
      have hlen : st.cands.length = SMOL_Q_LEN := by
        rw [h2, List.length_take]; omega
      have : (st.prevCount == some st.cands.length) = false := by
        rw [h1, hlen]; simp; omega
      simp only [this, Bool.false_eq_true, if_false, hm.acc]
      rfl

/-- a step that activates nothing: two or more candidates, or a single incomplete one -/
theorem ppStep_mid (possible : List ChordV2) (layer since : Nat) (relFound : Option Nat) (minIdle : Nat)
    (A0 : List ActiveChord) (T0 : Nat) (pre : List Nat) (st : PP) (p : Nat)
    (hm : Mid possible layer since A0 T0 pre st)
    (hne : Fk possible layer (pre ++ [p]) ≠ [])
    (hinc : ∀ x, Fk possible layer (pre ++ [p]) = [x] → x.keys.all ((pre ++ [p]).contains ·) = false) :
    ∃ st', ppStep possible layer since relFound minIdle st p = .ok st' ∧
      Mid possible layer since A0 T0 (pre ++ [p]) st' := by
  unfold ppStep
  simp only [hm.done, Bool.false_eq_true, if_false, ppCands_mid possible layer since A0 T0 pre st p hm, hm.acc]
  generalize hF : Fk possible layer (pre ++ [p]) = F at hne hinc ⊢
  rcases F with _ | ⟨x, _ | ⟨y, l⟩⟩
  · exact absurd rfl hne
  · have := hinc x rfl
    have ht : List.take SMOL_Q_LEN [x] = [x] := rfl
    simp only [List.length_cons, List.length_nil, Nat.zero_add, ht, List.head?_cons, this, Bool.false_eq_true, if_false]
    exact ⟨_, rfl, ⟨rfl, rfl, hm.active, hm.tti, Or.inr ⟨by rw [hF]; rfl, by rw [hF]; rfl, by rw [hF]⟩⟩⟩
  · simp only [List.length_cons]
    exact ⟨_, rfl, ⟨rfl, rfl, hm.active, hm.tti, Or.inr ⟨by rw [hF]; rfl, by rw [hF], by rw [hF]⟩⟩⟩

/-- the step that completes the only remaining candidate -/
theorem ppStep_complete (possible : List ChordV2) (layer since : Nat) (relFound : Option Nat) (minIdle : Nat)
    (A0 : List ActiveChord) (T0 : Nat) (pre : List Nat) (st : PP) (p : Nat) (x : ChordV2)
    (hm : Mid possible layer since A0 T0 pre st)
    (hF : Fk possible layer (pre ++ [p]) = [x]) (hcomp : x.keys.all ((pre ++ [p]).contains ·) = true)
    (hroom : A0.length < ACTIVE_CHORDS_CAP) :
    ∃ st', ppStep possible layer since relFound minIdle st p = .ok st' ∧
      st'.done = true ∧ st'.acc = pre ++ [p] ∧ st'.ticksToIgnore = T0 ∧ st'.ticksUntil = st.ticksUntil ∧
      st'.active = A0 ++ [getActiveChord x since (freeCoord st.active st.nextCoord) relFound] := by
  unfold ppStep
  have hp := pushActive_room (getActiveChord x since (freeCoord st.active st.nextCoord) relFound) (hm.active ▸ hroom)
  have ht : List.take SMOL_Q_LEN [x] = [x] := rfl
  simp only [hm.done, Bool.false_eq_true, if_false, ppCands_mid possible layer since A0 T0 pre st p hm,
    hm.acc, hF, List.length_cons, List.length_nil, Nat.zero_add, ht,
    List.head?_cons, hcomp, if_true, hp]
  exact ⟨_, rfl, rfl, rfl, hm.tti, rfl, by rw [hm.active]⟩

/-- the step on which no candidate is left: the loop goes back to the presses before it -/
theorem ppStep_backtrack (possible : List ChordV2) (layer since : Nat) (relFound : Option Nat) (minIdle : Nat)
    (A0 : List ActiveChord) (T0 : Nat) (pre : List Nat) (st : PP) (p : Nat)
    (hm : Mid possible layer since A0 T0 pre st)
    (hF : Fk possible layer (pre ++ [p]) = []) (hroom : A0.length < ACTIVE_CHORDS_CAP) :
    ∃ st', ppStep possible layer since relFound minIdle st p = .ok st' ∧
      st'.done = true ∧ st'.acc = pre ∧ st'.cands = [] ∧
      match (possible.filter (enabledOn layer)).find? (exactMatch pre) with
      | some cch =>
        st'.active = A0 ++ [getActiveChord cch since (freeCoord st.active st.nextCoord) relFound] ∧ st'.ticksToIgnore = T0
      | none => st'.active = A0 ∧ st'.ticksToIgnore = minIdle := by
  unfold ppStep
  have ht : List.take SMOL_Q_LEN ([] : List ChordV2) = [] := rfl
  simp only [hm.done, Bool.false_eq_true, if_false, ppCands_mid possible layer since A0 T0 pre st p hm,
    hm.acc, hF, List.length_nil, ht, List.dropLast_concat]
  cases hfind : (possible.filter (enabledOn layer)).find? (exactMatch pre) with
  | none => exact ⟨_, rfl, rfl, rfl, rfl, hm.active, rfl⟩
  | some cch =>
    simp only [pushActive_room _ (hm.active ▸ hroom)]
    exact ⟨_, rfl, rfl, rfl, rfl, by rw [hm.active], hm.tti⟩

theorem ppLoop_done (possible : List ChordV2) (layer since : Nat) (relFound : Option Nat) (minIdle : Nat) :
    ∀ (rest : List Nat) (st : PP), st.done = true → ppLoop possible layer since relFound minIdle rest st = .ok st := by
  intro rest
  induction rest with
  | nil => intro st _; rfl
  | cons p rest ih =>
    intro st hd
    have : ppStep possible layer since relFound minIdle st p = .ok st := by
      unfold ppStep; simp only [hd, if_true]
    simp only [ppLoop, this]
    exact ih st hd

end KVerif.C09
