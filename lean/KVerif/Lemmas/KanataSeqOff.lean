/-
The key diff of `handle_keystate_changes` writes output and records which keys are down, nothing
else (`OutFrame`).  The sequence hooks of the kanata-level model (Model/KanataSeq.lean, `-- [seq]` in
Model/Kanata.lean) do nothing while sequence mode is off and `sequence-always-on` is not configured:
the press loop is the plain press loop `pressNew`, the all-released hook and `tick_sequence_state`
return the state unchanged, so the theorems about configurations without sequences do not see the hooks.
-/
import KVerif.Model.Kanata
namespace KVerif.K
open KVerif.L

theorem emit_seq (k : KState) (e : Os) : (k.emit e).seq = k.seq := rfl

def OutFrame (k k' : KState) : Prop :=
  ∃ o p lp, k' = { k with out := o, prevKeys := p, lastPressedKey := lp }

theorem OutFrame.refl (k : KState) : OutFrame k k := ⟨k.out, k.prevKeys, k.lastPressedKey, rfl⟩

theorem OutFrame.trans {a b c : KState} (h1 : OutFrame a b) (h2 : OutFrame b c) : OutFrame a c := by
  obtain ⟨o1, p1, l1, rfl⟩ := h1
  obtain ⟨o2, p2, l2, rfl⟩ := h2
  exact ⟨o2, p2, l2, rfl⟩

theorem OutFrame.seq {k k' : KState} (h : OutFrame k k') : k'.seq = k.seq := by
  obtain ⟨o, p, lp, rfl⟩ := h; rfl

theorem OutFrame.layout {k k' : KState} (h : OutFrame k k') : k'.layout = k.layout := by
  obtain ⟨o, p, lp, rfl⟩ := h; rfl

theorem emit_frame (k : KState) (e : Os) : OutFrame k (k.emit e) :=
  ⟨k.out ++ [e], k.prevKeys, k.lastPressedKey, rfl⟩

theorem releaseKey_frame (k : KState) (x : KeyCode) : OutFrame k (releaseKey k x) := by
  unfold releaseKey
  split
  · exact .refl k
  · split
    · exact emit_frame k _
    · split
      · exact .refl k
      · exact emit_frame k _

theorem pressKey_frame (k : KState) (x : KeyCode) : OutFrame k (pressKey k x) := by
  unfold pressKey
  split
  · exact .refl k
  · split
    · exact emit_frame k _
    · split <;> exact emit_frame k _

theorem emitSeq_frame (k : KState) (o : List Seq.Out) : OutFrame k (emitSeq k o) := by
  induction o generalizing k with
  | nil => exact .refl k
  | cons e r ih =>
    cases e with
    | down c => exact (pressKey_frame k c).trans (ih _)
    | up c => exact (releaseKey_frame k c).trans (ih _)

theorem releaseOld_frame (k : KState) (cur : List KeyCode) (rev : Bool) : OutFrame k (releaseOld k cur rev) := by
  unfold releaseOld
  generalize (if rev = true then k.prevKeys.reverse else k.prevKeys) = olds
  induction olds generalizing k with
  | nil => exact .refl k
  | cons x xs ih =>
    rw [List.foldl_cons]
    split
    · exact ih k
    · exact (releaseKey_frame k x).trans (ih _)

theorem pressNew_frame (k : KState) (cur : List KeyCode) : OutFrame k (pressNew k cur) := by
  unfold pressNew
  induction cur generalizing k with
  | nil => exact .refl k
  | cons x xs ih =>
    rw [List.foldl_cons]
    split
    · exact ih k
    · exact (OutFrame.trans ⟨k.out, k.prevKeys ++ [x], x, rfl⟩ (pressKey_frame _ x)).trans (ih _)

theorem diff_frame (k : KState) (cur : List KeyCode) (rev : Bool) :
    OutFrame k (pressNew (releaseOld k cur rev) cur) :=
  (releaseOld_frame k cur rev).trans (pressNew_frame _ cur)

theorem pressKey_seq (k : KState) (x : KeyCode) : (pressKey k x).seq = k.seq := (pressKey_frame k x).seq

theorem emitSeq_seq (k : KState) (o : List Seq.Out) : (emitSeq k o).seq = k.seq := (emitSeq_frame k o).seq

theorem emitSeq_layout (k : KState) (o : List Seq.Out) : (emitSeq k o).layout = k.layout :=
  (emitSeq_frame k o).layout

theorem releaseOld_seq (k : KState) (cur : List KeyCode) (rev : Bool) : (releaseOld k cur rev).seq = k.seq :=
  (releaseOld_frame k cur rev).seq

theorem pressNew_seq (k : KState) (cur : List KeyCode) : (pressNew k cur).seq = k.seq :=
  (pressNew_frame k cur).seq

theorem off_alwaysOnStep (s : SeqK) (h : s.off = true) : s.alwaysOnStep = s := by
  unfold SeqK.off at h
  unfold SeqK.alwaysOnStep
  cases ha : s.alwaysOn <;> simp_all

theorem off_inactive (s : SeqK) (h : s.off = true) : s.st.active = false := by
  unfold SeqK.off at h
  cases ha : s.st.active <;> simp_all

/-- with sequence mode off and no always-on, the press loop of the composed model is the plain press
loop -/
theorem pressLoop_off (cur xs : List KeyCode) (k : KState) (h : k.seq.off = true) :
    pressLoop cur xs k = .ok (pressNew k xs) := by
  unfold pressNew
  induction xs generalizing k with
  | nil => rfl
  | cons x xs ih =>
    rw [pressLoop, List.foldl_cons]
    split
    · exact ih k h
    · simp only [off_alwaysOnStep k.seq h, off_inactive k.seq h, Bool.false_eq_true, if_false]
      exact ih _ ((pressKey_seq _ x).symm ▸ h)

/-- no key is new: the press loop does nothing, whatever the sequence state -/
theorem pressLoop_synced (cur xs : List KeyCode) (k : KState) (h : ∀ x ∈ xs, x ∈ k.prevKeys) :
    pressLoop cur xs k = .ok k := by
  induction xs with
  | nil => rfl
  | cons x xs ih =>
    rw [pressLoop, if_pos (List.contains_iff_mem.mpr (h x List.mem_cons_self))]
    exact ih fun y hy => h y (List.mem_cons_of_mem x hy)

/-- nothing was down that is not wanted: the all-released hook does not run, whatever the sequence
state (`cur_keys.is_empty() && !prev_keys.is_empty()` is false) -/
theorem seqReleasedHook_synced (k : KState) (cur : List KeyCode) (h : ∀ x ∈ k.prevKeys, x ∈ cur) :
    seqReleasedHook k cur = .ok k := by
  unfold seqReleasedHook
  cases cur with
  | cons c cs => rfl
  | nil =>
    cases hp : k.prevKeys with
    | nil => rfl
    | cons y ys => exact absurd (h y (hp ▸ List.mem_cons_self)) List.not_mem_nil

/-- the all-released hook does nothing while sequence mode is off -/
theorem seqReleasedHook_inactive (k : KState) (cur : List KeyCode) (h : k.seq.st.active = false) :
    seqReleasedHook k cur = .ok k := by
  unfold seqReleasedHook seqAllReleased
  simp only [h, Bool.not_false, if_true]
  split <;> rfl

/-- `tick_sequence_state` does nothing while sequence mode is off -/
theorem tickSequenceState_inactive (k : KState) (h : k.seq.st.active = false) :
    tickSequenceState k = .ok k := by
  unfold tickSequenceState seqTick Seq.tickSeq
  simp only [h, Bool.not_false, if_true]
  rfl

/-- the key diff of `handle_keystate_changes` with sequence mode off -/
theorem seqDiff_off (k : KState) (cur : List KeyCode) (rev : Bool) (h : k.seq.off = true) :
    (match seqReleasedHook (releaseOld k cur rev) cur with
     | .error c => (Except.error c : Except Crash KState)
     | .ok k1 => pressLoop cur cur k1) = .ok (pressNew (releaseOld k cur rev) cur) := by
  have h1 : (releaseOld k cur rev).seq.off = true := (releaseOld_seq k cur rev).symm ▸ h
  rw [seqReleasedHook_inactive _ _ (off_inactive _ h1)]
  exact pressLoop_off cur cur _ h1

end KVerif.K
