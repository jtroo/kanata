/-
Facts about the model of deftemplate.rs (Model/Template.lean).
-/
import KVerif.Model.Template
import KVerif.Lemmas.SExprExcept
import KVerif.Lemmas.SExprVars
namespace KVerif.SExpr

theorem countNode_pos (x : SExpr) : 1 ≤ countNode x := by cases x <;> simp [countNode]

mutual
/-- no `(template-expand …)` / `(t! …)` list anywhere inside -/
def inert : SExpr → Bool
  | .atom _ _ => true
  | .list xs _ => !isExpandList xs && inertL xs
def inertL : List SExpr → Bool
  | [] => true
  | x :: r => inert x && inertL r
end

/-- the fuel bound: a pass spends one unit per node, `expand` one more per list -/
theorem inert_pinned (ts : List Template) : ∀ (fuel : Nat) (xs : List SExpr), inertL xs = true →
    (passPinned ts fuel xs = .ok (.ok (xs, false)) ∨
      passPinned ts fuel xs = .error .fuelOut ∧ fuel < 2 * countNodes xs) ∧
    (expandPinned ts fuel xs = .ok (.ok xs) ∨
      expandPinned ts fuel xs = .error .fuelOut ∧ fuel < 2 * countNodes xs + 1) := by
  intro fuel
  induction fuel with
  | zero =>
    intro xs _
    refine ⟨?_, .inr ⟨rfl, Nat.succ_pos _⟩⟩
    cases xs with
    | nil => exact .inl rfl
    | cons x r => exact .inr ⟨rfl, by have := countNode_pos x; simp only [countNodes]; omega⟩
  | succ f ih =>
    intro xs hx
    constructor
    · cases xs with
      | nil => exact .inl rfl
      | cons x r =>
        simp only [inertL, Bool.and_eq_true] at hx
        cases x with
        | atom t sp =>
          rcases (ih r hx.2).1 with h | ⟨h, hb⟩
          · exact .inl (by rw [passPinned, h]; rfl)
          · exact .inr ⟨by rw [passPinned, h]; rfl, by simp only [countNodes, countNode]; omega⟩
        | list ys sp =>
          simp only [inert, Bool.and_eq_true, Bool.not_eq_true'] at hx
          rw [passPinned, hx.1.1, if_pos (show (!false) = true from rfl)]
          rcases (ih ys hx.1.2).2 with h | ⟨h, hb⟩
          · rcases (ih r hx.2).1 with h2 | ⟨h2, hb2⟩
            · exact .inl (by rw [h, h2]; rfl)
            · exact .inr ⟨by rw [h, h2]; rfl, by simp only [countNodes, countNode]; omega⟩
          · exact .inr ⟨by rw [h]; rfl, by simp only [countNodes, countNode]; omega⟩
    · rw [expandPinned]
      rcases (ih xs hx).1 with h | ⟨h, hb⟩
      · exact .inl (by rw [h]; rfl)
      · exact .inr ⟨by rw [h]; rfl, by omega⟩

/-- one pass over inert expressions followed by one expansion list: the inert part is kept, the
expansion is replaced by its body, and the pass reports a change — unless it runs out of fuel. -/
theorem pass_pinned_call (ts : List Template) (cx : List SExpr) (csp : Span) (body : List SExpr)
    (h0 : isExpandList cx = true) (hc : expandCall ts cx csp = .ok (.ok body)) :
    ∀ (pre : List SExpr) (fuel : Nat), inertL pre = true →
      passPinned ts fuel (pre ++ [.list cx csp]) = .error .fuelOut ∨
      passPinned ts fuel (pre ++ [.list cx csp]) = .ok (.ok (pre ++ body, true)) := by
  intro pre
  induction pre with
  | nil =>
    intro fuel _
    cases fuel with
    | zero => exact .inl rfl
    | succ f => exact .inr (by simp [passPinned, h0, hc, bind, Except.bind, pure, Except.pure])
  | cons x r ih =>
    intro fuel hx
    simp only [inertL, Bool.and_eq_true] at hx
    cases fuel with
    | zero => exact .inl rfl
    | succ f =>
      cases x with
      | atom t sp =>
        rw [List.cons_append, passPinned]
        rcases ih f hx.2 with h | h
        · exact .inl (by rw [h]; rfl)
        · exact .inr (by rw [h]; rfl)
      | list ys sp =>
        simp only [inert, Bool.and_eq_true, Bool.not_eq_true'] at hx
        rw [List.cons_append, passPinned, hx.1.1, if_pos (show (!false) = true from rfl)]
        rcases (inert_pinned ts f ys hx.1.2).2 with h | ⟨h, _⟩
        · rcases ih f hx.2 with h2 | h2
          · exact .inl (by rw [h, h2]; rfl)
          · exact .inr (by rw [h, h2]; rfl)
        · exact .inl (by rw [h]; rfl)

/-- **a self-reproducing expansion never finishes on the pinned source.**  If the call `cx`
expands to a single call `fx` that expands to itself, `expand` runs out of every amount of fuel. -/
theorem pinned_diverges (ts : List Template) (pre cx fx : List SExpr) (csp fsp : Span)
    (hpre : inertL pre = true) (h0 : isExpandList cx = true)
    (hc : expandCall ts cx csp = .ok (.ok [.list fx fsp])) (hf : isExpandList fx = true)
    (hfix : expandCall ts fx fsp = .ok (.ok [.list fx fsp])) :
    ∀ fuel, expandPinned ts fuel (pre ++ [.list cx csp]) = .error .fuelOut := by
  have hfixed : ∀ fuel, expandPinned ts fuel (pre ++ [.list fx fsp]) = .error .fuelOut := by
    intro fuel
    induction fuel with
    | zero => rfl
    | succ f ih =>
      rw [expandPinned]
      rcases pass_pinned_call ts fx fsp _ hf hfix pre f hpre with h | h
      · rw [h]; rfl
      · rw [h]; exact ih
  intro fuel
  cases fuel with
  | zero => rfl
  | succ f =>
    rw [expandPinned]
    rcases pass_pinned_call ts cx csp _ h0 hc pre f hpre with h | h
    · rw [h]; rfl
    · rw [h]; exact hfixed f

deriving instance DecidableEq for Template

/-- the hypotheses are one conjunction so that for a concrete witness one evaluation certifies them -/
theorem expandTemplates_pinned_diverges {tops : List TopLevel} {ts : List Template} {pre cx fx : List SExpr}
    {csp fsp : Span}
    (h : collectTemplates tops [] = .ok ts ∧
      ((tops.filter fun t => !isDeftemplate t).map fun t => SExpr.list t.xs t.sp) = pre ++ [.list cx csp] ∧
      inertL pre = true ∧ isExpandList cx = true ∧ expandCall ts cx csp = .ok (.ok [.list fx fsp]) ∧
      isExpandList fx = true ∧ expandCall ts fx fsp = .ok (.ok [.list fx fsp])) (fuel : Nat) :
    expandTemplates Fixes.pinned fuel tops = .error .fuelOut := by
  obtain ⟨hts, hl, hpre, h0, hc, hf, hfix⟩ := h
  unfold expandTemplates
  simp only [hts]
  rw [hl, pinned_diverges ts pre cx fx csp fsp hpre h0 hc hf hfix fuel]
  rfl

theorem indexOf?_lt : ∀ (xs : List Bytes) (a : Bytes) (i : Nat), indexOf? xs a = some i → i < xs.length
  | [], _, _, h => by cases h
  | x :: r, a, i, h => by
    unfold indexOf? at h
    split at h
    · cases h; exact Nat.succ_pos _
    · cases hr : indexOf? r a with
      | none => rw [hr] at h; cases h
      | some j =>
        rw [hr] at h; cases h
        exact Nat.succ_lt_succ (indexOf?_lt r a j hr)

/-- the `expect("validated matching var lens")` of `expand` cannot fire once the parameter count was checked -/
theorem substitute_total_both (subNames : List Bytes) (args : List SExpr) (h : args.length = subNames.length) :
    (∀ x : SExpr, ∃ r, substituteOne subNames args x = .ok r) ∧
    (∀ xs : List SExpr, ∃ r, substitute subNames args xs = .ok r) := by
  refine SExpr.induction (fun t sp => ?_) (fun xs sp ih => ok_bind ih fun _ => ⟨_, rfl⟩) ⟨[], rfl⟩
    fun x rest ihx ihr => ok_bind ihx fun _ => ok_bind ihr fun _ => ⟨_, rfl⟩
  unfold substituteOne
  cases hi : indexOf? subNames t with
  | none => exact ⟨_, rfl⟩
  | some i =>
    have hlt : i < args.length := h ▸ indexOf?_lt _ _ _ hi
    exact ⟨args[i], by simp only [List.getElem?_eq_getElem hlt]; rfl⟩

theorem substitute_total (subNames : List Bytes) (args : List SExpr) (h : args.length = subNames.length) :
    ∀ xs : List SExpr, ∃ r, substitute subNames args xs = .ok r :=
  (substitute_total_both subNames args h).2

theorem substituteOne_total (subNames : List Bytes) (args : List SExpr) (h : args.length = subNames.length) :
    ∀ x : SExpr, ∃ r, substituteOne subNames args x = .ok r :=
  (substitute_total_both subNames args h).1

theorem chase_empty (f : Nat) (e : SExpr) : chase [] f e = .ok e :=
  (chase_cases [] e).elim (· f) fun ⟨_, _, _, _, _, _, hl⟩ => nomatch hl

/-- with no variables, `push_all_atoms` visits each node once -/
theorem pushAllAtoms_nil_total : ∀ (fuel : Nat) (xs : List SExpr), countNodes xs ≤ fuel →
    ∃ r, pushAllAtoms fuel [] xs = .ok r := by
  intro fuel
  induction fuel with
  | zero =>
    intro xs h
    cases xs with
    | nil => exact ⟨[], rfl⟩
    | cons x r => have := countNode_pos x; simp only [countNodes] at h; omega
  | succ f ih =>
    intro xs h
    cases xs with
    | nil => exact ⟨[], rfl⟩
    | cons x r =>
      simp only [countNodes] at h
      have := countNode_pos x
      rw [pushAllAtoms_cons, elemAtoms_eq, chase_empty]
      refine ok_bind ?_ fun _ => ok_bind (ih r (by omega)) fun _ => ⟨_, rfl⟩
      cases x with
      | atom t sp => exact ⟨_, rfl⟩
      | list l sp => simp only [countNode] at h; exact ih l (by omega)

theorem parseListVar_nil_total (fuel : Nat) (xs : List SExpr) (sp : Span) (h : countNodes xs ≤ fuel) :
    ∃ r, parseListVar fuel [] xs sp = .ok r := by
  unfold parseListVar
  split
  · split
    · simp only [countNodes, countNode] at h
      exact ok_bind (pushAllAtoms_nil_total fuel _ (by omega)) fun _ => ⟨_, rfl⟩
    · exact ⟨_, rfl⟩
  · exact ⟨_, rfl⟩

theorem concat_total_both (fuel : Nat) :
    (∀ x : SExpr, countNode x ≤ fuel → ∃ r, concatOne fuel x = .ok r) ∧
    (∀ xs : List SExpr, countNodes xs ≤ fuel → ∃ r, concatLists fuel xs = .ok r) := by
  refine SExpr.induction (fun t sp _ => ⟨_, rfl⟩) (fun xs sp ih h => ?_) (fun _ => ⟨[], rfl⟩)
    fun x rest ihx ihr h => ?_
  · simp only [countNode] at h
    refine ok_bind (parseListVar_nil_total fuel xs sp (by omega)) fun v => ?_
    cases v with
    | atom t s => exact ⟨_, rfl⟩
    | list a b => exact ok_bind (ih (by omega)) fun _ => ⟨_, rfl⟩
  · simp only [countNodes] at h
    exact ok_bind (ihx (by omega)) fun _ => ok_bind (ihr (by omega)) fun _ => ⟨_, rfl⟩

theorem concatLists_total (fuel : Nat) : ∀ xs : List SExpr, countNodes xs ≤ fuel → ∃ r, concatLists fuel xs = .ok r :=
  (concat_total_both fuel).2

theorem concatOne_total (fuel : Nat) : ∀ x : SExpr, countNode x ≤ fuel → ∃ r, concatOne fuel x = .ok r :=
  (concat_total_both fuel).1

theorem countNodes_ite_le (c : Prop) [Decidable c] (a b : SExpr) (l : List SExpr) :
    countNodes (if c then l else []) ≤ countNodes (a :: b :: l) := by
  split <;> simp [countNodes]; omega

/-- a conditional is replaced by the expressions after its two comparands, or by nothing -/
theorem condReplacement_le (xs : List SExpr) (sp : Span) (repl : List SExpr)
    (h : condReplacement xs sp = .ok (some repl)) : countNodes repl ≤ countNodes xs := by
  unfold condReplacement at h
  split at h
  · rename_i op s rest
    extract_lets strCmp listCmp at h
    have hs : ∀ eq, strCmp eq = .ok (some repl) → countNodes repl ≤ countNodes rest := by
      intro eq he
      simp only [strCmp] at he
      split at he; · cases he
      split at he; · cases he
      split at he; · cases he
      split at he; · cases he
      cases he; exact countNodes_ite_le ..
    have hl : ∀ isIn, listCmp isIn = .ok (some repl) → countNodes repl ≤ countNodes rest := by
      intro isIn he
      simp only [listCmp] at he
      split at he; · cases he
      split at he; · cases he
      split at he; · cases he
      split at he; · cases he
      cases he; exact countNodes_ite_le ..
    exact Nat.le_trans
      (of_ite_eq h (hs true) fun h => of_ite_eq h (hs false) fun h => of_ite_eq h (hl true) fun h =>
        of_ite_eq h (hl false) nofun)
      (Nat.le_add_left ..)
  · cases h

/-- a sweep of `evaluate_conditionals` never grows the expressions, and shrinks them when it
reports a change: the `while` loop around it finishes. -/
theorem evalCond_size_both :
    (∀ (x : SExpr) (e : List SExpr) (c : Bool), evalCondOne x = .ok (e, c) →
      countNodes e ≤ countNode x ∧ (c = true → countNodes e < countNode x)) ∧
    (∀ (xs xs' : List SExpr) (c : Bool), evalCond xs = .ok (xs', c) →
      countNodes xs' ≤ countNodes xs ∧ (c = true → countNodes xs' < countNodes xs)) := by
  refine SExpr.induction ?_ ?_ ?_ ?_
  · intro t sp e c h; cases h; exact ⟨Nat.le_refl _, nofun⟩
  · intro xs sp ih e c h
    obtain ⟨o, h1, h⟩ := bind_ok h
    cases o with
    | some repl =>
      cases h
      have := condReplacement_le xs sp _ h1
      simp only [countNode]
      exact ⟨by omega, fun _ => by omega⟩
    | none =>
      obtain ⟨⟨xs', c'⟩, h2, h⟩ := bind_ok h
      have := ih xs' c' h2
      cases h
      simp only [countNodes, countNode]
      exact ⟨by omega, fun hc => by have := this.2 hc; omega⟩
  · intro xs' c h; cases h; exact ⟨Nat.le_refl _, nofun⟩
  · intro x rest ihx ihr xs' c h
    obtain ⟨⟨e, c1⟩, h1, h⟩ := bind_ok h
    obtain ⟨⟨r, c2⟩, h2, h⟩ := bind_ok h
    cases h
    have a1 := ihx e c1 h1
    have a2 := ihr r c2 h2
    simp only [countNodes_append, countNodes, Bool.or_eq_true]
    exact ⟨by omega, fun hc => hc.elim (fun hc => by have := a1.2 hc; omega) fun hc => by have := a2.2 hc; omega⟩

theorem evalCond_size : ∀ (xs xs' : List SExpr) (c : Bool), evalCond xs = .ok (xs', c) →
    countNodes xs' ≤ countNodes xs ∧ (c = true → countNodes xs' < countNodes xs) :=
  evalCond_size_both.2

theorem evalCondOne_size : ∀ (x : SExpr) (e : List SExpr) (c : Bool), evalCondOne x = .ok (e, c) →
    countNodes e ≤ countNode x ∧ (c = true → countNodes e < countNode x) :=
  evalCond_size_both.1

theorem evalCondLoop_total : ∀ (fuel : Nat) (xs : List SExpr), countNodes xs < fuel →
    ∃ r, evalCondLoop fuel xs = .ok r
  | f + 1, xs, h => by
    unfold evalCondLoop
    cases h1 : evalCond xs with
    | error d => exact ⟨_, rfl⟩
    | ok p =>
      obtain ⟨xs', c⟩ := p
      cases c with
      | false => exact ⟨_, rfl⟩
      | true =>
        have := (evalCond_size xs xs' true h1).2 rfl
        exact evalCondLoop_total f xs' (by omega)

/-- expanding one call returns an expansion or a diagnostic: no `expect`, no fuel shortage -/
theorem expandCall_total (ts : List Template) (xs : List SExpr) (sp : Span) : ∃ r, expandCall ts xs sp = .ok r := by
  unfold expandCall
  split
  · rename_i h nameE args
    split
    · exact ⟨_, rfl⟩
    · split
      · exact ⟨_, rfl⟩
      · rename_i t ht
        split
        · exact ⟨_, rfl⟩
        · rename_i hlen
          have hlen' : args.length = t.subNames.length := by simpa [Template.subNames] using hlen
          exact ok_bind (substitute_total t.subNames args hlen' t.content) fun b1 =>
            ok_bind (concatLists_total _ b1 (Nat.le_succ _)) fun b2 =>
              evalCondLoop_total _ b2 (Nat.lt_succ_self _)
  · exact ⟨_, rfl⟩

def PassOK (d : Nat) (x : Except Crash (Except Diag (List SExpr × Nat × Bool))) : Prop :=
  ∃ r, x = .ok r ∧ ∀ e n, r = .ok (e, n, true) → d < MAX_EXPANSION_DEPTH

theorem PassOK.diag {d} (e : Diag) : PassOK d (.ok (.error e)) := ⟨_, rfl, nofun⟩

theorem PassOK.map {d x} (g : List SExpr → List SExpr) (h : PassOK d x) :
    PassOK d (do match ← x with
      | .error e => pure (.error e)
      | .ok (r, n, c) => pure (.ok (g r, n, c))) := by
  obtain ⟨r, rfl, hd⟩ := h
  match r, hd with
  | .error e, _ => exact .diag e
  | .ok (r, n, c), hd => exact ⟨_, rfl, fun e' n' h => by cases h; exact hd _ _ rfl⟩

/-- **the repaired `expand` returns** an expansion or a diagnostic: the `unreachable` arm of the
model (a pass that replaced something at the maximum depth) cannot be reached. -/
theorem expand_pass_total (ts : List Template) :
    (∀ (lim : Limits) (exprs : List SExpr), ∃ r, expand ts lim exprs = .ok r) ∧
    (∀ (lim : Limits) (exprs : List SExpr), PassOK lim.depth (pass ts lim exprs)) := by
  apply expand.mutual_induct
    (motive1 := fun lim exprs => ∃ r, expand ts lim exprs = .ok r)
    (motive2 := fun lim exprs => PassOK lim.depth (pass ts lim exprs))
  · intro lim exprs ⟨r, hr, hd⟩ hrec
    rw [expand.eq_1, hr]
    match r, hd with
    | .error d, _ => exact ⟨_, rfl⟩
    | .ok (e, n, false), _ => exact ⟨_, rfl⟩
    | .ok (e, n, true), hd =>
      have hlt := hd e n rfl
      simp only [bind, Except.bind, hlt, dite_true]
      exact hrec e n hlt
  · intro lim
    rw [pass.eq_1]; exact ⟨_, rfl, nofun⟩
  · intro lim t sp rest ih
    rw [pass.eq_2]; exact ih.map _
  · intro lim xs sp tail hne ⟨r1, hr1⟩ ih2
    rw [pass.eq_3, if_pos hne, hr1]
    match r1 with
    | .error d => exact .diag d
    | .ok (xs', n) => exact (ih2 n).map _
  · intro lim xs sp tail hne hdepth
    rw [pass.eq_3, if_neg hne, if_pos hdepth]; exact .diag _
  · intro lim xs sp tail hne hdepth ih
    rw [pass.eq_3, if_neg hne, if_neg hdepth]
    obtain ⟨rc, hrc⟩ := expandCall_total ts xs sp
    rw [hrc]
    match rc with
    | .error d => exact .diag d
    | .ok body =>
      simp only [bind, Except.bind]
      split
      · exact .diag _
      · obtain ⟨r2, hr2, _⟩ := ih body
        simp only [hr2]
        match r2 with
        | .error d => exact .diag d
        | .ok (e, n', c) => exact ⟨_, rfl, fun _ _ _ => Nat.lt_of_not_le hdepth⟩
end KVerif.SExpr
