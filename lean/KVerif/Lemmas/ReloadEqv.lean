/-
Helper lemmas for C15 (success half): two instances whose states agree on every field outside a list
`op` of retained fields produce the same outputs, notifications and crashes on every later history —
including later reloads — provided the parts of kanata outside the reload bookkeeping do not read the
fields of `op`.
-/
import KVerif.Lemmas.ReloadFresh
import KVerif.Lemmas.ReloadSim
namespace KVerif.Reload
open KVerif.Gen.Reload

variable {W : World}

/-! ### agreement off a list of retained fields -/

/-- `op` contains only retained fields that the reload bookkeeping does not read itself -/
def OpOK (op : List Field) : Prop := ∀ f, f ∈ op → f ∈ retainedOpaque

theorem OpOK.nm {op : List Field} (h : OpOK op) {f : Field} (hf : f ∉ retainedOpaque) : f ∉ op :=
  fun hm => hf (h f hm)

variable {op : List Field}

/-- The two states agree on every field the reload bookkeeping reads itself; that is all the
bookkeeping functions below use of `Eqv` and `OpOK`, apart from passing `Eqv` on. -/
structure SameReads (a b : KSt W) : Prop where
  cfg_paths : a .cfg_paths = b .cfg_paths
  cur_cfg_idx : a .cur_cfg_idx = b .cur_cfg_idx
  layout : a .layout = b .layout
  layer_info : a .layer_info = b .layer_info
  prev_layer : a .prev_layer = b .prev_layer
  cur_keys : a .cur_keys = b .cur_keys
  prev_keys : a .prev_keys = b .prev_keys
  live_reload_requested : a .live_reload_requested = b .live_reload_requested
  waiting_for_idle : a .waiting_for_idle = b .waiting_for_idle
  ticks_since_idle : a .ticks_since_idle = b .ticks_since_idle
  macro_cancel : a .macro_on_press_cancel_duration = b .macro_on_press_cancel_duration

theorem eqv_reads (hop : OpOK op) {a b : KSt W} (h : Eqv op a b) : SameReads a b := by
  constructor <;> exact h _ (hop.nm (by decide +kernel))

/-! ### `tick_states` -/

theorem eqv_applyAct (hop : OpOK op) {a b : KSt W} (h : Eqv op a b) (x : KAct W.toTypes) :
    ExRel (Eqv op) (applyAct a x) (applyAct b x) := by
  have r := eqv_reads hop h
  cases x with
  | reload rl =>
    simp only [applyAct, r.cfg_paths, r.cur_cfg_idx]
    cases selectIndex (b .cfg_paths) (b .cur_cfg_idx) rl with
    | error c => exact rfl
    | ok v =>
      obtain ⟨i, req⟩ := v
      cases req
      · exact eqv_set h _ _
      · exact eqv_set (eqv_set h _ _) _ _
  | onIdle w =>
    simp only [applyAct, r.waiting_for_idle]
    exact eqv_set (eqv_set h _ _) _ _

theorem eqv_applyActs (hop : OpOK op) (xs : List (KAct W.toTypes)) : ∀ {a b : KSt W}, Eqv op a b →
    ExRel (Eqv op) (applyActs a xs) (applyActs b xs) := by
  induction xs with
  | nil => exact id
  | cons x rest ih =>
    intro a b h
    simp only [applyActs]
    rcases (eqv_applyAct hop h x).cases with ⟨e, ha, hb⟩ | ⟨u, v, ha, hb, huv⟩ <;> rw [ha, hb]
    · exact rfl
    · exact ih huv

theorem eqv_tickIdleTimeout (hop : OpOK op) {a b : KSt W} (h : Eqv op a b) :
    Eqv op (tickIdleTimeout a) (tickIdleTimeout b) := by
  have r := eqv_reads hop h
  unfold tickIdleTimeout
  rw [← r.waiting_for_idle, ← r.ticks_since_idle, ← r.layout]
  cases (a .waiting_for_idle : List W.OnIdle) with
  | nil => exact h
  | cons x xs => exact eqv_set (eqv_set h _ _) _ _

/-- related states, equal OS events -/
def PairRel (op : List Field) {β : Type} (x y : KSt W × β) : Prop := Eqv op x.1 y.1 ∧ x.2 = y.2

/-- related runs put out the same -/
theorem ExRel.map_snd {β : Type} {x y : Except Crash (KSt W × β)} (h : ExRel (PairRel op) x y) :
    x.map Prod.snd = y.map Prod.snd := by
  rcases h.cases with ⟨e, rfl, rfl⟩ | ⟨u, v, rfl, rfl, _, ho⟩
  · rfl
  · exact congrArg Except.ok ho

theorem eqv_tickRest (hop : OpOK op) (hB : BlindTo op W) {a b : KSt W} (h : Eqv op a b) :
    Eqv op (tickRest a).1 (tickRest b).1 ∧ (tickRest a).2 = (tickRest b).2 := by
  have s3 := eqv_tickIdleTimeout hop h
  have s4 := eqv_set s3 .macro_on_press_cancel_duration
    (((tickIdleTimeout a) .macro_on_press_cancel_duration : Nat) - 1)
  simp only [tickRest]
  rw [← (eqv_reads hop s3).macro_cancel]
  have hl := hB.late _ _ s4
  have s5 := eqv_frameK s4 hl.1
  rw [← hl.2, ← (eqv_reads hop s5).cur_keys]
  exact ⟨eqv_set (eqv_set s5 _ _) _ _, rfl⟩

theorem eqv_tickStates (hop : OpOK op) (hB : BlindTo op W) (nr : Bool) {a b : KSt W} (h : Eqv op a b) :
    ExRel (PairRel op) (tickStatesG nr a) (tickStatesG nr b) :=
  have hk := hB.ksc a b h
  (follows_tickStates hk.2 (eqv_applyActs hop _ (eqv_frame h hk.1)).follows (eqv_tickRest hop hB)).exRel

/-! ### a replayed event, `check_handle_layer_change` -/

theorem eqv_replay (hB : BlindTo op W) {a b : KSt W} (h : Eqv op a b) :
    Eqv op (frameK a (W.replay a).1) (frameK b (W.replay b).1) ∧ (W.replay a).2 = (W.replay b).2 :=
  ⟨eqv_frameK h (hB.replay a b h).1, (hB.replay a b h).2⟩

theorem eqv_checkLayerChange (hop : OpOK op) (tx : Bool) {a b : KSt W} (h : Eqv op a b) :
    ExRel (PairRel op) (checkLayerChange tx a) (checkLayerChange tx b) :=
  have r := eqv_reads hop h
  (follows_checkLayerChange tx h r.layout r.prev_layer r.layer_info fun _ => eqv_set h _ _).exRel

/-! ### `do_live_reload` (a later reload, on both sides) -/

def RResRel (op : List Field) (x y : RRes W.toTypes) : Prop :=
  Eqv (W := W) op x.st y.st ∧ x.msgs = y.msgs ∧ x.ok = y.ok

/-- one statement on both sides: the same early return, or the same binding and channel -/
def StepRel (op : List Field) : StepOut W.toTypes → StepOut W.toTypes → Prop
  | .stop x, .stop y => RResRel op x y
  | .cont cur a log, .cont cur' b log' => cur = cur' ∧ Eqv op a b ∧ log = log'
  | _, _ => False

theorem eqv_stepOne (hop : OpOK op) (env : Env W.toTypes) (c : W.Cfg) (cur : Option Nat) (log : List Msg)
    {a b : KSt W} (h : Eqv op a b) (st : RStep) :
    ExRel (StepRel op) (stepOne env c cur a log st) (stepOne env c cur b log st) := by
  have r := eqv_reads hop h
  have go : StepRel op (.cont cur a log) (.cont cur b log) := ⟨rfl, h, rfl⟩
  cases st with
  | parse => exact rfl
  | unknown t => exact rfl
  | effect m => exact go
  | bindCurLayer => exact ⟨by rw [r.layout], h, rfl⟩
  | fallible callee => exact rel_ite ⟨h, rfl, rfl⟩ go
  | assign f fromCfg =>
    cases fromCfg
    · exact rel_ite rfl ⟨rfl, eqv_set h _ _, rfl⟩
    · exact ⟨rfl, eqv_set h _ _, rfl⟩
  | notify m =>
    simp only [stepOne, r.cfg_paths, r.cur_cfg_idx, r.layer_info]
    refine rel_ite (rel_ite ?_ go) (rel_ite (rel_ite ?_ go) rfl)
    · cases (b .cfg_paths : List Nat)[(b .cur_cfg_idx : Nat)]? with
      | none => exact rfl
      | some p => exact ⟨rfl, h, rfl⟩
    · cases cur with
      | none => exact rfl
      | some l =>
        dsimp only
        cases W.layerName (b .layer_info) l with
        | none => exact rfl
        | some name => exact ⟨rfl, h, rfl⟩

theorem eqv_runSteps (hop : OpOK op) (env : Env W.toTypes) (c : W.Cfg) (steps : List RStep) :
    ∀ (cur : Option Nat) {a b : KSt W} (log : List Msg), Eqv op a b →
    ExRel (RResRel op) (runSteps env c steps cur a log) (runSteps env c steps cur b log) := by
  induction steps with
  | nil => exact fun _ _ _ _ h => ⟨h, rfl, rfl⟩
  | cons st rest ih =>
    intro cur a b log h
    simp only [runSteps]
    rcases (eqv_stepOne hop env c cur log h st).cases with ⟨e, ha, hb⟩ | ⟨u, v, ha, hb, huv⟩ <;>
      rw [ha, hb]
    · exact rfl
    · cases u <;> cases v
      · exact huv
      · exact huv.elim
      · exact huv.elim
      · obtain ⟨rfl, h', rfl⟩ := huv
        exact ih _ _ h'

theorem eqv_doLiveReloadWith (hop : OpOK op) (steps : List RStep) (env : Env W.toTypes) {a b : KSt W}
    (h : Eqv op a b) :
    ExRel (RResRel op) (doLiveReloadWith steps env a) (doLiveReloadWith steps env b) := by
  have r := eqv_reads hop h
  unfold doLiveReloadWith
  rw [r.cfg_paths, r.cur_cfg_idx]
  split
  · cases (b .cfg_paths : List Nat)[(b .cur_cfg_idx : Nat)]? with
    | none => exact rfl
    | some p =>
      dsimp only
      cases newFromFile env p with
      | none => exact ⟨h, rfl, rfl⟩
      | some c => exact eqv_runSteps hop env c _ none [] h
  · exact rfl

/-! ### `handle_time_ticks`, the loop, a whole history -/

theorem eqv_reloadDue (hop : OpOK op) {a b : KSt W} (h : Eqv op a b) : reloadDue a = reloadDue b := by
  have r := eqv_reads hop h
  unfold reloadDue
  rw [r.live_reload_requested, r.prev_keys, r.cur_keys, r.ticks_since_idle]

/-- related results of `handle_time_ticks`, and the same attempt with the same outcome -/
def HResRel (op : List Field) (x y : HRes W.toTypes) : Prop :=
  HOut (Eqv (W := W) op) x y ∧ x.attempt = y.attempt

theorem eqv_handleTimeTicks (hop : OpOK op) (hB : BlindTo op W) (nr : Bool) (env : Env W.toTypes) (ms : Nat)
    {a b : KSt W} (h : Eqv op a b) :
    ExRel (HResRel op) (handleTimeTicksG nr env ms a) (handleTimeTicksG nr env ms b) := by
  rw [handleTimeTicksG_eq, handleTimeTicksG_eq]
  refine ((follows_decisionState (fun h => (eqv_tickStates hop hB nr h).follows) (eqv_replay hB)
    (fun h => (eqv_checkLayerChange hop env.tx h).follows) ms h).bind fun u v ⟨h2, ho⟩ => ?_).exRel
  rw [ho, eqv_reloadDue hop h2]
  refine rel_ite ?_ ⟨_, rfl, ⟨h2, rfl, rfl⟩, rfl⟩
  exact (eqv_doLiveReloadWith hop reloadSteps env (eqv_set h2 .live_reload_requested false)).follows.bind
    fun ru rv ⟨r1, r2, r3⟩ => ⟨_, rfl, ⟨r1, rfl, by rw [r2]⟩, by rw [r3]⟩

theorem eqv_isIdle (hop : OpOK op) (hB : BlindTo op W) {a b : KSt W} (h : Eqv op a b) :
    isIdle a = isIdle b ∧ pressedKeysMeanNotIdle a = pressedKeysMeanNotIdle b := by
  have r := eqv_reads hop h
  unfold isIdle pressedKeysMeanNotIdle
  rw [r.waiting_for_idle, r.live_reload_requested, r.layout, hB.coreIdle a b h]
  exact ⟨rfl, rfl⟩

theorem eqv_canBlockUpdate (hop : OpOK op) (hB : BlindTo op W) (m : Nat) {a b : KSt W} (h : Eqv op a b) :
    Eqv op (canBlockUpdate m a).1 (canBlockUpdate m b).1 := by
  obtain ⟨hi, hp⟩ := eqv_isIdle hop hB h
  simp only [canBlockUpdate, hi, hp, (eqv_reads hop h).ticks_since_idle]
  exact rel_ite (eqv_set h _ _) (rel_ite (eqv_set h _ _) h)

theorem eqv_handleInput (hB : BlindTo op W) (e : W.Input) {a b : KSt W} (h : Eqv op a b) :
    Eqv op (handleInput a e).1 (handleInput b e).1 ∧ (handleInput a e).2 = (handleInput b e).2 :=
  have hb := hB.inputEvent _ _ e (eqv_set h .ticks_since_idle (0 : Nat))
  ⟨eqv_frameK (eqv_set h _ _) hb.1, hb.2⟩

theorem eqv_preTicks (hop : OpOK op) (hB : BlindTo op W) (inp : Option W.Input) (msPrev : Nat) {a b : KSt W}
    (h : Eqv op a b) : Eqv op (preTicks inp msPrev a).1 (preTicks inp msPrev b).1 ∧
      (preTicks inp msPrev a).2 = (preTicks inp msPrev b).2 := by
  have s0 := eqv_canBlockUpdate hop hB msPrev h
  cases inp with
  | none => exact ⟨s0, rfl⟩
  | some e => exact eqv_handleInput hB e s0

/-- **the whole history**: related instances produce the same OS events and notifications, iteration
by iteration, crash in the same way, and end in related states -/
theorem eqv_runNB (hop : OpOK op) (hB : BlindTo op W) (nr : Bool) (script : List (Tick W.toTypes)) :
    ∀ (msPrev : Nat) {a b : KSt W}, Eqv op a b →
    ExRel (PairRel op) (runNB nr script msPrev a) (runNB nr script msPrev b) := fun msPrev _ _ h =>
  (follows_runNB script (fun t _ msPrev _ _ h' =>
    have ⟨s1, eo⟩ := eqv_preTicks hop hB t.inp msPrev h'
    follows_loopIterNB eo ((eqv_handleTimeTicks hop hB nr t.env t.ms s1).follows.mono fun _ _ r => r.1))
    msPrev h).exRel

end KVerif.Reload
