/-
`release_states` (Model/Layout) in closed form: the key states that survive the release of a
coordinate are a filter of the list, and the custom event is a fold over it, so that facts about
either are facts about lists.
-/
import KVerif.Model.Layout
namespace KVerif.ReleaseStates
open KVerif.L

theorem release_fst (st : St) (c : Coord) (cu : CustomEv) :
    (st.release c cu).1 = if st.coord == some c then none else some st := by
  cases st with
  | normalKey _ coord _ | layerModifier _ coord | custom _ coord | repeatingSequence _ coord =>
    exact apply_ite Prod.fst ..
  | _ => rfl

/-- the release of `c` leaves a state at another coordinate, and the custom event, as they are -/
theorem release_other (st : St) (c : Coord) (cu : CustomEv) (h : (st.coord == some c) = false) :
    st.release c cu = (some st, cu) := by
  cases st with
  | normalKey _ coord _ | layerModifier _ coord | custom _ coord | repeatingSequence _ coord =>
    exact if_neg fun e => ne_of_beq_false h (congrArg some (eq_of_beq e))
  | _ => rfl

/-- what `release_states` keeps: not flagged "clear on next release" (when that is asked for), not at `c` -/
def keep (b : Bool) (c : Coord) (st : St) : Bool := !(b && st.clearOnNextRelease) && !(st.coord == some c)

/-- what one state does to the custom event on the way -/
def report (b : Bool) (c : Coord) (cu : CustomEv) (st : St) : CustomEv :=
  if b && st.clearOnNextRelease then cu else (st.release c cu).2

theorem releaseStates_eq (b : Bool) (c : Coord) : ∀ (sts : List St) (cu : CustomEv),
    releaseStates b c sts cu = (sts.filter (keep b c), sts.foldl (report b c) cu) := by
  intro sts
  induction sts with
  | nil => intro cu; rfl
  | cons st rest ih =>
    intro cu
    rw [releaseStates, List.filter_cons, List.foldl_cons, keep, report]
    cases b && st.clearOnNextRelease with
    | true => exact ih cu
    | false =>
      have h1 := release_fst st c cu
      generalize st.release c cu = r at h1 ⊢
      obtain ⟨r1, cu1⟩ := r
      simp only [Bool.false_eq_true, if_false, ih cu1, Bool.not_false, Bool.true_and] at h1 ⊢
      subst h1
      cases st.coord == some c <;> rfl

theorem foldl_filter_of_id {α β : Type} {f : β → α → β} {p : α → Bool} (h : ∀ a x, p x = false → f a x = a) :
    ∀ (l : List α) (a : β), (l.filter p).foldl f a = l.foldl f a := by
  intro l
  induction l with
  | nil => intro a; rfl
  | cons x rest ih =>
    intro a
    rw [List.filter_cons, List.foldl_cons]
    cases hp : p x with
    | true => exact ih _
    | false => rw [h a x hp]; exact ih a

/-- the custom event of releasing `c1` is the same whether or not another coordinate has been
released before: what that release removed was flagged, or sits at the other coordinate -/
theorem report_filter_keep (b : Bool) {c1 c2 : Coord} (hne : c1 ≠ c2) (sts : List St) (cu : CustomEv) :
    (sts.filter (keep b c2)).foldl (report b c1) cu = sts.foldl (report b c1) cu := by
  refine foldl_filter_of_id (fun cu st hk => ?_) sts cu
  rw [report]
  rw [keep] at hk
  cases hb : b && st.clearOnNextRelease with
  | true => rfl
  | false =>
    rw [hb] at hk
    have hc2 : st.coord = some c2 := eq_of_beq (by simpa using hk)
    rw [if_neg Bool.false_ne_true, release_other st c1 cu (by rw [hc2]; exact beq_false_of_ne fun e => hne (Option.some.inj e).symm)]

end KVerif.ReleaseStates
