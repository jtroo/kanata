/-
Helper lemmas for C10: the loop of `evaluate_boolean`, run on a correctly laid-out opcode array,
computes the denotation of the source expression.  Proof in continuation style (DESIGN.md §6 C10).
-/
import KVerif.Model.Switch
namespace KVerif.Switch

def Leaf.width : Leaf → Nat
  | .input .. | .inputHist .. | .layer _ | .baseLayer _ => 2
  | _ => 1

mutual
  def BExpr.size : BExpr → Nat
    | .leaf l => l.width
    | .node _ cs => 1 + BExpr.sizeList cs
  def BExpr.sizeList : List BExpr → Nat
    | [] => 0
    | e :: es => e.size + BExpr.sizeList es
end

mutual
  /-- every operator has at least one operand -/
  def BExpr.NE : BExpr → Prop
    | .leaf _ => True
    | .node _ cs => cs ≠ [] ∧ BExpr.NEList cs
  def BExpr.NEList : List BExpr → Prop
    | [] => True
    | e :: es => e.NE ∧ BExpr.NEList es
end

theorem Leaf.width_pos (l : Leaf) : 1 ≤ l.width := by cases l <;> simp [Leaf.width]

theorem BExpr.size_pos (e : BExpr) : 1 ≤ e.size := by
  cases e with
  | leaf l => simpa [BExpr.size] using l.width_pos
  | node o cs => simp [BExpr.size]

theorem BExpr.sizeList_eq_zero {es : List BExpr} : BExpr.sizeList es = 0 ↔ es = [] := by
  cases es with
  | nil => simp [BExpr.sizeList]
  | cons e es => have := e.size_pos; simp [BExpr.sizeList]; omega

def gval (env : Env) : BOp → List BExpr → Bool
  | .or, cs => BExpr.anyDen env cs
  | .and, cs => BExpr.allDen env cs
  | .not, cs => !BExpr.anyDen env cs

theorem den_node (env : Env) (o : BOp) (cs : List BExpr) :
    (BExpr.node o cs).den env = gval env o cs := by
  cases o <;> simp [BExpr.den, gval]

/-- One operand of a group: either it decides the group, or the rest does. -/
theorem gval_cons (env : Env) (o : BOp) (e : BExpr) (r : List BExpr) :
    gval env o (e :: r) =
      (if scLeaf (negIf o (e.den env)) o || r.isEmpty then negIf o (e.den env) else gval env o r) := by
  cases o <;> cases h : e.den env <;> cases r <;>
    simp [gval, BExpr.anyDen, BExpr.allDen, scLeaf, negIf, h]

theorem scPop_eq (v : Bool) (o : BOp) : scPop v o = scLeaf (negIf o v) o := by
  cases o <;> cases v <;> simp [scPop, scLeaf, negIf]

theorem popRet_true (o : BOp) (v : Bool) : popRet true o v = negIf o v := by
  cases o <;> simp [popRet, negIf]

/-! ### Layout of compiled code, stated over the fetch function -/

section
variable (fetch : Nat → Except Crash DOp) (env : Env)

mutual
  def LayE (i : Nat) : BExpr → Prop
    | .leaf l => fetch i = .ok (.leaf l.width (l.den env))
    | .node o cs => fetch i = .ok (.grp o (i + 1 + BExpr.sizeList cs)) ∧ LayL (i + 1) cs
  def LayL (i : Nat) : List BExpr → Prop
    | [] => True
    | e :: es => LayE i e ∧ LayL (i + e.size) es
end

/-- A group being evaluated: its operator, its operands still to come, its end index. -/
abbrev Frame := BOp × List BExpr × Nat

def stackOf (κ : List Frame) : List (BOp × Nat) := κ.map fun f => (f.1, f.2.2)

/-- The operands still to come of the open groups `κ` (innermost first) lie one after the other from
index `i` to the end `len` of the array, every operator among them has an operand, and each group's
operands, with the groups around it open, fit into the evaluator's 8-slot stack. -/
def WFK (len : Nat) : Nat → List Frame → Prop
  | i, [] => i = len
  | i, (_, r, E) :: κ => E = i + BExpr.sizeList r ∧ LayL fetch env i r ∧ BExpr.NEList r ∧
      κ.length + BExpr.depthList r ≤ MAX_BOOL_EXPR_DEPTH ∧ WFK len E κ

/-- What the open groups `κ` make of the value `v` of the innermost one's current operand. -/
def K : List Frame → Bool → Bool
  | [], v => v
  | (o, r, _) :: κ, v =>
    if scLeaf (negIf o v) o || r.isEmpty then K κ (negIf o v) else K κ (gval env o r)

variable {fetch env}

theorem WFK.le {len i : Nat} {κ : List Frame} (h : WFK fetch env len i κ) : i ≤ len := by
  induction κ generalizing i with
  | nil => exact Nat.le_of_eq h
  | cons f κ ih => have := ih h.2.2.2.2; have := h.1; omega

theorem finish_eq_K {len i : Nat} {κ : List Frame} (h : WFK fetch env len i κ) (hi : len ≤ i)
    (v : Bool) : finish (stackOf κ) v = K env κ v := by
  induction κ generalizing i v with
  | nil => rfl
  | cons f κ ih =>
    obtain ⟨o, r, E⟩ := f
    obtain ⟨hE, -, -, -, hκ⟩ := h
    have hr : r = [] := BExpr.sizeList_eq_zero.mp (by have := hκ.le; omega)
    subst hr
    show finish (stackOf κ) (negIf o v) = _
    rw [ih hκ (by omega), K, List.isEmpty_nil, Bool.or_true, if_pos rfl]

variable (fetch env)

def toSt (i : Nat) (f : Frame) (κ : List Frame) (ret : Bool) : St :=
  { idx := i, endIdx := f.2.2, op := f.1, stack := stackOf κ, ret := ret }

def val (f : Frame) (κ : List Frame) (ret : Bool) : Bool :=
  K env κ (match f.2.1 with
    | [] => ret
    | rest => gval env f.1 rest)

theorem body_leaf {s : St} {w : Nat} {v : Bool} (h : fetch s.idx = .ok (.leaf w v)) :
    body fetch s = .ok (if scLeaf (negIf s.op v) s.op then { s with idx := s.endIdx, ret := negIf s.op v }
      else { s with idx := s.idx + w, ret := negIf s.op v }) := by
  simp only [body, h]
  split <;> rfl

theorem body_grp {s : St} {o : BOp} {e : Nat} (h : fetch s.idx = .ok (.grp o e))
    (hd : s.stack.length < MAX_BOOL_EXPR_DEPTH) :
    body fetch s =
      .ok { idx := s.idx + 1, endIdx := e, op := o, stack := (s.op, s.endIdx) :: s.stack, ret := s.ret } := by
  simp only [body, h, if_neg (Nat.not_le_of_lt hd)]

/-- `2 * idx - stack.length` grows, which bounds the number of iterations by `2 * len` -/
theorem body_go {len i E : Nat} {e : BExpr} {r : List BExpr} {o : BOp} {κ : List Frame} (ret : Bool)
    (hwf : WFK fetch env len i ((o, e :: r, E) :: κ)) :
    ∃ i' f' κ' ret', body fetch (toSt i (o, e :: r, E) κ ret) = .ok (toSt i' f' κ' ret') ∧
      WFK fetch env len i' (f' :: κ') ∧ val env f' κ' ret' = K env κ (gval env o (e :: r)) ∧
      2 * i + κ'.length < 2 * i' + κ.length := by
  obtain ⟨hE, ⟨hle, hlr⟩, ⟨hne_e, hne_r⟩, hdep, hκ⟩ := hwf
  have hpos := e.size_pos
  simp only [BExpr.sizeList] at hE
  cases e with
  | leaf l =>
    simp only [LayE] at hle
    simp only [BExpr.size] at hE hpos hlr
    simp only [BExpr.depthList] at hdep
    by_cases hsc : scLeaf (negIf o (l.den env)) o = true
    · -- short circuit: the group is complete
      refine ⟨E, (o, [], E), κ, negIf o (l.den env), ?_,
        ⟨rfl, trivial, trivial, Nat.le_trans (Nat.le_add_right ..) hdep, hκ⟩, ?_, by omega⟩
      · exact (body_leaf fetch (s := toSt ..) hle).trans (congrArg _ (if_pos hsc))
      · simp only [val, gval_cons, BExpr.den, hsc, Bool.true_or, if_true]
    · refine ⟨i + l.width, (o, r, E), κ, negIf o (l.den env), ?_,
        ⟨by omega, hlr, hne_r, by omega, hκ⟩, ?_, by omega⟩
      · exact (body_leaf fetch (s := toSt ..) hle).trans (congrArg _ (if_neg hsc))
      · cases r <;> simp [val, gval_cons env o (.leaf l), BExpr.den, hsc]
  | node o2 cs =>
    obtain ⟨hf, hlc⟩ := hle
    obtain ⟨hcs, hne_cs⟩ := hne_e
    simp only [BExpr.size] at hE hlr
    simp only [BExpr.depthList, BExpr.depth] at hdep
    refine ⟨i + 1, (o2, cs, i + 1 + BExpr.sizeList cs), (o, r, E) :: κ, ret, ?_, ?_, ?_, ?_⟩
    · exact body_grp fetch (s := toSt ..) hf (by simp only [toSt, stackOf, List.length_map]; omega)
    · refine ⟨rfl, hlc, hne_cs, ?_, by omega, ?_, hne_r, by omega, hκ⟩
      · simp only [List.length_cons]; omega
      · rwa [← Nat.add_assoc] at hlr
    · cases cs with
      | nil => exact absurd rfl hcs
      | cons c cs =>
        simp only [val, K]
        rw [gval_cons env o (.node o2 (c :: cs)) r, den_node]
        split <;> rfl
    · simp only [List.length_cons]; omega

theorem run_body {len fuel : Nat} {s s' : St} (h1 : s.idx < len) (h2 : ¬ s.idx ≥ s.endIdx)
    (hb : body fetch s = .ok s') : run true fetch len (fuel + 1) s = run true fetch len fuel s' := by
  simp only [run, h1, if_true, h2, if_false, hb]

theorem run_pop_sc {len fuel : Nat} {s : St} {o : BOp} {e : Nat} {stk : List (BOp × Nat)}
    (h1 : s.idx < len) (h2 : s.idx ≥ s.endIdx) (hs : s.stack = (o, e) :: stk)
    (hc : (scPop s.ret o || decide (s.idx ≥ e)) = true) :
    run true fetch len (fuel + 1) s =
      run true fetch len fuel { idx := e, endIdx := e, op := o, stack := stk, ret := negIf o s.ret } := by
  simp only [run, h1, if_true, h2, hs, hc, popRet_true]

theorem run_pop_body {len fuel : Nat} {s s' : St} {o : BOp} {e : Nat} {stk : List (BOp × Nat)}
    (h1 : s.idx < len) (h2 : s.idx ≥ s.endIdx) (hs : s.stack = (o, e) :: stk)
    (hc : (scPop s.ret o || decide (s.idx ≥ e)) = false)
    (hb : body fetch { s with op := o, endIdx := e, stack := stk } = .ok s') :
    run true fetch len (fuel + 1) s = run true fetch len fuel s' := by
  simp only [run, h1, if_true, h2, hs, hc, hb]
  rfl

theorem run_done {len fuel : Nat} {s : St} (h1 : ¬ s.idx < len) :
    run true fetch len (fuel + 1) s = .ok (finish s.stack s.ret) := by
  simp only [run, h1, if_false]

/-- The pop branch's test, read on the source: the parent group is decided by the value of the
group just completed, or has no operand left. -/
theorem pop_test (ret : Bool) (o : BOp) (i : Nat) (r : List BExpr) :
    (scPop ret o || decide (i ≥ i + BExpr.sizeList r)) = (scLeaf (negIf o ret) o || r.isEmpty) := by
  rw [scPop_eq]
  cases r with
  | nil => simp [BExpr.sizeList]
  | cons e r => have := e.size_pos; simp [BExpr.sizeList]; omega

theorem run_cfg (len : Nat) : ∀ (fuel i : Nat) (f : Frame) (κ : List Frame) (ret : Bool),
    WFK fetch env len i (f :: κ) → 2 * len + κ.length + 1 ≤ fuel + 2 * i →
    run true fetch len fuel (toSt i f κ ret) = .ok (val env f κ ret) := by
  intro fuel
  induction fuel with
  | zero => intro i _ _ _ hwf h; have := hwf.2.2.2.2.le; have := hwf.1; omega
  | succ fuel ih =>
    intro i ⟨o, rest, E⟩ κ ret hwf hfuel
    cases rest with
    | cons e r =>
      obtain ⟨i', f', κ', ret', hb, hwf', hval', hmeas'⟩ := body_go fetch env ret hwf
      have hE := hwf.1
      have hlen := hwf.2.2.2.2.le
      have hpos := e.size_pos
      simp only [BExpr.sizeList] at hE
      rw [run_body fetch (show i < len by omega) (show ¬ i ≥ E by omega) hb,
        ih i' f' κ' ret' hwf' (by omega), hval']
      rfl
    | nil =>
      obtain ⟨hE, -, -, -, hκ⟩ := hwf
      obtain rfl : i = E := hE.symm
      by_cases hlt : i < len
      · cases κ with
        | nil => exact absurd hκ (Nat.ne_of_lt hlt)
        | cons g κ' =>
          obtain ⟨o2, r, E2⟩ := g
          obtain ⟨rfl, hlr, hner, hdr, hκ'⟩ := hκ
          simp only [List.length_cons] at hfuel
          have hpop := pop_test ret o2 i r
          by_cases hc : (scLeaf (negIf o2 ret) o2 || r.isEmpty) = true
          · -- the parent group is decided by this value
            refine (run_pop_sc fetch (s := toSt i (o, [], i) _ ret) hlt (Nat.le_refl i) rfl
              (hpop.trans hc)).trans ?_
            refine (ih (i + BExpr.sizeList r) (o2, [], i + BExpr.sizeList r) κ' (negIf o2 ret)
              ⟨rfl, trivial, trivial, Nat.le_trans (Nat.le_add_right ..) hdr, hκ'⟩ (by omega)).trans ?_
            simp only [val, K, hc, if_true]
          · -- continue with the parent's next operand
            cases r with
            | nil => simp at hc
            | cons e r' =>
              obtain ⟨i', f', κ'', ret', hb, hwf', hval', hmeas'⟩ :=
                body_go fetch env ret (κ := κ') ⟨rfl, hlr, hner, hdr, hκ'⟩
              refine (run_pop_body fetch (s := toSt i (o, [], i) _ ret) hlt (Nat.le_refl i) rfl
                (hpop.trans (Bool.not_eq_true _ ▸ hc)) hb).trans ?_
              rw [ih i' f' κ'' ret' hwf' (by omega), hval']
              simp only [val, K, hc]
              rfl
      · rw [run_done fetch hlt]
        exact congrArg _ (finish_eq_K hκ (by omega) ret)

end
end KVerif.Switch
