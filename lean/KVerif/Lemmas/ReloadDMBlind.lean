/-
Helper lemmas for C15: the witness world `DM.world` of the dynamic-macro counterexample reads
`dynamic_macros` but no other retained field.
-/
import KVerif.Lemmas.ReloadEqv
import KVerif.Lemmas.ReloadDM
namespace KVerif.Reload
open KVerif.Gen.Reload

/-- the retained fields other than the recorded macros -/
def retainedOpaqueNoMacros : List Field := retainedOpaque.erase .dynamic_macros

theorem opOK_noMacros : OpOK retainedOpaqueNoMacros := fun _ h => List.mem_of_mem_erase h

/-- the recorded macros are the only retained field that was taken out -/
theorem eq_macros_of_not_mem_noMacros {g : Field} (hg : g ∈ retainedOpaque)
    (hn : g ∉ retainedOpaqueNoMacros) : g = .dynamic_macros :=
  Decidable.byContradiction fun ne => hn ((List.mem_erase_of_ne ne).2 hg)

theorem eqv_dm_ksc {op : List Field} (h1 : Field.layout ∉ op) (h2 : Field.dynamic_macros ∉ op)
    (h3 : Field.dynamic_macro_record_state ∉ op) (h4 : Field.cur_keys ∉ op) (h5 : Field.prev_keys ∉ op)
    (a b : KSt DM.world) (h : Eqv op a b) :
    Eqv (W := DM.world) op (DM.ksc a).1 (DM.ksc b).1 ∧ (DM.ksc a).2 = (DM.ksc b).2 := by
  have hl : a .layout = b .layout := h _ h1
  have hd : a .dynamic_macros = b .dynamic_macros := h _ h2
  have hr : a .dynamic_macro_record_state = b .dynamic_macro_record_state := h _ h3
  have hc : a .cur_keys = b .cur_keys := h _ h4
  have hp : a .prev_keys = b .prev_keys := h _ h5
  simp only [DM.ksc, hl, hd, hr, hc, hp]
  refine ⟨eqv_set (eqv_set ?_ _ _) _ _, trivial⟩
  generalize Prod.snd _ = cu
  cases cu with
  | none => exact h
  | some act =>
    cases act with
    | key k => exact h
    | record id => exact eqv_set h _ _
    | stop =>
      simp only
      cases (b .dynamic_macro_record_state : Option (Nat × List DM.Ev)) with
      | none => exact h
      | some pr => obtain ⟨id, evs⟩ := pr; exact eqv_set (eqv_set h _ _) _ _
    | play id => exact eqv_set h _ _
    | lrld => exact h

theorem eqv_dm_inputEvent {op : List Field} (h1 : Field.layout ∉ op)
    (h3 : Field.dynamic_macro_record_state ∉ op)
    (a b : KSt DM.world) (e : DM.Ev) (h : Eqv op a b) :
    Eqv (W := DM.world) op (DM.inputEvent a e).1 (DM.inputEvent b e).1 ∧
      (DM.inputEvent a e).2 = (DM.inputEvent b e).2 := by
  have hl : a .layout = b .layout := h _ h1
  have hr : a .dynamic_macro_record_state = b .dynamic_macro_record_state := h _ h3
  simp only [DM.inputEvent, hl, hr]
  refine ⟨eqv_set ?_ _ _, trivial⟩
  cases (b .dynamic_macro_record_state : Option (Nat × List DM.Ev)) with
  | none => exact h
  | some pr =>
    obtain ⟨id, evs⟩ := pr
    simp only
    cases DM.isKeyCol (b .layout) (DM.colOf e) with
    | true => exact eqv_set h _ _
    | false => exact h

theorem eqv_dm_replay {op : List Field} (h1 : Field.layout ∉ op)
    (h3 : Field.dynamic_macro_replay_state ∉ op)
    (a b : KSt DM.world) (h : Eqv op a b) :
    Eqv (W := DM.world) op (DM.replay a).1 (DM.replay b).1 ∧ (DM.replay a).2 = (DM.replay b).2 := by
  have hl : a .layout = b .layout := h _ h1
  have hr : a .dynamic_macro_replay_state = b .dynamic_macro_replay_state := h _ h3
  simp only [DM.replay, hl, hr]
  cases (b .dynamic_macro_replay_state : List DM.Ev) with
  | nil => exact ⟨h, rfl⟩
  | cons e rest => exact ⟨eqv_set (eqv_set h _ _) _ _, rfl⟩


theorem eqv_dm_coreIdle {op : List Field} (h1 : Field.layout ∉ op)
    (h3 : Field.dynamic_macro_replay_state ∉ op)
    (a b : KSt DM.world) (h : Eqv op a b) : DM.world.coreIdle a = DM.world.coreIdle b := by
  have hl : a .layout = b .layout := h _ h1
  have hr : a .dynamic_macro_replay_state = b .dynamic_macro_replay_state := h _ h3
  show (((a .layout : DM.Layout).queue).isEmpty && (a .dynamic_macro_replay_state : List DM.Ev).isEmpty) =
    (((b .layout : DM.Layout).queue).isEmpty && (b .dynamic_macro_replay_state : List DM.Ev).isEmpty)
  rw [hl, hr]

end KVerif.Reload
