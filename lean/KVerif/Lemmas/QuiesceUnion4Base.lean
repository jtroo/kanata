/-
C01 helper lemmas: key states that may be custom actions.  The lemmas of C04 / C06 about
releases, the one-shot expiry, `process_sequences` and `process_sequence_custom` assume that every
state is a plain key or a held layer (`StOK`); here they are proved again with `Custom` states
allowed (`StOK4`): a released `Custom` state reports its release as the tick's custom event, so the
custom event of the step is existentially quantified.  Also: what a dequeued release does to the
states and to the deferred releases of the one-shot state, in one statement each.
-/
import KVerif.Lemmas.QuiesceUnion
namespace KVerif.QU3
open KVerif.L KVerif.C06 KVerif.Quiesce KVerif.QU

/-- a plain key, a held layer, or a custom action -/
def StOK4 : St → Prop
  | .normalKey _ _ f => f = 0 ∨ f = 1
  | .layerModifier _ _ => True
  | .custom _ _ => True
  | _ => False

theorem StOK4.of {st : St} (h : StOK st) : StOK4 st := by
  cases st <;> simp only [C04.StOK] at h <;> simp only [StOK4] <;> first | exact h | trivial

theorem stok4_filter {states : List St} (p : St → Bool) (h : ∀ st ∈ states, StOK4 st) :
    ∀ st ∈ states.filter p, StOK4 st := fun st hst => h st (List.mem_filter.mp hst).1

theorem stok4_coord {st : St} (h : StOK4 st) : ∃ c, st.coord = some c := by
  cases st <;> simp only [StOK4] at h <;> first | exact ⟨_, rfl⟩ | exact absurd h id

theorem stok4_release {st : St} (h : StOK4 st) (c : Coord) (cu : CustomEv) :
    st.clearOnNextRelease = false ∧
    ∃ cu', st.release c cu = (if st.coord != some c then some st else none, cu') := by
  cases st <;> simp only [StOK4] at h <;> try exact absurd h id
  · rename_i kc co f
    refine ⟨by rcases h with rfl | rfl <;> rfl, cu, ?_⟩
    by_cases hco : co = c <;> simp [St.release, St.coord, hco]
  · rename_i v co
    refine ⟨rfl, cu, ?_⟩
    by_cases hco : co = c <;> simp [St.release, St.coord, hco]
  · rename_i id co
    by_cases hco : co = c
    · exact ⟨rfl, cu.update (.release id), by simp [St.release, St.coord, hco]⟩
    · exact ⟨rfl, cu, by simp [St.release, St.coord, hco]⟩

/-- releasing by coordinate removes exactly the states of that coordinate (whatever custom event results) -/
theorem releaseStates_ok4 (b : Bool) (c : Coord) : ∀ (states : List St) (cu : CustomEv), (∀ st ∈ states, StOK4 st) →
    ∃ cu', releaseStates b c states cu = (states.filter (fun st => st.coord != some c), cu')
  | [], cu, _ => ⟨cu, rfl⟩
  | st :: rest, cu, h => by
    obtain ⟨hcl, cu1, e1⟩ := stok4_release (h st List.mem_cons_self) c cu
    obtain ⟨cu', e⟩ := releaseStates_ok4 b c rest cu1 fun x hx => h x (List.mem_cons_of_mem _ hx)
    refine ⟨cu', ?_⟩
    cases hb : st.coord != some c <;>
      simp only [releaseStates, hcl, Bool.and_false, Bool.false_eq_true, if_false, if_true, e1, e, List.filter_cons, hb]

/-- **a release taken from the queue** -/
theorem dequeue_release4 {s : Layout} (hs : ∀ st ∈ s.states, StOK4 st) (c : Coord) (since : Nat) :
    ∃ cu, dequeue FUEL s ⟨.release c, since⟩ =
      .ok ({ s with oneshot := (s.oneshot.handleRelease c).1,
                    states := afterRelease s.states c (s.oneshot.handleRelease c).2.1 (s.oneshot.handleRelease c).2.2 },
           cu) := by
  rw [FUEL_succ]
  simp only [dequeue]
  generalize s.oneshot.handleRelease c = r
  obtain ⟨o, dr, ov⟩ := r
  simp only [afterRelease]
  cases dr <;> cases ov
  · exact ⟨.noEvent, rfl⟩
  · rename_i c2
    obtain ⟨cu', e⟩ := releaseStates_ok4 false c2 s.states .noEvent hs
    simp only [Bool.false_eq_true, if_false, e]
    exact ⟨cu', rfl⟩
  · obtain ⟨cu', e⟩ := releaseStates_ok4 true c s.states .noEvent hs
    simp only [if_true, e]
    exact ⟨cu', rfl⟩
  · rename_i c2
    obtain ⟨cu', e⟩ := releaseStates_ok4 true c s.states .noEvent hs
    obtain ⟨cu'', e2⟩ := releaseStates_ok4 false c2 (s.states.filter (fun st => st.coord != some c)) cu' (stok4_filter _ hs)
    simp only [if_true, e, e2]
    exact ⟨cu'', rfl⟩

/-- the loop of `tick` over the deferred releases, once `tick_osh` has cleared the active keys -/
theorem releaseOneshotKeys4 : ∀ (ks : List Coord) (s : Layout) (cu : CustomEv), (∀ st ∈ s.states, StOK4 st) →
    s.oneshot.keys = [] →
    ∃ cu', releaseOneshotKeys ks s cu = .ok ({ s with states := dropCoords ks s.states }, cu') := by
  intro ks
  induction ks with
  | nil => intro s cu _ _; exact ⟨cu, by simp only [releaseOneshotKeys, dropCoords_nil]⟩
  | cons k rest ih =>
    intro s cu hs hk
    obtain ⟨c1, e1⟩ := dequeue_release4 hs k 0
    rw [handleRelease_inactive _ k hk] at e1
    simp only [afterRelease, if_true] at e1
    obtain ⟨cu', e⟩ := ih ({ s with states := s.states.filter (fun st => st.coord != some k) } : Layout) (cu.update c1)
      (stok4_filter _ hs) hk
    refine ⟨cu', ?_⟩
    simp only [releaseOneshotKeys, e1]
    rw [e]
    simp only [dropCoords_cons]

/-- when `tick_osh` fires, every deferred release is applied in the same stage -/
theorem tickOneshot_fires4 {s : Layout} (hs : ∀ st ∈ s.states, StOK4 st) (hk : s.oneshot.keys ≠ [])
    (h : s.oneshot.releaseOnNextTick = true ∨ s.oneshot.timeout ≤ 1) :
    ∃ cu, tickOneshot s =
      .ok ({ s with oneshot := OneShotState.cleared s.oneshot, states := dropCoords s.oneshot.releasedKeys s.states }, cu) := by
  unfold tickOneshot
  rw [tick_fires _ hk h]
  simp only []
  obtain ⟨cu', e⟩ := releaseOneshotKeys4 s.oneshot.releasedKeys
    ({ s with oneshot := OneShotState.cleared s.oneshot } : Layout) .noEvent hs rfl
  exact ⟨cu', e⟩

theorem handleRelease_deferred (o : OneShotState) (c : Coord) :
    (∀ x ∈ o.releasedKeys, x ∈ (o.handleRelease c).1.releasedKeys ∨ (o.handleRelease c).2.2 = some x) ∧
    ((o.handleRelease c).2.1 = false → c ∈ (o.handleRelease c).1.releasedKeys) ∧
    ((o.keys = [] → o.releasedKeys = [] ∧ o.releaseOnNextTick = false) →
      (o.handleRelease c).1.keys = [] →
        (o.handleRelease c).1.releasedKeys = [] ∧ (o.handleRelease c).1.releaseOnNextTick = false) ∧
    (o.handleRelease c).1.ticksToIgnoreEvents = o.ticksToIgnoreEvents := by
  by_cases hk : o.keys = []
  · rw [handleRelease_inactive _ c hk]
    exact ⟨fun x hx => Or.inl hx, fun h => Bool.noConfusion h, fun hi => hi, rfl⟩
  · by_cases hc : o.keys.contains c = true
    · rw [handleRelease_active _ c hc]
      exact ⟨mem_pushBackWrap_old _ _ c, fun _ => mem_pushBackWrap_new _ (by decide) _ _,
        fun _ hk' => absurd hk' hk, rfl⟩
    · rw [handleRelease_other _ c hk (by simpa using hc)]
      exact ⟨fun x hx => Or.inl hx, fun h => Bool.noConfusion h, fun _ hk' => absurd hk' hk, rfl⟩

theorem processSequences_inert4 (s : Layout) (h1 : s.activeSequences = [])
    (h2 : ∀ st ∈ s.states, StOK4 st) : processSequences s = s := by
  unfold processSequences
  simp only [h1, List.length_nil, processSequences.go, List.isEmpty_nil, if_true]
  split
  · rename_i evs heq
    exfalso
    obtain ⟨st, hst, hf⟩ := List.exists_of_findSome?_eq_some heq
    have := h2 st (List.mem_reverse.mp hst)
    cases st <;> simp only [StOK4] at this <;> first | cases hf | exact this
  · rfl

theorem processSequenceCustom_inert4 {s : Layout} (h : ∀ st ∈ s.states, StOK4 st) (cu : CustomEv) :
    processSequenceCustom s cu = (s, cu) := by
  unfold processSequenceCustom
  split
  · rfl
  · have hf : s.states.filter (· != .tombstone) = s.states := by
      apply List.filter_eq_self.mpr
      intro st hst
      have := h st hst
      cases st <;> simp only [StOK4] at this <;> first | exact absurd this id | simp
    have hgo : ∀ (l : List St), (∀ st ∈ l, StOK4 st) → processSequenceCustom.go cu l = (l, cu) := by
      intro l
      induction l with
      | nil => intro _; rfl
      | cons st rest ih =>
        intro hl
        have hst := hl st (by simp)
        have ihr := ih (fun x hx => hl x (by simp [hx]))
        cases st <;> simp only [StOK4] at hst <;> first | exact absurd hst id | simp [processSequenceCustom.go, ihr]
    simp only [hf, hgo s.states h]

end KVerif.QU3
