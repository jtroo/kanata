/-
Lemmas for `zippy_shift_restored`: every press, release and (non-resetting) tick keeps the OS-level
shift / AltGr state equal to the flags zippychord keeps about the user's modifiers, and equal to
what the user's own key event does to them.
-/
import KVerif.Lemmas.ZippyChord
namespace KVerif.Zippy
open KVerif.TextBuf

def modsOf (b : Buf) : Bool × Bool × Bool := (b.lsft, b.rsft, b.ralt)
def flagsOf (s : Zchd) : Bool × Bool × Bool := (s.lsft, s.rsft, s.altgr)

theorem modsAgree_iff (s : Zchd) (b : Buf) : ModsAgree s b ↔ modsOf b = flagsOf s := by
  simp [ModsAgree, modsOf, flagsOf]

/-- not one of the three modifiers the buffer tracks -/
def NotTracked (k : Nat) : Prop := k ≠ KEY_LEFTSHIFT ∧ k ≠ KEY_RIGHTSHIFT ∧ k ≠ KEY_RIGHTALT

theorem mods_step_down (b : Buf) (k : Nat) (h : NotTracked k) : modsOf (b.step (.down k)) = modsOf b := by
  obtain ⟨h1, h2, h3⟩ := h
  simp only [Buf.step, h1, h2, h3, if_false]
  split <;> rfl

theorem mods_step_up (b : Buf) (k : Nat) (h : NotTracked k) : modsOf (b.step (.up k)) = modsOf b := by
  obtain ⟨h1, h2, h3⟩ := h
  simp only [Buf.step, h1, h2, h3, if_false]

theorem charKey_notTracked {k : Nat} (h : CharKey k) : NotTracked k := ⟨h.1, h.2.1, h.2.2.1⟩

/-- Every expansion of the dictionary consists of character keys (no modifier key is "typed"). -/
def OutsOK (d : Dict) : Prop := ∀ n ∈ d, ∀ o ∈ n.out, CharKey o.osc

theorem mods_down {s s' : Zchd} {b : Buf} {k : Nat} (hnt : NotTracked k) (hm : ModsAgree s b)
    (hf : flagsOf s' = flagsOf s) : ModsAgree s' (b.step (.down k)) := by
  rw [modsAgree_iff] at hm ⊢
  rw [mods_step_down b k hnt, hm, hf]

/-- An activation keeps the modifiers, whatever its output. -/
theorem mods_activate (cfg : Cfg) (s : Zchd) (k : Nat) (outs : List ZchOut) (ctx : Path) (isPrio : Bool)
    (b : Buf) (hk : ∀ o ∈ outs, CharKey o.osc) (hnt : NotTracked k) (hm : ModsAgree s b) :
    ModsAgree (activate cfg s k outs ctx isPrio).1 (b.run (activate cfg s k outs ctx isPrio).2) ∧
    flagsOf (activate cfg s k outs ctx isPrio).1 = flagsOf s := by
  obtain ⟨f1, f2, f3, -⟩ := activate_flags cfg s k outs ctx isPrio
  have hf : flagsOf (activate cfg s k outs ctx isPrio).1 = flagsOf s := by rw [flagsOf, f1, f2, f3]; rfl
  refine ⟨?_, hf⟩
  rw [modsAgree_iff, hf, ← modsAgree_iff]
  cases outs with
  | cons o os => exact (run_activate cfg s k _ ctx isPrio b rfl hk hm).1
  | nil =>
    have h := mods_down hnt hm rfl
    rwa [run_activate_nil cfg s k ctx isPrio b h.1 h.2.1]

theorem punctStage_mods (cfg : Cfg) (s : Zchd) (k : Nat) (b : Buf) :
    flagsOf (punctStage cfg s k).1 = flagsOf s ∧ modsOf (b.run (punctStage cfg s k).2) = modsOf b := by
  cases h : punctFires cfg s k
  · rw [punctStage_none cfg s k ((punctFires_false_iff cfg s k).mp h)]
    exact ⟨rfl, rfl⟩
  · rw [punctStage_fires cfg s k h, run_bspc]
    exact ⟨rfl, rfl⟩

theorem enterKey_flags (cfg : Cfg) (s : Zchd) (k : Nat) : flagsOf (enterKey cfg s k) = flagsOf s := by
  unfold enterKey Zchd.activateChordDeadline Zchd.stateChange flagsOf
  split <;> rfl

/-- an activation types an expansion of the dictionary, the other outcomes a plain key-down -/
theorem pressLookup_mods (cfg : Cfg) (s : Zchd) (k : Nat) (b : Buf)
    (hok : OutsOK cfg.dict) (hnt : NotTracked k) (hm : ModsAgree s b) :
    ModsAgree (pressLookup cfg s k).1 (b.run (pressLookup cfg s k).2) ∧
    flagsOf (pressLookup cfg s k).1 = flagsOf s := by
  have act : ∀ (a : List ZchOut) (p : Path) (pr : Bool), (findChord cfg s).act = some (p, a, pr) →
      ModsAgree (activate cfg s k a p pr).1 (b.run (activate cfg s k a p pr).2) ∧
      flagsOf (activate cfg s k a p pr).1 = flagsOf s := by
    intro a p pr h
    obtain ⟨n, hn, rfl⟩ := lookupLevel_hasValue_mem (findChordK_act h)
    exact mods_activate cfg s k _ p pr b (hok n hn) hnt hm
  unfold pressLookup
  cases hf : findChord cfg s with
  | prio p a => exact act a p true (by rw [hf]; rfl)
  | top a => exact act a [] false (by rw [hf]; rfl)
  | subset => exact ⟨mods_down hnt hm rfl, rfl⟩
  | neither => exact ⟨mods_down hnt hm rfl, rfl⟩

/-- A press of a key that is not one of the three modifiers: flags unchanged, buffer modifiers
unchanged. -/
theorem press_other_mods (cfg : Cfg) (s : Zchd) (k : Nat) (b : Buf)
    (hok : OutsOK cfg.dict) (hnt : NotTracked k) (hm : ModsAgree s b) :
    ModsAgree (zchPressKey cfg s k).1 (b.run (zchPressKey cfg s k).2) ∧
    flagsOf (zchPressKey cfg s k).1 = flagsOf s := by
  by_cases he : ssmIsEmpty (levelSsm cfg.dict []) = true
  · rw [zchPressKey_of_empty s k he]
    exact ⟨mods_down hnt hm rfl, rfl⟩
  by_cases hig : isZippyIgnored k = true
  · rw [zchPressKey_ignored s hnt.1 hnt.2.1 hnt.2.2 hig]
    exact ⟨mods_down hnt hm rfl, rfl⟩
  rw [press_char cfg s k (by simpa using he) (by simpa using hig)]
  obtain ⟨hpf, hpm⟩ := punctStage_mods cfg s k b
  have hm1 : ModsAgree { (punctStage cfg s k).1 with smartSpaceState := .inactive }
      (b.run (punctStage cfg s k).2) := by
    rw [modsAgree_iff] at hm ⊢
    rw [hpm, hm, ← hpf]; rfl
  split
  · rw [run_append]
    exact ⟨mods_down hnt hm1 rfl, hpf⟩
  · rw [run_append]
    obtain ⟨h1, h2⟩ := pressLookup_mods cfg _ k _ hok hnt
      ((modsAgree_iff _ _).mpr (((modsAgree_iff _ _).mp hm1).trans (enterKey_flags cfg _ k).symm))
    exact ⟨h1, h2.trans ((enterKey_flags cfg _ k).trans hpf)⟩

/-- the user's own key event applied to a buffer -/
def userStep (b : Buf) : ZEv → Buf
  | .press k => b.step (.down k)
  | .release k => b.step (.up k)
  | .tick => b

theorem tracked_cases (k : Nat) :
    k = KEY_LEFTSHIFT ∨ k = KEY_RIGHTSHIFT ∨ k = KEY_RIGHTALT ∨ NotTracked k := by
  by_cases h1 : k = KEY_LEFTSHIFT
  · exact Or.inl h1
  · by_cases h2 : k = KEY_RIGHTSHIFT
    · exact Or.inr (Or.inl h2)
    · by_cases h3 : k = KEY_RIGHTALT
      · exact Or.inr (Or.inr (Or.inl h3))
      · exact Or.inr (Or.inr (Or.inr ⟨h1, h2, h3⟩))

/-- One press: the flags follow the user's modifiers and the OS-level modifiers follow the flags. -/
theorem press_mods (cfg : Cfg) (s : Zchd) (k : Nat) (b : Buf)
    (hne : ssmIsEmpty (levelSsm cfg.dict []) = false) (hok : OutsOK cfg.dict) (hm : ModsAgree s b) :
    ModsAgree (zchPressKey cfg s k).1 (b.run (zchPressKey cfg s k).2) ∧
    modsOf (b.run (zchPressKey cfg s k).2) = modsOf (b.step (.down k)) := by
  rcases tracked_cases k with rfl | rfl | rfl | h
  · rw [zchPressKey_lsft s hne]; exact ⟨⟨rfl, hm.2.1, hm.2.2⟩, rfl⟩
  · rw [zchPressKey_rsft s hne]; exact ⟨⟨hm.1, rfl, hm.2.2⟩, rfl⟩
  · rw [zchPressKey_ralt s hne]; exact ⟨⟨hm.1, hm.2.1, rfl⟩, rfl⟩
  · obtain ⟨h1, h2⟩ := press_other_mods cfg s k b hok h hm
    refine ⟨h1, ?_⟩
    rw [(modsAgree_iff _ _).mp h1, h2, mods_step_down b k h, (modsAgree_iff _ _).mp hm]

theorem release_mods (cfg : Cfg) (s : Zchd) (k : Nat) (b : Buf)
    (hne : ssmIsEmpty (levelSsm cfg.dict []) = false) (hm : ModsAgree s b) :
    ModsAgree (zchReleaseKey cfg s k).1 (b.run (zchReleaseKey cfg s k).2) ∧
    modsOf (b.run (zchReleaseKey cfg s k).2) = modsOf (b.step (.up k)) := by
  rcases tracked_cases k with rfl | rfl | rfl | h
  · rw [zchReleaseKey_lsft s hne]; exact ⟨⟨rfl, hm.2.1, hm.2.2⟩, rfl⟩
  · rw [zchReleaseKey_rsft s hne]; exact ⟨⟨hm.1, rfl, hm.2.2⟩, rfl⟩
  · rw [zchReleaseKey_ralt s hne]; exact ⟨⟨hm.1, hm.2.1, rfl⟩, rfl⟩
  · have hrel : flagsOf ((s.stateChange cfg).releaseKey k) = flagsOf s := by
      unfold Zchd.releaseKey Zchd.stateChange
      simp only
      split <;> try rfl
      split <;> rfl
    rw [zchReleaseKey_other s h.1 h.2.1 h.2.2 hne]
    refine ⟨?_, rfl⟩
    rw [modsAgree_iff] at hm ⊢
    rw [run_cons, run_nil, mods_step_up b k h, hm]
    split
    · rfl
    · exact hrel.symm

theorem tickCore_flags (s : Zchd) :
    flagsOf s.tickCore = flagsOf s ∧ s.tickCore.ticksSinceStateChange ≤ s.ticksSinceStateChange := by
  unfold Zchd.tickCore
  split
  · dsimp only; split <;> exact ⟨rfl, Nat.le_refl _⟩
  · split
    · dsimp only; split
      · exact ⟨rfl, Nat.zero_le _⟩
      · exact ⟨rfl, Nat.le_refl _⟩
    · exact ⟨rfl, Nat.le_refl _⟩
  · exact ⟨rfl, Nat.le_refl _⟩

/-- A tick that does not trigger the forced reset keeps the flags. -/
theorem tick_flags (s : Zchd) (c : Bool) (h : s.ticksSinceStateChange < TICKS_UNTIL_FORCE_STATE_RESET) :
    flagsOf (s.tick c) = flagsOf s := by
  obtain ⟨h2, h1⟩ := tickCore_flags { s with ticksSinceStateChange := s.ticksSinceStateChange + 1, capsWord := c }
  rw [Zchd.tick, if_neg (Nat.not_lt.mpr (Nat.le_trans h1 h))]
  exact h2

/-- Idling while enabled with no deadline running only advances the state-change timer. -/
theorem tick_idle (s : Zchd) (hen : s.enabledState = .enabled) (htud : s.ticksUntilDisable = 0)
    (hc : s.capsWord = false) (h : s.ticksSinceStateChange < TICKS_UNTIL_FORCE_STATE_RESET) :
    s.tick false = { s with ticksSinceStateChange := s.ticksSinceStateChange + 1 } := by
  rw [tick_enabled s false hen h (by omega), ← hc, htud]

end KVerif.Zippy
