/-
C06 helper lemmas: one `tick` of the layout model on a *calm* state — nothing waiting, no
sequence, no queued action; one-shot keys may be active — stage by stage (`tickPre`, `tickOneshot`,
`tickMain`), and the release of deferred one-shot keys.
-/
import KVerif.Lemmas.OneShot
namespace KVerif.C06
open KVerif.L

/-- no tap-hold / tap-dance / chord is pending, no macro runs, no action is queued, and every state
is a plain key or a held layer.  (Preserved by every step on the C06 fragment: `tickPre_calm`, `tick_calm`, `Inv.input`, `Inv.step`.) -/
structure Calm (s : Layout) : Prop where
  waiting : s.waiting = none
  extra : s.extraWaiting = []
  tde : s.tapDanceEager = none
  aq : s.actionQueue = []
  seqs : s.activeSequences = []
  states : ∀ st ∈ s.states, StOK st
  ignore : s.oneshot.ticksToIgnoreEvents = 0

theorem Calm.of_eq {s s' : Layout} (h : Calm s)
    (h1 : s'.waiting = s.waiting) (h2 : s'.extraWaiting = s.extraWaiting)
    (h3 : s'.tapDanceEager = s.tapDanceEager) (h4 : s'.actionQueue = s.actionQueue)
    (h5 : s'.activeSequences = s.activeSequences) (h6 : ∀ st ∈ s'.states, StOK st)
    (h7 : s'.oneshot.ticksToIgnoreEvents = 0) : Calm s' :=
  ⟨h1 ▸ h.waiting, h2 ▸ h.extra, h3 ▸ h.tde, h4 ▸ h.aq, h5 ▸ h.seqs, h6, h7⟩

/-- the queue after one tick of waiting -/
def age (q : List Queued) : List Queued := q.map fun (x : Queued) => { x with since := min (x.since + 1) U16_MAX }

theorem age_map_ev (q : List Queued) : (age q).map (·.ev) = q.map (·.ev) := by
  simp [age, List.map_map, Function.comp_def]

/-- the states that survive the release of the coordinates `ks` -/
def dropCoords (ks : List Coord) (states : List St) : List St :=
  states.filter fun st => !ks.any fun k => st.coord == some k

theorem dropCoords_nil (states : List St) : dropCoords [] states = states := by
  simp [dropCoords]

theorem dropCoords_cons (k : Coord) (ks : List Coord) (states : List St) :
    dropCoords ks (states.filter fun st => st.coord != some k) = dropCoords (k :: ks) states := by
  simp only [dropCoords, List.filter_filter, List.any_cons]
  congr 1
  funext st
  cases h1 : (st.coord == some k) <;> simp [bne, h1]

theorem mem_dropCoords {ks : List Coord} {states : List St} {st : St} :
    st ∈ dropCoords ks states ↔ st ∈ states ∧ ∀ k ∈ ks, st.coord ≠ some k := by
  simp [dropCoords, List.mem_filter]

/-! ### first stage -/

theorem tickPre_calm {s : Layout} (h : Calm s) :
    tickPre s = { s with queue := age s.queue, lptTapHoldTimeout := s.lptTapHoldTimeout - 1,
                         histKeys := histTick s.histKeys, histInputs := histTick s.histInputs } := by
  unfold tickPre
  simp only [h.tde]
  simp (disch := first | exact h.seqs | exact h.states) only [C04.processSequences_inert]
  rfl

theorem tickPre_fields {s : Layout} (h : Calm s) :
    Calm (tickPre s) ∧ (tickPre s).oneshot = s.oneshot ∧ (tickPre s).states = s.states ∧
    (tickPre s).queue = age s.queue ∧ (tickPre s).cfg = s.cfg ∧ (tickPre s).defaultLayer = s.defaultLayer ∧
    (tickPre s).transV2 = s.transV2 ∧ (tickPre s).delegateToFirstLayer = s.delegateToFirstLayer := by
  rw [tickPre_calm h]
  exact ⟨h.of_eq rfl rfl rfl rfl rfl h.states h.ignore, rfl, rfl, rfl, rfl, rfl, rfl, rfl⟩

/-! ### releases -/

/-- a release dequeued while no one-shot key is active removes exactly the states of its coordinate -/
theorem dequeue_release_inactive {s : Layout} (hs : ∀ st ∈ s.states, StOK st) (hk : s.oneshot.keys = [])
    (c : Coord) (since : Nat) :
    dequeue FUEL s ⟨.release c, since⟩ =
      .ok ({ s with states := s.states.filter (fun st => st.coord != some c) }, .noEvent) := by
  rw [FUEL_succ]
  simp only [dequeue, handleRelease_inactive _ c hk, C04.releaseStates_spec c s.states hs]
  rfl

/-- the loop of `tick` over the deferred releases, once `tick_osh` has cleared the active keys:
exactly the states of those coordinates go, nothing else changes -/
theorem releaseOneshotKeys_spec : ∀ (ks : List Coord) (s : Layout), (∀ st ∈ s.states, StOK st) →
    s.oneshot.keys = [] →
    releaseOneshotKeys ks s .noEvent = .ok ({ s with states := dropCoords ks s.states }, .noEvent) := by
  intro ks
  induction ks with
  | nil => intro s _ _; simp only [releaseOneshotKeys, dropCoords_nil]
  | cons k rest ih =>
    intro s hs hk
    simp only [releaseOneshotKeys, dequeue_release_inactive hs hk]
    have hupd : CustomEv.noEvent.update .noEvent = .noEvent := rfl
    have e := ih ({ s with states := s.states.filter (fun st => st.coord != some k) } : Layout)
      (C04.stok_filter _ hs) hk
    rw [hupd, e]
    simp only [dropCoords_cons]

/-! ### second stage: `tick_osh` and the deferred releases -/

theorem tickOneshot_inactive {s : Layout} (hk : s.oneshot.keys = []) : tickOneshot s = .ok (s, .noEvent) := by
  unfold tickOneshot
  rw [tick_inactive _ hk]

theorem tickOneshot_waits {s : Layout} (hk : s.oneshot.keys ≠ []) (h1 : s.oneshot.releaseOnNextTick = false)
    (h2 : 2 ≤ s.oneshot.timeout) :
    tickOneshot s = .ok ({ s with oneshot := { s.oneshot with
        ticksToIgnoreEvents := s.oneshot.ticksToIgnoreEvents - 1, timeout := s.oneshot.timeout - 1 } }, .noEvent) := by
  unfold tickOneshot
  rw [tick_waits _ hk h1 h2]

/-- when `tick_osh` fires, every deferred release is applied in this same stage — before the main
stage looks at the input queue — and no one-shot key is active afterwards -/
theorem tickOneshot_fires {s : Layout} (hs : ∀ st ∈ s.states, StOK st) (hk : s.oneshot.keys ≠ [])
    (h : s.oneshot.releaseOnNextTick = true ∨ s.oneshot.timeout ≤ 1) :
    tickOneshot s = .ok ({ s with oneshot := OneShotState.cleared s.oneshot,
                                  states := dropCoords s.oneshot.releasedKeys s.states }, .noEvent) := by
  unfold tickOneshot
  rw [tick_fires _ hk h]
  simp only []
  rw [releaseOneshotKeys_spec s.oneshot.releasedKeys
    ({ s with oneshot := OneShotState.cleared s.oneshot } : Layout) hs rfl]

/-! ### third stage -/

theorem tickMain_paused {s : Layout} (h1 : s.waiting = none) (h2 : s.extraWaiting = [])
    (h3 : 0 < s.oneshot.pauseInputProcessingTicks) :
    tickMain s = .ok ({ s with oneshot := { s.oneshot with
        pauseInputProcessingTicks := s.oneshot.pauseInputProcessingTicks - 1 } }, .noEvent) := by
  unfold tickMain
  simp only [h1, h2, List.isEmpty_nil, if_true, h3]

theorem tickMain_pops {s : Layout} (h1 : s.waiting = none) (h2 : s.extraWaiting = [])
    (h3 : s.oneshot.pauseInputProcessingTicks = 0) (q : Queued) (rest : List Queued)
    (hq : s.queue = q :: rest) : tickMain s = dequeue FUEL (s.setQueue rest) q := by
  unfold tickMain
  simp only [h1, h2, List.isEmpty_nil, if_true, h3, Nat.lt_irrefl, if_false, hq]

theorem tickMain_empty {s : Layout} (h1 : s.waiting = none) (h2 : s.extraWaiting = [])
    (h3 : s.oneshot.pauseInputProcessingTicks = 0) (hq : s.queue = []) : tickMain s = .ok (s, .noEvent) := by
  unfold tickMain
  simp only [h1, h2, List.isEmpty_nil, if_true, h3, Nat.lt_irrefl, if_false, hq]

/-! ### the whole tick -/

/-- on a calm state `tick` is its three stages; the extra-waiting and sequence-custom stages do
nothing when the result is calm again -/
theorem tick_calm {s s1 s2 : Layout} {c1 c2 : CustomEv} (h : Calm s)
    (e1 : tickOneshot (tickPre s) = .ok (s1, c1)) (e2 : tickMain s1 = .ok (s2, c2)) (h2 : Calm s2) :
    tick s = .ok (s2, c1.update c2) := by
  unfold tick
  simp only [h.aq, e1, e2, C04.processExtraWaitings_inert h2.extra, C04.processSequenceCustom_inert h2.states]

end KVerif.C06
