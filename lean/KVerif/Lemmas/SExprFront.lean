/-
Helper lemmas and abbreviations for Props/C03.lean that are not about the lexer, the variables or the
templates: monotonicity of the "every node" predicate, what `parse` guarantees about every span it
produces, totality of the repaired Debug printer.
-/
import KVerif.Lemmas.SExprParse
import KVerif.Lemmas.SExprExcept
import KVerif.Lemmas.SExprVars
namespace KVerif.SExpr

theorem SExpr.All.imp_both {P Q : Option (List Nat) → Span → Prop} (h : ∀ t sp, P t sp → Q t sp) :
    (∀ e : SExpr, e.All P → e.All Q) ∧ (∀ xs : List SExpr, SExpr.AllL P xs → SExpr.AllL Q xs) :=
  SExpr.induction (fun _ _ he => h _ _ he) (fun _ _ ih he => ⟨h _ _ he.1, ih he.2⟩) (fun _ => trivial)
    fun _ _ ihx ihr he => ⟨ihx he.1, ihr he.2⟩

theorem SExpr.All.imp {P Q : Option (List Nat) → Span → Prop} (h : ∀ t sp, P t sp → Q t sp) :
    ∀ e : SExpr, e.All P → e.All Q :=
  (SExpr.All.imp_both h).1

theorem SExpr.AllL.imp {P Q : Option (List Nat) → Span → Prop} (h : ∀ t sp, P t sp → Q t sp) :
    ∀ xs : List SExpr, SExpr.AllL P xs → SExpr.AllL Q xs :=
  (SExpr.All.imp_both h).2

theorem ParsePost.spans {fx : Fixes} {s : List Nat} {r} {P : Span → Prop} (h : ParsePost fx s r)
    (hP : ∀ sp, SpanOK s sp → P sp) (hE : ∀ e, r = .error e → DiagOK fx s e → P e.span) :
    match (generalizing := false) r with
    | .ok (tops, md) => (∀ t ∈ tops, P t.sp ∧ SExpr.AllL (fun _ sp => P sp) t.xs) ∧ ∀ m ∈ md, P m.span
    | .error e => P e.span := by
  match r, h with
  | .ok (tops, md), h =>
    exact ⟨fun t ht => ⟨hP _ (h.1 t ht).1, SExpr.AllL.imp (fun _ sp h => hP sp h.1) _ (h.1 t ht).2⟩,
      fun m hm => hP _ (h.2 m hm)⟩
  | .error e, h => exact hE e rfl h

theorem debug_total_both (fx : Fixes) (h : fx.debugSat = true) :
    (∀ e : SExpr, ∃ bs, e.debug fx = .ok bs) ∧ (∀ xs : List SExpr, ∃ bs, SExpr.debugList fx xs = .ok bs) := by
  refine SExpr.induction (fun t _ => ⟨t, rfl⟩) (fun xs _ ih => ?_) ⟨[], rfl⟩ fun x r ihx ihr => ?_
  · rw [SExpr.debug, h, Bool.not_true, Bool.and_false, if_neg Bool.false_ne_true]
    exact ok_bind ih fun _ => ⟨_, rfl⟩
  · cases r with
    | nil => exact ihx
    | cons y r => exact ok_bind ihx fun _ => ok_bind ihr fun _ => ⟨_, rfl⟩

theorem debug_total_aux (fx : Fixes) (h : fx.debugSat = true) : ∀ e : SExpr, ∃ bs, e.debug fx = .ok bs :=
  (debug_total_both fx h).1

theorem debugList_total_aux (fx : Fixes) (h : fx.debugSat = true) : ∀ xs : List SExpr, ∃ bs, SExpr.debugList fx xs = .ok bs :=
  (debug_total_both fx h).2

/-- single-line spans and trees, to write parse results compactly -/
def sp1 (a b : Nat) : Span := ⟨⟨a, 0, 0⟩, ⟨b, 0, 0⟩, 1⟩
def A (t : String) (a b : Nat) : SExpr := .atom (kw t) (sp1 a b)
def L (xs : List SExpr) (a b : Nat) : SExpr := .list xs (sp1 a b)

end KVerif.SExpr
